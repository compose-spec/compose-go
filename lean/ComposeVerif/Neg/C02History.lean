import ComposeVerif.Model.C02History
/-!
# C02 — the hoisted default (seed C02-7's class) makes a load depend on the loads before it

`load true`: every short-syntax entry *is* the package-level mapping.  A load whose later file refines a dependency writes
`condition: service_healthy, restart: true` into it; the next load of a plain short list reads them.
Replayed on real code by `c02.loadSeq` (the sequence `override-file refines depends_on ; every short form, alone`).
-/
namespace CV.Det.History.Neg
open CV.Det.History

def refine : In := ⟨["store"], [("store", [("condition", "service_healthy"), ("restart", "true")])]⟩
def plain : In := ⟨["db", "cache"], []⟩

/-- the same load, alone and after another one: different results -/
theorem hoisted_default_history_dependent :
    runSeq (load true) dfltLit [refine] plain ≠ runSeq (load true) dfltLit [] plain := by decide +kernel

/-- what it gives: after `refine`, `plain`'s dependencies wait for health and restart -/
theorem hoisted_default_after :
    runSeq (load true) dfltLit [refine] plain =
      [("db", [("condition", "service_healthy"), ("required", "true"), ("restart", "true")]),
       ("cache", [("condition", "service_healthy"), ("required", "true"), ("restart", "true")])] := by decide +kernel

/-- … and within one load, a sibling dependency that was never refined takes the refinement too -/
theorem hoisted_default_leaks_to_sibling :
    (load true dfltLit ⟨["store", "cache"], [("store", [("condition", "service_healthy")])]⟩).2 =
      [("store", [("condition", "service_healthy"), ("required", "true")]),
       ("cache", [("condition", "service_healthy"), ("required", "true")])] := by decide +kernel

/-- the code as it is, on the same sequence: the history does not show -/
theorem actual_same_sequence :
    runSeq (load false) dfltLit [refine] plain = runSeq (load false) dfltLit [] plain := by decide +kernel

end CV.Det.History.Neg
