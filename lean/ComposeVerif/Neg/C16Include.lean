import ComposeVerif.Model.EnvLayersSites
/-!
# C16 — a value-less `environment` entry of an *included* file depends on the YAML form it is written in  (finding)

`environment: [VAR]` and `environment: {VAR: }` are two spellings of the same entry; in the main file both take the
project environment's value (`Props/C16.load_env_precedence` for either form).  In a file included with an `env_file` (or
with a `.env` beside it) that defines `VAR` while the project environment does not, the sequence form takes the include's
value (`resolveServicesEnvironment` at the end of the included `loadYamlModel`) and the mapping form stays without value
(`Normalize` runs only on the main model, with the project environment).  Whichever of the two one takes as "the project
environment" of the included file, one of the forms contradicts "a key written without a value takes the value of the
project environment if present there".  Replayed on the real loader: `corpus/C16/include-env-file-valueless.json`,
oracle key `valueless-form-dependent:include-env-file`.
-/
namespace CV.EnvLayers.Neg
open CV.EnvLayers

/-- the two YAML forms of the same entries decode to the same `environment`, also in an included file -/
def IncludedFormIndependent : Prop :=
  ∀ (cfg : LoadCfg) (penv ifile : List (Key × Str)) (kvs : List (Key × Option Str)) (k : Key),
    lookup k (loadedEnvIncluded cfg penv ifile (.map kvs)) = lookup k (loadedEnvIncluded cfg penv ifile (YEnv.asList kvs))

def cfgI : LoadCfg := { skipNormalization := false, skipResolveEnvironment := false, discard := false }
def ifileI : List (Key × Str) := [(['V'], ['i'])]

theorem included_witness :
    lookup ['V'] (loadedEnvIncluded cfgI [] ifileI (.map [(['V'], none)])) = some none ∧
    lookup ['V'] (loadedEnvIncluded cfgI [] ifileI (YEnv.asList [(['V'], none)])) = some (some ['i']) := by decide +kernel

theorem included_form_independent_false : ¬ IncludedFormIndependent := by
  intro h
  have := h cfgI [] ifileI [(['V'], none)] ['V']
  rw [included_witness.1, included_witness.2] at this
  cases this

/-- without an include-level value for the key the two forms do agree (here: the include's file does not define it) -/
theorem included_forms_agree_example :
    lookup ['V'] (loadedEnvIncluded cfgI [(['V'], ['p'])] ifileI (.map [(['V'], none)])) =
    lookup ['V'] (loadedEnvIncluded cfgI [(['V'], ['p'])] ifileI (YEnv.asList [(['V'], none)])) := by decide +kernel

end CV.EnvLayers.Neg
