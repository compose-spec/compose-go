import ComposeVerif.Model.C11Keys
/-!
# C09 — the reload fixed point needs a unicity key that does not depend on the spelling

`Props/C09Twice.lean` (`reload_fixed_point`) assumes `key (f x) = key x`: writing an entry's defaults out does not
change its key.  `portKeyRaw` is `portIndexer` with the defaulting of an absent `protocol` dropped from the long-syntax
branch (`%v` of `value["protocol"]`).  The same port in short syntax (as `transformPorts` canonicalises it) and in long
syntax without `protocol` is then kept twice by the first load, and collapsed by the reload of the rendering (which
carries `protocol: tcp` on both): the project and its reload differ.  The oracle stream `twice:entries:ports` replays
this input on the real code (`roundtrip:ServiceConfig.Ports:*`).
-/
namespace CV.Neg.C09Twice
open CV CV.Val CV.C11

def portKeyRaw : Val → Out String
  | .int i => .ok (toString i)
  | .map m =>
    match lookup "target" m with
    | none => .err "missingTarget"
    | some t =>
      .ok (keyOr "0.0.0.0" (lookup "host_ip" m) ++ ":" ++ fmtVO (lookup "published" m) ++ ":" ++ fmtV t ++ "/" ++
        fmtVO (lookup "protocol" m))
  | .str s => .ok s
  | _ => .ok ""

def short : Val := .map [("mode", .str "ingress"), ("target", .int 80), ("published", .str "8080"), ("protocol", .str "tcp")]
def long : Val := .map [("target", .int 80), ("published", .str "8080")]

/-- lengths of what the first load keeps and of what the reload of its rendering keeps -/
def kept (key : Val → Out String) (xs : List Val) : Option Nat :=
  match enforceSeq key xs with
  | .ok ys => some ys.length
  | _ => none

theorem key_depending_on_spelling_breaks_reload :
    kept portKeyRaw [short, long] = some 2 ∧ kept portKeyRaw ([short, long].map portDefaultsV) = some 1 ∧
    kept portKey [short, long] = some 1 ∧ kept portKey ([short, long].map portDefaultsV) = some 1 := by
  refine ⟨?_, ?_, ?_, ?_⟩ <;> rfl

end CV.Neg.C09Twice
