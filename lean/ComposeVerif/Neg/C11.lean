import ComposeVerif.Model.C11Normalize
import ComposeVerif.Lemmas.ValDecEq
/-!
# C11 — concrete witnesses

Two inputs on which `Normalize` must not panic (DESIGN §10 #2): an empty `pid:` is accepted (`null_pid_is_ok`), a link that is
not a string is an error (`bad_link_is_error`); corpus/C11/null-pid.json, bad-link.json replay them on the real code.  The one
negative fact is that the hypothesis of `normalize_idem` about the environment is needed (`normalize_idem_needs_env`).
-/
namespace CV.C11
open CV CV.Val

def nullPidDoc : KVs :=
  [("name", .str "proj"), ("services", .map [("a", .map [("image", .str "i"), ("pid", .null)])])]

def badLinkDoc : KVs :=
  [("name", .str "proj"), ("services", .map [("a", .map [("links", .seq [.int 1])])])]

def isErr : Out KVs → Bool
  | .err _ => true
  | _ => false

def isOk : Out KVs → Bool
  | .ok _ => true
  | _ => false

theorem null_pid_is_ok : isOk (normalize pathClean [] nullPidDoc) = true := by decide +kernel

/-- a shape the schema would have rejected is an error, not a panic -/
theorem bad_link_is_error : isErr (normalize pathClean [] badLinkDoc) = true := by decide +kernel

def argsOfA (d : KVs) : Option Val :=
  match lookup "services" d with
  | some (.map s) =>
    match lookup "a" s with
    | some (.map a) =>
      match lookup "build" a with
      | some (.map b) => lookup "args" b
      | _ => none
    | _ => none
  | _ => none

/-- the idempotence of `Normalize` needs the environment to have no variable with an empty name: with one,
a bare-string `build.args` that is not set resolves to `""` first and to `=<value>` the second time
(not schema-valid input; recorded because `normalize_idem` carries the hypothesis) -/
theorem normalize_idem_needs_env :
    ∃ env d, normalizePure pathClean env (normalizePure pathClean env d) ≠ normalizePure pathClean env d := by
  refine ⟨[("", "anon")], [("services", .map [("a", .map [("build", .map [("args", .str "UNSET")])])])], fun h => ?_⟩
  -- the first pass leaves `args: ""`, the second resolves the empty name: `args: "=anon"`
  exact absurd (congrArg argsOfA h) (by decide +kernel)

end CV.C11
