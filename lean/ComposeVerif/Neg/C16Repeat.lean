import ComposeVerif.Model.EnvLayersUnicity
import ComposeVerif.Spec.EnvLayers
/-!
# C16 — an `env_file` path listed twice loses its second position in a whole load  (finding)

"A service's final environment is its env_file entries in order (a later file overriding an earlier one)".
`env_file: [a, b, a]` is loaded as `[a, b]`: `override.EnforceUnicity` keeps the first position of a path
(`Model/EnvLayersUnicity.lean`, `uniqBy`).  A key of both files ends with `b`'s value; the written order says `a`'s.
The same list given to the Project method directly, and the same list as `label_file`, follow the written order.
Replayed on the real loader: `corpus/C16/repeated-env-file-path.json` (model = real), oracle key
`repeated-path-first-position:env_file`.
-/
namespace CV.EnvLayers.Neg
open CV.EnvLayers CV.EnvLayers.Spec

def fa : List Line := [.assign ['K'] [.lit ['a']]]
def fb : List Line := [.assign ['K'] [.lit ['b']]]

def fsR : FS := { node := fun p => if p = ['a'] then some (.file fa) else if p = ['b'] then some (.file fb) else none }

def cfgR : LoadCfg := { skipNormalization := false, skipResolveEnvironment := false, discard := false }

/-- `env_file: [a, b, a]`, `label_file: [a, b, a]` -/
def svcR : YService :=
  { yenv := .absent, ylabels := .absent,
    svc := { environment := [], envFiles := [⟨['a'], true, []⟩, ⟨['b'], true, []⟩, ⟨['a'], true, []⟩],
             labels := [], labelFiles := [['a'], ['b'], ['a']] } }

/-- the written-order clause through a whole load (all files present, no `environment`): the final value of every key
    of every service is `finalEnv` of the contents of its env files in the order they are written -/
def WrittenOrderThroughLoad : Prop :=
  ∀ (cfg : LoadCfg) (fs : FS) (n : Str) (y : YService) (contents : List (List Line)) (out : List (Str × Service)) (s : Service),
    y.yenv = .absent →
    y.svc.envFiles.map (fun f => fs.node f.path) = contents.map (fun ls => some (.file ls)) →
    loadProjectYU cfg [] fs [(n, y)] = .ok out → lookup n out = some s →
    ∀ k, lookup k s.environment = finalEnv [] contents [] k

theorem repeated_witness :
    (∃ s, loadProjectYU cfgR [] fsR [(['s'], svcR)] = .ok [(['s'], s)] ∧
          lookup ['K'] s.environment = some (some ['b']) ∧
          s.envFiles = [⟨['a'], true, []⟩, ⟨['b'], true, []⟩] ∧
          -- the label_file list is not de-duplicated: written order
          lookup ['K'] s.labels = some ['a'] ∧ s.labelFiles = [['a'], ['b'], ['a']]) ∧
    finalEnv [] [fa, fb, fa] [] ['K'] = some (some ['a']) := by
  refine ⟨⟨_, rfl, ?_, ?_, ?_, ?_⟩, ?_⟩ <;> decide

theorem repeated_env_file_written_order_false : ¬ WrittenOrderThroughLoad := by
  intro h
  obtain ⟨⟨s, hl, hk, _⟩, hf⟩ := repeated_witness
  have := h cfgR fsR ['s'] svcR [fa, fb, fa] _ s rfl rfl hl (by simp [lookup]) ['K']
  rw [hk, hf] at this
  cases this

/-- the Project method itself follows the written order: the same list, not passed through the loader -/
theorem repeated_direct_follows_written_order :
    (resolveServiceEnv [] fsR false svcR.svc).map (fun s => lookup ['K'] s.environment) = .ok (some (some ['a'])) := by
  rfl

end CV.EnvLayers.Neg
