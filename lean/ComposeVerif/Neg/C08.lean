import ComposeVerif.Model.InterpCustom
import ComposeVerif.Model.InterpFloat
/-!
# C08 — statements the tree falsified before the repair `fix: integer and float interpolation casts read numbers
# like YAML does` (pre-fix behaviour = `parseIntDecimal`, i.e. `strconv.Atoi` / `ParseInt(_, 10, 64)`)

The corpus cases `corpus/C08/yaml-*.json` replay these spellings on the real code on every run: they pass
(`fixed:` lines in findings/C08.txt); the positive theorem is `Props/C08.lean: literal_eq_variable_int`.
-/
namespace CV.Interp

/-- with the decimal casters "a variable gives the value of the plain literal" failed for the YAML 1.1 octal
    spelling: the literal `0440` is 288 for yaml.v3, `strconv.Atoi` made it 440 -/
theorem decimal_casters_literal_eq_variable_false :
    ¬ (∀ s i, yamlInt s = some i → parseIntDecimal (String.toList s) = some i) := by
  intro h
  have := h "0440" 288 (by decide +kernel)
  revert this
  decide +kernel

/-- … and the other YAML integer spellings were rejected outright -/
theorem decimal_casters_reject_yaml_ints :
    parseIntDecimal "0x10".toList = none ∧ parseIntDecimal "0o17".toList = none ∧
    parseIntDecimal "0b11".toList = none ∧ parseIntDecimal "1_000".toList = none := by decide +kernel

/-- the float casters before the repair 016771b (`strconv.ParseInt(plain, 0, 64)` first, not `ParseYAMLInt`): yaml.v3 reads
    the plain literal `0b+1` as the integer 1 (its sign-after-prefix quirk, `yamlInt`), `toInt` read it already, but
    `toFloat` went on to `strconv.ParseFloat`, which rejects it — `cpu_percent: 0b+1` loaded, `${V}` with `0b+1` was a cast
    error.  Repaired by 016771b (`Props/C08Float.lean: literal_eq_variable_float`); replayed by corpus/C08/float-prefix-sign.json -/
theorem float_casters_literal_eq_variable_false_before_repair :
    ¬ (∀ (parse : String → Option String) (ofInt : Int → String) (s : String) (i : Int),
        yamlInt s = some i → parseYAMLFloatOld parse ofInt s = some (ofInt i)) := by
  intro h
  have := h (fun _ => none) (fun i => ToString.toString i) "0b+1" 1 (by decide +kernel)
  revert this
  decide +kernel

/-! ## still falsified by the tree: the self-decoding numeric types (recorded findings `typed:*:{devicecount,bytes}`; `nanocpus` repaired: `Props/C08.lean: nanocpus_reads_like_toFloat`)

Replayed on the real code by `corpus/C08/custom-*.json`. -/

/-- `gpus[].count: 0440` is 288 as a YAML literal; through a variable `DeviceCount.DecodeMapstructure` reads 440;
    `0x10` (16 as a literal) is rejected -/
theorem devicecount_literal_eq_variable_false : ¬ (∀ s i, yamlInt s = some i → decodeDeviceCount s = some i) := by
  intro h
  have := h "0440" 288 (by decide +kernel)
  revert this
  decide +kernel

theorem devicecount_rejects_yaml_ints :
    decodeDeviceCount "0x10" = none ∧ decodeDeviceCount "0o17" = none ∧ decodeDeviceCount "0b11" = none ∧
    decodeDeviceCount "1_000" = none := by decide +kernel

/-- byte sizes: the literal `010` is 8 (`yamlInt`), `UnitBytes.DecodeMapstructure` makes 10 of the variable
    (`-1`, unlimited swap, is read back exactly since C09's repair 45cce70) -/
theorem unitbytes_literal_eq_variable_false :
    yamlInt "010" = some 8 ∧ unitBytesClass "010" = ("ok", "10") ∧
    yamlInt "-1" = some (-1) ∧ unitBytesClass "-1" = ("ok", "-1") := by
  refine ⟨by decide +kernel, by decide +kernel, by decide +kernel, by decide +kernel⟩

end CV.Interp
