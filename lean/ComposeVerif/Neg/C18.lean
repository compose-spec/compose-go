import ComposeVerif.Model.Dotenv
/-!
# C18 — statements the unchanged tree falsifies

"An invalid key is an error", read at full strength, includes the empty key.  The code
accepts `=x` (and ` : x`, `export =x`) and defines the variable `""`; the package's own
test suite pins this (`parseAndCompare(t, `="value"`, "", "value")`), so it is recorded
as finding `invalid-key:empty-accepted` instead of being repaired.  The provable
statement is `invalid_key_err_partial` in `Props/C18.lean` (key text with a character
outside the key alphabet) together with `key_with_space_err`.
-/
namespace CV.Dotenv
open CV CV.Template

/-- full-strength reading: a one-word key text that is not a non-empty word over the key alphabet is rejected -/
def InvalidKeyIsError : Prop :=
  ∀ (k rest : Str) (lookup : Env),
    (!k.isEmpty && k.all isKeyRune) = false →
    k.all (fun c => c != '=' && c != ':' && c != '\n' && c != '#' && !isSpaceU c) = true →
    ∃ e m, parse (k ++ '=' :: rest) lookup = .err e m

/-- witness (replayed on the real code by corpus/C18/empty-key.json): `=x` parses to `{"": "x"}` -/
theorem empty_key_accepted : parse ['=', 'x'] (fun _ => none) = .ok [([], ['x'])] := by decide +kernel

/-- the same after `export` -/
theorem empty_key_accepted_export :
    parse ['e', 'x', 'p', 'o', 'r', 't', ' ', '=', 'x'] (fun _ => none) = .ok [([], ['x'])] := by decide +kernel

theorem invalid_key_is_error_false : ¬ InvalidKeyIsError := by
  intro h
  obtain ⟨e, m, hp⟩ := h [] ['x'] (fun _ => none) (by decide) (by decide)
  rw [List.nil_append, empty_key_accepted] at hp
  cases hp

end CV.Dotenv
