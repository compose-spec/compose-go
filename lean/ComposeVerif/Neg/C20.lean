import ComposeVerif.Lemmas.SecretsRender
/-!
# C20 — `render_default_clean` was false before the `fix:` of `leak:config:empty-variable-name`

Witness: a config declared with `environment: ""` while the environment has a variable with the empty
name (a `.env` line `=value` defines one).  Before the fix `resolveConfigsEnvironment` copied the value into
`content`; `ConfigObjConfig.MarshalYAML/JSON` blank `Content` only `if s.Environment != ""`, so the value was
rendered.  The fix makes both resolvers skip an empty variable name.  `resolveObjPre` below is the pre-fix
resolver; the current model on the same witness is clean.  The input is kept in
`corpus/C20/config-empty-variable-name.json` (a regression case; oracle key `leak:config:empty-variable-name`).
-/
namespace CV.Secrets.Neg
open CV CV.Secrets
open CV.Val hiding lookup_insert_self lookup_insert_ne

def canary : List Char := "CANARY".toList

/-- `resolve*Environment` before the fix: no test of the variable name -/
def resolveObjPre (carrier : String) (env : Env) : Val → Val
  | .map kvs =>
    match lookup "environment" kvs with
    | some (.str e) =>
      match env.lookup e with
      | some found => .map (insert carrier (.str found) kvs)
      | none => .map kvs
    | _ => .map kvs
  | v => v

def resolveObjsPre (carrier : String) (env : Env) : KVs → KVs
  | [] => []
  | (n, cfg) :: r => (n, resolveObjPre carrier env cfg) :: resolveObjsPre carrier env r

def loadSectionPre (isSecret : Bool) (env : Env) (pname : String) (dict : KVs) : Out (List (String × FileObj)) :=
  match lookup (if isSecret then "secrets" else "configs") dict with
  | none => .ok []
  | some (.map objs) =>
    (setNameObjs pname (resolveObjsPre (if isSecret then xValue else "content") env objs)).bind fun objs2 =>
      decodeObjs (if isSecret then decodeSecret else decodeConfig)
        (pxKVs [if isSecret then "secrets" else "configs"] true objs2)
  | some _ => .err "setNameFromKey"

def loadPre (env : Env) (pname : String) (dict : KVs) : Out Proj :=
  (loadSectionPre true env pname dict).bind fun ss =>
  (loadSectionPre false env pname dict).bind fun cs =>
  .ok { secrets := ss, configs := cs }

/-- the two resolvers differ only on the empty name -/
theorem resolveObjPre_eq (c : String) (env : Env) (v : Val)
    (h : ∀ kvs, v = .map kvs → lookup "environment" kvs ≠ some (.str "")) : resolveObjPre c env v = resolveObj c env v := by
  cases v with
  | map kvs =>
    have hk := h kvs rfl
    simp only [resolveObjPre, resolveObj]
    cases hl : lookup "environment" kvs with
    | none => rfl
    | some x =>
      cases x with
      | str e =>
        have : e ≠ "" := fun h0 => hk (h0 ▸ hl)
        simp only [if_neg this]
        cases List.lookup e env <;> rfl
      | _ => rfl
  | _ => rfl

/-- the raw model: one service, one config whose source variable is the empty name -/
def wDict : KVs :=
  [("services", .map [("app", .map [("image", .str "img")])]),
   ("configs", .map [("c1", .map [("environment", .str "")])])]

/-- an environment that has a variable with the empty name (a `.env` line `=CANARY` produces it) -/
def wEnv : Env := [("", "CANARY")]

def wProj : Proj := { secrets := [], configs := [("c1", { name := "proj_c1", content := "CANARY" })] }

theorem w_loads_prefix : loadPre wEnv "proj" wDict = .ok wProj := by decide +kernel

theorem w_model_clean : Clean canary (.map wDict) := by decide +kernel

theorem w_vocab : VocabOk (fun s => ¬ occurs canary s) := VocabOk_of_foreign_char (ch := 'A') (by decide) (by decide)

theorem w_names_secrets : GenNamesOk (fun s => ¬ occurs canary s) "proj" "secrets" wDict := by
  intro objs h; simp [wDict, lookup] at h

theorem w_names_configs : GenNamesOk (fun s => ¬ occurs canary s) "proj" "configs" wDict := by
  intro objs h
  simp only [wDict, lookup] at h
  simp at h
  subst h
  decide

/-- the canary — the value of the source variable, which occurs nowhere in the model — was rendered -/
theorem w_leaks_yaml : ¬ Clean canary (render .yaml false wProj) := by decide +kernel
theorem w_leaks_json : ¬ Clean canary (render .json false wProj) := by decide +kernel

/-- **negation of `render_default_clean` for the pre-fix pipeline** -/
theorem render_default_clean_fails_prefix :
    ¬ (∀ (c : List Char), VocabOk (fun s => ¬ occurs c s) →
        ∀ (env : Env) (pname : String) (dict : KVs), Clean c (.map dict) →
          GenNamesOk (fun s => ¬ occurs c s) pname "secrets" dict → GenNamesOk (fun s => ¬ occurs c s) pname "configs" dict →
          ∀ (p : Proj), loadPre env pname dict = .ok p → ∀ r, Clean c (render r false p)) :=
  fun H => w_leaks_yaml (H canary w_vocab wEnv "proj" wDict w_model_clean w_names_secrets w_names_configs wProj w_loads_prefix .yaml)

/-- the witness is exactly a model that names the empty variable -/
theorem w_violates_NoEmptySource : ¬ NoEmptySource wDict := by
  intro h
  exact h [("c1", .map [("environment", .str "")])] rfl ("c1", .map [("environment", .str "")]) (by simp) _ rfl rfl

/-- with the test of the variable name in the resolvers the same model loads without the value and renders cleanly -/
theorem w_loads_fixed : load wEnv "proj" wDict = .ok { secrets := [], configs := [("c1", { name := "proj_c1" })] } := by decide +kernel
theorem w_clean_fixed : Clean canary (render .yaml false { secrets := [], configs := [("c1", { name := "proj_c1" })] }) ∧
    Clean canary (render .json false { secrets := [], configs := [("c1", { name := "proj_c1" })] }) := by decide +kernel

/-- under a named variable the value is on the project and the default rendering is clean -/
example : load [("V", "CANARY")] "proj" [("configs", .map [("c1", .map [("environment", .str "V")])])] =
    .ok { secrets := [], configs := [("c1", { name := "proj_c1", environment := "V", content := "CANARY" })] } := by decide +kernel
example : Clean canary (render .yaml false { secrets := [], configs := [("c1", { name := "proj_c1", environment := "V", content := "CANARY" })] }) := by decide +kernel

end CV.Secrets.Neg
