import ComposeVerif.Model.Trav
/-!
# C19 (traversal clause) — why the errgroup needs `maxConcurrency + 1` slots

`graph.walk` gives the errgroup `maxConcurrency + 1` slots because the coordinator goroutine occupies one for the whole
walk; the model's `slotFree (some l)` is `sem < l + 1`.  With only `l` slots (`eg.SetLimit(t.maxConcurrency)`, i.e. the
model run with `some (l - 1)`), `WithMaxConcurrency(1)` leaves no slot for any visitor: the walk of a one-service
project deadlocks before the first visit, and cancelling the caller's context does not free it.  This is the concrete witness behind the hypothesis `1 ≤ n` of
`CV.Trav.deadlock_free` / `CV.C19.traversal_deadlock_free`, replayed on the real code by the `travLive` check
(key `traversal:deadlock:limit=1` on a tree with that change).
-/
namespace CV.Trav

def oneVertex : Graph := { verts := [0], pre := fun _ => [], post := fun _ => [], skip := fun _ => false }

/-- the caller has claimed the only service and waits for a slot; the coordinator waits for a result; even the owner of
    the context has given up (`extCancel`): the coordinator then waits for the caller to leave its spawn loop -/
def stuck : St :=
  { init oneVertex with status := setStatus (fun _ => .absent) 0 .entered, m := some ⟨[], .spawn 0⟩,
                        cancelled := true, extCancelled := true }

theorem no_visitor_slot_deadlocks :
    runL oneVertex (some 0) (init oneVertex) [.schedNext .M 0, .ready .M, .enter .M, .extCancel] = some stuck ∧
    ¬ terminal stuck ∧ ∀ l, step? oneVertex (some 0) stuck l = none := by
  refine ⟨rfl, by decide, fun l => ?_⟩
  cases l <;> first
    | rfl
    | (rename_i w; cases w <;> rfl)
    | (rename_i w v; cases w <;> rfl)

end CV.Trav
