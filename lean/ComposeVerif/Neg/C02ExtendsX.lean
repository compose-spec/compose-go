import ComposeVerif.Lemmas.C02Fixtures
/-!
# C02 — proved negation: deleting `extends` from the raw definition before the merge (seeds C02-3 / C02-6)

`a` extends its sibling `b`; `b` extends service `x` of another file.  With `delete(service, "extends")` moved in front
of the merge (`applyOneXSeed`), visiting `a` first leaves `b`'s raw definition in the main map *without* its reference
(the merged `b` was memoised into the other file's map, which is dropped): when the loop reaches `b` there is nothing
left to extend and `b` loses everything it inherits.  Visiting `b` first is fine.  The code as it is (`applyOneX`) gives
the same services in both orders (`Props/C02ExtendsX.lean`); the witness is replayed on the real code by the
`c02.extendsX` stream (every visit order of every generated map) and `corpus/C02/extendsx-sibling-through-file.json`.
-/
namespace CV.Det.Neg.ExtX
open CV CV.Det CV.Det.ExtX

/-- the code as it is: both orders give `b = from-x + own-b`, `a = from-x + own-b + own-a` -/
theorem actual_both_orders :
    applyAllX mrg files 3 ["a", "b"] main = some [("a", (.none, ["from-x", "own-b", "own-a"])), ("b", (.none, ["from-x", "own-b"]))] ∧
    applyAllX mrg files 3 ["b", "a"] main = some [("a", (.none, ["from-x", "own-b", "own-a"])), ("b", (.none, ["from-x", "own-b"]))] := by
  decide +kernel

/-- **the seeded variant depends on the visit order**: `b` keeps what it inherits only when it is visited first -/
theorem seed_order_dependent :
    applyAllXSeed mrg files 3 ["a", "b"] main = some [("a", (.none, ["from-x", "own-b", "own-a"])), ("b", (.none, ["own-b"]))] ∧
    applyAllXSeed mrg files 3 ["b", "a"] main = some [("a", (.none, ["from-x", "own-b", "own-a"])), ("b", (.none, ["from-x", "own-b"]))] := by
  decide +kernel

end CV.Det.Neg.ExtX
