import ComposeVerif.Lemmas.Select
/-!
# C15 — four statements that are false, each with its witness

* `SelectPermInvariant`: order independence of the `DisabledServices` half of `WithSelectedServices` **as it was before the
  `fix:` commit** (model `withSelectedServicesPre`; the repaired function is proved order independent, `select_perm`);
* `WalkPermInvariant`: order independence of the walk without `NamesOK` (two services carrying the same `Name`);
* `DepsFirst`: "every dependency is called before the service that needs it" without acyclicity;
* `GetProfilesPermInvariant`: the raw slice of `Services.GetProfiles` as a function of the map.

## the loop of `WithSelectedServices` before the fix

Pre-fix, `WithSelectedServices` was **not** a function of its receiver and arguments: the `DisabledServices` half of its
result depended on the iteration order of the service map (DESIGN §10 #11).  Witness: services `a → b` (a depends
on b) and `c`; select `c`.  Ranging `a, b, c` moves `a` to the disabled set with its edge to `b`; ranging
`b, a, c` removes `b` from `a.depends_on` first.  Replayed on the real code by
`corpus/C15/select-order-dependent-disabled-deps.json` (oracle key
`nondeterministic:types.Project.WithSelectedServices:disabled.depends_on`).
-/
namespace CV.Sel.Neg

def svc (name : String) (deps : AL Dep) : Svc :=
  { name := name, image := "i", profiles := [], deps := deps, nets := [], vols := [], secrets := [], build := none, configs := [] }

def a : String × Svc := ("a", svc "a" [("b", ⟨true, "service_started"⟩)])
def b : String × Svc := ("b", svc "b" [])
def c : String × Svc := ("c", svc "c" [])

def mk (services : AL Svc) : Proj :=
  { services := services, disabled := [], profiles := [], networks := [], volumes := [], secrets := [], configs := [] }

/-- order independence (`select_perm`) for the pre-fix `WithSelectedServices` at full strength: the same project (service map listed in another order)
and the same arguments give the same disabled services -/
def SelectPermInvariant : Prop :=
  ∀ (p p' : Proj) (names : List String) (pol : Policy) (q q' : Proj),
    Partition p → SvcWF p → p.services.Perm p'.services → p.disabled = p'.disabled →
    withSelectedServicesPre p names pol = .ok q → withSelectedServicesPre p' names pol = .ok q' →
    ∀ k, lookup k q.disabled = lookup k q'.disabled

theorem perm_witness : (mk [a, b, c]).services.Perm (mk [b, a, c]).services := List.Perm.swap _ _ _

/-- the disabled half of `WithSelectedServices` depends on the iteration order of the service map -/
theorem select_not_perm_invariant : ¬SelectPermInvariant := by
  intro h
  have := h (mk [a, b, c]) (mk [b, a, c]) ["c"] .deps
    (selectResultPre (mk [a, b, c]) ["c"]) (selectResultPre (mk [b, a, c]) ["c"])
    (by decide +kernel) (by decide +kernel) perm_witness rfl (by decide +kernel) (by decide +kernel) "a"
  revert this
  decide +kernel

/-- what the two orders return for the disabled service `a` -/
example : (lookup "a" (selectResultPre (mk [a, b, c]) ["c"]).disabled).map (fun s => keys s.deps) = some ["b"] := by decide +kernel
example : (lookup "a" (selectResultPre (mk [b, a, c]) ["c"]).disabled).map (fun s => keys s.deps) = some [] := by decide +kernel

/-! ## colliding service `Name`s (outside `Good`: no load produces them)

`dependentsForService` files every dependent under its `Name`.  When two enabled services carry the same `Name`
and that name is not a map key, the entry that survives in the `dependencies` map is the one written last, i.e. it
depends on the iteration order — and with it the `required` flag that decides between "no such service" and
skipping.  Witness: `db`; `x` and `y` both named `ghost`, `x → db` required, `y → db` optional; select `db` with its
dependents.  Replayed on the real code by `corpus/C15/colliding-names-dependents.json`
(oracle key `nondeterministic:types.Project.WithSelectedServices:error-or-not:colliding-names`, a recorded finding).
The theorems of `Props/C15.lean` exclude such projects through `NamesOK`; `dependents_keys_perm` shows that the *keys*
of the map never depend on the order. -/

def db : String × Svc := ("db", svc "db" [])
def x : String × Svc := ("x", svc "ghost" [("db", ⟨true, "service_started"⟩)])
def y : String × Svc := ("y", svc "ghost" [("db", ⟨false, "service_started"⟩)])

/-- the walk at full strength, without the `NamesOK` hypothesis: same services in another order, same outcome -/
def WalkPermInvariant : Prop :=
  ∀ (p p' : Proj) (names : List String) (pol : Policy),
    Partition p → SvcWF p → p.services.Perm p'.services → p.disabled = p'.disabled →
    forEachService p names pol = forEachService p' names pol

theorem colliding_witness : (mk [db, x, y]).services.Perm (mk [db, y, x]).services :=
  List.Perm.cons _ (List.Perm.swap _ _ _)

/-- with colliding `Name`s the outcome of the dependents walk depends on the iteration order -/
theorem walk_not_perm_invariant_with_colliding_names : ¬WalkPermInvariant := by
  intro h
  have := h (mk [db, x, y]) (mk [db, y, x]) ["db"] .dependents (by decide +kernel) (by decide +kernel) colliding_witness rfl
  revert this
  decide +kernel

example : forEachService (mk [db, x, y]) ["db"] .dependents = .ok ["db"] := by decide +kernel
example : forEachService (mk [db, y, x]) ["db"] .dependents = .noSuchService := by decide +kernel

/-! ## the callback order of `ForEachService` on a dependency cycle

"every dependency is called before the service that needs it" holds on acyclic graphs
(`Props/C15.lean forEach_dependencies_first`); at full strength — for every project — it is false: on the cycle
`a → b → a`, `ForEachService(["a"])` marks `a`, walks to `b`, finds `a` already marked and calls `fn(b)` then `fn(a)`,
so `b`'s dependency `a` comes after it.  The loader rejects dependency cycles (`graph.CheckCycle`), a hand-built
project can have one; the real code behaves as the model (corpus `foreach-cycle.json`, passing: the full-strength
clause of `ForEachSpec` excuses exactly the edges that lie on a cycle). -/

def ca : String × Svc := ("a", svc "a" [("b", ⟨true, "service_started"⟩)])
def cb : String × Svc := ("b", svc "b" [("a", ⟨true, "service_started"⟩)])

def DepsFirst : Prop :=
  ∀ (p : Proj) (names : List String) (opts : List Policy) (seen calls : List String),
    Partition p → Named p → forEachCalls p names opts = .ok seen calls →
    ∀ x ∈ calls, ∀ y, Edge p.services (policyOf opts) x y → before calls y x = true

theorem deps_first_fails_on_a_cycle : ¬DepsFirst := by
  intro h
  have := h (mk [ca, cb]) ["a"] [] ["b", "a"] ["b", "a"] (by decide +kernel) (by decide +kernel) (by decide +kernel) "b" (by decide +kernel) "a"
    ⟨cb.2, by decide +kernel, by decide +kernel, by decide +kernel⟩
  revert this
  decide +kernel

example : forEachCalls (mk [ca, cb]) ["a"] [] = .ok ["b", "a"] ["b", "a"] := by decide +kernel

/-! ## `Services.GetProfiles` is a set, not a list

The profiles are collected in a Go map and listed by ranging over it: the returned slice is in map order, so two calls
on the same `Services` value return the same profiles in different orders (observed on the real code by `c15each`:
`[p q r s t]` then `[q r s t p]`; counted in the evidence as `getprofiles-order-varies`).  This is a *reviewed* order-leak
site of property C02 (`Spec/Determinism.lean`: public helper, reached by no load and no rendering, callers get an
unordered list), not one of the operations of C15; the model therefore compares the sorted view `getProfiles`
(`Props/C15.lean getProfiles_exact`, `getProfiles_perm`).  The witness shows that the raw list is not a function of the map. -/

def GetProfilesPermInvariant : Prop :=
  ∀ (svcs svcs' : AL Svc), (keys svcs).Nodup → svcs.Perm svcs' → getProfilesPre svcs = getProfilesPre svcs'

def pa : String × Svc := ("a", { svc "a" [] with profiles := ["p", "q"] })
def pb : String × Svc := ("b", { svc "b" [] with profiles := ["r", "p"] })

theorem getProfiles_raw_order_dependent : ¬GetProfilesPermInvariant := by
  intro h
  have := h [pa, pb] [pb, pa] (by decide +kernel) (List.Perm.swap _ _ _)
  revert this
  decide +kernel

example : getProfilesPre [pa, pb] = ["p", "q", "r"] ∧ getProfilesPre [pb, pa] = ["r", "p", "q"] := by decide +kernel
example : getProfiles [pa, pb] = ["p", "q", "r"] ∧ getProfiles [pb, pa] = ["p", "q", "r"] := by decide +kernel

end CV.Sel.Neg
