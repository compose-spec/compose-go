import ComposeVerif.Model.C01Cycles
import ComposeVerif.Model.C01Reset
import ComposeVerif.Model.Unicity
import ComposeVerif.Lemmas.C01ShortOut
/-!
# C01 — proved negations, concrete witnesses

Two statements are about the functions as they were before their repair (`preResolve`, `preKvList`, kept here as definitions),
one (`resolve_output_tree_false`) about `Reset.resolve` as it is.  Each witness is in the corpus (corpus/C01/*.json), replayed by
the harness, and listed in findings/C01.txt.
-/
namespace CV.C01.Neg
open CV.C01

/-! ## alias expansion: a merge key that points at an enclosing anchor is followed forever

`checkForCycle` exempts visits "at the exact same path" and any path that contains a merge key; a `<<: *x`
inside `&x` is visited at the same (merge-stripped) path every time, so neither test ever fires. -/

section ResetWitness
open CV.C01.Reset

/-- `resolveReset` as it was before the repair (repo commit "resolveReset reports a node nested twice inside its
own expansion as a cycle"): no stack of active nodes, `checkForCycle` is the only protection -/
def preResolve : Nat → St → Nat → P → Except Err (St × Option Nat)
  | 0, _, _, _ => .error .outOfFuel
  | fuel + 1, st, n, path0 =>
    let path := normPath path0
    match st.arena[n]? with
    | none => .error .badIndex
    | some (.alias t) =>
      match checkForCycle st t path with
      | .error e => .error e
      | .ok st' => preResolve fuel st' t path
    | some node =>
      if node.tag = "!reset" then .ok ({ st with paths := st.paths ++ [path] }, none)
      else if node.tag = "!override" then .ok ({ st with paths := st.paths ++ [path] }, some n)
      else match node with
        | .seq tag items =>
          match resolveItems (preResolve fuel) path st items 0 with
          | .error e => .error e
          | .ok (st', kept) => .ok ({ st' with arena := setNode n (.seq tag kept) st'.arena }, some n)
        | .map tag entries =>
          match resolveEntries (preResolve fuel) path st entries with
          | .error e => .error e
          | .ok (st', kept) => .ok ({ st' with arena := setNode n (.map tag kept) st'.arena }, some n)
        | _ => .ok (st, some n)

def preRun (arena : List Node) (root : Nat) (fuel : Nat) : Except Err (List P) :=
  match preResolve fuel { arena := arena, visited := [], paths := [] } root [] with
  | .error e => .error e
  | .ok (st, _) => .ok st.paths

/-- `&x {<<: *x}` as an arena (the document root is the anchored mapping itself) -/
def resetWitness : List Node := [.map "" [("<<", 1)], .alias 0]

def WInv (st : St) : Prop := st.arena = resetWitness ∧ ∀ p ∈ visitedOf 0 st.visited, p = ["<<"]

theorem visitedOf_setVisited (n : Nat) (ps : List P) : ∀ v, visitedOf n (setVisited n ps v) = ps
  | [] => by simp [setVisited, visitedOf]
  | (k, qs) :: r => by
    unfold setVisited
    split
    · rename_i h; simp [visitedOf, h]
    · rename_i h; simp only [visitedOf, h, if_false]; exact visitedOf_setVisited n ps r

theorem check_ok (st : St) (h : WInv st) : ∃ st', checkForCycle st 0 ["<<"] = .ok st' ∧ WInv st' := by
  have hany : (visitedOf 0 st.visited).any (fun prev =>
      prev ≠ ["<<"] && !("<<" ∈ prev || "<<" ∈ (["<<"] : P)) &&
      (properPrefix prev ["<<"] || properPrefix ["<<"] prev) && !diffServices ["<<"] prev) = false := by
    rw [List.any_eq_false]
    intro p hp
    have := h.2 p hp
    subst this
    simp
  refine ⟨{ st with visited := setVisited 0 (visitedOf 0 st.visited ++ [["<<"]]) st.visited }, ?_, ?_⟩
  · unfold checkForCycle
    simp only [hany]
    rfl
  · refine ⟨h.1, ?_⟩
    intro p hp
    simp only [visitedOf_setVisited] at hp
    rcases List.mem_append.mp hp with h' | h'
    · exact h.2 p h'
    · simpa using h'

theorem resetWitness_loops : ∀ (fuel : Nat) (st : St), WInv st →
    preResolve fuel st 0 ["<<"] = .error .outOfFuel ∧
    ∀ p, normPath p = ["<<"] → preResolve fuel st 1 p = .error .outOfFuel
  | 0, _, _ => ⟨rfl, fun _ _ => rfl⟩
  | fuel + 1, st, h => by
    obtain ⟨ih0, ih1⟩ := resetWitness_loops fuel st h
    obtain ⟨st', hck, hinv'⟩ := check_ok st h
    obtain ⟨ih0', _⟩ := resetWitness_loops fuel st' hinv'
    refine ⟨?_, ?_⟩
    · unfold preResolve
      simp only [normPath, h.1, resetWitness, List.getElem?_cons_zero, Node.tag]
      have e1 : ¬ ("" = "!reset") := by decide
      have e2 : ¬ ("" = "!override") := by decide
      have ih1' := ih1 ["<<", "<<"] (by decide)
      simp only [e1, e2, List.not_mem_nil, ↓reduceIte, resolveEntries, List.cons_append, List.nil_append, ih1']
    · intro p hn
      unfold preResolve
      simp only [hn, h.1, resetWitness, List.getElem?_cons_succ, List.getElem?_cons_zero, hck]
      exact ih0'


/-- full-strength "alias expansion terminates" was FALSE before the repair: on `&x {<<: *x}` no amount of fuel suffices
(real code: the loader never returns; key `hang@cycle/alias-self-merge`, `hang@reset/alias-self-merge`) -/
theorem alias_resolution_total_false :
    ¬ (∀ (arena : List Node) (root : Nat), ∃ n, ∀ fuel, n ≤ fuel → preRun arena root fuel ≠ .error .outOfFuel) := by
  intro h
  obtain ⟨n, hn⟩ := h resetWitness 0
  apply hn (n + 2) (by omega)
  have hinv : WInv { arena := resetWitness, visited := [], paths := [] } := ⟨rfl, by intro p hp; cases hp⟩
  have h1 := (resetWitness_loops (n + 1) _ hinv).2 ["<<"] (by decide)
  have e1 : ¬ ("" = "!reset") := by decide
  have e2 : ¬ ("" = "!override") := by decide
  unfold preRun
  unfold preResolve
  simp only [normPath, resetWitness, List.getElem?_cons_zero, Node.tag, e1, e2, ↓reduceIte, resolveEntries,
    List.nil_append]
  simp only [resetWitness] at h1
  simp only [h1]

/-! ## alias expansion hands yaml.v3 a cyclic tree when the cycle passes through an `!override` node

`[&n1 !override {b: &n2 {services: *n1}, x-a: *n1}, *n2, *n2]`: `resolveReset` returns `!override` nodes as they are
(no descent, no visit recorded); expanding `*n2` from outside replaces the alias `*n1` inside `n2` by a direct pointer
to `n1`, whose child `n2` is.  `Decode` then recurses through `n1 → n2 → n1 → …` (yaml.v3 only guards alias nodes).
Real code: stack exhaustion (key `hang@alias-override-cycle`). -/

def directChild (arena : List Node) (a b : Nat) : Bool :=
  match arena[a]? with
  | some (.seq _ items) => items.contains b
  | some (.map _ es) => es.any (fun e => e.2 == b)
  | _ => false

def overrideWitness : List Node :=
  [.seq "" [1, 5, 6], .map "!override" [("b", 2), ("x-a", 4)], .map "" [("services", 3)], .alias 1, .alias 1, .alias 2, .alias 2]

/-- "the resolved node graph is a tree along direct child pointers" is FALSE -/
theorem resolve_output_tree_false :
    ¬ (∀ (arena : List Node) (root fuel : Nat) (st : St) (r : Option Nat),
        resolve fuel { arena := arena, visited := [], paths := [] } [] root [] = .ok (st, r) →
        ∀ a b, directChild st.arena a b = true → directChild st.arena b a = false) := by
  intro h
  have hc : (match resolve 8 { arena := overrideWitness, visited := [], paths := [] } [] 0 [] with
      | .ok (st, _) => directChild st.arena 1 2 && directChild st.arena 2 1
      | .error _ => false) = true := by rfl
  cases hres : resolve 8 { arena := overrideWitness, visited := [], paths := [] } [] 0 [] with
  | error e => rw [hres] at hc; cases hc
  | ok p =>
    obtain ⟨st, r⟩ := p
    rw [hres] at hc
    simp only [Bool.and_eq_true] at hc
    have := h overrideWitness 0 8 st r hres 1 2 hc.1
    rw [hc.2] at this
    cases this

end ResetWitness

/-! ## "`EnforceUnicity` shields `transformKeyValue`" (the reason the site review gave for the unchecked `e.(string)`)

`Unicity.enforceTop v = .ok v' → Short.canonical ign v' ≠ .panic _` (with the pre-repair loop) fails at the `[]` step:
`enforceUnicity` does not descend into sequences, `transform` does, and both match `*` against any path step.  The three
facts of the counterexample (`services:` as a LIST, `build.additional_contexts: [1]` in its element), with `transformKeyValue`'s
list loop as it was before the repair (repo commit bb06ca5) kept as a definition.
Replayed on the real code: corpus/C01/fixed-transform-transformKeyValue.json. -/

section KeyValueWitness
open CV

/-- the loop of `transformKeyValue` before the repair: `e.(string)` unchecked -/
def preKvList (ign : Bool) : List Val → Val.KVs → Option (Short.Out Val.KVs)
  | [], acc => some (.ok acc)
  | .str s :: r, acc =>
    match Short.cutAt '=' s.toList with
    | none => if ign then none else some (.err "parse")
    | some (k, v) => preKvList ign r (Val.insert (String.ofList k) (Short.sv v) acc)
  | _ :: _, _ => some (.panic "transform.transformKeyValue")

def kvWitness : Val :=
  .map [("services", .seq [.map [("build", .map [("additional_contexts", .seq [.int 1])])]])]

/-- the subtree at a path as the walkers name it (`[]` = an element of a sequence; here: the first) -/
def subAt : Val → List String → Option Val
  | v, [] => some v
  | .map kvs, k :: r => match Val.lookup k kvs with
    | some c => subAt c r
    | none => none
  | .seq (x :: _), k :: r => if k = "[]" then subAt x r else none
  | _, _ :: _ => none

/-- the full statement — in whatever `EnforceUnicity` lets through, a list found at a path that the transformer table
sends to `transformKeyValue` does not crash its (pre-repair) loop — is false -/
theorem unicity_shields_transformKeyValue_false :
    ¬ (∀ (v v' : Val) (p : TPath) (l : List Val), Unicity.enforceTop v = .ok v' →
        TPath.firstMatch CV.Gen.transformers p = some "transformKeyValue" →
        subAt v' p = some (.seq l) →
        ∀ ign s, preKvList ign l [] ≠ some (.panic s)) := by
  intro h
  have h1 : Unicity.enforceTop kvWitness = .ok kvWitness := by rfl
  have h2 : TPath.firstMatch CV.Gen.transformers ["services", "[]", "build", "additional_contexts"] = some "transformKeyValue" := by rfl
  have h3 : subAt kvWitness ["services", "[]", "build", "additional_contexts"] = some (.seq [.int 1]) := by rfl
  exact h kvWitness kvWitness _ [.int 1] h1 h2 h3 false "transform.transformKeyValue" rfl

/-- the same input in the repaired model: an error -/
example : Short.canonical false kvWitness = .err "type" := Short.Out.eq_err_of_beq (by decide +kernel)

end KeyValueWitness

end CV.C01.Neg
