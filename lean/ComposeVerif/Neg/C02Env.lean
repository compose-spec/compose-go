import ComposeVerif.Lemmas.C02Fixtures
/-!
# C02 — proved negations (concrete witnesses, `by decide +kernel`)

* `cachedEnvFiles_order_dependent` — `WithServicesEnvironmentResolved` **with a cache of parsed env files declared
  outside the services loop** (the closest wrong program; seeds C02-4 / C02-5) depends on the order in which Go ranges
  over `project.Services`: two services share the env file `shared` (`G=hi-${WHO}`), each defines `WHO` in an earlier
  env file of its own (`Lemmas/C02Fixtures.lean`).  The code as it is has no such cache (`CV.Det.EnvLoop.Props.withServicesEnvironmentResolved_perm`;
  regenerated fact `loopCarriedMaps_reviewed`).  The witness is replayed on the real code by
  `corpus/C02/load-shared-env-file-cross-ref.json`, which must give one outcome.
-/
namespace CV.Det.Neg.Env
open CV CV.EnvLayers CV.Det.EnvLoop

/-- the code as it is: each service gets its own greeting, in both orders -/
theorem actual_both_orders :
    greeting (withServicesEnvironmentResolved [] fs true [web, worker]) ['w', 'r', 'k'] = some (some ['h', 'i', '-', 'w', 'r', 'k']) ∧
    greeting (withServicesEnvironmentResolved [] fs true [worker, web]) ['w', 'r', 'k'] = some (some ['h', 'i', '-', 'w', 'r', 'k']) := by
  decide +kernel

/-- **with the cache (keyed by path — C02-4 — or by the whole entry — C02-5) the result depends on the iteration order** -/
theorem cachedEnvFiles_order_dependent :
    (greeting (rangeServicesCached true [] fs true [web, worker] []) ['w', 'r', 'k'] = some (some ['h', 'i', '-', 'w', 'e', 'b']) ∧
     greeting (rangeServicesCached true [] fs true [worker, web] []) ['w', 'r', 'k'] = some (some ['h', 'i', '-', 'w', 'r', 'k'])) ∧
    (greeting (rangeServicesCached false [] fs true [web, worker] []) ['w', 'r', 'k'] = some (some ['h', 'i', '-', 'w', 'e', 'b']) ∧
     greeting (rangeServicesCached false [] fs true [worker, web] []) ['w', 'r', 'k'] = some (some ['h', 'i', '-', 'w', 'r', 'k'])) := by
  decide +kernel

end CV.Det.Neg.Env
