import ComposeVerif.Props.C14Visit
/-!
# C14 — proved negation for the visit: the seeded `delete(dependencies, serviceNotFound)` writes into the receiver

`walk … del := true` is `withServices` with the statement of seed C14-5.  Under the default policy the local
`dependencies` is the receiver's own `DependsOn` map (`utils.MapsAppend(nil, m)` returns `m`): on the two-service project
of `Props/C14Visit.lean` (`api`, `web`; `db` is only a dependency name) the walk writes through address 4 — the `DependsOn`
map of `web`, allocated before the call — and the receiver is no longer what it was.  So `forEachService_sound` is a fact about the statements of the walk, not about any
walk.  (Real-code replay of the same project: `corpus/C14/visit-optional-dependency.json`, which passes on the tree as it is
and reports `receiver-mutated:ForEachService:visit` on the seeded tree.)
-/
namespace CV.Heap.Visit
open CV.Heap

theorem seeded_delete_writes_receiver :
    addrs exVisitProj = [1, 2, 3, 4] ∧
    (forEachService exSvcTy exSvcPlan exVisitProj "deps" true ["api"] 5).err = none ∧
    (forEachService exSvcTy exSvcPlan exVisitProj "deps" true ["api"] 5).log.map (·.1) = [5, 5, 4] ∧
    (addrs (getFld Deriv.fDependsOn (getIdx "web" (getFld Deriv.fServices
      (writes (forEachService exSvcTy exSvcPlan exVisitProj "deps" true ["api"] 5).log exVisitProj))))).length = 1 ∧
    mapKeys (getFld Deriv.fDependsOn (getIdx "web" (getFld Deriv.fServices
      (writes (forEachService exSvcTy exSvcPlan exVisitProj "deps" true ["api"] 5).log exVisitProj)))) = [] ∧
    mapKeys (getFld Deriv.fDependsOn (getIdx "web" (getFld Deriv.fServices exVisitProj))) = ["db"] := by
  decide +kernel

end CV.Heap.Visit
