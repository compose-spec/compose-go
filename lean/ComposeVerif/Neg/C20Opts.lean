import ComposeVerif.Lemmas.SecretsOpts
import ComposeVerif.Neg.C20
/-!
# C20 — proved negation: before the `fix:` a caller-registered type for the carrier key leaks the value

`loader.processExtensions` ran **every** entry of `extras` through the caller's `KnownExtensions`, the private carrier
`x-#value` included.  A caller registering e.g. `int` (or `*string`, `bool`, `float64`) for that key turns the carried
string into a value `secretConfigDecoderHook`'s `.(string)` assertion rejects: `Content` stays empty and the value
stays in the secret's `Extensions`, which `SecretConfig.MarshalYAML` writes inline.  Real code (pre-fix):
`corpus/C20/known-extension-carrier-key.json`; repaired by the `name == types.SecretConfigXValue` test.
-/
namespace CV.Secrets.NegOpts
open CV CV.Secrets
open CV.Val hiding lookup_insert_self lookup_insert_ne

def canary : List Char := "12345678".toList

/-- the caller's type for `x-#value` is `int`: the text of the number becomes the number; other keys keep their value -/
def numDec : String → Val → Option Val
  | "x-#value", .str "12345678" => some (.int 12345678)
  | _, v => some v

def known : KnownExt := { names := [xValue], dec := numDec }
def dict : KVs := [("secrets", .map [("tok", .map [("environment", .str "TOKEN")])])]
def env : Env := [("TOKEN", "12345678")]

/-- the pre-fix load keeps the value in the extensions and leaves `Content` empty -/
def leaked : Proj := { secrets := [("tok", { name := "p_tok", environment := "TOKEN", extensions := [(xValue, .int 12345678)] })], configs := [] }

theorem w_loads_prefix : loadK { known := known, carrierGuard := false } env "p" dict = .ok leaked := by decide +kernel

/-- with the test in place the same registration is harmless -/
theorem w_loads_fixed : loadK { known := known } env "p" dict =
    .ok { secrets := [("tok", { name := "p_tok", environment := "TOKEN", content := "12345678" })], configs := [] } := by decide +kernel

theorem w_leaks_prefix : ¬ Clean canary (render .yaml false leaked) := by decide +kernel

/-- `numDec` invents no tainted string, whatever names are registered with it -/
theorem numDec_invents_nothing (names : List String) :
    DecOk (fun s => ¬ occurs canary s) { names := names, dec := numDec } := by
  intro n v v' h hv
  change numDec n v = some v' at h
  unfold numDec at h
  split at h
  · -- the only value the decoder changes is the tainted one: it is not untainted
    exact absurd hv (by simp only [AllStr]; decide +kernel)
  · cases h; exact hv

theorem numDec_ok : DecOk (fun s => ¬ occurs canary s) { names := ["x-note", "x-magic", xValue], dec := numDec } :=
  numDec_invents_nothing _

theorem vocab_ok : VocabOk (fun s => ¬ occurs canary s) :=
  VocabOk_of_foreign_char (ch := '1') (by decide) (by decide)

theorem unguarded_carrier_leaks :
    ¬ (∀ (c : List Char), VocabOk (fun s => ¬ occurs c s) → ∀ (k : KnownExt), DecOk (fun s => ¬ occurs c s) k →
        ∀ (env : Env) (pname : String) (dict : KVs), Clean c (.map dict) →
          GenNamesOk (fun s => ¬ occurs c s) pname "secrets" dict → GenNamesOk (fun s => ¬ occurs c s) pname "configs" dict →
          ∀ (p : Proj), loadK { known := k, carrierGuard := false } env pname dict = .ok p → ∀ r, Clean c (render r false p)) := by
  intro h
  have := h canary vocab_ok known (numDec_invents_nothing _) env "p" dict (by decide +kernel)
    (by intro objs hl e he; simp only [dict, Val.lookup] at hl; cases hl; simp at he; subst he; decide +kernel)
    (by intro objs hl; simp [dict, Val.lookup] at hl)
    leaked w_loads_prefix .yaml
  exact w_leaks_prefix this

end CV.Secrets.NegOpts
