import ComposeVerif.Model.Include
import ComposeVerif.Model.IncludeResolve
import ComposeVerif.Lemmas.Include
/-!
# C06 — statements the tree falsified or still falsifies (concrete witnesses, evaluated by the kernel)

* **fixed (c342e7f)** — a relative `env_file` / `project_directory` of an include entry *inside an included file*
  was joined to the relative `workingDir` of the nested load and then resolved by the operating system against the
  process working directory.  The pre-fix behaviour is `plan` / `envFilesExplicit` called with the raw `workingDir`
  (what `includeOne` did before `baseDir`); the witnesses show the file that was consulted and the one that is now.
* **fixed (cde4576)** — the same resource reached through two include routes carries two different spellings of the
  same path at the moment `importResource` compares them; with plain `reflect.DeepEqual` (pre-fix) that is a
  conflict, with `sameResource` (compare again after resolving both against the including project's directory) it is not.

Each witness is replayed on the real loader from `corpus/C06/*.json`.
-/
namespace CV.Include.Neg
open CV CV.Val CV.Include

/-- a tree `/root/sub/{inc.yaml, my.env, pd/.env, deep/d.yaml}`; the process runs in `/cwd` -/
def W : World :=
  { cwd := "/cwd"
    isDir := fun p => p == "/root" || p == "/root/sub" || p == "/root/sub/pd" || p == "/root/sub/deep" || p == "/cwd"
    isFile := fun p => p == "/root/sub/my.env" || p == "/root/sub/pd/.env" || p == "/root/sub/deep/d.yaml"
    envFromFile := fun _ _ => .ok []
    loadModel := fun _ _ _ _ _ => .ok []
    -- `ResolveRelativePaths` on the one attribute the diamond witness uses (a bind source)
    resolveRes := fun base _ v => match v with
      | .map [("source", .str p)] => some (.map [("source", .str (join base p))])
      | v => some v }

/-- `sub/inc.yaml` is itself included from `/root/compose.yaml`: `ApplyInclude` sees `workingDir = "sub"` and a
local loader rooted at `/root/sub` -/
def wd : String := "sub"
def L : String := "/root/sub"

def entry : IncCfg := { path := ["deep/d.yaml"], projectDirectory := "pd" }

/-- the runs of the nested witnesses, pre-fix (`wd`) and post-fix (`baseDir wd L`), evaluated together -/
theorem nested_runs :
    (envFilesExplicit W wd ["my.env"] = .err "statNotFound" ∧
      envFilesExplicit W (baseDir wd L) ["my.env"] = .ok ["/root/sub/my.env"]) ∧
    (plan W wd L [] entry = .ok ⟨"pd", "sub/pd", ["/root/sub/deep/d.yaml"]⟩ ∧
      envFiles W wd "sub/pd" [] = .ok []) ∧
    (plan W (baseDir wd L) L [] entry = .ok ⟨"pd", "/root/sub/pd", ["/root/sub/deep/d.yaml"]⟩ ∧
      envFiles W (baseDir wd L) "/root/sub/pd" [] = .ok ["/root/sub/pd/.env"]) := by decide +kernel

/-- pre-fix: `env_file: my.env` is looked up as `sub/my.env` from the process working directory — not found -/
theorem nested_env_file_prefix : envFilesExplicit W wd ["my.env"] = .err "statNotFound" := nested_runs.1.1

/-- post-fix: it is the file next to the including file -/
theorem nested_env_file_fixed : envFilesExplicit W (baseDir wd L) ["my.env"] = .ok ["/root/sub/my.env"] := nested_runs.1.2

/-- the full-strength statement "the lookup does not depend on how the including project was reached" was false
before the fix: the same project loaded on its own (`workingDir = /root/sub`) finds the file -/
theorem env_file_anchor_refuted_prefix :
    ¬ (∀ (W : World) (rel abs : String) (f : List String), envFilesExplicit W rel f = envFilesExplicit W abs f) := by
  intro h
  have := h W wd (baseDir wd L) ["my.env"]
  rw [nested_env_file_prefix, nested_env_file_fixed] at this
  cases this

/-- pre-fix: the project directory is the *relative* `sub/pd`; its `.env` is searched from `/cwd` and silently skipped -/
theorem nested_project_directory_prefix :
    plan W wd L [] entry = .ok ⟨"pd", "sub/pd", ["/root/sub/deep/d.yaml"]⟩ ∧
    envFiles W wd "sub/pd" [] = .ok [] := nested_runs.2.1

/-- post-fix: the project directory is absolute and its `.env` is found; the working directory handed to the sub-load
(`pd`, relative to the loader) is unchanged -/
theorem nested_project_directory_fixed :
    plan W (baseDir wd L) L [] entry = .ok ⟨"pd", "/root/sub/pd", ["/root/sub/deep/d.yaml"]⟩ ∧
    envFiles W (baseDir wd L) "/root/sub/pd" [] = .ok ["/root/sub/pd/.env"] := nested_runs.2.2

/-- bind source `f.txt` of `proj/s3/inc.yaml`: reached as `proj → inc1 → s3` and as `proj → ../top4 → /…/proj/inc1 → s3` -/
def route1 : String := join "." (join "s3" "f.txt")
def route2 : String := join "../top4" (join "../proj" (join "s3" "f.txt"))

/-- the two spellings differ, yet denote the same file once joined to the including project's directory … -/
theorem diamond_spellings_differ : route1 ≠ route2 ∧ join "/r/proj" route1 = join "/r/proj" route2 := by
  -- evaluated on the character lists: between two `join`s `toList ∘ ofList` cancels instead of being computed
  have h : route1.toList ≠ route2.toList ∧
      Paths.join "/r/proj".toList route1.toList = Paths.join "/r/proj".toList route2.toList := by
    simp only [route1, route2, join, String.toList_ofList]
    decide +kernel
  exact ⟨fun e => h.1 (congrArg String.toList e), congrArg String.ofList h.2⟩

theorem bind_ne {p q : String} (h : p ≠ q) : veq (.map [("source", .str p)]) (.map [("source", .str q)]) = false := by
  rw [veq_false_iff]
  intro e
  simp only [Val.map.injEq, List.cons.injEq, Prod.mk.injEq, Val.str.injEq, and_true, true_and] at e
  exact h e

/-- … so, pre-fix, `importResource` reported a conflict for a resource that is identical on both routes -/
theorem diamond_conflict_prefix :
    (importEntries (deepEqual "services") [("ser4", .map [("source", .str route2)])] [("ser4", .map [("source", .str route1)])]).errOf
      = some "conflict" := by
  rw [importEntries_single, deepEqual, bind_ne (Ne.symm diamond_spellings_differ.1)]
  rfl

theorem resolveRes_bind (base key p : String) :
    W.resolveRes base key (.map [("source", .str p)]) = some (.map [("source", .str (join base p))]) := by
  simp only [W]

/-- post-fix: `sameResource` resolves both against the including project's directory and accepts -/
theorem diamond_fixed :
    (importEntries (sameResource W "/r/proj" "services") [("ser4", .map [("source", .str route2)])]
      [("ser4", .map [("source", .str route1)])]).isOk = true := by
  have h : sameResource W "/r/proj" "services" (.map [("source", .str route2)]) (.map [("source", .str route1)]) = true := by
    rw [sameResource, resolveRes_bind, resolveRes_bind, diamond_spellings_differ.2]
    simp only [veq_refl, Bool.or_true]
  rw [importEntries_single, h]
  rfl

/-- full strength "resources that are equal after resolution are accepted" was false for the pre-fix test -/
theorem identical_after_resolution_refuted_prefix :
    ¬ (∀ (base a b : String), join base a = join base b →
        (importEntries (deepEqual "secrets") [("r", .str a)] [("r", .str b)]).isOk = true) := by
  intro h
  have := h "/r/proj" route1 route2 diamond_spellings_differ.2
  have hne : veq (.str route1) (.str route2) = false := by
    rw [veq_false_iff]; intro e; exact diamond_spellings_differ.1 (Val.str.inj e)
  rw [importEntries_single, deepEqual, hne] at this
  cases this

/-! ## still open: a relative `project_directory` that is not an existing directory

`relworkingdir = loader.Dir(r.ProjectDirectory)`: `localResourceLoader.Dir` is written for files ("the resource's parent
folder") and answers the directory itself only when it exists; otherwise the *parent*.  The included model's paths are
then resolved against the parent of the declared project directory, while `.env` and nested includes use the declared
one.  Replayed from `corpus/C06/missing-project_directory.json`
(finding `missing-project_directory:differs:services.*.build.context`). -/

/-- `/root/compose.yaml` includes `sub/inc.yaml` with `project_directory: nodir` (no such directory): paths are
resolved against `/root`, the project directory is `/root/nodir` -/
theorem anchor_is_projDir_refuted :
    ∃ pl, plan W "/root" "/root" ["/root/compose.yaml"] { path := ["sub/inc.yaml"], projectDirectory := "nodir" } = .ok pl ∧
      pl.relwd = "." ∧ pl.projDir = "/root/nodir" ∧ join "/root" pl.relwd = "/root" ∧
      join "/root" pl.relwd ≠ clean pl.projDir ∧ isAbs pl.relwd = false :=
  ⟨⟨".", "/root/nodir", ["/root/sub/inc.yaml"]⟩, by decide +kernel⟩

/-- the full-strength anchoring statement (`include_anchor_is_projDir_partial` without `PlanDirsExist`) is false -/
theorem include_anchor_is_projDir_full_refuted :
    ¬ (∀ (W : World) (L : String) (chain : List String) (r : IncCfg) (pl : Plan), isAbs L = true → r.path ≠ [] →
        plan W L L chain r = .ok pl →
        join L pl.relwd = clean pl.projDir ∨ (isAbs pl.relwd = true ∧ pl.relwd = pl.projDir)) := by
  intro h
  obtain ⟨pl, hpl, _, _, _, hne, hrel⟩ := anchor_is_projDir_refuted
  rcases h W "/root" ["/root/compose.yaml"] { path := ["sub/inc.yaml"], projectDirectory := "nodir" } pl
      (by decide +kernel) (by decide) hpl with hj | ⟨ha, _⟩
  · exact hne hj
  · rw [ha] at hrel; cases hrel

/-! ## still open: a config of an included file whose source variable only the included project's environment defines

Since a87ef4e the branch of `loadYamlModel` for an included model runs the services and the secrets resolver, not the
configs one; the including model resolves the imported config with its own environment.  `mod/.env` defines `MC`,
the parent does not: loaded on its own the config carries `from-mod`, through include nothing.  Replayed from
`corpus/C06/included-config-environment.json` (finding `config-environment:differs:configs.*.#content`). -/

def envParent : Env := []
def envIncluded : Env := envMerge envParent [("MC", "from-mod")]
def modModel : KVs := [("configs", .map [("cfg", .map [("environment", .str "MC")])]),
                       ("secrets", .map [("sec", .map [("environment", .str "MC")])])]

/-- on its own both carry the value; as an included model only the secret does; the including model's own resolution
(`resolveModelEnv false envParent`) adds nothing -/
theorem included_config_witness :
    veq (.map (resolveModelEnv false envIncluded modModel))
      (.map [("configs", .map [("cfg", .map [("environment", .str "MC"), ("content", .str "from-mod")])]),
             ("secrets", .map [("sec", .map [("environment", .str "MC"), ("x-#value", .str "from-mod")])])]) = true ∧
    veq (.map (resolveModelEnv false envParent (resolveModelEnv true envIncluded modModel)))
      (.map [("configs", .map [("cfg", .map [("environment", .str "MC")])]),
             ("secrets", .map [("sec", .map [("environment", .str "MC"), ("x-#value", .str "from-mod")])])]) = true := by
  decide +kernel

/-- the full-strength statement for configs (`IncludedConfigEqPaste`, `Props/C06Resolve.lean`) — resolved by the
including model = as loaded on its own, for every environment the include's extends — is false -/
theorem included_config_eq_paste_refuted :
    ¬ (∀ (envI envP : Env) (c : Val), (∀ k v, Env.get envP k = some v → Env.get envI k = some v) →
        resolveSource "content" envP c = resolveSource "content" envI c) := by
  intro h
  have e := h envIncluded envParent (.map [("environment", .str "MC")]) (by intro k v hk; cases hk)
  have d : veq (resolveSource "content" envParent (.map [("environment", .str "MC")]))
      (resolveSource "content" envIncluded (.map [("environment", .str "MC")])) = false := by decide +kernel
  rw [e, veq_refl] at d
  cases d

end CV.Include.Neg
