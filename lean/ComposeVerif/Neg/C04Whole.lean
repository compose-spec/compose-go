import ComposeVerif.Model.Reset
import ComposeVerif.Lemmas.Merge
/-!
# C04 — two statements about the fold over files that are *false*, with their witnesses

1. **The override rules are not associative.**  The property says: apply each later file *onto the result so far* —
   the left fold (`Props/C04Whole.lean`, `loadY_is_left_fold`).  Merging the later files among themselves first and
   applying the result to the base (a right fold) is a different function: `mergeLogging` decides between "merge the two
   sections" and "replace" by comparing the drivers of the two sides *it is given*.  Base `{driver: a, options: {x}}`,
   then `{options: {y}}`, then `{driver: b}`: left to right the third file replaces the section (`{driver: b}`); folded
   from the right the second and third merge first (`{options: {y}, driver: b}`) and replace the base as one.
   So the bracketing in the statement of the property is not a presentation choice.

2. **An entry-level `!reset` is honoured only while the accumulated value is still a mapping.**  `labels: {k: !reset null}`
   records the path `services.web.labels.k`; `ResetProcessor.Apply` deletes *mapping keys* whose path matches and has no
   removal from sequences (`// TODO(ndeloof) support removal from sequence` in loader/reset.go).  `mergeToSequence` turns
   the accumulated `labels` into a list of `K=V` strings at the first merge (and a list-spelled first file is a list
   from the start), so from the third mention on — or after a list-spelled base — the tag finds nothing to delete and
   is silently ignored: the label survives.  Full-strength "`!reset` removes the entry, whichever spelling the earlier
   files used" is therefore false on the model of the unchanged code; the provable statements are `reset_removes`
   (mapping-held values, any depth) and `docStep_reset_removes`.  The split oracle's `reset-entry` class stays inside
   that domain; the limitation is recorded in design/C04.md ("observed, not claimed as a defect").
-/
namespace CV.C04.Neg
open CV CV.Val CV.Merge CV.Reset

def lgA : Val := .map [("services", .map [("w", .map [("logging", .map [("driver", .str "a"), ("options", .map [("x", .str "1")])])])])]
def lgB : Val := .map [("services", .map [("w", .map [("logging", .map [("options", .map [("y", .str "2")])])])])]
def lgC : Val := .map [("services", .map [("w", .map [("logging", .map [("driver", .str "b")])])])]

/-- left to right (what the loader does, what the property says) -/
theorem logging_left_fold : (merge lgA lgB).bind (fun ab => merge ab lgC) =
    .ok (.map [("services", .map [("w", .map [("logging", .map [("driver", .str "b")])])])]) := by decide +kernel

/-- later files merged among themselves first -/
theorem logging_right_fold : (merge lgB lgC).bind (fun bc => merge lgA bc) =
    .ok (.map [("services", .map [("w", .map [("logging", .map [("options", .map [("y", .str "2")]), ("driver", .str "b")])])])]) := by decide +kernel

theorem merge_not_associative :
    ¬ (∀ a b c : Val, (merge a b).bind (fun ab => merge ab c) = (merge b c).bind (fun bc => merge a bc)) := by
  intro h
  have := h lgA lgB lgC
  rw [logging_left_fold, logging_right_fold] at this
  simp at this

/-! ### entry-level `!reset` against a value that is already a list -/

def lblBase (labels : Val) : Val := .map [("services", .map [("web", .map [("image", .str "nginx"), ("labels", labels)])])]

def lblReset : YNode :=
  .map .none [("services", .map .none [("web", .map .none [("labels", .map .none [("role", .scalar .reset .null)])])])]

def lblTouch : YNode :=
  .map .none [("services", .map .none [("web", .map .none [("labels", .map .none [("tier", .scalar .none (.str "one"))])])])]

/-- the base spelled as a mapping, the tag in the very next document: the entry is removed -/
theorem entry_reset_removes_from_mapping :
    loadDocs .ok (lblBase (.map [("role", .str "frontend"), ("plain", .str "keep")])) [lblReset] =
      .ok (lblBase (.seq [.str "plain=keep"])) := by decide +kernel

/-- the same base spelled as a list: the tag is ignored, `role=frontend` survives -/
theorem entry_reset_ignored_on_list_spelling :
    loadDocs .ok (lblBase (.seq [.str "role=frontend", .str "plain=keep"])) [lblReset] =
      .ok (lblBase (.seq [.str "role=frontend", .str "plain=keep"])) := by decide +kernel

/-- a mapping-spelled base, one untagged mention in between: the accumulated value has become a list and the tag of the
third document is ignored -/
theorem entry_reset_ignored_after_merge :
    loadDocs .ok (lblBase (.map [("role", .str "frontend"), ("plain", .str "keep")])) [lblTouch, lblReset] =
      .ok (lblBase (.seq [.str "plain=keep", .str "role=frontend", .str "tier=one"])) := by decide +kernel

/-- **negation of the full-strength entry-level law** ("after a document that tags `labels.<k>` with `!reset`, no
`k=…` entry is left, whatever the earlier documents were") -/
theorem not_entry_reset_removes_any_spelling :
    ¬ (∀ (labels : Val) (r : Val), loadDocs .ok (lblBase labels) [lblReset] = .ok (lblBase r) →
        ∀ xs, r = .seq xs → Val.str "role=frontend" ∉ xs) := by
  intro h
  exact h _ _ entry_reset_ignored_on_list_spelling _ rfl (by simp)

end CV.C04.Neg
