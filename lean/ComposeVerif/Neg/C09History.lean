import ComposeVerif.Model.RenderHistory
/-!
# C09 — the deep copy in `marshallOptions.apply` cannot be replaced by a copy of the project struct

`Props/C09History.lean` proves, for the code of the tree (`applyHeap`: flags written to a deep copy), that no history of
renderings writes to the caller's project and that every rendering equals a fresh project's.  With the struct-only copy
(`History.applyShared`: `clone := *p` shares the `Secrets` map) both statements fail on the history
"once with `WithSecretContent`, then plain": the witness below is the history the oracle stream `c09.history` replays on
the real code (`history-mutates:*:SecretConfig.marshallContent`).
-/
namespace CV.Neg.C09History
open CV CV.Secrets CV.History

def tok : FileObj := { name := "seed_token", environment := "API_TOKEN", content := "s3cr3t" }
def heap0 : Heap := { maps := [(0, [("token", tok)])], next := 1 }
def hist : List Call := [⟨.yaml, true⟩, ⟨.yaml, false⟩]

/-- the caller's secret is flagged after the history -/
theorem shared_clone_writes_to_caller :
    ((runWith applyShared [] hist heap0 0).1.get 0).map (fun kv => kv.2.marshallContent) = [true] ∧
    (heap0.get 0).map (fun kv => kv.2.marshallContent) = [false] := by
  constructor <;> rfl

/-- `secrets.token.content` of a rendering -/
def contentOf (v : Val) : Option String :=
  match v with
  | .map top =>
    match Val.lookup "secrets" top with
    | some (.map ss) =>
      match Val.lookup "token" ss with
      | some (.map kvs) => match Val.lookup "content" kvs with
        | some (.str c) => some c
        | _ => none
      | _ => none
    | _ => none
  | _ => none

/-- the plain rendering that follows carries the secret's content, which a fresh project's plain rendering does
not (the schema refuses `content` in a secret: the rendering no longer loads); with the deep copy of the tree it does not -/
theorem shared_clone_leaks_content :
    (runWith applyShared [] hist heap0 0).2.map contentOf = [some "s3cr3t", some "s3cr3t"] ∧
    (hist.map (fresh [] (heap0.get 0))).map contentOf = [some "s3cr3t", none] ∧
    (run [] hist heap0 0).2.map contentOf = [some "s3cr3t", none] := by
  refine ⟨?_, ?_, ?_⟩ <;> decide

end CV.Neg.C09History
