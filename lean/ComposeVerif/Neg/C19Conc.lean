import ComposeVerif.Lemmas.LockedSections
/-!
# C19 — proved negations: a lazily filled memo WITHOUT a mutex, touched by two traversal workers

The shape of `if v.memo != nil { return v.memo }; …compute…; v.memo = vx` run by the workers of two sibling services that
share a dependency: one critical section `memoF c` per worker on the guarded state `Option (List String)`, with
`locked := false` (there is no mutex around it).  What `Props/C19Conc.lean` excludes for the code as it is (its parallel
region has no store outside `t.mu` except the collector's own counter).
-/
namespace CV.Locked

/-- **data race**: two workers, both read the empty memo; then one's write and the other's read, and both writes, are
    enabled together -/
theorem unguarded_memo_races :
    ((run false (init (fun _ : Bool => [memoF ["base"]]) none) [.lock false, .read false, .lock true]).map fun s =>
      ((step? false s (.write false)).isSome, (step? false s (.read true)).isSome)) = some (true, true) ∧
    ((run false (init (fun _ : Bool => [memoF ["base"]]) none) [.lock false, .read false, .lock true, .read true]).map fun s =>
      ((step? false s (.write false)).isSome, (step? false s (.write true)).isSome)) = some (true, true) := by
  decide +kernel

/-- the memo is computed (and stored) twice: "filled once" fails without the mutex -/
theorem unguarded_memo_filled_twice :
    ((run false (init (fun _ : Bool => [memoF ["base"]]) none)
      [.lock false, .read false, .lock true, .read true, .write false, .write true, .unlock false, .unlock true]).map fun s =>
      (s.hist, s.mem)) = some ([false, true], some ["base"]) := by
  decide +kernel

/-- the same schedule is refused when the section holds a mutex -/
theorem guarded_memo_refuses_that_schedule :
    (run true (init (fun _ : Bool => [memoF ["base"]]) none) [.lock false, .read false, .lock true]).isNone = true := by
  decide +kernel

end CV.Locked
