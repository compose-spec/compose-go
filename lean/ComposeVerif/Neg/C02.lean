import ComposeVerif.Model.MapOrder
import ComposeVerif.Lemmas.ExceptDecEq
import ComposeVerif.Model.Validate
/-!
# C02 — proved negations (concrete witnesses, `by decide +kernel`)

* `newGraphOld_order_dependent` — `graph.newGraph` *before* `fix:` 6b9fea6 (`newGraphOld`: it ran
  `delete(s.DependsOn, name)` with the service's own name while ranging) falsified "the outcome does not depend on the
  iteration order of `depends_on`" (DESIGN §10 #5; repaired finding `nondeterministic:graph.newGraph`;
  `corpus/C02/newgraph-self-optional.json` and `corpus/C02/load-self-optional.json` replay the witness on the real
  code, which gives one outcome).  The function as it is: `CV.Det.Props.newGraph_perm`, `newGraph_no_mutation`.
* `sshDecodeUnsorted_order_dependent` — the code of `SSHConfig.DecodeMapstructure` *before* the `fix:` commit
  (DESIGN §10 #6): kept as the reason for the fix; the current code is `sshDecode` (`CV.Det.Props.sshDecode_perm`).
* `intoSeqUnsorted_order_dependent` — `convertIntoSequence` without its `slices.SortFunc` would leak the order:
  the sort is what `CV.Det.Props.intoSeq_perm` rests on.
* `validate_which_error_order_dependent` — *which* validation error `validation.Validate` reports depends on the order
  in which `check` ranges a mapping (two failing nodes); *whether* it reports one does not
  (`CV.Det.Stage.Props.validate_stage_perm` in `Props/C02Stages.lean`).  Error texts are therefore never compared by the
  oracles.
-/
namespace CV.Det.Neg
open CV CV.Val CV.Det

/-- project a sequence of strings out of `Option (List Val)` (`Val` has no decidable equality) -/
def strsOf (o : Option (List Val)) : Option (List String) := o.map (·.map fmtV)

/-- state of the old inner loop: edges collected so far, and whether `delete(s.DependsOn, name)` has been executed -/
structure LoopStOld where
  edges : List String
  selfDeleted : Bool
deriving Repr, DecidableEq

/-- the loop as it was, with Go's delete-during-range semantics -/
def depLoopOld (enabled disabled : List String) (name : String) : AL Bool → LoopStOld → Except GErr LoopStOld
  | [], st => .ok st
  | (dep, required) :: r, st =>
    if dep = name && st.selfDeleted then depLoopOld enabled disabled name r st   -- entry was deleted before being reached
    else if enabled.contains dep then depLoopOld enabled disabled name r { st with edges := st.edges ++ [dep] }
    else if required then
      (if disabled.contains dep then .error .disabled else .error .unknown)
    else depLoopOld enabled disabled name r { st with selfDeleted := true }

def svcAfterOld (s : Svc) (st : LoopStOld) : Svc :=
  if st.selfDeleted then { s with deps := s.deps.filter (fun kv => kv.1 ≠ s.name) } else s

def graphLoopOld (enabled disabled : List String) : List Svc → Except GErr (List Svc × AL (List String))
  | [] => .ok ([], [])
  | s :: r =>
    match depLoopOld enabled disabled s.name s.deps ⟨[], false⟩ with
    | .error e => .error e
    | .ok st =>
      match graphLoopOld enabled disabled r with
      | .error e => .error e
      | .ok (ss, adj) => .ok (svcAfterOld s st :: ss, (s.name, st.edges) :: adj)

def newGraphOld (svcs : List Svc) (disabled : List String) : Except GErr (List Svc) :=
  match graphLoopOld (svcs.map (·.name)) disabled svcs with
  | .error e => .error e
  | .ok (ss, adj) => if hasCycle adj then .error .cycle else .ok ss

/-- service `a` depends on itself (required) and, optionally, on `off`, which is not enabled -/
def selfFirst : List Svc := [⟨"a", [("a", true), ("off", false)]⟩]
/-- the same project, the `depends_on` map iterated in the other order -/
def optFirst : List Svc := [⟨"a", [("off", false), ("a", true)]⟩]

theorem selfFirst_perm_optFirst :
    ([("off", false), ("a", true)] : AL Bool).Perm [("a", true), ("off", false)] := List.Perm.swap _ _ _

/-- **the old graph.newGraph was order dependent**: one iteration order reported a dependency cycle, the other accepted
the project (and silently dropped the self dependency from it). -/
theorem newGraphOld_order_dependent :
    newGraphOld selfFirst ["off"] = .error .cycle ∧
    newGraphOld optFirst ["off"] = .ok [⟨"a", [("off", false)]⟩] := by
  decide +kernel

theorem newGraphOld_not_perm_invariant :
    ¬ (∀ (d d' : AL Bool), d'.Perm d →
        (newGraphOld [⟨"a", d'⟩] ["off"]).toBool = (newGraphOld [⟨"a", d⟩] ["off"]).toBool) := by
  intro h
  have := h [("a", true), ("off", false)] [("off", false), ("a", true)] (List.Perm.swap _ _ _)
  revert this
  decide +kernel

/-- `newGraph` as it is reports the cycle in both orders -/
theorem newGraph_both_orders_now :
    newGraph selfFirst ["off"] = .error .cycle ∧ newGraph optFirst ["off"] = .error .cycle := by
  decide +kernel

/-- the pre-fix decoder returns the keys in iteration order -/
theorem sshDecodeUnsorted_order_dependent :
    sshDecodeUnsorted (.map [("k1", .null), ("k2", .str "p")]) ≠
    sshDecodeUnsorted (.map [("k2", .str "p"), ("k1", .null)]) := by
  decide +kernel

/-- without the sort, `convertIntoSequence` would return the entries in iteration order -/
theorem intoSeqUnsorted_order_dependent :
    strsOf (intoSeqUnsorted (.map [("A", .str "1"), ("B", .null)])) = some ["A=1", "B"] ∧
    strsOf (intoSeqUnsorted (.map [("B", .null), ("A", .str "1")])) = some ["B", "A=1"] := by
  decide +kernel

/-- a loop that returns the first error reports a different one under another iteration order
(only *whether* there is an error is order independent: `CV.Det.Props.rangeCheck_perm`) -/
theorem rangeCheck_which_error_order_dependent :
    rangeCheck (fun k (v : Nat) => if v = 0 then some k else none) [("a", 0), ("b", 0)] = some "a" ∧
    rangeCheck (fun k (v : Nat) => if v = 0 then some k else none) [("b", 0), ("a", 0)] = some "b" := by
  decide +kernel

end CV.Det.Neg

namespace CV.Det.Neg.Env

/-- which of two validation failures is reported depends on the order of the top-level mapping -/
theorem validate_which_error_order_dependent :
    CV.Validate.validate (.map [("volumes", .map [("v", .int 5)]), ("configs", .map [("c", .map [])])]) = .err .expectedVolume ∧
    CV.Validate.validate (.map [("configs", .map [("c", .map [])]), ("volumes", .map [("v", .int 5)])]) = .err .missing := by
  decide +kernel

end CV.Det.Neg.Env
