import ComposeVerif.Model.Template
import ComposeVerif.Spec.Template
import ComposeVerif.Model.TemplateDocs
/-!
# C07 — statements the implementation does (or did) not satisfy, with concrete witnesses

1. **Newline inside an operator argument** (finding `grammar:newline-in-argument`, not repaired).
   The grammar at full strength (`WFml`) lets the literal text of a default / replacement / error
   message contain a newline.  The regular expression's `.*` does not cross a line end, so
   `${A:-` newline `}` is not matched as a braced substitution and the result is `invalid template`.
   `subst_render` (Props/C07) is the provable statement: the same with `WF` (no newline in an argument).

2. **Brace counter skipped the character after `{`** (repaired by the `fix:` commit recorded in
   findings/C07.txt).  `firstCloseGoOld` is `getFirstBraceClosingIndex` as it was: on `${A:-{}} ${B}`
   it does not find the brace that closes `${A:-…` (the `}` of `{}` is skipped), so the whole text was
   re-matched and `{}} ${B` was interpolated as the default — an `Invalid template` error instead of
   `{} b`.  The model in Model/Template.lean is the repaired function.

3. **An include entry that writes its lookup through the cloned options pointer** (seed C07-8; not the code).
   `Options.clone()` copies the `*interp.Options` pointer, so `loadOptions.Interpolate.LookupValue = config.LookupEnv`
   would overwrite the lookup of the including project: `walkDocsShared` (Model/TemplateDocs.lean).  With `A` unset in
   the project and set by the include's env file, `$A` in a document interpolated *after* the include yields the
   include's value.  `Props/C07Docs.load_is_stateless` is the statement the code (a fresh cell per entry) satisfies.
-/
namespace CV.Template.Neg
open CV.Template

/-- the newline witness: `${A:-⏎}` with `A` unset -/
def nlWitness : List Seg := [.op ['A'] .colonDash [.lit ['\n']]]

theorem nlWitness_wfml : WFml nlWitness = true := by decide +kernel

theorem nlWitness_subst : subst (fun _ => none) (renderL nlWitness) = .err .invalid := by decide +kernel

theorem nlWitness_eval : evalOut (fun _ => none) nlWitness = .ok ['\n'] := by decide +kernel

/-- the refinement at full strength (newlines allowed inside operator arguments) is false -/
theorem subst_render_multiline_false :
    ¬ (∀ (env : Env) (t : List Seg), WFml t = true → subst env (renderL t) = evalOut env t) := by
  intro h
  have := h (fun _ => none) nlWitness nlWitness_wfml
  rw [nlWitness_subst, nlWitness_eval] at this
  cases this

/-- `getFirstBraceClosingIndex` before the repair: the character after every `{` is skipped -/
def firstCloseGoOld : Str → Nat → Int → Option Nat
  | [], _, _ => none
  | '}' :: cs, i, o => if o - 1 == 0 then some i else firstCloseGoOld cs (i + 1) (o - 1)
  | '{' :: [], _, _ => none
  | '{' :: _ :: cs, i, o => firstCloseGoOld cs (i + 2) (o + 1)
  | _ :: cs, i, o => firstCloseGoOld cs (i + 1) o

/-- on `${A:-{}} ${B}` the old counter finds no closing brace at all; the repaired one finds index 7 -/
theorem old_brace_counter_misses :
    firstCloseGoOld "${A:-{}} ${B}".toList 0 0 = none ∧ firstClose "${A:-{}} ${B}".toList = some 7 := by decide +kernel

/-- on `${A:-{{x}}}` the old counter stops one brace early (index 9 instead of 10): with `A` set the
    result had a stray `}` appended -/
theorem old_brace_counter_early :
    firstCloseGoOld "${A:-{{x}}}".toList 0 0 = some 9 ∧ firstClose "${A:-{{x}}}".toList = some 10 := by decide +kernel

end CV.Template.Neg

namespace CV.Template.Docs
open CV.Template CV.Template.Sites

def leakDocs : List Doc := [.incl [(['A'], ['w'])] [], .value ['$', 'A']]

theorem shared_lookup_leaks : loadValuesShared [] leakDocs = [.ok ['w']] := by decide +kernel

theorem spec_does_not_leak : specDocs [] leakDocs = [.ok []] := by decide +kernel

theorem shared_walk_not_stateless : ¬ (∀ (env : GoMap) (ds : List Doc), loadValuesShared env ds = specDocs env ds) := by
  intro h
  have := h [] leakDocs
  rw [shared_lookup_leaks, spec_does_not_leak] at this
  cases this

end CV.Template.Docs
