import ComposeVerif.Lemmas.C08Canonical
/-!
# C08, composed pipeline — the converse of `canonical_mono` fails at a transformer (`transformPorts`)

`Props/C08Whole.load_on_ok_imp_off_ok` goes from interpolation on to interpolation off.  The other direction fails already
at one transformer: `transform.Canonical(dict, opts.SkipInterpolation)` keeps a port string it cannot parse when the flag is
set (it may still hold `${…}`) and reports a parse error otherwise.  Replayed on the real loader (dictionary level,
`SkipValidation`: the schema's `ports` format check is off) by `corpus/C08/whole-onoff-canonical-ports.json` — check
`c08onoff` with `expect_off_only`: `services: {a: {image: x, ports: ["x"]}}` loads with `SkipInterpolation` and fails with
interpolation on.  With default options both loads fail (schema format), and at the level of the typed `Project` the
`SkipInterpolation` load fails in the decoder: no finding against the property, which observes Projects.
-/
namespace CV.Short
open CV

/-- the lenient reading accepts `ports: ["x"]` unchanged, the strict reading reports a parse error -/
theorem canonical_flag_converse_false :
    ¬ (∀ v r, transformPorts true v = .ok r → transformPorts false v = .ok r) := by
  intro h
  have h1 : transformPorts true (.seq [.str "x"]) = .ok (.seq [.str "x"]) := by rfl
  have h2 := h _ _ h1
  have e : transformPorts false (.seq [.str "x"]) = .err "parse" := by rfl
  rw [e] at h2
  cases h2

end CV.Short
