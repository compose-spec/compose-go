import ComposeVerif.Model.DerivApply
import ComposeVerif.Lemmas.HeapFields
/-!
# C14 — negative witness for the marshaller option path

The slip of seed C09-8 inside the model: `clone := *p` instead of `p.deepCopy()` — the clone's `Secrets` map is the
receiver's, so the flag is written into the caller's project.  The program is not receiver free and the receiver changes:
`apply_secrets_confined` is a fact about the statements of `apply`, not about any function of that shape.
-/
namespace CV.Heap.NegApply
open CV.Heap CV.Heap.Deriv

/-- `clone := *p; for name, config := range clone.Secrets { config.marshallContent = true; clone.Secrets[name] = config }` -/
def applyShallow : List Stmt := [
  .rangeMap "name" "config" (.fld (.var "p") fSecrets) [
    .assign "config" (.withFld (.var "config") fMarshallContent (.str fun _ => "b:true")),
    .mapStore (.fld (.var "p") fSecrets) (·.pstr "name") (.var "config")],
  .assign "result" (.var "p")]

def recv : GoVal := .ptr 1 (.struct [
  (.fld fSecrets, .map 2 [(.str "token", .struct [(.fld fMarshallContent, .scalar "")])])])

theorem shallow_apply_not_receiver_free : rfL applyShallow = false := by decide

/-- the write goes through address 2 — the receiver's own map — and the receiver's secret now carries the flag -/
theorem shallow_apply_writes_receiver :
    let st := runProg (.ptr (.struct [])) (.newPtr (.fields [])) applyShallow recv [] 3
    st.log.map (·.1) = [2] ∧ scalarStr (getFld fMarshallContent (getIdx "token" (getFld fSecrets recv))) = "" ∧
    scalarStr (getFld fMarshallContent (getIdx "token" (getFld fSecrets (getVar "p" st.vars)))) = "b:true" := by
  simp only [applyShallow, recv, fieldIds]
  decide +kernel

end CV.Heap.NegApply
