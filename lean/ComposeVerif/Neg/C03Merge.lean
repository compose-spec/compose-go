import ComposeVerif.Model.ShortMerge
import ComposeVerif.Model.ShortDecode
import ComposeVerif.Lemmas.ValDecEq
/-!
# C03 — pre-repair witness for `build.ssh` in a second document (repo commit dc2c975)

Before the repair `services.*.build.ssh` had no row in `mergeSpecials`: the merger fell through to the default rules,
where a mapping (the canonical form of the first document's `ssh`, whatever its spelling) cannot be overridden by a
sequence.  The list spelling in a second file / YAML document was rejected while the mapping spelling loaded — the
statement "short ≡ long for every document of a multi-document load" was false.  With the row
(`Props/C03Merge.lean`, `mergeSSH_short_eq_long`) both spellings go through `mergeToSequence`.
Replayed on the real code on every run: corpus/C03/build-ssh-list-second-document.json.
-/
namespace CV.Short.Neg
open CV

/-- document 1 `ssh: [default]` (canonical: `{default: null}`), document 2 `ssh: ["k=/p"]`: under the default rules
(no special merger) the list is rejected … -/
theorem ssh_list_second_document_rejected_pre_fix (mk : Val.KVs → Val.KVs → TPath → Merge.Out Val.KVs) (p : TPath) :
    transformSSH (.seq [.str "default"]) = .ok (.map [("default", .null)])
    ∧ Merge.defaultStep mk (.map [("default", .null)]) (.seq [.str "k=/p"]) p = .err "cannotOverride" := ⟨rfl, rfl⟩

/-- … while the mapping spelling of the same second document merges: ¬ (short ≡ long) under the pre-fix table -/
theorem ssh_short_ne_long_pre_fix :
    ¬ (∀ p : TPath, Merge.defaultStep (Merge.mergeKVs 8) (.map [("default", .null)]) (.seq [.str "k=/p"]) p
        = Merge.defaultStep (Merge.mergeKVs 8) (.map [("default", .null)]) (.map [("k", .str "/p")]) p) := by
  intro h
  have h1 : Merge.defaultStep (Merge.mergeKVs 8) (.map [("default", .null)]) (.seq [.str "k=/p"]) ["services", "s", "build", "ssh"]
      = .err "cannotOverride" := rfl
  have h2 : Merge.defaultStep (Merge.mergeKVs 8) (.map [("default", .null)]) (.map [("k", .str "/p")]) ["services", "s", "build", "ssh"]
      = .ok (.map [("default", .null), ("k", .str "/p")]) := rfl
  have := h ["services", "s", "build", "ssh"]
  rw [h1, h2] at this
  cases this

/-! ## finding `merged-mapping-host-addresses-reordered`

`override.convertIntoSequence` turns the mapping spelling of `extra_hosts` into `host=ip` lines and **sorts the lines**
(needed across hosts: Go map order), which also reorders the addresses of ONE host.  The list spelling is taken as it
is.  So the two spellings of `h1 ↦ [fe80::1, 10.0.0.1]`, equal when loaded alone, differ as soon as a second document
touches the attribute.  Replayed on the real code on every run: corpus/C03/extra-hosts-merged-address-order.json. -/

/-- alone the two spellings decode to the same `HostsList`; merged with the second document `{h1: 9.9.9.9}` by the model
of `mergeExtraHosts` they give two sequences that decode to different `HostsList`s -/
theorem extra_hosts_merged_short_ne_long (mk : Val.KVs → Val.KVs → TPath → Merge.Out Val.KVs) (p : TPath) :
    decodeHosts (.seq [.str "h1=fe80::1,10.0.0.1"]) = decodeHosts (.map [("h1", .seq [.str "fe80::1", .str "10.0.0.1"])])
    ∧ Merge.specialStep mk .extraHosts (.seq [.str "h1=fe80::1,10.0.0.1"]) (.map [("h1", .str "9.9.9.9")]) p
        = .ok (.seq [.str "h1=fe80::1,10.0.0.1", .str "h1=9.9.9.9"])
    ∧ Merge.specialStep mk .extraHosts (.map [("h1", .seq [.str "fe80::1", .str "10.0.0.1"])]) (.map [("h1", .str "9.9.9.9")]) p
        = .ok (.seq [.str "h1=10.0.0.1", .str "h1=fe80::1", .str "h1=9.9.9.9"])
    ∧ decodeHosts (.seq [.str "h1=fe80::1,10.0.0.1", .str "h1=9.9.9.9"])
        = some (.map [("h1", .seq [.str "fe80::1", .str "10.0.0.1", .str "9.9.9.9"])])
    ∧ decodeHosts (.seq [.str "h1=10.0.0.1", .str "h1=fe80::1", .str "h1=9.9.9.9"])
        = some (.map [("h1", .seq [.str "10.0.0.1", .str "fe80::1", .str "9.9.9.9"])]) := by
  refine ⟨by decide +kernel, by rfl, by rfl, by decide +kernel, by decide +kernel⟩

/-- the negation of "short ≡ long survives the merger" for `extra_hosts` with several addresses per host -/
theorem extra_hosts_merged_short_eq_long_false :
    ¬ (∀ (e₁ e₂ o : Val) (p : TPath), decodeHosts e₁ = decodeHosts e₂ →
        ∀ m₁ m₂, Merge.specialStep (Merge.mergeKVs 8) .extraHosts e₁ o p = .ok m₁ →
          Merge.specialStep (Merge.mergeKVs 8) .extraHosts e₂ o p = .ok m₂ → decodeHosts m₁ = decodeHosts m₂) := by
  intro h
  obtain ⟨h0, h1, h2, h3, h4⟩ := extra_hosts_merged_short_ne_long (Merge.mergeKVs 8) []
  have := h _ _ _ [] h0 _ _ h1 h2
  rw [h3, h4] at this
  simp at this

end CV.Short.Neg
