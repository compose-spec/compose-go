import ComposeVerif.Props.C14
/-!
# C14 — proved negations: `Confined`, `deep` and `covers` are necessary

These are concrete witnesses.  `receiver_escape_breaks_isolation` is the shape of the defect that
`Project.WithoutUnnecessaryResources` had before the `fix:` commit (it stored the *receiver's* resource values, whose
maps are the receiver's, into the result); the real-code replay is `corpus/C14/without-unnecessary-resources-alias.json`.
-/
namespace CV.Heap

/-- receiver: a project with one network whose labels map lives at address 2 -/
def negRecv : GoVal := .struct [(.fld 0, .map 1 [(.str "net", .struct [(.fld 1, .map 2 [(.str "l", .scalar "s:v")])])])]
def negTy : Ty := .struct [(0, .map (.struct [(1, .map .scalar)]))]
def negPlan : Plan := .fields [(0, .newMap (.fields [(1, .newMap .assign)]))]

/-- `networks[k] = p.Networks[k]`: the new map (address 3, the copy's) receives the receiver's network value -/
def negWrites : List (Nat × Cell) := [(3, .kids [(.str "net", .struct [(.fld 1, .map 2 [(.str "l", .scalar "s:v")])])])]

/-- without `Confined` (a derivation that stores a value read from the *receiver* into the copy) the result shares the
receiver's memory, and a write through the result then changes the receiver: `derivation_isolated` needs its hypothesis. -/
theorem receiver_escape_breaks_isolation :
    hasTy negTy negRecv = true ∧ deep negTy negPlan = true ∧ covers negTy negPlan = true ∧
    2 ∈ addrs (writes negWrites (exec negPlan negRecv 3).1) ∧ 2 ∈ addrs negRecv ∧
    write 2 (.kids [(.str "l", .scalar "s:mutated")]) negRecv ≠ negRecv := by
  refine ⟨by decide, by decide, by decide, by decide, by decide, ?_⟩
  simp [negRecv, write, writeKids]

/-- a shallow plan (assignment of a map-typed field) is not `deep`, and its result shares the map -/
theorem shallow_plan_shares :
    deep negTy (.fields [(0, .assign)]) = false ∧ covers negTy (.fields [(0, .assign)]) = true ∧
    1 ∈ addrs (exec (.fields [(0, .assign)]) negRecv 3).1 := by
  decide

/-- a plan that misses a field (a struct field added without regenerating the copy code) does not `cover`, and the copy
loses the field's value -/
theorem uncovered_field_is_lost :
    covers negTy (.fields []) = false ∧ deep negTy (.fields []) = true ∧
    erase (exec (.fields []) negRecv 3).1 ≠ erase negRecv := by
  refine ⟨by decide, by decide, ?_⟩
  simp [negRecv, exec, execFields, lookupPlan, zero, erase, eraseKids]

end CV.Heap
