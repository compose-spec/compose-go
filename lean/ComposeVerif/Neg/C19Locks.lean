import ComposeVerif.Model.Locked
/-!
# C19 — proved negations: the same critical sections WITHOUT the mutex (`locked := false`)

Concrete witnesses, each evaluated by the kernel.  They are what `Props/C19Locks.lean` excludes for the code as it is, and what
removing `versionWarningMu` / `t.mu` (or moving a read out of the locked region) would bring back.
-/
namespace CV.Locked

def negFiles : Bool → List String := fun b => if b then ["b.yml"] else ["a.yml"]

/-- both goroutines read `versionWarning` before either stores its append -/
def negRun : List (Label Bool) :=
  [.lock false, .read false, .lock true, .read true, .write false, .write true, .unlock false, .unlock true]

/-- **lost update**: without the mutex both appends run (`hist` has two entries, both goroutines are through) and
    `versionWarning` holds ONE file — the full-strength "no append is lost" fails for the unprotected sections -/
theorem unlocked_loses_update :
    ((run false (init (fun t => warnProg (negFiles t)) ([], [])) negRun).map fun s =>
      (s.mem.1, (s.rest false).length, (s.rest true).length, s.hist)) = some (["b.yml"], 0, 0, [false, true]) := by
  decide +kernel

/-- the same schedule is refused by the locked system: the second `Lock()` blocks -/
theorem locked_refuses_that_schedule :
    (run true (init (fun t => warnProg (negFiles t)) ([], [])) negRun).isNone = true := by
  decide +kernel

/-- **data race**: without the mutex a state is reachable in which one goroutine's write and the other's read of the
    guarded state are enabled together -/
theorem unlocked_races :
    ((run false (init (fun t => warnProg (negFiles t)) ([], [])) [.lock false, .read false, .lock true]).map fun s =>
      ((step? false s (.write false)).isSome, (step? false s (.read true)).isSome)) = some (true, true) := by
  decide +kernel

/-- `enter` without `t.mu` (the section is `enterG 0` of `Lemmas/LockedSections.lean`, written out): caller and coordinator both
    find vertex 0 absent and both store `entered` — two entries in `hist`: the vertex is visited twice -/
theorem unlocked_enter_wins_twice :
    ((run false (init (fun _ : Bool => [fun (m : (Nat → Status) × List Nat) =>
        (enterF 0 m.1, if m.1 0 = .absent then m.2 ++ [0] else m.2)]) (fun _ => .absent, [])) negRun).map fun s =>
      (s.hist, s.mem.1 0)) = some ([false, true], .entered) := by
  decide +kernel

end CV.Locked
