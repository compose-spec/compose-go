import ComposeVerif.Model.PathsSymlink
import ComposeVerif.Model.PathsLoaders
import ComposeVerif.Lemmas.PathsVectors
/-!
# C12 — statements the tree falsified before the repairs (concrete witnesses, evaluated by the kernel)

Included and extended files are resolved in two stages: first against a directory *relative to the
project directory* (`sub`, `../sib`, …), then — with the rest of the model — against the project
directory.  Before `fix: a path made relative to the project directory by the first resolution stage … keeps a
leading ./` the second stage re-read the value the first stage wrote: an intermediate value that starts
with `~`, looks like a remote build context, or looks Windows-absolute took the exemption branch of the second
stage and the path was anchored at the wrong place.  `absPathStr₀`, `absContextStr₀`, `maybeUnixStr₀` are the
resolvers as they were (plain `filepath.Join`); the witnesses below show that "two-stage = one-stage against
the joined directory" was false for them.  For the repaired resolvers the statement is a theorem
(`Props/C12.lean`: `resolve_compose`, `resolve_compose_context`, `resolve_compose_mount`, `resolve_compose_tree`)
and the same inputs are kept in corpus/C12 as regression cases.
-/
namespace CV.Paths.Neg
open CV.Paths

/-- `absPath` before the repair -/
def absPathStr₀ (cfg : Cfg) (s : Str) : Str :=
  let v := expandUser cfg.home s
  if isAbs v then v
  else if v ≠ [] then join cfg.wd v
  else v

/-- `maybeUnixPath` before the repair -/
def maybeUnixStr₀ (cfg : Cfg) (s : Str) : Out Str :=
  let p := expandUser cfg.home s
  if isAbs p then .ok p
  else match isWindowsAbs? p with
    | none => .panic "isWindowsAbs"
    | some true => .ok p
    | some false => .ok (join cfg.wd p)

/-- `absContextPath` before the repair -/
def absContextStr₀ (cfg : Cfg) (s : Str) : Str :=
  if containsStr schemeSep s then s
  else if isRemoteContext s then s
  else absPathStr₀ cfg s

/-- a directory named `~`: `x` from an included/extended file in `./~/` ended up in the home directory -/
theorem compose_failed_tilde_dir :
    absPathStr₀ ⟨W, H, fun _ => false, some⟩ (absPathStr₀ ⟨['~'], H, fun _ => false, some⟩ ['x'])
      ≠ absPathStr₀ ⟨join W ['~'], H, fun _ => false, some⟩ ['x'] := by decide +kernel

/-- a value written `./~` in a file of the project directory itself: stage 1 stripped the `./` guard -/
theorem compose_failed_dot_tilde :
    absPathStr₀ ⟨W, H, fun _ => false, some⟩ (absPathStr₀ ⟨['.'], H, fun _ => false, some⟩ ['.', '/', '~'])
      ≠ absPathStr₀ ⟨join W ['.'], H, fun _ => false, some⟩ ['.', '/', '~'] := by decide +kernel

def gh : Str := ['g', 'i', 't', 'h', 'u', 'b', '.', 'c', 'o', 'm']

/-- build context `.` of a file in `./github.com/…`: stage 2 took `github.com/x` for a remote context -/
theorem compose_failed_remote_dir :
    absContextStr₀ ⟨W, H, fun _ => false, some⟩ (absContextStr₀ ⟨gh, H, fun _ => false, some⟩ ['x'])
      ≠ absContextStr₀ ⟨join W gh, H, fun _ => false, some⟩ ['x'] := by decide +kernel

/-- build context written `./github.com/x` in a file of the project directory itself -/
theorem compose_failed_dot_remote :
    absContextStr₀ ⟨W, H, fun _ => false, some⟩ (absContextStr₀ ⟨['.'], H, fun _ => false, some⟩ (['.', '/'] ++ gh ++ ['/', 'x']))
      ≠ absContextStr₀ ⟨join W ['.'], H, fun _ => false, some⟩ (['.', '/'] ++ gh ++ ['/', 'x']) := by decide +kernel

/-- a directory named `C:`: the bind source `x` became `C:/x`, which stage 2 left alone as Windows-absolute -/
theorem compose_failed_drive_dir :
    (maybeUnixStr₀ ⟨['C', ':'], H, fun _ => false, some⟩ ['x']).bind (maybeUnixStr₀ ⟨W, H, fun _ => false, some⟩)
      ≠ maybeUnixStr₀ ⟨join W ['C', ':'], H, fun _ => false, some⟩ ['x'] := by decide +kernel

/-- the same inputs through the repaired resolvers: the first stage keeps a leading `./` -/
theorem repaired_tilde_dir :
    absPathStr ⟨['~'], H, fun _ => false, some⟩ ['x'] = ['.', '/', '~', '/', 'x'] ∧
    absPathStr ⟨W, H, fun _ => false, some⟩ ['.', '/', '~', '/', 'x'] = ['/', 'w', '/', '~', '/', 'x'] := by decide +kernel

/-! ## `utils.ResolveSymbolicLink` before the repair (first symbolic link only) was not a projection -/

/-- `a → b`, `b/c → d` (both targets physical) -/
def nestedLinks : Sym.FS := Sym.ofTable [([['a']], some [['b']]), ([['b'], ['c']], some [['d']])]

/-- resolving `a/c/x` gave `b/c/x`; resolving that again gave `d/x` (finding `nonidempotent:develop.watch:nested-symlink`);
the repaired loop returns `d/x` at once -/
theorem resolveSymOnce_not_idempotent :
    Sym.resolveSymOnce nestedLinks [['a'], ['c'], ['x']] = .ok [['b'], ['c'], ['x']] ∧
    Sym.resolveSymOnce nestedLinks [['b'], ['c'], ['x']] = .ok [['d'], ['x']] ∧
    Sym.resolveSym nestedLinks [['a'], ['c'], ['x']] = .ok [['d'], ['x']] := by decide +kernel

/-! ## a symbolic link in the working directory of the *process* moved the watch paths of included files

Before `fix: utils.ResolveSymbolicLink leaves a relative path alone …` the components of the relative first-stage result
(`b/x` for `path: x` in a file of the directory `b`) were `Lstat`ed from the working directory of the process.
`cwdLink`: that directory holds a link `b → /e` (the answer to an absolute path is the identity here: no other link).
It satisfies the second condition of `SymOK` but not the first, and two-stage = one-stage fails. -/

def cwdLink (s : Str) : Option Str :=
  if s = ['b', '/', 'x'] then some ['/', 'e', '/', 'x'] else some s

/-- what `absSymbolicLink` computes on a string when its link resolution is `sym` (given apart from `cfg.sym`) -/
def watchStr (sym : Str → Option Str) (cfg : Cfg) (s : Str) : Option Str := sym (absPathStr cfg s)

/-- `path: x` in an included file of the directory `b`, project directory `/w`: the loaded watch path was `/e/x`,
the property says `/w/b/x` -/
theorem compose_failed_cwd_symlink :
    (watchStr cwdLink ⟨['b'], H, fun _ => false, cwdLink⟩ ['x']).bind (watchStr cwdLink ⟨W, H, fun _ => false, cwdLink⟩)
        = some ['/', 'e', '/', 'x'] ∧
    watchStr cwdLink ⟨join W ['b'], H, fun _ => false, cwdLink⟩ ['x'] = some ['/', 'w', '/', 'b', '/', 'x'] := by decide +kernel

/-- the repaired function does not consult anything for the relative path: same input, both ways `/w/b/x` -/
theorem repaired_cwd_symlink :
    (watchStr (Sym.resolveStr (Sym.ofTable [])) ⟨['b'], H, fun _ => false, some⟩ ['x']).bind
        (watchStr (Sym.resolveStr (Sym.ofTable [])) ⟨W, H, fun _ => false, some⟩)
      = watchStr (Sym.resolveStr (Sym.ofTable [])) ⟨join W ['b'], H, fun _ => false, some⟩ ['x'] := by decide +kernel

/-! ## a `RemoteResourceLoaders` that returns a sub-slice of its argument (seed C12-7)

`Loaders.child_keeps_every_slice` / `siblings_independent` hold because `RemoteResourceLoaders` builds a fresh list.
With the "no need to copy" variant (`remoteLoadersSub`: the slice without its trailing local loader) the child's
`append` finds capacity in the PARENT's array and overwrites the parent's local loader: options `[remote 1, local /w]`,
one nested load for `/w/a` — the parent now reads `[remote 1, local /w/a]`, and the next include entry is looked up
from `/w/a`.  Replayed on the real code by `c12.multi` / `c12.loaders` (on the unchanged tree the observation holds). -/
open Loaders in
theorem subslice_child_clobbers_parent :
    let m := alloc Heap.empty [some (.remote 1)] 0
    let o := toOptions m.1 m.2 ['/', 'w']
    let c := childLoadersSub o.1 o.2 ['/', 'w', '/', 'a']
    read o.1 o.2 = [some (.remote 1), some (.loc ['/', 'w'])] ∧
    read c.1 o.2 = [some (.remote 1), some (.loc ['/', 'w', '/', 'a'])] ∧
    localDir (read c.1 o.2) ≠ localDir (read o.1 o.2) := by decide +kernel

open Loaders in
/-- the same inputs with the real `RemoteResourceLoaders`: the parent is left alone -/
theorem fresh_child_keeps_parent :
    let m := alloc Heap.empty [some (.remote 1)] 0
    let o := toOptions m.1 m.2 ['/', 'w']
    let c := childLoaders o.1 o.2 ['/', 'w', '/', 'a']
    read c.1 o.2 = [some (.remote 1), some (.loc ['/', 'w'])] ∧
    read c.1 c.2 = [some (.remote 1), some (.loc ['/', 'w', '/', 'a'])] := by decide +kernel

end CV.Paths.Neg
