import ComposeVerif.Spec.Frame
import ComposeVerif.Lemmas.Merge
/-!
# C04 — the frame law for every service name is false (service names starting with `x-`)

Full-strength statement: *for every service and attribute name*, a later file that does not mention
`services.<svc>.<attr>` leaves it unchanged.  `mergeMappings` replaces the value of every key that starts with `x-` as a
whole (`strings.HasPrefix(k, "x-")`), also where the key is a user-chosen name: the later file's `x-web` mapping
replaces the earlier one and `image`, which it never mentions, is lost.  The provable statement is
`CV.C04.service_attr_frame_partial` (names not starting with `x-`).  The same input fails on the real loader
(`corpus/C04/finding-xprefix-service-replaced.json`, key `xprefix-name-replaced:services`).
-/
namespace CV.C04.Neg
open CV CV.Val CV.Merge CV.Override

theorem xprefix_service_is_replaced :
    merge (.map [("services", .map [("x-web", .map [("image", .str "nginx"), ("command", .str "a")])])])
          (.map [("services", .map [("x-web", .map [("command", .str "b")])])])
      = .ok (.map [("services", .map [("x-web", .map [("command", .str "b")])])]) := by decide +kernel

theorem not_service_attr_frame :
    ¬ (∀ (base over m v : Val) (svc attr : String), merge base over = .ok m →
        getPath base ["services", svc, attr] = some v → Unmentioned over ["services", svc, attr] →
        getPath m ["services", svc, attr] = some v) := by
  intro h
  have := h (.map [("services", .map [("x-web", .map [("image", .str "nginx"), ("command", .str "a")])])])
    (.map [("services", .map [("x-web", .map [("command", .str "b")])])])
    (.map [("services", .map [("x-web", .map [("command", .str "b")])])]) (.str "nginx") "x-web" "image"
    xprefix_service_is_replaced (by rfl) (by simp [Unmentioned, keys, lookup])
  simp [getPath, lookup] at this

end CV.C04.Neg
