import ComposeVerif.Lemmas.ExceptDecEq
import ComposeVerif.Lemmas.EnvLayers
/-!
# C16 — the optional env file under a regular file, and the loader before the `fix:` commit

"A missing env file is an error unless marked not required."  At full strength, *missing* means that no file exists at
the path.  A `loadEnvFile` that decides it with `os.IsNotExist(err)` on the error of `os.Stat` — the code before the
`fix:` commit `87fc5a1` — misses ENOTDIR: an env file `required: false` whose path lies *under a regular file*
(`a.env/x` where `a.env` is a file) is not skipped, the load fails with "open …: not a directory".  The code tests
`fileIsMissing` (`fs.ErrNotExist` or `ENOTDIR`), so does the model, and the statement is proved at full strength
(`missing_optional_skipped` in `Props/C16.lean`).

This file keeps the pre-fix loader (`loadEnvFilePre`) and the witness on which it violates the statement; the same input
is replayed on the real code on every run (`corpus/C16/optional-under-file.json`).
-/
namespace CV.EnvLayers.Neg
open CV.EnvLayers CV.EnvLayers.Spec

/-- `loadEnvFile` before the fix: only ENOENT (`fs p = none`) counted as missing -/
def loadEnvFilePre (fs : FS) (f : EnvFile) (look : Look) : Except Err (List (Key × Str)) :=
  match fs f.path with
  | none => if f.required then .error .notFound else .ok []
  | some .notdir => .error .read          -- went on to `os.Open`: "not a directory"
  | some _ => loadMappingFile fs f.path f.format look

def loadEnvFilesPre (penv : List (Key × Str)) (fs : FS) : List EnvFile → List (Key × Str) → Except Err (List (Key × Str))
  | [], acc => .ok acc
  | f :: r, acc =>
    match loadEnvFilePre fs f (envChain penv acc) with
    | .error e => .error e
    | .ok vars => loadEnvFilesPre penv fs r (overrideBy acc vars)

/-- `a.env` is a regular file, the service lists `a.env/x` with `required: false` -/
def witnessFS : FS := { node := fun p =>
  if p = ['a', '.', 'e', 'n', 'v'] then some (.file [.assign ['A'] [.lit ['1']]])
  else if p = ['a', '.', 'e', 'n', 'v', '/', 'x'] then some .notdir
  else none }

def witnessFile : EnvFile := ⟨['a', '.', 'e', 'n', 'v', '/', 'x'], false, []⟩

theorem witness_missing : Missing witnessFS witnessFile.path ∧ witnessFile.required = false :=
  ⟨Or.inr rfl, rfl⟩

theorem witness_failed_pre : loadEnvFilesPre [] witnessFS [witnessFile] [] = .error .read := by
  decide +kernel

/-- `loadEnvFiles` skips the same input -/
theorem witness_skipped_now : loadEnvFiles [] witnessFS [witnessFile] [] = .ok [] := by
  decide +kernel

theorem missing_optional_skipped_false_pre : ¬ MissingOptionalSkipped loadEnvFilesPre := by
  intro h
  have e := h [] witnessFS [] [] witnessFile [] witness_missing.1 witness_missing.2
  rw [List.nil_append, witness_failed_pre] at e
  cases e

end CV.EnvLayers.Neg

namespace CV.EnvLayers
open CV.EnvLayers.Spec

/-- the ENOTDIR kind of the hypothesis of `missing_optional_skipped` -/
example : Missing Neg.witnessFS Neg.witnessFile.path := Neg.witness_missing.1

end CV.EnvLayers
