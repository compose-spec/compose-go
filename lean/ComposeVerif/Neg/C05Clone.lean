import ComposeVerif.Lemmas.ExtendsClone
/-!
# What `deepClone` must not be: the two seeded slips, refuted on the heap model

`cloneShallowMap` (`cp[k] = e`: values of a mapping are not cloned) and `cloneInPlaceSeq` (`v[i] = deepClone(e); return
v`: the backing array of a list is reused) both return a value *equal* to the base — every value-level statement about
`extends` still holds of them — but the result shares a container with the base, and a write through it changes the base.
The statements `Props/C05Clone.lean` proves of `clone` are false of these.
-/
namespace CV.Extends.Clone.Neg
open CV CV.Extends.Clone

/-- what `mergeMappings` writes into the clone's `healthcheck` when the extending service adds `interval` -/
def merged : HVal := .map 0 [("test", .leaf (.str "t")), ("interval", .leaf (.str "5s"))]

/-- the shallow clone has the same value as the base, but shares the base's `healthcheck` (`shallow_shares`) … -/
theorem shallow_same_value : erase (cloneShallowMap 2 base).1 = erase base := rfl

/-- … so the in-place merge into the clone shows up in the base: the base now has `interval` -/
theorem shallow_write_reaches_base :
    erase (write 1 merged base) =
      .map [("healthcheck", .map [("test", .str "t"), ("interval", .str "5s")])] := rfl

theorem inplace_same_value : erase (cloneInPlaceSeq 2 baseL).1 = erase baseL := rfl

/-- a sibling's append within capacity (a write to the array at 1) is seen by the base and by every other clone -/
theorem inplace_write_reaches_base :
    erase (write 1 (.seq 0 [.leaf (.str "A"), .leaf (.str "B"), .leaf (.str "SIBLING")]) baseL) =
      .map [("cap_add", .seq [.str "A", .str "B", .str "SIBLING"])] := rfl

end CV.Extends.Clone.Neg
