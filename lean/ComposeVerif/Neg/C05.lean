import ComposeVerif.Lemmas.ExtendsExample
/-!
# C05 — falsified statements, and the runs that witness them (checked by evaluation; fixtures in `Lemmas/ExtendsExample.lean`)

The pre-fix model `Pre.*` with the two runs that differ by visit order; the same runs on the present model, where both
orders succeed (`order_cb_value`, `order_cb_ok`, `order_bc_ok`); a `null` base; malformed references.

1. **Pre-fix** (`Pre.*`, the model of the tracker as it was): `acyclic_ok` / `applyExtends_perm` at full
   strength were false — an acyclic chain that passes twice through services of the same *name* in
   different files was rejected as "Circular reference", and only in some visit orders of the services map
   (the tracker was fed `(referenced file, extending service's name)`, with the main file's name for every
   same-file step).  Repaired by `fix: the extends cycle tracker records the file the extending service
   lives in`; both theorems hold (`Props/C05.lean`), `order_bc_ok` below is the same witness on the present
   model, corpus/C05/false-circular.json and order-dependent-circular.json replay it on the real code as
   regressions.
2. `no_extends_left` without the `NoNull` hypothesis: a `null` base leaves the extending service
   untouched, `extends` included (masked in whole loads: the schema rejects a `null` service).
3. (C01's finding, repaired by `fix: extends with a non-string service or file is reported as an error
   instead of panicking`) `extends: {file: f}` without `service` panicked before that commit; it is an
   error — `extends_without_service_is_error`.
-/
namespace CV.Extends.Neg
open CV CV.Val CV.Extends

/-! ## the pre-fix tracker (the code before `fix: the extends cycle tracker records the file the extending
service lives in`): the key was `(referenced file, extending name)`, with the *main* file's name for every
same-file step.  `Pre.*` is the model of that code, kept so that the recorded defect stays a checked statement. -/
namespace Pre

def resolveBase (E : Env) (name ref : String) (file : Option String) (services : KVs) : Out (KVs × Key × Bool) :=
  match file with
  | none =>
    match lookup ref services with
    | none => .err "notFound"
    | some _ => .ok (services, (E.mainFile, name), true)
  | some f =>
    match baseFromFile E.fs f ref with
    | .ok svcs => .ok (svcs, (f, name), false)
    | .err c => .err c
    | .panic s => .panic s

def applySvc (E : Env) : Nat → String → KVs → List Key → Out (Val × KVs)
  | 0, _, _, _ => .panic fuelMark
  | fuel + 1, name, services, tr =>
    match lookup name services with
    | none => .ok (.null, services)
    | some .null => .ok (.null, services)
    | some (.map svc) =>
      (match lookup "extends" svc with
      | none => .ok (.map svc, services)
      | some e =>
        match parseExtends e with
        | .panic s => .panic s
        | .err c => .err c
        | .ok (ref, file) =>
          match resolveBase E name ref file services with
          | .panic s => .panic s
          | .err c => .err c
          | .ok (svcs, key, same) =>
            match trackerAdd tr key with
            | none => .err "circular"
            | some tr' =>
              match applySvc E fuel ref svcs tr' with
              | .panic s => .panic s
              | .err c => .err c
              | .ok (base, svcs') =>
                match base with
                | .null => .ok (.map svc, if same then svcs' else services)
                | .map b =>
                  (match E.extend b svc with
                  | .panic s => .panic s
                  | .err c => .err c
                  | .ok m =>
                    .ok (.map (erase "extends" m),
                         if same then insert name (.map (erase "extends" m)) svcs' else services))
                | _ => .panic panicSite)
    | some _ => .err "serviceNotMapping"

def applyAll (E : Env) (fuel : Nat) : List String → KVs → Out KVs
  | [], S => .ok S
  | n :: ns, S =>
    match applySvc E fuel n S [] with
    | .ok (v, S') => applyAll E fuel ns (insert n v S')
    | .err c => .err c
    | .panic s => .panic s

def applyExtendsOrd (E : Env) (order : List String) (dict : KVs) : Out KVs :=
  match lookup "services" dict with
  | none => .ok dict
  | some (.map S) =>
    match applyAll E (fuelFor E S) order S with
    | .ok S' => .ok (insert "services" (.map S') dict)
    | .err c => .err c
    | .panic s => .panic s
  | some _ => .err "servicesNotMapping"

/-- pre-fix: visiting `c` first succeeds … -/
theorem order_cb_ok : isOk (applyExtendsOrd env ["c", "b"] dict) = true := by decide +kernel

/-- … pre-fix: visiting `b` first reports a cycle that does not exist -/
theorem order_bc_circular : isErr "circular" (applyExtendsOrd env ["b", "c"] dict) = true := by decide +kernel

/-- `acyclic_ok` and the full-strength `applyExtends_perm` were false before the fix -/
theorem applyExtends_perm_fails :
    ¬ (∀ (E : Env) (d : KVs) (o₁ o₂ : List String), o₁.Perm o₂ →
        isOk (applyExtendsOrd E o₁ d) = isOk (applyExtendsOrd E o₂ d)) := by
  intro h
  have := h env dict ["c", "b"] ["b", "c"] (List.Perm.swap ..)
  rw [order_cb_ok] at this
  have hbc := order_bc_circular
  cases hr : applyExtendsOrd env ["b", "c"] dict <;> rw [hr] at this hbc <;> cases this
  cases hbc

end Pre

/-- on the present model the order `c`, `b` resolves `b` to own-then-inherited attributes, without `extends` … -/
theorem order_cb_value :
    (match applyExtendsOrd env ["c", "b"] dict with
     | .ok out => (match lookup "services" out with
        | some (.map R) => (match lookup "b" R with
          | some (.map m) => (strAt "image" m == "ib") && (strAt "cap_add" m == "CAP_BO")
                               && (lookup "extends" m).isNone
          | _ => false)
        | _ => false)
     | _ => false) = true := by decide +kernel

theorem order_cb_ok : isOk (applyExtendsOrd env ["c", "b"] dict) = true := by
  have h := order_cb_value
  cases hr : applyExtendsOrd env ["c", "b"] dict <;> rw [hr] at h <;> first | rfl | cases h

/-- … and the order the pre-fix tracker rejected succeeds as well -/
theorem order_bc_ok : isOk (applyExtendsOrd env ["b", "c"] dict) = true := by decide +kernel

/-- a `null` base: the extending service keeps its `extends` attribute -/
def dictNull : KVs :=
  [("services", .map [("a", .map [("extends", .str "b"), ("image", .str "ia")]), ("b", .null)])]

theorem null_base_keeps_extends :
    (match applyExtendsOrd env ["a", "b"] dictNull with
     | .ok out => (match lookup "services" out with
        | some (.map R) => (match lookup "a" R with
          | some (.map m) => (lookup "extends" m).isSome
          | _ => false)
        | _ => false)
     | _ => false) = true := by decide +kernel

/-- `extends: {file: o.yaml}` without `service`: an error (a panic before `fix: extends with a non-string service or file …`) -/
def dictNoService : KVs :=
  [("services", .map [("a", .map [("extends", .map [("file", .str "o.yaml")]), ("image", .str "ia")])])]

theorem extends_without_service_is_error :
    isErr "extendsServiceNotString" (applyExtendsOrd env ["a"] dictNoService) = true := by decide +kernel

/-- a non-string `file` likewise -/
def dictBadFile : KVs :=
  [("services", .map [("a", .map [("extends", .map [("service", .str "b"), ("file", .int 1)]), ("image", .str "ia")])])]

theorem extends_nonstring_file_is_error :
    isErr "extendsFileNotString" (applyExtendsOrd env ["a"] dictBadFile) = true := by decide +kernel

end CV.Extends.Neg
