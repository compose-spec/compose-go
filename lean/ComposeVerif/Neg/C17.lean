import ComposeVerif.Lemmas.NameExamples
/-!
# C17 — boundaries of the property, proved on concrete witnesses

The property speaks about "every option order the API documents".  Three stronger readings are *false* for the
code that exists; they are recorded here (and replayed on the real code from `corpus/C17/`, where the model and
the implementation agree on them) so that nobody mistakes the proved theorems for the stronger statements.
None is a defect with respect to the property text.
-/
namespace CV.Name.Neg
open CV CV.Name

/-- "OS variables over .env files" does NOT hold for every order of the option calls: `WithDotEnv` called
    before `WithOsEnv` lets the file value win (the general law is `env_any_option_order`) -/
theorem os_over_dotenv_in_any_order_is_false :
    ¬ (∀ opts : List Opt, Opt.withOsEnv ∈ opts → varOf "V" (run negW opts) = some "o" ∨ varOf "V" (run negW opts) = none) := by
  intro h
  exact absurd (h [.withEnvFiles (strs ["a"]), .withDotEnv, .withOsEnv] (by decide)) (by decide +kernel)

/-- a reference in a later env file does NOT see the later file's own override first: `$X` on a line of `b`
    placed after `X=2` resolves to the EARLIER file's `X=1` (lookup chain: project environment, earlier files,
    earlier lines — `dotenv_refs_above`), although the final value of `X` is 2 -/
theorem ref_sees_own_file_first_is_false :
    ¬ (varOf "S" (run negW [.withEnvFiles (strs ["a", "b"]), .withDotEnv]) = varOf "X" (run negW [.withEnvFiles (strs ["a", "b"]), .withDotEnv])) := by
  decide +kernel

/-- the position of `WithEnv` relative to `WithDotEnv` DOES matter (unlike its position relative to `WithOsEnv`,
    `withEnv_withOsEnv_commute`, and unlike the position of `WithName`, `withName_commutes`): called after
    `WithDotEnv`, the explicit `X=9` still wins for `X` itself (`explicit_over_all`), but the reference `S=$X` in an
    env file was already resolved without it (to the earlier file's `X=1`); called before, `S` is `9`.  "`.env` values
    may reference the variables above them" is a statement about the documented order -/
theorem withEnv_position_irrelevant_is_false :
    ¬ (varOf "S" (run negW [.withEnv (strs ["X=9"]), .withEnvFiles (strs ["a", "b"]), .withDotEnv]) =
       varOf "S" (run negW [.withEnvFiles (strs ["a", "b"]), .withDotEnv, .withEnv (strs ["X=9"])])) := by
  decide +kernel

end CV.Name.Neg
