import ComposeVerif.Props.C10
import ComposeVerif.Model.C10Pipeline
/-!
# C10 — "every `service:` reference is checked under every option set" is false under `SkipNormalization`

`checkConsistency` itself reads only `network_mode: service:x`; the references of `ipc`, `pid`, `uts`, `cgroup`, `links` and
`volumes_from` are checked *because* `Normalize` turns them into `depends_on` entries first (`implicit_references_checked`).
With `SkipNormalization` (and both checks on) that completion has not happened: a dangling `ipc: service:ghost` loads.
The provable statement is the one with normalization on (`implicit_references_checked_normalized`).  By design of the
option, not repaired; replayed on the real loader by the `opts:model:*` cases of the stream `c10.optload`
(`serviceRef:ipc@main+SkipNormalization` …: real and model both accept) and corpus/C10/skipnormalization-ipc-ghost.json.
-/
namespace CV.Consistency.Neg
open CV CV.Consistency CV.C10Whole

/-- one service, `ipc: service:ghost`, nothing else -/
def ghostRefs : RawRefs := { namespaces := ["service:ghost"] }
def ghostProj (skipNormalization : Bool) : Proj :=
  { services := [("t", { image := "i", dependsOn := depsSeen skipNormalization ghostRefs })] }

theorem not_implicit_references_checked_skipNormalization :
    ¬ (∀ (skip : Bool) (p : Proj) (n : String) (s : Svc) (r : RawRefs), (n, s) ∈ p.services →
        s.dependsOn = depsSeen skip r → checkConsistency p = none → ∀ x ∈ implicitRefs r, x ∈ p.enabled ∨ x ∈ p.disabled) := by
  intro h
  have := h true (ghostProj true) "t" { image := "i", dependsOn := depsSeen true ghostRefs } ghostRefs
    (by decide +kernel) rfl (by decide +kernel) "ghost" (by decide +kernel)
  revert this
  decide +kernel

/-- with normalization on the same model is rejected -/
theorem witness_rejected_when_normalized : checkConsistency (ghostProj false) ≠ none := by decide +kernel

/-- the provable version: normalization on -/
theorem implicit_references_checked_normalized (p : Proj) (n : String) (s : Svc) (r : RawRefs) (hs : (n, s) ∈ p.services)
    (hd : s.dependsOn = depsSeen false r) (h : checkConsistency p = none) :
    ∀ x ∈ implicitRefs r, x ∈ p.enabled ∨ (x ∈ p.disabled ∧ (x, false) ∈ r.dependsOn) :=
  implicit_references_checked p n s r hs hd h

end CV.Consistency.Neg
