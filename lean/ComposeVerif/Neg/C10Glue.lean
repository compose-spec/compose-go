import ComposeVerif.Props.C10Glue
/-!
# C10 — a plausible statement about whole loads that the tree falsifies (by design of `include`)

"A model whose merge result passes every structural rule and whose project is consistent loads" is **false** as soon as
projects are included: an included project is validated on its own before it is merged, so a violation inside it
rejects the load even when a later file of the including project removes it (`!reset`).  The provable statement is
`Glue.loadWithIncludes_ok_iff` (the included projects appear in it).  Witness replayed on the real loader:
corpus/C10/include-violation-repaired-by-reset.json and the `glue:repaired-by-reset:*` cases of `c10.glue`.
-/
namespace CV.Consistency.Neg
open CV CV.Consistency CV.Consistency.Glue CV.Validate

theorem load_not_decided_by_merge_result :
    ¬ (∀ (incs : List Val) (t : Val) (p : Proj), p.enabled.Nodup → ValidTree t → ConsistentFull p →
        ∃ p', loadWithIncludes {} incs t p = .ok p') := by
  intro h
  obtain ⟨p', hp⟩ := h [twoSources'] Validate.exampleTree exampleProj exampleProj_nodup
    ((validate_iff _).mp validate_exampleTree) consistentFull_exampleProj
  rw [load_example_included_violation] at hp
  cases hp

/-- the same tree and project without the included project load -/
theorem witness_loads_without_include :
    loadWithIncludes {} [] Validate.exampleTree exampleProj = .ok (postState exampleProj) := mainChecks_example

end CV.Consistency.Neg
