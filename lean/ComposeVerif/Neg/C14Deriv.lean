import ComposeVerif.Props.C14Deriv
/-!
# C14 — proved negations for the heap programs

`WithoutUnnecessaryResources` as it was before the `fix:` commit (the kept values are read from the receiver) is a
program of the statement language too: it is *not* receiver free, and on a five-cell project its result reaches the
receiver's labels map.  (Real-code replay: `corpus/C14/without-unnecessary-resources-alias.json` on the pre-fix tree.)
-/
namespace CV.Heap

theorem old_withoutUnnecessaryResources_not_receiver_free : rfL Deriv.withoutUnnecessaryResourcesOld = false := by decide

theorem old_withoutUnnecessaryResources_aliases :
    (runProg exTy2 exPlan2 Deriv.withoutUnnecessaryResourcesOld exProj [] 6).err = none ∧
    3 ∈ addrs (getVar "result" (runProg exTy2 exPlan2 Deriv.withoutUnnecessaryResourcesOld exProj [] 6).vars) ∧
    3 ∈ addrs exProj := by
  simp only [exTy2, exPlan2, exProj, Deriv.withoutUnnecessaryResourcesOld, Deriv.keepFromReceiver, Deriv.required, Deriv.fieldIds]
  decide +kernel

end CV.Heap
