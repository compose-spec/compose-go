import ComposeVerif.Lemmas.ShortPort
/-!
# C03 — the port-grammar complement is false on the unchanged tree (witnesses by kernel evaluation, and the lemmas
that show no AST renders them); the volume loop as it was before the drive-letter rule was confined

The full-strength near-miss statement "every port string outside the grammar
`[IP:][HOST[-HOST]]:CONTAINER[-CONTAINER][/PROTO]` is rejected" is false on the unchanged tree:
`nat.ParsePortRange` and `nat.SplitProtoPort` read only the first two parts of a `-` / `/` split.
The provable statements are the `port_nearmiss_*` theorems of `Props/C03.lean` (enumerated classes).
Each witness is replayed on the real code on every run (corpus/C03/port-*.json, oracle key
`nearmiss-accepted:ports:*`, findings/C03.txt).
-/
namespace CV.Short.Neg
open CV.Short

/-- `80-81-82` is accepted, and read as the range `80-81` (the third bound is dropped silently) -/
theorem port_triple_range_accepted :
    (parsePort "80-81-82".toList).isSome = true ∧ parsePortRange "80-81-82".toList = some (80, 81) := by decide +kernel

/-- `80/tcp/x` is accepted, and read as `80/tcp` -/
theorem port_proto_tail_accepted :
    (parsePort "80/tcp/x".toList).isSome = true ∧ splitProtoPort "80/tcp/x".toList = ("tcp".toList, "80".toList) := by decide +kernel

theorem range_split_le2 (r : Spec.Range) : (splitOn '-' r.render).length ≤ 2 := by
  have hd : ∀ n : Spec.Num, ∀ x ∈ n.render, x ≠ '-' := fun n x hx => (digit_ne (CV.Short.Num.render_digits n x hx)).1
  obtain ⟨lo, hi⟩ := r
  cases hi with
  | none => simp [Spec.Range.render, splitOn_clean _ _ (hd lo)]
  | some hi => simp [Spec.Range.render, splitOn_append _ _ _ (hd lo), splitOn_clean _ _ (hd hi)]

theorem triple_range_not_rendered (r : Spec.Range) : r.render ≠ "80-81-82".toList := by
  intro hr
  have := range_split_le2 r
  rw [hr] at this
  revert this
  decide +kernel

/-- so "whatever is not `parsePortRange`-shaped is rejected" fails -/
theorem range_render_one_dash_neg :
    ¬ (∀ s : Str, (∀ r : Spec.Range, r.render ≠ s) → parsePortRange s = none) := by
  intro h
  have h3 := port_triple_range_accepted.2
  rw [h _ triple_range_not_rendered] at h3
  cases h3

/-- the full-strength near-miss statement is false on the unchanged tree: "every port string that is not the rendering of a
well-formed `PortSpec` is rejected" — `80-81-82` is the rendering of no AST at all (a rendered spec without ':' and '/'
is one range, and a range has at most one dash), yet it is accepted -/
theorem port_grammar_complement_neg :
    ¬ (∀ s : Str, (∀ a : Spec.PortSpec, a.render ≠ s) → parsePort s = none) := by
  intro h
  have hs := port_triple_range_accepted.1
  rw [h "80-81-82".toList ?_] at hs
  · cases hs
  · intro a hr
    have hc : ¬ ':' ∈ "80-81-82".toList := by decide +kernel
    have hsl : ¬ '/' ∈ "80-81-82".toList := by decide +kernel
    rw [← hr] at hc hsl
    obtain ⟨ip, host, cont, proto⟩ := a
    cases ip with
    | some i => cases host <;> simp [Spec.PortSpec.render] at hc
    | none =>
      cases host with
      | some r => simp [Spec.PortSpec.render] at hc
      | none =>
        cases proto with
        | some p => simp [Spec.PortSpec.render] at hsl
        | none =>
          simp only [Spec.PortSpec.render, List.append_nil] at hr
          exact triple_range_not_rendered cont hr

/-! ### pre-fix behaviour of `format.ParseVolume` (before the `fix:` commit on the drive-letter rule), kept as a witness -/

/-- the scanning loop as it was: the drive-letter rule fired in every section -/
def scanPre : Str → Str → Vol → Option Vol
  | [], _, v => some v
  | ch :: r, buf, v =>
    if isWindowsDrive buf ch then scanPre r (buf ++ [ch]) v
    else if ch = ':' || ch = NUL then
      match populate (ch = NUL) buf v with
      | none => none
      | some v' => scanPre r [] v'
    else scanPre r (buf ++ [ch]) v

/-- before the repair a four-section spec whose third section is a single letter was accepted and both option
sections were dropped: `vol:/b:z:ro` loaded as a plain read-write volume -/
theorem volume_letter_section_accepted_pre_fix :
    (scanPre ("vol:/b:z:ro".toList ++ [NUL]) [] {}).map populateType
      = some { type := "volume".toList, source := "vol".toList, target := "/b".toList, readOnly := false, bind := none, volume := some false } := by
  decide +kernel

end CV.Short.Neg
