import ComposeVerif.Model.EnvLayersHeap
/-!
# C16 — what hoisting the looked-up value out of the loop of `MappingWithEquals.Resolve` does (seeded change C16-5)

With `var value string` declared once before the loop every resolved key stores the address of the same cell: all of
them read the value that was looked up last.  The refinement statement `Props/C16Heap.resolveH_refines` is false for
that variant; the witness is replayed on the real code by `corpus/C16/two-valueless-keys.json` (passes on the unchanged
tree, fails — `env-precedence`, `environment-values-aliased` — on the seeded one).
-/
namespace CV.EnvLayers.Heap.Neg
open CV.EnvLayers CV.EnvLayers.Heap

def m0 : HMWE := [(['A'], none), (['B'], none)]
def look0 : Look := fun k => if k = ['A'] then some ['a'] else if k = ['B'] then some ['b'] else none

/-- the statement `resolveH_refines` makes about `resolveH`, for an arbitrary implementation -/
def Refines (impl : Look → HMWE → Cells → HMWE × Cells) : Prop :=
  ∀ look m h, Valid h m → deref (impl look m h).2 (impl look m h).1 = resolveMWE look (deref h m)

theorem hoisted_aliases : (resolveHoisted look0 m0 []).1 = [(['A'], some 0), (['B'], some 0)] ∧
    deref (resolveHoisted look0 m0 []).2 (resolveHoisted look0 m0 []).1 = [(['A'], some ['b']), (['B'], some ['b'])] := by
  decide +kernel

theorem hoisted_does_not_refine : ¬ Refines resolveHoisted := by
  intro h
  have := h look0 m0 [] (fun k a hm => by simp [m0] at hm)
  revert this
  decide +kernel

/-- the statement `toMWEH_refines` makes, for an arbitrary implementation -/
def RefinesToMWE (impl : List (Key × Str) → Cells → HMWE × Cells) : Prop :=
  ∀ m h, deref (impl m h).2 (impl m h).1 = toMWE m

/-- without the copy `v := v` (Go < 1.22 loop-variable semantics, go.mod: go 1.21) all keys read the last value -/
theorem no_copy_does_not_refine : ¬ RefinesToMWE toMWENoCopy := by
  intro h
  have := h [(['A'], ['1']), (['B'], ['2'])] []
  revert this
  decide +kernel

end CV.EnvLayers.Heap.Neg
