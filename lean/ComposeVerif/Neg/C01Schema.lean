import ComposeVerif.Lemmas.C01SchemaEval
/-!
Negation witness for "every attribute `Normalize` reads as a string is a string in every schema-valid
document": the schema admits `null` for `services.*.pid` (an empty `pid:`).  `loader.Normalize` reads it with
`ref, _ := n.(string)`; the unchecked `n.(string)` it had there is DESIGN.md §10 #2, found by the C01 oracle
(`panic@loader.Normalize`) and repaired.
-/
namespace CV.Schema
open CV CV.Gen

theorem pid_admits_null : Ty.null ∈ kindsAt composeSchema ["services", "*", "pid"] :=
  composeSchema_evaluated.2.2.2.2.1

theorem pid_null_document_conforms :
    conforms composeSchema (.map [("services", .map [("a", .map [("image", .str "x"), ("pid", .null)])])]) = true :=
  composeSchema_evaluated.2.2.2.2.2

end CV.Schema
