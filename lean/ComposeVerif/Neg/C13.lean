import ComposeVerif.Lemmas.TravInvS
import ComposeVerif.Lemmas.TravFixtures
import ComposeVerif.Model.DepGraph
/-!
# C13 — statements that were / are falsified by the code (concrete witnesses)

**Before the repair of DESIGN §10 #12** (`fix:` commit in graph/traversal.go: the coordinator waits for `spawned`)
`bounded` was false: after a visitor error the coordinator left through `ctx.Done()` and freed its errgroup slot while
the caller was still looping over the extremities, so `n + 1` workers fitted.  The pre-repair rule is kept here as
`stepPre?` (identical to `Trav.step?` except for `cCtxDone`), the witness schedule `overrun` reaches two running
visitors under limit 1 with it, and the repaired model refuses the same schedule.  `corpus/C13/bound-after-error.json`
replays the schedule on the real code (it must now stay within the bound).
-/
namespace CV.Trav

theorem three_ok : GraphOK three where
  nodup := by decide
  nonempty := by decide
  pre_mem := by decide
  post_mem := by decide
  pre_post := by decide
  rank := ⟨fun _ => 0, by decide⟩

/-- the transition function of the code before the repair: `case <-ctx.Done(): return nil` at once -/
def stepPre? (g : Graph) (limit : Option Nat) (s : St) : Label → Option St
  | .cCtxDone => if s.cAlive && s.cSched.isNone && s.cancelled then some { s with cAlive := false } else none
  | l => step? g limit s l

def runLPre (g : Graph) (lim : Option Nat) (s : St) : List Label → Option St
  | [] => some s
  | l :: ls => (stepPre? g lim s l).bind (runLPre g lim · ls)

/-- limit 1: service 0 fails and exits (cancelling the context, freeing its slot); the caller spawns 1; the coordinator
sees `ctx.Done()` and returns (freeing the *coordinator's* slot); the caller spawns 2: two visitors run at once -/
def overrun : List Label :=
  [.schedNext .M 0, .ready .M, .enter .M, .spawn .M, .schedNext .M 1, .ready .M, .enter .M,
   .wBegin 0, .wReturn 0 true, .wDone 0, .wSend 0, .wExit 0,
   .spawn .M, .cCtxDone, .schedNext .M 2, .ready .M, .enter .M, .spawn .M, .wBegin 1, .wBegin 2]

/-- pre-repair: two visitors at once under `WithMaxConcurrency(1)` -/
theorem overrun_pre_repair_runs_two : (runLPre three (some 1) (init three) overrun).map running = some 2 := by decide +kernel

/-- repaired: the coordinator cannot leave while the caller is still in its loop, the schedule is not a schedule -/
theorem overrun_refused_after_repair : (runL three (some 1) (init three) overrun).isNone = true := by decide +kernel

end CV.Trav

/-! ### graph construction (`newGraph`) before `fix:` 3143716: the project was modified, a cyclic project could be accepted

DESIGN §10 #5.  The function as it was (`delete(s.DependsOn, name)` with the service's own name, on the caller's map,
while ranging over it) is kept as `runOld`; `corpus/C13/self-dependency-optional-missing*.json` replay the witnesses on
the real code, which now refuses them (oracle keys of the repaired defect:
`project-modified:self-dependency+optional-missing-dependency`, `cycle-accepted:self-dependency+optional-missing-dependency`). -/
namespace CV.DepGraph

/-- the old inner loop: error (if any), the edges added, and whether the `delete` ran -/
def scanDepsOld (en dis : List Name) (self : Name) : List Dep → List Name → Bool → Option Err × List Name × Bool
  | [], es, del => (none, es, del)
  | d :: rest, es, del =>
    if del && d.name == self then scanDepsOld en dis self rest es del       -- deleted before the range reached it
    else if en.contains d.name then scanDepsOld en dis self rest (es ++ [d.name]) del
    else if d.required then (some (if dis.contains d.name then .disabled else .unknown), es, del)
    else scanDepsOld en dis self rest es true                               -- delete(s.DependsOn, name); continue

def depsAfterOld (self : Name) (deps : List Dep) (del : Bool) : List Dep :=
  if del then deps.filter (fun d => d.name != self) else deps

def buildOld (en dis : List Name) : List Svc → List (Name × List Name) → List Svc → Option Err × List (Name × List Name) × List Svc
  | [], adj, done => (none, adj, done)
  | s :: rest, adj, done =>
    match scanDepsOld en dis s.name s.deps [] false with
    | (none, es, del) => buildOld en dis rest (adj ++ [(s.name, es)]) (done ++ [⟨s.name, depsAfterOld s.name s.deps del⟩])
    | (some e, _, del) => (some e, adj, done ++ ⟨s.name, depsAfterOld s.name s.deps del⟩ :: rest)

def changedOfOld (before after : List Svc) : List Name :=
  (before.zip after).filterMap fun (a, b) => if a.deps == b.deps then none else some a.name

def runOld (p : Proj) : Outcome :=
  let en := p.services.map (·.name)
  match buildOld en p.disabled p.services [] [] with
  | (some e, _, after) =>
    { cls := match e with | .disabled => "disabled" | .unknown => "unknown" | .cycle => "cycle", changed := changedOfOld p.services after }
  | (none, adj, after) =>
    { cls := if checkCycle en (adjOf adj) then "cycle" else "ok", changed := changedOfOld p.services after }

/-- service 0 depends (optionally) on 9, which is not a service, and on itself; the optional entry is iterated first -/
def quirkFirst : Proj := ⟨[⟨0, [⟨9, false⟩, ⟨0, true⟩]⟩], []⟩
/-- the same map iterated in the other order -/
def quirkLast : Proj := ⟨[⟨0, [⟨0, true⟩, ⟨9, false⟩]⟩], []⟩

/-- "the project is not modified" was false: in both orders the caller's `depends_on` of service 0 lost an entry -/
theorem project_unmodified_false : ¬ ∀ p : Proj, (runOld p).changed = [] := by
  intro h
  have := h quirkFirst
  revert this
  decide

theorem project_modified_both_orders : (runOld quirkFirst).changed = [0] ∧ (runOld quirkLast).changed = [0] := by decide +kernel

/-- "a cyclic graph is refused" was false: service 0 depends on itself, yet the outcome was `ok` when the optional
missing dependency was iterated first (and `cycle` in the other order) -/
theorem cyclic_refused_false : (runOld quirkFirst).cls = "ok" ∧ (runOld quirkLast).cls = "cycle" := by decide +kernel

/-- **after the repair**: refused in both orders, nothing changed -/
theorem quirk_refused_now : run quirkFirst = ⟨"cycle", []⟩ ∧ run quirkLast = ⟨"cycle", []⟩ := by decide +kernel

end CV.DepGraph

/-! ### "after an error no new visitor starts" is false for `walk` (and is not what the property says)

A failing worker runs `t.done` (status `visited`) and hands its vertex to the coordinator *before* it returns its error to
the errgroup; `visit` never looks at the context.  So the coordinator may already be scheduling the dependents when the
error is recorded, and goes on to claim and spawn them; and even afterwards its `select` may prefer `nodeCh` to
`ctx.Done()`.  The property only promises that `walk` returns the first error after every started visit has returned.
`corpus/C13/start-after-error.json` replays the witness schedule on the real code (scripted; the judge insists that a
visitor really is entered after a failed worker's exit).  What does hold is `Props/C13Lts.lean no_new_worker_after_cancel_partial`. -/
namespace CV.Trav

/-- the full-strength statement: from the moment an error is recorded no further visitor is entered -/
def ErrorStopsNewVisits (g : Graph) (lim : Option Nat) : Prop :=
  ∀ s l s', Reach g lim s → s.firstErr ≠ none → step? g lim s l = some s' → starts s'.log = starts s.log

/-- 0 fails; the coordinator receives 0 and picks 1 before worker 0 returns its error; then — error recorded, context
cancelled — it tests, claims and spawns 1 -/
def lateStart : List Label :=
  [.schedNext .M 0, .ready .M, .enter .M, .spawn .M, .schedEnd .M, .wBegin 0, .wReturn 0 true, .wDone 0, .wSend 0,
   .cRecv, .schedNext .C 1, .wExit 0, .ready .C, .enter .C, .spawn .C, .schedEnd .C]

theorem lateStart_witness :
    (runL chain2 none (init chain2) lateStart).bind (fun s => (step? chain2 none s (.wBegin 1)).map
      (fun s' => (s.firstErr, s.cancelled, starts s.log, starts s'.log))) = some (some 0, true, [0], [1, 0]) := by decide +kernel

theorem error_stops_new_visits_false : ¬ ErrorStopsNewVisits chain2 none := by
  intro H
  have key := lateStart_witness
  cases h1 : runL chain2 none (init chain2) lateStart with
  | none => rw [h1] at key; cases key
  | some s =>
    rw [h1] at key
    simp only [Option.bind_some] at key
    cases h2 : step? chain2 none s (.wBegin 1) with
    | none => rw [h2] at key; cases key
    | some s' =>
      rw [h2] at key
      simp only [Option.map_some, Option.some.injEq, Prod.mk.injEq] at key
      obtain ⟨hf, _, ha, hb⟩ := key
      have := H s _ s' (reach_runL Reach.init lateStart h1) (by rw [hf]; simp) h2
      rw [ha, hb] at this
      cases this

end CV.Trav
