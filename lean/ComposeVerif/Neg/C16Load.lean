import ComposeVerif.Lemmas.ExceptDecEq
import ComposeVerif.Lemmas.EnvLayersLoad
/-!
# C16 — `load_env_precedence` needs its hypothesis on the project environment's keys

`loader.resolveServicesEnvironment` looks the **whole element text** of a sequence-form `environment` entry up in the
project environment (`environment[varEnv]` with `varEnv = "A=1"`).  A project environment that has a key containing `=`
(impossible for variables read from the OS or from a `.env` file; possible for a caller that fills
`ConfigDetails.Environment` itself) therefore rewrites an entry that *has* a value: `- A=1` becomes `A=1=<found>`.
`Props/C16.load_env_precedence` carries the hypothesis `NoEqKeys penv`; without it the statement is false.  The witness
is replayed on the real loader by `corpus/C16/penv-key-with-equals.json` (correspondence `c16.load`: the model has the quirk).
-/
namespace CV.EnvLayers.Neg
open CV.EnvLayers CV.EnvLayers.Spec

/-- `load_env_precedence` without `NoEqKeys` -/
def LoadEnvPrecedenceFull : Prop :=
  ∀ (cfg : LoadCfg) (penv : List (Key × Str)) (fs : FS) (y : YEnv) (s s' : Service),
    WFFS fs → cfg.skipResolveEnvironment = false → loadServiceEnv cfg penv fs y s = .ok s' →
    ∀ k, lookup k s'.environment = finalEnv penv (envContents fs s.envFiles) (decodeEnv y) k

def penvEq : List (Key × Str) := [(['A', '=', '1'], ['x'])]
def yEq : YEnv := .list [.kv ['A'] ['1']]
def sEq : Service := { environment := [], envFiles := [], labels := [], labelFiles := [] }
def cfgEq : LoadCfg := { skipNormalization := false, skipResolveEnvironment := false, discard := false }
def fsEq : FS := { node := fun _ => none }

theorem witness_value : (loadServiceEnv cfgEq penvEq fsEq yEq sEq).map (fun s' => lookup ['A'] s'.environment) =
    .ok (some (some ['1', '=', 'x'])) := by decide +kernel

theorem load_env_precedence_false_without_NoEqKeys : ¬ LoadEnvPrecedenceFull := by
  intro h
  have hwf : WFFS fsEq := ⟨fun p ls hp => by simp [fsEq] at hp, fun _ => rfl⟩
  have := h cfgEq penvEq fsEq yEq sEq
    { environment := [(['A'], some ['1', '=', 'x'])], envFiles := [], labels := [], labelFiles := [] }
    hwf rfl (by decide +kernel) ['A']
  revert this
  decide +kernel

end CV.EnvLayers.Neg
