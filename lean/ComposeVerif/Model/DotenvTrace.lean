import ComposeVerif.Model.Dotenv
/-!
# Branch trace of the env-file parser model (property C18, round 5)

`parseLoopT` is `parseLoop` with one more accumulator: a bit mask of the model branches the run went
through.  `Lemmas/DotenvTrace.lean` proves `(parseLoopT …).1 = parseLoop …` (the traced run IS the model), so
the differential correspondence can run the traced version and the harness can measure, per run of the
check, how often every branch of the model was reached by an input on which model and real code agreed.
A branch that is never reached is reported by the check (`modelBranchCoverage`).

The tags of one iteration are computed from the results of the model's own functions (`stmtStart`,
`dropExport`, `scanKey`, `locateKey`, `extractValue`, `quotedLoop`, …) on the statement at hand; only the
tags of `expEsc` come from a mirror of its recursion (`escTags`, measurement only).
-/
namespace CV.Dotenv
open CV CV.Template

def tagNames : List String := [
  /- 0 -/ "stmt:end-of-input",
  /- 1 -/ "stmt:comment-line-skipped",
  /- 2 -/ "stmt:leading-space-skipped",
  /- 3 -/ "export:stripped",
  /- 4 -/ "export:prefix-of-longer-key",
  /- 5 -/ "export:bare-word-at-eof",
  /- 6 -/ "scanKey:delim-eq-colon",
  /- 7 -/ "scanKey:delim-newline",
  /- 8 -/ "scanKey:noDelim",
  /- 9 -/ "scanKey:bad",
  /- 10 -/ "scanKey:space-skipped",
  /- 11 -/ "locateKey:zeroLength",
  /- 12 -/ "locateKey:unexpectedChar",
  /- 13 -/ "locateKey:bare-at-eof",
  /- 14 -/ "locateKey:delimited",
  /- 15 -/ "locateKey:key-right-trimmed",
  /- 16 -/ "parse:keySpace",
  /- 17 -/ "parse:inherited-found",
  /- 18 -/ "parse:inherited-missing",
  /- 19 -/ "parse:value-error",
  /- 20 -/ "parse:value-ok",
  /- 21 -/ "parse:later-assignment-overwrites",
  /- 22 -/ "value:unquoted",
  /- 23 -/ "value:unq-inline-comment-cut",
  /- 24 -/ "value:unq-right-trimmed",
  /- 25 -/ "value:unq-at-eof",
  /- 26 -/ "value:dq-closed",
  /- 27 -/ "value:sq-closed",
  /- 28 -/ "value:unterminated",
  /- 29 -/ "value:unterminated-multiline",
  /- 30 -/ "value:template-error",
  /- 31 -/ "quoted:escaped-quote",
  /- 32 -/ "quoted:backslash-pair-kept",
  /- 33 -/ "quoted:multiline",
  /- 34 -/ "esc:lone-trailing-backslash",
  /- 35 -/ "esc:simple",
  /- 36 -/ "esc:octal-accepted",
  /- 37 -/ "esc:octal-rejected",
  /- 38 -/ "esc:other-pair-kept",
  /- 39 -/ "esc:plain-char",
  /- 40 -/ "value:has-dollar",
  /- 41 -/ "value:dq-rest-nonempty",
  /- 42 -/ "value:empty"]

def tag (b : Bool) (n : Nat) : Nat := if b then 1 <<< n else 0

/-- mirror of the recursion of `expEsc`: which of its branches a text goes through -/
def escTags : Nat → Str → Nat
  | _, [] => 0
  | skip + 1, _ :: cs => escTags skip cs
  | 0, c :: cs =>
    if c == '\\' then
      match cs with
      | [] => tag true 34
      | d :: ds =>
        match simpleEscape d with
        | some _ => tag true 35 ||| escTags 1 cs
        | none =>
          if d == '0' then
            let digits := (ds.take 3).takeWhile Char.isDigit
            tag (octalRepl digits != '\\' :: digits) 36 ||| tag (octalRepl digits == '\\' :: digits) 37 |||
              escTags (1 + digits.length) cs
          else tag true 38 ||| escTags 0 cs
    else tag true 39 ||| escTags 0 cs

/-- tags of the value extraction on `left` -/
def valueTags (left : Str) (out : Map) (lookup : Env) : Nat :=
  let res := extractValue left out lookup
  let isTmplErr := match res with
    | .ok (.error (.tmpl _)) => true
    | _ => false
  tag isTmplErr 30 |||
  (match quotePrefix left with
   | none =>
     let line := (cut ['\n'] left).1
     let c := (cut [' ', '#'] line).1
     tag true 22 ||| tag (c != line) 23 ||| tag (trimRightU c != c) 24 ||| tag (!left.contains '\n') 25 |||
       tag (c.contains '$') 40 ||| tag (trimRightU c).isEmpty 42
   | some q =>
     match quotedLoop q left (left.length - 1) 1 false [] with
     | .oob => 0
     | .unterminated => tag true 28 ||| tag (valEndIndex left < left.length) 29
     | .closed chars i =>
       tag (q == '"') 26 ||| tag (q != '"') 27 ||| tag (chars.length + 1 < i) 31 ||| tag (chars.contains '\\') 32 |||
         tag (chars.contains '\n') 33 ||| tag (chars.contains '$') 40 ||| tag (i + 1 < left.length) 41 |||
         tag chars.isEmpty 42 |||
         (if q == '"' then escTags 0 chars else 0))

/-- tags of one iteration of the statement loop on `src` -/
def iterTags (src : Str) (out : Map) (lookup : Env) : Nat :=
  match stmtStart (src.length + 1) src with
  | .error _ => 0
  | .ok cs =>
    tag cs.isEmpty 0 ||| tag (src.any (· == '#') && cs != src.dropWhile isSpaceU) 1 |||
    tag (match src with | c :: _ => isSpaceU c | [] => false) 2 |||
    (if cs.isEmpty then 0 else
      let s := dropExport cs
      let hasExp := exportKw.isPrefixOf cs
      tag (hasExp && s != cs) 3 ||| tag (hasExp && s == cs && 6 < cs.length) 4 ||| tag (hasExp && cs.length == 6) 5 |||
      (match scanKey s 0 with
       | .delim i inh => tag (!inh) 6 ||| tag inh 7 ||| tag ((s.take i).any isSpaceNB) 10
       | .noDelim => tag true 8 ||| tag (s.any isSpaceNB) 10
       | .bad => tag true 9) |||
      (match locateKey cs with
       | .error _ => 0
       | .ok (.error e) => tag (e == .zeroLength) 11 ||| tag (e == .unexpectedChar) 12
       | .ok (.ok (key, left, inherited)) =>
         tag (scanKey s 0 == .noDelim) 13 ||| tag (scanKey s 0 != .noDelim) 14 |||
         tag (match scanKey s 0 with | .delim i _ => key.length < i | _ => key.length < s.length) 15 |||
         (if key.any isSpaceU then tag true 16
          else if inherited then tag (lookup key).isSome 17 ||| tag (lookup key).isNone 18
          else
            (match extractValue left out lookup with
             | .ok (.ok _) => tag true 20 ||| tag (get out key).isSome 21
             | _ => tag true 19) ||| valueTags left out lookup)))

/-- `parseLoop` with the branch mask as one more accumulator -/
def parseLoopT : Nat → Str → Map → Env → Nat → POut × Nat
  | 0, _, _, _, t => (.panic .fuel, t)
  | fuel + 1, src, out, lookup, t0 =>
    let t := t0 ||| iterTags src out lookup
    match stmtStart (src.length + 1) src with
    | .error s => (.panic s, t)
    | .ok cs =>
      if cs.isEmpty then (.ok out, t)
      else
        match locateKey cs with
        | .error s => (.panic s, t)
        | .ok (.error e) => (.err e out, t)
        | .ok (.ok (key, left, inherited)) =>
          if key.any isSpaceU then (.err .keySpace out, t)
          else if inherited then
            match lookup key with
            | some v => parseLoopT fuel left (put out key v) lookup t
            | none => parseLoopT fuel left out lookup t
          else
            match extractValue left out lookup with
            | .error s => (.panic s, t)
            | .ok (.error e) => (.err e out, t)
            | .ok (.ok (v, left')) => parseLoopT fuel left' (put out key v) lookup t

def parseT (src : Str) (lookup : Env) : POut × Nat := parseLoopT (src.length + 2) src [] lookup 0

end CV.Dotenv
