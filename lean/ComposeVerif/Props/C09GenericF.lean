import ComposeVerif.Props.C09Generic
import ComposeVerif.Lemmas.Duration
/-!
# C09 — the generic round trip for both renderings, with hand-written codecs composed in

`generic_roundtrip_fmt` generalises `generic_roundtrip` (Props/C09Generic.lean) to the JSON rendering and to types that
contain values of hand-written types (`Leaves`), by composing the separately proved custom round trips.
-/
namespace CV.C09
open CV CV.TypeDesc CV.Marshal CV.Encode CV.Decode CV.Generic CV.GenericF

/-- **generic round trip, YAML and JSON, with leaf codecs**: for every plain type (over the given leaves) and every
    stable value of it, the rendering in that format succeeds and decoding the rendering (always by the yaml tags — the
    loader reads both renderings with the same decoder) gives the value back -/
theorem generic_roundtrip_fmt (env : Env) (fmt : Fmt) (L : Leaves) (hL : LeafSound env fmt L)
    (f : Nat) (ty : TyExpr) (v : Val)
    (hp : GenericF.plainB env fmt L.names f ty = true) (hs : GenericF.Stable env fmt L f ty v) :
    ∃ t, encode env fmt f ty v = .ok t ∧ decode env f ty t = .ok v :=
  let ⟨t, he, hd, _⟩ := generic_roundtrip_aux env fmt L hL f ty v hp hs
  ⟨t, he, hd⟩

def noLeaves : Leaves := { names := [], ok := fun _ _ => False }

theorem noLeaves_sound (env : Env) (fmt : Fmt) : LeafSound env fmt noLeaves := by
  intro n hn; simp [noLeaves] at hn

theorem generic_roundtrip_json (env : Env) (f : Nat) (ty : TyExpr) (v : Val)
    (hp : GenericF.plainB env .json [] f ty = true) (hs : GenericF.Stable env .json noLeaves f ty v) :
    ∃ t, encode env .json f ty v = .ok t ∧ decode env f ty t = .ok v :=
  generic_roundtrip_fmt env .json noLeaves (noLeaves_sound env .json) f ty v hp hs

/-- the model types of the current source in the scope of the JSON variant (same list as for YAML) -/
theorem plain_model_types_json :
    (["CredentialSpecConfig", "DeviceMapping", "DiscreteGenericResource", "ExtendsConfig", "FileReferenceConfig",
      "ServiceSecretConfig", "ServiceConfigObjConfig", "GenericResource", "Placement", "PlacementPreferences",
      "ServiceDependency", "DependsOnConfig", "ServicePortConfig", "ServiceVolumeBind", "ServiceVolumeVolume", "WeightDevice"].all
      fun n => GenericF.plainB genEnv .json [] 12 (.named n)) = true := by
  simp only [plainB_gen]
  exact List.all_eq_true.mpr fun n hn => (Bool.and_eq_true_iff.mp (List.all_eq_true.mp scope_tables.1 n hn)).2

def inInt64 (i : Int) : Prop := -(two63 : Int) ≤ i ∧ i < (two63 : Int)

/-- byte sizes and durations: every int64 value -/
def sizeAndDuration : Leaves :=
  { names := ["UnitBytes", "Duration"], ok := fun _ v => ∃ i : Int, v = .int i ∧ inInt64 i }

theorem sizeAndDuration_sound (env : Env) (fmt : Fmt) : LeafSound env fmt sizeAndDuration := by
  intro n hn f v _ hok _
  obtain ⟨i, rfl, hi⟩ := hok
  simp only [sizeAndDuration, List.contains_cons, List.contains_nil, Bool.or_false, Bool.or_eq_true, beq_iff_eq] at hn
  rcases hn with rfl | rfl
  · exact leaf_custom f (t := .str (fmtInt i)) (d := decode_UnitBytes) (by cases fmt <;> rfl) rfl
      (decode_UnitBytes_fmtInt i hi) fun _ => by simp
  · exact leaf_custom f (t := .str (durString i)) (d := decode_Duration) (by cases fmt <;> rfl) rfl
      (parseDuration_durString i hi) fun _ => by simp

/-- **types containing byte sizes and durations** round-trip in both renderings (instance of the theorem with the
    two proved custom round trips composed in) -/
theorem generic_roundtrip_with_sizes_and_durations (env : Env) (fmt : Fmt) (f : Nat) (ty : TyExpr) (v : Val)
    (hp : GenericF.plainB env fmt sizeAndDuration.names f ty = true) (hs : GenericF.Stable env fmt sizeAndDuration f ty v) :
    ∃ t, encode env fmt f ty v = .ok t ∧ decode env f ty t = .ok v :=
  generic_roundtrip_fmt env fmt sizeAndDuration (sizeAndDuration_sound env fmt) f ty v hp hs

/-- model types of the current source that come into scope with these two leaves (both renderings) -/
theorem plain_model_types_with_leaves :
    (["ServiceVolumeTmpfs", "ThrottleDevice", "UpdateConfig", "RestartPolicy"].all fun n =>
      GenericF.plainB genEnv .yaml ["UnitBytes", "Duration"] 12 (.named n) &&
      GenericF.plainB genEnv .json ["UnitBytes", "Duration"] 12 (.named n)) = true := by
  simp only [plainB_gen]
  exact scope_tables.2

end CV.C09
