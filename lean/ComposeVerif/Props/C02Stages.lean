import ComposeVerif.Lemmas.C02StageNormalize
import ComposeVerif.Lemmas.C02StageCompose
/-!
# C02 — `stage_perm`: the loader stages do not depend on the order in which Go ranges over mappings

About the stage models that other properties own and tie to the real functions:
`CV.C11.normalize` (C11, `loader.Normalize`), `CV.Short.transform` (C03, `transform.Canonical`),
`CV.C11.setDefaults` (C11, `transform.SetDefaultValues`), `CV.Paths.walk` (C12, `paths.ResolveRelativePaths`),
`CV.Interp.interp` (C08, `interpolation.Interpolate`), `CV.Validate.validate` (C10, `validation.Validate`).

* `Normalize` as a whole stage, for the two mappings its loops range over (top level, `services`);
* the mapping loop of the tree walkers at any path:
  `for k, v := range m { r, err := rec(p.Next(k), v); if err != nil { return err }; m[k] = r }`;
* `SetDefaultValues`, `Interpolate`, `ResolveRelativePaths`, `Validate` as whole tree walks, `Canonical` where
  `transformMaybeExternal` cannot match;
* pipelines of stages (`stages_compose` and its instances), in the `Eqv`-only form that assumes distinct keys of the
  intermediate trees (`WFAlong`).
*Which* failure is reported first may depend on the order, *whether* there is one does not.
-/
namespace CV.Det.Stage.Props
open CV CV.Det.Stage
open CV.Val (lookup keys KVs)

theorem topPerm_of_perm {d d' : KVs} (hn : (keys d).Nodup) (hp : d'.Perm d) : TopPerm d' d :=
  ⟨fun k _ => CV.Merge.lookup_perm hn hp k, .inl (CV.Merge.lookup_perm hn hp "services")⟩

/-- **whole stage**: for two models that differ only in the order of the top-level mapping and of the `services`
mapping, `Normalize` fails with the same error class (or panics at the same site) or returns models that again differ
only in those orders -/
theorem normalize_stage_perm (clean : String → String) (env : CV.C11.Env) {d d' : KVs} (h : TopPerm d' d) :
    NormRel (CV.C11.normalize clean env d') (CV.C11.normalize clean env d) := normalize_topPerm clean env h

/-- in particular every top-level section other than `services` is *identical*, and the services are the same
services, each normalised the same way -/
theorem normalize_pointwise_on_services (clean : String → String) (env : CV.C11.Env) {d d' s s' : KVs}
    (hs : lookup "services" d = some (.map s)) (hs' : lookup "services" d' = some (.map s'))
    (hn : (keys s).Nodup) (hp : s'.Perm s) (name : String) :
    ∃ r r', lookup "services" (CV.C11.normalizePure clean env d) = some (.map r) ∧
      lookup "services" (CV.C11.normalizePure clean env d') = some (.map r') ∧ lookup name r' = lookup name r := by
  refine ⟨CV.C11.mapVals (CV.C11.normServiceV clean env) (CV.C11.mapVals CV.C11.nnServiceV s),
    CV.C11.mapVals (CV.C11.normServiceV clean env) (CV.C11.mapVals CV.C11.nnServiceV s'), ?_, ?_, ?_⟩
  · exact CV.C11.lookup_services_normalizePure clean env hs
  · exact CV.C11.lookup_services_normalizePure clean env hs'
  · rw [CV.C11.lookup_mapVals, CV.C11.lookup_mapVals, CV.C11.lookup_mapVals, CV.C11.lookup_mapVals,
      CV.Merge.lookup_perm hn hp name]

/-- `transform.Canonical` — `transformMapping` at any path: fails or succeeds alike; on success the same value under
every key -/
theorem canonical_mapping_perm (ign : Bool) (p : TPath) {m m' : KVs} (hn : (keys m).Nodup) (hp : m'.Perm m) :
    (optS (CV.Short.transformKVs ign p m')).isSome = (optS (CV.Short.transformKVs ign p m)).isSome ∧
    ∀ r r', CV.Short.transformKVs ign p m = .ok r → CV.Short.transformKVs ign p m' = .ok r' →
      r'.Perm r ∧ ∀ k, lookup k r' = lookup k r := by
  have h := travOpt_perm (fun k e => optS (CV.Short.transform ign (TPath.nextK p k) e)) hn hp
  simp only [← transformKVs_trav, optS_some] at h
  exact h

/-- `transform.SetDefaultValues` — the loop of `setDefaults` at any path -/
theorem setDefaults_mapping_perm (tbl : List (List String × String)) (p : TPath) {m m' : KVs}
    (hn : (keys m).Nodup) (hp : m'.Perm m) :
    (optD (CV.C11.setDefaultsKVs tbl p m')).isSome = (optD (CV.C11.setDefaultsKVs tbl p m)).isSome ∧
    ∀ r r', CV.C11.setDefaultsKVs tbl p m = .ok r → CV.C11.setDefaultsKVs tbl p m' = .ok r' →
      r'.Perm r ∧ ∀ k, lookup k r' = lookup k r := by
  have h := travOpt_perm (fun k v => optD (CV.C11.setDefaults tbl (p.next k) v)) hn hp
  simp only [← setDefaultsKVs_trav, optD_some] at h
  exact h

/-- `paths.ResolveRelativePaths` — the loop of `resolveRelativePaths` at any path -/
theorem resolvePaths_mapping_perm (t : CV.Paths.Table) (cfg : CV.Paths.Cfg) (p : TPath) {m m' : KVs}
    (hn : (keys m).Nodup) (hp : m'.Perm m) :
    (optP (CV.Paths.walkKVs t cfg p m')).isSome = (optP (CV.Paths.walkKVs t cfg p m)).isSome ∧
    ∀ r r', CV.Paths.walkKVs t cfg p m = .ok r → CV.Paths.walkKVs t cfg p m' = .ok r' →
      r'.Perm r ∧ ∀ k, lookup k r' = lookup k r := by
  have h := travOpt_perm (fun k v => optP (CV.Paths.walk t cfg (TPath.next p k) v)) hn hp
  simp only [← walkKVs_trav, optP_some] at h
  exact h

/-- **`transform.SetDefaultValues` as a whole tree walk** (every nesting level at once, with its four handlers): trees
that are equivalent up to the order of mapping entries at any depth (`CV.Deep.Eqv`) get equivalent defaults, or both
walks fail -/
theorem setDefaults_stage_perm (tbl : List (List String × String)) (p : TPath) {v w : Val}
    (h : CV.Deep.Eqv v w) (wv : CV.Deep.WF v) (ww : CV.Deep.WF w) :
    DRel CV.Deep.Eqv (CV.C11.setDefaults tbl p v) (CV.C11.setDefaults tbl p w) := setDefaults_eqv tbl p h wv ww

/-- in particular for `SetDefaultValues` itself, on the regenerated table -/
theorem setDefaultValues_stage_perm {d d' : KVs} (h : CV.Deep.MEqv d d') (wd : CV.Deep.MWF d) (wd' : CV.Deep.MWF d') :
    DRel CV.Deep.Eqv (CV.C11.setDefaultValues CV.Gen.defaultValues d) (CV.C11.setDefaultValues CV.Gen.defaultValues d') :=
  setDefaults_eqv _ _ (CV.Deep.Eqv.map_iff.mpr h) (CV.Deep.WF.map_iff.mpr wd) (CV.Deep.WF.map_iff.mpr wd')

/-- **`interpolation.Interpolate` as a whole tree walk** (C08's model `CV.Interp.interp`, any cast table, any
environment): trees equivalent up to the order of mapping entries at any depth interpolate to equivalent trees, or both
interpolations fail (which variable / cast error is reported first may depend on the order) -/
theorem interpolate_stage_perm (c : CV.Interp.Cfg) (p : TPath) {v w : Val}
    (h : CV.Deep.Eqv v w) (wv : CV.Deep.WF v) (ww : CV.Deep.WF w) :
    ORel CV.Deep.Eqv (optI (CV.Interp.interp c p v)) (optI (CV.Interp.interp c p w)) := interp_eqv c p h wv ww

/-- **`paths.ResolveRelativePaths` as a whole tree walk** (C12's model `CV.Paths.walk`, any table and configuration, all
seven resolvers): trees equivalent up to the order of mapping entries at any depth resolve to equivalent trees, or both
walks fail -/
theorem resolvePaths_stage_perm (t : CV.Paths.Table) (cfg : CV.Paths.Cfg) (p : TPath) {v w : Val}
    (h : CV.Deep.Eqv v w) (wv : CV.Deep.WF v) (ww : CV.Deep.WF w) :
    PRel CV.Deep.Eqv (CV.Paths.walk t cfg p v) (CV.Paths.walk t cfg p w) := pathsWalk_eqv t cfg p h wv ww

/-- in particular for `ResolveRelativePaths` itself, on the regenerated resolver table -/
theorem resolve_stage_perm (cfg : CV.Paths.Cfg) {v w : Val} (h : CV.Deep.Eqv v w) (wv : CV.Deep.WF v) (ww : CV.Deep.WF w) :
    PRel CV.Deep.Eqv (CV.Paths.resolve cfg v) (CV.Paths.resolve cfg w) := pathsWalk_eqv _ cfg _ h wv ww

/-- the full-strength statement for `transform.Canonical`: the walk respects the equivalence at *every* path.  It is not
proved: `transformMaybeExternal` (`volumes.*`, `networks.*`, `secrets.*`, `configs.*`) ends with a comparison of
`external.name` and `name`, two untyped values — `reflect.DeepEqual` in Go (`fix:` 886eefe; the `!=` before it panicked
when both are mappings: `corpus/C02/stage-canonical-external-name-mappings.json` replays that input, one outcome in every
order), the derived, opaque `BEq` of `Val` in C03's model, about which nothing can be proved -/
def CanonicalStagePerm : Prop :=
  ∀ (ign : Bool) (p : TPath) (v w : Val), CV.Deep.Eqv v w → CV.Deep.WF v → CV.Deep.WF w →
    ORel CV.Deep.Eqv (optS (CV.Short.transform ign p v)) (optS (CV.Short.transform ign p w))

/-- **`transform.Canonical` as a whole tree walk, at every path at or below which `transformMaybeExternal` cannot match**
(`NoExt p`): all nesting levels at once, the fourteen other handlers of the regenerated table with their helpers
(`dependsMap`, `envFileValue`, `portEntries`, the `KEY=VALUE` / ssh / networks / depends_on list converters).  Trees
equivalent up to the order of mapping entries at any depth become equivalent canonical trees, or both walks fail -/
theorem canonical_stage_perm_partial (ign : Bool) (p : TPath) (hp : NoExt p) {v w : Val}
    (h : CV.Deep.Eqv v w) (wv : CV.Deep.WF v) (ww : CV.Deep.WF w) :
    ORel CV.Deep.Eqv (optS (CV.Short.transform ign p v)) (optS (CV.Short.transform ign p w)) :=
  transform_eqv ign p hp h wv ww

/-- in particular everywhere below `services` (every service, every attribute, every depth) -/
theorem canonical_services_stage_perm (ign : Bool) (rest : List String) {v w : Val}
    (h : CV.Deep.Eqv v w) (wv : CV.Deep.WF v) (ww : CV.Deep.WF w) :
    ORel CV.Deep.Eqv (optS (CV.Short.transform ign ("services" :: rest) v)) (optS (CV.Short.transform ign ("services" :: rest) w)) :=
  transform_eqv ign _ (noExt_services rest) h wv ww

/-- every non-recursing case of every handler (also those of `transformMaybeExternal`) treats equivalent nodes alike -/
theorem canonical_leaf_perm (hname : Option String) (ign : Bool) {v w : Val}
    (h : CV.Deep.Eqv v w) (wv : CV.Deep.WF v) (ww : CV.Deep.WF w) :
    ORel CV.Deep.Eqv (optS (CV.Short.leaf hname ign v)) (optS (CV.Short.leaf hname ign w)) :=
  cong_leaf hname ign v w ⟨h, wv, ww⟩

/-- the rows of the regenerated table with the excluded handler: none starts with `services` or `*` -/
theorem canonical_excluded_rows : ∀ row ∈ CV.Gen.transformers, row.2 = "transformMaybeExternal" →
    row.1.head? ≠ some "*" ∧ row.1.head? ≠ some "services" ∧ row.1 ≠ [] := by
  intro row hm hr
  have := (CV.Short.table_rows row hm).2.2.1 hr
  simp only [List.mem_cons, List.not_mem_nil, or_false] at this
  rcases this with h | h | h | h <;> rw [h] <;> decide

theorem eqv_refl_all (v : Val) : CV.Deep.Eqv v v := eqvRefl v

/-- **`validation.Validate` as a whole tree walk** (C10's model `CV.Validate.validate`: the `check` walk with its six
rows and four checkers): trees equivalent up to the order of mapping entries at any depth are accepted or rejected alike.
*Which* error a rejected tree gets depends on the order (`Neg.Env.validate_which_error_order_dependent`) -/
theorem validate_stage_perm {v w : Val} (h : CV.Deep.Eqv v w) (wv : CV.Deep.WF v) (ww : CV.Deep.WF w) :
    (CV.Validate.validate v = .ok) ↔ (CV.Validate.validate w = .ok) := validate_eqv h wv ww

/-- every checker of the `checks` table decides equivalent nodes alike (the `m[k]` / `len` / key-loop accesses) -/
theorem validate_checker_perm (c : CV.Validate.Checker) {v w : Val} (h : CV.Deep.Eqv v w) :
    CV.Validate.run c v = CV.Validate.run c w := run_eqv c h

/-- `Validate` returns no error exactly when the walk finds no failing node (the error is the first one met) -/
theorem validate_ok_iff_no_failure (t : Val) : CV.Validate.validate t = .ok ↔ CV.Validate.validTreeB t = true := by
  rw [CV.Validate.validate_ok_iff_failures, CV.Validate.validTreeB, List.isEmpty_iff]

/-- **a pipeline of stages that each respect the equivalence respects it** (`runStages` = run them in sequence, stop at
the first failure; `WFAlong` = the input and every intermediate tree has distinct keys everywhere, which every Go
`map[string]any` has by construction) -/
theorem stages_compose (fs : List StageFn) (hall : ∀ f ∈ fs, Respects f) {v w : Val} (h : CV.Deep.Eqv v w)
    (hv : WFAlong fs v) (hw : WFAlong fs w) : ORel CV.Deep.Eqv (runStages fs v) (runStages fs w) :=
  runStages_respects fs hall v w h hv hw

/-- **the stages a service definition goes through, composed**: `Interpolate`, `Canonical`, `SetDefaultValues`,
`ResolveRelativePaths` run one after the other on the subtree at or below `services.<name>` — two spellings of the
subtree that differ only in the order of mapping entries (any depth) end as such spellings of one result, or both fail
(at whichever stage) -/
theorem service_pipeline_perm (c : CV.Interp.Cfg) (ign : Bool) (tbl : List (List String × String)) (t : CV.Paths.Table)
    (cfg : CV.Paths.Cfg) (rest : List String) {v w : Val} (h : CV.Deep.Eqv v w)
    (hv : WFAlong [interpStage c ("services" :: rest), canonicalStage ign ("services" :: rest),
      defaultsStage tbl ("services" :: rest), pathsStage t cfg ("services" :: rest)] v)
    (hw : WFAlong [interpStage c ("services" :: rest), canonicalStage ign ("services" :: rest),
      defaultsStage tbl ("services" :: rest), pathsStage t cfg ("services" :: rest)] w) :
    ORel CV.Deep.Eqv
      (runStages [interpStage c ("services" :: rest), canonicalStage ign ("services" :: rest),
        defaultsStage tbl ("services" :: rest), pathsStage t cfg ("services" :: rest)] v)
      (runStages [interpStage c ("services" :: rest), canonicalStage ign ("services" :: rest),
        defaultsStage tbl ("services" :: rest), pathsStage t cfg ("services" :: rest)] w) := by
  apply runStages_respects _ _ v w h hv hw
  intro f hf
  simp only [List.mem_cons, List.not_mem_nil, or_false] at hf
  rcases hf with rfl | rfl | rfl | rfl
  · exact respects_interp c _
  · exact respects_canonical ign _ (noExt_services rest)
  · exact respects_defaults tbl _
  · exact respects_paths t cfg _

/-- **the whole-document stages without `Canonical`, composed**: `Interpolate`, `Validate`, `SetDefaultValues`,
`ResolveRelativePaths` on the document -/
theorem document_pipeline_perm (c : CV.Interp.Cfg) (tbl : List (List String × String)) (t : CV.Paths.Table)
    (cfg : CV.Paths.Cfg) (p : TPath) {v w : Val} (h : CV.Deep.Eqv v w)
    (hv : WFAlong [interpStage c p, validateStage, defaultsStage tbl p, pathsStage t cfg p] v)
    (hw : WFAlong [interpStage c p, validateStage, defaultsStage tbl p, pathsStage t cfg p] w) :
    ORel CV.Deep.Eqv (runStages [interpStage c p, validateStage, defaultsStage tbl p, pathsStage t cfg p] v)
      (runStages [interpStage c p, validateStage, defaultsStage tbl p, pathsStage t cfg p] w) := by
  apply runStages_respects _ _ v w h hv hw
  intro f hf
  simp only [List.mem_cons, List.not_mem_nil, or_false] at hf
  rcases hf with rfl | rfl | rfl | rfl
  · exact respects_interp c _
  · exact respects_validate
  · exact respects_defaults tbl _
  · exact respects_paths t cfg _

/-- **`Interpolate` keeps the keys of every mapping distinct** (it discharges `WFAlong` for the stage after it) -/
theorem interpolate_preserves_wf (c : CV.Interp.Cfg) (p : TPath) {v r : Val} (wv : CV.Deep.WF v)
    (h : CV.Interp.interp c p v = .ok r) : CV.Deep.WF r := interp_wf c p wv h

/-- `Interpolate` then `Validate`, composed **without** any hypothesis on the intermediate tree -/
theorem interpolate_validate_perm (c : CV.Interp.Cfg) (p : TPath) {v w : Val} (h : CV.Deep.Eqv v w)
    (wv : CV.Deep.WF v) (ww : CV.Deep.WF w) :
    ORel CV.Deep.Eqv (runStages [interpStage c p, validateStage] v) (runStages [interpStage c p, validateStage] w) := by
  have along : ∀ u, CV.Deep.WF u → WFAlong [interpStage c p, validateStage] u := by
    intro u wu
    have hi : ∀ x, interpStage c p u = some x → CV.Deep.WF x := fun x hx => interp_wf c p wu (optI_some.mp hx)
    refine ⟨wu, fun x hx => ⟨hi x hx, fun y hy => ?_⟩⟩
    unfold validateStage at hy
    split at hy <;> cases hy
    exact hi x hx
  apply runStages_respects _ _ v w h (along v wv) (along w ww)
  intro f hf
  simp only [List.mem_cons, List.not_mem_nil, or_false] at hf
  rcases hf with rfl | rfl
  · exact respects_interp c _
  · exact respects_validate

/-- the walker loop for recursive calls that respect the equivalence -/
theorem walker_loop_deep (g g' : String → Val → Option Val) {a b : KVs} (hm : CV.Deep.MEqv a b)
    (wa : CV.Deep.MWF a) (wb : CV.Deep.MWF b)
    (hg : ∀ k x y, lookup k a = some x → lookup k b = some y → ORel CV.Deep.Eqv (g k x) (g' k y)) :
    ORel CV.Deep.MEqv (travOpt g a) (travOpt g' b) := travOpt_meqv g g' hm wa wb hg

/-- the shared loop shape, for any recursive call `g` -/
theorem walker_loop_perm (g : String → Val → Option Val) {m m' : KVs} (hn : (keys m).Nodup) (hp : m'.Perm m) :
    (travOpt g m').isSome = (travOpt g m).isSome ∧
    ∀ r r', travOpt g m = some r → travOpt g m' = some r' → r'.Perm r ∧ ∀ k, lookup k r' = lookup k r :=
  travOpt_perm g hn hp

example : TopPerm [("services", .map [("b", .null), ("a", .null)]), ("name", .str "p")]
                  [("name", .str "p"), ("services", .map [("a", .null), ("b", .null)])] := by
  refine ⟨?_, .inr ⟨_, _, rfl, rfl, List.Perm.swap _ _ _⟩⟩
  intro k hk
  simp only [lookup, hk, if_false]

/-- `validate_stage_perm` on two declaration orders of an invalid and of a valid tree -/
example : CV.Validate.validate (.map [("volumes", .map [("v", .int 5)]), ("configs", .map [("c", .map [])])]) ≠ .ok ∧
    CV.Validate.validate (.map [("configs", .map [("c", .map [])]), ("volumes", .map [("v", .int 5)])]) ≠ .ok ∧
    CV.Validate.validate (.map [("volumes", .map [("v", .null)]), ("configs", .map [("c", .map [("file", .str "f")])])]) = .ok := by
  decide +kernel

/-- `NoExt` holds at a service and below; long-form `depends_on` in two orders gets the same defaults -/
example : NoExt ["services", "web"] := noExt_services ["web"]
example : CV.Short.transformDependsOn (.map [("db", .map [("condition", .str "service_healthy")]), ("c", .map [])]) =
    .ok (.map [("db", .map [("condition", .str "service_healthy"), ("required", .bool true)]),
      ("c", .map [("condition", .str "service_started"), ("required", .bool true)])]) := by
  simp [CV.Short.transformDependsOn, CV.Short.dependsMap, CV.Short.dependsDefaults, CV.Short.hasKey, Val.lookup]

/-- `WFAlong` is satisfiable: a scalar document through the validation stage -/
example : WFAlong [validateStage] (.str "x") := ⟨.str _, fun x hx => by
  unfold validateStage at hx; split at hx <;> cases hx; exact .str _⟩

end CV.Det.Stage.Props
