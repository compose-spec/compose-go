import ComposeVerif.Lemmas.IncludeRel
import ComposeVerif.Props.C06
import ComposeVerif.Props.C06Stages
/-!
# C06 — the plan's working directory *is* the included project directory

The sub-load resolves the included model's relative paths against `relwd`, the parent then against its own directory `L`:
together against `Join(L, relwd)` (`imported_paths_two_stage`).  That directory **is** the included project directory
`projDir` (where its `.env` is looked up and its own nested includes are anchored), since `relwd` is `Rel(L, ·)` of it
(`rel_join_abs`): the clause "with relative paths resolved against the included project directory".

The full statement is false on the unchanged tree: a relative `project_directory` that does not exist as a directory is
handed to `localResourceLoader.Dir`, which answers with the *parent* of a path that is not a directory
(`Neg/C06.lean`: `anchor_is_projDir_refuted`, replayed from `corpus/C06/missing-project_directory.json`, finding
`missing-project_directory:differs:services.*.build.context`).  The provable statement carries the hypothesis that the
named directory exists.
-/
namespace CV.Include
open CV CV.Paths

theorem clean_clean (p : String) : Include.clean (Include.clean p) = Include.clean p := by
  simp only [Include.clean, String.toList_ofList, Paths.clean_idem]

theorem clean_dir (p : String) : Include.clean (dir p) = dir p := by
  simp only [Include.clean, dir, dirC, String.toList_ofList, Paths.clean_idem]

/-- **`filepath.Rel` between absolute paths never fails, answers a non-empty relative path, and
`Join(L, Rel(L, X)) = Clean(X)`**: the working directory the plan hands to the sub-load, joined back onto the local
loader's directory, is the included project's directory -/
theorem rel_join_abs (L X : String) (hL : Include.isAbs L = true) (hX : Include.isAbs X = true) :
    ∃ r, Include.rel L X = some r ∧ r ≠ "" ∧ Include.isAbs r = false ∧ Include.join L r = Include.clean X := by
  obtain ⟨r, hr, hne, hrel, hj⟩ := rel_join L.toList X.toList hL hX
  refine ⟨String.ofList r, ?_, ?_, ?_, ?_⟩
  · rw [Include.rel, relC_eq_rel _ _ hL hX, hr]; rfl
  · intro e; apply hne; simpa using congrArg String.toList e
  · simpa only [Include.isAbs, String.toList_ofList] using hrel
  · simp only [Include.join, Include.clean, String.toList_ofList, hj]

/-- non-vacuity: `/r/proj` and `/r/shared/x` -/
example : Include.rel "/r/proj" "/r/shared/x" = some "../shared/x" ∧
    Include.join "/r/proj" "../shared/x" = "/r/shared/x" := by decide +kernel

/-- `localResourceLoader.Dir` looks at `abs(p)` if that is a directory, else at `abs(Dir(p))`, and answers it relative
to the loader's directory (`Rel` between absolute paths never fails: `rel_join_abs`) -/
theorem localDir_relative (W : World) (L p : String) (hL : Include.isAbs L = true) :
    localDir W L p ≠ "" ∧ Include.isAbs (localDir W L p) = false ∧
      Include.join L (localDir W L p) =
        Include.clean (if statDir W (localAbs L p) then localAbs L p else localAbs L (dir p)) := by
  have hD : Include.isAbs (if statDir W (localAbs L p) then localAbs L p else localAbs L (dir p)) = true := by
    split <;> exact isAbs_localAbs L _ hL
  obtain ⟨r, hr, h⟩ := rel_join_abs L _ hL hD
  simp only [localDir, hr]
  exact h

/-- the directory a plan should be anchored in exists: a declared relative `project_directory` is a directory, an
included path is not itself a directory -/
def PlanDirsExist (W : World) (L : String) (r : IncCfg) (p0 : String) : Prop :=
  (r.projectDirectory = "" → statDir W (localAbs L p0) = false) ∧
  (r.projectDirectory ≠ "" → Include.isAbs r.projectDirectory = false →
      statDir W (localAbs L r.projectDirectory) = true)

/-- `project_directory` absent or relative, the named directory exists ⇒ the
sub-load's working directory is a non-empty *relative* path and `Join(L, relwd) = Clean(projDir)` -/
theorem include_anchor_is_projDir_rel_partial (W : World) (L : String) (chain : List String) (r : IncCfg) (pl : Plan)
    (p0 : String) (rest : List String) (hL : Include.isAbs L = true) (hp : r.path = p0 :: rest)
    (hpd : Include.isAbs r.projectDirectory = false)
    (hex : PlanDirsExist W L r p0) (h : plan W L L chain r = .ok pl) :
    pl.relwd ≠ "" ∧ Include.isAbs pl.relwd = false ∧ Include.join L pl.relwd = Include.clean pl.projDir := by
  obtain ⟨_, h0, _, hrel⟩ := include_paths_anchor W L L chain r pl p0 rest hp h
  by_cases he : r.projectDirectory = ""
  · obtain ⟨hproj, hrelwd⟩ := h0 he
    have hX := isAbs_localAbs L p0 hL
    have := localDir_relative W L (localAbs L p0) hL
    -- `abs` of an absolute path is that path; it is not a directory, so `Dir` looked at its parent
    rwa [localAbs_of_abs L _ hX, hex.1 he, if_neg Bool.false_ne_true, localAbs_of_abs L _ (isAbs_dir _ hX),
      ← hproj, ← hrelwd] at this
  · obtain ⟨hproj, hrelwd⟩ := hrel he hpd
    have := localDir_relative W L r.projectDirectory hL
    -- the named directory exists, so `Dir` looked at `abs(project_directory) = Join(L, project_directory)`
    rwa [hex.2 he hpd, if_pos rfl, localAbs, if_neg (by simp [hpd]), ← hproj, ← hrelwd] at this

/-- for an including project in the absolute directory `L` (`baseDir = L`: the
root load and every nested load, `baseDir_root`, `baseDir_nested`) and a plan whose named directory exists, the working directory
`relwd` handed to the sub-load, joined back onto `L`, is the included project directory `projDir` — or `relwd` is that
directory itself in absolute form (absolute `project_directory`) -/
theorem include_anchor_is_projDir_partial (W : World) (L : String) (chain : List String) (r : IncCfg) (pl : Plan)
    (p0 : String) (rest : List String) (hL : Include.isAbs L = true) (hp : r.path = p0 :: rest)
    (hex : PlanDirsExist W L r p0) (h : plan W L L chain r = .ok pl) :
    Include.join L pl.relwd = Include.clean pl.projDir ∨
      (Include.isAbs pl.relwd = true ∧ pl.relwd = pl.projDir) := by
  cases hab : Include.isAbs r.projectDirectory with
  | false => exact .inl (include_anchor_is_projDir_rel_partial W L chain r pl p0 rest hL hp hab hex h).2.2
  | true =>
    have hpd : r.projectDirectory ≠ "" := by intro e; rw [e] at hab; cases hab
    obtain ⟨hproj, hrelwd⟩ := (include_paths_anchor W L L chain r pl p0 rest hp h).2.2.1 hpd hab
    exact .inr ⟨by rw [hrelwd]; exact hab, by rw [hrelwd, hproj]⟩

/-- non-vacuity: `/r/compose.yaml` includes `sub/inc.yaml` — `relwd = "sub"`, `projDir = "/r/sub"` -/
example :
    let W : World := { cwd := "/cwd", isDir := fun p => p == "/r" || p == "/r/sub", isFile := fun p => p == "/r/sub/inc.yaml",
                       envFromFile := fun _ _ => .ok [], loadModel := fun _ _ _ _ _ => .ok [] }
    plan W "/r" "/r" ["/r/compose.yaml"] { path := ["sub/inc.yaml"] } = .ok ⟨"sub", "/r/sub", ["/r/sub/inc.yaml"]⟩ ∧
    PlanDirsExist W "/r" { path := ["sub/inc.yaml"] } "sub/inc.yaml" ∧
    Include.join "/r" "sub" = Include.clean "/r/sub" := by
  intro W
  have hplan : plan W "/r" "/r" ["/r/compose.yaml"] { path := ["sub/inc.yaml"] } = .ok ⟨"sub", "/r/sub", ["/r/sub/inc.yaml"]⟩ := by
    decide +kernel
  have hex : PlanDirsExist W "/r" { path := ["sub/inc.yaml"] } "sub/inc.yaml" :=
    ⟨fun _ => by decide +kernel, fun h => absurd rfl h⟩
  exact ⟨hplan, hex,
    (include_anchor_is_projDir_rel_partial W "/r" _ _ _ _ [] (by decide +kernel) rfl (by decide +kernel) hex hplan).2.2⟩

/-- plan ∘ Rel ∘ two-stage resolution: `d` is any tree at any path of
the included model before path resolution and `v` what the sub-load made of it against the plan's `relwd`.  For an entry
whose `project_directory` is absent or relative (and exists) — then `relwd` is non-empty and relative, the case `Join`
applies to — the parent's own `ResolveRelativePaths` (directory `L`) turns `v` into exactly the one-stage resolution of
`d` against **the included project directory** `Clean(projDir)`: same value, same error -/
theorem include_paths_resolved_against_projDir_rel (W : World) (L : String) (chain : List String) (r : IncCfg) (pl : Plan)
    (p0 : String) (rest : List String) (hL : Include.isAbs L = true) (hp : r.path = p0 :: rest)
    (hpd : Include.isAbs r.projectDirectory = false)
    (hex : PlanDirsExist W L r p0) (h : plan W L L chain r = .ok pl)
    (home : Option Paths.Str) (hhome : ∀ x, home = some x → x ≠ [])
    (p : TPath) (d v : Val)
    (h1 : Paths.walk CV.Gen.resolvers (cfgAt home pl.relwd) p d = .ok v) :
    Paths.walk CV.Gen.resolvers (cfgAt home L) p v =
      Paths.walk CV.Gen.resolvers (cfgAt home (Include.clean pl.projDir)) p d := by
  obtain ⟨hne, hrel, hj⟩ := include_anchor_is_projDir_rel_partial W L chain r pl p0 rest hL hp hpd hex h
  have hLne : L ≠ "" := by
    intro e; subst e; simp [Include.isAbs, Paths.isAbs] at hL
  rw [imported_paths_two_stage home L pl.relwd hLne hne hrel p d v h1, hj]

/-- `baseDir` is the local loader's directory in every call `loadYamlFile` makes: the root load passes
`workingDir = L`, a nested load a relative `workingDir` -/
theorem baseDir_root (L : String) (hL : Include.isAbs L = true) : baseDir L L = L := by
  simp only [baseDir, hL, if_true]

theorem baseDir_nested (wd L : String) (hwd : Include.isAbs wd = false) (hL : L ≠ "") : baseDir wd L = L := by
  simp only [baseDir, hwd, hL, if_false, Bool.false_eq_true]

end CV.Include
