import ComposeVerif.Props.C07
import ComposeVerif.Lemmas.DotenvTrace
import ComposeVerif.Lemmas.DotenvParam
import ComposeVerif.Gen.Dotenv
/-!
# C18 — the env-file parser implements the dotenv grammar and never crashes

The property theorems (the lemmas are in `Lemmas/Dotenv*.lean` and `Lemmas/TemplateParam.lean`; `classes_on_table` and
`swapEuroArrow` below serve the theorems next to them).  The model
(`Model/Dotenv.lean`) is tied to `dotenv.UnmarshalWithLookup` by the `dotenv`
correspondence op; the specification (`Spec/Dotenv.lean`) is what the theorems below
compare it with.
-/
namespace CV.Dotenv
open CV CV.Template

/-! ## regenerated facts: the constants and character classes of the source are the modelled ones -/

/-- the regular expressions, the quote / comment characters and the `switch` of `locateKeyName` that the
    model mirrors are the ones in the source -/
theorem constants_are_modelled :
    CV.Gen.dotenv_escapeSeqRegex = "(\\\\(?:[abcfnrtv$\"\\\\]|0\\d{0,3}))" ∧
    CV.Gen.dotenv_exportRegex = "^export\\s+" ∧
    CV.Gen.dotenv_charComment = '#'.toNat ∧
    CV.Gen.dotenv_prefixSingleQuote = '\''.toNat ∧
    CV.Gen.dotenv_prefixDoubleQuote = '"'.toNat ∧
    CV.Gen.dotenv_keySwitch = [['='.toNat, ':'.toNat, '\n'.toNat], ['_'.toNat, '.'.toNat, '-'.toNat, '['.toNat, ']'.toNat]] :=
  ⟨rfl, rfl, rfl, rfl, rfl, rfl⟩

/-- the three character classes on every code point of the regenerated table, in one evaluation -/
theorem classes_on_table : ∀ row ∈ CV.Gen.dotenv_unicodeClass,
    isSpaceNB (Char.ofNat row.1) = CV.Gen.dotenv_isSpaceRunes.contains row.1 ∧
    isSpaceU (Char.ofNat row.1) = row.2.1 ∧ isLetterOrNumber (Char.ofNat row.1) = row.2.2 := by
  decide +kernel

/-- `parser.go:isSpace` is `isSpaceNB` on the modelled domain -/
theorem isSpace_runes_are_modelled :
    ∀ row ∈ CV.Gen.dotenv_unicodeClass, isSpaceNB (Char.ofNat row.1) = CV.Gen.dotenv_isSpaceRunes.contains row.1 :=
  fun row h => (classes_on_table row h).1

/-- Go's `unicode.IsSpace` / `IsLetter` / `IsNumber` agree with the model's classes on every modelled code point -/
theorem unicode_classes_are_modelled :
    ∀ row ∈ CV.Gen.dotenv_unicodeClass,
      isSpaceU (Char.ofNat row.1) = row.2.1 ∧ isLetterOrNumber (Char.ofNat row.1) = row.2.2 :=
  fun row h => (classes_on_table row h).2


/-- **The modelled functions are the source.**  The text of every function the model mirrors (bodies printed
    without comments and layout, regenerated by `translator/dotenv.go` on every run) is the text the model
    mirrors: `parser.parse`, `getStatementStart`, `locateKeyName`, `extractVarValue`, `expandEscapes`,
    `indexOfNonSpaceChar`, `hasQuotePrefix`, `isSpace`, `expandVariables`, `UnmarshalWithLookup`,
    `ParseWithLookup`, `ReadWithLookup`, `GetEnvFromFile`, and the digit-key regexp.  Any edit to one of them
    breaks this obligation, on top of whatever the correspondence and the oracle find. -/
theorem modelled_functions_are_source :
    CV.Gen.dotenv_body_parse =
      "{ cutset := src if lookupFn == nil { lookupFn = noLookupFn } for { cutset = p.getStatementStart(cutset) if cutset == \"\" { break } key, left, inherited, err := p.locateKeyName(cutset) if err != nil { return err } if strings.IndexFunc(key, unicode.IsSpace) != -1 { return fmt.Errorf(\"line %d: key cannot contain a space\", p.line) } if inherited { value, ok := lookupFn(key) if ok { out[key] = value } cutset = left continue } value, left, err := p.extractVarValue(left, out, lookupFn) if err != nil { return err } out[key] = value cutset = left } return nil }" ∧
    CV.Gen.dotenv_body_getStatementStart =
      "{ pos := p.indexOfNonSpaceChar(src) if pos == -1 { return \"\" } src = src[pos:] if src[0] != charComment { return src } pos = strings.IndexFunc(src, isCharFunc('\\n')) if pos == -1 { return \"\" } return p.getStatementStart(src[pos:]) }" ∧
    CV.Gen.dotenv_body_locateKeyName =
      "{ var key string var inherited bool if exportRegex.MatchString(src) { src = strings.TrimLeftFunc(strings.TrimPrefix(src, \"export\"), isSpace) } offset := 0 loop: for i, rune := range src { if isSpace(rune) { continue } switch rune { case '=', ':', '\\n': key = string(src[0:i]) offset = i + 1 inherited = rune == '\\n' break loop case '_', '.', '-', '[', ']': default: if unicode.IsLetter(rune) || unicode.IsNumber(rune) { continue } return \"\", \"\", inherited, fmt.Errorf( `line %d: unexpected character %q in variable name %q`, p.line, string(rune), strings.Split(src, \"\\n\")[0]) } } if src == \"\" { return \"\", \"\", inherited, errors.New(\"zero length string\") } if offset == 0 { key = src offset = len(src) inherited = true } if inherited && strings.IndexByte(key, ' ') == -1 { p.line++ } key = strings.TrimRightFunc(key, unicode.IsSpace) cutset := strings.TrimLeftFunc(src[offset:], isSpace) return key, cutset, inherited, nil }" ∧
    CV.Gen.dotenv_body_extractVarValue =
      "{ quote, isQuoted := hasQuotePrefix(src) if !isQuoted { value, rest, _ := strings.Cut(src, \"\\n\") p.line++ value, _, _ = strings.Cut(value, \" #\") value = strings.TrimRightFunc(value, unicode.IsSpace) retVal, err := expandVariables(string(value), envMap, lookupFn) return retVal, rest, err } previousCharIsEscape := false // lookup quoted string terminator var chars []byte for i := 1; i < len(src); i++ { char := src[i] if char == '\\n' { p.line++ } if char != quote { if !previousCharIsEscape && char == '\\\\' { previousCharIsEscape = true continue } if previousCharIsEscape { previousCharIsEscape = false chars = append(chars, '\\\\') } chars = append(chars, char) continue } if previousCharIsEscape { previousCharIsEscape = false chars = append(chars, char) continue } value := string(chars) if quote == prefixDoubleQuote { retVal, err := expandVariables(expandEscapes(value), envMap, lookupFn) if err != nil { return \"\", \"\", err } value = retVal } return value, src[i+1:], nil } valEndIndex := strings.IndexFunc(src, isCharFunc('\\n')) if valEndIndex == -1 { valEndIndex = len(src) } return \"\", \"\", fmt.Errorf(\"line %d: unterminated quoted value %s\", p.line, src[:valEndIndex]) }" ∧
    CV.Gen.dotenv_body_expandEscapes =
      "{ out := escapeSeqRegex.ReplaceAllStringFunc(str, func(match string) string { if match == `\\$` { return \"$$\" } if strings.HasPrefix(match, `\\0`) { match = strings.Replace(match, `\\0`, `\\`, 1) } v, _, _, err := strconv.UnquoteChar(match, '\"') if err != nil { return match } return string(v) }) return out }" ∧
    CV.Gen.dotenv_body_indexOfNonSpaceChar =
      "{ return strings.IndexFunc(src, func(r rune) bool { if r == '\\n' { p.line++ } return !unicode.IsSpace(r) }) }" ∧
    CV.Gen.dotenv_body_hasQuotePrefix =
      "{ if src == \"\" { return 0, false } switch quote := src[0]; quote { case prefixDoubleQuote, prefixSingleQuote: return quote, true default: return 0, false } }" ∧
    CV.Gen.dotenv_body_isSpace =
      "{ switch r { case '\\t', '\\v', '\\f', '\\r', ' ', 0x85, 0xA0: return true } return false }" ∧
    CV.Gen.dotenv_body_expandVariables =
      "{ retVal, err := template.Substitute(value, func(k string) (string, bool) { if v, ok := lookupFn(k); ok { return v, true } v, ok := envMap[k] return v, ok }) if err != nil { return value, err } return retVal, nil }" ∧
    CV.Gen.dotenv_body_UnmarshalWithLookup =
      "{ out := make(map[string]string) err := newParser().parse(src, out, lookupFn) return out, err }" ∧
    CV.Gen.dotenv_body_ParseWithLookup =
      "{ data, err := io.ReadAll(r) if err != nil { return nil, err } data = bytes.TrimPrefix(data, utf8BOM) return UnmarshalBytesWithLookup(data, lookupFn) }" ∧
    CV.Gen.dotenv_body_ReadWithLookup =
      "{ filenames = filenamesOrDefault(filenames) envMap := make(map[string]string) for _, filename := range filenames { individualEnvMap, individualErr := ReadFile(filename, lookupFn) if individualErr != nil { return envMap, individualErr } for key, value := range individualEnvMap { if startsWithDigitRegex.MatchString(key) { continue } envMap[key] = value } } return envMap, nil }" ∧
    CV.Gen.dotenv_body_GetEnvFromFile =
      "{ envMap := make(map[string]string) for _, dotEnvFile := range filenames { abs, err := filepath.Abs(dotEnvFile) if err != nil { return envMap, err } dotEnvFile = abs s, err := os.Stat(dotEnvFile) if errors.Is(err, fs.ErrNotExist) || errors.Is(err, syscall.ENOTDIR) { return envMap, fmt.Errorf(\"Couldn't find env file: %s\", dotEnvFile) } if err != nil { return envMap, err } if s.IsDir() { if len(filenames) == 0 { return envMap, nil } return envMap, fmt.Errorf(\"%s is a directory\", dotEnvFile) } b, err := os.ReadFile(dotEnvFile) if os.IsNotExist(err) { return nil, fmt.Errorf(\"Couldn't read env file: %s\", dotEnvFile) } if err != nil { return envMap, err } env, err := ParseWithLookup(bytes.NewReader(b), func(k string) (string, bool) { v, ok := currentEnv[k] if ok { return v, true } v, ok = envMap[k] return v, ok }) if err != nil { return envMap, fmt.Errorf(\"failed to read %s: %w\", dotEnvFile, err) } for k, v := range env { envMap[k] = v } } return envMap, nil }" ∧
    CV.Gen.dotenv_startsWithDigitRegex =
      "^\\s*\\d.*" :=
  ⟨rfl, rfl, rfl, rfl, rfl, rfl, rfl, rfl, rfl, rfl, rfl, rfl, rfl, rfl⟩

/-! ## never crashes, always terminates -/

/-- **Never crashes, always terminates.**  For EVERY input string and EVERY lookup function, parsing returns a
    map or an error: none of the parser's own index and slice expressions (`src[pos:]`, `src[0]`, `src[0:i]`,
    `src[offset:]`, `strings.Split(..)[0]`, `src[i]`, `src[i+1:]`, `src[:valEndIndex]`) is ever out of range,
    the statement loop ends within `len(src)+2` iterations, and `template.Substitute` (C07
    `subst_never_panics`, with the fuel `Template.fuelFor` that `subst` itself supplies) does not panic. -/
theorem parse_never_panics (src : Str) (lookup : Env) (s : Site) : parse src lookup ≠ .panic s :=
  parse_ne_panic src lookup s

/-- the part of the above that does not depend on C07: a panic of `parse` could only be a panic of
    `template.Substitute` on some input -/
theorem parse_own_sites_never_panic (src : Str) (lookup : Env) (s : Site) (h : parse src lookup = .panic s) :
    ∃ p, s = .tmpl p ∧ ∃ env t, Template.subst env t = .panic p :=
  parse_panic_sites src lookup s h

/-- `GetEnvFromFile` on any list of file contents never panics either -/
theorem fromFiles_never_panics (cur : Env) (files : List Str) (m : Map) (s : Site) : fromFiles cur files m ≠ .panic s := by
  rw [fromFiles_eq_fold]; exact foldFiles_ne_panic _ _ files m s

/-- `ReadWithLookup` never panics either -/
theorem readFiles_never_panics (lookup : Env) (files : List Str) (m : Map) (s : Site) : readFiles lookup files m ≠ .panic s := by
  rw [readFiles_eq_fold]; exact foldFiles_ne_panic _ _ files m s

/-- keys that start with a digit are dropped by `ReadWithLookup` (and only by it) -/
example : readFiles (fun _ => none) [['1', 'A', '=', 'x', '\n', 'B', '=', 'y', '\n']] [] = .ok [(['B'], ['y'])] := by decide +kernel

/-! ## the parser computes the grammar's meaning -/

/-- Refinement.  For EVERY list of well-formed grammar lines (blank, comment, bare key, assignment with
    `=` or `:`, optional `export`, unquoted / single-quoted / double-quoted value, trailing white space,
    inline or trailing comment; no bound on the number or length of lines) and every lookup function,
    parsing the rendered file yields exactly what the grammar says: later assignments replace earlier
    ones, bare keys are inherited from the lookup, single-quoted values are literal, unquoted and
    double-quoted values are interpolated against the lookup first and earlier lines second. -/
theorem parse_render (lookup : Env) (ls : List Line) (hwf : WF ls = true) :
    parse (render ls) lookup = evalLines lookup ls :=
  parse_render_lemma lookup ls hwf

/-- non-vacuity: a file using every line form is well-formed -/
example : WF [
    .comment [' '] ['h', 'i'],
    .assign [] (some [' ']) ['A'] [] .eq [' '] (.unq ['$', 'B', ' ', 'x']) [' '] (some ['c']),
    .blank ['\t'],
    .assign ['\t'] none ['B', '.', '1'] [' '] .colon [] (.dq [.chr 'a', .esc 'n', .quote, .esc '$']) [] none,
    .assign [] none ['A'] [] .eq [] (.sq [.chr '$', .quote, .esc 'n']) ['\r'] (some []),
    .bare [] (some ['\t']) ['C'] [' ']] = true := by decide +kernel

/-- the same statement for a file that continues after the well-formed lines: the lines are evaluated, `o` is what the
    loop does on the rest (the error theorems; stated for every fuel from 2 on, `parse_after` has the fuel-free form) -/
theorem parse_after_lines (lookup : Env) (ls : List Line) (hwf : WF ls = true) (tail : Str) (o : Map → POut)
    (h : ∀ f m, parseLoop (f + 2) tail m lookup = o m) :
    parse (render ls ++ tail) lookup = (evalLines lookup ls).andThen o := by
  rw [parse_after lookup ls hwf tail]
  congr 1
  funext m
  exact (parseLoop_eq_run (by omega) m lookup).symm.trans (h tail.length m)

/-- Refinement for files whose last line has no line feed (this includes a final
    bare key): the result is the same as with the line feed. -/
theorem parse_render_noFinalNL (lookup : Env) (ls : List Line) (hwf : WF ls = true) :
    parse (renderNoFinalNL ls) lookup = evalLines lookup ls := by
  rcases List.eq_nil_or_concat ls with rfl | ⟨init, l, rfl⟩
  · exact (parse_eq_run [] lookup).trans (parseRun_nil [] lookup)
  · rw [List.concat_eq_append] at hwf ⊢
    simp only [WF, List.all_append, List.all_cons, List.all_nil, Bool.and_true, Bool.and_eq_true] at hwf
    have hl := fun m => parseRun_line lookup l (.inl rfl) m hwf.2
    simp only [List.append_nil, List.tail_nil, parseRun_nil, POut.andThen_ok] at hl
    rw [renderNoFinalNL_concat, parse_after lookup init hwf.1, evalLines, evalLines, evalFrom_append]
    simp only [hl]


/-! ## escape sequences of double-quoted values -/

theorem expandEscapes_plain (s : Str) (h : ∀ c ∈ s, c ≠ '\\') : expandEscapes s = s := by
  induction s with
  | nil => rfl
  | cons c s ih => rw [expandEscapes_cons_ne (h c (by simp)), ih (fun x hx => h x (by simp [hx]))]

/-- the single-character escapes: the table of `escapeSeqRegex` (`\\$` becomes the template escape `$$`) -/
theorem expandEscapes_simple (c : Char) (x s : Str) (h : simpleEscape c = some x) :
    expandEscapes ('\\' :: c :: s) = x ++ expandEscapes s := by
  simp [expandEscapes, expEsc, h]

theorem simpleEscape_table :
    simpleEscape 'a' = some ['\x07'] ∧ simpleEscape 'b' = some ['\x08'] ∧ simpleEscape 'f' = some ['\x0c'] ∧
    simpleEscape 'n' = some ['\n'] ∧ simpleEscape 'r' = some ['\r'] ∧ simpleEscape 't' = some ['\t'] ∧
    simpleEscape 'v' = some ['\x0b'] ∧ simpleEscape '\\' = some ['\\'] ∧ simpleEscape '"' = some ['"'] ∧
    simpleEscape '$' = some ['$', '$'] ∧ simpleEscape 'x' = none ∧ simpleEscape 'u' = none ∧ simpleEscape '\'' = none := by
  decide +kernel

theorem expandEscapes_other (c : Char) (s : Str) (h : simpleEscape c = none) (h0 : c ≠ '0') :
    expandEscapes ('\\' :: c :: s) = '\\' :: expandEscapes (c :: s) := by
  have : (c == '0') = false := by simpa using h0
  simp [expandEscapes, expEsc, h, this]

/-- the `\\0` escape in general: the match is `\\0` plus up to three digits (greedy); it is replaced by
    `octalRepl` of the digits -/
theorem expandEscapes_zero (s : Str) :
    expandEscapes ('\\' :: '0' :: s) =
      octalRepl ((s.take 3).takeWhile Char.isDigit) ++
        expandEscapes (s.drop ((s.take 3).takeWhile Char.isDigit).length) := by
  have e0 : simpleEscape '0' = none := by decide
  unfold expandEscapes
  rw [expEsc]
  simp only [beq_self_eq_true, if_true, e0]
  rw [expEsc_skip]
  congr 2
  rw [Nat.add_comm, List.drop_succ_cons]

/-- XSI octal escapes: `\\0ddd` with three octal digits of value ≤ 255 denotes that code point -/
theorem expandEscapes_octal (d1 d2 d3 : Char) (s : Str)
    (h1 : isOct d1 = true) (h2 : isOct d2 = true) (h3 : isOct d3 = true) (hv : octVal [d1, d2, d3] ≤ 255) :
    expandEscapes ('\\' :: '0' :: d1 :: d2 :: d3 :: s) = Char.ofNat (octVal [d1, d2, d3]) :: expandEscapes s := by
  have hd : ((d1 :: d2 :: d3 :: s).take 3).takeWhile Char.isDigit = [d1, d2, d3] := by
    simp [List.takeWhile, isOct_isDigit h1, isOct_isDigit h2, isOct_isDigit h3]
  rw [expandEscapes_zero, hd]
  simp [octalRepl, h1, h2, h3, hv]

/-- unless the digits after `\\0` are exactly three octal digits of value ≤ 255 the replacement is the match with
    its `0` removed (fewer than three digits, a digit 8 or 9, a value above 255) -/
theorem octalRepl_rejected (ds : Str) (h : ¬ (ds.length = 3 ∧ ds.all isOct = true ∧ octVal ds ≤ 255)) :
    octalRepl ds = '\\' :: ds := by
  unfold octalRepl
  split
  · rename_i hc
    simp only [Bool.and_eq_true, beq_iff_eq, decide_eq_true_eq] at hc
    exact absurd ⟨hc.1.1, hc.1.2, hc.2⟩ h
  · rfl

/-- non-vacuity and the failure cases (fewer than three digits, value > 255: the rewritten match is kept) -/
example : expandEscapes ['\\', '0', '1', '2', '3', 'Z'] = ['S', 'Z'] := by decide +kernel
example : expandEscapes ['\\', '0', '1', '2'] = ['\\', '1', '2'] := by decide +kernel
example : expandEscapes ['\\', '0', '7', '7', '7'] = ['\\', '7', '7', '7'] := by decide +kernel

/-! ## interpolation: values built from the Compose interpolation grammar (C07) -/

/-- an unquoted value that is the concrete syntax of a well-formed template means what the interpolation
    grammar says (C07 `subst_render`) -/
theorem value_unq_template (env : Env) (t : List Seg) (h : Template.WF t = true) :
    (Value.unq (renderL t)).eval env = evalOut env t :=
  subst_render env t h

/-- the same between double quotes, after escape processing -/
theorem value_dq_template (env : Env) (items : List QItem) (t : List Seg)
    (he : expandEscapes (rawItems '"' items) = renderL t) (h : Template.WF t = true) :
    (Value.dq items).eval env = evalOut env t := by
  simp only [Value.eval, he]
  exact subst_render env t h

/-- the environment of the interpolation answers with the lookup function's value when it has one -/
theorem envOf_lookup_first (lookup : Env) (m : Map) (k v : Str) (h : lookup k = some v) : envOf lookup m k = some v := by
  rw [envOf, h]

/-- a variable the lookup reports as set to the empty string is set: it does not fall through to earlier lines -/
example (lookup : Env) (m : Map) (k : Str) (h : lookup k = some []) : envOf lookup m k = some [] :=
  envOf_lookup_first lookup m k [] h

/-- where the lookup function has no value, the environment answers with the earlier lines -/
theorem envOf_earlier_second (lookup : Env) (m : Map) (k : Str) (h : lookup k = none) : envOf lookup m k = get m k := by
  rw [envOf, h]

/-- **Refinement with interpolation.**  After ANY well-formed lines, an assignment whose unquoted value is
    the concrete syntax of ANY well-formed template `t` (variables, braces, the six operators, nesting)
    defines the key as the grammar's meaning of `t` in the environment "lookup first, earlier lines second";
    an error of the template (`${X:?msg}`) is the error of the file, with the earlier lines evaluated. -/
theorem parse_render_interpolated (lookup : Env) (ls : List Line) (hwf : WF ls = true)
    (i : Str) (e : Option Str) (key w1 : Str) (sep : Sep) (w2 : Str) (t : List Seg) (tr : Str) (c : Option Str)
    (ht : Template.WF t = true) (hl : (Line.assign i e key w1 sep w2 (.unq (renderL t)) tr c).wf = true) :
    parse (render (ls ++ [.assign i e key w1 sep w2 (.unq (renderL t)) tr c])) lookup =
      (evalLines lookup ls).andThen
        (fun m => assignOut (evalOut (envOf lookup m) t) (fun x => .ok (put m key x)) m) :=
  parse_render_assign_last lookup ls hwf i e key w1 sep w2 _ tr c hl (fun env => value_unq_template env t ht)

/-- the same for a double-quoted value without quote or backslash characters -/
theorem parse_render_interpolated_dq (lookup : Env) (ls : List Line) (hwf : WF ls = true)
    (i : Str) (e : Option Str) (key w1 : Str) (sep : Sep) (w2 : Str) (t : List Seg) (tr : Str) (c : Option Str)
    (ht : Template.WF t = true) (hs : ∀ x ∈ renderL t, x ≠ '\\')
    (hl : (Line.assign i e key w1 sep w2 (.dq ((renderL t).map QItem.chr)) tr c).wf = true) :
    parse (render (ls ++ [.assign i e key w1 sep w2 (.dq ((renderL t).map QItem.chr)) tr c])) lookup =
      (evalLines lookup ls).andThen
        (fun m => assignOut (evalOut (envOf lookup m) t) (fun x => .ok (put m key x)) m) :=
  parse_render_assign_last lookup ls hwf i e key w1 sep w2 _ tr c hl
    (fun env => value_dq_template env _ t (by rw [rawItems_chr, expandEscapes_plain _ hs]) ht)

/-- `$NAME` / `${NAME}`: the lookup's value if the lookup has one (even the empty string), else the value an
    earlier line gave, else empty -/
theorem interpolation_precedence (lookup : Env) (m : Map) (n : Str) (b : Bool) :
    evalOut (envOf lookup m) [Seg.var n b] = .ok (((lookup n).or (get m n)).getD []) := by
  cases h : lookup n <;> simp [evalOut, evalL, Seg.eval, envOf, h]

/-- non-vacuity: `K=a${A:-$B}` satisfies the hypotheses -/
example : Template.WF [.lit ['a'], .op ['A'] .colonDash [.var ['B'] false]] = true ∧
    (Line.assign [] none ['K'] [] .eq [] (.unq (renderL [.lit ['a'], .op ['A'] .colonDash [.var ['B'] false]])) [] none).wf = true := by
  decide +kernel
/-- lookup says `A` is set to "", an earlier line says `A=x`: the lookup's empty value wins -/
example : parse ['A', '=', 'x', '\n', 'B', '=', '$', 'A', '\n'] (fun k => if k = ['A'] then some [] else none) =
    .ok [(['A'], ['x']), (['B'], [])] := by decide +kernel

/-! ## several files (`GetEnvFromFile`) -/

/-- **Refinement for several files.**  For ANY list of well-formed files (each optionally preceded by a
    byte-order mark), `GetEnvFromFile` computes the fold the grammar describes: each file is evaluated with the
    caller's environment first and the variables of earlier files second; its variables replace those of earlier
    files; the first failing file stops the fold. -/
theorem fromFiles_render (cur : Env) (fs : List (Bool × List Line)) (m : Map) (h : ∀ f ∈ fs, WF f.2 = true) :
    fromFiles cur (fs.map fun f => withBOM f.1 (render f.2)) m = evalFilesFrom cur (fs.map Prod.snd) m := by
  induction fs generalizing m with
  | nil => rfl
  | cons f fs ih =>
    have hwf := h f (List.mem_cons_self ..)
    rw [List.map_cons, List.map_cons, fromFiles, evalFilesFrom, stripBOM_render f.1 f.2 hwf, parse_render_lemma _ f.2 hwf]
    cases evalLines (envOf cur m) f.2 with
    | ok env => exact ih _ (fun g hg => h g (List.mem_cons_of_mem _ hg))
    | err e pm => rfl
    | panic s => rfl

/-- the lookup chain while a file is read: caller's environment, then earlier files, then earlier lines -/
theorem envOf_chain (cur : Env) (m m' : Map) (k : Str) :
    envOf (envOf cur m) m' k = (cur k).or ((get m k).or (get m' k)) := by
  unfold envOf
  cases cur k <;> cases get m k <;> rfl

/-- merging a file's variables: the file's value where it has one, the accumulated value otherwise -/
theorem get_mergeInto (env m : Map) (k : Str) (h : (env.map Prod.fst).Nodup) :
    get (mergeInto m env) k = (get env k).or (get m k) :=
  get_mergeInto_lemma env m k h

example : fromFiles (fun k => if k = ['A'] then some ['e'] else none)
    [['A', '=', '1', '\n', 'B', '=', '$', 'A', '\n'], ['\uFEFF', 'C', '=', '$', 'B', '\n', 'B', '=', '2']] [] =
    .ok [(['A'], ['1']), (['B'], ['2']), (['C'], ['e'])] := by decide +kernel


/-! ## `GetEnvFromFile` and `ReadWithLookup` on arbitrary file contents; escapes composed with interpolation -/

/-- whatever the input, a successful parse returns a map with distinct keys (a faithful Go map) -/
theorem parse_keys_nodup (src : Str) (lookup : Env) (r : Map) (h : parse src lookup = .ok r) : (r.map Prod.fst).Nodup :=
  parse_keys_nodup_lemma src lookup r h

/-- `GetEnvFromFile` on ANY file contents (well-formed or not): the files are read left to right and the only
    state carried from one file to the next is the accumulated map -/
theorem fromFiles_append (cur : Env) (a b : List Str) (m : Map) :
    fromFiles cur (a ++ b) m = (fromFiles cur a m).andThen (fun m' => fromFiles cur b m') := by
  simp only [fromFiles_eq_fold]; exact foldFiles_append _ _ a b m

/-- a file that parses (under "caller's environment first, earlier files second") contributes exactly its
    variables: afterwards `get` returns the file's value where it has one and the accumulated value otherwise -/
theorem fromFiles_step_ok (cur : Env) (a : List Str) (f : Str) (m m' env : Map)
    (ha : fromFiles cur a m = .ok m') (hf : parse (stripBOM f) (envOf cur m') = .ok env) :
    fromFiles cur (a ++ [f]) m = .ok (mergeInto m' env) ∧
    ∀ k, get (mergeInto m' env) k = (get env k).or (get m' k) := by
  refine ⟨?_, fun k => get_mergeInto_lemma env m' k (parse_keys_nodup_lemma _ _ env hf)⟩
  rw [fromFiles_append, ha]
  show fromFiles cur [f] m' = _
  rw [fromFiles, hf]; rfl

/-- the first file that does not parse stops the fold: its error is returned together with the map
    accumulated from the files before it, whatever follows -/
theorem fromFiles_step_err (cur : Env) (a b : List Str) (f : Str) (m m' pm : Map) (e : PErr)
    (ha : fromFiles cur a m = .ok m') (hf : parse (stripBOM f) (envOf cur m') = .err e pm) :
    fromFiles cur (a ++ f :: b) m = .err e m' := by
  rw [fromFiles_append, ha]
  show fromFiles cur (f :: b) m' = .err e m'
  rw [fromFiles, hf]

/-- the map accumulated by `GetEnvFromFile` keeps distinct keys -/
theorem fromFiles_keys_nodup (cur : Env) (fs : List Str) (m r : Map) (h : fromFiles cur fs m = .ok r)
    (hm : (m.map Prod.fst).Nodup) : (r.map Prod.fst).Nodup := by
  rw [fromFiles_eq_fold] at h
  exact foldFiles_inv (lk := envOf cur) (keep := id) _ (fun m _ env hm _ => mergeInto_keys_nodup env m hm) fs m r
    (by rw [h]; rfl) hm

example : fromFiles (fun _ => none) [['A', '=', '1', '\n'], ['B', '=', '"', 'x'], ['C', '=', '3']] [] =
    .err .unterminated [(['A'], ['1'])] := by decide +kernel

/-- `ReadWithLookup` on ANY list of well-formed files (optional BOM each) is the fold the grammar describes:
    lookup function only, digit-initial names dropped, later files win -/
theorem readFiles_render (lookup : Env) (fs : List (Bool × List Line)) (m : Map) (h : ∀ f ∈ fs, WF f.2 = true) :
    readFiles lookup (fs.map fun f => withBOM f.1 (render f.2)) m = evalReadFrom lookup (fs.map Prod.snd) m := by
  induction fs generalizing m with
  | nil => rfl
  | cons f fs ih =>
    have hwf := h f (List.mem_cons_self ..)
    rw [List.map_cons, List.map_cons, readFiles, evalReadFrom, stripBOM_render f.1 f.2 hwf, parse_render_lemma _ f.2 hwf]
    cases evalLines lookup f.2 with
    | ok env => exact ih _ (fun g hg => h g (List.mem_cons_of_mem _ hg))
    | err e pm => rfl
    | panic s => rfl

/-- any text can be written between double quotes: `dqEncode` writes the quote as `\\"`, the backslash as
    `\\\\` and leaves everything else (in particular `$`) alone; escape processing gives the text back -/
theorem expandEscapes_encoded (u : Str) : expandEscapes (rawItems '"' (dqEncode u)) = u ∧ (dqEncode u).all (QItem.wf '"') = true :=
  ⟨expandEscapes_dqEncode u, dqEncode_wf u⟩

/-- escapes composed with interpolation: the double-quoted encoding of the concrete syntax of ANY well-formed
    template (quotes, backslashes and line feeds included) means what the interpolation grammar says -/
theorem value_dq_encoded (env : Env) (t : List Seg) (h : Template.WF t = true) :
    (Value.dq (dqEncode (renderL t))).eval env = evalOut env t :=
  value_dq_template env _ t (expandEscapes_dqEncode _) h

/-- the dotenv escape `\\$` is the template escape `$$`: a literal dollar sign, never a substitution -/
theorem value_dq_dollar (env : Env) (t : List Seg) (h : Template.WF (Seg.esc :: t) = true) :
    (Value.dq (QItem.esc '$' :: dqEncode (renderL t))).eval env = evalOut env (Seg.esc :: t) := by
  apply value_dq_template env _ (Seg.esc :: t) _ h
  rw [rawItems, QItem.raw]
  simp only [List.cons_append, List.nil_append]
  rw [expandEscapes_simple '$' ['$', '$'] _ (by decide), expandEscapes_dqEncode]
  rfl

/-- **Refinement with escapes and interpolation.**  After ANY well-formed lines, `KEY="…"` whose body is the
    `dqEncode`-ing of ANY well-formed template defines KEY as the template's grammar meaning, lookup first,
    earlier lines second. -/
theorem parse_render_interpolated_dq_escaped (lookup : Env) (ls : List Line) (hwf : WF ls = true)
    (i : Str) (e : Option Str) (key w1 : Str) (sep : Sep) (w2 : Str) (t : List Seg) (tr : Str) (c : Option Str)
    (ht : Template.WF t = true)
    (hl : (Line.assign i e key w1 sep w2 (.dq (dqEncode (renderL t))) tr c).wf = true) :
    parse (render (ls ++ [.assign i e key w1 sep w2 (.dq (dqEncode (renderL t))) tr c])) lookup =
      (evalLines lookup ls).andThen
        (fun m => assignOut (evalOut (envOf lookup m) t) (fun x => .ok (put m key x)) m) :=
  parse_render_assign_last lookup ls hwf i e key w1 sep w2 _ tr c hl (fun env => value_dq_encoded env t ht)

/-- non-vacuity: `K="a\\"${A:-\\\\}"` -/
example : Template.WF [.lit ['a', '"'], .op ['A'] .colonDash [.lit ['\\']]] = true ∧
    (Line.assign [] none ['K'] [] .eq []
      (.dq (dqEncode (renderL [.lit ['a', '"'], .op ['A'] .colonDash [.lit ['\\']]]))) [] none).wf = true := by
  decide +kernel

/-! ## malformed input is an error -/

/-- After ANY well-formed lines, an assignment whose value opens a quote that is never closed before the end
    of the input (the body is any sequence of ordinary characters, escaped quotes and backslash pairs,
    possibly ending in a lone backslash) is the error "unterminated quoted value"; the lines before it
    have been evaluated. -/
theorem unterminated_err (lookup : Env) (ls : List Line) (hwf : WF ls = true)
    (indent : Str) (exp : Option Str) (key ws1 : Str) (sep : Sep) (ws2 : Str)
    (q : Char) (hq : q = '"' ∨ q = '\'') (items : List QItem) (t : Str) (ht : t = [] ∨ t = ['\\'])
    (hi : nbAll indent = true) (he : expOk exp = true) (hk : validKey key = true) (h1 : nbAll ws1 = true)
    (h2 : nbAll ws2 = true) (hw : items.all (QItem.wf q) = true) :
    parse (render ls ++ (indent ++ (renderExp exp ++ (key ++ (ws1 ++ sep.char :: (ws2 ++ q :: (renderItems q items ++ t))))))) lookup =
      (evalLines lookup ls).andThen (fun m => .err .unterminated m) := by
  rw [parse_after lookup ls hwf]
  exact congrArg _ (funext fun m => parseRun_unterminated indent exp key ws1 sep ws2 q hq items t ht m lookup hi he hk h1 h2 hw)

example : parse ['K', '=', '"', 'a', '\\', '"'] (fun _ => none) = .err .unterminated [] := by decide +kernel
example : parse ['A', '=', '1', '\n', 'K', '=', '\'', 'a', '\n', 'B', '=', '2'] (fun _ => none) =
    .err .unterminated [(['A'], ['1'])] := by decide +kernel

/-- After ANY well-formed lines, a statement whose key text (characters before the first `=`, `:` or line
    feed) contains a character that is neither a key rune nor white space is the error "unexpected
    character"; the lines before it have been evaluated.  (`_partial`: the full-strength statement
    `InvalidKeyIsError` also covers the empty key and is false — `Neg/C18.lean`.) -/
theorem invalid_key_err_partial (lookup : Env) (ls : List Line) (hwf : WF ls = true)
    (indent : Str) (exp : Option Str) (pre : Str) (c : Char) (rest : Str)
    (hi : nbAll indent = true) (he : expOk exp = true) (hpre : pre.all okChar = true)
    (hlead : pre.dropWhile isSpaceNB = pre)
    (hc : badChar c = true) (hhash : pre ≠ [] ∨ c ≠ '#') :
    parse (render ls ++ (indent ++ (renderExp exp ++ (pre ++ c :: rest)))) lookup =
      (evalLines lookup ls).andThen (fun m => .err .unexpectedChar m) := by
  rw [parse_after lookup ls hwf]
  exact congrArg _ (funext fun m => by rw [parseRun_step, stepL_badkey indent exp pre c rest m lookup hi he hpre hlead hc hhash])

/-- `export` in front of an invalid key changes nothing: the key text may itself begin with the word `export`
    (`export$=1`, `export A$=1` written without the `exp` field) — the bad character is still reached -/
example : parse ['e', 'x', 'p', 'o', 'r', 't', ' ', 'A', '$', '=', '1'] (fun _ => none) = .err .unexpectedChar [] := by decide +kernel
example : parse ['e', 'x', 'p', 'o', 'r', 't', '$', '=', '1'] (fun _ => none) = .err .unexpectedChar [] := by decide +kernel

/-- After ANY well-formed lines, an assignment whose key text consists of two words separated by white space
    (space, tab, VT, FF, CR, NEL, NBSP — all of them) is the error "key cannot contain a space". -/
theorem key_with_space_err (lookup : Env) (ls : List Line) (hwf : WF ls = true)
    (indent : Str) (exp : Option Str) (k1 ws k2 ws1 : Str) (sep : Sep) (X : Str)
    (hi : nbAll indent = true) (he : expOk exp = true) (hk1 : validKey k1 = true)
    (hws : nbAll ws = true) (hne : ws ≠ []) (hk2 : k2.all isKeyRune = true) (hne2 : k2 ≠ []) (h1 : nbAll ws1 = true) :
    parse (render ls ++ (indent ++ (renderExp exp ++ (k1 ++ (ws ++ (k2 ++ (ws1 ++ sep.char :: X))))))) lookup =
      (evalLines lookup ls).andThen (fun m => .err .keySpace m) := by
  rw [parse_after lookup ls hwf]
  exact congrArg _ (funext fun m => parseRun_keyspace indent exp k1 ws k2 ws1 sep X m lookup hi he hk1 hws hne hk2 hne2 h1)

/-- non-vacuity: `A$B=1` after a valid line -/
example : badChar '$' = true ∧ ['A'].all okChar = true ∧ ['A'].dropWhile isSpaceNB = ['A'] := by decide +kernel
example : parse ['X', '=', '1', '\n', 'A', '$', 'B', '=', '1'] (fun _ => none) = .err .unexpectedChar [(['X'], ['1'])] := by decide +kernel
/-- a key with an inner space or tab is rejected -/
example : parse ['A', ' ', 'B', '=', '1'] (fun _ => none) = .err .keySpace [] := by decide +kernel
example : parse ['A', '\t', 'B', '=', '1'] (fun _ => none) = .err .keySpace [] := by decide +kernel
/-- a bare key on the last line without a line feed is inherited -/
example : parse ['A', '=', '1', '\n', 'K'] (fun k => if k = ['K'] then some ['v'] else none) =
    .ok [(['A'], ['1']), (['K'], ['v'])] := by decide +kernel

/-! ## the result map behaves like a map: later assignments win -/

theorem get_put_same (m : Map) (k v : Str) : get (put m k v) k = some v := get_put_same_lemma m k v

theorem get_put_other (m : Map) (k k' v : Str) (h : k' ≠ k) : get (put m k v) k' = get m k' :=
  get_put_other_lemma m k k' v h

/-- keys stay distinct: the association list is a faithful Go map -/
theorem put_keys_nodup (m : Map) (k v : Str) (h : (m.map Prod.fst).Nodup) : ((put m k v).map Prod.fst).Nodup :=
  put_keys_nodup_lemma m k v h

/-! ## which names can enter the map; `ReadWithLookup` as a fold; the traced model -/

/-- "an invalid key is an error", converse direction and for EVERY input (no well-formedness hypothesis):
    whatever the byte string, every name in the returned map — also in the partial map that accompanies an error —
    consists of key runes only (`[A-Za-z0-9_.\-\[\]]`, letters, numbers): no white space of any kind, no
    delimiter, no quote, no `#`, no `$`, no backslash ever gets into a variable name.  (The empty name is a word
    over the key runes: that is the recorded finding `invalid-key:empty-accepted`, see `Neg/C18.lean`.) -/
theorem parse_keys_valid (src : Str) (lookup : Env) (r : Map) (h : (parse src lookup).map? = some r) :
    ∀ kv ∈ r, kv.1.all isKeyRune = true :=
  (parse_inv KeysValid (fun m k v hk hm => put_keysValid v hm hk) src lookup (fun _ hkv => by cases hkv)).1 r h

/-- the same through `GetEnvFromFile`, on arbitrary file contents -/
theorem fromFiles_keys_valid (cur : Env) : ∀ (fs : List Str) (m r : Map),
    (fromFiles cur fs m).map? = some r → KeysValid m → KeysValid r := by
  intro fs m r h
  rw [fromFiles_eq_fold] at h
  exact foldFiles_inv _ (fun m _ env hm hp => mergeInto_keysValid hm (parse_keys_valid _ _ env (by rw [hp]; rfl))) fs m r h

/-- non-vacuity: a file with every kind of junk around two definitions; the names that come out are `A` and `b.c` -/
example : parse [' ', 'A', ' ', '=', '\'', '$', '\'', ' ', '#', '\n', 'b', '.', 'c', ':', '1'] (fun _ => none) =
    .ok [(['A'], ['$']), (['b', '.', 'c'], ['1'])] := by decide +kernel

/-- `ReadWithLookup` on ARBITRARY file contents is a left-to-right fold whose only state is the map -/
theorem readFiles_append (lookup : Env) (a b : List Str) (m : Map) :
    readFiles lookup (a ++ b) m = (readFiles lookup a m).andThen (fun m' => readFiles lookup b m') := by
  simp only [readFiles_eq_fold]; exact foldFiles_append _ _ a b m

/-- a file that parses (against the lookup function ONLY: earlier files are not visible) contributes its
    variables except those whose name starts with a digit; afterwards `get k` is the file's value if it has one -/
theorem readFiles_step_ok (lookup : Env) (f : Str) (m env : Map) (h : parse (stripBOM f) lookup = .ok env) :
    readFiles lookup [f] m = .ok (mergeInto m (env.filter fun kv => !startsWithDigit kv.1)) ∧
    ∀ k, get (mergeInto m (env.filter fun kv => !startsWithDigit kv.1)) k =
      (get (env.filter fun kv => !startsWithDigit kv.1) k).or (get m k) :=
  ⟨by rw [readFiles, h]; rfl,
   fun k => get_mergeInto_lemma _ m k (filter_keys_nodup _ env (parse_keys_nodup_lemma _ _ env h))⟩

/-- the first file that fails stops the fold of `ReadWithLookup` with its error and the map accumulated before it -/
theorem readFiles_step_err (lookup : Env) (f : Str) (m pm : Map) (e : PErr) (h : parse (stripBOM f) lookup = .err e pm) :
    readFiles lookup [f] m = .err e m := by
  rw [readFiles, h]

/-- whatever the files contain, `ReadWithLookup` returns distinct names, none of which starts with a digit
    (`startsWithDigitRegex`) -/
theorem readFiles_keys (lookup : Env) (fs : List Str) (r : Map) (h : readFiles lookup fs [] = .ok r) :
    (r.map Prod.fst).Nodup ∧ ∀ kv ∈ r, startsWithDigit kv.1 = false := by
  rw [readFiles_eq_fold] at h
  have hr : (foldFiles (fun _ => lookup) (List.filter fun kv => !startsWithDigit kv.1) fs []).map? = some r := by rw [h]; rfl
  refine ⟨foldFiles_inv _ (fun m _ env hm _ => mergeInto_keys_nodup _ m hm) fs [] r hr List.nodup_nil,
    foldFiles_inv (fun m => ∀ kv ∈ m, startsWithDigit kv.1 = false) (fun m _ env hm _ kv hkv => ?_) fs [] r hr (fun _ h => by cases h)⟩
  rcases mem_mergeInto hkv with hkv | hkv
  · simpa using (List.mem_filter.mp hkv).2
  · exact hm kv hkv

example : readFiles (fun _ => none) [['9', '=', '1', '\n', 'B', '=', '2'], ['B', '=', '3']] [] = .ok [(['B'], ['3'])] := by decide +kernel

/-- the traced model that the correspondence runs (`Model/DotenvTrace.lean`: `parseLoop` with a
    bit mask of the branches taken as one more accumulator) computes exactly the model's outcome, for every input;
    the branch histogram in the evidence is therefore a histogram of runs of `parse` itself -/
theorem parseT_is_parse (src : Str) (lookup : Env) : (parseT src lookup).1 = parse src lookup :=
  parseLoopT_fst _ src [] lookup 0

/-! ## the scanner cannot observe a renaming of the code points it does not mention

`Renaming φ` and `special` are in `Lemmas/TemplateParam.lean`: Latin-1 contains every code point a test of the model mentions
and every code point an octal escape can produce; U+017F, U+212A are what the template scanner's `(?i)[a-z]` accepts besides.
All other code points are "generic": the theorems say that the model treats them uniformly, function by function. -/

/-- statement start (`getStatementStart`: leading white space, comment lines) -/
theorem stmtStart_parametric {φ : Char → Char} (R : Renaming φ) (n : Nat) (s : Str) :
    stmtStart n (s.map φ) = (stmtStart n s).map (List.map φ) :=
  stmtStart_map R n s

/-- key scanning (`locateKeyName`: `export` prefix, key runes, inner white space, delimiter, inherited flag, trimming):
    same outcome class and flag, key and rest renamed -/
theorem locateKey_parametric {φ : Char → Char} (R : Renaming φ) (s : Str) :
    locateKey (s.map φ) = Stage.mapBoth (PErr.ren φ) (fun r => (r.1.map φ, r.2.1.map φ, r.2.2)) (locateKey s) := by
  rw [locateKey_eq, locateKey_eq, keyL_map R]
  cases keyL s <;> rfl

/-- the quoted-value loop (either quote; escape state, escaped quotes, backslash pairs) -/
theorem quotedLoop_parametric {φ : Char → Char} (R : Renaming φ) (q : Char) (hq : q = '"' ∨ q = '\'') (src : Str) (n i : Nat)
    (esc : Bool) (acc : Str) :
    quotedLoop q (src.map φ) n i esc (acc.map φ) = QScan.ren φ (quotedLoop q src n i esc acc) :=
  quotedLoop_map R q (by rcases hq with h | h <;> (rw [h]; decide)) src n i esc acc

/-- escape processing of double-quoted values (simple escapes, octal escapes, kept pairs) -/
theorem expandEscapes_parametric {φ : Char → Char} (R : Renaming φ) (s : Str) :
    expandEscapes (s.map φ) = (expandEscapes s).map φ :=
  expandEscapes_map R s

/-- the C07 template model under the parser cannot observe the renaming either (`matchDollar`, `matchBraced`, `spanName`,
    `lastCloseLen`, `firstCloseGo`, `selectOp`, `applyOp` and the mutual fuel recursion `scan` / `repl`): `Template.subst` on the
    renamed text in a renamed environment is the renamed outcome -/
theorem template_parametric {φ : Char → Char} (R : Renaming φ) : SubstCommutes φ := by
  intro env env' h v
  rw [subst_eq_run, subst_eq_run]
  exact run_map R h v

/-- the whole parser, UNCONDITIONALLY: renaming the generic code points of the file and of the lookup's answers renames the
    result — names, values, the partial map and the strings inside a `required` error — and changes nothing else (same outcome
    class, same error class, never a new panic).  So what the model says about one generic code point (currency sign, arrow,
    combining mark, CJK punctuation, private use, emoji, …) it says about every other one: the six representatives in the
    generators stand for the whole class. -/
theorem parse_parametric {φ : Char → Char} (R : Renaming φ) {lookup lookup' : Env} (h : EnvRel φ lookup lookup') (s : Str) :
    parse (s.map φ) lookup' = POut.ren φ (parse s lookup) :=
  parse_map R (template_parametric R) h s

/-- the same through `GetEnvFromFile`, for any list of file contents (BOM stripping included) -/
theorem fromFiles_parametric {φ : Char → Char} (R : Renaming φ) {cur cur' : Env} (h : EnvRel φ cur cur') (fs : List Str) :
    fromFiles cur' (fs.map (List.map φ)) [] = POut.ren φ (fromFiles cur fs []) :=
  fromFiles_map R (template_parametric R) h fs []

/-- the part of a file's meaning that does not go through interpolation: the result map of a put
    and the lookup chain commute with the renaming (so later-wins and lookup-first are renaming-invariant) -/
theorem map_ops_parametric {φ : Char → Char} (R : Renaming φ) (m : Map) (k v : Str) :
    put (Map.ren φ m) (k.map φ) (v.map φ) = Map.ren φ (put m k v) ∧
    get (Map.ren φ m) (k.map φ) = (get m k).map (List.map φ) ∧
    ∀ lk lk', EnvRel φ lk lk' → EnvRel φ (envOf lk m) (envOf lk' (Map.ren φ m)) :=
  ⟨put_ren R m k v, get_ren R m k, fun _ _ h => envOf_rel R h m⟩

/-- non-vacuity: exchanging `€` (U+20AC) and `→` (U+2192) is a renaming that is not the identity -/
def swapEuroArrow (c : Char) : Char := if c = '€' then '→' else if c = '→' then '€' else c

example : Renaming swapEuroArrow where
  inj := by
    intro a b h
    unfold swapEuroArrow at h
    grind
  fix := by
    intro c hc
    have h1 : special '€' = false := by decide
    have h2 : special '→' = false := by decide
    unfold swapEuroArrow
    split
    · rename_i h; rw [h, h1] at hc; cases hc
    · split
      · rename_i h; rw [h, h2] at hc; cases hc
      · rfl

/-- non-vacuity of `EnvRel`: the empty lookup is related to itself -/
example : EnvRel swapEuroArrow (fun _ => none) (fun _ => none) := fun _ => rfl

/-- about the branch histogram, not about `expEsc` itself: whatever the quoted-value loop collects from `esc = false`, `acc = []`
    has every backslash followed by a character (`paired`), and on such a text `escTags` — the hand-written mirror of the
    recursion of `expEsc` in `Model/DotenvTrace.lean` — does not set bit 34 (`esc:lone-trailing-backslash`); the third conjunct
    pins the name of that bit -/
theorem lone_backslash_branch_unreachable (q : Char) (hq : q = '"' ∨ q = '\'') (src : Str) (n i : Nat) (chars : Str) (k : Nat)
    (h : quotedLoop q src n i false [] = .closed chars k) :
    paired chars = true ∧ (escTags 0 chars).testBit 34 = false ∧ tagNames[34]? = some "esc:lone-trailing-backslash" := by
  have hq' : q ≠ '\\' := by rcases hq with h | h <;> (rw [h]; decide)
  have hp := quotedLoop_paired q hq' src n i false [] chars k rfl h
  exact ⟨hp, no_lone_of_paired _ chars (Nat.le_refl _) hp, rfl⟩

/-- non-vacuity: `"a\\"` closes with the two characters `a\`… and a text that does end in a lone backslash takes the branch -/
example : quotedLoop '"' ['"', 'a', '\\', '\\', '"'] 4 1 false [] = .closed ['a', '\\', '\\'] 4 := by decide +kernel
example : (escTags 0 ['a', '\\']).testBit 34 = true := by decide +kernel

end CV.Dotenv
