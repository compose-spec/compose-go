import ComposeVerif.Lemmas.C01Stages
import ComposeVerif.Lemmas.C01Dep
import ComposeVerif.Lemmas.C01DepSound
import ComposeVerif.Lemmas.C01Inc
import ComposeVerif.Lemmas.C01Ext
import ComposeVerif.Lemmas.C01Reset
import ComposeVerif.Lemmas.C01Mono
/-!
# C01 — loading is total: a project or an error, never a crash or a hang

Property theorems only (helper lemmas live in `Lemmas/C01*.lean`; the models in `Model/C01Stages.lean`,
`Model/C01Cycles.lean`, `Model/C01Reset.lean`; proved negations in `Neg/C01.lean`; schema kind-safety in `Props/C01Schema.lean`).
All statements hold for every input — no bound on tree size, number of services, files or references.
-/
namespace CV.C01

/-! ## the tree walkers that run before JSON-schema validation never panic, on any tree, any kinds anywhere -/

/-- `processRawYaml`'s head (`convertToStringKeysRecursive` + the `, ok` test): a mapping or an error -/
theorem convertTop_total (raw : GoVal) (site : String) : convertTop raw ≠ .panic site := by
  unfold convertTop
  split <;> nofun

/-- `parseYAML` asserts `converted.(map[string]interface{})` without `, ok`: the assertion cannot fail -/
theorem parseYAML_total (raw : GoVal) (site : String) : parseYAMLTop raw ≠ .panic site := by
  have aux : ∀ r : GoVal, ((∃ kvs, r = .map kvs) ∨ (∃ kvs, r = .imap kvs)) →
      assertMap (convert r) ≠ Out.panic site := by
    intro r hshape
    cases hc : convert r with
    | error c => nofun
    | ok v => obtain ⟨kvs', rfl⟩ := convert_map_shape r v hshape hc; nofun
  cases raw with
  | map kvs => exact aux _ (.inl ⟨kvs, rfl⟩)
  | imap kvs => exact aux _ (.inr ⟨kvs, rfl⟩)
  | _ => nofun

/-- `OmitEmpty` asserts `cleaned.(map[string]any)` without `, ok`: the assertion cannot fail, whatever the table -/
theorem omitEmpty_total (pats : List (List String)) (m : List (String × GoVal)) (site : String) :
    omitEmptyTop pats m ≠ .panic site := by
  unfold omitEmptyTop
  simp only [omitEmpty]
  nofun

/-- `OmitEmpty` runs after each file's schema validation and before the next one's: its result contains no nil slice,
on any tree (it keeps an empty sequence empty) -/
theorem omitEmpty_leaves_no_nil (pats : List (List String)) (v : GoVal) (p : TPath) : noNil (omitEmpty pats v p) = true :=
  omitEmpty_noNil pats v p

/-- what reaches gojsonschema after `convertToStringKeysRecursive` and `fixEmptyNotNull`: string-keyed mappings
only and no nil slice anywhere (the two shapes gojsonschema cannot handle), for every input tree -/
theorem walkers_establish_schema_input (raw v : GoVal) (h : convert raw = .ok v) :
    stringKeyed (fixEmpty v) = true ∧ noNil (fixEmpty v) = true :=
  have hk := convert_stringKeyed raw v h
  ⟨fixEmpty_stringKeyed v hk, fixEmpty_noNil v hk⟩

example : convert (.imap [(.str "services", .seq []), (.str "x", .nilseq)]) = .ok (.map [("services", .nilseq), ("x", .nilseq)]) := by
  rfl

/-- a non-string key anywhere is an error (never a crash, never silently dropped) -/
example : convert (.map [("a", .seq [.imap [(.int 1, .null)]])]) = .error "nonStringKey" := by rfl

/-- `cycle ⇒ err`: `Add` refuses exactly the references already followed on this branch -/
theorem tracker_cycle_err (t : Tracker) (r : Ref) : t.add r = none ↔ r ∈ t := by
  unfold Tracker.add
  split
  · next h => exact ⟨fun _ => h, fun _ => rfl⟩
  · next h => exact ⟨nofun, fun h' => absurd h' h⟩

/-- a chain of references accepted one after the other is duplicate-free, hence no
longer than the set of `(file, service)` pairs it is drawn from -/
theorem tracker_terminates (refs : List Ref) (u : List Ref) (t : Tracker)
    (hu : ∀ r ∈ refs, r ∈ u) (h : Tracker.run refs [] = some t) : refs.length ≤ u.length := by
  obtain ⟨ht, hn⟩ := Tracker.run_spec refs [] t List.nodup_nil h
  simp only [List.nil_append] at ht
  subst ht
  exact hn.length_le_of_subset hu

example : Tracker.run [⟨"f", "a"⟩, ⟨"f", "b"⟩, ⟨"g", "a"⟩] [] = some [⟨"f", "a"⟩, ⟨"f", "b"⟩, ⟨"g", "a"⟩] := by decide +kernel
example : Tracker.run [⟨"f", "a"⟩, ⟨"f", "b"⟩, ⟨"f", "a"⟩] [] = none := by decide +kernel

/-- `applyServiceExtends` returns on every input — any services, any files, any shape
of every `extends` value — once the fuel exceeds the number of `(file, service)` references that exist -/
theorem extends_terminates (fs : Ext.FS) (main : String) (svcs : Ext.Services) (name : String) (fuel : Nat)
    (hf : (Ext.refUniverse fs main svcs).length < fuel) :
    (Ext.resolve fs main fuel svcs name []).1 ≠ .outOfFuel :=
  (Ext.resolve_ne_fuel fs main svcs fuel main svcs name [] (List.mem_cons_self ..) (Ext.inv_self fs main svcs) List.nodup_nil
    (by intro r hr; cases hr) (by simpa using hf)).1

/-- … and so does `ApplyExtends`, in whatever order Go ranges over the services map -/
theorem applyExtends_terminates (fs : Ext.FS) (main : String) (svcs : Ext.Services) (order : List String) (fuel : Nat)
    (hf : (Ext.refUniverse fs main svcs).length < fuel) :
    Ext.applyExtends fs main fuel order svcs ≠ .outOfFuel :=
  Ext.applyExtends_ne_fuel fs main svcs fuel hf order svcs (Ext.inv_self fs main svcs)

/-- a chain of `extends` that can be followed forever (on finite files: one that runs
into a cycle) is reported as "Circular reference" -/
theorem extends_cycle_err (fs : Ext.FS) (main : String) (svcs : Ext.Services) (name : String) (fuel : Nat)
    (hcyc : Ext.Forever fs main (svcs, name)) (hf : (Ext.refUniverse fs main svcs).length < fuel) :
    (Ext.resolve fs main fuel svcs name []).1 = .err "circular" := by
  rcases Ext.resolve_forever fs main fuel main svcs name [] hcyc with h | h
  · exact absurd h (extends_terminates fs main svcs name fuel hf)
  · exact h

/-- non-vacuity: a service extending itself is such a chain … -/
example : Ext.Forever [] "m" ([("a", .ext (.str "a"))], "a") :=
  Ext.forever_of_fixpoint (by decide +kernel)
/-- … so is a ring of two services (period 2), in the same file or across files … -/
example : Ext.Forever [] "m" ([("a", .ext (.str "b")), ("b", .ext (.map (.str "a") .absent))], "a") :=
  Ext.forever_of_period 2 (by decide +kernel) (by decide +kernel)
/-- … and a two-file ring is reported (evaluated) -/
example : (Ext.resolve [("o.yml", .services [("b", .ext (.map (.str "a") (.str "m.yml")))]),
                        ("m.yml", .services [("a", .ext (.map (.str "b") (.str "o.yml")))])]
            "main" 9 [("a", .ext (.map (.str "b") (.str "o.yml")))] "a" []).1 = .err "circular" := by decide +kernel

/-- the extends recursion has no panic outcome (`absExtendsPath` reports a non-string `extends.file` as an error), for any file system, fuel,
services and tracker -/
theorem extends_never_panics (fs : Ext.FS) :
    ∀ (fuel : Nat) (main : String) (svcs : Ext.Services) (name : String) (tr : Tracker) (s : String),
      (Ext.resolve fs main fuel svcs name tr).1 ≠ .panic s
  | 0, _, _, _, _, _ => by unfold Ext.resolve; intro h; cases h
  | fuel + 1, main, svcs, name, tr, s => by
    intro h
    unfold Ext.resolve at h
    split at h
    · cases h
    · cases h
    · cases h
    · cases h
    · split at h
      · next r hl => obtain ⟨c, rfl⟩ := Ext.locate_error hl; cases h
      · split at h
        · cases h
        · split at h
          · cases h
          · cases h
          · next hres => exact extends_never_panics fs fuel _ _ _ _ s (by rw [hres]; exact h)

theorem extends_ok_xor_err (fs : Ext.FS) (main : String) (svcs : Ext.Services) (name : String) (fuel : Nat)
    (hf : (Ext.refUniverse fs main svcs).length < fuel) :
    (Ext.resolve fs main fuel svcs name []).1 = .ok ∨ ∃ c, (Ext.resolve fs main fuel svcs name []).1 = .err c := by
  have h := extends_terminates fs main svcs name fuel hf
  cases hr : (Ext.resolve fs main fuel svcs name []).1 with
  | ok => exact Or.inl rfl
  | err c => exact Or.inr ⟨c, rfl⟩
  | panic s => exact absurd hr (extends_never_panics fs fuel main svcs name [] s)
  | outOfFuel => exact absurd hr h

/-- the include loop returns on every file system, for any entries, any override paths: every path of an entry, not
only the first, is tested against the files being loaded -/
theorem include_terminates (fs : Inc.FS) (files : List String) (fuel : Nat)
    (hf : (Inc.keys fs).length < fuel) : Inc.loadModel fs fuel files [] ≠ .outOfFuel :=
  Inc.loadModel_ne_fuel fs fuel files [] List.nodup_nil (by intro x hx; cases hx) (by intro f _ hx; cases hx) (by simpa using hf)

/-- a file from which an include cycle is reachable through the first paths of entries is never loaded successfully,
whatever the fuel, the override paths, the other entries -/
theorem include_cycle_not_ok (fs : Inc.FS) (f : String) (rest : List String) (fuel : Nat) (h : Inc.CanLoop fs f) :
    Inc.loadModel fs fuel (f :: rest) [] ≠ .ok :=
  Inc.loadModel_ne_ok fs fuel (f :: rest) [] ⟨f, List.mem_cons_self .., h⟩

theorem include_cycle_err (fs : Inc.FS) (f : String) (rest : List String) (fuel : Nat)
    (h : Inc.CanLoop fs f) (hf : (Inc.keys fs).length < fuel) :
    ∃ c, Inc.loadModel fs fuel (f :: rest) [] = .err c := by
  have h1 := include_cycle_not_ok fs f rest fuel h
  have h2 := include_terminates fs (f :: rest) fuel hf
  cases hr : Inc.loadModel fs fuel (f :: rest) [] with
  | ok => exact absurd hr h1
  | err c => exact ⟨c, rfl⟩
  | outOfFuel => exact absurd hr h2
  | panic s =>
    exfalso
    exact Inc.loadModel_ne_panic fs fuel (f :: rest) [] s hr

example : Inc.loadModel [("a.yml", [["b.yml"]]), ("b.yml", [["a.yml"]])] 3 ["a.yml"] [] = .err "includeCycle" := by decide +kernel
/-- a cycle that closes through an override position -/
example : Inc.loadModel [("A", [["B", "A"]]), ("B", [])] 3 ["A"] [] = .err "includeCycle" := by decide +kernel

/-! ## a referenced file that is missing is an error naming the reference, never skipped -/

/-- a compose file (top-level or included) that cannot be read is an error, whatever follows it -/
theorem include_missing_file_err (fs : Inc.FS) (f : String) (rest inc : List String) (fuel : Nat)
    (h : Inc.lookup f fs = none) : Inc.loadModel fs (fuel + 1) (f :: rest) inc = .err "fileNotFound" := by
  unfold Inc.loadModel Inc.loadFiles
  rw [h]

/-- `extends: {file: f, service: r}` with `f` absent is an error, for any service, tracker and fuel -/
theorem extends_missing_file_err (fs : Ext.FS) (main : String) (svcs : Ext.Services) (name ref f : String)
    (tr : Tracker) (fuel : Nat)
    (hs : Ext.lookup name svcs = some (.ext (.map (.str ref) (.str f)))) (hf : Ext.lookup f fs = none) :
    (Ext.resolve fs main (fuel + 1) svcs name tr).1 = .err "fileNotFound" := by
  unfold Ext.resolve
  rw [hs]
  simp only [Ext.locate, Ext.parse, hf]

example : Ext.lookup "a" [("a", Ext.Svc.ext (.map (.str "b") (.str "gone.yml")))] = some (.ext (.map (.str "b") (.str "gone.yml"))) ∧
    Ext.lookup "gone.yml" ([] : Ext.FS) = none := by decide +kernel

/-! ## YAML alias expansion (`ResetProcessor.resolveReset` + `checkAcyclic`, loader/reset.go) -/

/-- on EVERY node arena — any aliases, including aliases to enclosing anchors through
merge keys, any tags, any sharing — alias expansion followed by the tree check returns as soon as the fuel exceeds
twice the number of nodes: no node is ever nested more than twice on the recursion stack. -/
theorem alias_resolution_total (arena : List Reset.Node) (root fuel : Nat) (hf : 2 * arena.length < fuel) :
    Reset.run arena root fuel ≠ .error .outOfFuel := by
  have h := Reset.resolve_total arena.length fuel { arena := arena, visited := [], paths := [] } [] root [] rfl
    ⟨by intro x; simp, by intro x hx; cases hx⟩ (by simpa using hf)
  unfold Reset.run
  split
  · next e he => rw [he] at h; exact fun heq => h (by cases heq; rfl)
  · nofun
  · next st r he =>
    rw [he] at h
    have hc := Reset.checkAcyclic_total st.arena fuel r (by have : st.arena.length = arena.length := h; omega)
    split
    · nofun
    · nofun
    · next hca => exact absurd hca hc

/-- when `UnmarshalYAML` reaches `Decode`, the node handed to yaml.v3 reaches no cycle
through content or alias pointers — the decoder's recursion over it is finite -/
theorem decode_input_acyclic (arena : List Reset.Node) (fuel k : Nat)
    (h : Reset.checkAcyclic arena fuel k = .ok) : ¬ Dep.CanLoop (Reset.graphOf arena) k := by
  intro hc
  exact Dep.searchCycle_ne_ok (Reset.graphOf arena) fuel [k] k hc h

/-- three cyclic documents, evaluated: `&x {<<: *x}`, a plain self reference, and the cycle through
an `!override` node (which `resolve` alone lets through: `Neg.resolve_output_tree_false`) -/
example : Reset.run [.map "" [("<<", 1)], .alias 0] 0 5 = .error .cycle := by rfl
example : Reset.run [.map "" [("a", 1)], .map "" [("k", 2)], .alias 1] 0 7 = .error .cycle := by rfl
example : Reset.run [.seq "" [1, 5, 6], .map "!override" [("b", 2), ("x-a", 4)], .map "" [("services", 3)],
    .alias 1, .alias 1, .alias 2, .alias 2] 0 15 = .error .cycle := by rfl
/-- sharing without cycles is expanded, the `!reset` recorded once per visit path: `{a: &x {k: !reset v}, b: *x}` -/
example : Reset.run [.map "" [("a", 1), ("b", 3)], .map "" [("k", 2)], .scalar "!reset", .alias 1] 0 9 = .ok [["a", "k"]] := by
  rfl

theorem checkCycle_terminates {α : Type} [DecidableEq α] (g : Dep.G α) (hg : Dep.Closed g) (fuel : Nat) (hf : g.length < fuel) :
    Dep.checkCycle g fuel ≠ .outOfFuel :=
  Dep.checkCycle_ne_fuel g fuel hf

theorem dependsOn_cycle_err {α : Type} [DecidableEq α] (g : Dep.G α) (hg : Dep.Closed g) (v : α) (hv : v ∈ Dep.verts g)
    (hc : Dep.CanLoop g v) (fuel : Nat) (hf : g.length < fuel) :
    ∃ p, Dep.checkCycle g fuel = .cycle p := by
  have h1 := checkCycle_terminates g hg fuel hf
  have h2 : Dep.checkCycle g fuel ≠ .ok := fun h =>
    Dep.searchCycle_ne_ok g fuel [v] v hc (firstNotOk_eq_ok.mp ((Dep.checkFrom_eq g fuel _).symm.trans h) v hv)
  cases hr : Dep.checkCycle g fuel with
  | ok => exact absurd hr h2
  | cycle p => exact ⟨p, rfl⟩
  | outOfFuel => exact absurd hr h1

example : Dep.checkCycle ([("a", ["b"]), ("b", ["c"]), ("c", ["b"])] : Dep.G String) 4 = .cycle ["b", "c", "b"] := by decide +kernel
example : Dep.checkCycle ([("a", ["b", "c"]), ("b", ["c"]), ("c", [])] : Dep.G String) 4 = .ok := by decide +kernel

/-- the list that `checkCycle` puts into `dependency cycle detected: …` is a
walk along edges of the graph, of at least one edge, from a vertex back to itself — on EVERY graph (closed or not),
every fuel: the error is never a false alarm and names a real cycle -/
theorem dependsOn_reported_cycle_sound {α : Type} [DecidableEq α] (g : Dep.G α) (fuel : Nat) (p : List α)
    (h : Dep.checkCycle g fuel = .cycle p) : Dep.IsCycle g p := by
  unfold Dep.checkCycle at h
  rw [Dep.checkFrom_eq] at h
  obtain ⟨v, _, hx⟩ := firstNotOk_mem h nofun
  exact Dep.searchCycle_sound g fuel [v] v trivial rfl p hx

example : Dep.IsCycle ([("a", ["b"]), ("b", ["c"]), ("c", ["b"])] : Dep.G String) ["b", "c", "b"] :=
  dependsOn_reported_cycle_sound _ 4 _ (by decide)

/-- on a closed graph a cycle is reported exactly when some service can follow `depends_on`
forever (`dependsOn_cycle_err` is the ← half) -/
theorem dependsOn_cycle_iff {α : Type} [DecidableEq α] (g : Dep.G α) (hg : Dep.Closed g) (fuel : Nat) (hf : g.length < fuel) :
    (∃ p, Dep.checkCycle g fuel = .cycle p) ↔ ∃ v, v ∈ Dep.verts g ∧ Dep.CanLoop g v :=
  ⟨fun ⟨p, h⟩ => (dependsOn_reported_cycle_sound g fuel p h).canLoop_vertex hg,
   fun ⟨v, hv, hc⟩ => dependsOn_cycle_err g hg v hv hc fuel hf⟩

theorem dependsOn_ok_iff_acyclic {α : Type} [DecidableEq α] (g : Dep.G α) (hg : Dep.Closed g) (fuel : Nat) (hf : g.length < fuel) :
    Dep.checkCycle g fuel = .ok ↔ ¬ ∃ v, v ∈ Dep.verts g ∧ Dep.CanLoop g v := by
  rw [← dependsOn_cycle_iff g hg fuel hf]
  have ht := checkCycle_terminates g hg fuel hf
  cases hr : Dep.checkCycle g fuel with
  | ok => simp
  | cycle p => simp
  | outOfFuel => exact absurd hr ht

/-! ## the fuel is a proof device only: above the bound the answer does not depend on it -/

/-- the DESIGN §2.4 form of totality: every fuel above the size of the reference
universe gives the same outcome, the same nil-flag and the same memoised services map -/
theorem extends_fuel_independent (fs : Ext.FS) (main : String) (svcs : Ext.Services) (name : String) (f1 f2 : Nat)
    (h1 : (Ext.refUniverse fs main svcs).length < f1) (h2 : (Ext.refUniverse fs main svcs).length < f2) :
    Ext.resolve fs main f1 svcs name [] = Ext.resolve fs main f2 svcs name [] :=
  Fuel.eq_of_le (run := fun f => Ext.resolve fs main f svcs name []) (fun n => Ext.resolve_mono fs n main svcs name [])
    (extends_terminates fs main svcs name _ (Nat.lt_succ_self _)) h1 h2

theorem include_fuel_independent (fs : Inc.FS) (files : List String) (f1 f2 : Nat)
    (h1 : (Inc.keys fs).length < f1) (h2 : (Inc.keys fs).length < f2) :
    Inc.loadModel fs f1 files [] = Inc.loadModel fs f2 files [] :=
  Fuel.eq_of_le (run := fun f => Inc.loadModel fs f files []) (fun n => Inc.loadModel_mono fs n files [])
    (include_terminates fs files _ (Nat.lt_succ_self _)) h1 h2

theorem checkCycle_fuel_independent {α : Type} [DecidableEq α] (g : Dep.G α) (hg : Dep.Closed g) (f1 f2 : Nat) (h1 : g.length < f1) (h2 : g.length < f2) :
    Dep.checkCycle g f1 = Dep.checkCycle g f2 :=
  Fuel.eq_of_le (run := Dep.checkCycle g) (Dep.checkCycle_mono g) (checkCycle_terminates g hg _ (Nat.lt_succ_self _)) h1 h2

end CV.C01
