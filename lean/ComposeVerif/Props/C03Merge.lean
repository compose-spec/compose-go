import ComposeVerif.Lemmas.ShortMerge
import ComposeVerif.Props.C03Doc
/-!
# C03 — short ≡ long survives the merge of a second document

The loader merges every further compose file / YAML document into the *canonical* tree of the previous ones
(`override.Merge`, in place) and canonicalises again.  The short forms of `depends_on`, service `networks` and
`build` are therefore expanded at two places (`transform/*.go` and `convertIntoMapping` / `toBuild` of
override/merge.go).  Theorems: the two expansion sites agree on **every** list (no hypothesis), the merger gives
the same result for the short and the long spelling in either argument position, and so does the two-document
pipeline `Canonical ∘ Merge ∘ Canonical` at the attribute.  (That the real `Canonical` returns *unshared* maps —
the other half of "survives an in-place merge" — is a heap fact, decided on the real heap by `c03.canonical`'s
alias scan and by the merged whole-load pairs of `c03.shortLong`.)
-/
namespace CV.Short
open CV

/-- `depends_on` list: `transformDependsOn` and `convertIntoMapping(…, started/required)` build the same mapping
from every list (duplicates, any order), and reject the same lists -/
theorem dependsOn_sites_agree (l : List Val) :
    sameOut (dependsList l []) (Merge.intoMap Merge.dependsOnDefault (.seq l)) := by
  simpa [Merge.intoMap] using dependsList_eq_listIntoMap l []

/-- service `networks` list: `transformServiceNetworks` and `convertIntoMapping(…, nil)` agree on every list -/
theorem networks_sites_agree (l : List Val) :
    sameOut (networksList l []) (Merge.intoMap .null (.seq l)) := by
  simpa [Merge.intoMap] using networksList_eq_listIntoMap l []

/-- `build: ctx`: `transformBuild` and `toBuild` of `mergeBuild` produce the same mapping -/
theorem build_sites_agree (ign : Bool) (n s : String) :
    transform ign ["services", n, "build"] (.str s) = .ok (.map [("context", .str s)])
    ∧ Merge.toBuild (.str s) = .ok [("context", .str s)] :=
  ⟨transformBuild_short_eq_long ign n s, rfl⟩

/-- non-vacuity: a list with a duplicate and a list with a non-string item -/
example : dependsList [.str "b", .str "c", .str "b"] [] = .ok [("b", startedRequired), ("c", startedRequired)]
    ∧ Merge.intoMap Merge.dependsOnDefault (.seq [.str "b", .str "c", .str "b"]) = .ok [("b", startedRequired), ("c", startedRequired)] :=
  ⟨rfl, rfl⟩
example : dependsList [.str "b", .int 1] [] = .err "type"
    ∧ Merge.intoMap Merge.dependsOnDefault (.seq [.str "b", .int 1]) = .err "unexpectedType" := ⟨rfl, rfl⟩

/-- `mergeDependsOn`: a list of distinct names and its long mapping are interchangeable, as the override **and** as the base -/
theorem mergeDependsOn_short_eq_long (mk : Val.KVs → Val.KVs → TPath → Merge.Out Val.KVs)
    (names : List String) (hnd : names.Nodup) (x : Val) (p : TPath) :
    Merge.specialStep mk .dependsOn x (.seq (names.map Val.str)) p
      = Merge.specialStep mk .dependsOn x (.map (names.map (fun n => (n, startedRequired)))) p
    ∧ Merge.specialStep mk .dependsOn (.seq (names.map Val.str)) x p
      = Merge.specialStep mk .dependsOn (.map (names.map (fun n => (n, startedRequired)))) x p := by
  simp [Merge.specialStep, Merge.convMerge, Merge.intoMap, listIntoMap_depends_distinct names hnd]

/-- `mergeNetworks`: a list of distinct names ≡ the mapping of each name to null, in either position -/
theorem mergeNetworks_short_eq_long (mk : Val.KVs → Val.KVs → TPath → Merge.Out Val.KVs)
    (names : List String) (hnd : names.Nodup) (x : Val) (p : TPath) :
    Merge.specialStep mk .networks x (.seq (names.map Val.str)) p
      = Merge.specialStep mk .networks x (.map (names.map (fun n => (n, Val.null)))) p
    ∧ Merge.specialStep mk .networks (.seq (names.map Val.str)) x p
      = Merge.specialStep mk .networks (.map (names.map (fun n => (n, Val.null)))) x p := by
  simp [Merge.specialStep, Merge.convMerge, Merge.intoMap, listIntoMap_networks_distinct names hnd]

/-- `mergeBuild`: `build: ctx` ≡ `build: {context: ctx}`, in either position -/
theorem mergeBuild_short_eq_long (mk : Val.KVs → Val.KVs → TPath → Merge.Out Val.KVs) (s : String) (x : Val) (p : TPath) :
    Merge.specialStep mk .build x (.str s) p = Merge.specialStep mk .build x (.map [("context", .str s)]) p
    ∧ Merge.specialStep mk .build (.str s) x p = Merge.specialStep mk .build (.map [("context", .str s)]) x p := by
  simp [Merge.specialStep, Merge.convMerge, Merge.toBuild]

/-- the rows of the regenerated merge table that send these three attributes to their converting mergers -/
theorem merge_rules_at (n : String) :
    Merge.ruleAt ["services", n, "depends_on"] = some .dependsOn
    ∧ Merge.ruleAt ["services", n, "networks"] = some .networks
    ∧ Merge.ruleAt ["services", n, "build"] = some .build :=
  ⟨ruleAt_of_row (pat := ["services", "*", "depends_on"]) (name := "mergeDependsOn") (by decide +kernel) rfl (by simp [TPath.pmatch]),
   ruleAt_of_row (pat := ["services", "*", "networks"]) (name := "mergeNetworks") (by decide +kernel) rfl (by simp [TPath.pmatch]),
   ruleAt_of_row (pat := ["services", "*", "build"]) (name := "mergeBuild") (by decide +kernel) rfl (by simp [TPath.pmatch])⟩

/-- `build.ssh`: the regenerated table sends it to `mergeToSequence` (the row of repo commit dc2c975; without it a list in a
second document meets the canonical mapping of the first and is rejected, `Neg/C03Merge.lean`), which reads a `KEY=VALUE`
list and its mapping alike, in either position -/
theorem mergeSSH_short_eq_long (mk : Val.KVs → Val.KVs → TPath → Merge.Out Val.KVs) (n id path : String) (x : Val) (p : TPath) :
    Merge.ruleAt ["services", n, "build", "ssh"] = some .toSeq
    ∧ Merge.specialStep mk .toSeq x (.seq [.str (id ++ "=" ++ path)]) p = Merge.specialStep mk .toSeq x (.map [(id, .str path)]) p
    ∧ Merge.specialStep mk .toSeq (.seq [.str (id ++ "=" ++ path)]) x p = Merge.specialStep mk .toSeq (.map [(id, .str path)]) x p
    ∧ Merge.specialStep mk .toSeq x (.seq [.str "default"]) p = Merge.specialStep mk .toSeq x (.map [("default", .null)]) p := by
  refine ⟨?_, ?_, ?_, ?_⟩
  · exact ruleAt_of_row (pat := ["services", "*", "build", "ssh"]) (name := "mergeToSequence") (by decide +kernel) rfl
      (by simp [TPath.pmatch])
  -- `mergeToSequence` first renders either spelling as sorted `KEY=VALUE` lines: both sides unfold to the same lines
  all_goals simp [Merge.specialStep, Merge.seqOf, Merge.intoSeq, Merge.mapStrs, Merge.entryStrs, Merge.sortStrs, Merge.insertStr, Merge.fmtV]

/-- `depends_on`: whatever the second document says (`doc2`, raw: short or long or malformed), the first document
may be written as a list or as the long mapping -/
theorem twoDocs_dependsOn_first (mk : Val.KVs → Val.KVs → TPath → Merge.Out Val.KVs)
    (names : List String) (hnd : names.Nodup) (doc2 : Val) (p : TPath) :
    twoDocs transformDependsOn mk .dependsOn (.seq (names.map Val.str)) doc2 p
      = twoDocs transformDependsOn mk .dependsOn (.map (names.map (fun n => (n, startedRequired)))) doc2 p := by
  obtain ⟨h1, h2⟩ := transformDependsOn_short_eq_long names hnd
  simp only [twoDocs, h1, h2]

/-- `depends_on`: whatever the first document says, the second may be written as a list or as the long mapping -/
theorem twoDocs_dependsOn_second (mk : Val.KVs → Val.KVs → TPath → Merge.Out Val.KVs)
    (names : List String) (hnd : names.Nodup) (doc1 : Val) (p : TPath) :
    twoDocs transformDependsOn mk .dependsOn doc1 (.seq (names.map Val.str)) p
      = twoDocs transformDependsOn mk .dependsOn doc1 (.map (names.map (fun n => (n, startedRequired)))) p := by
  simp only [twoDocs, (mergeDependsOn_short_eq_long mk names hnd _ p).1]

/-- service `networks`, first and second document -/
theorem twoDocs_networks (mk : Val.KVs → Val.KVs → TPath → Merge.Out Val.KVs)
    (names : List String) (hnd : names.Nodup) (other : Val) (p : TPath) :
    twoDocs transformServiceNetworks mk .networks (.seq (names.map Val.str)) other p
      = twoDocs transformServiceNetworks mk .networks (.map (names.map (fun n => (n, Val.null)))) other p
    ∧ twoDocs transformServiceNetworks mk .networks other (.seq (names.map Val.str)) p
      = twoDocs transformServiceNetworks mk .networks other (.map (names.map (fun n => (n, Val.null)))) p := by
  constructor
  · simp only [twoDocs, transformServiceNetworks_short_eq_long names hnd, transformServiceNetworks_long_id]
  · simp only [twoDocs, (mergeNetworks_short_eq_long mk names hnd _ p).1]

/-- `build`, first and second document, at its position in the tree (the transformer there is the recursive walk) -/
theorem twoDocs_build (ign : Bool) (mk : Val.KVs → Val.KVs → TPath → Merge.Out Val.KVs) (n s : String) (other : Val) :
    twoDocs (transform ign ["services", n, "build"]) mk .build (.str s) other ["services", n, "build"]
      = twoDocs (transform ign ["services", n, "build"]) mk .build (.map [("context", .str s)]) other ["services", n, "build"]
    ∧ twoDocs (transform ign ["services", n, "build"]) mk .build other (.str s) ["services", n, "build"]
      = twoDocs (transform ign ["services", n, "build"]) mk .build other (.map [("context", .str s)]) ["services", n, "build"] := by
  constructor
  · simp only [twoDocs, transformBuild_short_eq_long, transformBuild_long_id]
  · simp only [twoDocs, (mergeBuild_short_eq_long mk s _ _).1]

/-- **refining one dependency leaves the others as the long form says**: first document `depends_on: [names]`, second
document `depends_on: {k: v}` (any `v`, any merger `f` below): whenever the pipeline succeeds, every other listed
name still maps to `{condition: service_started, required: true}` -/
theorem twoDocs_dependsOn_refine_one (f : Val → Val → TPath → Merge.Out Val) (names : List String) (hnd : names.Nodup)
    (k : String) (v : Val) (p : TPath) (m : Val.KVs)
    (h : twoDocs transformDependsOn (Merge.mergeKVsWith f) .dependsOn (.seq (names.map Val.str)) (.map [(k, v)]) p = .ok (.map m)) :
    ∀ k' ∈ names, k' ≠ k → Val.lookup k' m = some startedRequired := by
  intro k' hk' hne
  rw [twoDocs, (transformDependsOn_short_eq_long names hnd).1] at h
  obtain ⟨c, hc, ht⟩ := bindOut_ok (show bindOut (liftM _) transformDependsOn = _ from h)
  obtain ⟨r, hm, rfl⟩ := convMerge_maps _ _ _ _ p c (liftM_ok.1 hc)
  rw [transformDependsOn_map] at ht
  obtain ⟨r2, hd, hw⟩ := bindOut_ok ht
  cases hw
  rw [dependsMap_lookup r m hd k' _ ((mergeOne_other f _ r k v p hm hne).trans (lookup_long names k' hk' startedRequired)),
    dependsDefaults_fix _ (by simp [hasKey, Val.lookup]) (by simp [hasKey, Val.lookup])]
  rfl
/-- the hypothesis can be met (`by decide +kernel` below evaluates the pipeline): `[db, cache]` then
`{db: {condition: service_healthy}}` succeeds, and `cache` is untouched -/
example : Val.lookup "cache" [("db", .map [("condition", .str "service_healthy"), ("required", .bool true)]), ("cache", startedRequired)]
    = some startedRequired :=
  twoDocs_dependsOn_refine_one (Merge.mergeYaml 8) ["db", "cache"] (by decide) "db" (.map [("condition", .str "service_healthy")])
    ["services", "web", "depends_on"]
    [("db", .map [("condition", .str "service_healthy"), ("required", .bool true)]), ("cache", startedRequired)]
    (by decide +kernel) "cache" (by simp) (by simp)

/-- service `networks`: first document `networks: [names]`, second `networks: {k: v}`: whenever the pipeline succeeds,
every other listed network is still attached with no options (null) -/
theorem twoDocs_networks_refine_one (f : Val → Val → TPath → Merge.Out Val) (names : List String) (hnd : names.Nodup)
    (k : String) (v : Val) (p : TPath) (m : Val.KVs)
    (h : twoDocs transformServiceNetworks (Merge.mergeKVsWith f) .networks (.seq (names.map Val.str)) (.map [(k, v)]) p = .ok (.map m)) :
    ∀ k' ∈ names, k' ≠ k → Val.lookup k' m = some .null := by
  intro k' hk' hne
  rw [twoDocs, transformServiceNetworks_short_eq_long names hnd] at h
  obtain ⟨c, hc, ht⟩ := bindOut_ok (show bindOut (liftM _) transformServiceNetworks = _ from h)
  obtain ⟨r, hm, rfl⟩ := convMerge_maps _ _ _ _ p c (liftM_ok.1 hc)
  cases ht
  exact (mergeOne_other f _ m k v p hm hne).trans (lookup_long names k' hk' .null)

example : Val.lookup "n2" [("n1", .map [("aliases", .seq [.str "a"])]), ("n2", .null)] = some .null :=
  twoDocs_networks_refine_one (Merge.mergeYaml 8) ["n1", "n2"] (by decide) "n1" (.map [("aliases", .seq [.str "a"])])
    ["services", "web", "networks"] [("n1", .map [("aliases", .seq [.str "a"])]), ("n2", .null)] (by decide +kernel) "n2" (by simp) (by simp)

/-- non-vacuity, and the scenario of seeded change C03-6 on the model: `[db, cache]` then `{db: {condition: service_healthy}}` — only `db` changes -/
example :
    twoDocs transformDependsOn (Merge.mergeKVs 8) .dependsOn (.seq [.str "db", .str "cache"])
      (.map [("db", .map [("condition", .str "service_healthy")])]) ["services", "web", "depends_on"]
    = .ok (.map [("db", .map [("condition", .str "service_healthy"), ("required", .bool true)]), ("cache", startedRequired)]) := by
  decide +kernel

theorem loadDocsC_first_congr (ign : Bool) (d d' : Val) (rest : List Val) (h : canonical ign d = canonical ign d') :
    loadDocsC ign d rest = loadDocsC ign d' rest := by
  simp only [loadDocsC, h]

/-- `depends_on: [names]` ≡ its long mapping in the first document of a multi-document load: any surrounding document
(`docWith`), any list of further documents (each merged by `override.Merge`, followed by `Canonical`) -/
theorem multiDoc_dependsOn_first (ign : Bool) (top1 top2 svcs1 svcs2 a b : Val.KVs) (n : String)
    (names : List String) (hnd : names.Nodup) (rest : List Val) :
    loadDocsC ign (docWith top1 top2 svcs1 svcs2 a b n "depends_on" (.seq (names.map Val.str))) rest
      = loadDocsC ign (docWith top1 top2 svcs1 svcs2 a b n "depends_on" (.map (names.map (fun x => (x, startedRequired))))) rest :=
  loadDocsC_first_congr ign _ _ rest (canonical_dependsOn_short_eq_long ign top1 top2 svcs1 svcs2 a b n names hnd)

/-- the same for service `networks` and for a short volume spec in the first document -/
theorem multiDoc_networks_volume_first (ign : Bool) (top1 top2 svcs1 svcs2 a b : Val.KVs) (n : String)
    (names : List String) (hnd : names.Nodup) (pre post : List Val) (sp : Spec.VolSpec) (hsp : sp.wf = true) (rest : List Val) :
    loadDocsC ign (docWith top1 top2 svcs1 svcs2 a b n "networks" (.seq (names.map Val.str))) rest
      = loadDocsC ign (docWith top1 top2 svcs1 svcs2 a b n "networks" (.map (names.map (fun x => (x, Val.null))))) rest
    ∧ loadDocsC ign (docWith top1 top2 svcs1 svcs2 a b n "volumes" (.seq (pre ++ .str (String.ofList sp.render) :: post))) rest
      = loadDocsC ign (docWith top1 top2 svcs1 svcs2 a b n "volumes"
          (.seq (pre ++ encodeVol { sp.long with target := cleanTarget sp.long.target } :: post))) rest :=
  ⟨loadDocsC_first_congr ign _ _ rest (canonical_networks_short_eq_long ign top1 top2 svcs1 svcs2 a b n names hnd),
   loadDocsC_first_congr ign _ _ rest (canonical_volume_short_eq_long ign top1 top2 svcs1 svcs2 a b n pre post sp hsp)⟩

/-- non-vacuity: two documents, the second refines `db` -/
example : (loadDocsC false (.map [("services", .map [("web", .map [("depends_on", .seq [.str "db", .str "cache"])])])])
      [.map [("services", .map [("web", .map [("depends_on", .map [("db", .map [("condition", .str "service_healthy")])])])])]])
    = .ok (.map [("services", .map [("web", .map [("depends_on", .map [
        ("db", .map [("condition", .str "service_healthy"), ("required", .bool true)]), ("cache", startedRequired)])])])]) := by
  decide +kernel

end CV.Short
