import ComposeVerif.Lemmas.ExtendsRun
import ComposeVerif.Lemmas.ExtendsExample
import ComposeVerif.Lemmas.ExtendsMerge
import ComposeVerif.Gen.C05Facts
/-!
# C05 — extends yields base-then-local override, order-independent, cycle-safe

The specification `Flat` is in `Spec/Extends.lean`, the model of `loader/extends.go` in `Model/Extends.lean`.

Every theorem is parametric in the environment `E`: the name of the main file, the file system
(what loading each referenced file yields, relative paths already resolved against that file's
directory) and the merge step `E.extend` (= `override.ExtendService`).  `order` is the order in
which the loop of `ApplyExtends` visits the services map (random in Go): the theorems hold for
every order that visits exactly the services of the map.
-/
namespace CV.Extends
open CV CV.Val

/-- **extends = flatten.**  Whenever `ApplyExtends` succeeds, every service of the result is the
flattened form of that service: the fully resolved base with the service's own attributes merged on
top, `extends` removed — whatever the visit order, memoisation included; nothing else is added. -/
theorem extends_eq_flatten {E : Env} {order : List String} {dict out S : KVs}
    (hS : lookup "services" dict = some (.map S)) (hnn : NoNull S) (hfs : NoNullFS E)
    (hord : Visits order S) (h : applyExtendsOrd E order dict = .ok out) :
    ∃ R, lookup "services" out = some (.map R) ∧
      ∀ n, (lookup n S = none → lookup n R = none) ∧
           (lookup n S ≠ none → ∃ v, lookup n R = some v ∧ Flat E S n v) := by
  obtain ⟨R, rfl, hall⟩ := applyExtendsOrd_flat hS hnn hfs hord h
  exact ⟨R, lookup_insert_self _ _ _, hall⟩

theorem no_extends_left {E : Env} {order : List String} {dict out S : KVs}
    (hS : lookup "services" dict = some (.map S)) (hnn : NoNull S) (hfs : NoNullFS E)
    (hord : Visits order S) (h : applyExtendsOrd E order dict = .ok out) :
    ∃ R, lookup "services" out = some (.map R) ∧
      ∀ n v, lookup n R = some v → ∃ m, v = .map m ∧ lookup "extends" m = none := by
  obtain ⟨R, hR, hall⟩ := extends_eq_flatten hS hnn hfs hord h
  exact ⟨R, hR, fun _ _ => FlatServices.shape hall⟩

/-- **order independence (the provable part).**  Two visit orders that both succeed resolve every
service to the same value.  (Under the pre-fix tracker, `Neg.Pre` in `Neg/C05.lean`, one order fails where another succeeds.) -/
theorem applyExtends_perm_partial {E : Env} {order₁ order₂ : List String} {dict out₁ out₂ S : KVs}
    (hS : lookup "services" dict = some (.map S)) (hnn : NoNull S) (hfs : NoNullFS E)
    (h₁ : Visits order₁ S) (h₂ : Visits order₂ S)
    (r₁ : applyExtendsOrd E order₁ dict = .ok out₁) (r₂ : applyExtendsOrd E order₂ dict = .ok out₂) :
    ∃ R₁ R₂, lookup "services" out₁ = some (.map R₁) ∧ lookup "services" out₂ = some (.map R₂) ∧
      ∀ n, lookup n R₁ = lookup n R₂ := by
  obtain ⟨R₁, hR₁, a₁⟩ := extends_eq_flatten hS hnn hfs h₁ r₁
  obtain ⟨R₂, hR₂, a₂⟩ := extends_eq_flatten hS hnn hfs h₂ r₂
  exact ⟨R₁, R₂, hR₁, hR₂, FlatServices.agree a₁ a₂ fun _ => rfl⟩

theorem not_flat_not_ok {E : Env} {order : List String} {dict S : KVs} {n : String}
    (hS : lookup "services" dict = some (.map S)) (hnn : NoNull S) (hfs : NoNullFS E)
    (hord : Visits order S) (hn : lookup n S ≠ none) (hnf : ∀ v, ¬ Flat E S n v) :
    ∀ out, applyExtendsOrd E order dict ≠ .ok out := by
  intro out h
  obtain ⟨R, _, hall⟩ := extends_eq_flatten hS hnn hfs hord h
  obtain ⟨v, _, hf⟩ := (hall n).2 hn
  exact hnf v hf

/-- **cyclic chain ⇒ not accepted**: if the chain of some service runs into a cycle (within a file
or across files), no visit order is accepted. -/
theorem cycle_err {E : Env} {order : List String} {dict S : KVs} {n : String}
    (hS : lookup "services" dict = some (.map S)) (hnn : NoNull S) (hfs : NoNullFS E)
    (hord : Visits order S) (hn : lookup n S ≠ none) (hc : Cyclic E (S, n)) :
    ∀ out, applyExtendsOrd E order dict ≠ .ok out :=
  not_flat_not_ok hS hnn hfs hord hn (fun _ hf => hf.not_cyclic hc)

/-- **missing base ⇒ not accepted** (same file) -/
theorem missing_base_err {E : Env} {order : List String} {dict S svc : KVs} {n ref : String} {e : Val}
    (hS : lookup "services" dict = some (.map S)) (hnn : NoNull S) (hfs : NoNullFS E)
    (hord : Visits order S) (h1 : lookup n S = some (.map svc)) (h2 : lookup "extends" svc = some e)
    (h3 : parseExtends e = .ok (ref, none)) (h4 : lookup ref S = none) :
    ∀ out, applyExtendsOrd E order dict ≠ .ok out := by
  refine not_flat_not_ok hS hnn hfs hord (by rw [h1]; nofun) (fun v hf => ?_)
  obtain ⟨S', hb⟩ := hf.base_exists h1 h2 h3
  exact (baseMap_none.mp hb).2 h4

/-- **missing file, unreadable file, file without the base ⇒ not accepted** -/
theorem missing_file_err {E : Env} {order : List String} {dict S svc : KVs} {n ref f : String} {e : Val}
    (hS : lookup "services" dict = some (.map S)) (hnn : NoNull S) (hfs : NoNullFS E)
    (hord : Visits order S) (h1 : lookup n S = some (.map svc)) (h2 : lookup "extends" svc = some e)
    (h3 : parseExtends e = .ok (ref, some f))
    (h4 : fileServices E.fs f = none ∨ ∃ S', fileServices E.fs f = some S' ∧ lookup ref S' = none) :
    ∀ out, applyExtendsOrd E order dict ≠ .ok out := by
  refine not_flat_not_ok hS hnn hfs hord (by rw [h1]; nofun) (fun v hf => ?_)
  obtain ⟨S', hb⟩ := hf.base_exists h1 h2 h3
  obtain ⟨hfs', href⟩ := baseMap_some.mp hb
  rcases h4 with h4 | ⟨S'', h4, h5⟩
  · rw [h4] at hfs'; cases hfs'
  · cases h4.symm.trans hfs'; exact href h5

theorem fileServices_missing {fs : FS} {f : String} (h : fsLookup f fs = none) : fileServices fs f = none := by
  simp [fileServices, h]

/-- **termination.**  With the fuel `fuelFor` (number of distinct `(file, service)` tracker keys + 1)
the recursion of `applyServiceExtends` never runs out of fuel, whatever the visit order and however
the files refer to one another: every chain either ends or is cut by the cycle tracker. -/
theorem extends_terminates {E : Env} (hE : FuelFree E) {order : List String} {dict : KVs}
    (hord : ∀ S, lookup "services" dict = some (.map S) → Visits order S) :
    applyExtendsOrd E order dict ≠ .panic fuelMark := by
  intro h
  obtain ⟨S, hS, hp⟩ := applyExtendsOrd_panic h
  exact applyAll_no_fuel E hE S order S (KeysSub.self E S)
    (fun n hn => KeysSub.self E S n (((hord S hS) n).mp hn)) hp

/-- **accepted or an error, never a crash, never a hang**: in a panic-free environment `ApplyExtends`
returns normally, with a result or with an error — in every visit order, for every document. -/
theorem applyExtends_ok_or_err {E : Env} (hp : PanicFree E) {order : List String} {dict : KVs}
    (hord : ∀ S, lookup "services" dict = some (.map S) → Visits order S) :
    (∃ out, applyExtendsOrd E order dict = .ok out) ∨ ∃ c, applyExtendsOrd E order dict = .err c := by
  cases hr : applyExtendsOrd E order dict with
  | ok out => exact Or.inl ⟨out, rfl⟩
  | err c => exact Or.inr ⟨c, rfl⟩
  | panic s =>
    -- within the budget a panic is a panic of the merge step or of loading a file: none in a panic-free environment
    obtain ⟨S, hS, hs⟩ := applyExtendsOrd_panic hr
    rcases applyAll_panic_env E S order S s (KeysSub.self E S)
      (fun n hn => KeysSub.self E S n (((hord S hS) n).mp hn)) hs with ⟨b, svc, h⟩ | ⟨f, h⟩
    · exact absurd h (hp.1 b svc _)
    · exact absurd h (hp.2 f _)

theorem error_of_not_ok {E : Env} (hp : PanicFree E) {order : List String} {dict S : KVs}
    (hS : lookup "services" dict = some (.map S)) (hord : Visits order S)
    (h : ∀ out, applyExtendsOrd E order dict ≠ .ok out) : ∃ c, applyExtendsOrd E order dict = .err c :=
  (applyExtends_ok_or_err hp (fun S' h' => by cases hS.symm.trans h'; exact hord)).resolve_left
    fun ⟨out, ho⟩ => h out ho

/-- **cyclic chain ⇒ error** (not merely "not accepted") -/
theorem cycle_is_error {E : Env} (hp : PanicFree E) {order : List String} {dict S : KVs} {n : String}
    (hS : lookup "services" dict = some (.map S)) (hnn : NoNull S) (hfs : NoNullFS E)
    (hord : Visits order S) (hn : lookup n S ≠ none) (hc : Cyclic E (S, n)) :
    ∃ c, applyExtendsOrd E order dict = .err c :=
  error_of_not_ok hp hS hord (cycle_err hS hnn hfs hord hn hc)

theorem missing_base_is_error {E : Env} (hp : PanicFree E) {order : List String} {dict S svc : KVs} {n ref : String} {e : Val}
    (hS : lookup "services" dict = some (.map S)) (hnn : NoNull S) (hfs : NoNullFS E)
    (hord : Visits order S) (h1 : lookup n S = some (.map svc)) (h2 : lookup "extends" svc = some e)
    (h3 : parseExtends e = .ok (ref, none)) (h4 : lookup ref S = none) :
    ∃ c, applyExtendsOrd E order dict = .err c :=
  error_of_not_ok hp hS hord (missing_base_err hS hnn hfs hord h1 h2 h3 h4)

theorem missing_file_is_error {E : Env} (hp : PanicFree E) {order : List String} {dict S svc : KVs} {n ref f : String} {e : Val}
    (hS : lookup "services" dict = some (.map S)) (hnn : NoNull S) (hfs : NoNullFS E)
    (hord : Visits order S) (h1 : lookup n S = some (.map svc)) (h2 : lookup "extends" svc = some e)
    (h3 : parseExtends e = .ok (ref, some f))
    (h4 : fileServices E.fs f = none ∨ ∃ S', fileServices E.fs f = some S' ∧ lookup ref S' = none) :
    ∃ c, applyExtendsOrd E order dict = .err c :=
  error_of_not_ok hp hS hord (missing_file_err hS hnn hfs hord h1 h2 h3 h4)

/-- The file system hands `ApplyExtends` every extended file with its relative paths already resolved against *that
file's* directory: that is what the term `resolve f raw` in `hfile` stands for — the theorem does not interpret it.  A service
extending a plain service `ref` of file `f` is `extend` of the base *as found in that entry* and the service's own attributes
(which are resolved later, against the project directory).  The anchoring itself is `chain_elements_anchored`. -/
theorem inherited_paths_anchor {E : Env} {order : List String} {dict out S svc : KVs} {n ref f : String} {e : Val}
    {resolve : String → KVs → KVs} {raw S' b m : KVs}
    (hS : lookup "services" dict = some (.map S)) (hnn : NoNull S) (hfs : NoNullFS E) (hord : Visits order S)
    (h : applyExtendsOrd E order dict = .ok out)
    (h1 : lookup n S = some (.map svc)) (h2 : lookup "extends" svc = some e)
    (h3 : parseExtends e = .ok (ref, some f))
    (hfile : fsLookup f E.fs = some (.ok (resolve f raw) false))
    (hsv : lookup "services" (resolve f raw) = some (.map S'))
    (hb : lookup ref S' = some (.map b)) (hbe : lookup "extends" b = none)
    (hm : E.extend b svc = .ok m) :
    ∃ R, lookup "services" out = some (.map R) ∧ lookup n R = some (.map (Val.erase "extends" m)) := by
  obtain ⟨R, hR, hall⟩ := extends_eq_flatten hS hnn hfs hord h
  obtain ⟨v, hv, hf⟩ := (hall n).2 (by rw [h1]; simp)
  refine ⟨R, hR, ?_⟩
  have hfsv : fileServices E.fs f = some S' := by simp [fileServices, hfile, hsv]
  have hbm : baseMap E S ref (some f) = some S' := by simp [baseMap, hfsv, hb]
  have : Flat E S n (.map (Val.erase "extends" m)) :=
    Flat.step h1 h2 h3 hbm (Flat.leaf hb hbe) hm
  rw [hv, hf.functional this]

/-- acceptance from key-annotated chains: if every service has a finite chain (`FlatK`) whose tracker keys
`(current file, extending service's name)` are pairwise distinct, `ApplyExtends` succeeds in every visit
order.  (`acyclic_ok` discharges the distinctness hypothesis.) -/
theorem acyclic_ok_partial {E : Env} {order : List String} {dict S : KVs}
    (hS : lookup "services" dict = some (.map S)) (hord : Visits order S)
    (hch : ∀ n, lookup n S ≠ none → ∃ ks v, FlatK E E.mainFile S n ks v ∧ ks.Nodup) :
    ∃ out, applyExtendsOrd E order dict = .ok out := by
  obtain ⟨R, hR, _⟩ := applyAll_complete E S order S (Inv.refl E S) fun n hn => hch n ((hord n).mp hn)
  exact ⟨Val.insert "services" (.map R) dict, by rw [applyExtendsOrd_eq hS, hR]⟩

/-- **acyclic ⇒ accepted.**  If every service has a flattened form — its chain is finite, all bases and
files exist, every merge succeeds — `ApplyExtends` succeeds, in every visit order: the cycle tracker never
reports a cycle that is not there.  `hmain`: the file-system table offers no services under the main file's own
(absolute) name — a reference spelled exactly like it would re-enter the main file, and the tracker treats it as such. -/
theorem acyclic_ok {E : Env} {order : List String} {dict S : KVs}
    (hS : lookup "services" dict = some (.map S)) (hord : Visits order S)
    (hmain : fileServices E.fs E.mainFile = none)
    (hflat : ∀ n, lookup n S ≠ none → ∃ v, Flat E S n v) :
    ∃ out, applyExtendsOrd E order dict = .ok out := by
  refine acyclic_ok_partial hS hord (fun n hn => ?_)
  obtain ⟨v, hv⟩ := hflat n hn
  obtain ⟨ks, hk⟩ := hv.toK E.mainFile
  exact ⟨ks, v, hk, hk.nodup (S0 := S) hmain (Or.inl ⟨rfl, rfl⟩)⟩

/-- **order independence** (full strength): if one visit order of the services map is accepted, every
visit order is accepted, and all of them resolve every service to the same value. -/
theorem applyExtends_perm {E : Env} {order₁ order₂ : List String} {dict out₁ S : KVs}
    (hS : lookup "services" dict = some (.map S)) (hnn : NoNull S) (hfs : NoNullFS E)
    (hmain : fileServices E.fs E.mainFile = none)
    (h₁ : Visits order₁ S) (h₂ : Visits order₂ S)
    (r₁ : applyExtendsOrd E order₁ dict = .ok out₁) :
    ∃ out₂ R₁ R₂, applyExtendsOrd E order₂ dict = .ok out₂ ∧
      lookup "services" out₁ = some (.map R₁) ∧ lookup "services" out₂ = some (.map R₂) ∧
      ∀ n, lookup n R₁ = lookup n R₂ := by
  obtain ⟨R, _, hall⟩ := extends_eq_flatten hS hnn hfs h₁ r₁
  have hflat : ∀ n, lookup n S ≠ none → ∃ v, Flat E S n v := fun n hn => by
    obtain ⟨v, _, hf⟩ := (hall n).2 hn
    exact ⟨v, hf⟩
  obtain ⟨out₂, r₂⟩ := acyclic_ok hS h₂ hmain hflat
  obtain ⟨R₁, R₂, a, b, c⟩ := applyExtends_perm_partial hS hnn hfs h₁ h₂ r₁ r₂
  exact ⟨out₂, R₁, R₂, r₂, a, b, c⟩

/-- … and an order that is rejected is rejected in every order: acceptance itself is order independent -/
theorem applyExtends_reject_perm {E : Env} {order₁ order₂ : List String} {dict S : KVs}
    (hS : lookup "services" dict = some (.map S)) (hnn : NoNull S) (hfs : NoNullFS E)
    (hmain : fileServices E.fs E.mainFile = none)
    (h₁ : Visits order₁ S) (h₂ : Visits order₂ S)
    (r₁ : ∀ out, applyExtendsOrd E order₁ dict ≠ .ok out) :
    ∀ out, applyExtendsOrd E order₂ dict ≠ .ok out := by
  intro out r₂
  obtain ⟨out₁, _, _, h, _⟩ := applyExtends_perm hS hnn hfs hmain h₂ h₁ r₂
  exact r₁ out₁ h

/-! ### the real merge step (`CV.Merge.extendService`, C04's model of `override.ExtendService`) -/

theorem extends_terminates_real (mainFile : String) (fs : FS)
    (hfs : ∀ f s, fsPanics fs f s → s ≠ fuelMark) {order : List String} {dict : KVs}
    (hord : ∀ S, lookup "services" dict = some (.map S) → Visits order S) :
    applyExtendsOrd (realEnv mainFile fs) order dict ≠ .panic fuelMark :=
  extends_terminates (realEnv_fuelFree mainFile fs hfs) hord

theorem applyExtends_perm_real (mainFile : String) (fs : FS) {order₁ order₂ : List String} {dict out₁ S : KVs}
    (hS : lookup "services" dict = some (.map S)) (hnn : NoNull S) (hfs : NoNullFS (realEnv mainFile fs))
    (hmain : fileServices fs mainFile = none)
    (h₁ : Visits order₁ S) (h₂ : Visits order₂ S)
    (r₁ : applyExtendsOrd (realEnv mainFile fs) order₁ dict = .ok out₁) :
    ∃ out₂ R₁ R₂, applyExtendsOrd (realEnv mainFile fs) order₂ dict = .ok out₂ ∧
      lookup "services" out₁ = some (.map R₁) ∧ lookup "services" out₂ = some (.map R₂) ∧
      ∀ n, lookup n R₁ = lookup n R₂ :=
  applyExtends_perm hS hnn hfs hmain h₁ h₂ r₁

theorem applyExtends_ok_or_err_real (mainFile : String) (fs : FS) (hfs : ∀ f s, ¬ fsPanics fs f s)
    {order : List String} {dict : KVs}
    (hord : ∀ S, lookup "services" dict = some (.map S) → Visits order S) :
    (∃ out, applyExtendsOrd (realEnv mainFile fs) order dict = .ok out) ∨
      ∃ c, applyExtendsOrd (realEnv mainFile fs) order dict = .err c :=
  applyExtends_ok_or_err (realEnv_panicFree mainFile fs hfs) hord

theorem cycle_is_error_real (mainFile : String) (fs : FS) (hfs : ∀ f s, ¬ fsPanics fs f s)
    {order : List String} {dict S : KVs} {n : String}
    (hS : lookup "services" dict = some (.map S)) (hnn : NoNull S) (hnfs : NoNullFS (realEnv mainFile fs))
    (hord : Visits order S) (hn : lookup n S ≠ none) (hc : Cyclic (realEnv mainFile fs) (S, n)) :
    ∃ c, applyExtendsOrd (realEnv mainFile fs) order dict = .err c :=
  cycle_is_error (realEnv_panicFree mainFile fs hfs) hS hnn hnfs hord hn hc

/-- **the executable flatten specification is the `Flat` relation**: `flattenF` (what the driver computes for the
spec oracle: no tracker, no memoisation, no visit order) succeeds with `v` for some chain-length bound iff `Flat` -/
theorem flattenF_iff_flat (E : Env) (S : KVs) (n : String) (v : Val) :
    (∃ fuel, flattenF E fuel S n = .ok v) ↔ Flat E S n v :=
  ⟨fun ⟨fuel, h⟩ => flattenF_sound E fuel S n v h, flattenF_complete E⟩

/-- whenever `ApplyExtends` succeeds, every service is what `flattenF` computes (the statement the spec oracle
decides on the real code) -/
theorem extends_eq_flattenF {E : Env} {order : List String} {dict out S : KVs}
    (hS : lookup "services" dict = some (.map S)) (hnn : NoNull S) (hfs : NoNullFS E)
    (hord : Visits order S) (h : applyExtendsOrd E order dict = .ok out) :
    ∃ R, lookup "services" out = some (.map R) ∧
      ∀ n, lookup n S ≠ none → ∃ v fuel, lookup n R = some v ∧ flattenF E fuel S n = .ok v := by
  obtain ⟨R, hR, hall⟩ := extends_eq_flatten hS hnn hfs hord h
  refine ⟨R, hR, fun n hn => ?_⟩
  obtain ⟨v, hv, hf⟩ := (hall n).2 hn
  obtain ⟨fuel, hfu⟩ := flattenF_complete E hf
  exact ⟨v, fuel, hv, hfu⟩

/-- **the source is the code that was modelled.**  The decision-relevant statements of `ApplyExtends`,
`applyServiceExtends`, `getExtendsBaseFromFile`, `deepClone` (loader/extends.go) and `cycleTracker.Add`
(loader/loader.go), regenerated from the tree on every run (`Gen/C05Facts.lean`, translator/c05.go), are the ones
`Model/Extends.lean` was written against: the order of the checks, the tracker call on `(filename, name)` after the
base was located and before the recursion, the context switched to the referenced file, the deep clone of the base
before `override.ExtendService(source, service)`, `delete(merged, "extends")`, the memo `services[name] = merged`,
the options of the nested load and `ResolveRelativePaths(source, relworkingdir, …)` after the three checks, the
fresh branch of the tracker. -/
theorem extends_source_is_modelled :
    CV.Gen.c05_ApplyExtends = [
  "if !ok",
  "return nil",
  "if !ok",
  "return <error>",
  "errorf services must be a mapping",
  "range services",
  "merged := applyServiceExtends(…)",
  "applyServiceExtends(ctx, name, services, opts, tracker, post)",
  "if err != nil",
  "return err",
  "services[name] = merged",
  "dict[\"services\"] = services",
  "return nil"] ∧
    CV.Gen.c05_applyServiceExtends = [
  "if s == nil",
  "return nil, nil",
  "if !ok",
  "return nil, <error>",
  "errorf services.%s must be a mapping",
  "if !ok",
  "return s, nil",
  "filename := ctx.Value(consts.ComposeFileKey{}).(string)",
  "typeswitch v := extends.(type)",
  "case map[string]any",
  "ref = v[\"service\"].(string)",
  "if !ok",
  "return nil, <error>",
  "errorf services.%s.extends.service must be a string",
  "file = v[\"file\"]",
  "case string",
  "ref = v",
  "if file != nil",
  "if !ok",
  "return nil, <error>",
  "errorf services.%s.extends.file must be a string",
  "getExtendsBaseFromFile(ctx, name, ref, filename, refFilename, opts, tracker)",
  "post = append(post, processor)",
  "if err != nil",
  "return nil, err",
  "ctx = context.WithValue(…)",
  "context.WithValue(ctx, consts.ComposeFileKey{}, refFilename)",
  "if !ok",
  "return nil, <error>",
  "errorf cannot extend service %q in %s: service %q not found",
  "tracker = tracker.Add(…)",
  "tracker.Add(filename, name)",
  "if err != nil",
  "return nil, err",
  "base = applyServiceExtends(…)",
  "applyServiceExtends(ctx, ref, services, opts, tracker, post)",
  "if err != nil",
  "return nil, err",
  "if base == nil",
  "return service, nil",
  "source := deepClone(base).(map[string]any)",
  "deepClone(base)",
  "range post",
  "processor.Apply(map[string]any{\n\t\"services\": map[string]any{\n\t\tname: source,\n\t},\n})",
  "merged := override.ExtendService(…)",
  "override.ExtendService(source, service)",
  "if err != nil",
  "return nil, err",
  "delete(merged, \"extends\")",
  "services[name] = merged",
  "return merged, nil"] ∧
    CV.Gen.c05_getExtendsBaseFromFile = [
  "range opts.ResourceLoaders",
  "if !loader.Accept(refPath)",
  "loader.Accept(refPath)",
  "loader.Load(ctx, refPath)",
  "if err != nil",
  "return nil, nil, err",
  "filepath.Dir(local)",
  "loader.Dir(refPath)",
  "opts.clone()",
  "extendsOpts.ResourceLoaders = append(opts.RemoteResourceLoaders(), localResourceLoader{\n\tWorkingDir: localdir,\n})",
  "opts.RemoteResourceLoaders()",
  "extendsOpts.ResolvePaths = false",
  "extendsOpts.SkipNormalization = true",
  "extendsOpts.SkipConsistencyCheck = true",
  "extendsOpts.SkipInclude = true",
  "extendsOpts.SkipExtends = true",
  "extendsOpts.SkipValidation = true",
  "extendsOpts.SkipDefaultValues = true",
  "source := loadYamlFile(…)",
  "loadYamlFile(ctx, types.ConfigFile{Filename: local}, extendsOpts, relworkingdir, nil, ct, map[string]any{}, nil)",
  "if err != nil",
  "return nil, nil, err",
  "if !ok",
  "return nil, nil, <error>",
  "errorf cannot extend service %q in %s: no services section",
  "if !ok",
  "return nil, nil, <error>",
  "errorf cannot extend service %q in %s: services must be a mapping",
  "if !ok",
  "return nil, nil, <error>",
  "errorf cannot extend service %q in %s: service %q not found in %s",
  "range opts.RemoteResourceLoaders()",
  "opts.RemoteResourceLoaders()",
  "paths.ResolveRelativePaths(source, relworkingdir, remotes)",
  "if err != nil",
  "return nil, nil, err",
  "return services, processor, nil",
  "return nil, nil, <error>",
  "errorf cannot read %s"] ∧
    CV.Gen.c05_deepClone = [
  "typeswitch v := value.(type)",
  "case []any",
  "range v",
  "cp[i] = deepClone(…)",
  "deepClone(e)",
  "return cp",
  "case map[string]any",
  "range v",
  "cp[k] = deepClone(…)",
  "deepClone(e)",
  "return cp",
  "default",
  "return value"] ∧
    CV.Gen.c05_trackerAdd = [
  "toAdd := serviceRef{filename: filename, service: service}",
  "range ct.loaded",
  "if toAdd == loaded",
  "range append(ct.loaded[1:], toAdd)",
  "return nil, <error>",
  "errors.New(strings.Join(errLines, \"\\n\"))",
  "branch = append(branch, ct.loaded...)",
  "branch = append(branch, toAdd)",
  "return &cycleTracker{\n\tloaded: branch,\n}, nil"] :=
  ⟨rfl, rfl, rfl, rfl, rfl⟩

/-! ## non-vacuity: the hypotheses of the theorems above are satisfiable by a non-trivial input
(the two-file example of `Lemmas/ExtendsExample.lean`, visited in the order `c`, `b`) -/

theorem noNull_of_forall {S : KVs} (h : ∀ p ∈ S, p.2 ≠ .null) : NoNull S := by
  intro n
  induction S with
  | nil => simp [Val.lookup]
  | cons p r ih =>
    obtain ⟨k, v⟩ := p
    simp only [Val.lookup]
    split
    · intro hc; injection hc with hc; exact h (k, v) (List.mem_cons_self ..) hc
    · exact ih (fun q hq => h q (List.mem_cons_of_mem _ hq))

def exS : KVs :=
  [("b", .map [("extends", .str "c"), ("image", .str "ib")]),
   ("c", .map [("extends", .map [("service", .str "b"), ("file", .str "o.yaml")])])]

example : lookup "services" Neg.dict = some (.map exS) := by
  simp [Neg.dict, exS, Val.lookup]

example : NoNull exS := noNull_of_forall (by
  intro p hp
  simp only [exS, List.mem_cons, List.not_mem_nil, or_false] at hp
  rcases hp with rfl | rfl <;> simp)

example : NoNullFS Neg.env := by
  intro f S h
  obtain ⟨doc, hd, hs⟩ := fileServices_inv h
  simp only [Neg.env, fsLookup] at hd
  split at hd
  · injection hd with hd
    injection hd with hd _
    subst hd
    simp only [Neg.oYaml, Val.lookup, ↓reduceIte, Option.some.injEq, Val.map.injEq] at hs
    subst hs
    exact noNull_of_forall (by
      intro p hp
      simp only [List.mem_cons, List.not_mem_nil, or_false] at hp
      rcases hp with rfl | rfl <;> simp)
  · cases hd

example : Visits ["c", "b"] exS := by
  intro n
  simp only [exS, Val.lookup, List.mem_cons, List.not_mem_nil, or_false]
  by_cases hb : n = "b"
  · subst hb; simp
  · by_cases hc : n = "c"
    · subst hc; simp
    · simp [hb, hc]

example : ∃ out, applyExtendsOrd Neg.env ["c", "b"] Neg.dict = .ok out := by
  have h : Neg.isOk (applyExtendsOrd Neg.env ["c", "b"] Neg.dict) = true := by decide +kernel
  cases hx : applyExtendsOrd Neg.env ["c", "b"] Neg.dict with
  | ok out => exact ⟨out, rfl⟩
  | err c => rw [hx] at h; cases h
  | panic s => rw [hx] at h; cases h

example : PanicFree Neg.env := negEnv_panicFree

example : FuelFree Neg.env := negEnv_panicFree.fuelFree

/-- a cyclic chain exists (a service extending itself), so `cycle_err` is not vacuous -/
example : Cyclic Neg.env ([("a", .map [("extends", .str "a")])], "a") :=
  Or.inl (Reach.one ⟨[("extends", .str "a")], .str "a", none, by simp [Val.lookup], by simp [Val.lookup], rfl,
    by simp [baseMap, Val.lookup]⟩)

/-- the file system offers no services under the main file's name (hypothesis `hmain`) -/
example : fileServices Neg.env.fs Neg.env.mainFile = none := by
  simp [fileServices, fsLookup, Neg.env]

/-- a two-step cross-file chain with distinct tracker keys (hypothesis of `acyclic_ok_partial`) -/
example : ∃ ks v, FlatK Neg.env Neg.env.mainFile
    [("t", .map [("extends", .map [("service", .str "b"), ("file", .str "o.yaml")])])] "t" ks v ∧ ks.Nodup := by
  have h : Neg.isOk (flattenF Neg.env 3
      [("t", .map [("extends", .map [("service", .str "b"), ("file", .str "o.yaml")])])] "t") = true := by
    decide +kernel
  cases hv : flattenF Neg.env 3 _ "t" <;> rw [hv] at h <;> cases h
  obtain ⟨ks, hk⟩ := (flattenF_sound _ _ _ _ _ hv).toK Neg.env.mainFile
  exact ⟨ks, _, hk, hk.nodup (S0 := _) (by simp [fileServices, fsLookup, Neg.env]) (.inl ⟨rfl, rfl⟩)⟩

end CV.Extends
