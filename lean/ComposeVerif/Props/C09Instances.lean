import ComposeVerif.Props.C09Leaves
/-!
# C09 — top-level secrets and configs; per-type instances of the generic round trip

`SecretConfig` / `ConfigObjConfig`: their marshallers pre-process the value (clear `Content`) and render it as a `FileObjectConfig`, and the decoder reads them as named types over
`FileObjectConfig` — one unit of fuel apart, so they do not fit `RT` (one fuel for both directions).  Here they get their
own theorems with explicit fuels, derived from the `FileObjectConfig` instance of `generic_roundtrip_all_leaves`.
Then instances of the generic theorem for the model types the "spelled twice" inputs of the oracle are decoded into.
-/
namespace CV.C09
open CV CV.TypeDesc CV.Marshal CV.Encode CV.Decode CV.Generic CV.GenericF

-- keeps the elaborator from unfolding `Stable … 14 (.named "T") v` (string lookups) when such a hypothesis is an argument
attribute [local irreducible] GenericF.Stable

/-- `SecretConfig.MarshalYAML/JSON` (flag off, as on every loaded project): the tag-driven rendering of the
`FileObjectConfig` with `Content` cleared — same fuel on both sides -/
theorem encode_SecretConfig (fmt : Fmt) (f : Nat) (fs : List (String × Val)) :
    encode genEnv fmt (f + 1) (.named "SecretConfig") (.map fs) =
      encode genEnv fmt (f + 1) (.named "FileObjectConfig") (.map (setField "Content" (.str "") fs)) := by
  obtain ⟨s, hs⟩ := Option.isSome_iff_exists.mp fileObject_decls.1
  exact encode_delegate f (by cases fmt <;> simp [custom]) hs (by cases fmt <;> simp [custom])

theorem decode_SecretConfig (f : Nat) (t : Val) :
    decode genEnv (f + 1) (.named "SecretConfig") t = decode genEnv f (.named "FileObjectConfig") t :=
  have h := fileObject_decls.2 "SecretConfig" (by simp)
  decode_alias f t (by simp [customDecode]) h.1 h.2.1 h.2.2

theorem encode_ConfigObjConfig (fmt : Fmt) (f : Nat) (fs : List (String × Val)) :
    encode genEnv fmt (f + 1) (.named "ConfigObjConfig") (.map fs) =
      encode genEnv fmt (f + 1) (.named "FileObjectConfig")
        (.map (if getStr fs "Environment" = "" then fs else setField "Content" (.str "") fs)) := by
  obtain ⟨s, hs⟩ := Option.isSome_iff_exists.mp fileObject_decls.1
  exact encode_delegate f (by cases fmt <;> simp [custom]) hs (by cases fmt <;> simp [custom])

theorem decode_ConfigObjConfig (f : Nat) (t : Val) :
    decode genEnv (f + 1) (.named "ConfigObjConfig") t = decode genEnv f (.named "FileObjectConfig") t :=
  have h := fileObject_decls.2 "ConfigObjConfig" (by simp)
  decode_alias f t (by simp [customDecode]) h.1 h.2.1 h.2.2

/-- **a top-level secret** reloads, through either rendering and `Transform`, to itself with `Content` cleared (the
marshaller never writes the content of a secret; the reload stage `ResolveEnvironment` fills it in again from the
`environment` variable — decided on the real code by the oracle).  The decoder needs one unit of fuel more than the
encoder: `SecretConfig` is a named type over `FileObjectConfig` for the decoder, a marshaller for the encoder. -/
theorem roundtrip_SecretConfig_partial (fmt : Fmt) (fs : List (String × Val))
    (hs : GenericF.Stable genEnv fmt allLeaves 14 (.named "FileObjectConfig") (.map (setField "Content" (.str "") fs))) :
    ∃ t, encode genEnv fmt 14 (.named "SecretConfig") (.map fs) = .ok t ∧
      decode genEnv 15 (.named "SecretConfig") t = .ok (.map (setField "Content" (.str "") fs)) := by
  obtain ⟨t, he, hd⟩ := roundtrip_every_covered_type "FileObjectConfig" (by simp [coveredModelTypes]) fmt _ hs
  exact ⟨t, by rw [encode_SecretConfig]; exact he, by rw [decode_SecretConfig]; exact hd⟩

/-- **a top-level config** written inline (`content:`, no `environment`) reloads to itself -/
theorem roundtrip_ConfigObjConfig_inline (fmt : Fmt) (fs : List (String × Val)) (he : getStr fs "Environment" = "")
    (hs : GenericF.Stable genEnv fmt allLeaves 14 (.named "FileObjectConfig") (.map fs)) :
    ∃ t, encode genEnv fmt 14 (.named "ConfigObjConfig") (.map fs) = .ok t ∧
      decode genEnv 15 (.named "ConfigObjConfig") t = .ok (.map fs) := by
  obtain ⟨t, hen, hd⟩ := roundtrip_every_covered_type "FileObjectConfig" (by simp [coveredModelTypes]) fmt _ hs
  refine ⟨t, ?_, by rw [decode_ConfigObjConfig]; exact hd⟩
  rw [encode_ConfigObjConfig, if_pos he]; exact hen

/-- a config taken from the environment reloads to itself with `Content` cleared (refilled by `ResolveEnvironment`) -/
theorem roundtrip_ConfigObjConfig_environment_partial (fmt : Fmt) (fs : List (String × Val)) (he : getStr fs "Environment" ≠ "")
    (hs : GenericF.Stable genEnv fmt allLeaves 14 (.named "FileObjectConfig") (.map (setField "Content" (.str "") fs))) :
    ∃ t, encode genEnv fmt 14 (.named "ConfigObjConfig") (.map fs) = .ok t ∧
      decode genEnv 15 (.named "ConfigObjConfig") t = .ok (.map (setField "Content" (.str "") fs)) := by
  obtain ⟨t, hen, hd⟩ := roundtrip_every_covered_type "FileObjectConfig" (by simp [coveredModelTypes]) fmt _ hs
  refine ⟨t, ?_, by rw [decode_ConfigObjConfig]; exact hd⟩
  rw [encode_ConfigObjConfig, if_neg he]; exact hen

theorem roundtrip_ServicePortConfig (fmt : Fmt) (v : Val) (hs : GenericF.Stable genEnv fmt allLeaves 14 (.named "ServicePortConfig") v) :
    ∃ t, encode genEnv fmt 14 (.named "ServicePortConfig") v = .ok t ∧ decode genEnv 14 (.named "ServicePortConfig") t = .ok v :=
  roundtrip_every_covered_type _ (by simp [coveredModelTypes]) fmt v hs

theorem roundtrip_ServiceVolumeConfig (fmt : Fmt) (v : Val) (hs : GenericF.Stable genEnv fmt allLeaves 14 (.named "ServiceVolumeConfig") v) :
    ∃ t, encode genEnv fmt 14 (.named "ServiceVolumeConfig") v = .ok t ∧ decode genEnv 14 (.named "ServiceVolumeConfig") t = .ok v :=
  roundtrip_every_covered_type _ (by simp [coveredModelTypes]) fmt v hs

theorem roundtrip_ServiceSecretConfig (fmt : Fmt) (v : Val) (hs : GenericF.Stable genEnv fmt allLeaves 14 (.named "ServiceSecretConfig") v) :
    ∃ t, encode genEnv fmt 14 (.named "ServiceSecretConfig") v = .ok t ∧ decode genEnv 14 (.named "ServiceSecretConfig") t = .ok v :=
  roundtrip_every_covered_type _ (by simp [coveredModelTypes]) fmt v hs

theorem roundtrip_ServiceConfigObjConfig (fmt : Fmt) (v : Val) (hs : GenericF.Stable genEnv fmt allLeaves 14 (.named "ServiceConfigObjConfig") v) :
    ∃ t, encode genEnv fmt 14 (.named "ServiceConfigObjConfig") v = .ok t ∧ decode genEnv 14 (.named "ServiceConfigObjConfig") t = .ok v :=
  roundtrip_every_covered_type _ (by simp [coveredModelTypes]) fmt v hs

theorem roundtrip_HealthCheckConfig (fmt : Fmt) (v : Val) (hs : GenericF.Stable genEnv fmt allLeaves 14 (.named "HealthCheckConfig") v) :
    ∃ t, encode genEnv fmt 14 (.named "HealthCheckConfig") v = .ok t ∧ decode genEnv 14 (.named "HealthCheckConfig") t = .ok v :=
  roundtrip_every_covered_type _ (by simp [coveredModelTypes]) fmt v hs

theorem roundtrip_NetworkConfig (fmt : Fmt) (v : Val) (hs : GenericF.Stable genEnv fmt allLeaves 14 (.named "NetworkConfig") v) :
    ∃ t, encode genEnv fmt 14 (.named "NetworkConfig") v = .ok t ∧ decode genEnv 14 (.named "NetworkConfig") t = .ok v :=
  roundtrip_every_covered_type _ (by simp [coveredModelTypes]) fmt v hs

theorem roundtrip_VolumeConfig (fmt : Fmt) (v : Val) (hs : GenericF.Stable genEnv fmt allLeaves 14 (.named "VolumeConfig") v) :
    ∃ t, encode genEnv fmt 14 (.named "VolumeConfig") v = .ok t ∧ decode genEnv 14 (.named "VolumeConfig") t = .ok v :=
  roundtrip_every_covered_type _ (by simp [coveredModelTypes]) fmt v hs

theorem roundtrip_ServiceNetworkConfig (fmt : Fmt) (v : Val) (hs : GenericF.Stable genEnv fmt allLeaves 14 (.named "ServiceNetworkConfig") v) :
    ∃ t, encode genEnv fmt 14 (.named "ServiceNetworkConfig") v = .ok t ∧ decode genEnv 14 (.named "ServiceNetworkConfig") t = .ok v :=
  roundtrip_every_covered_type _ (by simp [coveredModelTypes]) fmt v hs

theorem roundtrip_DependsOnConfig (fmt : Fmt) (v : Val) (hs : GenericF.Stable genEnv fmt allLeaves 14 (.named "DependsOnConfig") v) :
    ∃ t, encode genEnv fmt 14 (.named "DependsOnConfig") v = .ok t ∧ decode genEnv 14 (.named "DependsOnConfig") t = .ok v :=
  roundtrip_every_covered_type _ (by simp [coveredModelTypes]) fmt v hs

theorem roundtrip_DeviceMapping (fmt : Fmt) (v : Val) (hs : GenericF.Stable genEnv fmt allLeaves 14 (.named "DeviceMapping") v) :
    ∃ t, encode genEnv fmt 14 (.named "DeviceMapping") v = .ok t ∧ decode genEnv 14 (.named "DeviceMapping") t = .ok v :=
  roundtrip_every_covered_type _ (by simp [coveredModelTypes]) fmt v hs

theorem roundtrip_LoggingConfig (fmt : Fmt) (v : Val) (hs : GenericF.Stable genEnv fmt allLeaves 14 (.named "LoggingConfig") v) :
    ∃ t, encode genEnv fmt 14 (.named "LoggingConfig") v = .ok t ∧ decode genEnv 14 (.named "LoggingConfig") t = .ok v :=
  roundtrip_every_covered_type _ (by simp [coveredModelTypes]) fmt v hs

end CV.C09
