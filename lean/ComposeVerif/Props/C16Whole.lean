import ComposeVerif.Props.C16Load
import ComposeVerif.Lemmas.EnvLayersSites
/-!
# C16 — the composed clause

* the **second call site** of the resolution (`project.WithServicesEnvironmentResolved` on a project loaded with
  `SkipResolveEnvironment`) agrees with the loader's own resolution;
* **relocation**: a service whose file references are written relative to another directory (included file,
  `extends.file`) resolves exactly like the same service with the files beside the main file;
* the two stages of `Pipeline.load` that resolve value-less `environment` entries are C16's.
-/
namespace CV.EnvLayers
open CV.EnvLayers.Spec

theorem collect_map_ok {α : Type} (r : List (Str × α)) :
    collect (r.map fun p => (p.1, (Except.ok p.2 : Except Err α))) = .ok r := by
  induction r with
  | nil => rfl
  | cons x t ih =>
    obtain ⟨n, a⟩ := x
    simp only [List.map_cons]
    rw [collect_cons_ok, ih]

/-- for one service the two Project methods commute wherever both succeed: each reads and writes its own fields -/
theorem env_labels_commute (penv : List (Key × Str)) (fs : FS) (d : Bool) (s s' : Service) :
    (resolveServiceLabels fs d s).bind (resolveServiceEnv penv fs d) = .ok s' ↔
      (resolveServiceEnv penv fs d s).bind (resolveServiceLabels fs d) = .ok s' := by
  rw [resolveServiceLabels_eq, resolveServiceEnv_eq]
  cases hl : loadLabelFiles fs s.labelFiles [] <;> cases he : loadEnvFiles penv fs s.envFiles [] <;>
    simp only [Except.map, Except.bind, resolveServiceLabels_eq, resolveServiceEnv_eq, hl, he]
  -- both loops fail, possibly with different errors: neither order succeeds
  exact ⟨nofun, nofun⟩

/-- Loading with `SkipResolveEnvironment` and calling
    `project.WithServicesEnvironmentResolved(discard)` on the loaded project afterwards (labels resolved *before* the
    environments) returns a project exactly when the loader's own resolution (environments *before* labels) does, and
    then the same one: every service has the same `Environment`, `Labels` and file references. -/
theorem second_call_site_agrees (cfg : LoadCfg) (penv : List (Key × Str)) (fs : FS)
    (svcs : List (Str × YEnv × Service)) (r : List (Str × Service)) :
    loadThenResolve cfg penv fs svcs = .ok r ↔
      loadProject { cfg with skipResolveEnvironment := false } penv fs svcs = .ok r := by
  rw [loadThenResolve_eq_bind, Except.bind_eq_ok]
  simp only [loadProject_ok_iff, resolveProjectEnv, mapServices]
  rw [collect_bind (fun q : YEnv × Service => (loadServiceEnv { cfg with skipResolveEnvironment := true } penv fs q.1 q.2).bind
    (resolveServiceLabels fs cfg.discard)) (resolveServiceEnv penv fs cfg.discard)]
  exact collect_congr_ok _ _ (fun p a => env_labels_commute penv fs cfg.discard { p.2 with environment := loadedEnv cfg penv p.1 } a) svcs r

/-- … and fails exactly when the loader's own resolution fails (the error may be that
    of another phase: at the second site label files are read first). -/
theorem second_call_site_fails_iff (cfg : LoadCfg) (penv : List (Key × Str)) (fs : FS)
    (svcs : List (Str × YEnv × Service)) :
    (∃ es, loadThenResolve cfg penv fs svcs = .error es) ↔
      ∃ es, loadProject { cfg with skipResolveEnvironment := false } penv fs svcs = .error es := by
  have key := second_call_site_agrees cfg penv fs svcs
  cases h1 : loadThenResolve cfg penv fs svcs with
  | ok r => rw [(key r).1 h1]
  | error es =>
    cases h2 : loadProject { cfg with skipResolveEnvironment := false } penv fs svcs with
    | ok r => rw [(key r).2 h2] at h1; cases h1
    | error es' => simp

/-- `second_call_site_agrees`, left to right, on the YAML forms of `environment` and `labels`: what the second call
    site returns, the loader's own resolution returns too.  The statement does not mention `finalEnv` / `finalLabelY`;
    they come from applying `load_service_final_y` to the project on the right. -/
theorem second_call_site_final_y (cfg : LoadCfg) (penv : List (Key × Str)) (fs : FS) (svcs : List (Str × YService))
    (r : List (Str × Service)) (h : loadThenResolveY cfg penv fs svcs = .ok r) :
    loadProjectY { cfg with skipResolveEnvironment := false } penv fs svcs = .ok r :=
  (second_call_site_agrees cfg penv fs _ r).1 h

/-- A service whose `env_file` references are renamed by `ρ` (written relative to the directory of
    an included / extended file and rewritten by the loader), in a world where `ρ p` holds what `p` held, resolves to the
    same outcome: same failure, or the same `Environment` / `Labels` with the renamed references. No hypothesis on `ρ`
    (two references may even be renamed to one path). -/
theorem relocation_env (ρ : Str → Str) (fs fs' : FS) (h : FS.Relocates ρ fs fs') (penv : List (Key × Str)) (d : Bool)
    (s : Service) :
    resolveServiceEnv penv fs' d (s.reloc ρ) = (resolveServiceEnv penv fs d s).map (Service.reloc ρ) := by
  unfold resolveServiceEnv Service.reloc
  simp only [loadEnvFiles_reloc ρ fs fs' h]
  cases loadEnvFiles penv fs s.envFiles [] with
  | error e => rfl
  | ok acc => cases d <;> simp [Except.map]

/-- The same for `label_file`. -/
theorem relocation_labels (ρ : Str → Str) (fs fs' : FS) (h : FS.Relocates ρ fs fs') (d : Bool) (s : Service) :
    resolveServiceLabels fs' d (s.reloc ρ) = (resolveServiceLabels fs d s).map (Service.reloc ρ) := by
  unfold resolveServiceLabels Service.reloc
  simp only [loadLabelFiles_reloc ρ fs fs' h]
  cases loadLabelFiles fs s.labelFiles [] with
  | error e => rfl
  | ok acc => cases d <;> simp [Except.map]

/-- Hence the final value of every key is the layering of the files *as found through `ρ`*:
    `finalEnv` of the contents `fs` has at the written paths. -/
theorem relocation_final (ρ : Str → Str) (fs fs' : FS) (h : FS.Relocates ρ fs fs') (penv : List (Key × Str)) (d : Bool)
    (s s' : Service) (hwf : WFFS fs) (hd : Distinct s.environment)
    (hok : resolveServiceEnv penv fs' d (s.reloc ρ) = .ok s') (k : Key) :
    lookup k s'.environment = finalEnv penv (envContents fs s.envFiles) s.environment k := by
  rw [relocation_env ρ fs fs' h] at hok
  cases h1 : resolveServiceEnv penv fs d s with
  | error e => rw [h1] at hok; cases hok
  | ok s1 =>
    rw [h1] at hok
    cases hok
    exact env_precedence penv fs d s s1 hwf hd h1 k

section Pipeline
open CV CV.Val

/-- The clause of C16 about the *whole composed function* `Pipeline.load` (every option
    combination, any list of documents; normalization off — with it `C11.normalize` follows and resolves the same
    entries once more): the returned model is `ResolveEnvironment` of some model `dict`, and for every service whose
    `environment` is a sequence in `dict`, each element whose whole text names a variable of the project environment has
    become `text=value` (C16's `resolveSeqItem`), the others are unchanged, in order.  In the proof `dict` is the model
    that left the path stage (`Pipeline.model_ok`); the statement keeps only `out = resolveEnvironment c.env dict`. -/
theorem pipeline_load_env_clause (c : Pipeline.Cfg) (docs : List KVs) (out : KVs)
    (hskip : c.opts.skipNormalization = true) (h : Pipeline.load c docs = .ok out) :
    ∃ dict, out = Pipeline.resolveEnvironment c.env dict ∧
      ∀ (svcs cfg : KVs) (items : List Item) (n : String), Val.lookup "services" dict = some (.map svcs) →
        Val.lookup n svcs = some (.map cfg) → Val.lookup "environment" cfg = some (seqVal items) →
        ∃ svcs', Val.lookup "services" out = some (.map svcs') ∧
          Val.lookup n svcs' = some (.map (Val.insert "environment" (seqVal (items.map (resolveSeqItem (penvOf c.env)))) cfg)) := by
  obtain ⟨dict, hfin⟩ := load_ok_env c docs out h
  have hout := (Pipeline.finishLoad_ok c _ out hfin).2
  rw [if_pos hskip] at hout
  subst hout
  exact ⟨dict, rfl, pipeline_resolveEnvironment_service c.env dict⟩

/-- Normalization **on** (the loader's default).  As stated: there is a model `dict` such that every service whose
    `environment` is a sequence in `dict` (elements tokenised at their first `=`) has, in the returned model, the tree
    of C16's `normalizeEnv (resolveSeqEnv y)` — the value `loadedEnv` decodes.  The statement ties `dict` neither to
    the documents nor to `out`, so it holds of `dict := []` for an empty reason; what the proof shows is the statement
    about the `dict` of `load_ok_env` (`finishLoad c (resolveEnvironment c.env dict) = .ok out`), through
    `load_env_normalized`. -/
theorem pipeline_load_env_final_seq (c : Pipeline.Cfg) (docs : List KVs) (out : KVs)
    (hnorm : c.opts.skipNormalization = false) (h : Pipeline.load c docs = .ok out) :
    ∃ dict, ∀ (svcs cfg : KVs) (items : List Item) (n : String), Val.lookup "services" dict = some (.map svcs) →
        Val.lookup n svcs = some (.map cfg) → Val.lookup "environment" cfg = some (seqVal items) →
        (∀ it ∈ items, '=' ∉ it.key) →
        ∃ svcs' cfg', Val.lookup "services" out = some (.map svcs') ∧ Val.lookup n svcs' = some (.map cfg') ∧
          Val.lookup "environment" cfg' =
            some (seqVal ((items.map (resolveSeqItem (penvOf c.env))).map (normalizeItem (penvOf c.env)))) := by
  obtain ⟨dict, hfin⟩ := load_ok_env c docs out h
  refine ⟨dict, fun svcs cfg items n hs hn he hk => ?_⟩
  obtain ⟨svcs1, hs1, hn1⟩ := pipeline_resolveEnvironment_service c.env dict svcs cfg items n hs hn he
  rw [← pipeline_two_stages_seq c.env items hk]
  exact load_env_normalized c dict out svcs1 _ n _ hnorm hfin hs1 hn1 (Val.lookup_insert_self _ _ _)

/-- The same for the mapping form, with the same unbound `dict`: a mapping-form `environment` of `dict` is, in the
    returned model, the tree of C16's `normalizeEnv y` — `k:` (null) has taken the project environment's value when
    there is one and stays null otherwise; `ResolveEnvironment` does not touch it. -/
theorem pipeline_load_env_final_map (c : Pipeline.Cfg) (docs : List KVs) (out : KVs)
    (hnorm : c.opts.skipNormalization = false) (h : Pipeline.load c docs = .ok out) :
    ∃ dict, ∀ (svcs cfg : KVs) (kvs : List (Key × Option Str)) (n : String), Val.lookup "services" dict = some (.map svcs) →
        Val.lookup n svcs = some (.map cfg) → Val.lookup "environment" cfg = some (.map (mapVal kvs)) →
        ∃ svcs' cfg', Val.lookup "services" out = some (.map svcs') ∧ Val.lookup n svcs' = some (.map cfg') ∧
          Val.lookup "environment" cfg' = some (.map (mapVal (kvs.map (normalizePair (penvOf c.env))))) := by
  obtain ⟨dict, hfin⟩ := load_ok_env c docs out h
  refine ⟨dict, fun svcs cfg kvs n hs hn he => ?_⟩
  obtain ⟨svcs1, hs1, hn1⟩ := pipeline_resolveEnvironment_service_map c.env dict svcs cfg _ n hs hn he
  rw [← pipeline_normalize_map c.env kvs]
  exact load_env_normalized c dict out svcs1 cfg n _ hnorm hfin hs1 hn1 he

end Pipeline

namespace Example

/-- the world of `Example.fs0` moved under `b/` -/
def fsB : FS := { node := fun q => match q with
  | 'b' :: '/' :: p => fs0.node p
  | _ => none }

/-- hypotheses of `relocation_env` / `relocation_labels` / `relocation_final`: `fsB` holds at `b/p` what `fs0` holds at
    `p`; the relocated `s0` lists `b/f1`, `b/f3`, `b/f2` and resolves to the same environment (`A` from the later file,
    `C` from the project environment, `D` unset), references renamed -/
example : FS.Relocates (fun p => 'b' :: '/' :: p) fs0 fsB ∧
    (s0.reloc (fun p => 'b' :: '/' :: p)).envFiles.map EnvFile.path = [['b', '/', 'f', '1'], ['b', '/', 'f', '3'], ['b', '/', 'f', '2']] ∧
    (resolveServiceEnv penv0 fsB false (s0.reloc (fun p => 'b' :: '/' :: p))).map (fun s' =>
      (([['A'], ['C'], ['D']] : List Key).map fun k => lookup k s'.environment, s'.envFiles.map EnvFile.path)) =
    .ok ([some (some ['2']), some (some ['c']), some none], [['b', '/', 'f', '1'], ['b', '/', 'f', '3'], ['b', '/', 'f', '2']]) := by
  refine ⟨⟨fun _ => rfl, rfl⟩, by decide +kernel, by decide +kernel⟩

/-- `second_call_site_agrees` on `s0`: both orders succeed with the same project; and a service on which they fail with
    *different* errors, as `second_call_site_fails_iff` allows: its env file `d` is a directory (`read`, reported by the
    loader, which resolves environments first), its label file `n` is missing (`notFound`, reported at the second site,
    where the loader has read the label files before the caller resolves the environment) -/
example :
    loadThenResolve ⟨false, false, true⟩ penv0 fs0 [(['s'], .absent, s0)] =
      loadProject ⟨false, false, true⟩ penv0 fs0 [(['s'], .absent, s0)] ∧
    (loadProject ⟨false, false, true⟩ penv0 fs0 [(['s'], .absent, s0)]).toBool = true ∧
    loadProject ⟨false, false, false⟩ penv0 fs0 [(['s'], .absent, { s0 with envFiles := [⟨['d'], true, []⟩], labelFiles := [['n']] })] = .error [.read] ∧
    loadThenResolve ⟨false, false, false⟩ penv0 fs0 [(['s'], .absent, { s0 with envFiles := [⟨['d'], true, []⟩], labelFiles := [['n']] })] = .error [.notFound] := by
  decide +kernel

/-- `pipeline_item` / `normalize_item` on concrete elements: with `A=1` in the project environment `- A` becomes `A=1` in
    either stage, `- B` stays, and `- A=1` with the variable `A=1` set becomes `A=1=x` in `ResolveEnvironment` only -/
example :
    resolveSeqItem (penvOf [("A", "1")]) (.bare ['A']) = .kv ['A'] ['1'] ∧
    normalizeItem (penvOf [("A", "1")]) (.bare ['B']) = .bare ['B'] ∧
    resolveSeqItem (penvOf [("A=1", "x")]) (.kv ['A'] ['1']) = .kv ['A'] ['1', '=', 'x'] ∧
    normalizeItem (penvOf [("A=1", "x")]) (.kv ['A'] ['1']) = .kv ['A'] ['1'] ∧
    '=' ∉ (Item.bare ['A']).key := by
  decide +kernel

end Example

end CV.EnvLayers
