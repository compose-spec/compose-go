import ComposeVerif.Model.DotenvSites
import ComposeVerif.Lemmas.DotenvFiles
import ComposeVerif.Gen.Dotenv
/-!
# C18 — totality at full strength: every index / slice expression of `dotenv/parser.go` is accounted for

`Gen.dotenv_indexSites` is regenerated from the syntax tree of `dotenv/parser.go` on every run.  The theorems
below pin that list to `siteTable` (an added, removed or rewritten index expression is a broken obligation),
show that the table reaches every panic site the model has, and show each site guarded — not only on the path
of `parse`, but for EVERY argument of the stage function that contains it.
-/
namespace CV.Dotenv
open CV CV.Template

/-- the index / slice expressions in the source are exactly the ones of the table, in source order -/
theorem index_sites_are_modelled : CV.Gen.dotenv_indexSites = siteTable.map Prod.fst := rfl

/-- explicit `panic(…)` calls, single-valued type assertions, divisions and shifts: the source has none -/
theorem no_other_panic_sources : CV.Gen.dotenv_otherPanicSources = [] := rfl

/-- the table is onto the model's own panic sites: every `Site` other than the fuel artefact and a panic of
    `template.Substitute` stands for an expression of the source -/
theorem every_model_site_is_a_source_expression (s : Site) :
    s = .fuel ∨ (∃ p, s = .tmpl p) ∨ Guard.site s ∈ siteTable.map Prod.snd := by
  cases s with
  | fuel => exact Or.inl rfl
  | tmpl p => exact Or.inr (Or.inl ⟨p, rfl⟩)
  | _ => exact Or.inr (Or.inr (by decide))

/-- `getStatementStart`, for EVERY string: none of `src[pos:]`, `src[0]`, `src[pos:]` is out of range and the
    recursion ends within `len(src)+1` calls -/
theorem stmtStart_sites_guarded (src : Str) (s : Site) : stmtStart (src.length + 1) src ≠ .error s := by
  rw [stmtStart_eq _ _ (Nat.lt_succ_self _)]
  intro h; cases h

/-- `locateKeyName`, for EVERY string: `src[0:i]`, `strings.Split(src, "\n")[0]`, `src[offset:]` are in range -/
theorem locateKey_sites_guarded (src : Str) (s : Site) : locateKey src ≠ .error s := by
  rw [locateKey_eq]; exact fun h => by cases h

/-- `extractVarValue`, for EVERY string, map and lookup: `src[i]`, `src[i+1:]`, `src[:valEndIndex]` are in
    range; the only panic it could pass on is one of `template.Substitute` -/
theorem extractValue_sites_guarded (src : Str) (m : Map) (lk : Env) (s : Site) (h : extractValue src m lk = .error s) :
    ∃ p, s = .tmpl p := by
  rw [extractValue_eq] at h
  rcases valueL_cases src m lk with ⟨p, hx, _⟩ | ⟨e, hx⟩ | ⟨v, l, hx, _⟩ <;> rw [hx] at h <;> cases h
  exact ⟨p, rfl⟩

/-- the quoted-value loop, for EVERY start state with `i + n = len(src)` (the Go loop invariant): `src[i]` is
    in range, and a closing quote is found at an index `k < len(src)`, so that `src[k+1:]` is in range -/
theorem quotedLoop_sites_guarded (q : Char) (src : Str) (n i : Nat) (esc : Bool) (acc : Str) (h : i + n = src.length) :
    quotedLoop q src n i esc acc ≠ .oob ∧
    ∀ chars k, quotedLoop q src n i esc acc = .closed chars k → sliceFrom src (k + 1) ≠ none := by
  rw [quotedLoop_eq q src n i esc acc h]
  cases hs : qscan q (src.drop i) esc acc with
  | none => exact ⟨fun h => (by cases h), fun _ _ h => (by cases h)⟩
  | some p =>
    -- the closing quote is followed by a proper suffix of `src[i:]`
    obtain ⟨pre, hp, hne⟩ := qscan_suffix q _ esc acc p.1 p.2 hs
    have hl := congrArg List.length hp
    have := List.length_pos_iff.mpr hne
    rw [List.length_drop, List.length_append] at hl
    refine ⟨fun h => (by cases h), fun chars k hk => ?_⟩
    cases hk
    rw [sliceFrom_le (by omega)]
    exact fun h => by cases h

/-- `hasQuotePrefix`, for EVERY string: `src[0]` behind the emptiness test is in range, and the index-style
    function is the pattern-matching `quotePrefix` the model uses -/
theorem quotePrefix_site_guarded (src : Str) : quotePrefixIdx src = some (quotePrefix src) := by
  cases src with
  | nil => rfl
  | cons c r =>
    simp only [quotePrefixIdx, quotePrefix, List.isEmpty_cons, Bool.false_eq_true, if_false,
      List.getElem?_cons_zero]
    split <;> rfl

/-- **Totality, whole parser**: for EVERY string and lookup the outcome is a map or an error with the map so
    far; the second conjunct is `parse_never_panics` (no panic site at all is the outcome; the table premises are not used) -/
theorem parse_total (src : Str) (lookup : Env) :
    ((∃ m, parse src lookup = .ok m) ∨ (∃ e m, parse src lookup = .err e m)) ∧
    ∀ row ∈ siteTable, ∀ s, row.2 = Guard.site s → parse src lookup ≠ .panic s := by
  constructor
  · cases h : parse src lookup with
    | ok m => exact Or.inl ⟨m, rfl⟩
    | err e m => exact Or.inr ⟨e, m, rfl⟩
    | panic s => exact absurd h (parse_ne_panic src lookup s)
  · intro _ _ s _
    exact parse_ne_panic src lookup s

example : quotePrefixIdx [] = some none ∧ quotePrefixIdx ['"'] = some (some '"') ∧ quotePrefixIdx ['a'] = some none := by decide +kernel
example : (siteTable.filter fun r => r.2 != .mapIndex && r.2 != .quoteHead).length = 9 := by decide +kernel

end CV.Dotenv
