import ComposeVerif.Lemmas.ExceptDecEq
import ComposeVerif.Props.C18
import ComposeVerif.Lemmas.EnvLayers
import ComposeVerif.Lemmas.EnvLayersDotenv
import ComposeVerif.Lemmas.EnvLayersFail
import ComposeVerif.Lemmas.EnvLayersCollect
import ComposeVerif.Lemmas.EnvLayersOrder
import ComposeVerif.Lemmas.EnvLayersLoad
/-!
# C16 — service environment and labels are layered with the documented precedence

All statements are about the model `Model/EnvLayers.lean` of `WithServicesEnvironmentResolved` /
`WithServicesLabelsResolved`, for every project environment, file system, file list and key (no bounds).
-/
namespace CV.EnvLayers
open CV.EnvLayers.Spec

/-- When environment resolution succeeds, the final environment is, key by key and for
    any number of env files, exactly what the specification `finalEnv` says: `environment` over the
    last env file that defines the key, value-less entries taken from the project environment. -/
theorem env_precedence (penv : List (Key × Str)) (fs : FS) (discard : Bool) (s s' : Service)
    (hwf : WFFS fs) (hd : Distinct s.environment) (h : resolveServiceEnv penv fs discard s = .ok s') (k : Key) :
    lookup k s'.environment = finalEnv penv (envContents fs s.envFiles) s.environment k := by
  obtain ⟨acc, hl, rfl⟩ := resolveServiceEnv_ok h
  have hacc : lookup k acc = filesVal penv (envContents fs s.envFiles) k :=
    (loadEnvFiles_outcome penv fs hwf s.envFiles [] [] fun _ => rfl).2 acc hl k
  rw [finalEnv_eq_rv, ← hacc]
  exact lookup_resolved_env penv acc s.environment hd k

/-- The specification is literally a fold over the ordered layers
    env_file 1, …, env_file n, `environment`: the last layer that speaks about the key wins. -/
theorem finalEnv_is_layer_fold (penv : List (Key × Str)) (files : List (List Line)) (environment : List (Key × Option Str))
    (k : Key) : finalEnv penv files environment k = pick (envLayers penv files environment) k := by
  have h := pickFrom_fileLayers penv [] files k
  simp only [List.nil_append] at h
  have h0 : (filesVal penv [] k).map some = none := rfl
  rw [h0] at h
  unfold pick envLayers pickFrom at *
  rw [List.foldl_append, h]
  unfold finalEnv environmentLayer
  simp only [List.foldl_cons, List.foldl_nil]
  cases lookup k environment with
  | none => rfl
  | some v => cases v <;> rfl

/-- If an env file gives `k` the value `v`, no later env file mentions `k` and
    `environment` does not mention `k`, the final value of `k` is `v` — whatever earlier files say. -/
theorem later_file_wins (penv : List (Key × Str)) (fs : FS) (discard : Bool) (s s' : Service)
    (hwf : WFFS fs) (hd : Distinct s.environment) (h : resolveServiceEnv penv fs discard s = .ok s')
    (pre post : List (List Line)) (f : List Line) (hc : envContents fs s.envFiles = pre ++ f :: post)
    (k : Key) (v : Str) (hk : lookup k s.environment = none)
    (hf : fileVal (envLook penv (filesVal penv pre)) f k = some v)
    (hpost : ∀ g ∈ post, ¬ Mentions g k) :
    lookup k s'.environment = some (some v) := by
  rw [env_precedence penv fs discard s s' hwf hd h k, hc]
  have e : pre ++ f :: post = (pre ++ [f]) ++ post := by simp
  unfold finalEnv
  rw [hk, e, filesVal_append_not_mentions _ _ _ _ hpost, filesVal_snoc', hf]
  rfl

/-- An `environment` entry written with a value (possibly empty) is final. -/
theorem explicit_value_wins (penv : List (Key × Str)) (fs : FS) (discard : Bool) (s s' : Service)
    (hwf : WFFS fs) (hd : Distinct s.environment) (h : resolveServiceEnv penv fs discard s = .ok s')
    (k : Key) (v : Str) (hk : lookup k s.environment = some (some v)) :
    lookup k s'.environment = some (some v) := by
  rw [env_precedence penv fs discard s s' hwf hd h k]
  unfold finalEnv
  rw [hk]

/-- An `environment` key written without a value takes the value of
    the project environment when it is present there (env files do not matter). -/
theorem valueless_takes_project_env (penv : List (Key × Str)) (fs : FS) (discard : Bool) (s s' : Service)
    (hwf : WFFS fs) (hd : Distinct s.environment) (h : resolveServiceEnv penv fs discard s = .ok s')
    (k : Key) (v : Str) (hk : lookup k s.environment = some none) (hp : lookup k penv = some v) :
    lookup k s'.environment = some (some v) := by
  rw [env_precedence penv fs discard s s' hwf hd h k]
  unfold finalEnv
  rw [hk, hp]

/-- An `environment` key written without a value and absent from the
    project environment stays without value — it *overrides* whatever the env files give the key. -/
theorem valueless_absent_is_unset (penv : List (Key × Str)) (fs : FS) (discard : Bool) (s s' : Service)
    (hwf : WFFS fs) (hd : Distinct s.environment) (h : resolveServiceEnv penv fs discard s = .ok s')
    (k : Key) (hk : lookup k s.environment = some none) (hp : lookup k penv = none) :
    lookup k s'.environment = some none := by
  rw [env_precedence penv fs discard s s' hwf hd h k]
  unfold finalEnv
  rw [hk, hp]

theorem absent_everywhere_is_absent (penv : List (Key × Str)) (fs : FS) (discard : Bool) (s s' : Service)
    (hwf : WFFS fs) (hd : Distinct s.environment) (h : resolveServiceEnv penv fs discard s = .ok s')
    (k : Key) (hk : lookup k s.environment = none) (hf : ∀ g ∈ envContents fs s.envFiles, ¬ Mentions g k) :
    lookup k s'.environment = none := by
  rw [env_precedence penv fs discard s s' hwf hd h k]
  unfold finalEnv
  rw [hk]
  have := filesVal_append_not_mentions penv [] (envContents fs s.envFiles) k hf
  simp only [List.nil_append] at this
  rw [this]
  rfl

/-- the value of the last line `k=<template>` of a file is what the interpolation grammar says the template evaluates to
    when every variable is looked up in the caller's lookup first and in the earlier lines of the file second -/
theorem file_value_chain (look : Look) (pre post : List Line) (k : Key) (v : List Seg) (hpost : ¬ Mentions post k) :
    fileVal look (pre ++ Line.assign k v :: post) k =
      some (specValue (fun r => orElse (look r) (fileVal look pre r)) v) := by
  rw [fileVal_last _ _ _ _ _ hpost]
  simp [fileValRevFrom, fileVal]

/-- In an env file read after the files `earlier`, a last line `k=${r}` evaluates to the
    value of `r` in the earlier env files, else in the project environment, else in the earlier lines of
    the same file, else to the empty string — in that order. -/
theorem crossref_chain (penv : List (Key × Str)) (earlier : List (List Line)) (pre post : List Line) (k r : Key)
    (hpost : ¬ Mentions post k) :
    fileVal (envLook penv (filesVal penv earlier)) (pre ++ Line.assign k [CV.Template.Seg.var r true] :: post) k =
      some ((orElse (filesVal penv earlier r)
              (orElse (lookup r penv)
                (fileVal (envLook penv (filesVal penv earlier)) pre r))).getD []) := by
  rw [file_value_chain _ _ _ _ _ hpost]
  simp [specValue, CV.Template.evalL, CV.Template.Seg.eval, envLook, orElse_assoc]

/-- `k=${r:-d}` (d a literal): the same chain decides whether `r` is set and non-empty;
    otherwise the default `d` is the value. -/
theorem default_chain (look : Look) (pre post : List Line) (k r : Key) (d : Str) (hpost : ¬ Mentions post k) :
    fileVal look (pre ++ Line.assign k [CV.Template.Seg.op r .colonDash [.lit d]] :: post) k =
      some (match orElse (look r) (fileVal look pre r) with
        | some x => if x = [] then d else x
        | none => d) := by
  rw [file_value_chain _ _ _ _ _ hpost]
  simp only [specValue, CV.Template.evalL, CV.Template.Seg.eval, CV.Template.opSpec, List.append_nil]
  cases orElse (look r) (fileVal look pre r) with
  | none => simp
  | some x =>
    by_cases hx : x = []
    · subst hx; simp
    · have : (some x == some ([] : Str)) = false := by simp [hx]
      simp [this, hx]

/-- a last bare line `k` takes the lookup's value, else what the earlier lines gave -/
theorem bare_line_inherits (look : Look) (pre post : List Line) (k : Key) (hpost : ¬ Mentions post k) :
    fileVal look (pre ++ Line.bare k :: post) k = orElse (look k) (fileVal look pre k) := by
  rw [fileVal_last _ _ _ _ _ hpost]
  simp [fileValRevFrom, fileVal]

/-- Reading env files never reaches a panic of `template.Substitute` (C07's `subst_never_panics`): the
    `panic` outcome of the model is unreachable, and a file is rejected only as `parse` (a rejected line) or `template`
    (an invalid template or an unsatisfied `${X:?msg}`). -/
theorem no_panic (look : Look) (ls : List Line) (out : List (Key × Str)) (e : Err)
    (h : parseLines look ls out = .error e) : e = .parse ∨ e = .template := by
  induction ls generalizing out with
  | nil => simp [parseLines] at h
  | cons x r ih =>
    cases x with
    | assign k v =>
      simp only [parseLines] at h
      cases hv : evalValue (withFile look out) v with
      | ok val => rw [hv] at h; exact ih _ h
      | error e' =>
        rw [hv] at h
        cases h
        exact Or.inr (evalValue_error hv)
    | bare k =>
      simp only [parseLines] at h
      cases hl : look k <;> rw [hl] at h <;> exact ih _ h
    | bad => simp only [parseLines, Except.error.injEq] at h; exact Or.inl h.symm

/-- The tokenised lines are not an assumption about the dotenv parser: for a file
    without rejected line whose rendering `KEY=<template text>` / `KEY` is well-formed in C18's line grammar (valid keys,
    values without quote, white space, `#` or line feed), C18's model of `dotenv.UnmarshalWithLookup` run on the rendered
    **text** yields exactly what `parseLines` yields on the tokens (C18's `parse_render` + `parseLines_eq_evalFrom`). -/
theorem parseLines_is_dotenv_parse (look : Look) (ls : List Line) (hb : Line.bad ∉ ls)
    (hwf : CV.Dotenv.WF (toDotenvLines ls) = true) :
    ofPOut (CV.Dotenv.parse (CV.Dotenv.render (toDotenvLines ls)) look) = parseLines look ls [] := by
  rw [CV.Dotenv.parse_render look _ hwf]
  exact parseLines_eq_evalFrom look ls [] hb

/-- The same for *every* tokenised file, rejected lines included: the text the
    harness writes (`renderText`: `KEY=<template text>⏎`, `KEY⏎`, and `A B=1⏎` for a rejected line) is parsed by C18's
    model exactly as `parseLines` parses the tokens — the first rejected line is C18's "key cannot contain a space"
    (`key_with_space_err`) after the lines before it, whatever follows it. -/
theorem parseLines_is_dotenv_parse_text (look : Look) (ls : List Line)
    (hwf : CV.Dotenv.WF (toDotenvLines ls) = true) :
    ofPOut (CV.Dotenv.parse (renderText ls) look) = parseLines look ls [] := by
  by_cases hb : Line.bad ∈ ls
  · obtain ⟨pre, post, e, hp⟩ := List.eq_append_cons_of_mem hb
    subst e
    apply parse_text_with_bad look pre post hp
    rw [toDotenvLines_append] at hwf
    simp only [CV.Dotenv.WF, List.all_append, Bool.and_eq_true] at hwf ⊢
    exact hwf.1
  · rw [renderText_good ls hb]
    exact parseLines_is_dotenv_parse look ls hb hwf

/-- Labels are layered the same way: `labels` over the last label file that
    defines the key; references in label files see earlier label files and earlier lines only. -/
theorem labels_precedence (fs : FS) (discard : Bool) (s s' : Service)
    (hwf : WFFS fs) (hd : Distinct s.labels) (h : resolveServiceLabels fs discard s = .ok s') (k : Key) :
    lookup k s'.labels = finalLabel (labelContents fs s.labelFiles) s.labels k := by
  obtain ⟨acc, hl, rfl⟩ := resolveServiceLabels_ok h
  have hdacc := loadLabelFiles_distinct fs s.labelFiles [] acc distinct_nil hl
  have hlk : lookup k (overrideBy (toMWE acc) (toMWE s.labels)) =
      (finalLabel (labelContents fs s.labelFiles) s.labels k).map some := by
    rw [lookup_overrideBy k _ _ (distinct_toMWE _ hd), lookup_toMWE, lookup_toMWE,
      (loadLabelFiles_outcome fs hwf s.labelFiles [] [] fun _ => rfl).2 acc hl k]
    unfold finalLabel orElse
    cases lookup k s.labels <;> rfl
  show lookup k (if _ then _ else _) = _
  split
  · -- `len(labels) == 0`: nothing anywhere, `Labels` stay as they were
    rename_i hemp
    rw [List.isEmpty_iff.1 hemp] at hlk
    unfold finalLabel orElse at hlk ⊢
    cases hk : lookup k s.labels with
    | none => rw [hk] at hlk; exact (Option.map_eq_none_iff.1 hlk.symm).symm
    | some v => rfl
  · rw [lookup_ofMWE k _ (distinct_overrideBy _ _ (distinct_toMWE _ hdacc)), hlk]
    cases finalLabel (labelContents fs s.labelFiles) s.labels k <;> rfl

/-- If the env files before `f` load and nothing exists at `f`'s path (the path is absent
    or lies under a regular file) while `f` is required, environment resolution fails with "not found", whatever follows. -/
theorem missing_required_err (penv : List (Key × Str)) (fs : FS) (discard : Bool) (s : Service)
    (pre post : List EnvFile) (f : EnvFile) (acc : List (Key × Str))
    (hs : s.envFiles = pre ++ f :: post) (hpre : loadEnvFiles penv fs pre [] = .ok acc)
    (hm : Missing fs f.path) (hr : f.required = true) :
    resolveServiceEnv penv fs discard s = .error .notFound := by
  rw [resolveServiceEnv_eq, hs, loadEnvFiles_append, hpre]
  simp only [loadEnvFiles, loadEnvFile_missing fs f _ hm, hr, if_true]
  rfl

theorem ok_implies_required_present (penv : List (Key × Str)) (fs : FS) (discard : Bool) (s s' : Service)
    (h : resolveServiceEnv penv fs discard s = .ok s') (f : EnvFile) (hf : f ∈ s.envFiles) (hm : Missing fs f.path) :
    f.required = false := by
  cases hr : f.required with
  | false => rfl
  | true =>
    obtain ⟨e, he⟩ := loadEnvFiles_missing_required penv fs f hm hr s.envFiles hf []
    rw [resolveServiceEnv_eq, he] at h
    cases h

/-- An env file marked not required at whose path nothing exists (absent, or under a
    regular file) contributes nothing: the result is the one obtained without listing it (only the reference itself
    differs).  Both kinds of `Missing` count: a loader that tests `os.IsNotExist` alone, which ENOTDIR does not satisfy,
    violates it (`Neg.missing_optional_skipped_false_pre`, Neg/C16.lean). -/
theorem missing_optional_skipped (penv : List (Key × Str)) (fs : FS) (pre post : List EnvFile) (f : EnvFile)
    (acc : List (Key × Str)) (hm : Missing fs f.path) (hr : f.required = false) :
    loadEnvFiles penv fs (pre ++ f :: post) acc = loadEnvFiles penv fs (pre ++ post) acc := by
  rw [loadEnvFiles_append, loadEnvFiles_append]
  cases loadEnvFiles penv fs pre acc with
  | error e => rfl
  | ok acc' => simp [loadEnvFiles, loadEnvFile_missing fs f _ hm, hr, overrideBy]

/-- the same in the form of `Neg.MissingOptionalSkipped`, the statement that `Neg.loadEnvFilesPre` falsifies -/
theorem missing_optional_skipped_full : Neg.MissingOptionalSkipped loadEnvFiles :=
  fun penv fs pre post f acc hm hr => missing_optional_skipped penv fs pre post f acc hm hr

theorem missing_optional_skipped_service (penv : List (Key × Str)) (fs : FS) (discard : Bool) (s : Service)
    (pre post : List EnvFile) (f : EnvFile) (hs : s.envFiles = pre ++ f :: post)
    (hm : Missing fs f.path) (hr : f.required = false) :
    (resolveServiceEnv penv fs discard s).map (·.environment) =
      (resolveServiceEnv penv fs discard { s with envFiles := pre ++ post }).map (·.environment) := by
  rw [resolveServiceEnv_eq, resolveServiceEnv_eq, hs, missing_optional_skipped penv fs pre post f [] hm hr]
  cases loadEnvFiles penv fs (pre ++ post) [] <;> rfl

/-- a label file at whose path nothing exists is always an error (there is no `required` flag for label files) -/
theorem missing_label_file_err (fs : FS) (discard : Bool) (s : Service) (p : Str) (hp : p ∈ s.labelFiles)
    (hm : Missing fs p) : ∃ e, resolveServiceLabels fs discard s = .error e := by
  obtain ⟨e, he⟩ := loadEnvFiles_missing_required [] fs (labelAsEnv p) hm rfl _ (List.mem_map_of_mem hp) []
  exact ⟨e, by rw [resolveServiceLabels_eq, loadLabelFiles_eq, he]; rfl⟩

/-- an `env_file` entry with a format that is not registered is an error as soon as something exists at its path -/
theorem unregistered_format_err (fs : FS) (f : EnvFile) (look : Look) (nd : Node)
    (hp : fs f.path = some nd) (hnd : nd ≠ .notdir) (hf : f.format ≠ []) (hreg : fs.formats f.format = none) :
    loadEnvFile fs f look = .error .format := by
  cases nd with
  | notdir => exact absurd rfl hnd
  | dir => rw [loadEnvFile_dir fs f look hp, if_pos hf, parseWithFormat, hreg]
  | file ls => rw [loadEnvFile_file fs f look ls hp, if_pos hf, parseWithFormat, hreg]

/-- with a registered format the registered parser decides the content of the layer (and its errors); it is handed the
    same lookup chain as the dotenv parser -/
theorem registered_format_used (fs : FS) (f : EnvFile) (look : Look) (nd : Node) (p : FormatParser)
    (hp : fs f.path = some nd) (hnd : nd ≠ .notdir) (hf : f.format ≠ []) (hreg : fs.formats f.format = some p) :
    loadEnvFile fs f look = p nd look := by
  cases nd with
  | notdir => exact absurd rfl hnd
  | dir => rw [loadEnvFile_dir fs f look hp, if_pos hf, parseWithFormat, hreg]
  | file ls => rw [loadEnvFile_file fs f look ls hp, if_pos hf, parseWithFormat, hreg]

/-- the format is not consulted for a missing file: required ⇒ `notFound`, optional ⇒ skipped, whatever is registered -/
theorem format_ignored_when_missing (fs : FS) (f : EnvFile) (look : Look) (hm : Missing fs f.path) :
    loadEnvFile fs f look = if f.required then .error .notFound else .ok [] :=
  loadEnvFile_missing fs f look hm

/-- label files are always read by the dotenv parser: the registry does not matter -/
theorem label_files_ignore_formats (fs : FS) (g : Str → Option FormatParser) (p : Str) (look : Look) :
    loadLabelFile { fs with formats := g } p look = loadLabelFile fs p look := by
  unfold loadLabelFile
  show (match fs.node p with | none => _ | some .notdir => _ | some _ => _) = (match fs.node p with | none => _ | some .notdir => _ | some _ => _)
  cases h : fs.node p with
  | none => rfl
  | some nd =>
    cases nd with
    | notdir => rfl
    | dir => simp [loadMappingFile, h]
    | file ls => simp [loadMappingFile, h]

/-- Environment resolution of a service succeeds iff the specification `envFailureFrom` finds no
    failing file, and otherwise fails with exactly the error of the **first** failing file in `env_file` order: missing though
    required (`notFound`), a directory (`read`), a format (`format`), a rejected line (`parse`), or a value whose template is an
    error of the interpolation grammar — e.g. an unsatisfied `${X:?msg}` — judged in that line's lookup chain (earlier files,
    project environment, earlier lines) (`template`). -/
theorem env_failure_spec (penv : List (Key × Str)) (fs : FS) (discard : Bool) (s : Service) (hwf : WFFS fs) :
    FailsAs (resolveServiceEnv penv fs discard s) (envFailureFrom penv fs [] s.envFiles) := by
  rw [resolveServiceEnv_eq]
  exact (failsAs_map _ _ _).2 (loadEnvFiles_outcome penv fs hwf s.envFiles [] [] fun _ => rfl).1

/-- The same for label files (a missing label file always fails; references see earlier label
    files and earlier lines only). -/
theorem labels_failure_spec (fs : FS) (discard : Bool) (s : Service) (hwf : WFFS fs) :
    FailsAs (resolveServiceLabels fs discard s) (labelFailureFrom fs [] s.labelFiles) := by
  rw [resolveServiceLabels_eq]
  exact (failsAs_map _ _ _).2 (loadLabelFiles_outcome fs hwf s.labelFiles [] [] fun _ => rfl).1

/-- a line `k=${x:?msg}` whose variable is unset in the line's lookup chain fails the file with `template` … -/
theorem unsatisfied_required_var_fails (look : Look) (pre post : List Line) (k x m : Str)
    (hx : lineLook look pre x = none) :
    fileFailureFrom look pre (Line.assign k [CV.Template.Seg.op x .colonQ [.lit m]] :: post) = some .template := by
  simp [fileFailureFrom, CV.Template.evalL, CV.Template.Seg.eval, CV.Template.opSpec, hx]

/-- … and does not when an earlier file, the project environment or an earlier line gives it a non-empty value -/
theorem satisfied_required_var_passes (look : Look) (pre post : List Line) (k x m v : Str)
    (hx : lineLook look pre x = some v) (hv : v ≠ []) :
    fileFailureFrom look pre (Line.assign k [CV.Template.Seg.op x .colonQ [.lit m]] :: post) =
      fileFailureFrom look (pre ++ [Line.assign k [CV.Template.Seg.op x .colonQ [.lit m]]]) post := by
  have : (some v == some ([] : Str)) = false := by simp [hv]
  simp [fileFailureFrom, CV.Template.evalL, CV.Template.Seg.eval, CV.Template.opSpec, hx, this]

/-- Resolving with the discard option is resolving without it and then
    emptying `env_file`: same success/failure, same environment, same everything else. -/
theorem discard_only_drops_refs (penv : List (Key × Str)) (fs : FS) (s : Service) :
    resolveServiceEnv penv fs true s =
      (resolveServiceEnv penv fs false s).map (fun s' => { s' with envFiles := [] }) := by
  unfold resolveServiceEnv
  cases loadEnvFiles penv fs s.envFiles [] <;> rfl

theorem nodiscard_keeps_refs (penv : List (Key × Str)) (fs : FS) (s s' : Service)
    (h : resolveServiceEnv penv fs false s = .ok s') :
    s'.envFiles = s.envFiles ∧ s'.labels = s.labels ∧ s'.labelFiles = s.labelFiles := by
  obtain ⟨acc, _, rfl⟩ := resolveServiceEnv_ok h
  exact ⟨rfl, rfl, rfl⟩

theorem labels_discard_only_drops_refs (fs : FS) (s : Service) :
    resolveServiceLabels fs true s =
      (resolveServiceLabels fs false s).map (fun s' => { s' with labelFiles := [] }) := by
  unfold resolveServiceLabels
  cases loadLabelFiles fs s.labelFiles [] <;> rfl

/-- no state is shared between the services: each is resolved on its own, in place -/
theorem project_env_ok (penv : List (Key × Str)) (fs : FS) (discard : Bool) (svcs r : List (Str × Service))
    (h : resolveProjectEnv penv fs discard svcs = .ok r) :
    svcs.map (fun p => (p.1, resolveServiceEnv penv fs discard p.2)) = r.map (fun p => (p.1, Except.ok p.2)) :=
  collect_ok _ _ h

/-- which of the failing services Go reports depends on its map order: `Props/C16Load.project_env_error_choice` -/
theorem project_env_err (penv : List (Key × Str)) (fs : FS) (discard : Bool) (svcs : List (Str × Service))
    (es : List Err) (h : resolveProjectEnv penv fs discard svcs = .error es) :
    es ≠ [] ∧ ∀ e ∈ es, ∃ p ∈ svcs, resolveServiceEnv penv fs discard p.2 = .error e :=
  collect_map_err _ svcs es h

theorem project_labels_ok (fs : FS) (discard : Bool) (svcs r : List (Str × Service))
    (h : resolveProjectLabels fs discard svcs = .ok r) :
    svcs.map (fun p => (p.1, resolveServiceLabels fs discard p.2)) = r.map (fun p => (p.1, Except.ok p.2)) :=
  collect_ok _ _ h

/-- `OverrideBy` ranges over a Go map: whatever order the entries come in, the result is pointwise the same -/
theorem override_order_independent {β : Type} (m other other' : List (Key × β)) (hd : Distinct other)
    (hp : other.Perm other') (k : Key) :
    lookup k (overrideBy m other) = lookup k (overrideBy m other') := by
  exact (overrideBy_congr m m other other' (MapEq.refl m) hd hp k).symm

/-- The result does not depend on the order in which the `environment` map and the
    project environment are listed (Go iterates both in arbitrary order): same success, same value at every key. -/
theorem env_order_independent (penv penv' : List (Key × Str)) (fs : FS) (discard : Bool) (s s1 s' : Service)
    (hd : Distinct s.environment) (hdp : Distinct penv)
    (hpe : s.environment.Perm s1.environment) (hpp : penv.Perm penv') (hfiles : s1.envFiles = s.envFiles)
    (h : resolveServiceEnv penv fs discard s = .ok s') :
    ∃ s1', resolveServiceEnv penv' fs discard s1 = .ok s1' ∧
      ∀ k, lookup k s1'.environment = lookup k s'.environment := by
  have hl : ∀ n, lookup n penv = lookup n penv' := fun n => lookup_perm n penv penv' hdp hpp
  obtain ⟨acc, hacc, rfl⟩ := resolveServiceEnv_ok h
  refine ⟨_, by rw [resolveServiceEnv_eq, hfiles, ← loadEnvFiles_congr_penv penv penv' fs hl, hacc]; rfl, fun k => ?_⟩
  have hrv : rv penv' k = rv penv k := funext fun v => by cases v <;> simp [rv, hl k]
  rw [lookup_resolved_env penv' acc _ (distinct_perm _ _ hd hpe) k, lookup_resolved_env penv acc _ hd k,
    ← lookup_perm k _ _ hd hpe, hrv]

/-- Let Go pick the order of *every* `range` over a map inside
    `WithServicesEnvironmentResolved` (`Resolve` over `environment`, each `OverrideBy` over the map returned by the dotenv
    parser, the final `OverrideBy` over `environment`) and let every intermediate map be listed in any order: every such run
    agrees with the list-order model — it fails iff the model fails, with the same error, and otherwise yields the same
    value at every key. -/
theorem env_any_iteration_order (penv : List (Key × Str)) (fs : FS) (discard : Bool) (s : Service)
    (hreg : DefaultFormats fs) (hd : Distinct s.environment) (out : Except Err (List (Key × Option Str)))
    (h : ServiceEnvRun penv fs s out) :
    Agrees out ((resolveServiceEnv penv fs discard s).map (·.environment)) := by
  obtain ⟨env1, hres, r, hrun, hout⟩ := h
  have hr := filesRun_agrees (loadEnvFile fs) (envChain penv) (envChain_congr penv)
    (fun f look vars => loadEnvFile_distinct fs f look vars fun _ => hreg _) s.envFiles [] r hrun [] (MapEq.refl _)
  rw [← loadEnvFiles_eq_foldlM] at hr
  rw [resolveServiceEnv_eq]
  rcases hr.cases with ⟨e, rfl, hl⟩ | ⟨acc, acc0, rfl, hl, hme⟩
  · cases (hout : out = .error e)
    rw [hl]
    exact rfl
  · obtain ⟨final, hfin, rfl⟩ := hout
    rw [hl]
    obtain ⟨hd1, h1⟩ := rangeResolve_sound _ _ _ hd hres
    exact (rangeOverride_sound (toMWE acc) (toMWE acc0) env1 final (mapEq_toMWE _ _ hme) hd1 hfin).2.trans
      (overrideBy_congr_arg _ _ _ hd1 (distinct_resolveMWE _ _ hd) h1)

/-- The same for `WithServicesLabelsResolved`: the merged label map of any run
    (any order of every `range`, any listing of every intermediate map) is the list-order model's. -/
theorem labels_any_iteration_order (fs : FS) (s : Service) (hd : Distinct s.labels)
    (out : Except Err (List (Key × Option Str))) (h : ServiceLabelsRun fs s out) :
    Agrees out ((loadLabelFiles fs s.labelFiles []).map fun acc => overrideBy (toMWE acc) (toMWE s.labels)) := by
  obtain ⟨r, hrun, hout⟩ := h
  have hr := filesRun_agrees (loadLabelFile fs) labelChain labelChain_congr
    (fun f look vars => loadLabelFile_distinct fs f look vars) s.labelFiles [] r hrun [] (MapEq.refl _)
  rw [← loadLabelFiles_eq_foldlM] at hr
  rcases hr.cases with ⟨e, rfl, hl⟩ | ⟨acc, acc0, rfl, hl, hme⟩
  · cases (hout : out = .error e)
    rw [hl]
    exact rfl
  · obtain ⟨final, hfin, rfl⟩ := hout
    rw [hl]
    exact (rangeOverride_sound (toMWE acc) (toMWE acc0) (toMWE s.labels) final (mapEq_toMWE _ _ hme)
      (distinct_toMWE _ hd) hfin).2

/-- Through a whole load (sequence or mapping form of `environment`, with or without
    normalization, the two loader stages that pre-resolve value-less entries included) the final environment is
    again exactly `finalEnv` of the YAML `environment` as written. -/
theorem load_env_precedence (cfg : LoadCfg) (penv : List (Key × Str)) (fs : FS) (y : YEnv) (s s' : Service)
    (hwf : WFFS fs) (hpenv : NoEqKeys penv) (hres : cfg.skipResolveEnvironment = false)
    (h : loadServiceEnv cfg penv fs y s = .ok s') (k : Key) :
    lookup k s'.environment = finalEnv penv (envContents fs s.envFiles) (decodeEnv y) k := by
  unfold loadServiceEnv at h
  simp only [hres, Bool.false_eq_true, if_false] at h
  rw [env_precedence penv fs cfg.discard _ s' hwf (distinct_decodeEnv _) h k]
  simp only
  rw [finalEnv_eq_rv, finalEnv_eq_rv, loadedEnv_rv cfg penv hpenv y k]

/-- even when the Project method is skipped, a whole load with normalization has resolved the value-less entries -/
theorem load_valueless_resolved_by_normalize (cfg : LoadCfg) (penv : List (Key × Str)) (y : YEnv) (k : Key)
    (hpenv : NoEqKeys penv) (hn : cfg.skipNormalization = false) :
    lookup k (loadedEnv cfg penv y) = (lookup k (decodeEnv y)).map (rv penv k) := by
  cases y with
  | list items => exact lookup_loadedEnv_list cfg penv hpenv items k
  | absent => simp only [loadedEnv, hn, Bool.false_eq_true, if_false]; rfl
  | map kvs =>
    simp only [loadedEnv, hn, Bool.false_eq_true, if_false, resolveSeqEnv]
    exact lookup_decode_normalize penv _ k

/-- with both `SkipNormalization` and `SkipResolveEnvironment`, a **mapping-form** `environment` is decoded as written:
    value-less entries stay without value, whatever the project environment says (nothing resolves them) -/
theorem load_map_form_unresolved (cfg : LoadCfg) (penv : List (Key × Str)) (fs : FS) (kvs : List (Key × Option Str))
    (s : Service) (hn : cfg.skipNormalization = true) (hr : cfg.skipResolveEnvironment = true) :
    loadServiceEnv cfg penv fs (.map kvs) s = .ok { s with environment := decodeEnv (.map kvs) } := by
  simp [loadServiceEnv, loadedEnv, resolveSeqEnv, hn, hr]

/-- … while a **sequence-form** `environment` is resolved even then (`resolveServicesEnvironment` runs unconditionally) -/
theorem load_seq_form_resolved_anyway (cfg : LoadCfg) (penv : List (Key × Str)) (fs : FS) (items : List Item)
    (s s' : Service) (hpenv : NoEqKeys penv) (hr : cfg.skipResolveEnvironment = true)
    (h : loadServiceEnv cfg penv fs (.list items) s = .ok s') (k : Key) :
    lookup k s'.environment = (lookup k (decodeEnv (.list items))).map (rv penv k) := by
  simp only [loadServiceEnv, hr, if_true, Except.ok.injEq] at h
  subst h
  exact lookup_loadedEnv_list cfg penv hpenv items k

theorem env_step_keeps_labels (penv : List (Key × Str)) (fs : FS) (discard : Bool) (s s' : Service)
    (h : resolveServiceEnv penv fs discard s = .ok s') : s'.labels = s.labels ∧ s'.labelFiles = s.labelFiles := by
  obtain ⟨acc, _, rfl⟩ := resolveServiceEnv_ok h
  exact ⟨rfl, rfl⟩

theorem labels_step_keeps_env (fs : FS) (discard : Bool) (s s' : Service)
    (h : resolveServiceLabels fs discard s = .ok s') : s'.environment = s.environment ∧ s'.envFiles = s.envFiles := by
  obtain ⟨acc, _, rfl⟩ := resolveServiceLabels_ok h
  exact ⟨rfl, rfl⟩

theorem loadServiceEnv_keeps_labels (cfg : LoadCfg) (penv : List (Key × Str)) (fs : FS) (y : YEnv) (s s1 : Service)
    (h : loadServiceEnv cfg penv fs y s = .ok s1) : s1.labels = s.labels ∧ s1.labelFiles = s.labelFiles := by
  unfold loadServiceEnv at h
  split at h
  · simp only [Except.ok.injEq] at h
    subst h
    exact ⟨rfl, rfl⟩
  · exact env_step_keeps_labels penv fs cfg.discard { s with environment := loadedEnv cfg penv y } s1 h

/-- A successful whole load is, service by service and in place, environment resolution followed
    by label resolution of that service alone. -/
theorem load_project_ok (cfg : LoadCfg) (penv : List (Key × Str)) (fs : FS) (svcs : List (Str × YEnv × Service))
    (r : List (Str × Service)) (h : loadProject cfg penv fs svcs = .ok r) :
    svcs.map (fun p => (p.1, (loadServiceEnv cfg penv fs p.2.1 p.2.2).bind (resolveServiceLabels fs cfg.discard))) =
      r.map (fun p => (p.1, Except.ok p.2)) :=
  collect_ok _ _ ((loadProject_ok_iff cfg penv fs svcs r).1 h)

/-- A failing whole load reports errors of one phase only: either environment errors of some
    services, or — every environment having resolved — label errors of some services. -/
theorem load_project_err (cfg : LoadCfg) (penv : List (Key × Str)) (fs : FS) (svcs : List (Str × YEnv × Service))
    (es : List Err) (h : loadProject cfg penv fs svcs = .error es) :
    es ≠ [] ∧
    ((∀ e ∈ es, ∃ p ∈ svcs, loadServiceEnv cfg penv fs p.2.1 p.2.2 = .error e) ∨
     (∃ s1, collect (svcs.map fun p => (p.1, loadServiceEnv cfg penv fs p.2.1 p.2.2)) = .ok s1 ∧
        ∀ e ∈ es, ∃ q ∈ s1, resolveServiceLabels fs cfg.discard q.2 = .error e)) := by
  unfold loadProject at h
  cases h1 : collect (svcs.map fun p => (p.1, loadServiceEnv cfg penv fs p.2.1 p.2.2)) with
  | error es1 =>
    rw [h1] at h
    cases h
    obtain ⟨hne, hall⟩ := collect_map_err (fun q : YEnv × Service => loadServiceEnv cfg penv fs q.1 q.2) svcs _ h1
    exact ⟨hne, Or.inl hall⟩
  | ok s1 =>
    rw [h1] at h
    obtain ⟨hne, hall⟩ := collect_map_err _ s1 es h
    exact ⟨hne, Or.inr ⟨s1, rfl, hall⟩⟩

/-- For one service of a whole load (environment resolution not skipped): the final
    `Environment` is `finalEnv` of the YAML `environment` and the final `Labels` are `finalLabel` of the YAML labels —
    the two phases do not disturb each other. -/
theorem load_service_final (cfg : LoadCfg) (penv : List (Key × Str)) (fs : FS) (y : YEnv) (s s1 s2 : Service)
    (hwf : WFFS fs) (hpenv : NoEqKeys penv) (hres : cfg.skipResolveEnvironment = false) (hdl : Distinct s.labels)
    (h1 : loadServiceEnv cfg penv fs y s = .ok s1) (h2 : resolveServiceLabels fs cfg.discard s1 = .ok s2) (k : Key) :
    lookup k s2.environment = finalEnv penv (envContents fs s.envFiles) (decodeEnv y) k ∧
    lookup k s2.labels = finalLabel (labelContents fs s.labelFiles) s.labels k := by
  have he := load_env_precedence cfg penv fs y s s1 hwf hpenv hres h1 k
  have hk := loadServiceEnv_keeps_labels cfg penv fs y s s1 h1
  have hl := labels_precedence fs cfg.discard s1 s2 hwf (hk.1 ▸ hdl) h2 k
  rw [hk.1, hk.2] at hl
  exact ⟨(labels_step_keeps_env fs cfg.discard s1 s2 h2).1 ▸ he, hl⟩

/-! ## non-vacuity: a concrete project on which the hypotheses above hold and the layers all matter -/
namespace Example
open CV.Template (Seg)

def f1 : List Line := [.assign ['A'] [.lit ['1']], .assign ['B'] [.lit ['b'], .var ['A'] true], .bare ['C'],
  .assign ['H'] [.op ['N', 'O'] .colonDash [.lit ['d']], .esc, .var ['A'] false]]
def f2 : List Line := [.assign ['A'] [.lit ['2']], .assign ['D'] [.lit ['d']], .assign ['G'] [.var ['A'] true]]

def fs0 : FS := { node := fun p =>
  if p = ['f', '1'] then some (.file f1)
  else if p = ['f', '2'] then some (.file f2)
  else if p = ['d'] then some .dir
  else none }

def penv0 : List (Key × Str) := [(['C'], ['c'])]

def s0 : Service :=
  { environment := [(['C'], none), (['D'], none), (['E'], some ['e'])]
    envFiles := [⟨['f', '1'], true, []⟩, ⟨['f', '3'], false, []⟩, ⟨['f', '2'], true, []⟩]
    labels := [(['L'], ['l'])]
    labelFiles := [['f', '1']] }

theorem wffs0 : WFFS fs0 := by
  refine ⟨?_, fun _ => rfl⟩
  intro p ls h
  show WFLines ls
  change fs0.node p = _ at h
  unfold fs0 at h
  simp only at h
  split at h
  · simp only [Option.some.injEq, Node.file.injEq] at h; subst h
    exact wfLines_of_B _ (by decide +kernel)
  · split at h
    · simp only [Option.some.injEq, Node.file.injEq] at h; subst h
      exact wfLines_of_B _ (by decide +kernel)
    · split at h <;> simp at h

/-- hypotheses of `env_precedence` (and of the value-less / explicit-value corollaries) hold on `s0`, and the result
    shows every layer: `A` from the later file, `B` through a reference to an earlier line, `C` value-less from the project
    environment, `D` value-less and unset although `f2` defines it, `E` explicit, `G` a reference to an earlier file,
    `H` = default of an unset variable, an escaped dollar and an unbraced reference. -/
example : Distinct s0.environment ∧
    (resolveServiceEnv penv0 fs0 true s0).map (fun s' =>
      (([['A'], ['B'], ['C'], ['D'], ['E'], ['G'], ['H'], ['Z']] : List Key).map fun k => lookup k s'.environment, s'.envFiles)) =
    .ok ([some (some ['2']), some (some ['b', '1']), some (some ['c']), some none, some (some ['e']),
          some (some ['1']), some (some ['d', '$', '1']), none], []) := by
  decide +kernel

/-- hypotheses of `parseLines_is_dotenv_parse`: the example files render to well-formed dotenv text, e.g. `f2` to
    `A=2⏎D=d⏎G=${A}⏎` -/
example : Line.bad ∉ f1 ∧ CV.Dotenv.WF (toDotenvLines f1) = true ∧ CV.Dotenv.WF (toDotenvLines f2) = true ∧
    CV.Dotenv.render (toDotenvLines f2) =
      ['A', '=', '2', '\n', 'D', '=', 'd', '\n', 'G', '=', '$', '{', 'A', '}', '\n'] := by
  refine ⟨?_, by decide +kernel, by decide +kernel, by decide +kernel⟩
  simp [f1]

/-- hypotheses of `parseLines_is_dotenv_parse_text` with a rejected line in the middle: the text is `A=1⏎A B=1⏎D=d⏎` -/
example : CV.Dotenv.WF (toDotenvLines [.assign ['A'] [.lit ['1']], .bad, .assign ['D'] [.lit ['d']]]) = true ∧
    renderText [.assign ['A'] [.lit ['1']], .bad, .assign ['D'] [.lit ['d']]] =
      ['A', '=', '1', '\n', 'A', ' ', 'B', '=', '1', '\n', 'D', '=', 'd', '\n'] ∧
    parseLines (fun _ => none) [.assign ['A'] [.lit ['1']], .bad, .assign ['D'] [.lit ['d']]] [] = .error .parse := by
  decide +kernel

/-- `env_failure_spec` on concrete files: `f1` sets `A`; a second file requires `A` (satisfied through the earlier file) and
    `NOPE` (unsatisfied): the service fails at that file with `template`, and the specification says so -/
example :
    let fsq : FS := { node := fun p => if p = ['f', '1'] then some (.file f1)
      else if p = ['q'] then some (.file [.assign ['X'] [.op ['A'] .colonQ [.lit ['m']]], .assign ['Y'] [.op ['N', 'O', 'P', 'E'] .q [.lit ['m']]]])
      else none }
    (resolveServiceEnv penv0 fsq false { s0 with envFiles := [⟨['f', '1'], true, []⟩, ⟨['q'], true, []⟩, ⟨['z'], true, []⟩] }).map (·.environment)
      = .error .template ∧
    envFailureFrom penv0 fsq [] [⟨['f', '1'], true, []⟩, ⟨['q'], true, []⟩, ⟨['z'], true, []⟩] = some .template := by
  decide +kernel

/-- hypotheses of `registered_format_used` / `unregistered_format_err`: `f1` read through the registered `c16kv` parser
    gives the literal text `b${A}` to `B` (no interpolation); the same entry without registration is the `format` error -/
example :
    let fsr : FS := { fs0 with formats := fun n => if n = ['k', 'v'] then some kvParser else none }
    (loadEnvFile fsr ⟨['f', '1'], true, ['k', 'v']⟩ (fun _ => none)).map (lookup ['B']) = .ok (some ['b', '$', '{', 'A', '}']) ∧
    loadEnvFile fs0 ⟨['f', '1'], true, ['k', 'v']⟩ (fun _ => none) = .error .format := by
  decide +kernel

/-- hypotheses of `later_file_wins` hold: `f2` is the last file, gives `A` a value, `environment` does not mention `A` -/
example : envContents fs0 s0.envFiles = [f1] ++ f2 :: [] ∧ lookup ['A'] s0.environment = none ∧
    fileVal (envLook penv0 (filesVal penv0 [f1])) f2 ['A'] = some ['2'] ∧ (∀ g ∈ ([] : List (List Line)), ¬ Mentions g ['A']) := by
  refine ⟨rfl, by decide +kernel, by decide +kernel, ?_⟩
  intro g hg; cases hg

/-- hypotheses of `valueless_takes_project_env` / `valueless_absent_is_unset` / `explicit_value_wins` -/
example : lookup ['C'] s0.environment = some none ∧ lookup ['C'] penv0 = some ['c'] ∧
    lookup ['D'] s0.environment = some none ∧ lookup ['D'] penv0 = none ∧
    lookup ['E'] s0.environment = some (some ['e']) := by decide +kernel

/-- hypotheses of `labels_precedence`: label file `f1` and `labels` -/
example : Distinct s0.labels ∧
    (resolveServiceLabels fs0 false s0).map (fun s' =>
      (([['A'], ['L'], ['C']] : List Key).map fun k => lookup k s'.labels, s'.labelFiles)) =
    .ok ([some ['1'], some ['l'], none], [['f', '1']]) := by
  decide +kernel

/-- hypotheses of `missing_required_err`: the files before the missing required one load -/
example : (loadEnvFiles penv0 fs0 [⟨['f', '1'], true, []⟩] []).isOk = true ∧ Missing fs0 ['f', '3'] :=
  ⟨by decide +kernel, Or.inl rfl⟩

example : (resolveServiceEnv penv0 fs0 false { s0 with envFiles := [⟨['f', '1'], true, []⟩, ⟨['f', '3'], true, []⟩] }).map (·.environment)
    = .error .notFound := by
  decide +kernel

/-- hypotheses of `missing_optional_skipped` (ENOENT kind; the ENOTDIR kind is the example at the end of Neg/C16.lean) -/
example : Missing fs0 ['f', '3'] ∧ (⟨['f', '3'], false, []⟩ : EnvFile).required = false := ⟨Or.inl rfl, rfl⟩

/-- hypotheses of `missing_label_file_err` -/
example : (resolveServiceLabels fs0 false { s0 with labelFiles := [['f', '1'], ['f', '3']] }).map (·.labels) = .error .notFound := by
  decide +kernel

/-- other error classes of the model are reachable: a directory, a format, a rejected line, a failing template -/
example : (resolveServiceEnv penv0 fs0 false { s0 with envFiles := [⟨['d'], false, []⟩] }).map (·.environment) = .error .read := by decide +kernel
example : (resolveServiceEnv penv0 fs0 false { s0 with envFiles := [⟨['f', '1'], false, ['r', 'a', 'w']⟩] }).map (·.environment) = .error .format := by decide +kernel
example : parseLines (fun _ => none) [.assign ['A'] [], .bad] [] = .error .parse := by decide +kernel
example : parseLines (fun _ => none) [.assign ['A'] [.op ['X'] .colonQ [.lit ['m']]]] [] = .error .template := by decide +kernel

/-- hypotheses of `load_env_precedence`: `=`-free project keys, a sequence-form `environment` with value-less entries -/
example : NoEqKeys penv0 ∧
    (loadServiceEnv ⟨false, false, true⟩ penv0 fs0 (.list [.bare ['C'], .bare ['D'], .kv ['E'] ['e']]) s0).map
      (fun s' => (lookup ['C'] s'.environment, lookup ['D'] s'.environment)) = .ok (some (some ['c']), some none) := by
  refine ⟨by unfold NoEqKeys; decide +kernel, ?_⟩
  decide +kernel

/-- hypotheses of `env_order_independent`: a genuinely different listing of the same maps -/
example : Distinct s0.environment ∧ Distinct penv0 ∧
    s0.environment.Perm [(['E'], some ['e']), (['C'], none), (['D'], none)] := by
  refine ⟨by decide +kernel, by decide +kernel, ?_⟩
  decide +kernel

/-- hypotheses of `env_any_iteration_order`: a run that iterates `environment` backwards exists -/
example : RangeResolve (fun k => lookup k penv0) s0.environment
    (resolveMWE (fun k => lookup k penv0) s0.environment.reverse) :=
  ⟨s0.environment.reverse, (List.reverse_perm _).symm, by decide +kernel, fun _ => rfl⟩

/-- hypothesis of `crossref_chain` / `file_value_chain` / `default_chain` / `bare_line_inherits`: a key not mentioned later -/
example : ¬ Mentions [Line.assign ['X'] []] ['A'] := by
  intro ⟨l, hl, e⟩
  simp only [List.mem_singleton] at hl
  subst hl
  simp [Line.key?] at e

end Example

end CV.EnvLayers
