import ComposeVerif.Lemmas.DotenvTrace
/-!
# C18 — the line counter

The anchor "cutset / previousCharIsEscape / line" of the property names the line counter as scanner state.  It is
modelled in `Model/DotenvLine.lean` and tied to the code by the `dotenvLine` stream (the number in the error message
must be the model's).  The counter never influences the outcome (`parseL_is_parse`); the examples record what it
reports, quirks included.
-/
namespace CV.Dotenv
open CV CV.Template

/-- the counter is an observer that only grows: the first component is `parseLoop`, the second is at least the line
    the iteration started on -/
theorem parseLoopL_spec : ∀ (fuel : Nat) (src : Str) (m : Map) (lk : Env) (l : Nat),
    (parseLoopL fuel src m lk l).1 = parseLoop fuel src m lk ∧ l ≤ (parseLoopL fuel src m lk l).2
  | 0, _, _, _, _ => ⟨rfl, Nat.le_refl _⟩
  | fuel + 1, src, m, lk, l => by
    obtain ⟨d, hd⟩ := parseLoopL_step fuel src m lk l
    rw [hd, parseLoop_step]
    cases stepL src m lk with
    | done o => exact ⟨rfl, Nat.le_add_right _ _⟩
    | next left m' =>
      have ih := parseLoopL_spec fuel left m' lk (l + d)
      exact ⟨ih.1, Nat.le_trans (Nat.le_add_right _ _) ih.2⟩

/-- the model with the line counter computes exactly `parse`: the counter is an observer, it never changes an outcome -/
theorem parseL_is_parse (src : Str) (lookup : Env) : (parseL src lookup).1 = parse src lookup :=
  (parseLoopL_spec _ src [] lookup 1).1

theorem errorLine_pos (src : Str) (lookup : Env) (n : Nat) (h : errorLine (parseL src lookup) = some n) : 1 ≤ n := by
  have hm := (parseLoopL_spec (src.length + 2) src [] lookup 1).2
  unfold errorLine at h
  unfold parseL at h
  split at h <;> first | (cases h; exact hm) | cases h

/-! what the counter reports (each replayed on the real code by the `dotenvLine` stream) -/

-- blank lines, comments, multi-line quoted values and inline comments are counted: the bad key is on line 6
example : errorLine (parseL "A=1\n\n# c\nB='x\ny' # d\nA$=1".toList (fun _ => none)) = some 6 := by decide +kernel
-- a key with an inner U+0020: its own line
example : errorLine (parseL "X=1\nA B\n".toList (fun _ => none)) = some 2 := by decide +kernel
-- quirk (since `fix:` ba15aca): a key with an inner TAB on a line of its own reports the NEXT line
example : errorLine (parseL "X=1\nA\tB\n".toList (fun _ => none)) = some 3 := by decide +kernel
-- quirk: an unterminated quote reports the LAST line of the input, not the line of the opening quote
example : errorLine (parseL "X=1\nY='a\nb\nc".toList (fun _ => none)) = some 4 := by decide +kernel
-- quirk: a bare key with a trailing U+0020 is not counted, so the next message is one short
example : errorLine (parseL "A \nB$=1".toList (fun _ => none)) = some 1 := by decide +kernel
-- an unquoted value on the last line without a line feed is counted as a line all the same
example : (parseL "A=1".toList (fun _ => none)).2 = 2 := by decide +kernel
-- messages without `line %d:` have no number
example : errorLine (parseL "A=${".toList (fun _ => none)) = none := by decide +kernel

end CV.Dotenv
