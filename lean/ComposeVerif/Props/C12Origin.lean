import ComposeVerif.Lemmas.PathsChain
/-!
# C12 — the right directory anchors a path: per-origin base directories of the loader

`Model/PathsOrigin.lean` models the path arithmetic of the loader (`localResourceLoader.Dir`, `filepath.Rel`/`Dir`,
the include and extends levels) and `predict`, the value of a path attribute in the loaded project (tied to the
real loader on every whole load of the harness, check `c12.load`).  The theorems say that this staged resolution
is ONE resolution against the directory the property names: the project directory for the main files, the
included project directory for included files, the extended file's directory for inherited attributes.
`resolveKind k` (k = 0 env/label/watch paths, 1 build contexts, ≥ 2 mount sources / secret and config files) is
the resolver of `Props/C12.lean`, for which `model_meets_spec` holds.
-/
namespace CV.Paths

/-- `filepath.Rel` between absolute paths never fails, yields a non-empty relative path and inverts `Join`:
`Join(base, Rel(base, targ)) = Clean(targ)` -/
theorem rel_inverts_join (b t : Str) (hb : isAbs b = true) (ht : isAbs t = true) :
    ∃ r, rel b t = some r ∧ r ≠ [] ∧ isAbs r = false ∧ join b r = clean t := rel_join b t hb ht

example : rel ['/', 'w', '/', 'p'] ['/', 'w', '/', 's', '/', 'x'] = some ['.', '.', '/', 's', '/', 'x'] := by decide +kernel

/-- main and override files: one resolution against the project directory; with resolution off, as written -/
theorem main_origin (k : Nat) (cfg : Cfg) (isDir : Str → Bool) (s : Str) :
    predict k cfg isDir [] true s = resolveKind k cfg s ∧ predict k cfg isDir [] false s = .ok s := by
  constructor
  · simp only [predict, stagesOf, List.nil_append, if_true]
    exact applyStages_one k cfg cfg.wd s
  · simp [predict, stagesOf, applyStages]

/-- **a chain of `n` includes, any `n`**: `predict` — the `n + 1` staged resolutions the loader performs — is ONE
resolution against the directory of the innermost included file, each file being found from the directory of the
previous one (`include_origin` is `n = 1`, `include2_origin` is `n = 2`) -/
theorem include_chain_origin (k : Nat) (cfg : Cfg) (isDir : Str → Bool) (ps : List Str) (s : Str)
    (hW : isAbs cfg.wd = true) (hok : InclOK isDir (fun _ => True) cfg.wd ps)
    (hhome : ∀ h, cfg.home = some h → h ≠ []) :
    predict k cfg isDir (inclSteps ps) true s = resolveKind k { cfg with wd := inclDir id cfg.wd ps } s := by
  have h := stagesOf_incl_chain cfg isDir [] id (fun _ => True)
    (by intro L c _ _; simp [stagesOf, chainBase]) ps cfg.wd cfg.wd hW hok
  simp only [List.append_nil] at h
  simp only [predict, if_true]
  rw [applyStages_chain k cfg cfg.wd (abs_ne_nil _ hW) _ h.1 s, h.2]

/-- **`extends` inside the innermost of `n` included files, any `n`**: the base of the inherited attributes is the
directory part of `extends.file`, taken from the directory of that included file (`extends_origin` is `n = 0`,
`include_extends_origin` is `n = 1`) -/
theorem include_chain_extends_origin (k : Nat) (cfg : Cfg) (isDir : Str → Bool) (ps : List Str) (f s : Str)
    (hW : isAbs cfg.wd = true) (hok : InclOK isDir (fun L => isDir (absIn L f) = false) cfg.wd ps)
    (hhome : ∀ h, cfg.home = some h → h ≠ []) :
    predict k cfg isDir (inclSteps ps ++ [.ext f]) true s =
      resolveKind k { cfg with wd := inclDir (fun L => clean (absIn L (dir f))) cfg.wd ps } s := by
  have h := stagesOf_incl_chain cfg isDir [.ext f] (fun L => clean (absIn L (dir f))) (fun L => isDir (absIn L f) = false)
    (by
      intro L c hL hfin
      have hl := loaderDir_of_file isDir L f hL hfin
      simp only [stagesOf, extendsLevel, List.nil_append, List.mem_singleton, forall_eq, chainBase]
      exact ⟨⟨hl.1, hl.2.1⟩, hl.2.2⟩) ps cfg.wd cfg.wd hW hok
  simp only [predict, if_true]
  rw [applyStages_chain k cfg cfg.wd (abs_ne_nil _ hW) _ h.1 s, h.2]

/-- **included file** (`include: [p]`, no `project_directory`): the base is the directory of the included file -/
theorem include_origin (k : Nat) (cfg : Cfg) (isDir : Str → Bool) (p s : Str) (hW : isAbs cfg.wd = true)
    (hfile : isDir (absIn cfg.wd p) = false) (hhome : ∀ h, cfg.home = some h → h ≠ []) :
    predict k cfg isDir [.incl p none] true s = resolveKind k { cfg with wd := dir (absIn cfg.wd p) } s :=
  include_chain_origin k cfg isDir [p] s hW ⟨hfile, trivial⟩ hhome

/-- **included file with a relative `project_directory: d`**: the base is the project directory joined with `d` -/
theorem include_pd_origin (k : Nat) (cfg : Cfg) (isDir : Str → Bool) (p d s : Str) (hW : isAbs cfg.wd = true)
    (hd : d ≠ []) (hdr : isAbs d = false) (hdir : isDir (absIn cfg.wd d) = true)
    (hhome : ∀ h, cfg.home = some h → h ≠ []) :
    predict k cfg isDir [.incl p (some d)] true s = resolveKind k { cfg with wd := join cfg.wd d } s := by
  have hl := loaderDir_of_dir isDir cfg.wd d hW hdir
  have e : clean (absIn cfg.wd d) = join cfg.wd d := by
    simp only [absIn, hdr, Bool.false_eq_true, if_false]
    rw [join_of_ne _ _ (abs_ne_nil _ hW)]; exact clean_idem _
  rw [e] at hl
  simp only [predict, stagesOf, includeLevel, hd, if_false, hdr, Bool.not_false, if_true, List.nil_append, List.cons_append]
  rw [applyStages_two k cfg _ cfg.wd s (abs_ne_nil _ hW) hl.1 hl.2.1, hl.2.2]

/-- **inherited attributes** (`extends: {file: f}`): the base is the directory of the extended file
(the directory part of `f`, taken from the project directory) -/
theorem extends_origin (k : Nat) (cfg : Cfg) (isDir : Str → Bool) (f s : Str) (hW : isAbs cfg.wd = true)
    (hfile : isDir (absIn cfg.wd f) = false) (hhome : ∀ h, cfg.home = some h → h ≠ []) :
    predict k cfg isDir [.ext f] true s = resolveKind k { cfg with wd := clean (absIn cfg.wd (dir f)) } s :=
  include_chain_extends_origin k cfg isDir [] f s hW hfile hhome

example : clean (absIn ['/', 'w'] (dir ['e', '/', 'b', '.', 'y'])) = ['/', 'w', '/', 'e'] := by decide +kernel

/-- **include inside an include** (depth 2): the base is the directory of the innermost included file, found from
the project directory of the outer include -/
theorem include2_origin (k : Nat) (cfg : Cfg) (isDir : Str → Bool) (p1 p2 s : Str) (hW : isAbs cfg.wd = true)
    (hf1 : isDir (absIn cfg.wd p1) = false)
    (hf2 : isDir (absIn (dir (absIn cfg.wd p1)) p2) = false)
    (hhome : ∀ h, cfg.home = some h → h ≠ []) :
    predict k cfg isDir [.incl p1 none, .incl p2 none] true s =
      resolveKind k { cfg with wd := dir (absIn (dir (absIn cfg.wd p1)) p2) } s :=
  include_chain_origin k cfg isDir [p1, p2] s hW ⟨hf1, hf2, trivial⟩ hhome

/-- **extends inside an included file**: the base is the directory of the extended file, found from the included
project directory -/
theorem include_extends_origin (k : Nat) (cfg : Cfg) (isDir : Str → Bool) (p f s : Str) (hW : isAbs cfg.wd = true)
    (hf1 : isDir (absIn cfg.wd p) = false)
    (hf2 : isDir (absIn (dir (absIn cfg.wd p)) f) = false)
    (hhome : ∀ h, cfg.home = some h → h ≠ []) :
    predict k cfg isDir [.incl p none, .ext f] true s =
      resolveKind k { cfg with wd := clean (absIn (dir (absIn cfg.wd p)) (dir f)) } s :=
  include_chain_extends_origin k cfg isDir [p] f s hW ⟨hf1, hf2⟩ hhome

theorem dir_commutes_with_join (W f : Str) (I : List Str) (last : Str) (hW : W ≠ []) (hf : isAbs f = false)
    (hsplit : splitSlash f = I ++ [last]) (hlast : Norm last) : dir (join W f) = join W (dir f) :=
  dir_join W f I last hW hf hsplit hlast

example : splitSlash ['e', '/', 'b', '.', 'y'] = [['e']] ++ [['b', '.', 'y']] ∧ Norm ['b', '.', 'y'] :=
  ⟨by decide +kernel, by decide, by decide, by decide⟩

/-- `extends_origin` phrased with the absolute file: the base is `Dir` of the extended file -/
theorem extends_origin_dir (k : Nat) (cfg : Cfg) (isDir : Str → Bool) (f s : Str) (I : List Str) (last : Str)
    (hW : isAbs cfg.wd = true) (hf : isAbs f = false) (hsplit : splitSlash f = I ++ [last]) (hlast : Norm last)
    (hfile : isDir (absIn cfg.wd f) = false) (hhome : ∀ h, cfg.home = some h → h ≠ []) :
    predict k cfg isDir [.ext f] true s = resolveKind k { cfg with wd := dir (absIn cfg.wd f) } s := by
  rw [extends_origin k cfg isDir f s hW hfile hhome]
  have hdf : isAbs (dir f) = false := by rw [isAbs_dir_eq]; exact hf
  have e : clean (absIn cfg.wd (dir f)) = dir (absIn cfg.wd f) := by
    simp only [absIn, hdf, hf, Bool.false_eq_true, if_false]
    rw [dir_join cfg.wd f I last (abs_ne_nil _ hW) hf hsplit hlast, join_of_ne _ _ (abs_ne_nil _ hW)]
    exact clean_idem _
  rw [e]

/-- **an extended file that itself extends from a third directory** (`extends2`): `f1` is written in the main file,
`f2` in the file `f1`; the inner reference is first rebased by `absExtendsPath`, then its file is resolved ONCE against
its own directory — which is `Dir` of `f2` taken from the directory of `f1` -/
theorem extends2_origin (k : Nat) (cfg : Cfg) (isDir : Str → Bool) (f1 f2 s : Str) (I : List Str) (last : Str)
    (hW : isAbs cfg.wd = true) (hfile1 : isDir (absIn cfg.wd f1) = false)
    (hf2 : isAbs f2 = false) (hf2ne : f2 ≠ []) (hf2t : tilde f2 = false) (hrem : cfg.remote f2 = false)
    (hsplit : splitSlash f2 = I ++ [last]) (hlast : Norm last)
    (hfile2 : isDir (absIn cfg.wd (joinWd (loaderDir isDir cfg.wd f1) f2)) = false)
    (hhome : ∀ h, cfg.home = some h → h ≠ []) :
    predict k cfg isDir [.ext f1, .ext f2] true s =
      resolveKind k { cfg with wd := dir (join (clean (absIn cfg.wd (dir f1))) f2) } s := by
  have hWne := abs_ne_nil _ hW
  have hl1 := loaderDir_of_file isDir cfg.wd f1 hW hfile1
  have hreb : absExtendsStr { cfg with wd := loaderDir isDir cfg.wd f1 } f2 = joinWd (loaderDir isDir cfg.wd f1) f2 := by
    simp only [absExtendsStr, hrem, Bool.false_eq_true, if_false]
    exact absPathStr_relative _ f2 hf2 hf2ne hf2t
  have hg_rel : isAbs (joinWd (loaderDir isDir cfg.wd f1) f2) = false := by
    rw [isAbs_joinWd]; exact isAbs_join_rel _ _ hl1.1 hl1.2.1
  have hl2 := loaderDir_of_file isDir cfg.wd (joinWd (loaderDir isDir cfg.wd f1) f2) hW hfile2
  obtain ⟨I', hsp'⟩ := splitSlash_joinWd_last (loaderDir isDir cfg.wd f1) f2 I last hl1.1 hl1.2.1 hsplit hlast
  have hdg : isAbs (dir (joinWd (loaderDir isDir cfg.wd f1) f2)) = false := by rw [isAbs_dir_eq]; exact hg_rel
  have ebase : clean (absIn cfg.wd (dir (joinWd (loaderDir isDir cfg.wd f1) f2))) =
      dir (join (clean (absIn cfg.wd (dir f1))) f2) := by
    simp only [absIn, hdg, Bool.false_eq_true, if_false]
    rw [← dir_join cfg.wd _ I' last hWne hg_rel hsp' hlast, clean_dir, join_joinWd _ _ _ hWne,
      ← join_assoc _ _ _ hWne hl1.1 hl1.2.1, hl1.2.2]
    simp only [absIn]
  simp only [predict, stagesOf, extendsLevel, hreb, List.nil_append, List.cons_append, if_true]
  rw [applyStages_two k cfg _ cfg.wd s hWne hl2.1 hl2.2.1, hl2.2.2, ebase]


/-- the directory a chain leads to, unfolded for depth 3 -/
example (W p1 p2 p3 : Str) :
    inclDir id W [p1, p2, p3] = dir (absIn (dir (absIn (dir (absIn W p1)) p2)) p3) := rfl

/-- non-vacuity: `/w` includes `a/i.yaml`, which includes `../b/j.yaml`, which includes `c/k.yaml`: the base is `/w/b/c` -/
example : InclOK (fun _ => false) (fun _ => True) ['/', 'w'] [['a', '/', 'i'], ['.', '.', '/', 'b', '/', 'j'], ['c', '/', 'k']] ∧
    inclDir id ['/', 'w'] [['a', '/', 'i'], ['.', '.', '/', 'b', '/', 'j'], ['c', '/', 'k']] = ['/', 'w', '/', 'b', '/', 'c'] :=
  ⟨show _ ∧ _ ∧ _ ∧ _ from ⟨rfl, rfl, rfl, trivial⟩, by decide +kernel⟩


/-- **resolution off** (`ResolvePaths = false`), a chain of `n ≥ 1` includes: the value is resolved ONCE, against a
non-empty *relative* directory `R` — and `Join(project directory, R)` is the directory the chain leads to: what such a
caller sees is the path as written, rebased to be relative to the project directory -/
theorem include_chain_origin_off (k : Nat) (cfg : Cfg) (isDir : Str → Bool) (p : Str) (ps : List Str) (s : Str)
    (hW : isAbs cfg.wd = true) (hok : InclOK isDir (fun _ => True) cfg.wd (p :: ps))
    (hhome : ∀ h, cfg.home = some h → h ≠ []) :
    ∃ R, R ≠ [] ∧ isAbs R = false ∧ join cfg.wd R = inclDir id cfg.wd (p :: ps) ∧
      predict k cfg isDir (inclSteps (p :: ps)) false s = resolveKind k { cfg with wd := R } s := by
  obtain ⟨hf, hrest⟩ := hok
  have hpath := isAbs_absIn cfg.wd p hW
  have hl := loaderDir_of_file isDir cfg.wd (absIn cfg.wd p) hW (by rw [absIn_of_abs _ _ hpath]; exact hf)
  rw [absIn_of_abs _ _ (isAbs_dir _ hpath), clean_dir] at hl
  have h := stagesOf_incl_chain cfg isDir [] id (fun _ => True)
    (by intro L c _ _; simp [stagesOf, chainBase]) ps (dir (absIn cfg.wd p)) (loaderDir isDir cfg.wd (absIn cfg.wd p))
    (isAbs_dir _ hpath) hrest
  simp only [List.append_nil] at h
  obtain ⟨c1, c2, c3⟩ := chainBase_join cfg.wd _ (abs_ne_nil _ hW) hl.1 hl.2.1 _ h.1
  refine ⟨_, c1, c2, ?_, ?_⟩
  · rw [c3, hl.2.2, h.2]; rfl
  · simp only [predict, Bool.false_eq_true, if_false, inclSteps, List.map_cons, stagesOf, includeLevel]
    exact applyStages_chain k cfg _ hl.1 _ h.1 s

end CV.Paths
