import ComposeVerif.Lemmas.UnicityLoop
import ComposeVerif.Props.C04
/-!
# C04 — the loop of `enforceUnicity` as written refines "one entry per key, the later one wins"

`Props/C04.lean` proves the unicity laws about `dedupKVs = foldl insert []`.  The Go code does not fold over an
association list: it keeps an output slice `seq` and a map `keys` from index key to **position in `seq`**, and overwrites
`seq[j]`.  `Model/UnicityLoop.lean` keeps those two variables and the index expression (which can go out of range) as
they are; here the loop as written is shown never to go out of range and to compute exactly `dedup`, so that all
unicity laws transfer.

The stored number is a parameter of the model (`Slot`): with the position in the *input* sequence instead (`keys[key] = i`)
the very same loop runs out of range on `[A, A, B, B]` and silently replaces another key's entry on `[A, A, B, C, B]`
— the refinement is a fact about the code's choice.
-/
namespace CV.C04
open CV CV.Val CV.Merge CV.Unicity

/-- the loop over indexed entries never evaluates `seq[j]` out of range, and its `seq` is the de-duplicated list -/
theorem unicity_loop_never_out_of_range (l : List (String × Val)) :
    ∃ st, loopRun .outLen l 0 LoopSt.empty = some st ∧ st.seq = (dedupKVs l).map Prod.snd := by
  obtain ⟨st, h, r⟩ := loopRun_rep l 0 [] LoopSt.empty rep_empty
  exact ⟨st, h, r.1⟩

/-- loop invariant at exit (and, `l` being arbitrary, after every prefix): `keys[k]` is the position of `k` in the output -/
theorem unicity_loop_keys_are_output_positions (l : List (String × Val)) :
    ∃ st, loopRun .outLen l 0 LoopSt.empty = some st ∧ ∀ k, idxLookup k st.keys = pos k (dedupKVs l) := by
  obtain ⟨st, h, r⟩ := loopRun_rep l 0 [] LoopSt.empty rep_empty
  exact ⟨st, h, r.2⟩

/-- **refinement**: the loop as written (indexer called inside, first error wins) = index all entries, then `dedup` -/
theorem unicity_loop_refines_dedup (ix : Indexer) (xs : List Val) :
    loopGo .outLen ix xs 0 LoopSt.empty = (indexAll ix xs).bind fun ks => .ok (dedup ks xs) :=
  loopGo_rep ix xs 0 [] LoopSt.empty rep_empty

mutual
theorem enforceL_eq_enforce : ∀ (v : Val) (p : TPath), enforceL .outLen v p = enforce v p
  | .map kvs, p => by simp only [enforceL, enforce, enforceKVsL_eq_enforceKVs kvs p]
  | .seq xs, p => by
    simp only [enforceL, enforce]
    cases indexerAt p with
    | none => rfl
    | some ix =>
      simp only [unicity_loop_refines_dedup]
      cases indexAll ix xs <;> rfl
  | .null, _ | .bool _, _ | .int _, _ | .float _, _ | .str _, _ => rfl
theorem enforceKVsL_eq_enforceKVs : ∀ (kvs : KVs) (p : TPath), enforceKVsL .outLen kvs p = enforceKVs kvs p
  | [], _ => rfl
  | (k, e) :: r, p => by
    simp only [enforceKVsL, enforceKVs, enforceL_eq_enforce e (next p k), enforceKVsL_eq_enforceKVs r p]
end

theorem enforceTopL_eq_enforceTop (v : Val) : enforceTopL .outLen v = enforceTop v := by
  unfold enforceTopL enforceTop
  cases v <;> simp only [enforceL_eq_enforce]

/-- the index expression `seq[j] = entry` never panics, on any tree -/
theorem enforceL_never_panics (v : Val) (s : String) : enforceTopL .outLen v ≠ .panic s := by
  rw [enforceTopL_eq_enforceTop]
  exact enforceTop_never_panics v s

/-- the unicity law on the loop as written: the entry the loop keeps for a key is the last one carrying it (at the
position of the key's first appearance), and a key the input does not carry has no position -/
theorem loop_last_wins (l : List (String × Val)) (k : String) :
    ∃ st, loopRun .outLen l 0 LoopSt.empty = some st ∧
      (∀ j, idxLookup k st.keys = some j → st.seq[j]? = lastVal k l) ∧
      (idxLookup k st.keys = none → lastVal k l = none) := by
  obtain ⟨st, h, r⟩ := loopRun_rep l 0 [] LoopSt.empty rep_empty
  have hl : lookup k (dedupKVs l) = lastVal k l := unicity_last_wins l k
  refine ⟨st, h, ?_, ?_⟩
  · intro j hj
    rw [r.2 k] at hj
    rw [r.1, ← hl]
    exact pos_some_lookup hj
  · intro hn
    rw [r.2 k] at hn
    rw [← hl]
    exact lookup_eq_none.mpr (pos_eq_none_iff.mp hn)

/-- with `keys[key] = i` (position in the input) the loop runs out of range: `[A, A, B, B]` -/
theorem slot_matters_out_of_range :
    loopRun .inIdx [("A", .int 1), ("A", .int 2), ("B", .int 1), ("B", .int 2)] 0 LoopSt.empty = none := by
  simp [loopRun, loopStep, idxLookup, Slot.value, LoopSt.empty]

/-- with `keys[key] = i`, on `[A, A, B, C, B]` the loop silently overwrites `C`'s entry with `B`'s: the output has `B` twice and
no `C` -/
theorem slot_matters_wrong_entry :
    (loopRun .inIdx [("A", .str "A=1"), ("A", .str "A=2"), ("B", .str "B=1"), ("C", .str "C=1"), ("B", .str "B=2")] 0
      LoopSt.empty).map (·.seq) = some [.str "A=2", .str "B=1", .str "B=2"] := by
  simp [loopRun, loopStep, idxLookup, Slot.value, LoopSt.empty]

/-- the same two inputs through the loop as written -/
example : (loopRun .outLen [("A", .int 1), ("A", .int 2), ("B", .int 1), ("B", .int 2)] 0 LoopSt.empty).map (·.seq)
    = some [.int 2, .int 2] := by
  simp [loopRun, loopStep, idxLookup, Slot.value, LoopSt.empty]
example : (loopRun .outLen [("A", .str "A=1"), ("A", .str "A=2"), ("B", .str "B=1"), ("C", .str "C=1"), ("B", .str "B=2")] 0
    LoopSt.empty).map (·.seq) = some [.str "A=2", .str "B=2", .str "C=1"] := by
  simp [loopRun, loopStep, idxLookup, Slot.value, LoopSt.empty]

end CV.C04
