import ComposeVerif.Props.C11Stages
/-!
# C11 — lifting the cross-stage facts from one service to the whole model: the three-stage fixed point

`Props/C11Stages.lean` proves for the attributes of ONE service what each defaulting stage leaves of the fixed points of
the other two.  Here those facts are lifted over the `services` mapping and the top level, to `pipeline_fixed_point`:
**`pipeline d = ok e → pipeline e = ok e`** (hypotheses `EscFacts`, `RootFacts`, `clean` idempotent, no variable with an
empty name).
-/
namespace CV.C11
open CV CV.Val

/-- every service that is a mapping is a fixed point of `canonSvcAttrs` -/
def SvcsCanon (svcs : KVs) : Prop := ∀ kv ∈ svcs, ∀ s, kv.2 = .map s → SvcCanon s

theorem canonServices_fixed_iff (svcs : KVs) : canonServices svcs = .ok svcs ↔ SvcsCanon svcs := by
  rw [canonServices_eq_mapM, mapMKVs_fixed_iff]
  exact forall₂_congr fun kv _ => by simp only [canonSvc_fixed_iff, svcCanon_iff]

/-- a whole model is a fixed point of the modelled part of `Canonical` iff its services are -/
theorem canonicalLite_fixed_iff (d : KVs) :
    canonicalLite d = .ok (.map d) ↔ (∀ svcs, lookup "services" d = some (.map svcs) → SvcsCanon svcs) := by
  rw [canonicalLite_eq]
  split
  · rename_i svcs hl
    simp only [hl, Option.some.injEq, Val.map.injEq, forall_eq', ← canonServices_fixed_iff, Out.map_eq_ok]
    constructor
    · rintro ⟨s', hs, e⟩
      have := congrArg (lookup "services") e
      rw [lookup_insert_self, hl] at this
      cases this; exact hs
    · exact fun h => ⟨svcs, h, insert_of_lookup hl⟩
  · rename_i hn; exact ⟨fun _ svcs hl => absurd hl (hn svcs), fun _ => rfl⟩

theorem svcsCanon_normalized (clean : String → String) (env : Env) (svcs : KVs) (h : SvcsCanon svcs) :
    SvcsCanon (mapVals (onMap (normSvc clean env)) svcs) := by
  intro kv hkv s hs
  obtain ⟨kv0, hkv0, rfl⟩ := List.mem_map.mp hkv
  cases hv : kv0.2 with
  | map s0 =>
    simp only [hv, onMap, Val.map.injEq] at hs
    exact hs ▸ svcCanon_normSvc clean env s0 (h kv0 hkv0 s0 hv)
  | _ => simp only [hv, onMap] at hs; cases hs

/-- **a model that `Canonical` leaves alone is still left alone after `Normalize`** (whole model: the implied
`depends_on` entries `Normalize` adds to any service are canonical, nothing else it writes is a `depends_on` or an
`env_file`) -/
theorem canonical_fixed_after_normalize (clean : String → String) (env : Env) (d : KVs)
    (h : canonicalLite d = .ok (.map d)) :
    canonicalLite (normalizePure clean env d) = .ok (.map (normalizePure clean env d)) := by
  rw [canonicalLite_fixed_iff] at h ⊢
  intro svcs' hs'
  rw [lookup_normalizePure clean env d (by simp), funext (topH_services_eq clean env _)] at hs'
  cases hl : lookup "services" d with
  | none => rw [hl] at hs'; cases hs'
  | some v =>
    rw [hl] at hs'
    cases v with
    | map svcs =>
      simp only [Option.map_some, onMap, Option.some.injEq, Val.map.injEq] at hs'
      exact hs' ▸ svcsCanon_normalized clean env svcs (h svcs hl)
    | _ => simp only [Option.map_some, onMap, Option.some.injEq] at hs'; cases hs'


/-- every rule of the regenerated table is at least three levels deep (`services.<x>.<attr>`): the walker descends
through the root, `services` and a service without applying a handler -/
theorem defaultValues_deep {q : TPath} (hq : q.length < 3) : TPath.firstMatch CV.Gen.defaultValues q = none := by
  have deep : ∀ row ∈ CV.Gen.defaultValues, 3 ≤ row.1.length := by decide +kernel
  refine TPath.firstMatch_none_iff.mpr fun row hrow => ?_
  cases hp : TPath.pmatch row.1 q with
  | false => rfl
  | true => have := deep row hrow; rw [TPath.pmatch_length _ _ hp] at this; omega

/-- **a model that `Canonical` leaves alone is still left alone after `SetDefaultValues`** (whole model; regenerated
table): the walker reaches `services.<x>.depends_on / env_file` nowhere.  Visible hypotheses: `EscFacts`, and the closed
fact `root.Next("services") = ["services"]` (`String.splitOn`, not evaluable by the kernel; compared with Go's
`tree.Path.Next` by `c11.next` in every run). -/
theorem canonical_fixed_after_setDefaults (hesc : EscFacts) (hroot : TPath.root.next "services" = ["services"])
    (c s : KVs) (hc : canonicalLite c = .ok (.map c))
    (hs : setDefaultValues CV.Gen.defaultValues c = .ok (.map s)) : canonicalLite s = .ok (.map s) := by
  rw [canonicalLite_fixed_iff] at hc ⊢
  intro svcs' hl' kv hkv sattrs hkv2
  -- the services of `s` are the walked services of `c`, and service `kv` the walked service `a`
  obtain ⟨_, e, h0⟩ := setDefaults_ok_map (defaultValues_deep (by simp [TPath.root])) hs
  cases e
  obtain ⟨v, hv, h1⟩ := mapMKVs_lookup h0 hl'
  rw [hroot] at h1
  obtain ⟨svcs, rfl, h2⟩ := setDefaults_ok_map (defaultValues_deep (by simp)) h1
  obtain ⟨a, ha, _, h3⟩ := mapMKVs_mem h2 kv hkv
  rw [next_of_ne_root (by simp [TPath.root]), hkv2] at h3
  obtain ⟨attrs, ha2, h4⟩ := setDefaults_ok_map (defaultValues_deep (by simp)) h3
  rw [← setDefaultsKVs_eq_mapM] at h4
  exact svcCanon_setDefaults hesc _ attrs sattrs (hc svcs hv a ha attrs ha2) h4

/-- **the result of the three stages is a fixed point of the first one**: `pipeline d = ok e` (every default written
out) → `Canonical` leaves `e` alone -/
theorem pipeline_result_canonical (hesc : EscFacts) (hroot : TPath.root.next "services" = ["services"])
    (clean : String → String) (env : Env) (d e : KVs)
    (h : pipeline CV.Gen.defaultValues clean env d = .ok e) : canonicalLite e = .ok (.map e) := by
  obtain ⟨c, s, h1, h2, h3⟩ := pipeline_stages _ clean env d e h
  obtain ⟨c', hc', hcc⟩ := canonicalLite_idem d _ h1
  cases hc'
  have hs := canonical_fixed_after_setDefaults hesc hroot c s hcc h2
  rw [(normalize_ok_pure h3).2]
  exact canonical_fixed_after_normalize clean env s hs


/-- **the walker is the identity on a top-level section other than `services`** (networks, volumes, … whatever
`Normalize` wrote into them): the table is checked against the four section names -/
theorem setDefaults_off_services {k : String} (hk : resourceNames.contains k = true) (v : Val) :
    setDefaults CV.Gen.defaultValues [k] v = .ok v := by
  have check : ∀ k ∈ resourceNames, (CV.Gen.defaultValues.all fun row => !overlapBelow row.1 [k]) = true := by
    decide +kernel
  have hk' := List.contains_iff_mem.mp hk
  refine setDefaults_off _ v [k] ⟨⟨nofun, fun e => ?_⟩,
    none_below_of_no_overlap [k] (check k hk') (by simp [TPath.pmatch])⟩
  rw [List.cons.inj e |>.1] at hk'
  simp [resourceNames] at hk'

/-- the services mapping: every service that had its defaults written still has them after `Normalize` -/
theorem services_defaulted_normalized (hesc : EscFacts) (clean : String → String) (env : Env) (v : Val)
    (h : setDefaults CV.Gen.defaultValues ["services"] v = .ok v) :
    setDefaults CV.Gen.defaultValues ["services"] (onMap (mapVals (onMap (normSvc clean env))) v) =
      .ok (onMap (mapVals (onMap (normSvc clean env))) v) := by
  cases v with
  | map svcs =>
    rw [setDefaults_map_fixed_iff (defaultValues_deep (by simp))] at h
    rw [onMap, setDefaults_map_fixed_iff (defaultValues_deep (by simp))]
    intro kv hkv
    obtain ⟨kv0, hkv0, rfl⟩ := List.mem_map.mp hkv
    have h0 := h kv0 hkv0
    rw [next_of_ne_root (by simp [TPath.root])] at h0 ⊢
    cases hv : kv0.2 with
    | map attrs =>
      rw [hv, setDefaults_map_fixed_iff (defaultValues_deep (by simp))] at h0
      simp only [onMap]
      rw [setDefaults_map_fixed_iff (defaultValues_deep (by simp))]
      exact svcDefaulted_normSvc hesc _ clean env attrs h0
    | _ => simp only [hv, onMap] at h0 ⊢; exact h0
  | _ => exact h

/-- **a model whose `SetDefaultValues` defaults are all written still has them after `Normalize`** (whole model,
regenerated table): what `Normalize` rewrites is off the table (top-level sections, service attributes) except `build`,
whose context it writes itself -/
theorem defaults_fixed_after_normalize (hesc : EscFacts) (hroot : RootFacts) (clean : String → String) (env : Env)
    (s : KVs) (h : setDefaultValues CV.Gen.defaultValues s = .ok (.map s)) :
    setDefaultValues CV.Gen.defaultValues (normalizePure clean env s) = .ok (.map (normalizePure clean env s)) := by
  unfold setDefaultValues at h ⊢
  rw [setDefaults_map_fixed_iff (defaultValues_deep (by simp [TPath.root]))] at h ⊢
  intro kv hkv
  rw [normalizePure_eq] at hkv
  rcases mem_putNonEmpty hkv with rfl | hkv
  · rw [hroot "networks" (by simp)]
    exact setDefaults_off_services (by simp [resourceNames]) _
  · obtain ⟨kv0, hkv0, rfl⟩ := mem_mapAt hkv
    have h0 := h kv0 hkv0
    show setDefaults _ (TPath.root.next kv0.1) (topH clean env _ kv0.1 kv0.2) = _
    by_cases h1 : kv0.1 = "services"
    · rw [h1, hroot "services" (by simp)] at h0 ⊢
      rw [topH_services_eq]
      exact services_defaulted_normalized hesc clean env _ h0
    by_cases h2 : resourceNames.contains kv0.1 = true
    · rw [hroot _ (List.mem_cons_of_mem _ (List.contains_iff_mem.mp h2))]
      exact setDefaults_off_services h2 _
    · rwa [topH_of_plain clean env _ h1 (by simpa using h2)]

/-- **the result of the three stages is a fixed point of all three, hence of the composition** — the whole-model
statement of "implicit ≡ explicit" for Canonical ; SetDefaultValues ; Normalize: if the stages accept `d` and return
`e` (every default written out), they accept `e` and return `e`.  Visible hypotheses: `EscFacts`, `RootFacts` (closed
facts about `tree.Path.Next` on twelve literals, checked against Go by `c11.next`), `path.Clean` idempotent
(`pathClean_idempotent`), no environment variable with an empty name. -/
theorem pipeline_fixed_point (hesc : EscFacts) (hroot : RootFacts) (clean : String → String)
    (hclean : ∀ s, clean (clean s) = clean s) (env : Env) (henv : envLookup env "" = none) (d e : KVs)
    (h : pipeline CV.Gen.defaultValues clean env d = .ok e) : pipeline CV.Gen.defaultValues clean env e = .ok e := by
  have hc := pipeline_result_canonical hesc (hroot "services" (by simp)) clean env d e h
  obtain ⟨c, s, _, h2, h3⟩ := pipeline_stages _ clean env d e h
  have hs := setDefaultValues_idempotent c s h2
  have hd : setDefaultValues CV.Gen.defaultValues e = .ok (.map e) := by
    rw [(normalize_ok_pure h3).2]; exact defaults_fixed_after_normalize hesc hroot clean env s hs
  have hn := normalize_fixed_point clean hclean env henv s e h3
  unfold pipeline
  simp only [hc, hd, hn]

/-- **implicit ≡ explicit, whole model, all three stages** -/
theorem pipeline_implicit_eq_explicit (hesc : EscFacts) (hroot : RootFacts) (clean : String → String)
    (hclean : ∀ s, clean (clean s) = clean s) (env : Env) (henv : envLookup env "" = none) (d e : KVs)
    (h : pipeline CV.Gen.defaultValues clean env d = .ok e) :
    pipeline CV.Gen.defaultValues clean env e = pipeline CV.Gen.defaultValues clean env d := by
  rw [h]; exact pipeline_fixed_point hesc hroot clean hclean env henv d e h

-- non-vacuity of the two visible hypotheses: evaluated by the interpreter (the kernel cannot unfold `String.replace` /
-- `String.splitOn`), and compared with Go's `tree.Path.Next` on the same literals by `c11.next` in every run
#guard ["services", "networks", "volumes", "configs", "secrets"].all fun k => TPath.root.next k == [k]
#guard ["build", "networks", "depends_on", "pull_policy", "environment", "volumes", "env_file"].all fun k =>
  k.replace "." TPath.ghost == k
-- and a model on which the three stages succeed (so the fixed-point theorem speaks about something)
#guard (match pipeline CV.Gen.defaultValues id [] [("name", .str "p"), ("services", .map [("x-ray", .map [("image", .str "i"),
    ("ports", .seq [.map [("target", .int 80)]]), ("depends_on", .seq [.str "b"]), ("links", .seq [.str "c"])])]),
    ("volumes", .map [("v", .null)])] with
  | .ok e => (match pipeline CV.Gen.defaultValues id [] e with | .ok e' => e' == e | _ => false)
  | _ => false)

example : canonicalLite [("services", .map [("a", .map [("depends_on", .map [("b", depEntry false)])])])] =
    .ok (.map [("services", .map [("a", .map [("depends_on", .map [("b", depEntry false)])])])]) := by decide +kernel

end CV.C11
