import ComposeVerif.Lemmas.ShortShell
import ComposeVerif.Lemmas.ShortDecodeMore
import ComposeVerif.Props.C03
/-!
# C03 — string vs list for `command` / `entrypoint` / hook commands

The string spelling of a `ShellCommand` goes through go-shellwords (`Model/ShortShell.lean`, the complete loop of
`(*Parser).Parse` for the package defaults); the list spelling is taken as it is. The grammar (`Spec/ShortShell.lean`):
words separated by runs of space / tab / CR / LF, a word = plain runs, `'…'`, `"…"`, `\c`.
-/
namespace CV.Short
open CV CV.Short.Spec

/-- **string ≡ list**: every well-formed command line parses to exactly the values of its words — whatever the words
contain besides the parser's own special characters (any Unicode white space other than the four blanks included) -/
theorem shell_short_eq_long (a : ShSpec) (h : a.wf = true) : shellParse a.render = some a.long := by
  simp only [ShSpec.wf, Bool.and_eq_true] at h
  simpa [shellParse, ShSpec.render, ShSpec.long] using
    shell_words a.trail h.2 a.words [] [] .no (by simpa using h.1) (fun _ => rfl)

/-- the same at the decoder: the string spelling and the list spelling of a command are the same typed value -/
theorem shellCommand_string_eq_list (a : ShSpec) (h : a.wf = true) :
    decodeShellCommand (.str (String.ofList a.render)) = decodeShellCommand (.seq (a.long.map fun w => .str (String.ofList w))) := by
  have hl : ∀ l : List Str, allStrs (l.map fun w => Val.str (String.ofList w)) = some (l.map fun w => Val.str (String.ofList w)) :=
    fun l => by simpa [List.map_map, Function.comp_def] using allStrs_map_str (l.map String.ofList)
  simp [decodeShellCommand, decodeShellCommandList, shell_short_eq_long a h, hl]

/-- a word keeps every character that is not one of the parser's four blanks: `Prix\u00a0:\u00a010` is ONE argument
(the statement seeded change C03-8 breaks — `strings.Fields` cuts at every Unicode space) -/
theorem shell_unicode_space_kept (p : Str) (hp : p ≠ []) (ho : p.all ordinary = true) : shellParse p = some [p] := by
  have := shell_short_eq_long { words := [{ sep := [], segs := [.plain p] }], trail := [] }
    (by simp [ShSpec.wf, wordsWf, blanks, ShSeg.wf, hp, ho])
  simpa [ShSpec.render, ShSpec.long, ShWord.render, ShWord.body, ShWord.value, ShSeg.render, ShSeg.value] using this

example : ordinary '\u00a0' = true ∧ ordinary '\u3000' = true ∧ ordinary '\x0c' = true := by decide +kernel
example : shellParse "Prix\u00a0:\u00a010".toList = some ["Prix\u00a0:\u00a010".toList] := by decide +kernel
example : (ShSpec.mk [⟨[], [.plain "sh".toList]⟩, ⟨" ".toList, [.plain "-c".toList]⟩, ⟨" \t".toList, [.sq "a b".toList, .esc ';', .dq "x'y".toList]⟩] " ".toList).wf = true := by decide +kernel
example : shellParse "sh -c 'a b'\\;\"x'y\" ".toList = some ["sh".toList, "-c".toList, "a b;x'y".toList] := by decide +kernel

/-- `build.ssh: [default, ID=PATH]` and `build.ssh: {default: null, ID: PATH}` are the same canonical mapping, which
`SSHConfig.DecodeMapstructure` accepts: the two spellings are the same typed `SSHConfig` -/
theorem sshConfig_short_eq_long (id path : Str) (hid : ∀ x ∈ id, x ≠ '=') (hd : String.ofList id ≠ "default") :
    ∃ t, transformSSH (.seq [.str "default", .str (String.ofList (id ++ '=' :: path))]) = .ok t
      ∧ transformSSH (.map [("default", .null), (String.ofList id, sv path)]) = .ok t
      ∧ (decodeSSHConfig t).isSome = true :=
  ⟨_, transformSSH_short_eq_long id path hid hd, transformSSH_long_id _, rfl⟩

/-- the list spelling never reaches the decoder un-canonicalised: a list is rejected by `SSHConfig.DecodeMapstructure` -/
theorem sshConfig_mapping_only (l : List Val) : decodeSSHConfig (.seq l) = none := rfl

example : decodeSSHConfig (.map [("k", .str "/p"), ("default", .null)])
    = some (.seq [.map [("id", .str "default"), ("path", .str "")], .map [("id", .str "k"), ("path", .str "/p")]]) := by
  simp [decodeSSHConfig, sshInsert, sprint]

/-! near misses: an open quote, a trailing escape are rejected — never a partial command -/

/-- a line that opens with a single quote that is never closed is rejected -/
theorem shell_reject_open_single_quote (t : Str) (h : t.all (· ≠ '\'') = true) : shellParse ('\'' :: t) = none := by
  have h0 : shStep {} '\'' = .cont { sq := true } := by
    have : shIsSpace '\'' = false := by decide
    simp [shStep, this]
  obtain ⟨b', g', e⟩ := shLoop_sq_open t [] [] .no h
  simp [shellParse, shLoop, h0, e, shFinish]

/-- a backslash at the very end (nothing to escape) rejects the line -/
theorem shell_reject_trailing_escape (p : Str) (hp : p ≠ []) (ho : p.all ordinary = true) : shellParse (p ++ ['\\']) = none := by
  have e := shLoop_plain ['\\'] p [] [] .no hp ho
  simp only [shellParse, shN] at e ⊢
  rw [e]
  simp [shLoop, shStep, shFinish]

example : shellParse "echo 'a b".toList = none := by decide +kernel
example : shellParse "echo a\\".toList = none := by decide +kernel
example : shellParse "echo (a)".toList = none := by decide +kernel

end CV.Short
