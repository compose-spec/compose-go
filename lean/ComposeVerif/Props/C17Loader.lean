import ComposeVerif.Lemmas.NameLoader
import ComposeVerif.Lemmas.NameExamples
import ComposeVerif.Gen.NameFacts
/-!
# C17 — the loader-level entry of the name decision, and the glue between the cli and the loader

The loader has its own public entry (`loader.LoadWithContext` with `Options.SetProjectName(name, imperativelySet)`,
`Options.SkipInterpolation`, a possibly nil `ConfigDetails.Environment`); `Model/NameLoader.lean` models it in full
(`projectNameL`, `loadL`) and puts the cli in front of it with `cli.WithInterpolation` (`loadX`, `runX`).  The theorems
here state the name clauses of the property for **every** input of that entry.  This is the base: `Props/C17.lean`
imports this file and gets its name theorems over `cli.NewProjectOptions … LoadProject` (`loadFiles`, `load`, `run`) as
the instances "interpolation on, the pair `withNamePrecedenceLoad` computes", through the three equations
`cli_load_is_loader_entry`, `loadX_interp_is_load`, `runX_interp_is_run` proved below.
-/
namespace CV.Name
open CV CV.Name.Spec

/-- the bodies of the glue the model mirrors are the ones in the source: `Options.SetProjectName`,
    `loadModelWithContext` (name decided before anything is loaded), `cli.WithInterpolation` (appends a load option,
    `SkipInterpolation = !b`), `cli.WithEnvFile` (deprecated, empty path = `WithEnvFiles()`),
    `ProjectOptions.LoadProject` (the project environment handed over as `ConfigDetails.Environment`) and
    `ProjectOptions.prepare` (`withNamePrecedenceLoad` is appended AFTER the caller's load options, so it overrides a
    `SetProjectName` smuggled in through `WithLoadOptions`) -/
theorem loader_entry_functions_are_source :
    CV.Gen.c17_body_SetProjectName =
      "{ o.projectName = name o.projectNameImperativelySet = imperativelySet }" ∧
    CV.Gen.c17_body_loadModelWithContext =
      "{ if len(configDetails.ConfigFiles) < 1 { return nil, errors.New(\"No files specified\") } err := projectName(configDetails, opts) if err != nil { return nil, err } return load(ctx, *configDetails, opts, nil) }" ∧
    CV.Gen.c17_body_WithInterpolation =
      "{ return func(o *ProjectOptions) error { o.loadOptions = append(o.loadOptions, func(options *loader.Options) { options.SkipInterpolation = !interpolation }) return nil } }" ∧
    CV.Gen.c17_body_WithEnvFile =
      "{ var files []string if file != \"\" { files = []string{file} } return WithEnvFiles(files...) }" ∧
    CV.Gen.c17_body_LoadProject =
      "{ config, err := o.prepare(ctx) if err != nil { return nil, err } project, err := loader.LoadWithContext(ctx, types.ConfigDetails{ ConfigFiles: config.ConfigFiles, WorkingDir: config.WorkingDir, Environment: o.Environment, }, o.loadOptions...) if err != nil { return nil, err } for _, config := range config.ConfigFiles { project.ComposeFiles = append(project.ComposeFiles, config.Filename) } return project, nil }" ∧
    CV.Gen.c17_body_prepare =
      "{ defaultDir, err := o.GetWorkingDir() if err != nil { return &types.ConfigDetails{}, err } configDetails, err := o.ReadConfigFiles(ctx, defaultDir, o) if err != nil { return configDetails, err } o.loadOptions = append(o.loadOptions, withNamePrecedenceLoad(defaultDir, o), withConvertWindowsPaths(o), withListeners(o)) return configDetails, nil }" := by
  exact ⟨rfl, rfl, rfl, rfl, rfl, rfl⟩

/-- **composition**: the load of `Props/C17.lean` (`loadFiles`: what `LoadProject` does once the files are read) is
    the loader entry `loadL` on the project environment, with the `(name, imperative)` pair of
    `withNamePrecedenceLoad` and interpolation on.  (The model of `loader.projectName` used there returns a
    non-imperative name as it is; the full one normalises it; on the pairs the cli produces the two coincide because
    normalisation is idempotent.) -/
theorem cli_load_is_loader_entry (w : World) (o : PO) (files : List (List (Option Str))) :
    loadFiles w o files = loadL files (some o.env) (loptsOf w o false) w.probe := by
  unfold loadFiles loadL
  rw [loaderName_eq_projectNameL]
  simp only [Option.getD_some]
  cases projectNameL files o.env (loptsOf w o false) with
  | error e => rfl
  | ok name =>
    simp only [loptsOf, pipeline_false]
    cases interpAll ((cpn, name) :: o.env) (allNames files) with
    | error e => rfl
    | ok u =>
      simp only
      cases Template.subst (Env.get ((cpn, name) :: o.env)) w.probe <;> rfl

/-- … and so is the whole `LoadProject` / `NewProjectOptions + LoadProject`, when no `WithInterpolation(false)` is
    in effect -/
theorem loadX_interp_is_load (w : World) (o : PO) : loadX w o false = load w o := by
  unfold loadX load
  cases o.configs with
  | nil => rfl
  | cons c cs =>
    simp only
    cases readConfigs w (c :: cs) with
    | error e => rfl
    | ok files => exact (cli_load_is_loader_entry w o files).symm

theorem runX_interp_is_run (w : World) (opts : List Opt) (interps : List Bool) (h : interpFlag interps = true) :
    runX w opts interps = run w opts := by
  unfold runX run
  cases runOpts w opts { configs := w.given } with
  | error e => rfl
  | ok o => simp only [h, Bool.not_true]; exact loadX_interp_is_load w o

/-- the last `WithInterpolation` decides, none means "interpolate" -/
theorem interpFlag_last (pre : List Bool) (b : Bool) : interpFlag (pre ++ [b]) = b ∧ interpFlag [] = true := by
  simp [interpFlag]

/-- **a successful load always has a non-empty name of the form `[a-z0-9][a-z0-9_-]*`** — for every input of the
    loader entry: a name set imperatively or not, valid or not, interpolation on or off, environment nil or not,
    any files (`SetProjectName("My App", false)` with no `name:` in the files included: the guess is normalised) -/
theorem loader_entry_name_valid (files : List (List (Option Str))) (env : Option Env) (lo : LOpts) (probe : Str)
    (r : Loaded) (h : loadL files env lo probe = .ok r) : validName r.name = true ∧ r.name ≠ [] := by
  obtain ⟨h1, h2, _, _⟩ := loadL_ok_inv files env lo probe r h
  rcases projectNameL_valid files _ lo r.name h1 with h3 | h3
  · exact absurd h3 h2
  · exact ⟨h3, h2⟩

/-- the same through the cli, `WithInterpolation(false)` included -/
theorem name_valid_any_interpolation (w : World) (opts : List Opt) (interps : List Bool) (r : Loaded)
    (h : runX w opts interps = .ok r) : validName r.name = true ∧ r.name ≠ [] := by
  obtain ⟨o, _, h⟩ := runX_ok_inv w opts interps r h
  obtain ⟨files, _, _, h⟩ := loadX_ok_inv w o _ r h
  exact loader_entry_name_valid _ _ _ _ r h

/-- **visible to interpolation as `COMPOSE_PROJECT_NAME`**: the loaded environment is the given one (the empty one
    for a nil map) with `COMPOSE_PROJECT_NAME ↦ name` on top, nothing else changes, and — unless interpolation is
    switched off — the strings of the model were interpolated against exactly that environment -/
theorem loader_entry_name_exported (files : List (List (Option Str))) (env : Option Env) (lo : LOpts) (probe : Str)
    (r : Loaded) (h : loadL files env lo probe = .ok r) :
    r.env = (cpn, r.name) :: env.getD [] ∧ r.env.get cpn = some r.name ∧
    (∀ k, k ≠ cpn → r.env.get k = (env.getD []).get k) ∧
    (lo.skipInterp = false → Template.subst r.env.get probe = .ok r.probe) ∧
    (lo.skipInterp = true → r.probe = probe) := by
  obtain ⟨_, _, h3, h4⟩ := loadL_ok_inv files env lo probe r h
  refine ⟨h3, by rw [h3]; exact get_cons_self _ _ _, ?_, ?_, ?_⟩
  · intro k hk
    rw [h3, get_cons_ne _ _ _ _ hk]
  · intro hs
    rw [hs] at h4
    exact (pipeline_false_ok _ _ _ _ h4).2
  · intro hs
    rw [hs, pipeline_true] at h4
    cases h4; rfl

/-- **an imperatively set name that is not already in that form is rejected**, whatever the files, the
    environment and the interpolation switch -/
theorem loader_entry_imperative_invalid_rejected (files : List (List (Option Str))) (env : Option Env) (lo : LOpts)
    (probe : Str) (hi : lo.imperative = true) (hn : lo.name ≠ []) (hv : validName lo.name = false) :
    loadL files env lo probe = .error .invalidName := by
  simp [loadL, projectNameL, hi, normalize_ne lo.name hn (by simp [hv])]

/-- **the explicitly requested name wins**: a successful load with an imperatively set name has exactly that name —
    no `name:` of any file, no `COMPOSE_PROJECT_NAME` of the environment handed to the loader takes part -/
theorem loader_entry_imperative_wins (files : List (List (Option Str))) (env : Option Env) (lo : LOpts) (probe : Str)
    (r : Loaded) (hi : lo.imperative = true) (h : loadL files env lo probe = .ok r) : r.name = lo.name :=
  projectNameL_imperative files _ lo r.name hi (loadL_ok_inv files env lo probe r h).1

/-- with `WithInterpolation` calls anywhere: a successful run whose last `WithName` is non-empty has exactly that
    name — `SkipInterpolation` changes nothing about the precedence -/
theorem explicit_name_wins_any_interpolation (w : World) (opts : List Opt) (interps : List Bool) (r : Loaded)
    (h : runX w opts interps = .ok r) (hreq : requestedName opts [] ≠ []) : r.name = requestedName opts [] := by
  obtain ⟨o, ho, h⟩ := runX_ok_inv w opts interps r h
  obtain ⟨files, _, _, h⟩ := loadX_ok_inv w o _ r h
  have hn : o.name = requestedName opts [] := runOpts_name w opts { configs := w.given } o ho
  rw [loptsOf_explicit w o _ (hn ▸ hreq)] at h
  exact (loader_entry_imperative_wins _ _ _ _ r rfl h).trans hn

/-- **the precedence clause of the property, for both positions of the interpolation switch**: a successful
    `LoadProject` has the name `Spec.decide` selects from the four sources — explicit request,
    `COMPOSE_PROJECT_NAME` of the project environment, the `name:` of the last selected file that sets one
    (interpolated, or as written under `WithInterpolation(false)`; normalised), the project directory — over the
    config files the options selected -/
theorem name_decision_any_interpolation (w : World) (o : PO) (skip : Bool) (r : Loaded) (h : loadX w o skip = .ok r) :
    ∃ files, o.configs ≠ [] ∧ readConfigs w o.configs = .ok files ∧
      Spec.decide (sourcesOfX w o files skip) = .name r.name := by
  obtain ⟨files, hc, hf, h⟩ := loadX_ok_inv w o skip r h
  exact ⟨files, hc, hf, loadL_cli_decision w o files skip r h⟩

/-- … and it is complete for rejection: the specification says `rejected` (an explicit name or a
    `COMPOSE_PROJECT_NAME` that is not in the form) ⇒ `invalidName`, with or without interpolation -/
theorem name_rejected_any_interpolation (w : World) (o : PO) (files : List (List (Option Str))) (skip : Bool)
    (hd : Spec.decide (sourcesOfX w o files skip) = .rejected) :
    loadL files (some o.env) (loptsOf w o skip) w.probe = .error .invalidName := by
  have ha := projectNameL_agrees_cli w o files skip
  rw [hd] at ha
  unfold loadL
  simp only [Option.getD_some]
  rw [show projectNameL files o.env (loptsOf w o skip) = .error .invalidName from ha]

/-- **the decision of the loader entry is the specification's**: with the imperatively set name as the explicit
    request and the name that was not set imperatively in the place of the directory name, `loader.projectName`
    returns what `Spec.decide` selects — the `name:` of the last file that sets one, interpolated (or as written
    under `SkipInterpolation`) and normalised, else the **normalised** guess.  `himp` excludes only
    `SetProjectName("", true)` (an explicit request for no name: see the example below, it ends in `emptyName`). -/
theorem loader_entry_decision (files : List (List (Option Str))) (env : Env) (lo : LOpts)
    (himp : lo.imperative = true → lo.name ≠ []) :
    Agrees (Spec.decide (lsources files env lo)) (projectNameL files env lo) :=
  projectNameL_agrees files env lo himp

/-- `SkipInterpolation`: the environment takes no part in the name at all -/
theorem loader_entry_skip_ignores_env (files : List (List (Option Str))) (env env' : Env) (lo : LOpts)
    (hs : lo.skipInterp = true) : projectNameL files env lo = projectNameL files env' lo := by
  simp [projectNameL, hs, interpName_true]

/-- `SkipInterpolation`, not imperative: the name is the normalised `name:` *as written* (a `${X}` is not looked
    up: it normalises to `x`), else the normalised guess -/
theorem loader_entry_skip_name (files : List (List (Option Str))) (env : Env) (lo : LOpts)
    (hs : lo.skipInterp = true) (hi : lo.imperative = false) :
    projectNameL files env lo =
      .ok (if normalize (selectedName files) ≠ [] then normalize (selectedName files) else normalize lo.name) := by
  simp only [projectNameL, hi, hs, interpName_true, lastName_selected, Bool.false_eq_true, if_false]
  split <;> rfl

/-- `cli.WithEnvFile(f)` (deprecated) is `WithEnvFiles(f)`; the empty path selects the default `.env` -/
theorem withEnvFile_is_withEnvFiles (w : World) (o : PO) (f : Str) :
    applyOpt w o (withEnvFileOpt f) = (if f = [] then withEnvFiles w o [] else .ok { o with envFiles := [.named f] }) := by
  unfold withEnvFileOpt applyOpt
  by_cases h : f = []
  · simp [h]
  · simp [h, withEnvFiles]

/-! ## non-vacuity (`exF`: two files, the second one's second document says `name: $X`) -/

-- not imperative: the last file's name, interpolated; under SkipInterpolation as written (`$X` ↦ `x`)
example : okL (projectNameL exF [("X".toList, "Val".toList)] { name := "Dir".toList }) = some "val" := by decide +kernel
example : okL (projectNameL exF [("X".toList, "Val".toList)] { name := "Dir".toList, skipInterp := true }) = some "x" := by decide +kernel
-- the name normalises to empty: the NORMALISED guess, not the earlier file
example : okL (projectNameL exF [("X".toList, "_".toList)] { name := "My Dir".toList }) = some "mydir" := by decide +kernel
example : okL (projectNameL [] [] { name := "My Dir".toList }) = some "mydir" := by decide +kernel
-- imperative: as it is, or rejected; the empty imperative name passes `projectName` and ends in `emptyName`
example : okL (projectNameL exF [] { name := "req".toList, imperative := true }) = some "req" := by decide +kernel
example : errL (projectNameL exF [] { name := "Req".toList, imperative := true }) = some .invalidName := by decide +kernel
example : errL (loadL exF none { name := [], imperative := true } []) = some .emptyName := by decide +kernel
-- a nil environment: the export allocates it
example : (loadL [] none { name := "d".toList } []).toOption.map (·.env) = some [(cpn, "d".toList)] := by decide +kernel
-- SkipInterpolation leaves the strings of the model alone
example : (loadL [] none { name := "d".toList, skipInterp := true } "$COMPOSE_PROJECT_NAME!".toList).toOption.map (fun r => String.ofList r.probe) =
    some "$COMPOSE_PROJECT_NAME!" := by decide +kernel
-- the hypotheses of `loader_entry_imperative_invalid_rejected` / `loader_entry_decision`
example : ("Req".toList ≠ []) ∧ validName "Req".toList = false := by decide +kernel
example : Spec.decide (lsources exF [("X".toList, "_".toList)] { name := "My Dir".toList }) = .name "mydir".toList := by decide +kernel
-- through the cli: the second file says `name: $X`; with interpolation the OS value, without it the text itself
example : nameOf (runX (mkW ["X=Val"] g12 "f1".toList "$X".toList "d".toList) [.withOsEnv] []) = some "val" := by decide +kernel
example : nameOf (runX (mkW ["X=Val"] g12 "f1".toList "$X".toList "d".toList) [.withOsEnv] [true, false]) = some "x" := by decide +kernel
-- … and the explicit name / COMPOSE_PROJECT_NAME still come first
example : nameOf (runX (mkW ["COMPOSE_PROJECT_NAME=os"] g12 "f1".toList "$X".toList "d".toList) [.withOsEnv] [false]) = some "os" := by decide +kernel
example : errOf (runX (mkW ["COMPOSE_PROJECT_NAME=O.s"] g12 "f1".toList "$X".toList "d".toList) [.withOsEnv] [false]) = some .invalidName := by decide +kernel
-- `WithInterpolation`: the last call decides
example : interpFlag [false, true] = true ∧ interpFlag [true, false] = false ∧ interpFlag [] = true := by decide +kernel

end CV.Name
