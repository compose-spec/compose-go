import ComposeVerif.Lemmas.Pipeline
import ComposeVerif.Props.C01Pipeline
import ComposeVerif.Props.C05
import ComposeVerif.Gen.PipelineSource
import ComposeVerif.Model.C01PipelineFS
/-!
# C01 — the composed pipeline has no panic outcome beyond the three reviewed sites

`Props/C01Pipeline.lean` states stage by stage that the panic constructor of each stage model is unreachable.
Here the stages are *composed* as the loader composes them (`Model/Pipeline.lean`: `processRawYaml`, `loadYamlModel`,
`load` with the option flags), and the statement is about the whole function, for every list of documents, every
configuration and every option combination: `Pipeline.load` returns a model or an error naming a stage, or it
panics at one of the three `validation` assertion sites that the site review (`Props/C01Sites.lean`) marks as guarded
by the schema.
The composition is tied to `loader.LoadModelWithContext` by the correspondence stream `pipeline.load`.

The same for files given as YAML text (`loadY`) and for the composition with the other files of `extends` inside
(`C01PipeFS.loadFS`); then the source pin of the glue (`glue_skeleton_is_modelled`) and the examples on `exampleCfg`.
-/
namespace CV.C01.Whole
open CV CV.Pipeline

/-- the three reviewed assertion sites (all in `validation.Validate`) -/
def reviewedSites : List String :=
  ["validation.init.checkFileObject", "validation.checkPath", "validation.checkDeviceRequest"]

/-- the panic outcomes left in the composition: the reviewed sites, and only with validation on -/
def Origin (c : Cfg) (s : String) : Prop := c.opts.skipValidation = false ∧ s ∈ reviewedSites

variable {S : String → Prop}

theorem omitEmpty_panics (pats : List (List String)) (d : Val) : PanicsIn S (Pipeline.omitEmpty pats d) := by
  unfold Pipeline.omitEmpty
  split
  · split
    · exact .ok
    · exact .err
    · next h => exact absurd h (C01.omitEmpty_total _ _ _)
  · exact .err

theorem schemaStage_panics (o : Opts) (d : Val) : PanicsIn S (schemaStage o d) := by
  unfold schemaStage
  split
  · exact .ok
  · split
    · split <;> exact .ok
    · exact .err

theorem interpStage_panics (c : Cfg) (cfg : Val.KVs) : PanicsIn S (interpStage c cfg) := by
  unfold interpStage
  split
  · exact .ok
  · exact .ofInterp (C01.Pipeline.interpolate_never_panics _ _)

/-- `ApplyExtends` over files none of which panics while it is loaded: C05's `applyExtends_ok_or_err_real` -/
theorem applyExtends_never_panics (main : String) (fs : Extends.FS) (hfs : ∀ f s, ¬ Extends.fsPanics fs f s)
    (cfg : Val.KVs) (s : String) : Extends.applyExtends (Extends.realEnv main fs) cfg ≠ .panic s := by
  have key : ∀ order, (∀ S, Val.lookup "services" cfg = some (.map S) → Extends.Visits order S) →
      Extends.applyExtendsOrd (Extends.realEnv main fs) order cfg ≠ .panic s := by
    intro order hord hp
    rcases Extends.applyExtends_ok_or_err_real main fs hfs hord with ⟨o, ho⟩ | ⟨e, he⟩
    · rw [ho] at hp; cases hp
    · rw [he] at hp; cases hp
  unfold Extends.applyExtends
  split
  · next S hS =>
    refine key _ fun S' h' => ?_
    cases hS.symm.trans h'
    intro n
    rw [Ne, Val.lookup_eq_none, Classical.not_not]
  · next hS => exact key [] fun S' h' => absurd h' (hS S')

theorem extendsStage_panics (c : Cfg) (cfg : Val.KVs) : PanicsIn S (extendsStage c cfg) := by
  unfold extendsStage
  split
  · exact .ok
  · exact .ofExtends (applyExtends_never_panics c.mainFile [] (fun f s ⟨r, hr, _⟩ => by simp [Extends.fsLookup] at hr) cfg)

theorem defaultsStage_panics (c : Cfg) (d : Val) : PanicsIn S (defaultsStage c d) := by
  unfold defaultsStage
  split
  · split
    · exact .ok
    · exact .ofC11 (C01.Pipeline.setDefaultValues_never_panics _ _)
  · exact .err

theorem pathsStage_panics (c : Cfg) (d : Val) : PanicsIn S (pathsStage c d) := by
  unfold pathsStage
  split
  · exact .ofPaths (Paths.resolve_never_panics _ _)
  · exact .ok

theorem envStage_panics (c : Cfg) (d : Val) : PanicsIn S (envStage c d) := by
  unfold envStage
  split <;> first | exact .ok | exact .err

theorem validateStage_panics (c : Cfg) (d : Val) : PanicsIn (Origin c) (validateStage c d) := by
  unfold validateStage
  split
  · exact .ok
  · next hv => exact .ofValidate fun s h => ⟨by simpa using hv, C01.Pipeline.validate_only_panic_sites _ _ h⟩

theorem finishLoad_panics (c : Cfg) (d : Val.KVs) : PanicsIn S (finishLoad c d) := by
  unfold finishLoad
  split
  · exact .err
  · split
    · exact .err
    · split
      · exact .ok
      · exact .ofC11 (C11.normalize_never_panics _ _ _)

theorem mergeStages_panics (c : Cfg) (dict : Val) (cfg : Val.KVs) : PanicsIn S (mergeStages c dict cfg) :=
  .bind (.ofMerge (Merge.merge_never_panics _ _)) fun _ =>
  .bind (.ofMerge (Unicity.enforceTop_never_panics _)) fun _ =>
  .bind (schemaStage_panics _ _) fun _ =>
  .bind (.ofShort (C01.Pipeline.canonical_never_panics _ _)) fun _ =>
  .bind (omitEmpty_panics _ _) fun _ => .ofMerge (Unicity.enforceTop_never_panics _)

/-- `processRawYaml` on a mapping, around any extends stage `ext` (`extendsStage c`, `extendsStageFS c bs`) -/
theorem docStages_panics (c : Cfg) {ext : Val.KVs → Pipeline.Out Val.KVs} (hext : ∀ cfg, PanicsIn S (ext cfg))
    (dict : Val) (cfg : Val.KVs) : PanicsIn S ((interpStage c cfg).bind fun cfg => (ext cfg).bind (mergeStages c dict)) :=
  .bind (interpStage_panics c cfg) fun cfg => .bind (hext cfg) (mergeStages_panics c dict)

theorem processDoc_only_panic_sites (c : Cfg) (dict : Val) (cfg : Val.KVs) (s : String)
    (h : processDoc c dict cfg = .panic s) : False :=
  docStages_panics (S := fun _ => False) c (extendsStage_panics c) dict cfg s h

theorem processNode_panics (c : Cfg) (dict : Val) (n : Reset.YNode) : PanicsIn S (processNode c dict n) := by
  unfold processNode
  split
  · exact docStages_panics c (extendsStage_panics c) _ _
  · exact .err

theorem processNodes_panics (c : Cfg) : ∀ (ns : List Reset.YNode) (dict : Val), PanicsIn S (processNodes c dict ns) :=
  loop_panicsIn (fun _ => rfl) (processNodes_cons c) (processNode_panics c)

theorem processDocs_panics (c : Cfg) : ∀ (docs : List Val.KVs) (dict : Val), PanicsIn S (processDocs c dict docs) :=
  loop_panicsIn (fun _ => rfl) (processDocs_cons c) (docStages_panics c (extendsStage_panics c))

/-- the common tail of `load`, `loadY`, `loadFS` after a document loop `x` that does not panic: only
`validation.Validate` can, and only when validation is on -/
theorem finish_panics (c : Cfg) {x : Pipeline.Out Val} (hx : PanicsIn (Origin c) x) :
    PanicsIn (Origin c) ((x.bind (finishModel c)).bind (finishLoad c)) :=
  .bind (.bind hx fun _ =>
    .bind (defaultsStage_panics c _) fun _ => .bind (validateStage_panics c _) fun _ =>
    .bind (pathsStage_panics c _) fun _ => envStage_panics c _) fun _ => finishLoad_panics c _

theorem load_panic_origin (c : Cfg) (docs : List Val.KVs) : PanicsIn (Origin c) (load c docs) := by
  unfold load
  split
  · exact .err
  · exact finish_panics c (processDocs_panics c docs _)

/-- **C01, composed**: for every configuration, every option combination and every list of documents, the whole
dictionary pipeline of `loader.LoadModelWithContext` yields a model or a stage error — the only panic outcomes the
composed model has are the three reviewed assertion sites -/
theorem load_only_panic_sites (c : Cfg) (docs : List Val.KVs) (s : String) (h : load c docs = .panic s) :
    s ∈ reviewedSites := by
  exact (load_panic_origin c docs s h).2

theorem no_panic_of_skip {c : Cfg} {α : Type} {x : Pipeline.Out α} (hv : c.opts.skipValidation = true)
    (h : PanicsIn (Origin c) x) (s : String) : x ≠ .panic s := fun e => by
  have := (h s e).1; rw [hv] at this; cases this

/-- with validation skipped the three `validation` sites are out of reach as well: no panic outcome is left -/
theorem load_skipValidation_never_panics (c : Cfg) (docs : List Val.KVs) (s : String)
    (hv : c.opts.skipValidation = true) : load c docs ≠ .panic s :=
  no_panic_of_skip hv (load_panic_origin c docs) s

/-- the same for files given as YAML text (several `---` documents per file, `!reset` / `!override` tags) -/
theorem loadY_panic_origin (c : Cfg) (files : List (List Reset.YNode)) : PanicsIn (Origin c) (loadY c files) := by
  unfold loadY
  split
  · exact .err
  · exact finish_panics c (loop_panicsIn (fun _ => rfl) (processFiles_cons c) (fun d f => processNodes_panics c f d) files _)

theorem loadY_only_panic_sites (c : Cfg) (files : List (List Reset.YNode)) (s : String) (h : loadY c files = .panic s) :
    s ∈ reviewedSites := by
  exact (loadY_panic_origin c files s h).2

theorem loadY_skipValidation_never_panics (c : Cfg) (files : List (List Reset.YNode)) (s : String)
    (hv : c.opts.skipValidation = true) : loadY c files ≠ .panic s :=
  no_panic_of_skip hv (loadY_panic_origin c files) s

/-! ## `extends` from OTHER FILES inside the composed function (`Model/C01PipelineFS.lean`)

`getExtendsBaseFromFile` sends the referenced file through the same per-document pipeline under a cloned option set and
then through `ResolveRelativePaths`; `PipeFS.fsOf` computes C05's file-system parameter from the raw documents of the
files, so the hypothesis "loading the extended files does not panic" of C05's `applyExtends_ok_or_err_real` is not
a hypothesis here: it is PROVED from the totality of the per-document pipeline (`processDocs_panics`) and of C12's
`Paths.resolve`. -/
section FS
open CV.C01PipeFS

/-- loading a referenced file the way `getExtendsBaseFromFile` does never panics — neither in `loadYamlFile` nor in
`ResolveRelativePaths` — whatever the file holds -/
theorem loadBase_never_panics (c : Cfg) (b : BaseFile) : (loadBase c b).panicSite? = none := by
  unfold loadBase
  split
  · rfl
  · next h => exact (processDocs_panics (S := fun _ => False) _ _ _ _ h).elim
  · split
    · rfl
    · rfl
    · rfl
    · next h => exact absurd h (Paths.resolve_never_panics _ _ _)
  · rfl

/-- what the computed file system holds at a reference: the load of the first file so named -/
theorem fsLookup_fsOf (c : Cfg) (f : String) : ∀ bs : List BaseFile,
    Extends.fsLookup f (fsOf c bs) = (bs.find? (fun b => decide (f = b.ref))).map (loadBase c)
  | [] => rfl
  | b :: bs => by
    simp only [fsOf, List.map_cons, Extends.fsLookup, List.find?_cons]
    by_cases h : f = b.ref
    · simp [h]
    · simp only [h, if_false, decide_false]; exact fsLookup_fsOf c f bs

/-- the computed file system has no panicking entry: the hypothesis of C05's totality theorem, discharged -/
theorem fsOf_never_panics (c : Cfg) (bs : List BaseFile) (f s : String) : ¬ Extends.fsPanics (fsOf c bs) f s := by
  rintro ⟨r, hr, hp⟩
  rw [fsLookup_fsOf] at hr
  obtain ⟨b, _, rfl⟩ := Option.map_eq_some_iff.mp hr
  rw [loadBase_never_panics] at hp; cases hp

theorem extendsStageFS_panics (c : Cfg) (bs : List BaseFile) (cfg : Val.KVs) : PanicsIn S (extendsStageFS c bs cfg) := by
  unfold extendsStageFS
  split
  · exact .ok
  · intro s h
    cases hr : Extends.applyExtends (Extends.realEnv c.mainFile (fsOf c bs)) cfg <;> rw [hr] at h <;> cases h
    exact absurd hr (applyExtends_never_panics c.mainFile _ (fsOf_never_panics c bs) cfg s)

/-- **C01, composed, with cross-file `extends`**: for every configuration, option combination, list of documents AND
every set of files an `extends.file` can name (any content), the composed function returns a model or a stage error;
the only panic outcomes are the three `validation` sites, and only with validation on -/
theorem loadFS_panic_origin (c : Cfg) (bs : List BaseFile) (docs : List Val.KVs) (s : String)
    (h : loadFS c bs docs = .panic s) :
    c.opts.skipValidation = false ∧ s ∈ reviewedSites := by
  unfold loadFS at h
  split at h
  · cases h
  · exact finish_panics c (loop_panicsIn (step := processDocFS c bs) (fun _ => rfl)
      (fun d x r => by simp only [processDocsFS]; cases processDocFS c bs d x <;> rfl)
      (docStages_panics c (extendsStageFS_panics c bs)) docs _) s h

theorem loadFS_skipValidation_never_panics (c : Cfg) (bs : List BaseFile) (docs : List Val.KVs) (s : String)
    (hv : c.opts.skipValidation = true) : loadFS c bs docs ≠ .panic s :=
  no_panic_of_skip hv (loadFS_panic_origin c bs docs) s

/-- same outcome up to the NAME of the failing stage (the wrapper keeps the stage of an error raised inside a referenced
file; `Pipeline.ofExtends` calls every extends-time error `extends`) -/
def SameUpToStage {α : Type} : Pipeline.Out α → Pipeline.Out α → Prop
  | .ok a, .ok b => a = b
  | .err _, .err _ => True
  | .panic s, .panic t => s = t
  | _, _ => False

theorem SameUpToStage.rfl' {α : Type} (x : Pipeline.Out α) : SameUpToStage x x := by
  cases x <;> first | rfl | trivial

theorem SameUpToStage.bind {α β : Type} {x y : Pipeline.Out α} {f g : α → Pipeline.Out β} (h : SameUpToStage x y)
    (hfg : ∀ a, SameUpToStage (f a) (g a)) : SameUpToStage (x.bind f) (y.bind g) := by
  cases x <;> cases y <;> first | exact h.elim | skip
  · cases h; exact hfg _
  · trivial
  · exact h

theorem extendsStageFS_nil (c : Cfg) (cfg : Val.KVs) : SameUpToStage (extendsStageFS c [] cfg) (extendsStage c cfg) := by
  unfold extendsStageFS extendsStage
  split
  · rfl
  · show SameUpToStage (ofExtendsFS (Extends.applyExtends (Extends.realEnv c.mainFile []) cfg)) _
    cases Extends.applyExtends (Extends.realEnv c.mainFile []) cfg <;> first | rfl | trivial

theorem processDocsFS_nil (c : Cfg) : ∀ (docs : List Val.KVs) (dict : Val),
    SameUpToStage (processDocsFS c [] dict docs) (processDocs c dict docs)
  | [], _ => rfl
  | d :: r, dict => by
    have h : SameUpToStage (processDocFS c [] dict d) (processDoc c dict d) :=
      .bind (.rfl' _) fun cfg => .bind (extendsStageFS_nil c cfg) fun _ => .rfl' _
    unfold processDocsFS processDocs
    cases h1 : processDocFS c [] dict d <;> cases h2 : processDoc c dict d <;> rw [h1, h2] at h <;>
      first | exact h.elim | skip
    · cases h; exact processDocsFS_nil c r _
    · trivial
    · exact h

/-- the wrapper is conservative: with no other file on disk it is `Pipeline.load` — same model, same
panic site, an error exactly when that one has an error -/
theorem loadFS_nil_same_as_load (c : Cfg) (docs : List Val.KVs) : SameUpToStage (loadFS c [] docs) (load c docs) := by
  unfold loadFS load
  split
  · trivial
  · exact .bind (.bind (processDocsFS_nil c docs _) fun _ => .rfl' _) fun _ => .rfl' _

end FS

/-- **the glue is the source**: the stage calls of `loadYamlFile` (with its closure `processRawYaml`), `loadYamlModel`,
`load`, `loadModelWithContext` and `ResolveEnvironment` — in source order, each with the option tests that guard it,
regenerated from loader/loader.go and loader/environment.go on every run — are the skeleton `Model/Pipeline.lean`
composes.  Reordering two stages, dropping one or changing a guard breaks this obligation. -/
theorem glue_skeleton_is_modelled :
    CV.Gen.pipeline_skeleton_loadYamlFile = skeletonLoadYamlFile ∧
    CV.Gen.pipeline_skeleton_loadYamlModel = skeletonLoadYamlModel ∧
    CV.Gen.pipeline_skeleton_load = skeletonLoad ∧
    CV.Gen.pipeline_skeleton_loadModelWithContext = skeletonLoadModelWithContext ∧
    CV.Gen.pipeline_skeleton_ResolveEnvironment = skeletonResolveEnvironment :=
  ⟨rfl, rfl, rfl, rfl, rfl⟩

/-- the empty list of files and the empty model are *errors* (never a crash, never an empty project) -/
theorem load_no_files (c : Cfg) : load c [] = .err "nofiles" := rfl

/-- a configuration for the non-vacuity examples: no variables, working directory `/w` -/
def exampleCfg : Cfg where
  opts := {}
  interp := ⟨[], ⟨fun _ => none, fun _ => none⟩, fun _ => none⟩
  paths := { wd := "/w".toList, home := none }
  env := []
  projectName := "p"
  clean := id
  omitPats := []

/-! non-vacuity: the composed model loads a small project end to end (defaults, canonical forms, normalisation) … -/
-- (a *test*, evaluated by the interpreter: the kernel does not unfold the well-founded recursions of two stage models)
#guard (load exampleCfg [[("services", .map [("a", .map [("image", .str "x")])])]]).stage == "ok"

/-! … reports the stage of a failure … -/
example : (load exampleCfg [[("services", .map [("a", .map [("image", .str "${")])])]]).stage = "err:interpolate" := by decide +kernel
example : (load exampleCfg [[("servicez", .map [])]]).stage = "err:schema" := by decide +kernel
#guard (load { exampleCfg with projectName := "" } [[("services", .map [("a", .map [("image", .str "x")])])]]).stage == "err:name"

/-- … with validation skipped the schema does not stand in front of `transformKeyValue`, but the first `EnforceUnicity`
does (`keyValueIndexer` rejects the non-string item): the composed model returns an error of that stage -/
example : (load { exampleCfg with opts := { skipValidation := true } }
    [[("services", .map [("a", .map [("build", .map [("additional_contexts", .seq [.int 1])])])])]]).stage = "err:unicity" := by decide +kernel

/-- a reference to a file that is not there is an ERROR of the extends stage (the property's "missing file" clause for
`extends.file`, on the composed function, end to end) … -/
example : (CV.C01PipeFS.loadFS { exampleCfg with opts := { skipExtends := false } } []
    [[("services", .map [("a", .map [("extends", .map [("file", .str "base.yaml"), ("service", .str "b")])])])]]).stage
    = "err:extends" := by decide +kernel


/-! … a file that is there is read, sent through the per-document pipeline and merged (non-vacuity of `loadFS_panic_origin`:
the composed function does reach the cross-file branch and loads) … -/
#guard (CV.C01PipeFS.loadFS { exampleCfg with opts := { skipExtends := false } }
    [⟨"base.yaml", ".", [[("services", .map [("b", .map [("image", .str "x"), ("build", .str "./ctx")])])]]⟩]
    [[("services", .map [("a", .map [("extends", .map [("file", .str "base.yaml"), ("service", .str "b")])])])]]).stage == "ok"
/-! … and a file that is there but lacks the service, or does not go through its own pipeline, is an error as well -/
#guard (CV.C01PipeFS.loadFS { exampleCfg with opts := { skipExtends := false } }
    [⟨"base.yaml", ".", [[("services", .map [("c", .map [("image", .str "x")])])]]⟩]
    [[("services", .map [("a", .map [("extends", .map [("file", .str "base.yaml"), ("service", .str "b")])])])]]).stage == "err:extends"
#guard (CV.C01PipeFS.loadFS { exampleCfg with opts := { skipExtends := false } }
    [⟨"base.yaml", ".", [[("services", .map [("b", .map [("image", .str "${")])])]]⟩]
    [[("services", .map [("a", .map [("extends", .map [("file", .str "base.yaml"), ("service", .str "b")])])])]]).stage == "err:interpolate"

end CV.C01.Whole
