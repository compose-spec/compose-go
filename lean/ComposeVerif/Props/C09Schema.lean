import ComposeVerif.Props.C09Tables
/-!
# C09 — the rendering only uses keys the schema accepts (regenerated `Gen/Types` × `Gen/Schema`)

Both obligations are re-decided by the kernel whenever `types/*.go` or `schema/compose-spec.json` changes.
-/
namespace CV.C09
open CV CV.SchemaKeys

/-- **schema-key acceptance**: walking the model types from `Project`, every rendered YAML key (327 places) is a key the
    compose schema accepts at its attribute path — except under the twelve documented gaps (`SchemaKeys.knownGaps`) where
    the Go model has a field the schema does not have -/
theorem schema_accepts_rendered_keys : KeysAccepted Gen.composeSchema Gen.structs Gen.namedTypes = true :=
  List.all_eq_true.mpr fun p hp =>
    (Bool.or_comm ..).trans (Bool.and_eq_true_iff.mp (List.all_eq_true.mp schema_facts.1 p hp)).1

/-- every gap of `SchemaKeys.knownGaps` is an `omitempty` field: its zero value (the only one a loaded project can have there) is not rendered -/
theorem schema_gaps_are_omitempty : GapsOmitted Gen.structs Gen.namedTypes = true :=
  List.all_eq_true.mpr fun p hp =>
    (Bool.or_comm ..).trans (Bool.and_eq_true_iff.mp (List.all_eq_true.mp schema_facts.1 p hp)).2

/-- non-vacuity: the walk reaches nested list items, e.g. the keys of `WeightDevice` (tagged by `fix:` 5c55878) -/
example : ((fieldPaths Gen.structs Gen.namedTypes).map (·.1)).contains
    ["services", "*", "blkio_config", "weight_device", "[]", "path"] = true := schema_facts.2.1

example : accepted Gen.composeSchema ["services", "*", "blkio_config", "weight_device", "[]", "path"] = true := schema_facts.2.2

end CV.C09
