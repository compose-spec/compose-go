import ComposeVerif.Props.C06Import
import ComposeVerif.Lemmas.IncludeNoPanic
/-!
# C06 — include is equivalent to pasting the included, fully resolved model

Property theorems about `Include.applyInclude` (the model of `loader.ApplyInclude`, tied to the real
function by the `c06.*` correspondence streams).  They hold for every world: any file system, any
`dotenv.GetEnvFromFile`, any sub-load.  The import itself is in `Props/C06Import.lean`.
-/
namespace CV.Include
open CV CV.Val

/-! ## the environment of the included project -/

theorem env_get_append (a b : Env) (k : String) :
    Env.get (a ++ b) k = match Env.get a k with
      | some v => some v
      | none => Env.get b k := by
  rw [Env.get_eq, Env.get_eq, Env.get_eq, Assoc.lookup_append]; cases Assoc.lookup k a <;> rfl

theorem env_get_filter_unset (env o : Env) (k : String) (h : Env.get env k = none) :
    Env.get (o.filter (fun kv => (Env.get env kv.1).isNone)) k = Env.get o k := by
  rw [Env.get_eq, Assoc.lookup_filter_key fun x => (Env.get env x).isNone, if_pos (by rw [h]; rfl), Env.get_eq]

/-- `environment.Clone().Merge(envFromFile)`: a variable of the parent environment keeps its value; only
variables the parent does not define come from the file -/
theorem envMerge_get (env o : Env) (k : String) :
    Env.get (envMerge env o) k = match Env.get env k with
      | some v => some v
      | none => Env.get o k := by
  simp only [envMerge, env_get_append]
  cases h : Env.get env k with
  | some v => rfl
  | none => exact env_get_filter_unset env o k h

/-- the included project is interpolated with the parent environment plus, for
variables it does not define, what `GetEnvFromFile` reads from the declared `env_file`s — or, when none is
declared, from `<project directory>/.env` if that file exists -/
theorem include_env_precedence (W : World) (wd pd : String) (env env' : Env) (ef : List String)
    (h : includeEnv W wd pd env ef = .ok env') :
    ∃ efs fromFile, envFiles W wd pd ef = .ok efs ∧ W.envFromFile env efs = .ok fromFile ∧
      (∀ k v, Env.get env k = some v → Env.get env' k = some v) ∧
      (∀ k, Env.get env k = none → Env.get env' k = Env.get fromFile k) := by
  simp only [includeEnv] at h
  obtain ⟨efs, h1, h⟩ := bind_eq_ok h
  obtain ⟨ff, h2, h⟩ := bind_eq_ok h
  cases h
  refine ⟨efs, ff, h1, h2, ?_, ?_⟩
  · intro k v hk; rw [envMerge_get, hk]
  · intro k hk; rw [envMerge_get, hk]

/-- without a declared `env_file` the only candidate is `.env` in the included project directory -/
theorem include_env_default_dotenv (W : World) (wd pd : String) :
    envFiles W wd pd [] = .ok (if statFile W (join pd ".env") then [join pd ".env"] else []) := rfl

/-! ## the plan of one entry: cycles, project directory, working directory -/

theorem plan_cycle (W : World) (wd L : String) (chain : List String) (r : IncCfg)
    (h : ∃ p, p ∈ r.path ∧ localAbs L p ∈ chain) : plan W wd L chain r = .err "cycle" := by
  obtain ⟨p, hp, hc⟩ := h
  cases hr : r.path with
  | nil => rw [hr] at hp; cases hp
  | cons p0 rest =>
    have : ((p0 :: rest).map (localAbs L)).any (fun q => chain.contains q) = true :=
      List.any_eq_true.mpr ⟨_, List.mem_map.mpr ⟨p, hr ▸ hp, rfl⟩, by simpa using hc⟩
    simp only [plan, hr]
    exact if_pos this

/-- a successful plan loads only files that are not being included already -/
theorem plan_ok_fresh (W : World) (wd L : String) (chain : List String) (r : IncCfg) (pl : Plan)
    (h : plan W wd L chain r = .ok pl) : ∀ p, p ∈ pl.paths → p ∉ chain := by
  simp only [plan] at h
  split at h
  · cases h; intro p hp; cases hp
  · split at h
    · cases h
    · rename_i hany
      cases h
      intro p hp hc
      apply hany
      rw [List.any_eq_true]
      exact ⟨p, hp, by simpa using hc⟩

/-- one entry: if any file of an include entry — the included file or one of its
overrides — is already in the chain of files being included, the entry is an error -/
theorem includeOne_cycle_err (W : World) (wd L : String) (env : Env) (chain : List String) (model : KVs) (r : IncCfg)
    (h : ∃ p, p ∈ r.path ∧ localAbs L p ∈ chain) : includeOne W wd L env chain model r = .err "cycle" := by
  simp only [includeOne, plan_cycle W (baseDir wd L) L chain r h, bind_err]

/-- a document whose first include entry closes a cycle is rejected, whatever the file
system, the environment files and the other entries are -/
theorem include_cycle_err (W : World) (wd L : String) (env : Env) (chain : List String) (model : KVs)
    (r : IncCfg) (rs : List IncCfg) (hcfg : loadIncludeConfig (lookup "include" model) = .ok (r :: rs))
    (h : ∃ p, p ∈ r.path ∧ localAbs L p ∈ chain) : applyInclude W wd L env chain model = .err "cycle" := by
  simp only [applyInclude, hcfg, bind_ok, includeAll, includeOne_cycle_err W wd L env chain model r h, bind_err]

/-- a file that includes itself (cycle of length 1), short syntax, absolute path -/
example (W : World) : applyInclude W "/p" "/p" [] ["/p/compose.yaml"]
    [("include", .seq [.str "/p/compose.yaml"]), ("services", .map [])] = .err "cycle" := by
  apply include_cycle_err W "/p" "/p" [] ["/p/compose.yaml"] _ { path := ["/p/compose.yaml"] } []
  · decide +kernel
  · exact ⟨"/p/compose.yaml", List.mem_cons_self, by decide +kernel⟩

/-- the working directory handed to the sub-load (`relwd`, against which the included
model's relative paths are resolved first) and the included project directory (`projDir`: local loader of nested
includes, place of the default `.env`) -/
theorem include_paths_anchor (W : World) (wd L : String) (chain : List String) (r : IncCfg) (pl : Plan)
    (p0 : String) (rest : List String) (hp : r.path = p0 :: rest) (h : plan W wd L chain r = .ok pl) :
    pl.paths = (p0 :: rest).map (localAbs L) ∧
    (r.projectDirectory = "" → pl.projDir = dir (localAbs L p0) ∧ pl.relwd = localDir W L (localAbs L p0)) ∧
    (r.projectDirectory ≠ "" → isAbs r.projectDirectory = true →
        pl.projDir = r.projectDirectory ∧ pl.relwd = r.projectDirectory) ∧
    (r.projectDirectory ≠ "" → isAbs r.projectDirectory = false →
        pl.projDir = join wd r.projectDirectory ∧ pl.relwd = localDir W L r.projectDirectory) := by
  simp only [plan, hp] at h
  split at h
  · cases h
  · cases h
    refine ⟨rfl, ?_, ?_, ?_⟩
    · intro hpd; simp [resolveFirst, hpd]
    · intro hpd habs; simp [resolveFirst, hpd, habs]
    · intro hpd habs; simp [resolveFirst, hpd, habs]

/-! ## the result is the paste of the sub-loads -/

theorem includeOne_ok {W : World} {wd L : String} {env : Env} {chain : List String} {model m : KVs} {r : IncCfg}
    (h : includeOne W wd L env chain model r = .ok m) :
    ∃ pl env' im, plan W (baseDir wd L) L chain r = .ok pl ∧
      includeEnv W (baseDir wd L) pl.projDir env r.envFile = .ok env' ∧
      W.loadModel pl.relwd pl.projDir pl.paths env' chain = .ok im ∧
      importResources (sameResource W (baseDir wd L)) im model = .ok m := by
  obtain ⟨pl, hp, h⟩ := bind_eq_ok h
  obtain ⟨env', he, h⟩ := bind_eq_ok h
  obtain ⟨im, hl, h⟩ := bind_eq_ok h
  exact ⟨pl, env', im, hp, he, hl, h⟩

theorem includeAll_paste (W : World) (wd L : String) (env : Env) (chain : List String) :
    ∀ (cfgs : List IncCfg) (model r : KVs), includeAll W wd L env chain cfgs model = .ok r →
      ∃ ims, subLoads W wd L env chain cfgs = .ok ims ∧
        (∀ k, k ∈ resourceKinds → ∀ n, resourceOf r k n = pastedResource model ims k n) ∧
        (∀ k, k ∉ resourceKinds → lookup k r = lookup k model)
  | [], model, r, h => by
    cases h
    refine ⟨[], rfl, fun k _ n => ?_, fun _ _ => rfl⟩
    simp only [pastedResource, firstDef]
    cases resourceOf model k n <;> rfl
  | c :: cs, model, r, h => by
    obtain ⟨m1, h0, h1⟩ := bind_eq_ok h
    obtain ⟨pl, env', im, hp, he, hl, h0⟩ := includeOne_ok h0
    obtain ⟨p1, p2⟩ := importResources_paste im model m1 h0
    obtain ⟨ims, hs, q1, q2⟩ := includeAll_paste W wd L env chain cs m1 r h1
    refine ⟨im :: ims, by simp only [subLoads, hp, he, hl, hs, bind_ok], fun k hk n => ?_, fun k hk => by rw [q2 k hk, p2 k hk]⟩
    -- what the later entries see as the model's own definition is the model's, else this entry's
    rw [q1 k hk n]
    simp only [pastedResource, firstDef, p1 k hk n]
    cases resourceOf model k n <;> rfl

/-- whenever `ApplyInclude` succeeds, the resulting document is the paste of the included
projects as loaded on their own (`subLoads`: own working directory, own layered environment, same pipeline):
for each of the five sections and each name, the including file's own definition if it has one, otherwise the
definition from the first included model that has one; every other top-level key is the including file's, and
`include` is gone.  (With `import_conflict_iff`: a name defined on both sides has equal values.) -/
theorem include_eq_paste (W : World) (wd L : String) (env : Env) (chain : List String) (model r : KVs)
    (h : applyInclude W wd L env chain model = .ok r) :
    ∃ cfgs ims, loadIncludeConfig (lookup "include" model) = .ok cfgs ∧
      subLoads W wd L env chain cfgs = .ok ims ∧
      (∀ k, k ∈ resourceKinds → ∀ n, resourceOf r k n = pastedResource model ims k n) ∧
      (∀ k, k ∉ resourceKinds → k ≠ "include" → lookup k r = lookup k model) ∧
      lookup "include" r = none := by
  simp only [applyInclude] at h
  obtain ⟨cfgs, hc, h⟩ := bind_eq_ok h
  obtain ⟨m, hm, h⟩ := bind_eq_ok h
  cases h
  obtain ⟨ims, hs, p1, p2⟩ := includeAll_paste W wd L env chain cfgs model m hm
  refine ⟨cfgs, ims, hc, hs, ?_, ?_, lookup_erase_self "include" m⟩
  · intro k hk n
    have hne : k ≠ "include" := fun e => include_not_kind (e ▸ hk)
    rw [resourceOf_congr (lookup_erase_ne hne m) n]
    exact p1 k hk n
  · intro k hk hne
    rw [lookup_erase_ne hne m, p2 k hk]

/-! ## where a relative `env_file` is looked up (the quirk behind finding `nested-relative-env_file`) -/

/-- a relative path handed to the operating system is resolved against the process working directory -/
theorem osAbs_relative (W : World) (p : String) (h : isAbs p = false) : osAbs W p = join W.cwd p := by
  simp only [osAbs, h, Bool.false_eq_true, if_false]

/-- a relative `env_file` `f` is the file `join wd f`.  `ApplyInclude` passes `baseDir workingDir L` for `wd`, not
`workingDir`: that one is *relative* when the including file is itself included, and then (`osAbs_relative`) the file
would be searched under the process working directory (`Neg/C06.lean`: `nested_env_file_prefix`) -/
theorem env_file_relative_lookup (W : World) (wd f : String) (hf : isAbs f = false) :
    envFilesExplicit W wd [f] =
      if statDir W (join wd f) then .err "notFile"
      else if statFile W (join wd f) then .ok [join wd f]
      else .err "statNotFound" := by
  simp only [envFilesExplicit, hf, Bool.false_eq_true, if_false, bind_ok]

/-- an absolute `env_file` is taken as it is (its existence is `GetEnvFromFile`'s business) -/
theorem env_file_absolute (W : World) (wd f : String) (hf : isAbs f = true) :
    envFilesExplicit W wd [f] = .ok [f] := by
  simp only [envFilesExplicit, hf, if_true, bind_ok]

/-! ## nested includes: the result depends on the sub-load only through its answers -/

theorem envFilesExplicit_withLoad (W : World) (lm : LoadFn)
    (wd : String) : ∀ ef, envFilesExplicit (W.withLoad lm) wd ef = envFilesExplicit W wd ef
  | [] => rfl
  | f :: rest => by
    have hd : ∀ p, statDir (W.withLoad lm) p = statDir W p := fun _ => rfl
    have hf : ∀ p, statFile (W.withLoad lm) p = statFile W p := fun _ => rfl
    simp only [envFilesExplicit, hd, hf, envFilesExplicit_withLoad W lm wd rest]

theorem includeEnv_withLoad (W : World) (lm : LoadFn)
    (wd pd : String) (env : Env) (ef : List String) :
    includeEnv (W.withLoad lm) wd pd env ef = includeEnv W wd pd env ef := by
  have hf : ∀ p, statFile (W.withLoad lm) p = statFile W p := fun _ => rfl
  have he : (W.withLoad lm).envFromFile = W.envFromFile := rfl
  cases ef with
  | nil => simp only [includeEnv, envFiles, hf, he]
  | cons f rest => simp only [includeEnv, envFiles, envFilesExplicit_withLoad, he]

/-- the plan and the sameness test do not look at the sub-load, the environment looks at the world's files only -/
theorem includeOne_mono (W : World) (lm : LoadFn) (hle : LoadLe W.loadModel lm) (wd L : String) (env : Env)
    (chain : List String) (model : KVs) (c : IncCfg) :
    OkLe (includeOne W wd L env chain model c) (includeOne (W.withLoad lm) wd L env chain model c) :=
  .bind .refl fun _ => .bind (includeEnv_withLoad W lm _ _ _ _ ▸ .refl) fun _ => .bind (hle _ _ _ _ _) fun _ => .refl

theorem includeAll_mono (W : World) (lm : LoadFn) (hle : LoadLe W.loadModel lm) (wd L : String) (env : Env)
    (chain : List String) : ∀ (cfgs : List IncCfg) (model : KVs),
      OkLe (includeAll W wd L env chain cfgs model) (includeAll (W.withLoad lm) wd L env chain cfgs model)
  | [], _ => .refl
  | c :: cs, model => .bind (includeOne_mono W lm hle wd L env chain model c) (includeAll_mono W lm hle wd L env chain cs)

/-- if `ApplyInclude` succeeds with some sub-load, it succeeds with the same result with any
sub-load that answers at least as much (e.g. one that allows deeper nesting): nested includes compose level by level -/
theorem include_nested_mono (W : World) (lm : LoadFn) (hle : LoadLe W.loadModel lm) (wd L : String) (env : Env)
    (chain : List String) (model : KVs) :
    OkLe (applyInclude W wd L env chain model) (applyInclude (W.withLoad lm) wd L env chain model) :=
  .bind .refl fun cfgs => .bind (includeAll_mono W lm hle wd L env chain cfgs model) fun _ => .refl

/-! ## `include.go` has no panic of its own -/

/-- whatever the document, the file system and the chain are, `ApplyInclude` does not
panic unless `GetEnvFromFile` or the sub-load does: malformed `include` sections, non-mapping sections on either
side of the import, missing files and cycles are all errors -/
theorem include_never_panics (W : World)
    (henv : ∀ e fs, NoPanic (W.envFromFile e fs)) (hload : ∀ a b c d e, NoPanic (W.loadModel a b c d e))
    (wd L : String) (env : Env) (chain : List String) (model : KVs) :
    NoPanic (applyInclude W wd L env chain model) := by
  have hone : ∀ m r, NoPanic (includeOne W wd L env chain m r) := by
    intro m r
    simp only [includeOne]
    refine noPanic_bind (plan_noPanic _ _ _ _ _) (fun pl => ?_)
    refine noPanic_bind ?_ (fun env' => ?_)
    · simp only [includeEnv]
      exact noPanic_bind (envFiles_noPanic _ _ _ _) (fun efs => noPanic_bind (henv _ _) (fun _ => noPanic_ok _))
    · exact noPanic_bind (hload _ _ _ _ _) (fun im => importKinds_noPanic im _ _)
  have hall : ∀ cfgs m, NoPanic (includeAll W wd L env chain cfgs m) := by
    intro cfgs
    induction cfgs with
    | nil => intro m; exact noPanic_ok _
    | cons r rs ih => intro m; simp only [includeAll]; exact noPanic_bind (hone m r) ih
  simp only [applyInclude]
  exact noPanic_bind (loadIncludeConfig_noPanic _) (fun cfgs => noPanic_bind (hall cfgs model) (fun _ => noPanic_ok _))

end CV.Include
