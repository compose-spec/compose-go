import ComposeVerif.Props.C04Stage
/-!
# C04 — any number of files: the later file wins among *all* parts (n-ary split)

`keyed_list_later_wins` / `kv_later_wins` (`Props/C04.lean`) speak about one base and one override.  The property
quantifies over a base and 1..3 (here: any number of) override parts, each merged onto the result so far and followed by
`EnforceUnicity`.  `attrFold` is that fold for one attribute; the theorems here show that it equals ONE de-duplication
of the concatenation of all parts — so the entry kept for a key is the last one in the last file that mentions the key,
at the position where the key first appeared, however the entries are distributed over the files.
-/
namespace CV.C04
open CV CV.Val CV.Merge CV.Unicity CV.Reset

/-- de-duplicating in two rounds = de-duplicating once (what makes the per-file `EnforceUnicity` compose) -/
theorem dedup_fusion (a b : List (String × Val)) : dedupKVs (dedupKVs a ++ b) = dedupKVs (a ++ b) := by
  rw [dedupKVs_eq, dedupKVs_eq (a ++ b), List.foldl_append, List.foldl_append, ← dedupKVs_eq, ← dedupKVs_eq, unicity_idem]

/-- what `processRawYaml` does to one attribute when a further file arrives: merge, then unicity -/
def attrStep (n : Nat) (p : TPath) (acc : Out Val) (o : Val) : Out Val :=
  acc.bind fun e => (mergeYaml (n + 1) e o p).bind fun m => enforce m p

/-- the attribute over a base value (already in the accumulated model) and any number of later files -/
def attrFold (n : Nat) (p : TPath) (base : Out Val) (overs : List Val) : Out Val := overs.foldl (attrStep n p) base

theorem attrStep_dedup (n : Nat) (p : TPath) (ix : Indexer) (o : Val) (xo : List Val) (ka kb : List String) (xa : List Val)
    (hi : indexerAt p = some ix)
    (hm : ∀ xs, mergeYaml (n + 1) (.seq xs) o p = .ok (.seq (xs ++ xo)))
    (ha : indexAll ix xa = .ok ka) (hb : indexAll ix xo = .ok kb) :
    attrStep n p (.ok (.seq (dedup ka xa))) o = .ok (.seq (dedup (ka ++ kb) (xa ++ xo))) := by
  simp only [attrStep, Out.bind, hm]
  rw [enforce_indexed_seq p ix _ _ hi (indexAll_append ix _ _ _ _ (indexAll_dedup ix xa ka ha) hb)]
  have hl : ((dedupKVs (ka.zip xa)).map Prod.fst).length = ((dedupKVs (ka.zip xa)).map Prod.snd).length := by simp
  have hla : ka.length = xa.length := indexAll_length ix xa ka ha
  unfold dedup
  rw [List.zip_append hl, zip_fst_snd, dedup_fusion, List.zip_append hla]

/-- **n-ary split**: any number of later files `parts` (each a list `xo` appended by the rule, with index keys `kb`)
onto a de-duplicated list = one de-duplication of everything in file order -/
theorem attrFold_dedup (n : Nat) (p : TPath) (ix : Indexer) (hi : indexerAt p = some ix) :
    ∀ (parts : List (Val × List Val × List String)) (ka : List String) (xa : List Val),
      (∀ t ∈ parts, (∀ xs, mergeYaml (n + 1) (.seq xs) t.1 p = .ok (.seq (xs ++ t.2.1))) ∧ indexAll ix t.2.1 = .ok t.2.2) →
      indexAll ix xa = .ok ka →
      attrFold n p (.ok (.seq (dedup ka xa))) (parts.map (·.1)) =
        .ok (.seq (dedup (ka ++ (parts.map (·.2.2)).flatten) (xa ++ (parts.map (·.2.1)).flatten))) := by
  intro parts
  induction parts with
  | nil => intro ka xa _ _; simp [attrFold]
  | cons t r ih =>
    intro ka xa h ha
    obtain ⟨hm, hb⟩ := h t (by simp)
    simp only [attrFold, List.map_cons, List.foldl_cons, List.flatten_cons]
    rw [attrStep_dedup n p ix t.1 t.2.1 ka t.2.2 xa hi hm ha hb]
    have := ih (ka ++ t.2.2) (xa ++ t.2.1) (fun t' ht' => h t' (by simp [ht'])) (indexAll_append ix _ _ _ _ ha hb)
    simpa only [attrFold, List.append_assoc] using this

/-- **keyed lists (ports, volumes, secrets, configs, devices, cap_add, …), any number of files**: the base list `x0` and
the later lists `xs₁ … xsₙ`, each merged onto the result so far and de-duplicated, give the de-duplication of
`x0 ++ xs₁ ++ … ++ xsₙ` -/
theorem keyed_list_fold (n : Nat) (p : TPath) (ix : Indexer) (hr : ruleAt p = none) (hi : indexerAt p = some ix)
    (x0 : List Val) (k0 : List String) (parts : List (List Val × List String))
    (h0 : indexAll ix x0 = .ok k0) (hp : ∀ t ∈ parts, indexAll ix t.1 = .ok t.2) :
    attrFold n p (enforce (.seq x0) p) (parts.map fun t => .seq t.1) =
      .ok (.seq (dedup (k0 ++ (parts.map (·.2)).flatten) (x0 ++ (parts.map (·.1)).flatten))) := by
  rw [enforce_indexed_seq p ix x0 k0 hi h0]
  have := attrFold_dedup n p ix hi (parts.map fun t => (.seq t.1, t.1, t.2)) k0 x0
    (by
      intro t ht
      simp only [List.mem_map] at ht
      obtain ⟨t', ht', rfl⟩ := ht
      exact ⟨fun xs => merge_seq_append n xs t'.1 p hr, hp t' ht'⟩)
    h0
  simpa only [List.map_map, Function.comp_def] using this

/-- **KEY=VALUE attributes, any number of files, whichever spelling each file uses**: the value so far `e` (list or
mapping) and the later values `o₁ … oₙ` (n ≥ 1; lists or mappings) give the de-duplication of
`seqOf e ++ seqOf o₁ ++ … ++ seqOf oₙ` -/
theorem kv_fold (n : Nat) (p : TPath) (ix : Indexer) (hr : ruleAt p = some .toSeq) (hi : indexerAt p = some ix)
    (e o1 : Val) (ke k1 : List String) (parts : List (Val × List String))
    (he : indexAll ix (seqOf e) = .ok ke) (h1 : indexAll ix (seqOf o1) = .ok k1)
    (hp : ∀ t ∈ parts, indexAll ix (seqOf t.1) = .ok t.2) :
    attrFold n p (.ok e) (o1 :: parts.map (·.1)) =
      .ok (.seq (dedup (ke ++ k1 ++ (parts.map (·.2)).flatten) (seqOf e ++ seqOf o1 ++ (parts.map fun t => seqOf t.1).flatten))) := by
  have hfirst : attrStep n p (.ok e) o1 = .ok (.seq (dedup (ke ++ k1) (seqOf e ++ seqOf o1))) := by
    simp only [attrStep, Out.bind, toSeq_append n e o1 p hr]
    exact enforce_indexed_seq p ix _ _ hi (indexAll_append ix _ _ _ _ he h1)
  simp only [attrFold, List.foldl_cons, hfirst]
  have := attrFold_dedup n p ix hi (parts.map fun t => (t.1, seqOf t.1, t.2)) (ke ++ k1) (seqOf e ++ seqOf o1)
    (by
      intro t ht
      simp only [List.mem_map] at ht
      obtain ⟨t', ht', rfl⟩ := ht
      exact ⟨fun xs => toSeq_append n (.seq xs) t'.1 p hr, hp t' ht'⟩)
    (indexAll_append ix _ _ _ _ he h1)
  simpa only [attrFold, List.map_map, Function.comp_def] using this

/-- how to read the right-hand sides of `keyed_list_fold` / `kv_fold`: in the de-duplication of all parts in file order the
entry for key `k` is the last one carrying `k` (so: the one in the last file that mentions `k`); this is `unicity_last_wins` -/
theorem fold_last_mention_wins (ks : List String) (xs : List Val) (k : String) :
    lookup k (dedupKVs (ks.zip xs)) = lastVal k (ks.zip xs) := unicity_last_wins _ k

/-- **how the final list is split over files does not matter**: two splits with the same concatenation (same entries in
the same order, cut at different places into any number of files) load to the same list -/
theorem fold_split_irrelevant (n : Nat) (p : TPath) (ix : Indexer) (hr : ruleAt p = none) (hi : indexerAt p = some ix)
    (x0 y0 : List Val) (k0 l0 : List String) (parts parts' : List (List Val × List String))
    (h0 : indexAll ix x0 = .ok k0) (h0' : indexAll ix y0 = .ok l0)
    (hp : ∀ t ∈ parts, indexAll ix t.1 = .ok t.2) (hp' : ∀ t ∈ parts', indexAll ix t.1 = .ok t.2)
    (hx : x0 ++ (parts.map (·.1)).flatten = y0 ++ (parts'.map (·.1)).flatten)
    (hk : k0 ++ (parts.map (·.2)).flatten = l0 ++ (parts'.map (·.2)).flatten) :
    attrFold n p (enforce (.seq x0) p) (parts.map fun t => .seq t.1) =
      attrFold n p (enforce (.seq y0) p) (parts'.map fun t => .seq t.1) := by
  rw [keyed_list_fold n p ix hr hi x0 k0 parts h0 hp, keyed_list_fold n p ix hr hi y0 l0 parts' h0' hp', hx, hk]

/-- three files, ports: the base declares 80 and 443, file 2 re-declares 80 and adds 53, file 3 re-declares 443 -/
example : attrFold 0 ["services", "s", "ports"] (enforce (.seq [.str "80", .str "443"]) ["services", "s", "ports"])
    [.seq [.int 53, .str "80"], .seq [.str "443"]] = .ok (.seq [.str "80", .str "443", .int 53]) := by decide +kernel

/-- three files, environment in three spellings -/
example : attrFold 0 ["services", "s", "environment"] (.ok (.map [("A", .int 1), ("B", .int 1)]))
    [.seq [.str "B=2", .str "C=2"], .map [("A", .int 3)]] = .ok (.seq [.str "A=3", .str "B=2", .str "C=2"]) := by decide +kernel

end CV.C04
