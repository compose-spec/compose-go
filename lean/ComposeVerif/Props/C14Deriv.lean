import ComposeVerif.Lemmas.HeapProg
import ComposeVerif.Lemmas.HeapFields
import ComposeVerif.Model.Derivations
import ComposeVerif.Gen.Derivations
import ComposeVerif.Props.C14
/-!
# C14 — the derivations as heap programs: receiver free ⇒ confined (the writes of a program are `Confined`, the hypothesis of `derivation_isolated`)

`Model/HeapProg.lean` is a small Go-statement semantics over the heap model (assignment, struct-field update, make,
deep copy, field store through a pointer, map store / delete, range, if, early return).  `Stmt.rf` is the syntactic
condition the escape extractor (`Gen.Derivations.receiverEscapes = []`, `receiverWrites = []`) checks on the Go source:
no expression mentions the receiver except as the source of a deep copy.  `Model/Derivations.lean` holds the nine
derivations of `types/project.go` as programs of that language; `c14.deriv` runs them against the real methods.
-/
namespace CV.Heap
open CV.Gen.CopyPlan

/-- type and resolved plan of `Project.deepCopy()` -/
def projTy : Ty := match roots with | r :: _ => rootTy r | [] => .unknown "no root"
def projPlan : Plan := match roots with | r :: _ => rootPlan r | [] => .unknown "no root"

/- `projTy` / `projPlan` are the first entry of the regenerated `roots` (by position: `match roots with | r :: _` unfolds
the list; that the first root is the one named "Project" is the first conjunct of `copyPlan_ok`) -/
theorem projPlan_deep : deep projTy projPlan = true ∧ covers projTy projPlan = true :=
  copyPlan_ok.2 _ (List.mem_cons_self ..)

/-- **receiver free ⇒ confined**, for every program of the statement language, receiver, pure arguments, allocation state
and deep copy plan: if no expression of the program mentions the receiver variable — it may only be the source of a deep
copy — then the run leaves the receiver and everything allocated before the frontier as it was, writes only through and
stores only memory allocated since (`Confined`), and every other variable — the result in particular — holds only such memory -/
theorem prog_confined (t : Ty) (plan : Plan) (prog : List Stmt) (p : GoVal) (args : List (String × PData)) (n : Nat)
    (hrf : rfL prog = true) (hd : deep t plan = true) (hb : Below n p) :
    let st := runProg t plan prog p args n
    getVar "p" st.vars = p ∧ (∀ u, Below n u → writes st.log u = u) ∧ Confined n st.next st.log ∧
      ∀ x, x ≠ "p" → Within n st.next (addrs (getVar x st.vars)) := by
  have h0 : Inv n p { vars := [("p", p)], pvars := args, next := n } :=
    ⟨by simp [getVar], Nat.le_refl n, by intro x v hm hx; simp at hm; exact absurd hm.1 hx, by intro w hw; cases hw⟩
  have h := execL_inv hd hb prog _ hrf h0
  exact ⟨h.recv, fun u => writes_below fun w hw => (h.log w hw).1, h.log, fun x hx => ⟨h.le, h.var x hx⟩⟩

theorem prog_result_within (t : Ty) (plan : Plan) (prog : List Stmt) (p : GoVal) (args : List (String × PData)) (n : Nat)
    (hrf : rfL prog = true) (hd : deep t plan = true) (hb : Below n p) :
    Within n (runProg t plan prog p args n).next (addrs (getVar "result" (runProg t plan prog p args n).vars)) :=
  (prog_confined t plan prog p args n hrf hd hb).2.2.2 "result" (by simp)

theorem prog_result_isolated (t : Ty) (plan : Plan) (prog : List Stmt) (p : GoVal) (args : List (String × PData)) (n : Nat)
    (hrf : rfL prog = true) (hd : deep t plan = true) (hb : Below n p) :
    Isolated (getVar "result" (runProg t plan prog p args n).vars) p :=
  (prog_result_within t plan prog p args n hrf hd hb).isolated hb

/-- the nine derivations of `types/project.go`, as modelled (`Deriv.programs` is hand-written in `Model/Derivations.lean`, not
regenerated), are receiver free -/
theorem derivations_receiver_free : ∀ pr ∈ Deriv.programs, rfL pr.2 = true := by decide +kernel

/-- every method of `Project` that returns a `*Project` in the source tree now has a heap program -/
theorem derivations_modelled : ∀ d ∈ CV.Gen.Derivations.derivations, d.1 ∈ Deriv.programs.map (·.1) := by decide +kernel

theorem body_confined {prog : List Stmt} (hrf : rfL prog = true) (p : GoVal) (args : List (String × PData)) (n : Nat)
    (hb : Below n p) :
    let st := runProg projTy projPlan prog p args n
    getVar "p" st.vars = p ∧ (∀ u, Below n u → writes st.log u = u) ∧ Confined n st.next st.log ∧
      Isolated (getVar "result" st.vars) p :=
  have h := prog_confined projTy projPlan prog p args n hrf projPlan_deep.1 hb
  ⟨h.1, h.2.1, h.2.2.1, prog_result_isolated projTy projPlan prog p args n hrf projPlan_deep.1 hb⟩

/-- the nine derivations of `types/project.go` with the copy plan that is in the tree, for every project and all
arguments: the receiver and everything allocated before the call are unchanged, the result shares no address with the receiver -/
theorem derivations_confined (pr : String × List Stmt) (hpr : pr ∈ Deriv.programs)
    (p : GoVal) (args : List (String × PData)) (n : Nat) (hb : Below n p) :
    let st := runProg projTy projPlan pr.2 p args n
    getVar "p" st.vars = p ∧ (∀ u, Below n u → writes st.log u = u) ∧ Confined n st.next st.log ∧
      Isolated (getVar "result" st.vars) p :=
  body_confined (derivations_receiver_free pr hpr) p args n hb

/-- run a history of derivation programs, each on the result of the previous one -/
def runHistory (t : Ty) (plan : Plan) : List (List Stmt × List (String × PData)) → GoVal → Nat → List GoVal
  | [], _, _ => []
  | (prog, args) :: r, v, n =>
    let st := runProg t plan prog v args n
    getVar "result" st.vars :: runHistory t plan r (getVar "result" st.vars) st.next

/-- **histories of derivations** (any length, any of the receiver-free programs, any arguments): all projects of the
history, the original included, are pairwise isolated -/
theorem prog_history_isolated (t : Ty) (plan : Plan) (hd : deep t plan = true) :
    ∀ (h : List (List Stmt × List (String × PData))) (v : GoVal) (n : Nat),
      (∀ e ∈ h, rfL e.1 = true) → Below n v → List.Pairwise Isolated (v :: runHistory t plan h v n) := by
  intro h v n hrf hb
  refine Layers.pairwise hb ?_
  induction h generalizing v n with
  | nil => exact Layers.nil n
  | cons e r ih =>
    have hw := prog_result_within t plan e.1 v e.2 n (hrf _ (List.mem_cons_self ..)) hd hb
    exact Layers.cons hw (ih _ _ (fun e he => hrf e (List.mem_cons_of_mem _ he)) hw.below)

/-- a project with one service on one network, and one network with a labels map -/
def exProj : GoVal := .ptr 1 (.struct [
  (.fld Deriv.fNetworks, .map 2 [(.str "net", .struct [(.fld Deriv.fLabels, .map 3 [(.str "l", .scalar "s:v")])])]),
  (.fld Deriv.fServices, .map 4 [(.str "web", .struct [(.fld Deriv.fNetworks, .map 5 [(.str "net", .nil)])])])])
def exTy2 : Ty := .ptr (.struct [
  (Deriv.fNetworks, .map (.struct [(Deriv.fLabels, .map .scalar)])),
  (Deriv.fServices, .map (.struct [(Deriv.fNetworks, .map (.ptr .scalar))]))])
def exPlan2 : Plan := .newPtr (.fields [
  (Deriv.fNetworks, .newMap (.fields [(Deriv.fLabels, .newMap .assign)])),
  (Deriv.fServices, .newMap (.fields [(Deriv.fNetworks, .newMap (.newPtr .assign))]))])

/-- `WithoutUnnecessaryResources` really runs on it: it writes, keeps the network, and the result's addresses are all new -/
example : (runProg exTy2 exPlan2 Deriv.withoutUnnecessaryResources exProj [] 6).err = none ∧
    (runProg exTy2 exPlan2 Deriv.withoutUnnecessaryResources exProj [] 6).log.length = 5 ∧
    addrs (getVar "result" (runProg exTy2 exPlan2 Deriv.withoutUnnecessaryResources exProj [] 6).vars) = [6, 11, 8, 9, 10, 12, 13, 14] := by
  simp only [exTy2, exPlan2, exProj, Deriv.withoutUnnecessaryResources, Deriv.keep, Deriv.required, Deriv.fieldIds]
  decide +kernel

end CV.Heap
