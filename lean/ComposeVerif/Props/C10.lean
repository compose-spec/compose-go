import ComposeVerif.Lemmas.Post
import ComposeVerif.Lemmas.Alts
import ComposeVerif.Lemmas.NormalizeDeps
import ComposeVerif.Lemmas.CyclePath
import ComposeVerif.Gen.C10Facts
/-!
# C10 — a loaded project is referentially consistent; inconsistent models are rejected

The typed half of the property: `checkConsistency` is the model of `loader.checkConsistency`
(Model/Consistency.lean), `Consistent` / `ConsistentFull` the specification (Spec/Consistency.lean).
Go map iteration order = list order of `services`, `dependsOn`, `secrets`; the specification only
uses membership, so every `↔ spec` theorem holds for every order.  The theorems that need `p.enabled.Nodup`
say so: a Go map has no duplicate key, a list can.  The structural checks on the untyped tree are in
Props/C10Validate.lean.
-/
namespace CV.Consistency

/-! ## tie to the source: facts the translator regenerates on every run -/

/-- the loop body applies the rules in the order `svcRuleOrder` and reports the first failure -/
theorem checkSvc_in_source_order (p : Proj) (s : Svc) : checkSvc p s = svcRuleOrder.findSome? (ruleCheck p s) :=
  checkSvc_findSome p s

/-- **the error returns of `checkConsistency` in the source now are exactly the modelled rules, in the modelled
order** (a deleted, added or reordered rule changes the regenerated fact and breaks this theorem) -/
theorem consistency_rules_are_source :
    CV.Gen.c10_consistencyErrorSites = svcRuleOrder.map (fun r => (ruleErr r).site) ++ [Err.secretSource.site] := rfl

theorem graph_errors_are_source :
    CV.Gen.c10_graphErrorSites = [Err.requiredDisabled.site, Err.unknownService.site, Err.cycle.site] := rfl

/-- the constants the rules compare against -/
theorem consistency_constants_are_source :
    CV.Gen.c10_servicePrefix = servicePrefix ∧ CV.Gen.c10_volumeTypeVolume = volumeTypeVolume ∧
    CV.Gen.c10_watchActionRebuild = watchActionRebuild ∧ CV.Gen.c10_consistencyCases = [hcKinds] ∧
    CV.Gen.c10_extensionsKey = "#extensions" ∧
    CV.Gen.c10_externalCases = [["name", "external", "<consts.Extensions>"]] ∧
    CV.Gen.c10_validationErrorSites = ["%s: %s attributes are mutually exclusive", "%s: one of %s must be set",
      "%s: value can't be blank", "%s: \"count\" and \"device_ids\" attributes are exclusive"] :=
  ⟨rfl, rfl, rfl, rfl, rfl, rfl, rfl⟩

/-- **the functions the models mirror statement by statement are, in the source now, the ones the models were
written against** (printed bodies without comments, regenerated on every run): `GetScale`, `GetService(s)`,
`newGraph`, `CheckCycle`, `checkCycle`, `searchCycle`, `validation.check` and its five checkers.  Any edit to one of
them breaks this theorem, on top of whatever the correspondence finds. -/
theorem mirrored_functions_are_source :
    CV.Gen.c10_body_GetScale =
      "{ if s.Scale != nil { return *s.Scale } if s.Deploy != nil && s.Deploy.Replicas != nil { return *s.Deploy.Replicas } return 1 }" ∧
    CV.Gen.c10_body_GetService =
      "{ service, ok := p.Services[name] if !ok { _, ok := p.DisabledServices[name] if ok { return ServiceConfig{}, fmt.Errorf(\"no such service: %s: %w\", name, errdefs.ErrDisabled) } return ServiceConfig{}, fmt.Errorf(\"no such service: %s: %w\", name, errdefs.ErrNotFound) } return service, nil }" ∧
    CV.Gen.c10_body_GetServices =
      "{ if len(names) == 0 { return p.Services, nil } services := Services{} for _, name := range names { service, err := p.GetService(name) if err != nil { return nil, err } services[name] = service } return services, nil }" ∧
    CV.Gen.c10_body_newGraph =
      "{ g := &graph[types.ServiceConfig]{ vertices: map[string]*vertex[types.ServiceConfig]{}, } for name, s := range project.Services { g.addVertex(name, s) } for name, s := range project.Services { src := g.vertices[name] for dep, condition := range s.DependsOn { dest, ok := g.vertices[dep] if !ok { if condition.Required { if ds, exists := project.DisabledServices[dep]; exists { return nil, fmt.Errorf(\"service %q is required by %q but is disabled. Can be enabled by profiles %s\", dep, name, ds.Profiles) } return nil, fmt.Errorf(\"service %q depends on unknown service %q\", name, dep) } continue } src.children[dep] = dest dest.parents[name] = src } } err := g.checkCycle() return g, err }" ∧
    CV.Gen.c10_body_CheckCycle =
      "{ g, err := newGraph(project) if err != nil { return err } return g.checkCycle() }" ∧
    CV.Gen.c10_body_checkCycle =
      "{ names := utils.MapKeys(g.vertices) for _, name := range names { err := searchCycle([]string{name}, g.vertices[name]) if err != nil { return err } } return nil }" ∧
    CV.Gen.c10_body_searchCycle =
      "{ names := utils.MapKeys(v.children) for _, name := range names { if i := slices.Index(path, name); i >= 0 { return fmt.Errorf(\"dependency cycle detected: %s -> %s\", strings.Join(path[i:], \" -> \"), name) } ch := v.children[name] err := searchCycle(append(path, name), ch) if err != nil { return err } } return nil }" ∧
    CV.Gen.c10_body_check =
      "{ for pattern, fn := range checks { if p.Matches(pattern) { return fn(value, p) } } switch v := value.(type) { case map[string]any: for k, v := range v { err := check(v, p.Next(k)) if err != nil { return err } } case []any: for _, e := range v { err := check(e, p.Next(\"[]\")) if err != nil { return err } } } return nil }" ∧
    CV.Gen.c10_body_checkFileObject =
      "{ return func(value any, p tree.Path) error { v := value.(map[string]any) count := 0 for _, s := range keys { if _, ok := v[s]; ok { count++ } } if count > 1 { return fmt.Errorf(\"%s: %s attributes are mutually exclusive\", p, strings.Join(keys, \"|\")) } if count == 0 { if _, ok := v[\"driver\"]; ok { return nil } if _, ok := v[\"external\"]; !ok { return fmt.Errorf(\"%s: one of %s must be set\", p, strings.Join(keys, \"|\")) } } return nil } }" ∧
    CV.Gen.c10_body_checkPath =
      "{ v := value.(string) if v == \"\" { return fmt.Errorf(\"%s: value can't be blank\", p) } return nil }" ∧
    CV.Gen.c10_body_checkDeviceRequest =
      "{ v := value.(map[string]any) _, hasCount := v[\"count\"] _, hasIds := v[\"device_ids\"] if hasCount && hasIds { return fmt.Errorf(`%s: \"count\" and \"device_ids\" attributes are exclusive`, p) } return nil }" ∧
    CV.Gen.c10_body_checkExternal =
      "{ b, ok := v[\"external\"] if !ok { return nil } external, err := asBoolean(b) if err != nil { return fmt.Errorf(\"%s.external: %w\", p, err) } if !external { return nil } for k := range v { switch k { case \"name\", \"external\", consts.Extensions: continue default: if strings.HasPrefix(k, \"x-\") { continue } return fmt.Errorf(\"%s: conflicting parameters \\\"external\\\" and %q specified\", p, k) } } return nil }" ∧
    CV.Gen.c10_body_checkVolume =
      "{ if value == nil { return nil } v, ok := value.(map[string]any) if !ok { return fmt.Errorf(\"expected volume, got %s\", value) } err := checkExternal(v, p) if err != nil { return err } return nil }" :=
  ⟨rfl, rfl, rfl, rfl, rfl, rfl, rfl, rfl, rfl, rfl, rfl, rfl, rfl⟩

/-- acceptance with no hypothesis on the project: the cycle check stays the model function `checkCycleProj` -/
theorem checkConsistency_none_iff (p : Proj) :
    checkConsistency p = none ↔
      (∀ e ∈ p.services, ∀ r, Holds p e.2 r) ∧ SecretsSourced p ∧ checkCycleProj p = none := by
  simp only [checkConsistency, orE_none, List.findSome?_eq_none_iff, checkSvc_none_iff, checkSecret_iff, SecretsSourced]

/-- **completeness, rule by rule** (no hypothesis, any iteration order): a project in which some enabled
service breaks some rule is rejected -/
theorem consistency_complete_rule (p : Proj) (e : String × Svc) (he : e ∈ p.services) (r : Rule)
    (hbad : ¬ Holds p e.2 r) : ∃ err, checkConsistency p = some err :=
  Option.ne_none_iff_exists'.mp fun h => hbad (((checkConsistency_none_iff p).mp h).1 e he r)

/-- a secret without `file`, `environment` or `external` is rejected -/
theorem consistency_complete_secret (p : Proj) (hbad : ¬ SecretsSourced p) : ∃ err, checkConsistency p = some err :=
  Option.ne_none_iff_exists'.mp fun h => hbad ((checkConsistency_none_iff p).mp h).2.1

/-- **soundness of the rules** (no hypothesis): acceptance implies every rule for every enabled service, and sourced secrets -/
theorem consistency_sound_rules (p : Proj) (h : checkConsistency p = none) :
    (∀ e ∈ p.services, ∀ r, Holds p e.2 r) ∧ SecretsSourced p :=
  have h' := (checkConsistency_none_iff p).mp h
  ⟨h'.1, h'.2.1⟩

/-- the error class reported for a service comes from a rule that the service really breaks -/
theorem checkSvc_error_truthful (p : Proj) (s : Svc) (e : Err) (h : checkSvc p s = some e) :
    ∃ r, ruleCheck p s r = some e ∧ ¬ Holds p s r := by
  rw [checkSvc_findSome] at h
  obtain ⟨r, -, hr⟩ := List.exists_of_findSome?_eq_some h
  exact ⟨r, hr, fun hh => by rw [(ruleCheck_iff p s r).mpr hh] at hr; cases hr⟩

/-- **`checkCycle` reports nothing ⇔ there is no cycle**, for every digraph (adjacency lists whose edges end in vertices) -/
theorem checkCycle_iff_acyclic (g : Graph) (hcl : g.Closed) : hasCycle g = false ↔ ∀ v, ¬ Walk g.E v v := by
  rw [← Bool.not_eq_true, hasCycle_iff g hcl, not_exists]

/-- the fuel `len(vertices)` given to `searchCycle` is enough: more fuel never changes the answer -/
theorem search_fuel_sufficient (g : Graph) (hcl : g.Closed) (v : String) (hv : v ∈ g.keys) (extra : Nat) :
    search g (g.length + extra) [v] v = search g g.length [v] v :=
  Bool.eq_iff_iff.mpr ((search_iff g hcl hv (Nat.le_add_right ..)).trans (search_iff g hcl hv (Nat.le_refl _)).symm)

/-- on a project whose dependencies can be resolved, `graph.CheckCycle` returns `nil` iff the dependency graph over
enabled services is acyclic (`Nodup`: a Go map has no duplicate key; `children` reads the first entry of a key, `DepRel` all) -/
theorem checkCycleProj_iff (p : Proj) (hnd : p.enabled.Nodup) (hb : DepsBuildable p) :
    checkCycleProj p = none ↔ Acyclic p := by
  rw [checkCycleProj_buildable p hb, guard_none, ← acyclicB_iff p hnd, acyclicB, Bool.not_eq_true']

/-- when every dependency can be resolved `newGraph` returns exactly the dependency graph over the enabled services,
whatever the iteration order -/
theorem newGraph_exact (p : Proj) (hb : DepsBuildable p) : newGraph p = .ok (exactGraph p) := newGraph_eq_exact p hb

/-! ### the cycle named in the error message (sorted start vertices and children) -/

/-- `checkCycle` names a cycle iff it reports one: the sort of the names only selects *which* cycle is printed -/
theorem cyclePath_reported_iff (g : Graph) : (cyclePath g).isSome = hasCycle g := by
  rw [Bool.eq_iff_iff, cyclePath, hasCycle, List.findSome?_isSome_iff, List.any_eq_true]
  simp only [mem_sortStr, List.mem_map, searchPath_isSome]
  exact ⟨fun ⟨_, ⟨e, he, hv⟩, h⟩ => ⟨e, he, hv ▸ h⟩, fun ⟨e, he, h⟩ => ⟨e.1, ⟨e, he, rfl⟩, h⟩⟩

/-- the cycle printed after "dependency cycle detected:" is a closed walk of the graph (edges all along, ends where it starts) -/
theorem cyclePath_is_closed_walk (g : Graph) (cyc : List String) (h : cyclePath g = some cyc) : IsClosedWalk g cyc := by
  unfold cyclePath at h
  obtain ⟨v, -, hres⟩ := List.exists_of_findSome?_eq_some h
  exact searchPath_closed g g.length [v] v cyc trivial rfl hres

/-- … and it is the same whatever order Go ranges the vertex map and the children maps in ("predictable error message") -/
theorem cyclePath_deterministic {g g' : Graph} (hk : (g'.map Prod.fst).Perm (g.map Prod.fst))
    (hc : ∀ v, (g'.children v).Perm (g.children v)) : cyclePath g' = cyclePath g := by
  unfold cyclePath
  have hl : g'.length = g.length := by simpa using hk.length_eq
  rw [sortStr_perm hk, hl]
  congr 1
  funext v
  exact searchPath_congr (fun v => sortStr_perm (hc v)) g.length [v] v

/-- **`checkConsistency = nil ↔ ConsistentFull`**, every project without a duplicate service name, every iteration order:
the rules make every dependency resolvable, so `graph.CheckCycle` decides acyclicity -/
theorem checkConsistency_iff (p : Proj) (hnd : p.enabled.Nodup) : checkConsistency p = none ↔ ConsistentFull p := by
  rw [checkConsistency_none_iff, ConsistentFull]
  exact and_congr_right fun h => and_congr_right fun _ =>
    checkCycleProj_iff p hnd (depsBuildable_of_rules p fun e he => h e he .dependsOn)

/-- **accepted ⇒ consistent** (`Neg/C10.lean` keeps the function as it was before `fix:` 3143716, for which this fails, and
the witness) -/
theorem consistency_sound (p : Proj) (hnd : p.enabled.Nodup) (h : checkConsistency p = none) : ConsistentFull p :=
  (checkConsistency_iff p hnd).mp h

theorem consistency_sound_property (p : Proj) (hnd : p.enabled.Nodup) (h : checkConsistency p = none) : Consistent p :=
  (consistency_sound p hnd h).consistent

/-- **completeness for cycles**: a cyclic dependency graph over the enabled services is rejected -/
theorem consistency_complete_cycle (p : Proj) (hnd : p.enabled.Nodup) (hbad : ¬ Acyclic p) :
    ∃ err, checkConsistency p = some err :=
  Option.ne_none_iff_exists'.mp fun h => hbad (consistency_sound p hnd h).2.2

/-- the decision procedure the oracle runs on the project returned by a load is correct -/
theorem consistentB_iff (p : Proj) (hnd : p.enabled.Nodup) : consistentB p = true ↔ ConsistentFull p := by
  unfold consistentB ConsistentFull
  rw [Bool.and_eq_true, Bool.and_eq_true, acyclicB_iff p hnd, rulesB_iff, secretsB_iff, and_assoc]

/-- **accepted ⇒ the returned project is consistent**: `postState` = the project after `checkConsistency`
(`deploy.replicas` aligned with `scale`, the only write) -/
theorem accepted_returned_consistent (p : Proj) (hnd : p.enabled.Nodup) (h : checkConsistency p = none) :
    ConsistentFull (postState p) := by
  have hc := consistency_sound p hnd h
  refine ⟨?_, hc.2.1, fun v w => hc.2.2 v (w.mono (depRel_post p))⟩
  intro e he r
  simp only [postState, List.mem_map] at he
  obtain ⟨e0, he0, rfl⟩ := he
  exact holds_post p e0.2 r (hc.1 e0 he0 r)

/-- the specification does not depend on the order of any Go map -/
theorem consistent_order_independent (p p' : Proj) (hp : ProjEquiv p p') : ConsistentFull p ↔ ConsistentFull p' :=
  ⟨consistentFull_equiv hp, consistentFull_equiv hp.symm⟩

/-- **acceptance is the same for every iteration order** of the services map, of each `depends_on` / `networks`
map and of the secrets map (for the function as it was before `fix:` 3143716 this fails: `Neg.checkConsistency_order_dependent_old`) -/
theorem checkConsistency_order_independent (p p' : Proj) (hp : ProjEquiv p p')
    (hnd : p.enabled.Nodup) (hnd' : p'.enabled.Nodup) :
    checkConsistency p = none ↔ checkConsistency p' = none := by
  rw [checkConsistency_iff p hnd, checkConsistency_iff p' hnd']
  exact consistent_order_independent p p' hp

/-- rejection of a project that breaks a rule does not depend on the order either (no hypothesis) -/
theorem rejection_order_independent (p p' : Proj) (hp : ProjEquiv p p') (e : String × Svc) (he : e ∈ p.services) (r : Rule)
    (hbad : ¬ Holds p e.2 r) : ∃ err, checkConsistency p' = some err := by
  obtain ⟨s', hs', hse⟩ := hp.fwd e.1 e.2 he
  exact consistency_complete_rule p' (e.1, s') hs' r fun h => hbad (holds_equiv hp.symm hse.symm r h)

/-! ## `service:` namespace references, links and volumes_from reach the `depends_on` rule (`loader.Normalize`) -/

/-- every service named by `links`, by the `service:` form of `network_mode`/`ipc`/`pid`/`uts`/`cgroup`, or by
`volumes_from` has a `depends_on` entry after `Normalize`; explicit entries are kept -/
theorem normalize_covers_references (r : RawRefs) :
    (∀ d ∈ r.dependsOn, d ∈ normDeps r) ∧ (∀ x ∈ implicitRefs r, ∃ q, (x, q) ∈ normDeps r) := by
  rw [normDeps_eq]
  obtain ⟨h1, h2, -⟩ := foldl_addOpt (refTargets r) r.dependsOn
  exact ⟨h1, fun x hx => h2 x ((mem_implicitRefs r x).mp hx)⟩

/-- … and `Normalize` adds nothing else: a new entry is a *required* dependency on such a service -/
theorem normalize_adds_only_references (r : RawRefs) (d : String × Bool) (hd : d ∈ normDeps r) :
    d ∈ r.dependsOn ∨ (d.2 = true ∧ d.1 ∈ implicitRefs r ∧ ∀ q, (d.1, q) ∉ r.dependsOn) := by
  rw [normDeps_eq] at hd
  simpa only [mem_implicitRefs] using (foldl_addOpt (refTargets r) r.dependsOn).2.2 d hd

/-- **accepted ⇒ every implicit reference names an enabled service, or a disabled one the user explicitly declared an
optional dependency on** (the clause "every depends_on / `service:` namespace reference names an existing service") -/
theorem implicit_references_checked (p : Proj) (n : String) (s : Svc) (r : RawRefs) (hs : (n, s) ∈ p.services)
    (hd : s.dependsOn = normDeps r) (h : checkConsistency p = none) :
    ∀ x ∈ implicitRefs r, x ∈ p.enabled ∨ (x ∈ p.disabled ∧ (x, false) ∈ r.dependsOn) := by
  intro x hx
  obtain ⟨q, hq⟩ := (normalize_covers_references r).2 x hx
  have hrule := (consistency_sound_rules p h).1 (n, s) hs .dependsOn
  rcases hrule (x, q) (hd ▸ hq) with h1 | ⟨h1, h2⟩
  · exact .inl h1
  · right
    refine ⟨h1, ?_⟩
    simp only at h2
    subst h2
    rcases normalize_adds_only_references r (x, false) hq with h3 | ⟨h3, -⟩
    · exact h3
    · cases h3

/-- … conversely a dangling implicit reference is rejected -/
theorem dangling_implicit_reference_rejected (p : Proj) (n : String) (s : Svc) (r : RawRefs) (hs : (n, s) ∈ p.services)
    (hd : s.dependsOn = normDeps r) (x : String) (hx : x ∈ implicitRefs r) (hne : x ∉ p.enabled) (hnd : x ∉ p.disabled) :
    ∃ err, checkConsistency p = some err :=
  Option.ne_none_iff_exists'.mp fun h =>
    (implicit_references_checked p n s r hs hd h x hx).elim hne (hnd ·.1)

/-! ## collect mode: the outcome sets the correspondence judge uses are exact -/

/-- **`consistencyAlts p` is exactly the set of outcomes of `checkConsistency` reachable under some iteration order**
(`Reorder` = the services map and any `depends_on` map ranged in another order): acceptance is order independent, the
error *class* is that of whichever failing service Go happens to range first -/
theorem consistencyAlts_exact (p : Proj) (hnd : p.enabled.Nodup) (o : Option Err) :
    o ∈ consistencyAlts p ↔ ∃ p', Reorder p p' ∧ checkConsistency p' = o :=
  ⟨consistencyAlts_reachable p o, fun ⟨_, hr, ho⟩ =>
    ho ▸ consistencyAlts_sound_equiv hr.equiv.1 hnd (hr.nodup hnd) hr.equiv.2.2⟩

/-- the same for `graph.CheckCycle` alone (where several required dependencies may be missing) -/
theorem cycleAlts_exact (p : Proj) (hnd : p.enabled.Nodup) (o : Option Err) :
    o ∈ cycleAlts p ↔ ∃ p', Reorder p p' ∧ checkCycleProj p' = o :=
  ⟨cycleAlts_reachable p o, fun ⟨_, hr, ho⟩ =>
    ho ▸ cycleAlts_sound_equiv hr.equiv.1 hnd (hr.nodup hnd)⟩

/-- acceptance is a member of the set only if it is the only member: an accepted project is accepted in every order -/
theorem consistencyAlts_accept_singleton (p : Proj) (hnd : p.enabled.Nodup) (h : none ∈ consistencyAlts p)
    (o : Option Err) (ho : o ∈ consistencyAlts p) : o = none := by
  obtain ⟨p1, hr1, h1⟩ := consistencyAlts_reachable p none h
  obtain ⟨p2, hr2, h2⟩ := consistencyAlts_reachable p o ho
  have e1 := hr1.equiv.1
  have e2 := hr2.equiv.1
  have := (checkConsistency_order_independent p1 p2 (e1.symm.trans e2) (hr1.nodup hnd) (hr2.nodup hnd)).mp h1
  rw [← h2]; exact this

/-! ## non-vacuity -/

/-- a consistent project with a build, networks, a `service:` reference, an optional dependency on a disabled
service, paired settings and a two-edge dependency chain -/
def exampleProj : Proj :=
  { services := [
      ("web", { image := "nginx", networks := ["front"], dependsOn := [("db", true), ("off", false)],
                scale := some 2, deploy := some { replicas := some 2 }, secrets := ["tok"] }),
      ("db", { build := some { dockerfile := "Dockerfile", secrets := ["tok"] }, volumes := [("volume", "data")],
               cpus := "0.5", deploy := some { limits := some { cpus := "0.5" } } }),
      ("side", { image := "s", networkMode := "service:web", dependsOn := [("web", true)] })],
    disabled := ["off"], networks := ["front"], volumes := ["data"],
    secrets := [("tok", { file := "./tok" })] }

theorem exampleProj_nodup : exampleProj.enabled.Nodup := by decide
theorem checkConsistency_exampleProj : checkConsistency exampleProj = none := by decide +kernel
theorem consistentFull_exampleProj : ConsistentFull exampleProj :=
  consistency_sound _ exampleProj_nodup checkConsistency_exampleProj

example : exampleProj.enabled.Nodup := exampleProj_nodup
example : checkConsistency exampleProj = none := checkConsistency_exampleProj
example : ConsistentFull exampleProj := consistentFull_exampleProj
example : consistentB exampleProj = true := (consistentB_iff _ exampleProj_nodup).mpr consistentFull_exampleProj
example : ProjEquiv exampleProj { exampleProj with services := exampleProj.services.reverse, secrets := exampleProj.secrets } :=
  ProjEquiv.of_perm exampleProj _ (List.reverse_perm _) _ (List.Perm.refl _)

/-- a project that breaks exactly the `networks` rule: the hypotheses of `consistency_complete_rule` are satisfiable -/
def danglingProj : Proj := { services := [("a", { image := "i", networks := ["ghost"] })] }
theorem danglingProj_dangling : ¬ Holds danglingProj { image := "i", networks := ["ghost"] } .networks := by
  simp [Holds, danglingProj]
theorem checkConsistency_danglingProj : checkConsistency danglingProj = some .undefinedNetwork := by decide +kernel

example : ¬ Holds danglingProj { image := "i", networks := ["ghost"] } .networks := danglingProj_dangling
example : ∃ err, checkConsistency danglingProj = some err :=
  consistency_complete_rule danglingProj ("a", { image := "i", networks := ["ghost"] }) (.head _) .networks
    danglingProj_dangling
example : checkConsistency danglingProj = some .undefinedNetwork := checkConsistency_danglingProj
/-- a cyclic project is rejected (`consistency_complete_cycle`) -/
def cyclicProj : Proj :=
  { services := [("a", { image := "i", dependsOn := [("b", true)] }), ("b", { image := "i", dependsOn := [("a", false)] })] }
theorem checkConsistency_cyclicProj : checkConsistency cyclicProj = some .cycle := by decide +kernel
example : checkConsistency cyclicProj = some .cycle := checkConsistency_cyclicProj
example : ¬ Acyclic cyclicProj := fun h => by
  have e1 : DepRel cyclicProj "a" "b" := ⟨{ image := "i", dependsOn := [("b", true)] }, by decide, by decide, true, by decide⟩
  have e2 : DepRel cyclicProj "b" "a" := ⟨{ image := "i", dependsOn := [("a", false)] }, by decide, by decide, false, by decide⟩
  exact h "a" (.cons e1 (.single e2))
namespace Neg

/-- service `a` depends on itself and, optionally, on the profile-disabled `x`; Go happens to range `x` first -/
def witness : Proj :=
  { services := [("a", { image := "i", dependsOn := [("x", false), ("a", true)] })], disabled := ["x"] }

/-- the same project, `a` ranged first -/
def witness' : Proj :=
  { services := [("a", { image := "i", dependsOn := [("a", true), ("x", false)] })], disabled := ["x"] }

theorem witness_rejected : checkConsistency witness = some .cycle ∧ checkConsistency witness' = some .cycle := by
  decide +kernel

end Neg

/-- the witness of the defect repaired by `fix:` 3143716 (self dependency + optional dependency on a disabled service) is
rejected in both orders -/
example : checkConsistency Neg.witness = some .cycle ∧ checkConsistency Neg.witness' = some .cycle :=
  Neg.witness_rejected

/-- `Normalize` on `links: [db:alias, a:b:c]`, `ipc: service:db`, `network_mode: host`, `volumes_from: [cache:ro, container:x]` -/
def rawExample : RawRefs :=
  { dependsOn := [("cache", false)], links := ["db:alias", "a:b:c"], namespaces := ["host", "service:db"],
    volumesFrom := ["cache:ro", "container:x"] }
example : normDeps rawExample = [("cache", false), ("db", true), ("a:b:c", true)] := by decide +kernel
example : implicitRefs { links := ["db:alias"], namespaces := ["service:web"], volumesFrom := ["cache:ro", "container:x"] }
    = ["db", "web", "cache"] := by decide +kernel

/-- two failing services: two reachable error classes, and a reordering that realises the second one -/
def twoBad : Proj :=
  { services := [("a", { image := "i", networks := ["ghost"] }), ("b", { image := "" })] }
example : consistencyAlts twoBad = [some .undefinedNetwork, some .noImage] := by decide
example : Reorder twoBad { twoBad with services := twoBad.services.reverse } := .services _ _ (List.reverse_perm _)
example : checkConsistency { twoBad with services := twoBad.services.reverse } = some .noImage := by decide
/-- `graph.CheckCycle` alone: a required dependency on a disabled and on an unknown service -/
example : cycleAlts { services := [("a", { image := "i", dependsOn := [("off", true), ("ghost", true)] })], disabled := ["off"] }
    = [some .requiredDisabled, some .unknownService] := by decide

/-- the named cycle: vertices listed as `c, b, a`; the search starts at `a` (sorted), the cycle `b -> c -> b` is printed -/
example : cyclePath [("c", ["b"]), ("b", ["c"]), ("a", ["c", "b"])] = some ["b", "c", "b"] := by decide
example : cyclePath [("a", ["c", "b"]), ("b", ["c"]), ("c", ["b"])] = some ["b", "c", "b"] := by decide

/-- a graph with a cycle that is only found from the second start vertex's subtree -/
example : hasCycle [("a", ["b"]), ("b", ["c"]), ("c", ["b"])] = true := by decide
example : hasCycle [("a", ["b", "c"]), ("b", ["c"]), ("c", [])] = false := by decide
example : (exactGraph exampleProj).Closed := exactGraph_closed exampleProj
example : hasCycle (exactGraph exampleProj) = false := by decide

end CV.Consistency
