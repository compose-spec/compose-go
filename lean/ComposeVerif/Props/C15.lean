import ComposeVerif.Lemmas.SelectCalls
import ComposeVerif.Lemmas.SelectClosure
import ComposeVerif.Neg.C15
/-!
# C15 — profile and service selection keep a sound partition of the services

Property theorems about the model `Model/Select.lean` of `types/project.go`, stated against the
set-algebra spec `Spec/Select.lean`, for ALL projects and ALL histories (no bound on the number of
services, the shape of the dependency graph, or the length of the history).

`Good p` is the domain: the enabled and disabled maps are disjoint maps, every service is filed under its own `Name` (both
true of every project a load returns) and every `depends_on` is a map (true of every Go map).
-/
namespace CV.Sel

/-- the receiver is a well-formed project: a partition, every `depends_on` has distinct keys, every service is filed under
its own `Name` -/
def Good (p : Proj) : Prop := Partition p ∧ SvcWF p ∧ NamesOK p

theorem Good.wf {p : Proj} (g : Good p) : SvcWFs p.services :=
  fun kv hkv => g.2.1 kv (List.mem_append_left _ hkv)

/-- `WithProfiles P` enables exactly the services with no profile, a listed profile, or all when `*` is listed,
disables the rest, records `P`, and keeps every service's content -/
theorem profiles_exact {p : Proj} (h : Partition p) (P : List String) :
    ProfilesSpec p P (withProfiles p P) := by
  refine ⟨rfl, fun k hk => ?_, fun k _ => find_withProfiles h P k⟩
  obtain ⟨s, hs⟩ := find_isSome_of_known hk
  rw [hs]
  exact mem_keys_withProfiles_services h P (hs ▸ (find_withProfiles h P k).symm)

theorem profiles_enabled_iff {p : Proj} (h : Partition p) (P : List String) (k : String) :
    k ∈ keys (withProfiles p P).services ↔ ∃ s, find p k = some s ∧ Active s P := by
  cases hs : find p k with
  | none => simp [← lookup_isSome, lookup_withProfiles_services h, hs]
  | some s => simp [mem_keys_withProfiles_services h P hs]

/-- enabling: the profile list grows by the profiles of the named disabled services, the services are
repartitioned accordingly, and (on a project whose enabled services are active) every named known service
ends up enabled with its profiles activated -/
theorem enable_activates_profiles {p : Proj} (h : Partition p) (names : List String) :
    EnableSpec p names (withServicesEnabled p names) := by
  unfold EnableSpec
  split
  · subst_vars; rfl
  rename_i hn
  have fnd := fun k (hk : k ∈ known (withServicesEnabled p names)) =>
    find_isSome_of_known ((known_withServicesEnabled h names k).1 hk)
  refine ⟨by rw [withServicesEnabled_of_ne hn]; rfl, fun k hk => ?_, fun k hk => ?_, fun ok n hnm hkn => ?_⟩
  · obtain ⟨s, hs⟩ := fnd k hk
    rw [find_withServicesEnabled h hn hs, mem_keys_withServicesEnabled_services h hn hs]
    show _ ↔ Active (if _ then _ else _) _
    split <;> exact Iff.rfl
  · obtain ⟨s, hs⟩ := fnd k hk
    rw [hs, find_withServicesEnabled h hn hs]
    simp only [sat, mem_keys_withServicesEnabled_services h hn hs, ← resolvedSvc_eq]
  · obtain ⟨s, hs⟩ := find_isSome_of_known hkn
    have act := active_of_named ok hnm hs
    rw [find_withServicesEnabled h hn hs, if_pos act.1]
    exact ⟨enable_enables_named h ok hnm hkn, by rw [withServicesEnabled_of_ne hn]; exact act⟩

/-- `WithServicesDisabled names`: the enabled set loses exactly the named services, the remaining services lose
exactly their dependencies on them, previously disabled services are untouched -/
theorem disable_exact {p : Proj} (h : Partition p) (names : List String) :
    DisableSpec p names (withServicesDisabled p names) :=
  withServicesDisabled_spec h names

/-- the disabled half of `WithServicesDisabled names`: a moved service is the old service minus its dependencies on
the names listed **up to and including itself** (`upTo`).  So the result is a function of the receiver and of the
argument *list*; the order of the arguments matters in exactly this way and in no other (`disable_exact` is
symmetric in the names), and the iteration order of the maps does not matter at all (`disable_perm`). -/
theorem disable_moved_exact {p : Proj} (h : Partition p) (names : List String) :
    DisableMovedSpec p names (withServicesDisabled p names) := by
  intro kv hkv hx
  obtain ⟨_, s, hs, e⟩ := of_mem_withServicesDisabled_disabled h hkv hx
  rw [hs, e]; rfl

theorem no_dangling_after_disable {p : Proj} (h : Partition p) (names : List String) :
    NoDepOn (withServicesDisabled p names) names :=
  (withServicesDisabled_spec h names).2.1

/-! ## selecting -/

/-- the walk of `ForEachService` never exhausts the model's fuel: the fuel is a modelling device, not behaviour -/
theorem select_never_out_of_fuel {p : Proj} (h : Partition p) (nk : NamesOK p) (names : List String) (pol : Policy) :
    withSelectedServices p names pol ≠ .fuel := by
  by_cases hn : names = []
  · subst hn; nofun
  · rw [withSelectedServices_eq h.1 hn]
    split
    · nofun
    · nofun
    · exact absurd ‹_› (forEachService_fuel p names pol)

/-- `WithSelectedServices names policy` keeps exactly the named services plus their transitive dependencies
(or dependents, or nothing more), i.e. the least set containing the names and closed under the policy's edges -/
theorem selected_eq_closure {p : Proj} (h : Partition p) (nk : NamesOK p) {names : List String} (hn : names ≠ []) {pol : Policy}
    {q : Proj} (hq : withSelectedServices p names pol = .ok q) (x : String) :
    x ∈ keys q.services ↔ Reach p.services pol names x := by
  obtain ⟨S, hS, rfl⟩ := select_ok_inv h nk hn hq
  rw [← hS]
  exact mem_keys_selectResult_services fun x hx => reach_enabled ((hS x).1 hx)

/-- the saturation always completes within `len(services)` rounds (pigeonhole), so the oracle's run-time check
`Closed` (clause `closure-saturated`, kept as a guard) can never fail -/
theorem closure_saturates (svcs : AL Svc) (pol : Policy) (roots : List String) :
    Closed svcs pol roots (closure svcs pol roots) := by
  unfold closure
  generalize hS : (roots.filter (fun r => r ∈ keys svcs)).eraseDups = S0
  have mem0 : ∀ x, x ∈ S0 ↔ x ∈ roots ∧ x ∈ keys svcs := by
    intro x; rw [← hS, List.mem_eraseDups, List.mem_filter]; simp
  refine ⟨fun r hr hk => mem_closureN_of_mem _ ((mem0 r).2 ⟨hr, hk⟩), ?_⟩
  cases h0 : S0 with
  | nil => exact succClosed_closureN _ nofun
  | cons a t =>
    refine saturate _ _ (h0 ▸ hS ▸ nodup_eraseDups _) (fun x hx => ((mem0 x).1 (h0 ▸ hx)).2) ?_
    simp only [keys, List.length_map, List.length_cons]
    omega

theorem closure_eq_reach {svcs : AL Svc} (nd : (keys svcs).Nodup) (pol : Policy) (roots : List String) (x : String) :
    x ∈ closure svcs pol roots ↔ Reach svcs pol roots x :=
  ⟨closure_sound nd pol roots x, closure_complete nd pol roots _ (closure_saturates svcs pol roots) x⟩

/-- the full description of a successful selection: for the closure `S` of the names, the result satisfies
`SelectSpec` (enabled set = `S`, each selected service keeps exactly its dependencies inside `S`, nothing dangling,
previously disabled services untouched), every service is conserved, resources are untouched -/
theorem select_exact {p : Proj} (g : Good p) {names : List String} (hn : names ≠ []) {pol : Policy}
    {q : Proj} (hq : withSelectedServices p names pol = .ok q) :
    ∃ S, (∀ x, x ∈ S ↔ Reach p.services pol names x) ∧ SelectSpec p S q ∧ Conserved p q ∧ sameResources p q := by
  obtain ⟨S, hS, rfl⟩ := select_ok_inv g.1 g.2.2 hn hq
  exact ⟨S, hS, selectResult_spec g.1 S fun x hx => reach_enabled ((hS x).1 hx),
    conserved_of_carried (selectResult_partition g.1 S) ((subProj_selectResult p S).carried g.2.1),
    (withServicesDisabled_rest p _).2⟩

/-- `WithSelectedServices` fails ("no such service") exactly when a requested name is not an enabled service or a
service of the closure has a required dependency that is not an enabled service (only `IncludeDependencies` looks) -/
theorem select_error_iff {p : Proj} (g : Good p) {names : List String} (hn : names ≠ []) (pol : Policy) :
    withSelectedServices p names pol = .err ↔
      (∃ n ∈ names, n ∉ keys p.services) ∨
      ∃ x, Reach p.services pol names x ∧ MissingRequired p.services pol x := by
  rw [select_err_iff_walk g.1.1 hn, forEachService_err_iff g.1.1 g.2.2.services g.wf, rootsOf_of_ne p hn]
  rfl

/-- `req` is what the loader's consistency check establishes, and what a successful selection leaves behind -/
theorem select_succeeds {p : Proj} (g : Good p) {names : List String} (hn : names ≠ [])
    (sub : ∀ n ∈ names, n ∈ keys p.services)
    (req : ∀ kv ∈ p.services, ∀ d ∈ kv.2.deps, d.2.required = true → d.1 ∈ keys p.services) (pol : Policy) :
    ∃ S, (∀ x, x ∈ S ↔ Reach p.services pol names x) ∧ withSelectedServices p names pol = .ok (selectResult p S) := by
  cases hq : withSelectedServices p names pol with
  | fuel => exact absurd hq (select_never_out_of_fuel g.1 g.2.2 names pol)
  | err =>
    rcases (select_error_iff g hn pol).1 hq with ⟨n, hnm, hnk⟩ | ⟨x, hx, _, hm⟩
    · exact absurd (sub n hnm) hnk
    · obtain ⟨s, hs⟩ := exists_lookup_of_mem_keys ((reach_enabled hx))
      rw [hs] at hm
      obtain ⟨kv, hkv, hr, hmiss⟩ := hm
      exact absurd (req (x, s) (mem_of_lookup hs) kv hkv hr) hmiss
  | ok q =>
    obtain ⟨S, hS, rfl⟩ := select_ok_inv g.1 g.2.2 hn hq
    exact ⟨S, hS, rfl⟩

theorem selectWanted_eq_none_iff {p : Proj} (nd : (keys p.services).Nodup) (names : List String) (pol : Policy) :
    selectWanted p names pol = none ↔ Rejected p.services pol names := by
  simp only [selectWanted, Rejected, List.any_eq_true, decide_eq_true_eq, closure_eq_reach nd]
  split
  · exact ⟨fun _ => .inl ‹_›, fun _ => rfl⟩
  · rename_i h1
    split <;> rename_i h2 <;> simp only [List.any_eq_true, decide_eq_true_eq, closure_eq_reach nd] at h2
    · exact ⟨fun _ => .inr h2, fun _ => rfl⟩
    · exact ⟨nofun, fun c => (c.elim h1 h2).elim⟩

/-- the outcome the oracle expects (`selectWanted`) is the outcome of the model: rejected by one iff rejected by the other -/
theorem selectWanted_none_iff {p : Proj} (g : Good p) {names : List String} (hn : names ≠ []) (pol : Policy) :
    selectWanted p names pol = none ↔ withSelectedServices p names pol = .err :=
  (selectWanted_eq_none_iff g.1.1 names pol).trans (select_error_iff g hn pol).symm

/-- the disabled half of a successful selection (after the `fix:` commit): a non-selected service is the old service
minus its dependencies on the non-selected services whose name is not greater than its own -/
theorem select_moved_exact {p : Proj} (h : Partition p) (nk : NamesOK p) {names : List String} (hn : names ≠ []) {pol : Policy}
    {q : Proj} (hq : withSelectedServices p names pol = .ok q) (S : List String)
    (hS : ∀ x, x ∈ S ↔ Reach p.services pol names x) : SelectMovedSpec p S q := by
  obtain ⟨S', hS', rfl⟩ := select_ok_inv h nk hn hq
  rw [selectResult_congr p fun x => (hS' x).trans (hS x).symm]
  exact selectResult_movedSpec h S

theorem no_dangling_after_select {p : Proj} (g : Good p) {names : List String} (hn : names ≠ []) {pol : Policy}
    {q : Proj} (hq : withSelectedServices p names pol = .ok q) : NoDangling q := by
  obtain ⟨S, _, hs, _⟩ := select_exact g hn hq
  exact hs.2.1

theorem select_nothing (p : Proj) (pol : Policy) : withSelectedServices p [] pol = .ok p := rfl

/-- `WithoutUnnecessaryResources` keeps exactly the networks, volumes, secrets (service- and build-level) and
configs that enabled services reference, with their values, and touches nothing else -/
theorem prune_exact (p : Proj) : PruneSpec p (withoutUnnecessaryResources p) := by
  unfold withoutUnnecessaryResources
  rw [volSources_eq, secretSources_eq]
  exact ⟨rfl, rfl, rfl, restricted_pick _ _, restricted_pick _ _, restricted_pick _ _, restricted_pick _ _⟩

/-! ## the partition invariant -/

/-- one step: a successful operation on a good project returns a good project in which every known service is
still known exactly once (enabled or disabled), with its content carried over, `depends_on` possibly smaller and `environment` possibly more resolved -/
theorem partition_step {p q : Proj} (g : Good p) (o : Op) (hq : applyOp p o = .ok q) :
    Good q ∧ Carried p q := by
  obtain ⟨hp, sub⟩ := step_sub g.1 o hq
  obtain ⟨w, c⟩ := good_of_sub g.2.1 g.2.2 hp sub
  exact ⟨⟨hp, w⟩, c⟩

/-- **the partition invariant over histories**: whatever sequence of operations is applied (failed ones leave the
project unchanged), the enabled and disabled sets stay disjoint sets and every service is conserved -/
theorem partition_inv {p : Proj} (g : Good p) (ops : List Op) :
    Good (run p ops) ∧ Carried p (run p ops) := by
  induction ops generalizing p with
  | nil => exact ⟨g, Carried.refl g.2.1⟩
  | cons o os ih =>
    rw [run_cons]
    cases ho : applyOp p o with
    | ok q =>
      have s := partition_step g o ho
      exact ⟨(ih s.1).1, s.2.trans (ih s.1).2⟩
    | err => exact ih g
    | fuel => exact ih g

theorem history_conserved {p : Proj} (g : Good p) (ops : List Op) : Conserved p (run p ops) :=
  conserved_of_carried (partition_inv g ops).1.1 (partition_inv g ops).2

/-- "enabled services are active under the recorded profiles" (what a load establishes) is kept by every operation -/
theorem profilesOK_step {p q : Proj} (h : Partition p) (ok : ProfilesOK p) (o : Op) (hq : applyOp p o = .ok q) :
    ProfilesOK q := by
  cases o with
  | profiles P => cases hq; exact withProfiles_profilesOK h P
  | enable ns =>
    cases hq
    by_cases hn : ns = []
    · subst hn; exact ok
    · rw [withServicesEnabled_of_ne hn]; exact profilesOK_resolveEnabled (withProfiles_profilesOK h _)
  | disable ns =>
    cases hq
    intro kv hkv
    obtain ⟨_, s, hs, e⟩ := of_mem_withServicesDisabled_services h hkv
    rw [← e, (withServicesDisabled_rest p ns).1]
    exact ok (kv.1, s) (mem_of_lookup hs)
  | select ns pol =>
    by_cases hn : ns = []
    · subst hn; cases hq; exact ok
    · obtain ⟨S, _, rfl⟩ := select_ok_shape h.1 hn hq
      intro kv hkv
      obtain ⟨s, hm, _, e⟩ := mem_selectedPruned hkv
      rw [e]
      exact (withServicesDisabled_rest p _).1 ▸ ok (kv.1, s) hm
  | prune => cases hq; exact ok

theorem profilesOK_inv {p : Proj} (g : Good p) (ok : ProfilesOK p) (ops : List Op) : ProfilesOK (run p ops) := by
  induction ops generalizing p with
  | nil => exact ok
  | cons o os ih =>
    rw [run_cons]
    cases ho : applyOp p o with
    | ok q => exact ih (partition_step g o ho).1 (profilesOK_step g.1 ok o ho)
    | err => exact ih g ok
    | fuel => exact ih g ok

/-! ## independence of Go's map iteration order -/

theorem good_perm {p p' : Proj} (g : Good p) (e : SameProj p p') : Good p' :=
  ⟨partition_perm g.1 e, fun kv hkv => g.2.1 kv (mem_all_perm e hkv), fun kv hkv => g.2.2 kv (mem_all_perm e hkv)⟩

/-- `WithProfiles` is a function of the project and the profile list, whatever the iteration order -/
theorem profiles_perm {p p' : Proj} (h : Partition p) (e : SameProj p p') (P : List String) :
    LookEq (withProfiles p P).services (withProfiles p' P).services ∧
    LookEq (withProfiles p P).disabled (withProfiles p' P).disabled ∧
    (withProfiles p P).profiles = (withProfiles p' P).profiles := by
  have h' := partition_perm h e
  refine ⟨fun k => ?_, fun k => ?_, rfl⟩
  · rw [lookup_withProfiles_services h, lookup_withProfiles_services h', find_perm h e]
  · rw [lookup_withProfiles_disabled h, lookup_withProfiles_disabled h', find_perm h e]

/-- `WithServicesEnabled` is a function of the project and the (ordered) list of names -/
theorem enable_perm {p p' : Proj} (h : Partition p) (e : SameProj p p') (names : List String) :
    LookEq (withServicesEnabled p names).services (withServicesEnabled p' names).services ∧
    LookEq (withServicesEnabled p names).disabled (withServicesEnabled p' names).disabled ∧
    (withServicesEnabled p names).profiles = (withServicesEnabled p' names).profiles := by
  obtain ⟨es, ed⟩ := e.lookEq h
  by_cases hn : names = []
  · subst hn; exact ⟨es, ed, e.2.2.1⟩
  have ew : wantedProfiles p names = wantedProfiles p' names := by
    unfold wantedProfiles; simp only [mem_keys_lookEq es, ed _]
  rw [withServicesEnabled_of_ne hn, withServicesEnabled_of_ne hn, ew, e.2.2.1]
  have P := profiles_perm h e (p'.profiles ++ wantedProfiles p' names)
  refine ⟨fun k => ?_, P.2.1, P.2.2⟩
  rw [lookup_resolveEnabled_services, lookup_resolveEnabled_services, P.1 k]
  exact congrArg (fun env => Option.map (resolveEnvSvc env) _) e.2.2.2.2.2.2.2

/-- `WithServicesDisabled` is a function of the project and the (ordered) list of names -/
theorem disable_perm {p p' : Proj} (h : Partition p) (e : SameProj p p') (names : List String) :
    LookEq (withServicesDisabled p names).services (withServicesDisabled p' names).services ∧
    LookEq (withServicesDisabled p names).disabled (withServicesDisabled p' names).disabled :=
  withServicesDisabled_lookEq (e.lookEq h).1 (e.lookEq h).2 names

theorem prune_perm {p p' : Proj} (e : SameProj p p') :
    LookEq (withoutUnnecessaryResources p).networks (withoutUnnecessaryResources p').networks ∧
    LookEq (withoutUnnecessaryResources p).volumes (withoutUnnecessaryResources p').volumes ∧
    LookEq (withoutUnnecessaryResources p).secrets (withoutUnnecessaryResources p').secrets ∧
    LookEq (withoutUnnecessaryResources p).configs (withoutUnnecessaryResources p').configs := by
  have mem : ∀ (f : Svc → List String) (k : String),
      k ∈ p.services.flatMap (fun kv => f kv.2) ↔ k ∈ p'.services.flatMap (fun kv => f kv.2) := fun f k => by
    simp only [List.mem_flatMap, e.1.mem_iff]
  obtain ⟨_, _, _, e1, e2, e3, e4, _⟩ := e
  refine ⟨fun k => ?_, fun k => ?_, fun k => ?_, fun k => ?_⟩ <;>
    simp only [withoutUnnecessaryResources, lookup_pick, mem, e1, e2, e3, e4]

/-- the *keys* of the map built by `dependentsForService` (the `Name`s of the services depending on `s.Name`) do not
depend on the iteration order, for any project — even one with colliding `Name`s, where the value kept under a
colliding name does (`Neg.walk_not_perm_invariant_with_colliding_names`) -/
theorem dependents_keys_perm {svcs svcs' : AL Svc} (e : svcs.Perm svcs') (s : Svc) (y : String) :
    y ∈ keys (dependents svcs s) ↔ y ∈ keys (dependents svcs' s) := by
  simp only [mem_keys_dependents_names, e.mem_iff]

/-- without `NamesOK` the walk itself is order dependent (witness in `Neg/C15.lean`): the hypothesis is needed -/
theorem walk_perm_needs_names : ¬Neg.WalkPermInvariant := Neg.walk_not_perm_invariant_with_colliding_names

/-- `WithSelectedServices` (after the `fix:` commit) is a function of the project, the names and the policy:
whatever the iteration order of the service map, both halves of the result are the same maps.
(Before the fix only the enabled half was: `Neg/C15.lean`.) -/
theorem select_perm {p p' : Proj} (h : Partition p) (nk : NamesOK p) (e : SameProj p p') {names : List String} {pol : Policy}
    {q q' : Proj} (hq : withSelectedServices p names pol = .ok q) (hq' : withSelectedServices p' names pol = .ok q') :
    LookEq q.services q'.services ∧ LookEq q.disabled q'.disabled ∧ q.profiles = q'.profiles := by
  obtain ⟨es, ed⟩ := e.lookEq h
  by_cases hn : names = []
  · subst hn; cases hq; cases hq'; exact ⟨es, ed, e.2.2.1⟩
  obtain ⟨S, hS, rfl⟩ := select_ok_inv h nk hn hq
  obtain ⟨S', hS', rfl⟩ := select_ok_inv (partition_perm h e) (fun kv hkv => nk kv (mem_all_perm e hkv)) hn hq'
  have same : ∀ x, x ∈ S' ↔ x ∈ S := fun x => by
    rw [hS, hS']
    exact ⟨reach_lookEq es.symm fun _ => id, reach_lookEq es fun _ => id⟩
  rw [selectResult_congr p' same]
  refine ⟨(selectResult_lookEq h e S).1, (selectResult_lookEq h e S).2, ?_⟩
  exact ((withServicesDisabled_rest p _).1.trans e.2.2.1).trans (withServicesDisabled_rest p' _).1.symm

theorem select_perm_outcome {p p' : Proj} (g : Good p) (e : SameProj p p') {names : List String} (hn : names ≠ [])
    (pol : Policy) : withSelectedServices p names pol = .err ↔ withSelectedServices p' names pol = .err := by
  have es := (e.lookEq g.1).1
  rw [select_error_iff g hn, select_error_iff (good_perm g e) hn]
  exact ⟨rejected_lookEq es fun _ => id, rejected_lookEq es.symm fun _ => id⟩

/-- before the `fix:` commit the full-strength statement failed (witness in `Neg/C15.lean`, on the old loop) -/
theorem select_perm_failed_before_fix : ¬Neg.SelectPermInvariant := Neg.select_not_perm_invariant

/-! ## `ForEachService` -/

/-- no option = `IncludeDependencies` (the "backward compatibility" branch of `ForEachService` and the initial value
of `withServicesOptions` agree) -/
theorem policy_default : policyOf [] = .deps := rfl

theorem policy_last_wins (opts : List Policy) (o : Policy) : policyOf (opts ++ [o]) = o := by
  simp [policyOf, List.foldl_append]

/-- recording the calls of `fn` does not change the walk: `forEachCalls` refines `forEachService` (so every theorem
about the set recorded by `WithSelectedServices` is a theorem about `ForEachService`) -/
theorem forEach_refines (p : Proj) (names : List String) (opts : List Policy) :
    (forEachCalls p names opts).forget = forEachService p names (policyOf opts) :=
  walkC_forget _ _ _ _ _ _ _

theorem forEach_all (p : Proj) (pol : Policy) :
    forEachService p [] pol = forEachService p (keys p.services) pol := by
  unfold forEachService
  simp only [walk]
  cases hk : keys p.services <;> simp

theorem forEach_never_out_of_fuel {p : Proj} (h : Partition p) (nk : NamesOK p) (names : List String) (opts : List Policy) :
    forEachCalls p names opts ≠ .outOfFuel :=
  (forEachCalls_dfs p names opts).ne_fuel

/-- **the callback sequence of `ForEachService`**: `fn` is called exactly once with every service of the closure of
the names (all enabled services when no name is given), and a service pulled in by `x` — a dependency of `x`, or a
dependent of `x` under `IncludeDependents` — is called before `x`, unless it lies on a dependency cycle through `x`.
Holds for every iteration order of the maps (the model ranges in list order; the statement does not mention it). -/
theorem forEach_calls_exact {p : Proj} (h : Partition p) (nk : NamesOK p) (names : List String) (opts : List Policy)
    {seen calls : List String} (hq : forEachCalls p names opts = .ok seen calls) :
    ForEachSpec p names (policyOf opts) calls := by
  have nd := h.1
  have C := forEachCalls_dfs p names opts
  rw [hq] at C
  obtain ⟨new, e, cnd, a, b, t⟩ := C.ok.2.topo nd nk.services _ _ rfl
  cases e
  have mem : ∀ x, x ∈ new ↔ x ∈ closure p.services (policyOf opts) (rootsOf p names) := fun x => by
    rw [closure_eq_reach nd, ← forEachCalls_ok nd nk.services hq]
    exact ⟨fun hx => (a x hx).1, fun hx => (b x hx).resolve_left nofun⟩
  refine ⟨cnd, ⟨fun x => (mem x).1, fun x => (mem x).2⟩, fun x hx y hy => ?_⟩
  have hxy := (mem_succ_iff nd _ x y).1 hy
  rcases t x hx y hxy with q | q | q
  · cases q
  · exact .inl (before_of_Before cnd q)
  · exact .inr ((closure_eq_reach nd _ _ x).2 (reach_of_star List.mem_cons_self (edge_target_mem hxy) q))

/-- in particular on an acyclic dependency graph every dependency is started before the service that needs it -/
theorem forEach_dependencies_first {p : Proj} (h : Partition p) (nk : NamesOK p) (names : List String) (opts : List Policy)
    {seen calls : List String} (hq : forEachCalls p names opts = .ok seen calls)
    (acyclic : ∀ x y, Edge p.services (policyOf opts) x y → ¬ Reach p.services (policyOf opts) [y] x)
    {x y : String} (hx : x ∈ calls) (hxy : Edge p.services (policyOf opts) x y) : before calls y x = true :=
  ((forEach_calls_exact h nk names opts hq).2.2 x hx y ((mem_succ_iff h.1 _ x y).2 hxy)).resolve_right
    fun q => acyclic x y hxy ((closure_eq_reach h.1 _ _ x).1 q)

theorem forEach_rejected_iff {p : Proj} (g : Good p) (names : List String) (opts : List Policy) :
    forEachCalls p names opts = .noSuchService ↔
      (∃ n ∈ rootsOf p names, n ∉ keys p.services) ∨
      ∃ x, Reach p.services (policyOf opts) (rootsOf p names) x ∧ MissingRequired p.services (policyOf opts) x :=
  forEachCalls_err_iff g.1.1 g.2.2.services g.wf

/-- `ForEachService` fails ("no such service") exactly when the property's reference outcome is a rejection: a requested
name is not an enabled service, or a service of the closure has a required dependency that is not enabled -/
theorem forEach_error_iff {p : Proj} (g : Good p) (names : List String) (opts : List Policy) :
    forEachCalls p names opts = .noSuchService ↔ eachWanted p names (policyOf opts) = none :=
  (forEach_rejected_iff g names opts).trans (selectWanted_eq_none_iff g.1.1 _ _).symm

/-- without the acyclicity hypothesis `forEach_dependencies_first` is false (witness in `Neg/C15.lean`); the
full-strength statement is `forEach_calls_exact`, which excuses exactly the edges on a cycle -/
theorem forEach_dependencies_first_needs_acyclic : ¬Neg.DepsFirst := Neg.deps_first_fails_on_a_cycle

/-- the calls of `fn` are a function of the project, the names and the options **as a set** (their order among
siblings is Go's map order): two iteration orders of the same maps give the same set of calls -/
theorem forEach_calls_perm {p p' : Proj} (h : Partition p) (nk : NamesOK p) (e : SameProj p p') (names : List String)
    (opts : List Policy) {seen calls seen' calls' : List String}
    (hq : forEachCalls p names opts = .ok seen calls) (hq' : forEachCalls p' names opts = .ok seen' calls') :
    calls.Perm calls' := by
  have es := (e.lookEq h).1
  have h' := partition_perm h e
  have S := forEach_calls_exact h nk names opts hq
  have S' := forEach_calls_exact h' (fun kv hkv => nk kv (mem_all_perm e hkv)) names opts hq'
  refine (List.perm_ext_iff_of_nodup S.1 S'.1).2 fun x => ⟨fun hx => S'.2.1.2 x ?_, fun hx => S.2.1.2 x ?_⟩
  · rw [closure_eq_reach h'.1]
    exact reach_lookEq es (mem_rootsOf_lookEq es names) ((closure_eq_reach h.1 _ _ x).1 (S.2.1.1 x hx))
  · rw [closure_eq_reach h.1]
    exact reach_lookEq es.symm (mem_rootsOf_lookEq es.symm names)
      ((closure_eq_reach h'.1 _ _ x).1 (S'.2.1.1 x hx))

theorem forEach_outcome_perm {p p' : Proj} (g : Good p) (e : SameProj p p') (names : List String) (opts : List Policy) :
    forEachCalls p names opts = .noSuchService ↔ forEachCalls p' names opts = .noSuchService := by
  have es := (e.lookEq g.1).1
  rw [forEach_rejected_iff g, forEach_rejected_iff (good_perm g e)]
  exact ⟨rejected_lookEq es (mem_rootsOf_lookEq es names),
    rejected_lookEq es.symm (mem_rootsOf_lookEq es.symm names)⟩

/-- `WithSelectedServices(names, o₁ … oₙ)` is `WithSelectedServices(names, oₙ)`; without option it is
`WithSelectedServices(names, IncludeDependencies)` -/
theorem select_options (p : Proj) (names : List String) (opts : List Policy) (o : Policy) :
    withSelectedServicesOpts p names (opts ++ [o]) = withSelectedServices p names o ∧
    withSelectedServicesOpts p names [] = withSelectedServices p names .deps := by
  unfold withSelectedServicesOpts
  rw [policy_last_wins]
  exact ⟨rfl, rfl⟩

/-! ## accessors -/

/-- `ServiceNames()` is the sorted list of the enabled keys … -/
theorem serviceNames_exact (p : Proj) :
    (serviceNames p).Perm (keys p.services) ∧ (serviceNames p).Pairwise (· ≤ ·) :=
  ⟨sortNames_perm _, sortNames_sorted _⟩

/-- … hence a function of the map, not of its iteration order (same for `DisabledServiceNames`) -/
theorem serviceNames_perm {p p' : Proj} (e : SameProj p p') :
    serviceNames p = serviceNames p' ∧ disabledServiceNames p = disabledServiceNames p' :=
  ⟨sortNames_eq_of_perm (e.1.map _), sortNames_eq_of_perm (e.2.1.map _)⟩

/-- `GetService` reads the partition: a service value iff the name is enabled, `ErrDisabled` iff it is (only)
disabled, `ErrNotFound` iff the project does not know it -/
theorem getService_reads_partition (p : Proj) (n : String) :
    (∀ s, getService p n = .ok s ↔ lookup n p.services = some s) ∧
    (getService p n = .disabled ↔ n ∉ keys p.services ∧ n ∈ keys p.disabled) ∧
    (getService p n = .notFound ↔ n ∉ known p) := by
  unfold getService
  rw [has_eq]
  cases hs : lookup n p.services with
  | some s => simp [mem_known, keys_of_lookup hs]
  | none => by_cases hd : n ∈ keys p.disabled <;> simp [mem_known, lookup_eq_none.1 hs, hd]

theorem getServicesLoop_ok (p : Proj) : ∀ (ns : List String) (acc m : AL Svc), getServicesLoop p ns acc = .ok m →
    (∀ n ∈ ns, n ∈ keys p.services) ∧ ∀ k, lookup k m = if k ∈ ns then lookup k p.services else lookup k acc := by
  intro ns
  induction ns with
  | nil => rintro acc m ⟨⟩; simp
  | cons n ns ih =>
    intro acc m h
    unfold getServicesLoop at h
    cases hg : getService p n with
    | ok s =>
      rw [hg] at h
      have hl := ((getService_reads_partition p n).1 s).1 hg
      obtain ⟨a, b⟩ := ih _ _ h
      refine ⟨fun x hx => (List.mem_cons.1 hx).elim (fun e => e ▸ keys_of_lookup hl) (a x), fun k => ?_⟩
      rw [b k, lookup_insert]
      by_cases hk : k ∈ ns
      · simp [hk]
      · by_cases hkn : k = n
        · subst hkn; simp [hk, hl]
        · simp [hk, hkn]
    | disabled => rw [hg] at h; cases h
    | notFound => rw [hg] at h; cases h

/-- `GetServices(names…)`: succeeds only if every name is enabled and then returns exactly the named enabled
services; without a name it returns the service map -/
theorem getServices_exact (p : Proj) (names : List String) (m : AL Svc) (h : getServices p names = .ok m) :
    (∀ n ∈ names, n ∈ keys p.services) ∧
    ∀ k, lookup k m = if names = [] ∨ k ∈ names then lookup k p.services else none := by
  unfold getServices at h
  by_cases hn : names = []
  · subst hn; cases h; simp
  · rw [if_neg (by simpa using hn)] at h
    obtain ⟨a, b⟩ := getServicesLoop_ok p names [] m h
    exact ⟨a, fun k => by rw [b k]; simp [hn]⟩

/-- `GetDependentsForService(s)` of an enabled service filed under its own name: exactly the services the
`IncludeDependents` policy pulls in, sorted -/
theorem getDependents_exact {p : Proj} (nd : (keys p.services).Nodup) (nk : NamesOK p) {x : String} {s : Svc}
    (hs : lookup x p.services = some s) (y : String) :
    y ∈ getDependentsForService p s ↔ Edge p.services .dependents x y := by
  rw [getDependentsForService, mem_sortNames, mem_keys_dependents nk.services (nk.services _ (mem_of_lookup hs))]
  exact ⟨fun ⟨s', hm, hd⟩ => ⟨keys_of_lookup hs, s', lookup_of_mem nd hm, hd⟩,
    fun ⟨_, s', hl, hd⟩ => ⟨s', mem_of_lookup hl, hd⟩⟩

/-! ## `Services.GetProfiles` -/

/-- (the sorted view of) `GetProfiles` lists exactly the profiles named by a service of the map, each once … -/
theorem getProfiles_exact (svcs : AL Svc) :
    (∀ x, x ∈ getProfiles svcs ↔ ∃ kv ∈ svcs, x ∈ kv.2.profiles) ∧ (getProfiles svcs).Nodup ∧
    (getProfiles svcs).Pairwise (· ≤ ·) := by
  refine ⟨fun x => ?_, (sortNames_perm _).nodup_iff.2 (nodup_eraseDups _), sortNames_sorted _⟩
  rw [getProfiles, getProfilesPre, mem_sortNames, List.mem_eraseDups, List.mem_flatMap]

/-- … hence a function of the map and not of its iteration order (the raw slice is not: `Neg/C15.lean`) -/
theorem getProfiles_perm {svcs svcs' : AL Svc} (e : svcs.Perm svcs') : getProfiles svcs = getProfiles svcs' := by
  refine sortNames_eq_of_perm ((List.perm_ext_iff_of_nodup (nodup_eraseDups _) (nodup_eraseDups _)).2 fun x => ?_)
  simp only [List.mem_eraseDups, List.mem_flatMap, e.mem_iff]

theorem getProfiles_raw_order_dependent : ¬Neg.GetProfilesPermInvariant :=
  Neg.getProfiles_raw_order_dependent

/-- the profiles `GetProfiles` reports for the disabled services named in a `WithServicesEnabled` call are the
profiles that call activates (`wantedProfiles`), as a set -/
theorem getProfiles_of_named_disabled {p : Proj} (h : Partition p) (names : List String) (x : String) :
    x ∈ wantedProfiles p names ↔
      x ∈ getProfiles (p.disabled.filter fun kv => kv.1 ∈ names ∧ kv.1 ∉ keys p.services) := by
  rw [(getProfiles_exact _).1, wantedProfiles, List.mem_flatMap]
  constructor
  · rintro ⟨n, hn, hx⟩
    split at hx
    · cases hx
    · rename_i he
      cases hl : lookup n p.disabled with
      | none => rw [hl] at hx; cases hx
      | some s => exact ⟨(n, s), List.mem_filter.2 ⟨mem_of_lookup hl, by simp [hn, he]⟩, by rwa [hl] at hx⟩
  · rintro ⟨kv, hkv, hx⟩
    obtain ⟨hm, hc⟩ := List.mem_filter.1 hkv
    rw [decide_eq_true_eq] at hc
    refine ⟨kv.1, hc.1, ?_⟩
    rw [if_neg hc.2, lookup_of_mem h.2.1 hm]
    exact hx

/-! ## compositions -/

theorem disable_disable (p : Proj) (a b : List String) :
    withServicesDisabled (withServicesDisabled p a) b = withServicesDisabled p (a ++ b) :=
  (List.foldl_append ..).symm

theorem prune_idempotent (p : Proj) :
    LookEq (withoutUnnecessaryResources (withoutUnnecessaryResources p)).networks (withoutUnnecessaryResources p).networks ∧
    LookEq (withoutUnnecessaryResources (withoutUnnecessaryResources p)).volumes (withoutUnnecessaryResources p).volumes ∧
    LookEq (withoutUnnecessaryResources (withoutUnnecessaryResources p)).secrets (withoutUnnecessaryResources p).secrets ∧
    LookEq (withoutUnnecessaryResources (withoutUnnecessaryResources p)).configs (withoutUnnecessaryResources p).configs :=
  ⟨pick_pick _ _, pick_pick _ _, pick_pick _ _, pick_pick _ _⟩

/-- `WithProfiles` repartitions **from the union of both sets**: the result depends on the services known to the project
and not on how they are currently split, so applying it after another `WithProfiles` forgets the earlier one -/
theorem profiles_forgets_partition {p : Proj} (h : Partition p) (P Q : List String) :
    LookEq (withProfiles (withProfiles p P) Q).services (withProfiles p Q).services ∧
    LookEq (withProfiles (withProfiles p P) Q).disabled (withProfiles p Q).disabled ∧
    (withProfiles (withProfiles p P) Q).profiles = (withProfiles p Q).profiles := by
  have hp := withProfiles_partition h P
  refine ⟨fun k => ?_, fun k => ?_, rfl⟩
  · rw [lookup_withProfiles_services hp, lookup_withProfiles_services h, find_withProfiles h]
  · rw [lookup_withProfiles_disabled hp, lookup_withProfiles_disabled h, find_withProfiles h]

theorem profiles_idempotent {p : Proj} (h : Partition p) (P : List String) :
    LookEq (withProfiles (withProfiles p P) P).services (withProfiles p P).services ∧
    LookEq (withProfiles (withProfiles p P) P).disabled (withProfiles p P).disabled :=
  ⟨(profiles_forgets_partition h P P).1, (profiles_forgets_partition h P P).2.1⟩

theorem profiles_history {p : Proj} (h : Partition p) (Ps : List (List String)) (Q : List String) :
    LookEq (run p ((Ps ++ [Q]).map Op.profiles)).services (withProfiles p Q).services ∧
    LookEq (run p ((Ps ++ [Q]).map Op.profiles)).disabled (withProfiles p Q).disabled := by
  induction Ps generalizing p with
  | nil => exact ⟨fun _ => rfl, fun _ => rfl⟩
  | cons P Ps ih =>
    have := ih (withProfiles_partition h P)
    have f := profiles_forgets_partition h P Q
    exact ⟨fun k => (this.1 k).trans (f.1 k), fun k => (this.2 k).trans (f.2.1 k)⟩

/-- a service that was enabled, on a project as a load leaves it, comes back when it is disabled and then enabled by
name — whatever its profiles (they are activated).  What does *not* come back are the `depends_on` entries the other
services lost when it was disabled (`history_conserved`: dependencies only shrink). -/
theorem enable_undoes_disable {p : Proj} (g : Good p) (ok : ProfilesOK p) {n : String} (hn : n ∈ keys p.services) :
    n ∈ keys (withServicesEnabled (withServicesDisabled p [n]) [n]).services := by
  have st := partition_step g (.disable [n]) rfl
  exact enable_enables_named st.1.1 (profilesOK_step g.1 ok (.disable [n]) rfl) List.mem_cons_self
    ((st.2.known n).1 (mem_known.2 (.inl hn)))

/-- **selecting is idempotent**: selecting the same names with the same policy in the result of a successful selection
succeeds and changes nothing — the enabled services are the same map, the disabled services and the profiles the same -/
theorem select_idempotent {p : Proj} (g : Good p) {names : List String} (hn : names ≠ []) {pol : Policy}
    {q : Proj} (hq : withSelectedServices p names pol = .ok q) :
    ∃ q', withSelectedServices q names pol = .ok q' ∧ LookEq q'.services q.services ∧ q'.disabled = q.disabled ∧
      q'.profiles = q.profiles := by
  obtain ⟨S, hS, sp, _, _⟩ := select_exact g hn hq
  have gq : Good q := (partition_step g (.select names pol) hq).1
  -- in `q` the closure of the names is all of `q`
  have keysq : ∀ x, x ∈ keys q.services ↔ Reach q.services pol names x :=
    fun x => ⟨fun hx => reach_in_selection hS sp ((hS x).1 (sp.1.1 x hx)), reach_enabled⟩
  -- the names are enabled in `p` (else the first selection would have failed), hence in `q`; nothing dangles in `q`
  have sub : ∀ n ∈ names, n ∈ keys q.services := fun n hnm => by
    have : n ∈ keys p.services := Classical.byContradiction fun c => by
      have := (select_error_iff g hn pol).2 (.inl ⟨n, hnm, c⟩)
      rw [hq] at this; cases this
    exact (keysq n).2 (reach_in_selection hS sp (.root hnm this))
  obtain ⟨S', hS', hq'⟩ := select_succeeds gq hn sub (fun kv hkv d hd _ => sp.2.1 kv hkv d.1 (mem_keys_of_mem hd)) pol
  have hset : ∀ x, x ∈ S' ↔ x ∈ keys q.services := fun x => (hS' x).trans (keysq x).symm
  refine ⟨_, hq', fun k => ?_, ?_, (withServicesDisabled_rest q _).1⟩
  · show lookup k (selectedPruned S' q.services) = lookup k q.services
    rw [lookup_selectedPruned]
    cases hl : lookup k q.services with
    | none => simp
    | some t =>
      rw [if_pos ((hset k).2 (keys_of_lookup hl)), Option.map_some, pruneDeps, List.filter_eq_self.2]
      exact fun d hd => decide_eq_true ((hset d.1).2 (sp.2.1 (k, t) (mem_of_lookup hl) d.1 (mem_keys_of_mem hd)))
  · show (withServicesDisabled q (unselected S' q.services)).disabled = q.disabled
    have : q.services.filter (fun kv => decide (kv.1 ∉ S')) = [] :=
      List.filter_eq_nil_iff.2 fun kv hkv => by simpa using (hset kv.1).2 (mem_keys_of_mem hkv)
    rw [unselected, nonSelected, this]; rfl

/-! ## non-vacuity -/

def exSvc (name : String) (profiles : List String) (deps : AL Dep) : Svc :=
  { name := name, image := "i", profiles := profiles, deps := deps, nets := ["n"], vols := [("volume", "v")], secrets := [], build := some ["s"], configs := [] }

def exProj : Proj :=
  { services := [("web", exSvc "web" [] [("db", ⟨true, "service_started"⟩), ("cache", ⟨false, "service_started"⟩)]),
                 ("db", exSvc "db" [] []), ("job", exSvc "job" [] [("db", ⟨true, "service_healthy"⟩)])]
    disabled := [("cache", exSvc "cache" ["p"] [])]
    profiles := [], networks := [("n", "N"), ("m", "M")], volumes := [("v", "V")], secrets := [("s", "S"), ("t", "T")], configs := [] }

example : Good exProj := ⟨by decide +kernel, by decide +kernel, by decide +kernel⟩
example : withSelectedServices exProj ["web"] .deps = .ok (selectResult exProj ["db", "web"]) := by decide +kernel
example : keys (selectResult exProj ["db", "web"]).services = ["web", "db"] ∧
    keys (selectResult exProj ["db", "web"]).disabled = ["cache", "job"] := by decide +kernel
example : Reach exProj.services .deps ["web"] "db" :=
  (forEachService_ok (p := exProj) (names := ["web"]) (pol := .deps) (by decide +kernel) (fun kv hkv => by revert kv; decide +kernel)
    (set := ["db", "web"]) (by decide +kernel) "db").1 (by decide +kernel)
example : keys (withServicesEnabled exProj ["cache"]).services = ["web", "db", "job", "cache"] ∧
    (withServicesEnabled exProj ["cache"]).profiles = ["p"] := by decide +kernel
example : keys (withoutUnnecessaryResources exProj).networks = ["n"] ∧
    keys (withoutUnnecessaryResources exProj).secrets = ["s"] := by decide +kernel
example : withSelectedServices exProj ["cache"] .deps = .err := by decide +kernel

-- `web → db (required), cache (optional, disabled)`, `job → db`: the callbacks of `ForEachService(["web","job"])`
example : forEachCalls exProj ["web", "job"] [] = .ok ["job", "db", "web"] ["db", "web", "job"] := by decide +kernel
example : ForEachSpec exProj ["web", "job"] .deps ["db", "web", "job"] := by decide +kernel
-- no name: all enabled services; `IncludeDependents` from `db`: the dependents come first
example : forEachCalls exProj [] [.ignore] = .ok ["job", "db", "web"] ["web", "db", "job"] := by decide +kernel
example : forEachCalls exProj ["db"] [.deps, .dependents] = .ok ["job", "web", "db"] ["web", "job", "db"] := by decide +kernel
example : ForEachSpec exProj ["db"] .dependents ["web", "job", "db"] := by decide +kernel
-- the acyclicity hypothesis of `forEach_dependencies_first` is satisfiable (and decided here through the executable closure)
example : ∀ x ∈ keys exProj.services, ∀ y ∈ succ exProj.services .deps x, x ∉ closure exProj.services .deps [y] := by decide +kernel
-- a required dependency on a disabled service is a rejection; an optional one is not
example : forEachCalls exProj ["cache"] [] = .noSuchService ∧ eachWanted exProj ["cache"] .deps = none := by decide +kernel
example : serviceNames exProj = ["db", "job", "web"] ∧ disabledServiceNames exProj = ["cache"] := by decide +kernel
example : getService exProj "cache" = .disabled ∧ getService exProj "zz" = .notFound := by decide +kernel
example : getServices exProj ["web", "cache"] = .disabled ∧ getServices exProj ["zz", "cache"] = .notFound := by decide +kernel
example : getDependentsForService exProj (exSvc "db" [] []) = ["job", "web"] := by decide +kernel
example : (withProfiles (withProfiles exProj ["p"]) []).services = (withProfiles exProj []).services := by decide +kernel

end CV.Sel
