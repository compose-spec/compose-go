import ComposeVerif.Lemmas.MergeFrame
import ComposeVerif.Props.C04
/-!
# C04 — "Anything a later file does not mention is preserved unchanged", at any depth

`merge_absent_preserved` (`Props/C04.lean`) is the frame law one level deep.  Here it is composed along a whole key path:

* `deep_frame` — if the later file does not mention `path` (`Unmentioned`: its mappings end before the path does) and no
  custom rule / `x-` key lies on the way, the value at `path` in the merged model is the earlier value, untouched —
  for any trees, any fuel, any depth;
* `merge_deep_frame` — the same for `override.Merge` (whole documents);
* `service_attr_frame_partial` — instantiated for `services.<svc>.<attr>`, every service and attribute name: a later file
  that does not mention the service, or mentions the service but not the attribute, leaves the attribute as it was —
  **provided neither name starts with `x-`** (for the attribute the proviso comes with `RuleFree`, which tests every key of
  the path; `deep_frame` uses it only of keys the later file has, and it never has the last one).  Without the proviso the
  statement is false: `mergeMappings` treats every key starting with `x-` as an extension and replaces its value as a
  whole, also where the key is a user-chosen service name (`Neg/C04Frame.lean`: `not_service_attr_frame`,
  `xprefix_service_is_replaced`; finding `xprefix-name-replaced:services`, replayed on the real loader by
  `corpus/C04/finding-xprefix-service-replaced.json`).
-/
namespace CV.C04
open CV CV.Val CV.Merge CV.Unicity CV.Reset CV.Override

theorem deep_frame : ∀ (path : List String) (n : Nat) (p : TPath) (e o m v : Val),
    mergeYaml n e o p = .ok m → getPath e path = some v → Unmentioned o path → RuleFree p path →
    getPath m path = some v
  | [], _, _, _, o, _, _, _, _, hu, _ => absurd hu (unmentioned_nil o)
  | k :: r, 0, _, _, _, _, _, hm, _, _, _ => by cases hm
  | k :: r, n + 1, p, e, o, m, v, hm, hg, hu, ⟨hrule, hx, hfree⟩ => by
    obtain ⟨a, x, rfl, ha, hg⟩ := getPath_cons_some.1 hg
    obtain ⟨b, rfl, hnd, hcase⟩ := unmentioned_cons.1 hu
    rw [merge_map_unfold n a b p hrule] at hm
    obtain ⟨m', hm', hmeq⟩ := bind_eq_ok hm
    cases hmeq
    refine getPath_cons_some.2 ⟨m', ?_⟩
    -- at `k` the later file has nothing (the earlier value stays) or a value that does not mention the rest of the path
    cases hb : lookup k b with
    | none => exact ⟨x, rfl, by rw [merge_absent_preserved n a b m' p hnd hm' k hb]; exact ha, hg⟩
    | some y =>
      obtain ⟨z, hz, hlz⟩ := merge_common_key_recursive n a b m' p hnd hm' k x y ha hb hx
      exact ⟨z, rfl, hlz, deep_frame r n (next p k) x y z v hz hg (hcase y hb) hfree⟩

theorem merge_deep_frame (base over m v : Val) (path : List String)
    (h : merge base over = .ok m) (hg : getPath base path = some v) (hu : Unmentioned over path)
    (hf : RuleFree TPath.root path) : getPath m path = some v := by
  unfold merge at h
  split at h
  · exact deep_frame path _ _ _ _ _ _ h hg hu hf
  · cases h

/-- on the way to `services.<svc>.<attr>` no custom rule intervenes, whatever the names (dots included) -/
theorem service_attr_rule_free (svc attr : String) (hs : hasXPrefix svc = false) (ha : hasXPrefix attr = false) :
    RuleFree TPath.root ["services", svc, attr] := by
  have h1 : next TPath.root "services" = ["services"] := by decide +kernel
  have h2 : next ["services"] svc = ["services", esc svc] := by simp [next, TPath.root]
  refine ⟨root_has_no_rule, by decide +kernel, ?_, hs, ?_, ha, trivial⟩
  · rw [h1]; exact ruleAt_short _ (by simp)
  · rw [h1, h2]; exact ruleAt_short _ (by simp)

/-- **a later file that does not mention `services.<svc>.<attr>` leaves it unchanged** (names not starting with `x-`) — whether it has no `services`
section, does not mention the service, or mentions the service without the attribute; every name, every value -/
theorem service_attr_frame_partial (base over m v : Val) (svc attr : String)
    (hs : hasXPrefix svc = false) (ha : hasXPrefix attr = false)
    (h : merge base over = .ok m) (hg : getPath base ["services", svc, attr] = some v)
    (hu : Unmentioned over ["services", svc, attr]) : getPath m ["services", svc, attr] = some v :=
  merge_deep_frame base over m v _ h hg hu (service_attr_rule_free svc attr hs ha)

/-- non-vacuity: the later file mentions the service (another attribute) but not `image` -/
example : Unmentioned (.map [("services", .map [("web", .map [("command", .str "x")])])]) ["services", "web", "image"] := by
  simp [Unmentioned, keys, lookup]

end CV.C04
