import ComposeVerif.Lemmas.C02DeepMerge
import ComposeVerif.Lemmas.Path
import ComposeVerif.Lemmas.Merge
/-!
# C02 — `override.mergeYaml` is independent of map iteration order **at every nesting level at once**

Stated about C04's model `CV.Merge.mergeYaml` itself (the model tied to `override.Merge` / `ExtendService` by the C04
correspondence).  `Eqv` = the same tree up to the order of the entries of every mapping, at any depth (sequences stay
ordered); `WF` = every mapping has distinct keys (what a decoded YAML document satisfies).  Outcomes are compared with
`OutEqv`: both merges succeed with `Eqv` results, or both fail (which of several failures is reported may depend on
the order: error texts are never part of the observation).

Scope: **every rule of `mergeSpecials`, `mergeIPAMConfig` included, every path, every fuel** (`mergeYaml_ew`), hence
`override.Merge` and `override.ExtendService` as wholes (`merge_…`, `extendService_…`, with the fuel each of them
computes from its own override — `fuelFor` is itself invariant).  Three theorems state it for the paths outside
`networks` (`Below`, a hypothesis they do not use); they are instances of `mergeYaml_all_levels_all_rules`.
-/
namespace CV.Deep.Props
open CV CV.Merge CV.Deep
open CV.Det.Whole (EW)
open CV.Det.Stage (wf_map_nil wf_map_cons)
open CV.Val (lookup insert keys KVs)

/-- **every rule, every path, every fuel**: equivalent bases and equivalent overrides — the entries of any mapping, at any
depth, in any order — merge to equivalent trees, or both merges fail -/
theorem mergeYaml_all_levels_all_rules (n : Nat) (p : TPath) {e e' o o' : Val}
    (he : Eqv e e') (ho : Eqv o o') (we : WF e) (we' : WF e') (wo : WF o) (wo' : WF o') :
    OutEqv Eqv (mergeYaml n e o p) (mergeYaml n e' o' p) :=
  (mergeYaml_ew n p e e' o o' ⟨he, we, we'⟩ ⟨ho, wo, wo'⟩).mono (fun _ _ h => h.1)

/-- the same, stated for the paths `Below p` (the hypothesis is not used) -/
theorem mergeYaml_deep_order_independent (n : Nat) (p : TPath) (hp : Below p) {e e' o o' : Val}
    (he : Eqv e e') (ho : Eqv o o') (we : WF e) (we' : WF e') (wo : WF o) (wo' : WF o') :
    OutEqv Eqv (mergeYaml n e o p) (mergeYaml n e' o' p) :=
  mergeYaml_all_levels_all_rules n p he ho we we' wo wo'

/-- the same for `mergeMappings` (the loop that ranges over the override mapping) -/
theorem mergeMappings_deep_order_independent (n : Nat) (p : TPath) (hp : Below p) {a a' b b' : KVs}
    (ha : MEqv a a') (hb : MEqv b b') (wa : MWF a) (wa' : MWF a') (wb : MWF b) (wb' : MWF b') :
    OutEqv MEqv (mergeKVs n a b p) (mergeKVs n a' b' p) :=
  (mergeKVsWith_congr (mergeYaml n) p (fun k => mergeYaml_ew n (next p k)) a a' b b' ⟨ha, wa, wa'⟩ ⟨hb, wb, wb'⟩).mono
    (fun _ _ h => h.1)

/-- `override.ExtendService` (rooted at `services.x`) with any common fuel -/
theorem extendService_deep_order_independent (n : Nat) {base base' over over' : Val}
    (hb : Eqv base base') (ho : Eqv over over') (wb : WF base) (wb' : WF base') (wo : WF over) (wo' : WF over') :
    OutEqv Eqv (mergeYaml n base over ["services", "x"]) (mergeYaml n base' over' ["services", "x"]) :=
  mergeYaml_all_levels_all_rules n _ hb ho wb wb' wo wo'

theorem mergeYaml_deep_isOk (n : Nat) (p : TPath) (hp : Below p) {e e' o o' : Val}
    (he : Eqv e e') (ho : Eqv o o') (we : WF e) (we' : WF e') (wo : WF o) (wo' : WF o') :
    (mergeYaml n e o p).isOk = (mergeYaml n e' o' p).isOk := by
  have h := mergeYaml_all_levels_all_rules n p he ho we we' wo wo'
  cases h1 : mergeYaml n e o p <;> cases h2 : mergeYaml n e' o' p <;> simp only [h1, h2, OutEqv] at h <;>
    first | rfl | exact h.elim

/-- the merge returns trees whose mappings have distinct keys when its arguments do (so stages can be chained) -/
theorem mergeYaml_preserves_wf (n : Nat) (p : TPath) {e o z : Val} (we : WF e) (wo : WF o)
    (h : mergeYaml n e o p = .ok z) : WF z := by
  have := mergeYaml_ew n p e e o o (EW.refl we) (EW.refl wo)
  rw [h] at this; exact this.2.1

/-- **`override.Merge` as a whole** (its own fuel): two spellings of the base and of the override that differ only
in the order of mapping entries, at any depth, merge to two spellings of the same model — or both merges fail -/
theorem merge_deep_order_independent {base base' over over' : Val}
    (hb : Eqv base base') (ho : Eqv over over') (wb : WF base) (wb' : WF base') (wo : WF over) (wo' : WF over') :
    OutEqv Eqv (merge base over) (merge base' over') :=
  (merge_ew ⟨hb, wb, wb'⟩ ⟨ho, wo, wo'⟩).mono (fun _ _ h => h.1)

/-- **`override.ExtendService` as a whole** (its own fuel) -/
theorem extendService_whole_order_independent {base base' over over' : Val}
    (hb : Eqv base base') (ho : Eqv over over') (wb : WF base) (wb' : WF base') (wo : WF over) (wo' : WF over') :
    OutEqv Eqv (extendService base over) (extendService base' over') :=
  (rooted_ew ["services", "x"] extendService (fun _ _ => rfl) ⟨hb, wb, wb'⟩ ⟨ho, wo, wo'⟩).mono (fun _ _ h => h.1)

/-- the nesting depth (from which `Merge` computes its fuel) does not see the order either -/
theorem fuelFor_order_independent {v w : Val} (h : Eqv v w) (wv : WF v) (ww : WF w) : fuelFor v = fuelFor w :=
  fuelFor_eqv h wv ww

/-- `fmt.Sprintf("%v")` (used by `convertIntoSequence`) prints equivalent trees identically -/
theorem fmtV_order_independent {v w : Val} (h : Eqv v w) (wv : WF v) (ww : WF w) : Merge.fmtV v = Merge.fmtV w :=
  fmtV_eqv h wv ww

theorem eqv_of_perm {a a' : KVs} (hp : a'.Perm a) (wa : MWF a) : Eqv (.map a') (.map a) := Eqv.of_perm hp wa
theorem eqv_symm {v w : Val} (h : Eqv v w) : Eqv w v := h.symm
theorem eqv_trans {u v w : Val} (h1 : Eqv u v) (h2 : Eqv v w) : Eqv u w := h1.trans h2
theorem eqv_refl (v : Val) (h : WF v) : Eqv v v := CV.Det.Stage.eqvRefl v

/-- `mergeIPAMConfig` only applies below the top-level `networks` section -/
theorem ipam_only_below_networks {p : TPath} (h : ruleAt p = some .ipam) : p.head? = some "networks" := by
  simp only [ruleAt, ruleAtIn] at h
  cases hfm : TPath.firstMatch CV.Gen.mergeSpecials p with
  | none => simp [hfm] at h
  | some n =>
    simp only [hfm, Option.some.injEq] at h
    obtain ⟨pat, hmem, hmatch⟩ := TPath.firstMatch_some_mem hfm
    have hrow := ipam_rows_under_networks (pat, n) hmem h
    cases pat with
    | nil => simp at hrow
    | cons a as =>
      simp only [List.head?_cons, Option.some.injEq] at hrow
      subst hrow
      cases p with
      | nil => simp [TPath.pmatch] at hmatch
      | cons b bs =>
        simp only [TPath.pmatch, Bool.and_eq_true, Bool.or_eq_true, decide_eq_true_eq] at hmatch
        rcases hmatch.1 with h1 | h1
        · exact absurd h1 (by decide)
        · simp [h1]

/-! non-vacuity: two spellings of one service that differ in the order of entries at two levels -/

def svcA : Val := .map [("image", .str "i"), ("labels", .map [("a", .str "1"), ("b", .null)])]
def svcB : Val := .map [("labels", .map [("b", .null), ("a", .str "1")]), ("image", .str "i")]

theorem wf_labels : MWF [("a", Val.str "1"), ("b", Val.null)] :=
  WF.map_iff.mp (wf_map_cons (.str _) (by decide) (wf_map_cons .null (by decide) wf_map_nil))

example : Eqv svcA svcB := by
  have inner : Eqv (.map [("a", Val.str "1"), ("b", Val.null)]) (.map [("b", Val.null), ("a", Val.str "1")]) :=
    eqv_symm (eqv_of_perm (List.Perm.swap _ _ _) wf_labels)
  have step1 : Eqv svcA (.map [("image", .str "i"), ("labels", .map [("b", .null), ("a", .str "1")])]) :=
    Eqv.map_cons (.str "i") (Eqv.map_cons inner (Eqv.map_iff.mpr MEqv.nil))
  refine eqv_trans step1 (eqv_symm (eqv_of_perm (List.Perm.swap _ _ _) ?_))
  exact WF.map_iff.mp (wf_map_cons (.str _) (by decide)
    (wf_map_cons (WF.of_perm (List.Perm.swap _ _ _) wf_labels) (by decide) wf_map_nil))

/-- the two spellings do merge to the same thing (here computed), as the theorem says they must -/
example : mergeYaml 4 svcA (.map [("labels", .map [("c", .str "3")])]) ["services", "x"] =
          .ok (.map [("image", .str "i"), ("labels", .seq [.str "a=1", .str "b", .str "c=3"])]) := by decide +kernel
example : mergeYaml 4 svcB (.map [("labels", .map [("c", .str "3")])]) ["services", "x"] =
          .ok (.map [("labels", .seq [.str "a=1", .str "b", .str "c=3"]), ("image", .str "i")]) := by decide +kernel

end CV.Deep.Props
