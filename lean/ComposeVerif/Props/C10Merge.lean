import ComposeVerif.Props.C10Validate
import ComposeVerif.Props.C04
import ComposeVerif.Lemmas.Merge
/-!
# C10 — "with the violating part placed in any file": the structural rules across `override.Merge`

`validation.Validate` runs on the **merge result** of all files (`check_guards_are_source`, Props/C10Glue.lean), because a
violation can be *assembled* by the merge out of files none of which is violating on its own: a secret with `file:` in
one file and `environment:` in a later one, an external volume that gets its `driver:` from an override.  The theorems
here compose the model of `override.Merge` (Model/Merge.lean, property C04) with the model of `Validate`
(Model/Validate.lean): for **every** pair of files, whatever else they contain, the assembled violation is rejected.
-/
namespace CV.Validate
open CV CV.Val CV.Merge

/-! ## one level of the plain mapping merge (the laws are C04's, Props/C04.lean) -/

/-- two mappings at a path without special merger merge to a mapping: `mergeMappings` one fuel level down -/
theorem merge_map_level (n : Nat) (a b : KVs) (p : TPath) (hp : ruleAt p = none) (z : Val)
    (h : mergeYaml (n + 1) (.map a) (.map b) p = .ok z) : ∃ m, z = .map m ∧ mergeKVs n a b p = .ok m := by
  rw [C04.merge_map_unfold n a b p hp] at h
  obtain ⟨m, hm, h⟩ := bind_eq_ok h
  cases h
  exact ⟨m, rfl, hm⟩

/-- descend at a key for which both files hold a mapping -/
theorem merge_descend (n : Nat) (a b m : KVs) (p : TPath) (hb : (keys b).Nodup) (h : mergeKVs (n + 1) a b p = .ok m)
    (k : String) (hx : hasXPrefix k = false) (x y : KVs) (hka : Val.lookup k a = some (.map x))
    (hkb : Val.lookup k b = some (.map y)) (hp : ruleAt (Merge.next p k) = none) :
    ∃ z, Val.lookup k m = some (.map z) ∧ mergeKVs n x y (Merge.next p k) = .ok z := by
  obtain ⟨z, hz, hl⟩ := C04.merge_common_key_recursive _ a b m p hb h k _ _ hka hkb hx
  obtain ⟨m', rfl, hm'⟩ := merge_map_level n x y _ hp z hz
  exact ⟨m', hl, hm'⟩

/-- **the merge never drops a key**: what either file sets at a mapping is set in the result -/
theorem merge_keeps_key (n : Nat) (a b m : KVs) (p : TPath) (hb : (keys b).Nodup) (h : mergeKVs n a b p = .ok m)
    (k : String) (hk : has k a = true ∨ has k b = true) : has k m = true := by
  have hpw := C04.merge_map_pointwise n a b m p hb h k
  unfold has at hk ⊢
  cases ha : Val.lookup k a <;> cases hb' : Val.lookup k b <;> rw [ha, hb'] at hpw <;> simp only [PointwiseAt] at hpw
  · rw [ha, hb'] at hk; simp at hk
  · rw [hpw]; rfl
  · rw [hpw]; rfl
  · by_cases hx : hasXPrefix k = true
    · rw [if_pos hx] at hpw; rw [hpw]; rfl
    · rw [if_neg hx] at hpw; obtain ⟨z, -, hl⟩ := hpw; rw [hl]; rfl

/-- the entry `sec.name` of the merge of two files that both declare it as a mapping: it is a mapping in the result, the
`mergeMappings` of the two declarations -/
theorem merged_resource (sec : String) (hs : sec ∈ ["volumes", "secrets", "configs"])
    (A B SA SB a b : KVs) (merged : Val) (name : String)
    (hBn : (keys B).Nodup) (hSBn : (keys SB).Nodup)
    (hm : Merge.merge (.map A) (.map B) = .ok merged)
    (hA : Val.lookup sec A = some (.map SA)) (hB : Val.lookup sec B = some (.map SB))
    (hSA : Val.lookup name SA = some (.map a)) (hSB : Val.lookup name SB = some (.map b))
    (hx : hasXPrefix name = false) :
    ∃ top secs m n p, merged = .map top ∧ (sec, Val.map secs) ∈ top ∧ (name, Val.map m) ∈ secs ∧
      mergeKVs n a b p = .ok m := by
  -- a section name has no dot, is no `x-` extension, and is not the root path
  obtain ⟨hnext, hxs, hne⟩ : Merge.next TPath.root sec = [sec] ∧ hasXPrefix sec = false ∧ ([sec] : TPath) ≠ TPath.root := by
    simp only [List.mem_cons, List.not_mem_nil, or_false] at hs
    rcases hs with rfl | rfl | rfl <;> exact ⟨by decide +kernel, by decide +kernel, by decide⟩
  have hfuel : fuelFor (.map B) = (depth (.map B) + 5) + 1 + 1 + 1 := rfl
  unfold Merge.merge at hm
  simp only at hm
  rw [hfuel] at hm
  obtain ⟨top, rfl, htop⟩ := merge_map_level _ A B TPath.root (ruleAt_short _ (by decide)) merged hm
  obtain ⟨secs, hl1, hsecs⟩ := merge_descend _ A B top TPath.root hBn htop sec hxs SA SB hA hB
    (by rw [hnext]; exact ruleAt_short _ (Nat.le_succ 1))
  rw [hnext] at hsecs
  have hn2 : Merge.next [sec] name = [sec, esc name] := by unfold Merge.next; rw [if_neg hne]; rfl
  obtain ⟨m, hl2, hmm⟩ := merge_descend _ SA SB secs [sec] hSBn hsecs name hx a b hSA hSB (by rw [hn2]; exact ruleAt_short _ (Nat.le_refl 2))
  exact ⟨top, secs, m, _, _, rfl, Val.mem_of_lookup hl1, Val.mem_of_lookup hl2, hmm⟩

/-! ## the property's clauses, for every pair of files -/

/-- **a secret that gets `file` from one file and `environment` from the other (in either order) is rejected**, whatever
else the two files contain — neither file needs to be violating on its own -/
theorem split_secret_sources_rejected (A B SA SB a b : KVs) (merged : Val) (name : String)
    (hBn : (keys B).Nodup) (hSBn : (keys SB).Nodup) (hbn : (keys b).Nodup)
    (hm : Merge.merge (.map A) (.map B) = .ok merged)
    (hA : Val.lookup "secrets" A = some (.map SA)) (hB : Val.lookup "secrets" B = some (.map SB))
    (hSA : Val.lookup name SA = some (.map a)) (hSB : Val.lookup name SB = some (.map b))
    (hx : hasXPrefix name = false)
    (hfile : has "file" a = true ∨ has "file" b = true) (henv : has "environment" a = true ∨ has "environment" b = true) :
    validate merged ≠ .ok := by
  obtain ⟨top, secs, m, n, p, rfl, h1, h2, hmm⟩ :=
    merged_resource "secrets" (.tail _ (.head _)) A B SA SB a b merged name hBn hSBn hm hA hB hSA hSB hx
  have hf := merge_keeps_key n a b m p hbn hmm "file" hfile
  have he := merge_keeps_key n a b m p hbn hmm "environment" henv
  exact validate_rejects_secret_sources top secs m name h1 h2 (.inl (by simp [countPresent, List.filter, hf, he]))

/-- **a config that gets two different sources out of `file` / `environment` / `content` from the two files is rejected** -/
theorem split_config_sources_rejected (A B SA SB a b : KVs) (merged : Val) (name : String) (k1 k2 : String)
    (hk : (k1, k2) ∈ [("file", "environment"), ("file", "content"), ("environment", "content")])
    (hBn : (keys B).Nodup) (hSBn : (keys SB).Nodup) (hbn : (keys b).Nodup)
    (hm : Merge.merge (.map A) (.map B) = .ok merged)
    (hA : Val.lookup "configs" A = some (.map SA)) (hB : Val.lookup "configs" B = some (.map SB))
    (hSA : Val.lookup name SA = some (.map a)) (hSB : Val.lookup name SB = some (.map b))
    (hx : hasXPrefix name = false)
    (h1 : has k1 a = true ∨ has k1 b = true) (h2 : has k2 a = true ∨ has k2 b = true) :
    validate merged ≠ .ok := by
  obtain ⟨top, secs, m, n, p, rfl, hm1, hm2, hmm⟩ :=
    merged_resource "configs" (.tail _ (.tail _ (.head _))) A B SA SB a b merged name hBn hSBn hm hA hB hSA hSB hx
  have hf := merge_keeps_key n a b m p hbn hmm k1 h1
  have he := merge_keeps_key n a b m p hbn hmm k2 h2
  refine validate_rejects_config_sources top secs m name hm1 hm2 (.inl ?_)
  simp only [List.mem_cons, Prod.mk.injEq, List.not_mem_nil, or_false] at hk
  rcases hk with ⟨rfl, rfl⟩ | ⟨rfl, rfl⟩ | ⟨rfl, rfl⟩
  · cases hc : has "content" m <;> simp [countPresent, List.filter, hf, he, hc]
  · cases hc : has "environment" m <;> simp [countPresent, List.filter, hf, he, hc]
  · cases hc : has "file" m <;> simp [countPresent, List.filter, hf, he, hc]

/-- **an external volume that gets a creation parameter (`driver`, `driver_opts`, `labels`, …) from the other file is
rejected** — `external: true` in one file only, the parameter in either -/
theorem split_external_volume_rejected (A B SA SB a b : KVs) (merged : Val) (name k : String)
    (hBn : (keys B).Nodup) (hSBn : (keys SB).Nodup) (hbn : (keys b).Nodup)
    (hm : Merge.merge (.map A) (.map B) = .ok merged)
    (hA : Val.lookup "volumes" A = some (.map SA)) (hB : Val.lookup "volumes" B = some (.map SB))
    (hSA : Val.lookup name SA = some (.map a)) (hSB : Val.lookup name SB = some (.map b))
    (hx : hasXPrefix name = false)
    (hext : (Val.lookup "external" a = some (.bool true) ∧ Val.lookup "external" b = none) ∨
            (Val.lookup "external" a = none ∧ Val.lookup "external" b = some (.bool true)))
    (hk : has k a = true ∨ has k b = true) (hbad : externalAllowed k = false) :
    validate merged ≠ .ok := by
  obtain ⟨top, secs, m, n, p, rfl, h1, h2, hmm⟩ :=
    merged_resource "volumes" (.head _) A B SA SB a b merged name hBn hSBn hm hA hB hSA hSB hx
  have hkm := merge_keeps_key n a b m p hbn hmm k hk
  have hem : Val.lookup "external" m = some (.bool true) := by
    rcases hext with ⟨ha, hb⟩ | ⟨ha, hb⟩
    · rw [C04.merge_absent_preserved n a b m p hbn hmm "external" hb, ha]
    · exact C04.merge_new_key_added n a b m p hbn hmm "external" _ ha hb
  unfold has at hkm
  cases hl : Val.lookup k m with
  | none => rw [hl] at hkm; cases hkm
  | some x => exact validate_rejects_external_volume_with_parameters top secs m name k x h1 h2 hem (Val.mem_of_lookup hl) hbad

/-! ## "… base service": a violating device request in an `extends` base survives `override.ExtendService` -/

theorem ruleAt_service_gpus (s : String) : ruleAt ["services", s, "gpus"] = none := by
  rw [C04.ruleAt_name_irrelevant _ s "x"]
  decide +kernel

/-- **the violating part in a base service**: when the extended base holds a device request with both `count` and
`device_ids`, the service that `ExtendService` produces still holds it (its `gpus` list is the base's followed by the
extending service's own requests, if any), and any tree containing that service is rejected -/
theorem extends_keeps_gpus_violation (svcA svcB kvs : KVs) (merged : Val) (ga : List Val)
    (hBn : (keys svcB).Nodup)
    (hm : extendService (.map svcA) (.map svcB) = .ok merged)
    (hA : Val.lookup "gpus" svcA = some (.seq ga))
    (hB : Val.lookup "gpus" svcB = none ∨ ∃ gb, Val.lookup "gpus" svcB = some (.seq gb))
    (hbad : Val.map kvs ∈ ga) (hc : has "count" kvs = true) (hi : has "device_ids" kvs = true)
    (top svcs : KVs) (name : String) (h1 : ("services", Val.map svcs) ∈ top) (h2 : (name, merged) ∈ svcs) :
    validate (.map top) ≠ .ok := by
  have hfuel : fuelFor (.map svcB) = (depth (.map svcB) + 6) + 1 + 1 := rfl
  unfold extendService at hm
  simp only at hm
  rw [hfuel] at hm
  obtain ⟨m, rfl, hmm⟩ := merge_map_level _ svcA svcB _ (ruleAt_short _ (by decide)) merged hm
  have hg : ∃ g, Val.lookup "gpus" m = some (.seq g) ∧ Val.map kvs ∈ g := by
    rcases hB with hB | ⟨gb, hB⟩
    · exact ⟨ga, by rw [C04.merge_absent_preserved _ svcA svcB m _ hBn hmm "gpus" hB, hA], hbad⟩
    · obtain ⟨z, hz, hl⟩ := C04.merge_common_key_recursive _ svcA svcB m _ hBn hmm "gpus" _ _ hA hB (by decide +kernel)
      have hn : Merge.next ["services", "x"] "gpus" = ["services", "x", "gpus"] := by decide +kernel
      rw [hn, C04.merge_seq_append _ _ _ _ (ruleAt_service_gpus _)] at hz
      cases hz
      exact ⟨ga ++ gb, hl, List.mem_append_left _ hbad⟩
  obtain ⟨g, hl, hmem⟩ := hg
  exact validate_rejects_gpus_count_and_ids top svcs m kvs name g h1 h2 (Val.mem_of_lookup hl) hmem hc hi

/-! ## non-vacuity: two files, each valid on its own, whose merge is rejected -/

def fileA : Val := .map [("services", .map [("a", .map [("image", .str "i")])]),
                          ("secrets", .map [("tok", .map [("file", .str "./tok")])])]
def fileB : Val := .map [("secrets", .map [("tok", .map [("environment", .str "TOKEN")])])]

example : validate fileA = .ok ∧ validate fileB = .ok := by decide +kernel

theorem merge_fileA_fileB : Merge.merge fileA fileB = .ok (.map [("services", .map [("a", .map [("image", .str "i")])]),
    ("secrets", .map [("tok", .map [("file", .str "./tok"), ("environment", .str "TOKEN")])])]) := by decide +kernel

example : Merge.merge fileA fileB = .ok (.map [("services", .map [("a", .map [("image", .str "i")])]),
    ("secrets", .map [("tok", .map [("file", .str "./tok"), ("environment", .str "TOKEN")])])]) := merge_fileA_fileB
example : ∃ merged, Merge.merge fileA fileB = .ok merged ∧ validate merged ≠ .ok :=
  ⟨_, merge_fileA_fileB, split_secret_sources_rejected
    [("services", .map [("a", .map [("image", .str "i")])]), ("secrets", .map [("tok", .map [("file", .str "./tok")])])]
    [("secrets", .map [("tok", .map [("environment", .str "TOKEN")])])]
    [("tok", .map [("file", .str "./tok")])] [("tok", .map [("environment", .str "TOKEN")])]
    [("file", .str "./tok")] [("environment", .str "TOKEN")] _ "tok"
    (by decide +kernel) (by decide +kernel) (by decide +kernel) merge_fileA_fileB (by decide +kernel) (by decide +kernel)
    (by decide +kernel) (by decide +kernel) (by decide +kernel) (.inl (by decide +kernel)) (.inr (by decide +kernel))⟩

theorem merge_external_driver : Merge.merge (.map [("volumes", .map [("ev", .map [("external", .bool true)])])])
      (.map [("volumes", .map [("ev", .map [("driver", .str "foo")])])]) =
    .ok (.map [("volumes", .map [("ev", .map [("external", .bool true), ("driver", .str "foo")])])]) := by decide +kernel

/-- an external volume whose `driver` arrives in an override -/
example : ∃ merged, Merge.merge (.map [("volumes", .map [("ev", .map [("external", .bool true)])])])
      (.map [("volumes", .map [("ev", .map [("driver", .str "foo")])])]) = .ok merged ∧ validate merged ≠ .ok :=
  ⟨_, merge_external_driver, split_external_volume_rejected
    [("volumes", .map [("ev", .map [("external", .bool true)])])] [("volumes", .map [("ev", .map [("driver", .str "foo")])])]
    [("ev", .map [("external", .bool true)])] [("ev", .map [("driver", .str "foo")])]
    [("external", .bool true)] [("driver", .str "foo")] _ "ev" "driver"
    (by decide +kernel) (by decide +kernel) (by decide +kernel) merge_external_driver (by decide +kernel) (by decide +kernel)
    (by decide +kernel) (by decide +kernel) (by decide +kernel) (.inl (by decide +kernel)) (.inr (by decide +kernel))
    (by decide +kernel)⟩

/-- a base service with a violating device request, extended by a service that adds a valid one -/
example : extendService (.map [("image", .str "i"), ("gpus", .seq [.map [("count", .int 1), ("device_ids", .seq [.str "0"])]])])
      (.map [("gpus", .seq [.map [("count", .int 2)]])])
    = .ok (.map [("image", .str "i"),
        ("gpus", .seq [.map [("count", .int 1), ("device_ids", .seq [.str "0"])], .map [("count", .int 2)]])]) := by
  decide +kernel

end CV.Validate
