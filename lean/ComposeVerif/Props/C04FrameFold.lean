import ComposeVerif.Props.C04Frame
import ComposeVerif.Props.C04Stage
/-!
# C04 — the frame law through the whole fold over documents

`deep_frame` speaks about one `override.Merge`.  A document is merged **and** de-duplicated; the theorems here carry the
frame law through `EnforceUnicity` and through any number of documents.
-/
namespace CV.C04
open CV CV.Val CV.Merge CV.Unicity CV.Reset CV.Override

/-- the tree path reached from `p` by the keys of `path` -/
def tpathOf (p : TPath) : List String → TPath
  | [] => p
  | k :: r => tpathOf (next p k) r

theorem applyKVs_nil : ∀ (kvs : KVs) (p : TPath), applyKVs [] kvs p = kvs := Reset.applyNull_nil₃.2.1
theorem applySeq_nil : ∀ (xs : List Val) (p : TPath) (i : Nat), applySeq [] xs p i = xs := Reset.applyNull_nil₃.2.2

theorem enforceKVs_lookup : ∀ (kvs m : KVs) (p : TPath) (k : String) (x : Val),
    enforceKVs kvs p = .ok m → lookup k kvs = some x → ∃ y, enforce x (next p k) = .ok y ∧ lookup k m = some y
  | [], _, _, _, _, _, hl => by cases hl
  | (k', e) :: tl, _, p, k, x, h, hl => by
    obtain ⟨u, r', hu, hr, rfl⟩ := enforceKVs_cons_ok h
    by_cases hk : k = k'
    · subst hk
      rw [lookup_cons_self] at hl ⊢
      cases hl; exact ⟨u, hu, rfl⟩
    · rw [lookup_cons_ne hk] at hl ⊢
      exact enforceKVs_lookup tl r' p k x hr hl

/-- `EnforceUnicity` acts on the value at a key path as `enforceUnicity` at the corresponding tree path -/
theorem enforce_getPath : ∀ (path : List String) (v u : Val) (p : TPath) (x : Val),
    enforce v p = .ok u → getPath v path = some x → ∃ y, enforce x (tpathOf p path) = .ok y ∧ getPath u path = some y
  | [], v, u, p, x, h, hg => by cases hg; exact ⟨u, h, rfl⟩
  | k :: r, v, u, p, x, h, hg => by
    obtain ⟨kvs, x1, rfl, hl, hg⟩ := getPath_cons_some.1 hg
    obtain ⟨m, hm, rfl⟩ := enforce_map_ok h
    obtain ⟨y1, hy1, hl1⟩ := enforceKVs_lookup kvs m p k x1 hm hl
    obtain ⟨y, hy, hgy⟩ := enforce_getPath r x1 y1 (next p k) x hy1 hg
    exact ⟨y, hy, getPath_cons_some.2 ⟨m, y1, rfl, hl1, hgy⟩⟩

theorem fixpoint_sub (path : List String) (v : Val) (p : TPath) (x : Val)
    (h : enforce v p = .ok v) (hg : getPath v path = some x) : enforce x (tpathOf p path) = .ok x := by
  obtain ⟨y, hy, hgy⟩ := enforce_getPath path v v p x h hg
  rw [hg] at hgy
  simp only [Option.some.injEq] at hgy
  subst hgy; exact hy

theorem enforceTop_eq_enforce {v u : Val} (h : enforceTop v = .ok u) : enforce v TPath.root = .ok u := by
  obtain ⟨kvs, m, rfl, hm, rfl⟩ := enforceTop_ok h
  simp only [enforce, hm, Out.bind]

theorem docStep_deep_frame (dict : Val) (doc : YNode) (r v : Val) (path : List String)
    (hnotag : (readDoc doc).2 = []) (hfix : enforceTop dict = .ok dict)
    (hg : getPath dict path = some v) (hu : Unmentioned (readDoc doc).1 path) (hf : RuleFree TPath.root path)
    (h : docStep .ok dict doc = .ok r) : getPath r path = some v := by
  simp only [docStep_eq, hnotag, applyNull_nil, bind_ok_right] at h
  obtain ⟨m, hm, hu'⟩ := bind_eq_ok h
  have hgm : getPath m path = some v := merge_deep_frame dict _ m v path hm hg hu hf
  obtain ⟨y, hy, hgy⟩ := enforce_getPath path m r TPath.root v (enforceTop_eq_enforce hu') hgm
  have := fixpoint_sub path dict TPath.root v (enforceTop_eq_enforce hfix) hg
  rw [this] at hy
  simp only [Out.ok.injEq] at hy
  rw [hy]; exact hgy

/-- **any number of documents**: what none of them mentions (and no tag touches) is, after all of them, what it was -/
theorem loadDocs_deep_frame (path : List String) (v : Val) (hf : RuleFree TPath.root path) :
    ∀ (docs : List YNode) (dict r : Val),
      (∀ d ∈ docs, (readDoc d).2 = [] ∧ Unmentioned (readDoc d).1 path) →
      enforceTop dict = .ok dict → getPath dict path = some v →
      loadDocs .ok dict docs = .ok r → getPath r path = some v :=
  -- the invariant: the model is de-duplicated and holds `v` at `path`
  fun docs dict r hall hfix hg h =>
    (loadDocs_invariant .ok (fun d => enforceTop d = .ok d ∧ getPath d path = some v) docs dict r
      (fun d hd x x' hx h1 =>
        ⟨docStepU_deduplicated .ok x d x' (by rw [second_enforce_redundant_without_post]; exact h1),
          docStep_deep_frame x d x' v path (hall d hd).1 hx.1 hx.2 (hall d hd).2 hf h1⟩)
      ⟨hfix, hg⟩ h).2

/-- three documents; none mentions `services.db.image` (the second mentions `db`, the third only `web`) -/
example : loadDocs .ok (.map [("services", .map [("db", .map [("image", .str "postgres")]), ("web", .map [("image", .str "nginx")])])])
    [.map .none [("services", .map .none [("db", .map .none [("command", .scalar .none (.str "x"))])])],
     .map .none [("services", .map .none [("web", .map .none [("image", .scalar .none (.str "caddy"))])])]]
    = .ok (.map [("services", .map [("db", .map [("image", .str "postgres"), ("command", .str "x")]), ("web", .map [("image", .str "caddy")])])]) := by decide +kernel

end CV.C04
