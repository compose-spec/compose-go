import ComposeVerif.Gen.AssertSites
import ComposeVerif.Gen.NilDerefs
import ComposeVerif.Lemmas.C01SchemaEval
/-!
# C01 — `sites_covered`: every place where the loader pipeline can panic on the shape of its input has been looked at

`Gen/AssertSites.lean` is regenerated from the source on every run (translator/c01sites.go): every type assertion
without `, ok` and every index expression on a slice / array / string in the packages loader, override, transform,
paths, validation, interpolation and in the `DecodeMapstructure` methods of package types.
`reviewed` below is the hand-kept list; `sites_covered` says the two coincide (line numbers ignored), so a NEW
unchecked assertion — or the disappearance of a reviewed one — breaks the build until this file is edited.

Status of a row:
* `schema path kinds` — the site is only reached on a document that passed JSON-schema validation (validation.Validate
  runs under the same `!SkipValidation` test as schema.Validate, after it) and the schema allows exactly `kinds` at
  `path`; `schema_guards_hold` re-decides `kindsAt composeSchema path = kinds` against the schema as it is now;
* `code why` — the surrounding code establishes the shape (a length test, a `make` of the same length, a value the
  function built itself, an earlier stage that rejects the other shapes); theorems are named where they exist;
* `finding key` — reachable with the wrong shape: a recorded finding of findings/C01.txt (none at the moment).
-/
namespace CV.C01.Sites
open CV CV.Schema

inductive Status where
  | schema (path : List String) (kinds : List Ty)
  | code (why : String)
  | finding (key : String)

structure Row where
  pkg : String
  fn : String
  kind : String
  expr : String
  status : Status

def reviewed : List Row := [
  ⟨"interpolation", "recursiveInterpolate", "index", "out[i]", .code "out := make([]interface{}, len(value)); i ranges over value"⟩,
  ⟨"loader", "ApplyInclude", "index", "included[0]", .code "inside the cycle error, right after included = append(included, path)"⟩,
  ⟨"loader", "LoadConfigFiles", "index", "config.ConfigFiles[i]", .code "ConfigFiles: make(…, len(configFiles)); i ranges over configFiles"⟩,
  ⟨"loader", "LoadConfigFiles", "index", "config.ConfigFiles[i]", .code "same"⟩,
  ⟨"loader", "OmitEmpty", "assert", "cleaned.(map[string]any)", .code "omitEmpty of a mapping is a mapping: Props/C01 omitEmpty_total"⟩,
  ⟨"loader", "applyServiceExtends", "assert", "ctx.Value(consts.ComposeFileKey{}).(string)", .code "loadYamlFile stores the file name in the context before ApplyExtends; a direct caller of the exported ApplyExtends must do the same"⟩,
  ⟨"loader", "applyServiceExtends", "assert", "deepClone(base).(map[string]any)", .code "base is the non-nil result of the recursive call, which only returns mappings (Model/C01Cycles Ext.resolve: ok with nil flag false)"⟩,
  ⟨"loader", "checkConsistency", "index", "s.HealthCheck.Test[0]", .code "guarded by len(s.HealthCheck.Test) > 0 in the same condition"⟩,
  ⟨"loader", "cycleTracker.Add", "index", "ct.loaded[0]", .code "inside the loop over ct.loaded, after a match: non-empty"⟩,
  ⟨"loader", "cycleTracker.Add", "index", "ct.loaded[0]", .code "same"⟩,
  ⟨"loader", "decoderHook", "assert", "to.Interface().(decoder)", .code "reached only when to (or its pointer) implements decoder, tested just above"⟩,
  ⟨"loader", "deepClone", "index", "cp[i]", .code "cp := make([]any, len(v)); i ranges over v"⟩,
  ⟨"loader", "load", "index", "configDetails.ConfigFiles[0]", .code "loadModelWithContext returns \"No files specified\" when len(ConfigFiles) < 1"⟩,
  ⟨"loader", "load", "index", "loaded[0]", .code "inside the loop over loaded, after append: non-empty"⟩,
  ⟨"loader", "parseYAML", "assert", "converted.(map[string]interface{})", .code "conversion of a mapping is a mapping: Props/C01 parseYAML_total"⟩,
  ⟨"loader", "parseYAML", "assert", "converted.(map[string]interface{})", .code "same"⟩,
  ⟨"loader", "projectName", "assert", "interpolated[\"name\"].(string)", .code "Interpolate of {name: <string>}: no cast is registered for the path `name`, a string stays a string"⟩,
  ⟨"loader", "resolvePaths", "index", "ret[i]", .code "ret := make(types.StringList, len(in)); i ranges over in"⟩,
  ⟨"loader", "sameResource", "assert", "m[key].(map[string]any)", .code "m[key] was set to a mapping literal a few lines above and paths.ResolveRelativePaths keeps a mapping a mapping; the closure also runs under a deferred recover (C06's repair of include conflicts)"⟩,
  ⟨"override", "EnforceUnicity", "assert", "uniq.(map[string]any)", .code "enforceUnicity of a mapping returns the mapping"⟩,
  ⟨"override", "ExtendService", "assert", "yaml.(map[string]any)", .code "mergeYaml of two mappings at the services.x path is mergeMappings: a mapping"⟩,
  ⟨"override", "Merge", "assert", "merged.(map[string]any)", .code "mergeYaml of two mappings at the root is mergeMappings: a mapping"⟩,
  ⟨"override", "convertIntoSequence", "assert", "a.(string)", .code "sort callback over seq, whose items were all built with fmt.Sprintf in this function"⟩,
  ⟨"override", "convertIntoSequence", "assert", "b.(string)", .code "same"⟩,
  ⟨"override", "enforceUnicity", "index", "seq[j]", .code "j comes from keys[key], set to len(seq)-1 when the entry was appended"⟩,
  ⟨"override", "mergeIPAMConfig", "assert", "a.(map[string]any)", .code "ipamConfigs only holds the mappings returned by ipamPools / mergeMappings"⟩,
  ⟨"override", "mergeIPAMConfig", "index", "ipamConfigs[index]", .code "index ≥ 0 is the result of slices.IndexFunc on ipamConfigs"⟩,
  ⟨"override", "mergeIPAMConfig", "assert", "ipamConfigs[index].(map[string]any)", .code "same two reasons"⟩,
  ⟨"override", "mergeIPAMConfig", "index", "ipamConfigs[index]", .code "same"⟩,
  ⟨"paths", "isWindowsAbs", "index", "path[0]", .code "after `if path == \"\" { return false }`"⟩,
  ⟨"paths", "volumeNameLen", "index", "path[0]", .code "after `if len(path) < 2 { return 0 }` (copy of path/filepath's Windows volumeNameLen; C12 models it)"⟩,
  ⟨"paths", "volumeNameLen", "index", "path[1]", .code "same"⟩,
  ⟨"paths", "volumeNameLen", "index", "path[0]", .code "guarded by l := len(path); l >= 5"⟩,
  ⟨"paths", "volumeNameLen", "index", "path[1]", .code "same"⟩,
  ⟨"paths", "volumeNameLen", "index", "path[2]", .code "same"⟩,
  ⟨"paths", "volumeNameLen", "index", "path[2]", .code "same"⟩,
  ⟨"paths", "volumeNameLen", "index", "path[n]", .code "loop condition n < l"⟩,
  ⟨"paths", "volumeNameLen", "index", "path[n]", .code "guarded by n < l-1"⟩,
  ⟨"paths", "volumeNameLen", "index", "path[n]", .code "loop condition n < l"⟩,
  ⟨"paths", "volumeNameLen", "index", "path[n]", .code "loop condition n < l"⟩,
  ⟨"transform", "Canonical", "assert", "canonical.(map[string]any)", .code "transform of a mapping at the root (no transformer matches the empty path) is transformMapping: the mapping"⟩,
  ⟨"transform", "SetDefaultValues", "assert", "result.(map[string]any)", .code "setDefaults of a mapping at the root returns the mapping"⟩,
  ⟨"types", "HealthCheckTest.DecodeMapstructure", "index", "seq[i]", .code "seq := make([]string, len(v)); i ranges over v"⟩,
  ⟨"types", "HostsList.DecodeMapstructure", "index", "hosts[j]", .code "hosts := make([]string, len(t)); j ranges over t"⟩,
  ⟨"types", "HostsList.DecodeMapstructure", "index", "s[i]", .code "s := make([]string, len(v)); i ranges over v"⟩,
  ⟨"types", "SSHConfig.DecodeMapstructure", "index", "result[i]", .code "result := make(SSHConfig, len(v)); i counts the entries of v"⟩,
  ⟨"types", "SSHConfig.DecodeMapstructure", "index", "result[i]", .code "sort.Slice callback: indices in range"⟩,
  ⟨"types", "SSHConfig.DecodeMapstructure", "index", "result[j]", .code "same"⟩,
  ⟨"types", "ShellCommand.DecodeMapstructure", "index", "cmd[i]", .code "cmd := make([]string, len(v)); i ranges over v"⟩,
  ⟨"types", "StringList.DecodeMapstructure", "index", "list[i]", .code "list := make([]string, len(v)); i ranges over v"⟩,
  ⟨"types", "StringOrNumberList.DecodeMapstructure", "index", "list[i]", .code "list := make([]string, len(v)); i ranges over v"⟩,
  ⟨"validation", "checkDeviceRequest", "assert", "value.(map[string]any)", .schema ["services", "*", "deploy", "resources", "reservations", "devices", "[]"] [.object]⟩,
  ⟨"validation", "checkFileObject", "assert", "value.(map[string]any)", .schema ["configs", "*"] [.object]⟩,
  ⟨"validation", "checkPath", "assert", "value.(string)", .schema ["services", "*", "develop", "watch", "[]", "path"] [.string]⟩]

def rowKey (r : Row) : String × String × String × String := (r.pkg, r.fn, r.kind, r.expr)

def siteKey (s : String × String × String × String × Nat) : String × String × String × String :=
  (s.1, s.2.1, s.2.2.1, s.2.2.2.1)

/-- sites of the source that nobody has looked at yet (shown by the `#eval` below when the build breaks) -/
def unreviewed : List (String × String × String × String × Nat) :=
  CV.Gen.assertSites.filter fun s => !(reviewed.map rowKey).contains (siteKey s)

/-- reviewed rows whose site no longer exists -/
def stale : List (String × String × String × String) :=
  (reviewed.map rowKey).filter fun k => !(CV.Gen.assertSites.map siteKey).contains k

#eval unreviewed
#eval stale

/-- the unchecked assertions / index expressions of the pipeline, as they are in the source now,
are exactly the reviewed ones — same rows, same order, same multiplicities -/
theorem sites_covered : CV.Gen.assertSites.map siteKey = reviewed.map rowKey := by rfl

/-- no reviewed site is left as a known way to crash -/
theorem no_site_is_a_finding : reviewed.all (fun r => match r.status with | .finding _ => false | _ => true) = true := by
  decide

/-- the other `gpus` / `secrets` uses of the same checkers: the schema allows only the asserted kind at each pattern of
`validation.checks` that reaches an assertion -/
theorem validation_patterns_kinds :
    kindsAt CV.Gen.composeSchema ["secrets", "*"] = [.object] ∧
    kindsAt CV.Gen.composeSchema ["services", "*", "gpus", "[]"] = [.object] :=
  composeSchema_evaluated.2.2.1

/-- the `schema` rows: the schema, as regenerated now, allows exactly the asserted kind at the path -/
theorem schema_guards_hold :
    kindsAt CV.Gen.composeSchema ["services", "*", "deploy", "resources", "reservations", "devices", "[]"] = [.object] ∧
    kindsAt CV.Gen.composeSchema ["configs", "*"] = [.object] ∧
    kindsAt CV.Gen.composeSchema ["services", "*", "develop", "watch", "[]", "path"] = [.string] :=
  composeSchema_evaluated.2.2.2.1

/-- … and these are the kinds written in the rows -/
theorem schema_rows_match :
    (reviewed.filterMap fun r => match r.status with | .schema p k => some (p, k) | _ => none) =
      [(["services", "*", "deploy", "resources", "reservations", "devices", "[]"], [.object]),
       (["configs", "*"], [.object]),
       (["services", "*", "develop", "watch", "[]", "path"], [.string])] := by rfl

/-! ## nil dereferences of pointer fields in loader/validate.go (`checkConsistency`)

`Gen/NilDerefs.lean` (translator/c01nil.go) lists every field selection `P.f` where `P` is a field chain of pointer
type, with the syntactic nil test on the same expression `P` that covers it: `cond` (earlier in the same `&&` / `||`
chain), `enclosing` (a conjunct `P != nil` of an enclosing `if`), `early` (an earlier `if P == nil { return/continue }`),
or `NONE`.  Seeded change C01-2 (`…Limits != nil && …Reservations.MemoryBytes`) shows up as a `NONE` row.
Approximation: assignments to `P` between test and use and aliases of `P` are not tracked; only loader/validate.go. -/

/-- every dereference of a possibly-nil pointer field in `checkConsistency` is covered by a nil test on that field -/
theorem nil_derefs_guarded : CV.Gen.nilDerefs.all (fun r => r.2.2.2.1 != "NONE") = true := by decide +kernel

/-- the pointer fields that are dereferenced are the reviewed ones (a new one has to be looked at) -/
theorem nil_deref_pointers_reviewed :
    (CV.Gen.nilDerefs.map (fun r => r.2.1)).eraseDups =
      ["s.Build", "s.HealthCheck", "s.Deploy", "s.Deploy.Resources.Limits", "s.Deploy.Resources.Reservations", "s.Develop"] := by
  decide +kernel

#eval CV.Gen.nilDerefs.filter (fun r => r.2.2.2.1 == "NONE")

end CV.C01.Sites
