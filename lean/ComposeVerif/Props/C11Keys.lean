import ComposeVerif.Lemmas.C11Keys
import ComposeVerif.Gen.C11Facts
/-!
# C11 — implicit ≡ explicit when the entry arrives from an override: the defaults inside the unicity keys

Model: `Model/C11Keys.lean` (`portIndexer`, `mountIndexer`, `envFileIndexer`, the sequence
branch of `enforceUnicity`, override/uncity.go).  The clause: a list entry (port, secret, env_file) that one file
states with a default left implicit and another file states with the default written out is ONE entry of the
merged model — the key by which `EnforceUnicity` recognises an entry does not change when `SetDefaultValues` /
`Canonical` write its defaults out, hence de-duplication commutes with writing the defaults out.
-/
namespace CV.C11
open CV CV.Val


/-- the four functions of override/uncity.go the model mirrors are the ones in the tree (bodies regenerated by
`translator/c11.go` on every run): an edit to the defaults of a key breaks this obligation. -/
theorem indexers_are_source :
    CV.Gen.c11_body_portIndexer =
      "{ switch value := y.(type) { case int: return strconv.Itoa(value), nil case map[string]any: target, ok := value[\"target\"] if !ok { return \"\", fmt.Errorf(\"service ports %s is missing a target port\", p) } published, ok := value[\"published\"] if !ok { if pub, ok := value[\"published\"]; ok { published = fmt.Sprintf(\"%d\", pub) } } host, ok := value[\"host_ip\"] if !ok { host = \"0.0.0.0\" } protocol, ok := value[\"protocol\"] if !ok { protocol = \"tcp\" } return fmt.Sprintf(\"%s:%v:%v/%s\", host, published, target, protocol), nil case string: return value, nil } return \"\", nil }" ∧
    CV.Gen.c11_body_mountIndexer =
      "{ return func(a any, path tree.Path) (string, error) { switch v := a.(type) { case string: return fmt.Sprintf(\"%s/%s\", defaultPath, v), nil case map[string]any: t, ok := v[\"target\"] if ok { target, isString := t.(string) if !isString { return \"\", fmt.Errorf(\"%s: unexpected type %T\", path, t) } return target, nil } return fmt.Sprintf(\"%s/%s\", defaultPath, v[\"source\"]), nil default: return \"\", fmt.Errorf(\"%s: unsupported expose value %s\", path, a) } } }" ∧
    CV.Gen.c11_body_envFileIndexer =
      "{ switch value := y.(type) { case string: return value, nil case map[string]any: if pathValue, ok := value[\"path\"]; ok { path, isString := pathValue.(string) if !isString { return \"\", fmt.Errorf(\"%s: unexpected type %T\", p, pathValue) } return path, nil } return \"\", fmt.Errorf(\"environment path attribute %s is missing\", p) } return \"\", nil }" ∧
    CV.Gen.c11_body_enforceUnicity =
      "{ switch v := value.(type) { case map[string]any: for k, e := range v { u, err := enforceUnicity(e, p.Next(k)) if err != nil { return nil, err } v[k] = u } return v, nil case []any: for pattern, indexer := range unique { if p.Matches(pattern) { seq := []any{} keys := map[string]int{} for i, entry := range v { key, err := indexer(entry, p.Next(fmt.Sprintf(\"[%d]\", i))) if err != nil { return nil, err } if j, ok := keys[key]; ok { seq[j] = entry } else { seq = append(seq, entry) keys[key] = len(seq) - 1 } } return seq, nil } } } return value, nil }" := by
  refine ⟨?_, ?_, ?_, ?_⟩ <;> rfl

/-- the lists of a service whose entries carry a default inside their key are registered with the indexers the model
mirrors (regenerated `unique` table), and the model knows each of these handler names. -/
theorem unique_rows_modelled :
    (["services", "*", "ports"], "portIndexer") ∈ CV.Gen.unique ∧
    (["services", "*", "secrets"], "mountIndexer(\"/run/secrets\")") ∈ CV.Gen.unique ∧
    (["services", "*", "configs"], "mountIndexer(\"\")") ∈ CV.Gen.unique ∧
    (["services", "*", "env_file"], "envFileIndexer") ∈ CV.Gen.unique ∧
    (indexerOf "portIndexer").isSome ∧ (indexerOf "mountIndexer(\"/run/secrets\")").isSome ∧
    (indexerOf "mountIndexer(\"\")").isSome ∧ (indexerOf "envFileIndexer").isSome := by
  decide +kernel


/-- **ports**: `portDefaults` (protocol tcp, mode ingress written out) does not change the key of any entry. -/
theorem port_key_defaults_invariant (v : Val) : portKey (portDefaultsV v) = portKey v := by
  cases v with
  | map m =>
    simp only [portDefaultsV, portKey]
    have h1 : ∀ k, k ≠ "mode" → k ≠ "protocol" →
        lookup k (setIfAbsent "mode" (.str "ingress") (setIfAbsent "protocol" (.str "tcp") m)) = lookup k m := by
      intro k hm hp
      rw [lookup_setIfAbsent_ne hm, lookup_setIfAbsent_ne hp]
    have h2 : keyOr "tcp" (lookup "protocol" (setIfAbsent "mode" (.str "ingress") (setIfAbsent "protocol" (.str "tcp") m)))
        = keyOr "tcp" (lookup "protocol" m) := by
      rw [lookup_setIfAbsent_ne (by simp), lookup_setIfAbsent_self]
      cases lookup "protocol" m <;> simp [keyOr, fmtS]
    rw [h1 "target" (by simp) (by simp), h1 "host_ip" (by simp) (by simp),
      h1 "published" (by simp) (by simp), h2]
  | _ => rfl

/-- the same through the modelled Go handler: whatever `portDefaults` returns has the key of its argument. -/
theorem port_key_after_portDefaults {v v' : Val} (h : portDefaults v = .ok v') : portKey v' = portKey v := by
  have : v' = portDefaultsV v := by
    cases v <;> simp only [portDefaults, portDefaultsV, Out.ok.injEq] at h ⊢ <;> exact h.symm
  rw [this]; exact port_key_defaults_invariant v

/-- **protocol defaults to tcp inside the key**: an entry without `protocol` and the same entry with `protocol: tcp`
written out have the same key. -/
theorem port_key_protocol_default (m : KVs) (h : lookup "protocol" m = none) :
    portKey (.map (insert "protocol" (.str "tcp") m)) = portKey (.map m) := by
  simp only [portKey]
  rw [lookup_insert_ne (by simp), lookup_insert_ne (by simp), lookup_insert_ne (by simp), lookup_insert_self, h]
  rfl

/-- **host_ip defaults to 0.0.0.0 inside the key**. -/
theorem port_key_host_default (m : KVs) (h : lookup "host_ip" m = none) :
    portKey (.map (insert "host_ip" (.str "0.0.0.0") m)) = portKey (.map m) := by
  simp only [portKey]
  rw [lookup_insert_ne (by simp), lookup_insert_self, lookup_insert_ne (by simp), lookup_insert_ne (by simp), h]
  rfl

/-- a port with another protocol is another port: the default is not applied over an explicit value. -/
theorem port_key_explicit_protocol_kept (m : KVs) (t : Val) (p : String) (ht : lookup "target" m = some t)
    (hp : lookup "protocol" m = some (.str p)) :
    portKey (.map m) = .ok (keyOr "0.0.0.0" (lookup "host_ip" m) ++ ":" ++ fmtVO (lookup "published" m) ++ ":" ++ fmtV t ++ "/" ++ p) := by
  simp [portKey, ht, hp, keyOr, fmtS]

example : portKey (.map [("target", .int 80), ("published", .str "8080")]) = .ok "0.0.0.0:8080:80/tcp" := by decide +kernel
example : portKey (.map [("target", .int 80), ("published", .str "8080"), ("protocol", .str "tcp"), ("mode", .str "ingress")])
    = .ok "0.0.0.0:8080:80/tcp" := by decide +kernel
example : portKey (.map [("target", .int 80), ("protocol", .str "udp")]) = .ok "0.0.0.0:<nil>:80/udp" := by decide +kernel

/-- **secrets**: writing out `target: /run/secrets/<source>` does not change the key of any entry. -/
theorem secret_key_defaults_invariant (v : Val) :
    mountKey "/run/secrets" (secretDefaultsV v) = mountKey "/run/secrets" v := by
  cases v with
  | map m =>
    simp only [secretDefaultsV, mountKey]
    cases h : lookup "target" m with
    | some x => rw [setIfAbsent_of_some h, h]
    | none =>
      rw [lookup_setIfAbsent_self, h]
      -- the default written out is `"/run/secrets/" ++ source`, the key computed without it `"/run/secrets" ++ "/" ++ source`
      simp
  | _ => rfl

/-- the same through the modelled Go handler `defaultSecretMount`. -/
theorem secret_key_after_defaultSecretMount {v v' : Val} (h : defaultSecretMount v = .ok v') :
    mountKey "/run/secrets" v' = mountKey "/run/secrets" v := by
  have : v' = secretDefaultsV v := by
    cases v <;> simp only [defaultSecretMount, secretDefaultsV, Out.ok.injEq, reduceCtorEq] at h ⊢ <;> exact h.symm
  rw [this]; exact secret_key_defaults_invariant v

/-- the short form of a secret / config reference (`- sec`) has the key of its long form (`- source: sec`). -/
theorem mount_key_short_eq_long (dp s : String) :
    mountKey dp (.str s) = mountKey dp (.map [("source", .str s)]) := by
  simp [mountKey, lookup, fmtS]

example : mountKey "/run/secrets" (.map [("source", .str "sec")]) = .ok "/run/secrets/sec" := by decide +kernel
example : mountKey "/run/secrets" (.map [("source", .str "sec"), ("target", .str "/run/secrets/sec")]) = .ok "/run/secrets/sec" := by decide +kernel

/-- **env_file**: the canonical form of an entry (`required: true` written out, short form expanded) has the key of
the entry as written — for every value, including the ones `transformEnvFileValue` turns into `nil`. -/
theorem env_file_key_defaults_invariant (v : Val) : envFileKey (envFileValue v) = envFileKey v := by
  cases v with
  | map m =>
    simp only [envFileValue, envFileKey]
    rw [lookup_setIfAbsent_ne (by simp)]
  | str s => simp [envFileValue, envFileKey, lookup]
  | _ => rfl


/-- **`EnforceUnicity` on a list, then the defaults = the defaults, then `EnforceUnicity`**, for any rewriting of
entries that leaves their keys alone. -/
theorem enforceSeq_commutes (key : Val → Out String) (f : Val → Val) (hk : ∀ x, key (f x) = key x) (xs : List Val) :
    enforceSeq key (xs.map f) = (enforceSeq key xs).map (List.map f) := by
  have h := uniqAcc_commutes key f hk xs []
  simp only [List.map_nil] at h
  unfold enforceSeq
  rw [h]
  cases uniqAcc key xs [] <;> simp [Out.map, Function.comp_def]

/-- ports: the merged list with `portDefaults` applied to every entry de-duplicates to the de-duplicated list with
`portDefaults` applied — the same entries survive whether a file spelled its defaults or not. -/
theorem enforce_ports_commutes_defaults (xs : List Val) :
    enforceSeq portKey (xs.map portDefaultsV) = (enforceSeq portKey xs).map (List.map portDefaultsV) :=
  enforceSeq_commutes portKey portDefaultsV port_key_defaults_invariant xs

theorem enforce_secrets_commutes_defaults (xs : List Val) :
    enforceSeq (mountKey "/run/secrets") (xs.map secretDefaultsV) =
      (enforceSeq (mountKey "/run/secrets") xs).map (List.map secretDefaultsV) :=
  enforceSeq_commutes _ secretDefaultsV secret_key_defaults_invariant xs

theorem enforce_env_file_commutes_canonical (xs : List Val) :
    enforceSeq envFileKey (xs.map envFileValue) = (enforceSeq envFileKey xs).map (List.map envFileValue) :=
  enforceSeq_commutes envFileKey envFileValue env_file_key_defaults_invariant xs

/-- **no two entries of a de-duplicated list have the same key**: after `EnforceUnicity` every key occurs once -/
theorem enforceSeq_keys_distinct (key : Val → Out String) (xs ys : List Val) (h : enforceSeq key xs = .ok ys) :
    (ys.map key).Nodup :=
  let ⟨_, hk, hnd⟩ := enforceSeq_ok_keys key xs ys h
  hk ▸ List.Pairwise.map Out.ok (fun _ _ hne e => hne (Out.ok.inj e)) hnd

/-- two statements of one entry (same key) leave one entry: the later one. -/
theorem restated_entry_is_one (key : Val → Out String) (x y : Val) (k : String) (hx : key x = .ok k) (hy : key y = .ok k) :
    enforceSeq key [x, y] = .ok [y] := by
  simp [enforceSeq, uniqAcc, hx, hy, Val.insert, Out.map]

/-- **a port stated implicitly in one file and with its defaults written out in the other is one port**, in either order. -/
theorem port_restated_with_defaults_is_one (m : KVs) (t : Val) (ht : lookup "target" m = some t) :
    enforceSeq portKey [.map m, portDefaultsV (.map m)] = .ok [portDefaultsV (.map m)] ∧
    enforceSeq portKey [portDefaultsV (.map m), .map m] = .ok [.map m] := by
  have hk : ∃ k, portKey (.map m) = .ok k := by simp [portKey, ht]
  obtain ⟨k, hk⟩ := hk
  have hk' : portKey (portDefaultsV (.map m)) = .ok k := by rw [port_key_defaults_invariant]; exact hk
  exact ⟨restated_entry_is_one portKey _ _ k hk hk', restated_entry_is_one portKey _ _ k hk' hk⟩

theorem secret_restated_with_defaults_is_one (m : KVs) (s : String) (hs : lookup "source" m = some (.str s))
    (ht : lookup "target" m = none) :
    enforceSeq (mountKey "/run/secrets") [.map m, secretDefaultsV (.map m)] = .ok [secretDefaultsV (.map m)] ∧
    enforceSeq (mountKey "/run/secrets") [.str s, .map m] = .ok [.map m] := by
  have hk : mountKey "/run/secrets" (.map m) = .ok ("/run/secrets" ++ "/" ++ s) := by simp [mountKey, ht, hs, fmtS]
  have hk' : mountKey "/run/secrets" (secretDefaultsV (.map m)) = .ok ("/run/secrets" ++ "/" ++ s) := by
    rw [secret_key_defaults_invariant]; exact hk
  exact ⟨restated_entry_is_one _ _ _ _ hk hk', restated_entry_is_one _ _ _ _ (by simp [mountKey]) hk⟩

example : enforceSeq portKey [.map [("target", .int 80), ("published", .str "8080")],
    .map [("target", .int 80), ("published", .str "8080"), ("protocol", .str "tcp")]]
    = .ok [.map [("target", .int 80), ("published", .str "8080"), ("protocol", .str "tcp")]] := by decide +kernel
/-- another protocol is another port: both stay -/
example : (match enforceSeq portKey [.map [("target", .int 80)], .map [("target", .int 80), ("protocol", .str "udp")]] with
    | .ok l => l.length | _ => 0) = 2 := by decide +kernel

end CV.C11
