import ComposeVerif.Props.C01Whole
import ComposeVerif.Props.C05Stuck
import ComposeVerif.Props.C05Whole
/-!
# C01 — the "missing file is an error" clause for `extends.file`, on the composed function

`Props/C01Whole.lean` shows that `C01PipeFS.loadFS` (the composed pipeline with the other files of `extends` inside) has
no panic outcome beyond the reviewed sites.  Here the other half of the property's sentence about referenced files:
a reference that cannot be followed is an ERROR of the whole function.  C05's `stuck_service_outcomes` says that resolving
a service whose chain gets stuck yields the class, a tracker rejection or the fuel marker; the fuel marker is a panic
outcome, which `extendsStageFS_panics` excludes — so it is an error, and the error travels through `processDocsFS`,
`loadYamlModelFS` and `loadFS` unchanged.
-/
namespace CV.C01.Whole
open CV CV.Pipeline CV.C01PipeFS

/-- a stuck chain at the first visited service makes the extends stage of the composition fail (it cannot load, it cannot crash) -/
theorem extendsStageFS_first_stuck_err (c : Cfg) (bs : List BaseFile) (cfg S : Val.KVs) (n cls : String)
    (rest : List String) (f : Nat)
    (hx : c.opts.skipExtends = false)
    (hS : Val.lookup "services" cfg = some (.map S)) (hk : Val.keys S = n :: rest)
    (hst : Extends.stuckClass (Extends.realEnv c.mainFile (fsOf c bs)) f S n = some cls) :
    ∃ e, extendsStageFS c bs cfg = .err e := by
  have hnp : ∀ s, extendsStageFS c bs cfg ≠ .panic s := extendsStageFS_panics (S := fun _ => False) c bs cfg
  unfold extendsStageFS at hnp ⊢
  simp only [hx, Bool.false_eq_true, if_false] at hnp ⊢
  unfold Extends.applyExtends at hnp ⊢
  simp only [hS, hk] at hnp ⊢
  unfold Extends.applyExtendsOrd at hnp ⊢
  simp only [hS, Extends.applyAll] at hnp ⊢
  rcases Extends.stuck_service_outcomes (Extends.realEnv c.mainFile (fsOf c bs)) f
      (Extends.fuelFor (Extends.realEnv c.mainFile (fsOf c bs)) S) (Extends.realEnv c.mainFile (fsOf c bs)).mainFile n S S []
      (Extends.Inv.refl _ S) hst with h | h | h
  · rw [h]; exact ⟨_, rfl⟩
  · rw [h]; exact ⟨_, rfl⟩
  · rw [h] at hnp; exact absurd rfl (hnp _)

/-- an error of the extends stage on the first document is the answer of the whole function -/
theorem loadFS_err_of_extendsStageFS_err (c : Cfg) (bs : List BaseFile) (d : Val.KVs) (more : List Val.KVs) (cfg : Val.KVs)
    (hi : interpStage c d = .ok cfg) {e : String} (he : extendsStageFS c bs cfg = .err e) :
    loadFS c bs (d :: more) = .err e := by
  unfold loadFS loadYamlModelFS
  simp only [List.isEmpty_cons, Bool.false_eq_true, if_false]
  unfold processDocsFS processDocFS
  simp only [hi, Out.bind, he]

theorem fsOf_lookup_none (c : Cfg) (fl : String) (bs : List BaseFile) (h : ∀ b ∈ bs, b.ref ≠ fl) :
    Extends.fsLookup fl (fsOf c bs) = none := by
  rw [fsLookup_fsOf, List.find?_eq_none.mpr (fun b hb => by simpa using fun e => h b hb e.symm)]; rfl

/-- **the property's missing-file clause for `extends.file`, on the composed function, for all inputs**: if the first
visited service of the first document (after interpolation) extends `{file: fl, service: r}` and no file of the disk
is named `fl`, then `loadFS` returns an error — for every configuration, every other content of the documents, every
other file on disk, every option combination with extends on -/
theorem loadFS_missing_extends_file_err (c : Cfg) (bs : List BaseFile) (d : Val.KVs) (more : List Val.KVs)
    (cfg S svc m : Val.KVs) (n r fl : String) (rest : List String)
    (hx : c.opts.skipExtends = false) (hi : interpStage c d = .ok cfg)
    (hS : Val.lookup "services" cfg = some (.map S)) (hk : Val.keys S = n :: rest)
    (hn : Val.lookup n S = some (.map svc)) (he : Val.lookup "extends" svc = some (.map m))
    (hs : Val.lookup "service" m = some (.str r)) (hf : Val.lookup "file" m = some (.str fl))
    (hmiss : ∀ b ∈ bs, b.ref ≠ fl) :
    ∃ e, loadFS c bs (d :: more) = .err e := by
  have hl := fsOf_lookup_none c fl bs hmiss
  have hst : Extends.stuckClass (Extends.realEnv c.mainFile (fsOf c bs)) 1 S n = some "noFile" := by
    simp [Extends.stuckClass, hn, he, Extends.parseExtends, hs, hf, Extends.resolveBase, Extends.baseFromFile, hl,
      Extends.realEnv]
  obtain ⟨e, he⟩ := extendsStageFS_first_stuck_err c bs cfg S n "noFile" rest 1 hx hS hk hst
  exact ⟨e, loadFS_err_of_extendsStageFS_err c bs d more cfg hi he⟩

/-- non-vacuity of the hypotheses: a one-service document that extends `nope.yaml` with nothing on disk -/
example : ∃ e, loadFS { exampleCfg with opts := { skipExtends := false, skipInterpolation := true } } []
    [[("services", .map [("a", .map [("extends", .map [("file", .str "nope.yaml"), ("service", .str "b")])])])]] = .err e :=
  loadFS_missing_extends_file_err _ [] _ [] _ _ _ _ "a" "b" "nope.yaml" [] rfl rfl rfl rfl rfl rfl rfl rfl
    (fun _ h => nomatch h)


/-- a stuck chain at ANY service of the document makes the extends stage of the composition fail -/
theorem extendsStageFS_stuck_anywhere_err (c : Cfg) (bs : List BaseFile) (cfg S : Val.KVs) (n cls : String) (f : Nat)
    (hx : c.opts.skipExtends = false)
    (hS : Val.lookup "services" cfg = some (.map S)) (hn : Val.lookup n S ≠ none)
    (hnn : Extends.NoNull S) (hfs : Extends.NoNullFS (Extends.realEnv c.mainFile (fsOf c bs)))
    (hst : Extends.stuckClass (Extends.realEnv c.mainFile (fsOf c bs)) f S n = some cls) :
    ∃ e, extendsStageFS c bs cfg = .err e := by
  have hnp : ∀ s, extendsStageFS c bs cfg ≠ .panic s := extendsStageFS_panics (S := fun _ => False) c bs cfg
  have hno := Extends.not_flat_not_ok hS hnn hfs (Extends.Whole.visits_keys S) hn
    (Extends.stuck_excludes_flat_and_cycle hst).1
  rw [← Extends.Whole.applyExtends_eq_ord hS] at hno
  unfold extendsStageFS at hnp ⊢
  simp only [hx, Bool.false_eq_true, if_false] at hnp ⊢
  cases hA : Extends.applyExtends (Extends.realEnv c.mainFile (fsOf c bs)) cfg with
  | ok R => exact absurd hA (hno R)
  | err e => exact ⟨_, rfl⟩
  | panic s => rw [hA] at hnp; exact absurd rfl (hnp _)

/-- **missing-file clause, any position**: whichever service of the first document (after interpolation) has a chain that
cannot be followed — a file that is not there (`noFile`), a service that is not in it, a file without `services`, a
file whose own load fails — the composed load is an ERROR.  Hypotheses visible: no service is `null` in the document and
in the files (C05's soundness lemma for the memoised services needs it; the statement without them is not refuted) -/
theorem loadFS_stuck_anywhere_err (c : Cfg) (bs : List BaseFile) (d : Val.KVs) (more : List Val.KVs) (cfg S : Val.KVs)
    (n cls : String) (f : Nat)
    (hx : c.opts.skipExtends = false) (hi : interpStage c d = .ok cfg)
    (hS : Val.lookup "services" cfg = some (.map S)) (hn : Val.lookup n S ≠ none)
    (hnn : Extends.NoNull S) (hfs : Extends.NoNullFS (Extends.realEnv c.mainFile (fsOf c bs)))
    (hst : Extends.stuckClass (Extends.realEnv c.mainFile (fsOf c bs)) f S n = some cls) :
    ∃ e, loadFS c bs (d :: more) = .err e :=
  let ⟨e, he⟩ := extendsStageFS_stuck_anywhere_err c bs cfg S n cls f hx hS hn hnn hfs hst
  ⟨e, loadFS_err_of_extendsStageFS_err c bs d more cfg hi he⟩

/-- non-vacuity: two services, the SECOND one extends a file that is not there; empty disk -/
example : ∃ e, loadFS { exampleCfg with opts := { skipExtends := false, skipInterpolation := true } } []
    [[("services", .map [("a", .map [("image", .str "x")]),
                         ("b", .map [("extends", .map [("file", .str "nope.yaml"), ("service", .str "z")])])])]] = .err e :=
  loadFS_stuck_anywhere_err _ [] _ [] _ _ "b" "noFile" 1 rfl rfl rfl (by decide)
    (by intro n; simp only [Val.lookup]; split <;> (try split) <;> simp)
    (by intro f S h; simp [Extends.fileServices, Extends.realEnv, fsOf, Extends.fsLookup] at h)
    rfl

end CV.C01.Whole
