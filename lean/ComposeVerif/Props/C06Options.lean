import ComposeVerif.Model.Include
/-!
# C06 — the options of the included load (`Options.clone()` + what `ApplyInclude` forces)

The field lists of `loader.Options` and of the literal in `clone()` are tied to the source in `Props/C06Source.lean`.
-/
namespace CV.Include

/-- `Options.clone()` copies every option -/
theorem clone_eq (o : Opts) : o.clone = o := rfl

/-- the included project is loaded with the caller's options, except that paths are
resolved, normalisation and the consistency check are left to the caller, and resource loaders / interpolation lookup
are those of the included project -/
theorem include_options_inherited (o : Opts) (ld ip : Nat) :
    o.forInclude ld ip = { o with resolvePaths := true, skipNormalization := true, skipConsistencyCheck := true,
                                  resourceLoaders := ld, interpolate := ip } := rfl

/-- in particular every `Skip*` flag the sub-load consults is the caller's -/
theorem include_options_flags (o : Opts) (ld ip : Nat) :
    (o.forInclude ld ip).skipValidation = o.skipValidation ∧
    (o.forInclude ld ip).skipInterpolation = o.skipInterpolation ∧
    (o.forInclude ld ip).skipExtends = o.skipExtends ∧
    (o.forInclude ld ip).skipInclude = o.skipInclude ∧
    (o.forInclude ld ip).skipDefaultValues = o.skipDefaultValues ∧
    (o.forInclude ld ip).skipResolveEnvironment = o.skipResolveEnvironment ∧
    (o.forInclude ld ip).convertWindowsPaths = o.convertWindowsPaths ∧
    (o.forInclude ld ip).discardEnvFiles = o.discardEnvFiles ∧
    (o.forInclude ld ip).profiles = o.profiles ∧
    (o.forInclude ld ip).projectName = o.projectName ∧
    (o.forInclude ld ip).projectNameImperativelySet = o.projectNameImperativelySet ∧
    (o.forInclude ld ip).knownExtensions = o.knownExtensions ∧
    (o.forInclude ld ip).listeners = o.listeners :=
  ⟨rfl, rfl, rfl, rfl, rfl, rfl, rfl, rfl, rfl, rfl, rfl, rfl, rfl⟩

/-- nested includes compose: the options at depth 2 are the options the root's include would compute directly (with
the inner project's loaders and interpolation) — every level is loaded under the same flags -/
theorem include_options_nested (o : Opts) (ld1 ip1 ld2 ip2 : Nat) :
    (o.forInclude ld1 ip1).forInclude ld2 ip2 = o.forInclude ld2 ip2 := rfl

theorem clone_flag (o : Opts) (n : String) : o.clone.flag n = o.flag n := rfl

end CV.Include
