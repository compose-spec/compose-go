import ComposeVerif.Props.C15
/-!
# C15 — compositions of the selection operations

Which compositions commute, which are idempotent, which are not.  Equalities between projects are stated at the level of
the Go map (`LookEq`: the same value under every key): list order is Go's iteration order, which `*_perm` proved irrelevant.
-/
namespace CV.Sel

/-- **`WithSelectedServices`, total statement**: on a well-formed project and a non-empty name list the operation
is decided by the reference `selectWanted` (roots known? closure free of missing required dependencies?): it is rejected
iff the reference rejects, and otherwise returns a project `q` that satisfies `SelectSpec` for the reference set `S`,
where `S` is exactly the least set containing the names and closed under the policy's edges.  No fuel, no hypothesis
about the walk: the model's fuel is discharged inside (`select_never_out_of_fuel`). -/
theorem select_closure_total {p : Proj} (g : Good p) {names : List String} (hn : names ≠ []) (pol : Policy) :
    match selectWanted p names pol with
    | none => withSelectedServices p names pol = .err
    | some S => (∀ x, x ∈ S ↔ Reach p.services pol names x) ∧
        ∃ q, withSelectedServices p names pol = .ok q ∧ SelectSpec p S q ∧ SelectMovedSpec p S q ∧
          (∀ x, x ∈ keys q.services ↔ Reach p.services pol names x) := by
  cases hw : selectWanted p names pol with
  | none => exact (selectWanted_none_iff g hn pol).1 hw
  | some S =>
    have hS : ∀ x, x ∈ S ↔ Reach p.services pol names x :=
      selectWanted_eq_some hw ▸ closure_eq_reach g.1.1 pol names
    refine ⟨hS, ?_⟩
    cases hq : withSelectedServices p names pol with
    | err => rw [(selectWanted_none_iff g hn pol).2 hq] at hw; cases hw
    | fuel => exact absurd hq (select_never_out_of_fuel g.1 g.2.2 names pol)
    | ok q =>
      obtain ⟨S', hS', rfl⟩ := select_ok_inv g.1 g.2.2 hn hq
      rw [selectResult_congr p fun x => (hS' x).trans (hS x).symm]
      exact ⟨_, rfl, selectResult_spec g.1 S fun x hx => reach_enabled ((hS x).1 hx), selectResult_movedSpec g.1 S,
        fun x => (mem_keys_selectResult_services fun x hx => reach_enabled ((hS x).1 hx)).trans (hS x)⟩

/-! ## `WithProfiles` after a history -/

/-- **`WithProfiles` forgets the history**: whatever sequence of operations was applied before, `WithProfiles P` enables
exactly the services that `WithProfiles P` enables on the original project (contents: the current ones, `history_conserved`) -/
theorem profiles_absorbs_history {p : Proj} (g : Good p) (ops : List Op) (P : List String) (k : String) :
    k ∈ keys (withProfiles (run p ops) P).services ↔ k ∈ keys (withProfiles p P).services := by
  have inv := partition_inv g ops
  rw [profiles_enabled_iff inv.1.1 P k, profiles_enabled_iff g.1 P k]
  have c := inv.2 k
  cases hp : find p k with
  | none =>
    cases hr : find (run p ops) k with
    | none => simp
    | some t => rw [hp, hr] at c; exact c.elim
  | some s =>
    cases hr : find (run p ops) k with
    | none => rw [hp, hr] at c; exact c.elim
    | some t =>
      rw [hp, hr] at c
      have := active_of_svcLe c P
      constructor
      · rintro ⟨_, e, a⟩; cases e; exact ⟨s, rfl, this.2 a⟩
      · rintro ⟨_, e, a⟩; cases e; exact ⟨t, rfl, this.1 a⟩

/-- … and the same for the disabled half -/
theorem profiles_absorbs_history_disabled {p : Proj} (g : Good p) (ops : List Op) (P : List String) (k : String) :
    k ∈ keys (withProfiles (run p ops) P).disabled ↔ k ∈ keys (withProfiles p P).disabled := by
  have inv := partition_inv g ops
  -- in a partition, disabled = known and not enabled; `WithProfiles` keeps `known`, the history keeps `known`
  rw [mem_disabled_iff (withProfiles_partition inv.1.1 P), mem_disabled_iff (withProfiles_partition g.1 P),
    known_withProfiles inv.1.1, known_withProfiles g.1, ← inv.2.known, profiles_absorbs_history g ops P k]

def fastPathProj : Proj :=
  { services := [("a", exSvc "a" [] []), ("b", exSvc "b" [] [("a", ⟨true, "c"⟩)])], disabled := [], profiles := [],
    networks := [], volumes := [], secrets := [], configs := [] }

/-- **re-applying the recorded profile list is not the identity after a history**: a service without profile that was
disabled by name comes back.  (Returning the receiver's copy when `p.Profiles` equals the argument assumes
exactly the equation refuted here.) -/
theorem profiles_recorded_list_not_identity :
    ∃ (p : Proj) (ops : List Op), Good p ∧ ProfilesOK p ∧
      keys (withProfiles (run p ops) (run p ops).profiles).services ≠ keys (run p ops).services :=
  ⟨fastPathProj, [.disable ["a"]], ⟨by decide +kernel, by decide +kernel, by decide +kernel⟩, by decide +kernel, by decide +kernel⟩

/-- what does hold: directly after `WithProfiles P` (no operation in between) a second `WithProfiles P` changes nothing -/
theorem profiles_recorded_list_identity_partial {p : Proj} (h : Partition p) (P : List String) :
    LookEq (withProfiles (withProfiles p P) (withProfiles p P).profiles).services (withProfiles p P).services ∧
    LookEq (withProfiles (withProfiles p P) (withProfiles p P).profiles).disabled (withProfiles p P).disabled :=
  profiles_idempotent h P

/-! ## `WithServicesDisabled`: set of names, idempotence, argument order -/

/-- the enabled half of `WithServicesDisabled` depends on the **set** of names only: any reordering or repetition of the
arguments gives the same enabled map -/
theorem disable_names_order_free (p : Proj) {a b : List String} (e : ∀ x, x ∈ a ↔ x ∈ b) :
    LookEq (withServicesDisabled p a).services (withServicesDisabled p b).services := by
  intro k
  rw [lookup_withServicesDisabled_services, lookup_withServicesDisabled_services, funext (dropDeps_congr e)]
  simp only [e k]

/-- **`WithServicesDisabled` is idempotent**: disabling the same names again returns the same enabled and the same
disabled map -/
theorem disable_idempotent (p : Proj) (names : List String) :
    LookEq (withServicesDisabled (withServicesDisabled p names) names).services (withServicesDisabled p names).services ∧
    LookEq (withServicesDisabled (withServicesDisabled p names) names).disabled (withServicesDisabled p names).disabled := by
  refine ⟨fun k => ?_, fun k => ?_⟩
  · rw [lookup_withServicesDisabled_services, lookup_withServicesDisabled_services]
    split
    · rfl
    · rw [Option.map_map]
      refine congrArg (Option.map · _) (funext fun s => ?_)
      exact (dropDeps_dropDeps names names s).trans (dropDeps_congr (by simp) s)
  · -- no name is enabled any more, so nothing is moved
    rw [lookup_withServicesDisabled_disabled, if_neg fun c => (mem_keys_withServicesDisabled_services.1 c.2).2 c.1]

/-- the disabled half is **not** symmetric in the arguments: `b` depends on `a`; disabled as `[a, b]` it has lost the
edge, disabled as `[b, a]` it keeps it (`disable_moved_exact`: `upTo`) -/
theorem disable_args_do_not_commute :
    ∃ (p : Proj) (a b : String), Good p ∧
      lookup b (withServicesDisabled p [a, b]).disabled ≠ lookup b (withServicesDisabled p [b, a]).disabled :=
  ⟨fastPathProj, "a", "b", ⟨by decide +kernel, by decide +kernel, by decide +kernel⟩, by decide +kernel⟩

/-- disabling, then enabling by profile: `WithServicesDisabled` commutes with a following `WithProfiles` as far as the
partition goes (instance of `profiles_absorbs_history`) -/
theorem profiles_after_disable {p : Proj} (g : Good p) (names P : List String) (k : String) :
    k ∈ keys (withProfiles (withServicesDisabled p names) P).services ↔ k ∈ keys (withProfiles p P).services :=
  profiles_absorbs_history g [.disable names] P k

/-- selecting, then `WithProfiles`: the services pruned away by a successful selection come back exactly as the profile
rule says (instance of `profiles_absorbs_history`; a failed selection leaves the project as it was) -/
theorem profiles_after_select {p : Proj} (g : Good p) (names : List String) (pol : Policy) (P : List String) (k : String) :
    k ∈ keys (withProfiles (run p [.select names pol]) P).services ↔ k ∈ keys (withProfiles p P).services :=
  profiles_absorbs_history g [.select names pol] P k

/-- **`WithServicesEnabled` is idempotent** on a project as a load (and every history after it) leaves it: enabling the
same names again returns the same project — no profile is added twice, no environment resolved differently -/
theorem enable_idempotent {p : Proj} (g : Good p) (ok : ProfilesOK p) (names : List String) :
    withServicesEnabled (withServicesEnabled p names) names = withServicesEnabled p names := by
  by_cases hne : names = []
  · subst hne; rfl
  -- every name is enabled now, or unknown: the second call adds no profile
  have e1 : wantedProfiles (withServicesEnabled p names) names = [] := by
    refine List.flatMap_eq_nil_iff.2 fun n hnm => ?_
    by_cases hk : n ∈ known p
    · rw [if_pos (enable_enables_named g.1 ok hnm hk)]
    · have : n ∉ keys (withServicesEnabled p names).disabled :=
        fun c => hk ((known_withServicesEnabled g.1 names n).1 (mem_known.2 (.inr c)))
      split
      · rfl
      · rw [lookup_eq_none.2 this]
  rw [withServicesEnabled_of_ne hne (p := withServicesEnabled p names), e1, List.append_nil]
  -- the partition already follows the profile rule, and the environment is resolved
  rw [withServicesEnabled_of_ne hne]
  generalize p.profiles ++ wantedProfiles p names = P
  have hs : ∀ kv ∈ (resolveEnabled (withProfiles p P)).services, hasProfile kv.2 P = true := fun kv hkv => by
    obtain ⟨s, hm, e⟩ := mem_resolveEnabled_services hkv
    rw [withProfiles_services g.1] at hm
    exact e ▸ (List.mem_filter.1 hm).2
  have hd : ∀ kv ∈ (withProfiles p P).disabled, hasProfile kv.2 P = false := fun kv hkv => by
    rw [withProfiles_disabled g.1] at hkv
    simpa using (List.mem_filter.1 hkv).2
  rw [withProfiles_fix (q := resolveEnabled (withProfiles p P))
    (resolveEnabled_partition (withProfiles_partition g.1 P)) hs hd, resolveEnabled_idem]

/-! ## histories compose; the last `WithProfiles` decides; the closure is monotone -/

/-- **any history that ends with `WithProfiles P` leaves the partition `WithProfiles P` alone would**: the last profile
selection decides which services are enabled, whatever was enabled, disabled or selected before -/
theorem history_ending_with_profiles {p : Proj} (g : Good p) (ops : List Op) (P : List String) (k : String) :
    k ∈ keys (run p (ops ++ [.profiles P])).services ↔ k ∈ keys (withProfiles p P).services := by
  rw [run_append]
  exact profiles_absorbs_history g ops P k

/-- **selecting more names keeps more services**: if both selections succeed, the enabled set of the smaller request is
contained in that of the larger one -/
theorem select_monotone {p : Proj} (g : Good p) {a b : List String} (ha : a ≠ []) (hb : b ≠ []) (sub : ∀ x ∈ a, x ∈ b)
    {pol : Policy} {qa qb : Proj} (ea : withSelectedServices p a pol = .ok qa) (eb : withSelectedServices p b pol = .ok qb)
    (x : String) (hx : x ∈ keys qa.services) : x ∈ keys qb.services := by
  rw [selected_eq_closure g.1 g.2.2 hb eb]
  exact Reach.mono sub ((selected_eq_closure g.1 g.2.2 ha ea x).1 hx)

/-! ## `WithServicesDisabled` and `WithSelectedServices`: inclusion, not commutation -/

/-- an edge of the walk after `WithServicesDisabled ns` is an edge of the walk before it, between services outside `ns` -/
theorem edge_disable {p : Proj} {ns : List String} {pol : Policy} {x y : String}
    (e : Edge (withServicesDisabled p ns).services pol x y) : Edge p.services pol x y ∧ y ∉ ns := by
  cases pol with
  | deps =>
    obtain ⟨s', hs', hy, hk⟩ := e
    obtain ⟨_, s, hl, rfl⟩ := lookup_withServicesDisabled_services_eq_some.1 hs'
    have hk' := mem_keys_withServicesDisabled_services.1 hk
    exact ⟨⟨s, hl, (mem_keys_dropDeps hy).1, hk'.1⟩, hk'.2⟩
  | dependents =>
    obtain ⟨hx, s', hs', hxd⟩ := e
    obtain ⟨hyn, s, hl, rfl⟩ := lookup_withServicesDisabled_services_eq_some.1 hs'
    exact ⟨⟨(mem_keys_withServicesDisabled_services.1 hx).1, s, hl, (mem_keys_dropDeps hxd).1⟩, hyn⟩
  | ignore => exact e.elim

/-- **disable, then select ⊆ select**: the closure computed after `WithServicesDisabled ns` is contained in the closure
computed before it and avoids `ns` — disabling first can only shrink a selection (it cuts the paths through `ns`) -/
theorem reach_after_disable {p : Proj} {ns names : List String} {pol : Policy} {x : String}
    (h : Reach (withServicesDisabled p ns).services pol names x) : Reach p.services pol names x ∧ x ∉ ns := by
  induction h with
  | root hr hk =>
    have := mem_keys_withServicesDisabled_services.1 hk
    exact ⟨.root hr this.1, this.2⟩
  | step _ e ih =>
    have := edge_disable e
    exact ⟨.step ih.1 this.1, this.2⟩

/-- at the level of the operations: when both selections succeed, what is kept after disabling `ns` first is kept without
disabling, and contains no name of `ns` -/
theorem disable_then_select_subset {p : Proj} (g : Good p) (ns : List String) {names : List String} (hn : names ≠ [])
    {pol : Policy} {q1 q2 : Proj} (e1 : withSelectedServices (withServicesDisabled p ns) names pol = .ok q1)
    (e2 : withSelectedServices p names pol = .ok q2) (x : String) (hx : x ∈ keys q1.services) :
    x ∈ keys q2.services ∧ x ∉ ns := by
  have g' := (partition_step g (.disable ns) (q := withServicesDisabled p ns) rfl).1
  have r := reach_after_disable ((selected_eq_closure g'.1 g'.2.2 hn e1 x).1 hx)
  exact ⟨(selected_eq_closure g.1 g.2.2 hn e2 x).2 r.1, r.2⟩

def chainProj : Proj :=
  { services := [("a", exSvc "a" [] [("b", ⟨false, "c"⟩)]), ("b", exSvc "b" [] [("c", ⟨false, "c"⟩)]), ("c", exSvc "c" [] [])],
    disabled := [], profiles := [], networks := [], volumes := [], secrets := [], configs := [] }

/-- … and the inclusion is strict in general: `WithServicesDisabled` and `WithSelectedServices` do **not** commute.  On the chain
`a → b → c` (optional edges) selecting `a` after disabling `b` keeps `a` alone, while selecting `a` first keeps `c` too -/
theorem select_disable_do_not_commute :
    ∃ (p : Proj) (ns names : List String) (pol : Policy), Good p ∧
      keys (run p [.disable ns, .select names pol]).services ≠ keys (run p [.select names pol, .disable ns]).services :=
  ⟨chainProj, ["b"], ["a"], .deps, ⟨by decide +kernel, by decide +kernel, by decide +kernel⟩, by decide +kernel⟩

/-! ## non-vacuity -/

example : Good fastPathProj := ⟨by decide +kernel, by decide +kernel, by decide +kernel⟩
example : Good exProj ∧ ProfilesOK exProj ∧ withServicesEnabled exProj ["cache"] ≠ exProj :=
  ⟨⟨by decide +kernel, by decide +kernel, by decide +kernel⟩, by decide +kernel, by decide +kernel⟩
example : selectWanted fastPathProj ["b"] .deps = some ["b", "a"] := by decide +kernel
example : selectWanted fastPathProj ["zz"] .deps = none := by decide +kernel
example : keys (withProfiles (run fastPathProj [.disable ["a"], .select ["b"] .deps]) ["x"]).services = ["b", "a"] := by decide +kernel

end CV.Sel
