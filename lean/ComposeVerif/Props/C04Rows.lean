import ComposeVerif.Props.C04
/-!
# C04 — one law per row of the two Go tables

`Props/C04.lean` proves what each *merger* / *indexer* does and that the 54 attribute paths of the property text get the
rule the text states.  This module closes the gap between the two **for every row of the regenerated tables and every
concrete path the row matches** (any service / network / volume / ulimit name).  A row added to either Go table is
covered automatically (the statements quantify over the regenerated lists); a row naming a function the model does not
know makes `RowLaw` / `UniqueLaw` `False` and breaks the theorem.
-/
namespace CV.C04.Rows
open CV CV.Val CV.Merge CV.Unicity CV.C04

/-- the merger a row of `mergeSpecials` names -/
def rowRule (name : String) : Rule := (ruleOfName name).getD .unknown

/-- the indexer a row of `unique` names -/
def rowIndexer (name : String) : Indexer := (indexerOfName name).getD .unknown

/-- at a path matched by a row of `mergeSpecials` the rule found is that row's, whatever the other rows are -/
theorem row_rule {pat : List String} {name : String} (h : (pat, name) ∈ CV.Gen.mergeSpecials) (p : TPath)
    (hm : TPath.pmatch pat p = true) : ruleAt p = some (rowRule name) := by
  unfold ruleAt ruleAtIn
  rw [TPath.firstMatch_eq_of_mem mergeSpecials_exclusive h hm]
  rfl

theorem row_indexer {pat : List String} {name : String} (h : (pat, name) ∈ CV.Gen.unique) (p : TPath)
    (hm : TPath.pmatch pat p = true) : indexerAt p = some (rowIndexer name) := by
  unfold indexerAt indexerAtIn
  rw [TPath.firstMatch_eq_of_mem unique_exclusive h hm]
  rfl

/-- `mergeYaml` at a path matched by a row is one application of the row's merger -/
theorem row_step {pat : List String} {name : String} (h : (pat, name) ∈ CV.Gen.mergeSpecials) (p : TPath)
    (hm : TPath.pmatch pat p = true) (n : Nat) (e o : Val) :
    mergeYaml (n + 1) e o p = specialStep (mergeKVs n) (rowRule name) e o p :=
  mergeYaml_succ_special (row_rule h p hm) n e o

/-- the closed law of each merger (what `mergeYaml (n+1) e o p` is when the rule at `p` is `r`) -/
def RowLaw (n : Nat) (r : Rule) (e o : Val) (p : TPath) : Prop :=
  match r with
  | .toSeq => mergeYaml (n + 1) e o p = .ok (.seq (seqOf e ++ seqOf o))
  | .override => mergeYaml (n + 1) e o p = .ok o
  | .extraHosts => mergeYaml (n + 1) e o p = .ok (.seq (seqOf e ++ keepNew (seqOf e) (seqOf o)))
  | .dependsOn => mergeYaml (n + 1) e o p = convMerge (mergeKVs n) (intoMap dependsOnDefault) e o p
  | .networks => mergeYaml (n + 1) e o p = convMerge (mergeKVs n) (intoMap .null) e o p
  | .build => mergeYaml (n + 1) e o p = convMerge (mergeKVs n) toBuild e o p
  | .logging => mergeYaml (n + 1) e o p = loggingStep (mergeKVs n) e o p
  | .ipam => mergeYaml (n + 1) e o p = ipamStep (mergeKVs n) e o p
  | .ulimit =>
    -- the base is not consulted at all: the later file's ulimit stands (a non-mapping value as it is)
    (∀ e' : Val, mergeYaml (n + 1) e' o p = mergeYaml (n + 1) e o p) ∧
    ((∀ kvs, o ≠ .map kvs) → mergeYaml (n + 1) e o p = .ok o)
  | .unknown => False

theorem rule_law (n : Nat) (r : Rule) (e o : Val) (p : TPath) (hp : ruleAt p = some r) (hr : r ≠ .unknown) :
    RowLaw n r e o p := by
  cases r with
  | unknown => exact absurd rfl hr
  | ulimit =>
    -- `mergeUlimit` does not look at the base
    refine ⟨fun e' => ?_, fun ho => ?_⟩
    · rw [mergeYaml_succ_special hp, mergeYaml_succ_special hp]; rfl
    · rw [mergeYaml_succ_special hp]; cases o <;> first | rfl | exact absurd rfl (ho _)
  | _ => exact mergeYaml_succ_special hp n e o

/-- **every row of `mergeSpecials` has its law**: for every row of the regenerated table, every concrete path the
row's pattern matches (any names in place of `*`), every fuel and all values on both sides -/
theorem every_row_has_law (row : List String × String) (h : row ∈ CV.Gen.mergeSpecials) (p : TPath)
    (hm : TPath.pmatch row.1 p = true) (n : Nat) (e o : Val) : RowLaw n (rowRule row.2) e o p := by
  obtain ⟨pat, name⟩ := row
  refine rule_law n _ e o p (row_rule h p hm) ?_
  have hk := rows_known.1 (pat, name) h
  unfold rowRule
  cases hn : ruleOfName name with
  | none => exact absurd hn hk
  | some r => exact fun hu => ruleOfName_ne_unknown name (hn.trans (congrArg some hu))

/-- the rows grouped by merger (a regenerated-table fact: moving an attribute to another merger breaks it) -/
theorem rows_by_rule :
    (CV.Gen.mergeSpecials.filter fun r => rowRule r.2 == .override).map Prod.fst =
      [["services", "*", "command"], ["services", "*", "entrypoint"], ["services", "*", "healthcheck", "test"]] ∧
    (CV.Gen.mergeSpecials.filter fun r => rowRule r.2 == .extraHosts).map Prod.fst =
      [["services", "*", "build", "extra_hosts"], ["services", "*", "extra_hosts"]] ∧
    (CV.Gen.mergeSpecials.filter fun r => rowRule r.2 == .toSeq).length = 17 ∧
    (CV.Gen.mergeSpecials.filter fun r => rowRule r.2 == .dependsOn).map Prod.fst = [["services", "*", "depends_on"]] ∧
    (CV.Gen.mergeSpecials.filter fun r => rowRule r.2 == .networks).map Prod.fst = [["services", "*", "networks"]] ∧
    (CV.Gen.mergeSpecials.filter fun r => rowRule r.2 == .build).map Prod.fst = [["services", "*", "build"]] ∧
    (CV.Gen.mergeSpecials.filter fun r => rowRule r.2 == .logging).map Prod.fst = [["services", "*", "logging"]] ∧
    (CV.Gen.mergeSpecials.filter fun r => rowRule r.2 == .ulimit).map Prod.fst = [["services", "*", "ulimits", "*"]] ∧
    (CV.Gen.mergeSpecials.filter fun r => rowRule r.2 == .ipam).map Prod.fst = [["networks", "*", "ipam", "config"]] ∧
    CV.Gen.mergeSpecials.length = 28 := by decide +kernel

/-- `build.extra_hosts` of any service: base entries stay in front, exactly the new ones are appended -/
theorem build_extra_hosts_law (s : String) (n : Nat) (e o : Val) :
    mergeYaml (n + 1) e o ["services", s, "build", "extra_hosts"] = .ok (.seq (seqOf e ++ keepNew (seqOf e) (seqOf o))) :=
  rule_law n .extraHosts e o _ (by rw [ruleAt_name_irrelevant _ s "s"]; decide +kernel) nofun

theorem ulimit_rule (s u : String) : ruleAt ["services", s, "ulimits", u] = some .ulimit :=
  (row_rule (pat := ["services", "*", "ulimits", "*"]) (name := "mergeUlimit") (by decide +kernel) _
    (by simp [TPath.pmatch])).trans (by decide +kernel)

/-- any ulimit of any service: the later file's value stands whatever the earlier files said -/
theorem ulimit_base_ignored (s u : String) (n : Nat) (e e' o : Val) :
    mergeYaml (n + 1) e' o ["services", s, "ulimits", u] = mergeYaml (n + 1) e o ["services", s, "ulimits", u] :=
  (rule_law n .ulimit e o _ (ulimit_rule s u) nofun).1 e'

/-- a single-number ulimit replaces -/
theorem ulimit_scalar_replaces (s u : String) (n : Nat) (e : Val) (i : Int) :
    mergeYaml (n + 1) e (.int i) ["services", s, "ulimits", u] = .ok (.int i) :=
  (rule_law n .ulimit e (.int i) _ (ulimit_rule s u) nofun).2 nofun

/-- a `{soft, hard}` ulimit replaces (the self-merge of the later file's mapping is the mapping itself when its values are numbers) -/
example : mergeYaml 2 (.map [("soft", .int 1), ("hard", .int 2)]) (.map [("soft", .int 10), ("hard", .int 20)])
    ["services", "web", "ulimits", "nofile"] = .ok (.map [("soft", .int 10), ("hard", .int 20)]) := by decide +kernel

/-- ipam pools of any network: the pools-by-subnet fold (whose laws are `ipam_no_pool_dropped`, `ipam_unmentioned_pool_preserved`,
`ipam_new_pool_appended`, `ipam_same_subnet_merged`) is what `mergeYaml` computes there -/
theorem ipam_config_law (net : String) (n : Nat) (e o : Val) :
    mergeYaml (n + 1) e o ["networks", net, "ipam", "config"] = ipamStep (mergeKVs n) e o ["networks", net, "ipam", "config"] :=
  rule_law n .ipam e o _ (by rw [ruleAt_name_irrelevant _ net "n"]; decide +kernel) nofun

/-- every `mergeToSequence` row, any names: both spellings are turned into `KEY=VALUE` sequences and appended -/
theorem toSeq_rows (row : List String × String) (h : row ∈ CV.Gen.mergeSpecials) (hn : row.2 = "mergeToSequence")
    (p : TPath) (hm : TPath.pmatch row.1 p = true) (n : Nat) (e o : Val) :
    mergeYaml (n + 1) e o p = .ok (.seq (seqOf e ++ seqOf o)) := by
  have := every_row_has_law row h p hm n e o
  rw [hn] at this
  exact this

/-- what `enforceUnicity` does to a list at a path whose indexer is `ix` -/
def UniqueLaw (ix : Indexer) (xs : List Val) (p : TPath) : Prop :=
  ix ≠ .unknown ∧
  enforce (.seq xs) p = (indexAll ix xs).bind (fun ks => .ok (.seq (dedup ks xs))) ∧
  ∀ ks, indexAll ix xs = .ok ks →
    (keys (dedupKVs (ks.zip xs))).Nodup ∧ ∀ k, lookup k (dedupKVs (ks.zip xs)) = lastVal k (ks.zip xs)

/-- **every row of `unique` has its law**: at every concrete path a row matches, a list is indexed with the row's
indexer (first failure wins) and the result holds a single entry per key, the last one carrying it -/
theorem every_unique_row_has_law (row : List String × String) (h : row ∈ CV.Gen.unique) (p : TPath)
    (hm : TPath.pmatch row.1 p = true) (xs : List Val) : UniqueLaw (rowIndexer row.2) xs p := by
  obtain ⟨pat, name⟩ := row
  refine ⟨?_, ?_, fun ks _ => ⟨unicity_nodup_keys _, fun k => unicity_last_wins _ k⟩⟩
  · have hk := rows_known.2 (pat, name) h
    unfold rowIndexer
    cases hn : indexerOfName name with
    | none => exact absurd hn hk
    | some r => exact fun hu => indexerOfName_ne_unknown name (hn.trans (congrArg some hu))
  · simp only [enforce, row_indexer h p hm]

theorem unique_rows_by_indexer :
    (CV.Gen.unique.filter fun r => rowIndexer r.2 == .port).map Prod.fst = [["services", "*", "ports"]] ∧
    (CV.Gen.unique.filter fun r => rowIndexer r.2 == .volume).map Prod.fst = [["services", "*", "volumes"]] ∧
    (CV.Gen.unique.filter fun r => rowIndexer r.2 == .deviceMapping).map Prod.fst = [["services", "*", "devices"]] ∧
    (CV.Gen.unique.filter fun r => rowIndexer r.2 == .expose).map Prod.fst = [["services", "*", "expose"]] ∧
    (CV.Gen.unique.filter fun r => rowIndexer r.2 == .envFile).map Prod.fst = [["services", "*", "env_file"]] ∧
    (CV.Gen.unique.filter fun r => rowIndexer r.2 == .mount "").map Prod.fst = [["services", "*", "configs"]] ∧
    (CV.Gen.unique.filter fun r => rowIndexer r.2 == .mount "/run/secrets").map Prod.fst = [["services", "*", "secrets"]] ∧
    (CV.Gen.unique.filter fun r => rowIndexer r.2 == .keyValue).length = 23 ∧
    CV.Gen.unique.length = 30 := by decide +kernel

/-- the to-sequence rows that have **no** row in `unique`: there the two lists are appended and a repeated entry stays
twice (`build.ssh`, `label_file`); for every other to-sequence row "later wins per key" applies (`kv_later_wins`) -/
theorem toSeq_rows_without_indexer :
    ((CV.Gen.mergeSpecials.filter fun r => rowRule r.2 == .toSeq).map Prod.fst).filter
        (fun pat => !(CV.Gen.unique.map Prod.fst).contains pat) =
      [["services", "*", "build", "ssh"], ["services", "*", "label_file"]] := by decide +kernel

/-- the `unique` rows without a custom merger: default append followed by unicity (`keyed_list_later_wins`) -/
theorem keyed_rows_by_default_append :
    (CV.Gen.unique.map Prod.fst).filter (fun pat => !(CV.Gen.mergeSpecials.map Prod.fst).contains pat) =
      [["networks", "*", "ipam", "options"], ["services", "*", "build", "platform"], ["services", "*", "build", "tags"],
       ["services", "*", "cap_add"], ["services", "*", "cap_drop"], ["services", "*", "configs"], ["services", "*", "expose"],
       ["services", "*", "links"], ["services", "*", "networks", "*", "aliases"],
       ["services", "*", "networks", "*", "link_local_ips"], ["services", "*", "ports"], ["services", "*", "profiles"],
       ["services", "*", "secrets"], ["services", "*", "volumes"], ["services", "*", "devices"]] := by decide +kernel

/-- short-syntax secret / config `name`: the key is `<default dir>/name` -/
theorem mount_key_short (d s : String) : index (.mount d) (.str s) = .ok (d ++ "/" ++ s) := rfl

/-- long syntax with a `target`: the key is the target -/
theorem mount_key_target (d : String) (kvs : KVs) (t : String) (ht : lookup "target" kvs = some (.str t)) :
    index (.mount d) (.map kvs) = .ok t := by
  simp [index, ht]

/-- long syntax without a target: `<default dir>/<source>` -/
theorem mount_key_source (d : String) (kvs : KVs) (s : String) (ht : lookup "target" kvs = none)
    (hs : lookup "source" kvs = some (.str s)) : index (.mount d) (.map kvs) = .ok (d ++ "/" ++ s) := by
  simp [index, ht, hs, sprintArg]

/-- **short `s1` and long `{source: s1}` are the same entry** (so the later file's spelling replaces the earlier one) -/
theorem mount_spelling_independent (d s : String) (kvs : KVs) (ht : lookup "target" kvs = none)
    (hs : lookup "source" kvs = some (.str s)) : index (.mount d) (.map kvs) = index (.mount d) (.str s) := by
  rw [mount_key_source d kvs s ht hs, mount_key_short]

/-- env_file: the path, whichever spelling -/
theorem envFile_key_short (s : String) : index .envFile (.str s) = .ok s := rfl

theorem envFile_key_long (kvs : KVs) (s : String) (h : lookup "path" kvs = some (.str s)) :
    index .envFile (.map kvs) = .ok s := by
  simp [index, h]

theorem envFile_spelling_independent (kvs : KVs) (s : String) (h : lookup "path" kvs = some (.str s)) :
    index .envFile (.map kvs) = index .envFile (.str s) := by
  rw [envFile_key_long kvs s h, envFile_key_short]

/-- expose: a number and the string of its digits are the same entry -/
theorem expose_spelling_independent (i : Int) : index .expose (.int i) = index .expose (.str (toString i)) := rfl

/-- devices: long syntax is keyed by `target`, short syntax `a:b[:c]` by `b`, a bare path by itself -/
theorem device_key_long (kvs : KVs) (t : String) (ht : lookup "target" kvs = some (.str t)) :
    index .deviceMapping (.map kvs) = .ok t := by
  simp [index, ht]

example : index .deviceMapping (.str "/dev/sda:/dev/xvda:rwm") = .ok "/dev/xvda" ∧
    index .deviceMapping (.str "/dev/sda") = .ok "/dev/sda" ∧
    index .deviceMapping (.map [("source", .str "/dev/sda"), ("target", .str "/dev/xvda")]) = .ok "/dev/xvda" := by
  decide +kernel

-- non-vacuity of the generic theorems: a concrete row, a concrete path
example : RowLaw 3 (rowRule "mergeLogging") (.map [("driver", .str "a")]) (.map [("driver", .str "b")]) ["services", "w", "logging"] :=
  every_row_has_law (["services", "*", "logging"], "mergeLogging") (by decide +kernel) _ (by simp [TPath.pmatch]) 3 _ _

example : (UniqueLaw (rowIndexer "exposeIndexer") [.int 80, .str "80", .str "81"] ["services", "w", "expose"]) :=
  every_unique_row_has_law (["services", "*", "expose"], "exposeIndexer") (by decide +kernel) _ (by simp [TPath.pmatch]) _

example : enforce (.seq [.int 80, .str "80", .str "81"]) ["services", "w", "expose"] = .ok (.seq [.str "80", .str "81"]) := by decide +kernel

end CV.C04.Rows
