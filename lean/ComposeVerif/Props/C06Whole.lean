import ComposeVerif.Props.C06Env
import ComposeVerif.Props.C06Anchor
import ComposeVerif.Props.C06Resolve
/-!
# C06 — the property in one statement (composition of the clause theorems)

`include_eq_paste` says the result is the paste of `subLoads`; `include_env_closed_form` says which environment each
sub-load got; `include_anchor_is_projDir_partial` says which directory its paths are anchored in; `plan_ok_fresh` says
its files are not on the include chain.  `include_property` puts them together for one call of `ApplyInclude` by an
including project in the absolute directory `L` (`baseDir = L`: the root load, and every nested load).
-/
namespace CV.Include
open CV CV.Val

variable {C : Type}

/-- one entry of `include:` "loaded on its own", as the property describes it: `im` is the sub-load of the entry's files
(`pl.paths`, none of them on the chain) in the project directory `pl.projDir`, with working directory `pl.relwd` —
which, joined back onto the including directory, is the project directory whenever the directory the entry names
exists (and is a non-empty relative path unless `project_directory` is absolute) — and with the environment `env'`: the parent's value for every variable the parent defines, otherwise the value
of the last env file of the entry (declared `env_file`s, or the project directory's `.env`) that defines it -/
structure LoadedOnItsOwn (W : World) (E : EnvWorld C) (L : String) (env : Env) (chain : List String)
    (r : IncCfg) (im : KVs) : Prop where
  ex : ∃ pl env' efs fromFile es,
    plan W L L chain r = .ok pl ∧
    (∀ p ∈ pl.paths, p ∉ chain) ∧
    (∀ p0 rest, r.path = p0 :: rest → PlanDirsExist W L r p0 →
        Include.join L pl.relwd = Include.clean pl.projDir ∨ (Include.isAbs pl.relwd = true ∧ pl.relwd = pl.projDir)) ∧
    (∀ p0 rest, r.path = p0 :: rest → Include.isAbs r.projectDirectory = false → PlanDirsExist W L r p0 →
        pl.relwd ≠ "" ∧ Include.isAbs pl.relwd = false ∧ Include.join L pl.relwd = Include.clean pl.projDir) ∧
    envFiles W L pl.projDir r.envFile = .ok efs ∧ Parsed E env efs [] es fromFile ∧
    (∀ x, Env.get env' x = match Env.get env x with
      | some v => some v
      | none => lastDefined es x) ∧
    W.loadModel pl.relwd pl.projDir pl.paths env' chain = .ok im

/-- every entry, in order -/
inductive AllLoadedOnTheirOwn (W : World) (E : EnvWorld C) (L : String) (env : Env) (chain : List String) :
    List IncCfg → List KVs → Prop
  | nil : AllLoadedOnTheirOwn W E L env chain [] []
  | cons {r rs im ims} : LoadedOnItsOwn W E L env chain r im → AllLoadedOnTheirOwn W E L env chain rs ims →
      AllLoadedOnTheirOwn W E L env chain (r :: rs) (im :: ims)

theorem subLoads_each (W : World) (E : EnvWorld C) (hW : W.envFromFile = getEnvFromFile E)
    (wd L : String) (hL : Include.isAbs L = true) (hb : baseDir wd L = L) (env : Env) (chain : List String) :
    ∀ (cfgs : List IncCfg) (ims : List KVs), subLoads W wd L env chain cfgs = .ok ims →
      AllLoadedOnTheirOwn W E L env chain cfgs ims
  | [], ims, h => by
    simp only [subLoads] at h; cases h; exact .nil
  | r :: rs, ims, h => by
    simp only [subLoads, hb] at h
    obtain ⟨pl, hp, h⟩ := bind_eq_ok h
    obtain ⟨env', he, h⟩ := bind_eq_ok h
    obtain ⟨im, hl, h⟩ := bind_eq_ok h
    obtain ⟨ims', hs, h⟩ := bind_eq_ok h
    cases h
    have hs' : subLoads W wd L env chain rs = .ok ims' := hs
    obtain ⟨efs, ff, es, hef, hpar, hget⟩ := include_env_closed_form W E hW L pl.projDir env env' r.envFile he
    refine .cons ⟨⟨pl, env', efs, ff, es, hp, plan_ok_fresh W L L chain r pl hp, ?_, ?_, hef, hpar, hget, hl⟩⟩
      (subLoads_each W E hW wd L hL hb env chain rs ims' hs')
    · intro p0 rest hpath hex
      exact include_anchor_is_projDir_partial W L chain r pl p0 rest hL hpath hex hp
    · intro p0 rest hpath hpd hex
      exact include_anchor_is_projDir_rel_partial W L chain r pl p0 rest hL hpath hpd hex hp

/-- whenever `ApplyInclude` succeeds for an including project in the absolute directory `L`, there
are the entries of `include:` and, for each, the included project *as loaded on its own* (`LoadedOnItsOwn`: fresh files,
own directory, parent environment completed from its env files) such that the result is the including document with —
for each of services / volumes / networks / secrets / configs and each name — its own definition if it has one, else
the first included project's; other keys untouched; `include` gone -/
theorem include_property (W : World) (E : EnvWorld C) (hW : W.envFromFile = getEnvFromFile E)
    (wd L : String) (hL : Include.isAbs L = true) (hb : baseDir wd L = L) (env : Env) (chain : List String)
    (model r : KVs) (h : applyInclude W wd L env chain model = .ok r) :
    ∃ cfgs ims, loadIncludeConfig (lookup "include" model) = .ok cfgs ∧
      AllLoadedOnTheirOwn W E L env chain cfgs ims ∧
      (∀ k, k ∈ resourceKinds → ∀ n, resourceOf r k n = pastedResource model ims k n) ∧
      (∀ k, k ∉ resourceKinds → k ≠ "include" → lookup k r = lookup k model) ∧
      lookup "include" r = none := by
  obtain ⟨cfgs, ims, hc, hs, hp, ho, hi⟩ := include_eq_paste W wd L env chain model r h
  exact ⟨cfgs, ims, hc, subLoads_each W E hW wd L hL hb env chain cfgs ims hs, hp, ho, hi⟩

/-- the root load: `workingDir` is the local loader's directory -/
theorem include_property_root (W : World) (E : EnvWorld C) (hW : W.envFromFile = getEnvFromFile E)
    (L : String) (hL : Include.isAbs L = true) (env : Env) (chain : List String)
    (model r : KVs) (h : applyInclude W L L env chain model = .ok r) :
    ∃ cfgs ims, loadIncludeConfig (lookup "include" model) = .ok cfgs ∧
      AllLoadedOnTheirOwn W E L env chain cfgs ims ∧
      (∀ k, k ∈ resourceKinds → ∀ n, resourceOf r k n = pastedResource model ims k n) ∧
      (∀ k, k ∉ resourceKinds → k ≠ "include" → lookup k r = lookup k model) ∧
      lookup "include" r = none :=
  include_property W E hW L L hL (baseDir_root L hL) env chain model r h

/-- non-vacuity: `/r/compose.yaml` (service `a`) includes `sub/inc.yaml` (service `b`, image from `${V}` of `sub/.env`);
the hypotheses hold and the call succeeds with both services -/
example :
    let E : EnvWorld (List (String × String)) :=
      { abs := fun p => p, stat := fun p => if p = "/r/sub/.env" then .file else .missing,
        read := fun _ => .ok [("V", "from-dotenv")], parse := fun c _ => .ok c }
    let W : World :=
      { cwd := "/cwd", isDir := fun p => p == "/r" || p == "/r/sub", isFile := fun p => p == "/r/sub/inc.yaml" || p == "/r/sub/.env",
        envFromFile := getEnvFromFile E,
        loadModel := fun _ _ _ env' _ => .ok [("services", .map [("b", .map [("image", .str ((Env.get env' "V").getD "unset"))])])] }
    W.envFromFile = getEnvFromFile E ∧ Include.isAbs "/r" = true ∧
    (match applyInclude W "/r" "/r" [] ["/r/compose.yaml"]
        [("include", .seq [.str "sub/inc.yaml"]), ("services", .map [("a", .map [("image", .str "a")])])] with
      | .ok r => veq (.map r)
          (.map [("services", .map [("a", .map [("image", .str "a")]), ("b", .map [("image", .str "from-dotenv")])])])
      | _ => false) = true := by
  refine ⟨rfl, by decide +kernel, by decide +kernel⟩

/-! ## the included branch of `loadYamlModel` inside the property

A world whose sub-load ends, like `loadYamlModel` for an included model, with `resolveModelEnv true` on the environment it
was given (`IncludedBranchWorld`).  It is proved of a small example world only: the driver's world sorts the result after
the resolvers (`loadYaml_is_included_branch`: `sortKVs' ∘ resolveModelEnv true`), which is not literally this shape. -/

/-- the sub-load is some load `pre` followed by the last statement of `loadYamlModel` for an included model -/
def IncludedBranchWorld (W : World) (pre : String → String → List String → Env → List String → Out KVs) : Prop :=
  ∀ relwd pd paths env' chain,
    W.loadModel relwd pd paths env' chain = (pre relwd pd paths env' chain).bind fun d => .ok (resolveModelEnv true env' d)

/-- what the resolvers did to one included model `im`, against the same project loaded on its own (`resolveModelEnv false`
of the same pre-model `d` under the same environment `env'`, which extends the including environment `env`) -/
def ResolvedAsOnItsOwn (env : Env) (im : KVs) : Prop :=
  ∃ env' d, Extends env' env ∧ im = resolveModelEnv true env' d ∧
    (∀ k, k ≠ "configs" → lookup k im = lookup k (resolveModelEnv false env' d)) ∧
    resolvedSection (resolveSource secretCarrier env) (lookup "secrets" im) = lookup "secrets" (resolveModelEnv false env' d) ∧
    (NoEqNames env →
      resolvedSection (resolveService env) (lookup "services" im) = lookup "services" (resolveModelEnv false env' d)) ∧
    lookup "configs" im = lookup "configs" d

theorem loadedOnItsOwn_resolved {W : World} {E : EnvWorld C} {pre} (hR : IncludedBranchWorld W pre)
    {L : String} {env : Env} {chain : List String} {r : IncCfg} {im : KVs}
    (h : LoadedOnItsOwn W E L env chain r im) : ResolvedAsOnItsOwn env im := by
  obtain ⟨pl, env', efs, ff, es, _, _, _, _, _, _, hget, hl⟩ := h.ex
  have hx : Extends env' env := by
    intro k v hk
    rw [hget k, hk]
  rw [hR] at hl
  obtain ⟨d, _, hd⟩ := bind_eq_ok hl
  cases hd
  exact ⟨env', d, hx, rfl, fun k hk => included_branch_eq_own_except_configs env' d hk,
    included_secret_survives_parent hx d, fun hn => included_service_survives_parent hx hn d,
    included_branch_configs_untouched env' d⟩

theorem allLoadedOnTheirOwn_resolved {W : World} {E : EnvWorld C} {pre} (hR : IncludedBranchWorld W pre)
    {L : String} {env : Env} {chain : List String} :
    ∀ {cfgs : List IncCfg} {ims : List KVs}, AllLoadedOnTheirOwn W E L env chain cfgs ims →
      ∀ im ∈ ims, ResolvedAsOnItsOwn env im
  | _, _, .nil => by intro im hm; cases hm
  | _, _, .cons h t => by
    intro im hm
    cases hm with
    | head => exact loadedOnItsOwn_resolved hR h
    | tail _ hm' => exact allLoadedOnTheirOwn_resolved hR t im hm'

/-- `include_property`, plus: every included model that is pasted equals — in services,
volumes, networks, secrets — the included project loaded on its own with SOME environment that extends the including one
(`ResolvedAsOnItsOwn` has its own `∃ env' d`; the statement does not say it is the `env'` of `LoadedOnItsOwn`), and the
including model's own final `ResolveEnvironment` (environment `env`) leaves those secrets and services as they are;
its configs are as written (resolved by the including model only: `included_config_eq_paste_partial`) -/
theorem include_property_resolved (W : World) (E : EnvWorld C) (hW : W.envFromFile = getEnvFromFile E)
    (pre : String → String → List String → Env → List String → Out KVs) (hR : IncludedBranchWorld W pre)
    (wd L : String) (hL : Include.isAbs L = true) (hb : baseDir wd L = L) (env : Env) (chain : List String)
    (model r : KVs) (h : applyInclude W wd L env chain model = .ok r) :
    ∃ cfgs ims, loadIncludeConfig (lookup "include" model) = .ok cfgs ∧
      AllLoadedOnTheirOwn W E L env chain cfgs ims ∧
      (∀ im ∈ ims, ResolvedAsOnItsOwn env im) ∧
      (∀ k, k ∈ resourceKinds → ∀ n, resourceOf r k n = pastedResource model ims k n) ∧
      (∀ k, k ∉ resourceKinds → k ≠ "include" → lookup k r = lookup k model) ∧
      lookup "include" r = none := by
  obtain ⟨cfgs, ims, hc, ha, hp, ho, hi⟩ := include_property W E hW wd L hL hb env chain model r h
  exact ⟨cfgs, ims, hc, ha, allLoadedOnTheirOwn_resolved hR ha, hp, ho, hi⟩

/-- non-vacuity: a world whose sub-load resolves a fixed model with the environment it is given is an
`IncludedBranchWorld` -/
example :
    let d : KVs := [("secrets", .map [("s", .map [("environment", .str "V")])])]
    let W : World :=
      { cwd := "/cwd", isDir := fun _ => false, isFile := fun _ => false, envFromFile := fun _ _ => .ok [],
        loadModel := fun _ _ _ env' _ => .ok (resolveModelEnv true env' d) }
    IncludedBranchWorld W (fun _ _ _ _ _ => .ok d) := by
  intro d W relwd pd paths env' chain
  rfl

end CV.Include
