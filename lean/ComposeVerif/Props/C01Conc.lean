import ComposeVerif.Gen.Globals
/-!
# C01 — loading is total when several loads overlap in one process

"Loading never crashes" is a statement about the *process*: a Go map written by two goroutines at once ends it with the
unrecoverable `fatal error: concurrent map writes` — no project, no error, nothing `recover()` can catch.  Two loads with
fully independent arguments share exactly one thing: the package-level variables of the packages on the load path.  The
translator pass `translator/globals.go` (shared with C02 / C19) regenerates, on every run, from the source tree

* `packageVars`   — every package-level `var` of the non-test packages,
* `globalWrites`  — every store into one of them from a function body (direct, through a local alias, or by a callee that
                    is handed the variable): writer, kind, `init`?, `Lock()` held?, reachable from a load entry point?

The obligations below pin the part of that fact C01 depends on: **after package initialisation, no function reachable
from `loader.Load*` / `cli.ProjectOptions.LoadProject` / `dotenv.*` stores into a package-level variable unless a mutex is
held**; the complete list of post-init writers is the reviewed one.  A memo table, a lazily filled cache, a "seen" set or
a counter added at package level on the load path changes the regenerated fact and breaks these theorems (the concurrent
stream `c01conc` of `harness/p/c01/c01_conc.go` then supplies the failing input: the loads whose process dies).
-/
namespace CV.C01.Conc
open CV.Gen

/-- the stores into package-level variables that happen AFTER package initialisation: (package, variable, writer, kind, a `Lock()` is held, reachable from a load entry point) -/
def postInitWrites : List (String × String × String × String × Bool × Bool) :=
  globalWrites.filterMap fun (p, v, w, k, ini, guarded, reach) => if ini then none else some (p, v, w, k, guarded, reach)

def loadPathWrittenVars : List (String × String) :=
  (postInitWrites.filter fun (_, _, _, _, _, reach) => reach).map fun (p, v, _, _, _, _) => (p, v)

/-- the complete list of post-init stores into package-level variables, as regenerated from the tree.
    Only two exist: `dotenv.RegisterFormat` (an explicit registration API, not on the load path) and the de-duplication
    list of the obsolete-`version` warning, written under `versionWarningMu`. -/
theorem post_init_writes_pinned :
    postInitWrites =
      [("dotenv", "formats", "dotenv.RegisterFormat", "element-assign", false, false),
       ("loader", "versionWarning", "loader.Options.warnObsoleteVersion", "append", true, true)] := by
  rfl

theorem load_path_written_vars_pinned : loadPathWrittenVars = [("loader", "versionWarning")] := by
  rfl

/-- **every store a load can make into a package-level variable is made under a held mutex**: two overlapping loads
    cannot write one Go map / slice header at the same time, so the runtime's `concurrent map writes` abort is excluded
    at its source.  (Reads of a variable written under a lock are pinned locked as well: second theorem.) -/
theorem load_never_writes_a_global_unlocked :
    ∀ w ∈ postInitWrites, w.2.2.2.2.2 = true → w.2.2.2.2.1 = true := by
  decide

theorem locked_vars_are_read_locked :
    lockGuardedVars = loadPathWrittenVars.map (fun (p, v) => p ++ "." ++ v) ∧ unguardedAccessesOfGuardedVars = [] := by
  decide +kernel

/-- the variables written after init are declared ones (the fact is self-consistent: a writer of an unknown variable
    would mean the two lists come from different trees) -/
theorem post_init_writes_are_package_vars : ∀ w ∈ postInitWrites, (w.1, w.2.1) ∈ packageVars := by
  decide +kernel

/-- non-vacuity: the pinned list is not empty and does contain a reachable (guarded) writer -/
example : ∃ w ∈ postInitWrites, w.2.2.2.2.2 = true := by decide

end CV.C01.Conc
