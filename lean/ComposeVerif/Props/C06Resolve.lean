import ComposeVerif.Lemmas.IncludeResolve
import ComposeVerif.Props.C06
/-!
# C06 — the resolvers that run on an included model (`loadYamlModel`, branch `len(included) != 0`)

An included model is loaded by the same pipeline as a project on its own, except for the last statement: on its own all
three environment resolvers run (`ResolveEnvironment`), as an included model only the ones for services and secrets.
The environment they see is the one `ApplyInclude` built (`include_env_precedence`: it *extends* the parent's).

Every section other than `configs` of the model that `ApplyInclude` imports is the section of the project loaded on its
own (the statement a dropped resolver call falsifies).  The including model resolves the imported resources a second time,
with its own, smaller environment: that changes nothing.  Configs are left as written and resolved by the including model
only: as on their own if the variable has the same value in both environments; the full statement is refuted in
`Neg/C06.lean` (`included_config_eq_paste_refuted`).
-/
namespace CV.Include
open CV CV.Val

theorem extends_of_includeEnv (W : World) (wd pd : String) (env env' : Env) (ef : List String)
    (h : includeEnv W wd pd env ef = .ok env') : Extends env' env := by
  obtain ⟨_, _, _, _, h1, _⟩ := include_env_precedence W wd pd env env' ef h
  exact h1

theorem lookup_mapVals (f : Val → Val) (k : String) (m : KVs) : lookup k (mapVals f m) = (lookup k m).map f := by
  rw [mapVals_eq_map]; exact Val.lookup_map_val fun _ => f

/-! ## the included branch against the project loaded on its own -/

/-- the model `ApplyInclude` imports and the included project loaded on its
own (same files, same environment) have the same services, volumes, networks, secrets — every key but `configs` -/
theorem included_branch_eq_own_except_configs (env : Env) (dict : KVs) {k : String} (h : k ≠ "configs") :
    lookup k (resolveModelEnv true env dict) = lookup k (resolveModelEnv false env dict) := by
  rw [resolveModelEnv_own, lookup_mapSection, if_neg h]

/-- every service of an included model has its `environment` resolved with the include's environment -/
theorem included_branch_services (env : Env) (dict : KVs) :
    lookup "services" (resolveModelEnv true env dict) = resolvedSection (resolveService env) (lookup "services" dict) := by
  rw [resolveModelEnv_included, lookup_mapSection, if_neg (by simp), lookup_mapSection, if_pos rfl]

/-- every secret of an included model whose source is a variable gets its value from the
include's environment (parent variables, then the included project's `.env` / `env_file`) -/
theorem included_branch_secrets (env : Env) (dict : KVs) :
    lookup "secrets" (resolveModelEnv true env dict) =
      resolvedSection (resolveSource secretCarrier env) (lookup "secrets" dict) := by
  rw [resolveModelEnv_included, lookup_mapSection, if_pos rfl, lookup_mapSection, if_neg (by simp)]

/-- an included model leaves its configs as written (the including model validates and resolves them) -/
theorem included_branch_configs_untouched (env : Env) (dict : KVs) :
    lookup "configs" (resolveModelEnv true env dict) = lookup "configs" dict := by
  rw [resolveModelEnv_included, lookup_mapSection, if_neg (by simp), lookup_mapSection, if_neg (by simp)]

/-- on its own, configs are resolved too -/
theorem own_configs (env : Env) (dict : KVs) :
    lookup "configs" (resolveModelEnv false env dict) =
      resolvedSection (resolveSource "content" env) (lookup "configs" dict) := by
  rw [resolveModelEnv_own, lookup_mapSection, if_pos rfl, included_branch_configs_untouched]

/-! ## the including model resolves the imported resources again -/

/-- the secrets section of the included model, resolved again by the including
model with its own environment, is the section of the included project loaded on its own -/
theorem included_secret_survives_parent {envI envP : Env} (hx : Extends envI envP) (dict : KVs) :
    resolvedSection (resolveSource secretCarrier envP) (lookup "secrets" (resolveModelEnv true envI dict)) =
      lookup "secrets" (resolveModelEnv false envI dict) := by
  rw [← included_branch_eq_own_except_configs envI dict (by simp), included_branch_secrets]
  exact resolvedSection_stable (resolveSource_stable (by simp [secretCarrier]) hx) _

/-- likewise `services.*.environment` -/
theorem included_service_survives_parent {envI envP : Env} (hx : Extends envI envP) (hn : NoEqNames envP) (dict : KVs) :
    resolvedSection (resolveService envP) (lookup "services" (resolveModelEnv true envI dict)) =
      lookup "services" (resolveModelEnv false envI dict) := by
  rw [← included_branch_eq_own_except_configs envI dict (by simp), included_branch_services]
  exact resolvedSection_stable (resolveService_stable hx hn) _

theorem extends_refl (env : Env) : Extends env env := fun _ _ h => h

/-- a model included at depth 2 (environment `env2`, which extends the depth-1
include's `env1`, which extends the root's `env0`) is resolved again by the depth-1 model — itself an included model —
and by the root: its secrets are still the ones of the project loaded on its own -/
theorem included_secret_survives_nested {env2 env1 env0 : Env} (h21 : Extends env2 env1) (h10 : Extends env1 env0)
    (dict : KVs) :
    resolvedSection (resolveSource secretCarrier env0)
        (resolvedSection (resolveSource secretCarrier env1) (lookup "secrets" (resolveModelEnv true env2 dict))) =
      lookup "secrets" (resolveModelEnv false env2 dict) := by
  have e := included_branch_eq_own_except_configs env2 dict (k := "secrets") (by simp)
  rw [included_secret_survives_parent h21, ← e]
  exact (included_secret_survives_parent (extends_trans h21 h10) dict).trans e.symm

/-- likewise `services.*.environment` -/
theorem included_service_survives_nested {env2 env1 env0 : Env} (h21 : Extends env2 env1) (h10 : Extends env1 env0)
    (hn1 : NoEqNames env1) (hn0 : NoEqNames env0) (dict : KVs) :
    resolvedSection (resolveService env0)
        (resolvedSection (resolveService env1) (lookup "services" (resolveModelEnv true env2 dict))) =
      lookup "services" (resolveModelEnv false env2 dict) := by
  have e := included_branch_eq_own_except_configs env2 dict (k := "services") (by simp)
  rw [included_service_survives_parent h21 hn1, ← e]
  exact (included_service_survives_parent (extends_trans h21 h10) hn0 dict).trans e.symm

/-- a config declared at depth 2 is resolved by the root only: with the root's environment -/
theorem included_config_nested_untouched (env2 env1 : Env) (dict : KVs) (rest : KVs)
    (h : lookup "configs" rest = lookup "configs" (resolveModelEnv true env2 dict)) :
    lookup "configs" (resolveModelEnv true env1 rest) = lookup "configs" dict := by
  rw [included_branch_configs_untouched, h, included_branch_configs_untouched]

/-- the full statement for configs: resolved by the including model = as loaded on its own.  **False** in general
(`Neg/C06.lean`, `included_config_eq_paste_refuted`): the including model's environment lacks the included project's
own variables -/
def IncludedConfigEqPaste (envI envP : Env) (c : Val) : Prop :=
  resolveSource "content" envP c = resolveSource "content" envI c

/-- `IncludedConfigEqPaste` holds when the source variable has the same value in both environments —
the parent defines it, or neither does -/
theorem included_config_eq_paste_partial (envI envP : Env) (o : KVs)
    (h : ∀ e, sourceVar o = some e → Env.get envI e = Env.get envP e) :
    IncludedConfigEqPaste envI envP (.map o) := by
  unfold IncludedConfigEqPaste
  rw [resolveSource_map, resolveSource_map]
  cases hv : sourceVar o with
  | none => rfl
  | some e => simp only [Option.bind_some, h e hv]

theorem included_config_eq_paste_parent_defines {envI envP : Env} (hx : Extends envI envP) (o : KVs) (e v : String)
    (he : lookup "environment" o = some (.str e)) (hv : Env.get envP e = some v) :
    IncludedConfigEqPaste envI envP (.map o) := by
  apply included_config_eq_paste_partial
  intro e' he'
  simp only [sourceVar, he] at he'
  split at he' <;> cases he'
  rw [hv, hx e v hv]

/-- non-vacuity: parent defines `V`, the included `.env` defines `V` and `W`; a secret sourced from `W` gets the file's
value, one sourced from `V` the parent's; the service entry `W` becomes `W=file` -/
example :
    let envP : Env := [("V", "parent")]
    let envI : Env := envMerge envP [("V", "file"), ("W", "wfile")]
    let d : KVs := [("services", .map [("b", .map [("environment", .seq [.str "V", .str "W", .str "K=k"])])]),
                    ("secrets", .map [("sv", .map [("environment", .str "V")]), ("sw", .map [("environment", .str "W")])]),
                    ("configs", .map [("cw", .map [("environment", .str "W")])])]
    veq (.map (resolveModelEnv true envI d))
      (.map [("services", .map [("b", .map [("environment", .seq [.str "V=parent", .str "W=wfile", .str "K=k"])])]),
       ("secrets", .map [("sv", .map [("environment", .str "V"), ("x-#value", .str "parent")]),
                         ("sw", .map [("environment", .str "W"), ("x-#value", .str "wfile")])]),
       ("configs", .map [("cw", .map [("environment", .str "W")])])]) = true := by
  decide +kernel

end CV.Include
