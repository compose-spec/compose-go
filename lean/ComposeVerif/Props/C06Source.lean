import ComposeVerif.Model.Include
import ComposeVerif.Model.IncludeResolve
import ComposeVerif.Gen.IncludeFacts
/-!
# C06 — the functions of `loader/include.go` the model mirrors are the ones in the source now

`translator/c06.go` prints, on every run, the body of each modelled function (comments dropped, white space
normalised) and the list of sections `importResourcesWith` walks.  The obligations below hold only while those
bodies are the ones `Model/Include.lean` was written against: any edit of `loadIncludeConfig`, `ApplyInclude`,
`sameResource`, `importResources`, `importResourcesWith`, `importResource` breaks one of them until the model (and
this file) has been reviewed.  Function → model: `loadIncludeConfig` → `loadIncludeConfig`/`cfgOf`/`strList`;
`ApplyInclude` → `applyInclude`/`includeAll`/`includeOne`/`baseDir`/`plan`/`resolveFirst`/`envFiles`/`includeEnv`;
`sameResource` → `sameResource`; `importResources*`/`importResource` → `importResources`/`importKinds`/`importResource`/`importEntries`.
-/
namespace CV.Include

/-- the sections imported, and their order, are the model's `resourceKinds` -/
theorem import_kinds_are_source : CV.Gen.Include.importKinds = resourceKinds := rfl

theorem loadIncludeConfig_is_source :
    CV.Gen.Include.body_loadIncludeConfig =
      "{ if source == nil { return nil, nil } configs, ok := source.([]any) if !ok { return nil, fmt.Errorf(\"`include` must be a list, got %s\", source) } for i, config := range configs { if v, ok := config.(string); ok { configs[i] = map[string]any{ \"path\": v, } } } var requires []types.IncludeConfig err := Transform(source, &requires) return requires, err }" := by
  rfl

theorem ApplyInclude_is_source :
    CV.Gen.Include.body_ApplyInclude =
      "{ includeConfig, err := loadIncludeConfig(model[\"include\"]) if err != nil { return err } baseDir := workingDir if !filepath.IsAbs(baseDir) { for _, l := range options.ResourceLoaders { if local, ok := l.(localResourceLoader); ok && local.WorkingDir != \"\" { baseDir = local.WorkingDir } } } for _, r := range includeConfig { for _, listener := range options.Listeners { listener(\"include\", map[string]any{ \"path\": r.Path, \"workingdir\": workingDir, }) } var relworkingdir string for i, p := range r.Path { for _, loader := range options.ResourceLoaders { if !loader.Accept(p) { continue } path, err := loader.Load(ctx, p) if err != nil { return err } p = path if i == 0 { switch { case r.ProjectDirectory == \"\": relworkingdir = loader.Dir(path) r.ProjectDirectory = filepath.Dir(path) case !filepath.IsAbs(r.ProjectDirectory): relworkingdir = loader.Dir(r.ProjectDirectory) r.ProjectDirectory = filepath.Join(baseDir, r.ProjectDirectory) default: relworkingdir = r.ProjectDirectory } } for _, f := range included { if f == path { included = append(included, path) return fmt.Errorf(\"include cycle detected:\\n%s\\n include %s\", included[0], strings.Join(included[1:], \"\\n include \")) } } } r.Path[i] = p } loadOptions := options.clone() loadOptions.ResolvePaths = true loadOptions.SkipNormalization = true loadOptions.SkipConsistencyCheck = true loadOptions.ResourceLoaders = append(loadOptions.RemoteResourceLoaders(), localResourceLoader{ WorkingDir: r.ProjectDirectory, }) if len(r.EnvFile) == 0 { f := filepath.Join(r.ProjectDirectory, \".env\") if s, err := os.Stat(f); err == nil && !s.IsDir() { r.EnvFile = types.StringList{f} } } else { envFile := []string{} for _, f := range r.EnvFile { if !filepath.IsAbs(f) { f = filepath.Join(baseDir, f) s, err := os.Stat(f) if err != nil { return err } if s.IsDir() { return fmt.Errorf(\"%s is not a file\", f) } } envFile = append(envFile, f) } r.EnvFile = envFile } envFromFile, err := dotenv.GetEnvFromFile(environment, r.EnvFile) if err != nil { return err } config := types.ConfigDetails{ WorkingDir: relworkingdir, ConfigFiles: types.ToConfigFiles(r.Path), Environment: environment.Clone().Merge(envFromFile), } loadOptions.Interpolate = &interp.Options{ Substitute: options.Interpolate.Substitute, LookupValue: config.LookupEnv, TypeCastMapping: options.Interpolate.TypeCastMapping, } imported, err := loadYamlModel(ctx, config, loadOptions, &cycleTracker{}, included) if err != nil { return err } var remotes []paths.RemoteResource for _, loader := range options.RemoteResourceLoaders() { remotes = append(remotes, loader.Accept) } err = importResourcesWith(imported, model, func(key, name string, a, b any) bool { return sameResource(key, name, a, b, baseDir, remotes) }) if err != nil { return err } } delete(model, \"include\") return nil }" := by
  rfl

theorem sameResource_is_source :
    CV.Gen.Include.body_sameResource =
      "{ if reflect.DeepEqual(a, b) { return true } resolved := func(v any) (r any, ok bool) { defer func() { if recover() != nil { r, ok = nil, false } }() m := map[string]any{key: map[string]any{name: deepClone(v)}} if err := paths.ResolveRelativePaths(m, base, remotes); err != nil { return nil, false } return m[key].(map[string]any)[name], true } ra, ok := resolved(a) if !ok { return false } rb, ok := resolved(b) return ok && reflect.DeepEqual(ra, rb) }" := by
  rfl

theorem importResources_is_source :
    CV.Gen.Include.body_importResources =
      "{ return importResourcesWith(source, target, func(_, _ string, a, b any) bool { return reflect.DeepEqual(a, b) }) }" := by
  rfl

theorem importResourcesWith_is_source :
    CV.Gen.Include.body_importResourcesWith =
      "{ for _, key := range []string{\"services\", \"volumes\", \"networks\", \"secrets\", \"configs\"} { if err := importResource(source, target, key, same); err != nil { return err } } return nil }" := by
  rfl

theorem importResource_is_source :
    CV.Gen.Include.body_importResource =
      "{ from := source[key] if from != nil { var to map[string]any if v, ok := target[key]; ok && v != nil { to, ok = v.(map[string]any) if !ok { return fmt.Errorf(\"%s must be a mapping\", key) } } else { to = map[string]any{} } resources, ok := from.(map[string]any) if !ok { return fmt.Errorf(\"%s must be a mapping\", key) } for name, a := range resources { if conflict, ok := to[name]; ok { if same(key, name, a, conflict) { continue } return fmt.Errorf(\"%s.%s conflicts with imported resource\", key, name) } to[name] = a } target[key] = to } return nil }" := by
  rfl

/-! ## the glue around the six functions

`Options.clone()` is a hand-written list of fields: `clone_copies_every_option` is a statement about the source alone
(every field of the struct is copied from the receiver), so a field added to `Options` and forgotten in `clone` — or a
copy dropped — breaks it without any hand-written constant being involved. -/

/-- the model's `Opts` has one field per field of `loader.Options`, same names, same order -/
theorem options_fields_are_source : CV.Gen.Include.optionsFields = Opts.fieldNames := rfl

theorem clone_copies_every_option :
    CV.Gen.Include.cloneCopies = CV.Gen.Include.optionsFields.map (fun f => (f, "o." ++ f)) := by
  simp [CV.Gen.Include.cloneCopies, CV.Gen.Include.optionsFields]

/-- what `ApplyInclude` sets on the cloned options, in order: exactly the fields `Opts.forInclude` overrides -/
theorem include_forced_are_source :
    CV.Gen.Include.includeForced =
      [("ResolvePaths", "true"), ("SkipNormalization", "true"), ("SkipConsistencyCheck", "true"), ("ResourceLoaders", "append(loadOptions.RemoteResourceLoaders(), localResourceLoader{ WorkingDir: r.ProjectDirectory, })"), ("Interpolate", "&interp.Options{ Substitute: options.Interpolate.Substitute, LookupValue: config.LookupEnv, TypeCastMapping: options.Interpolate.TypeCastMapping, }")] := by
  rfl

/-- `Options.clone()` (→ `Opts.clone`) -/
theorem Options_clone_is_source :
    CV.Gen.Include.body_Options_clone =
      "{ return &Options{ SkipValidation: o.SkipValidation, SkipInterpolation: o.SkipInterpolation, SkipNormalization: o.SkipNormalization, ResolvePaths: o.ResolvePaths, ConvertWindowsPaths: o.ConvertWindowsPaths, SkipConsistencyCheck: o.SkipConsistencyCheck, SkipExtends: o.SkipExtends, SkipInclude: o.SkipInclude, SkipResolveEnvironment: o.SkipResolveEnvironment, SkipDefaultValues: o.SkipDefaultValues, Interpolate: o.Interpolate, discardEnvFiles: o.discardEnvFiles, projectName: o.projectName, projectNameImperativelySet: o.projectNameImperativelySet, Profiles: o.Profiles, ResourceLoaders: o.ResourceLoaders, KnownExtensions: o.KnownExtensions, Listeners: o.Listeners, } }" := by
  rfl

/-- `Options.RemoteResourceLoaders()` (every loader but the local one) (→ the `ld` argument of `Opts.forInclude`; `remotes = []` in `sameResource` for the default loader) -/
theorem Options_RemoteResourceLoaders_is_source :
    CV.Gen.Include.body_Options_RemoteResourceLoaders =
      "{ var loaders []ResourceLoader for i, loader := range o.ResourceLoaders { if _, ok := loader.(localResourceLoader); ok { if i != len(o.ResourceLoaders)-1 { logrus.Warning(\"misconfiguration of ResourceLoaders: localResourceLoader should be last\") } continue } loaders = append(loaders, loader) } return loaders }" := by
  rfl

/-- `localResourceLoader.abs` (→ `localAbs`) -/
theorem local_abs_is_source :
    CV.Gen.Include.body_local_abs =
      "{ if filepath.IsAbs(p) { return p } return filepath.Join(l.WorkingDir, p) }" := by
  rfl

/-- `localResourceLoader.Accept` (always true: the loop over loaders of `ApplyInclude` ends at the local one) (→ `plan`) -/
theorem local_Accept_is_source :
    CV.Gen.Include.body_local_Accept =
      "{ return true }" := by
  rfl

/-- `localResourceLoader.Load` (→ `localAbs`) -/
theorem local_Load_is_source :
    CV.Gen.Include.body_local_Load =
      "{ return l.abs(p), nil }" := by
  rfl

/-- `localResourceLoader.Dir` (→ `localDir`) -/
theorem local_Dir_is_source :
    CV.Gen.Include.body_local_Dir =
      "{ path := l.abs(originalPath) if !l.isDir(path) { path = l.abs(filepath.Dir(originalPath)) } rel, err := filepath.Rel(l.WorkingDir, path) if err != nil { return path } return rel }" := by
  rfl

/-- `localResourceLoader.isDir` (→ `statDir`) -/
theorem local_isDir_is_source :
    CV.Gen.Include.body_local_isDir =
      "{ fileInfo, err := os.Stat(path) if err != nil { return false } return fileInfo.IsDir() }" := by
  rfl

/-- `dotenv.GetEnvFromFile` (→ `getEnvFromFile` / `getEnvLoop`) -/
theorem GetEnvFromFile_is_source :
    CV.Gen.Include.body_GetEnvFromFile =
      "{ envMap := make(map[string]string) for _, dotEnvFile := range filenames { abs, err := filepath.Abs(dotEnvFile) if err != nil { return envMap, err } dotEnvFile = abs s, err := os.Stat(dotEnvFile) if errors.Is(err, fs.ErrNotExist) || errors.Is(err, syscall.ENOTDIR) { return envMap, fmt.Errorf(\"Couldn't find env file: %s\", dotEnvFile) } if err != nil { return envMap, err } if s.IsDir() { if len(filenames) == 0 { return envMap, nil } return envMap, fmt.Errorf(\"%s is a directory\", dotEnvFile) } b, err := os.ReadFile(dotEnvFile) if os.IsNotExist(err) { return nil, fmt.Errorf(\"Couldn't read env file: %s\", dotEnvFile) } if err != nil { return envMap, err } env, err := ParseWithLookup(bytes.NewReader(b), func(k string) (string, bool) { v, ok := currentEnv[k] if ok { return v, true } v, ok = envMap[k] return v, ok }) if err != nil { return envMap, fmt.Errorf(\"failed to read %s: %w\", dotEnvFile, err) } for k, v := range env { envMap[k] = v } } return envMap, nil }" := by
  rfl

/-- `types.Mapping.Clone` (→ `envMerge`) -/
theorem Mapping_Clone_is_source :
    CV.Gen.Include.body_Mapping_Clone =
      "{ clone := Mapping{} for k, v := range m { clone[k] = v } return clone }" := by
  rfl

/-- `types.Mapping.Merge` (→ `envMerge`) -/
theorem Mapping_Merge_is_source :
    CV.Gen.Include.body_Mapping_Merge =
      "{ for k, v := range o { if _, set := m[k]; !set { m[k] = v } } return m }" := by
  rfl

/-- `types.ToConfigFiles` (→ the `paths` argument of `World.loadModel`) -/
theorem ToConfigFiles_is_source :
    CV.Gen.Include.body_ToConfigFiles =
      "{ for _, p := range path { f = append(f, ConfigFile{Filename: p}) } return }" := by
  rfl

/-- `transform.transformInclude` (the canonical form of one `include` element) (→ `cfgOf` (string = `{path: s}`)) -/
theorem transformInclude_is_source :
    CV.Gen.Include.body_transformInclude =
      "{ switch v := data.(type) { case map[string]any: return v, nil case string: return map[string]any{ \"path\": v, }, nil default: return data, fmt.Errorf(\"%s: invalid type %T for external\", p, v) } }" := by
  rfl

/-! ## the last statement of `loadYamlModel` and the three resolvers (→ `Model/IncludeResolve.lean`) -/

/-- the model of the last statement: which resolvers run for an included model / a project on its own, in the order the
model composes them (`resolveModelEnv`, `resolveEnvironment`).  A dropped or added call breaks this (no body string
involved) -/
theorem included_branch_calls_are_source :
    CV.Gen.Include.includedTests = 1 ∧
    CV.Gen.Include.ownBranchCalls = ["ResolveEnvironment"] ∧
    CV.Gen.Include.includedBranchCalls = ["resolveServicesEnvironment", "resolveSecretsEnvironment"] ∧
    CV.Gen.Include.resolveEnvironmentCalls =
      ["resolveServicesEnvironment", "resolveSecretsEnvironment", "resolveConfigsEnvironment"] :=
  ⟨rfl, rfl, rfl, rfl⟩

/-- the key under which a resolved secret travels is the model's `secretCarrier` -/
theorem secret_carrier_is_source : CV.Gen.Include.secretConfigXValue = secretCarrier := rfl

/-- `loadYamlModel` (→ `IncludePipe.loadYaml` / `loadYamlOwn`, last statement → `resolveModelEnv`) -/
theorem loadYamlModel_is_source :
    CV.Gen.Include.body_loadYamlModel =
      "{ var ( dict = map[string]interface{}{} err error ) workingDir, environment := config.WorkingDir, config.Environment for _, file := range config.ConfigFiles { dict, _, err = loadYamlFile(ctx, file, opts, workingDir, environment, ct, dict, included) if err != nil { return nil, err } } if !opts.SkipDefaultValues { dict, err = transform.SetDefaultValues(dict) if err != nil { return nil, err } } if !opts.SkipValidation { if err := validation.Validate(dict); err != nil { return nil, err } } if opts.ResolvePaths { var remotes []paths.RemoteResource for _, loader := range opts.RemoteResourceLoaders() { remotes = append(remotes, loader.Accept) } err = paths.ResolveRelativePaths(dict, config.WorkingDir, remotes) if err != nil { return nil, err } } if len(included) == 0 { ResolveEnvironment(dict, config.Environment) } else { resolveServicesEnvironment(dict, config.Environment) resolveSecretsEnvironment(dict, config.Environment) } return dict, nil }" := by
  rfl

/-- `ResolveEnvironment` (→ `resolveEnvironment`) -/
theorem ResolveEnvironment_is_source :
    CV.Gen.Include.body_ResolveEnvironment =
      "{ resolveServicesEnvironment(dict, environment) resolveSecretsEnvironment(dict, environment) resolveConfigsEnvironment(dict, environment) }" := by
  rfl

/-- `resolveServicesEnvironment` (→ `resolveServicesEnvironment` / `resolveService` / `resolveEnvList`) -/
theorem resolveServicesEnvironment_is_source :
    CV.Gen.Include.body_resolveServicesEnvironment =
      "{ services, ok := dict[\"services\"].(map[string]any) if !ok { return } for service, cfg := range services { serviceConfig, ok := cfg.(map[string]any) if !ok { continue } serviceEnv, ok := serviceConfig[\"environment\"].([]any) if !ok { continue } envs := []any{} for _, env := range serviceEnv { varEnv, ok := env.(string) if !ok { continue } if found, ok := environment[varEnv]; ok { envs = append(envs, fmt.Sprintf(\"%s=%s\", varEnv, found)) } else { envs = append(envs, varEnv) } } serviceConfig[\"environment\"] = envs services[service] = serviceConfig } dict[\"services\"] = services }" := by
  rfl

/-- `resolveSecretsEnvironment` (→ `resolveSection "secrets" secretCarrier` / `resolveSource`) -/
theorem resolveSecretsEnvironment_is_source :
    CV.Gen.Include.body_resolveSecretsEnvironment =
      "{ secrets, ok := dict[\"secrets\"].(map[string]any) if !ok { return } for name, cfg := range secrets { secret, ok := cfg.(map[string]any) if !ok { continue } env, ok := secret[\"environment\"].(string) if !ok || env == \"\" { continue } if found, ok := environment[env]; ok { secret[types.SecretConfigXValue] = found } secrets[name] = secret } dict[\"secrets\"] = secrets }" := by
  rfl

/-- `resolveConfigsEnvironment` (→ `resolveSection "configs" "content"` / `resolveSource`) -/
theorem resolveConfigsEnvironment_is_source :
    CV.Gen.Include.body_resolveConfigsEnvironment =
      "{ configs, ok := dict[\"configs\"].(map[string]any) if !ok { return } for name, cfg := range configs { config, ok := cfg.(map[string]any) if !ok { continue } env, ok := config[\"environment\"].(string) if !ok || env == \"\" { continue } if found, ok := environment[env]; ok { config[\"content\"] = found } configs[name] = config } dict[\"configs\"] = configs }" := by
  rfl

end CV.Include
