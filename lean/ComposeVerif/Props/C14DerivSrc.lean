import ComposeVerif.Lemmas.SpelledString
import ComposeVerif.Model.Derivations
import ComposeVerif.Gen.C14Progs
/-!
# C14 — the heap programs are the source; the hand-mirrored functions are unchanged

The regenerated skeletons are spelled as character lists and compared with the rendered ones as lists of bytes
(`Lemmas/SpelledString.lean`); the comparison of the mirrored source texts is literal-by-literal (`rfl`: the kernel compares
string literals without unfolding them).
-/
namespace CV.Heap

/-- **the heap programs mirror the source statement for statement**: the statement skeleton the translator prints from
`types/project.go` (copies, makes, field stores, map stores / deletes, ranges, branches, early returns, calls of other
modelled functions, with the root variable of every expression) is the skeleton `renderL` prints from the hand-written
programs.  A store added to a derivation, a loop over another map, the receiver read where the copy was, a reordering:
each breaks this until the program is re-aligned — so `derivations_receiver_free` is about the code in the tree now. -/
theorem programs_are_source : Deriv.skeletons = CV.Gen.C14Progs.skeletons :=
  StringLit.Spelled.eq_of_utf8 (by repeat constructor) (by decide +kernel)

/-- the functions mirrored by hand without a skeleton (the goroutine fan-out of `WithServicesTransform`, the closure of
`WithImagesResolved`, `withServices`, `HasProfile`, the `MappingWithEquals` / `Labels` helpers behind the `call(…)` nodes)
still have the source text the programs and pure functions were written against -/
theorem mirrored_sources_unchanged : CV.Gen.C14Progs.sources = [
  ("WithServicesTransform", "func (p *Project) WithServicesTransform(fn func(name string, s ServiceConfig) (ServiceConfig, error)) (*Project, error) { type result struct { name string service ServiceConfig } expect := len(p.Services) resultCh := make(chan result, expect) newProject := p.deepCopy() services := newProject.Services eg, ctx := errgroup.WithContext(context.Background()) eg.Go(func() error { s := Services{} for expect > 0 { select { case <-ctx.Done(): return nil case r := <-resultCh: s[r.name] = r.service expect-- } } newProject.Services = s return nil }) for n, s := range services { name := n service := s eg.Go(func() error { updated, err := fn(name, service) if err != nil { return err } resultCh <- result{ name: name, service: updated, } return nil }) } return newProject, eg.Wait() }"),
  ("WithImagesResolved", "func (p *Project) WithImagesResolved(resolver func(named reference.Named) (godigest.Digest, error)) (*Project, error) { return p.WithServicesTransform(func(name string, service ServiceConfig) (ServiceConfig, error) { if service.Image == \"\" { return service, nil } named, err := reference.ParseDockerRef(service.Image) if err != nil { return service, err } if _, ok := named.(reference.Canonical); !ok { digest, err := resolver(named) if err != nil { return service, err } named, err = reference.WithDigest(named, digest) if err != nil { return service, err } } service.Image = named.String() return service, nil }) }"),
  ("withServices", "func (p *Project) withServices(names []string, fn ServiceFunc, seen map[string]bool, options []DependencyOption, dependencies map[string]ServiceDependency) error { services, servicesNotFound := p.getServicesByNames(names...) if len(servicesNotFound) > 0 { for _, serviceNotFound := range servicesNotFound { if dependency, ok := dependencies[serviceNotFound]; !ok || dependency.Required { return fmt.Errorf(\"no such service: %s\", serviceNotFound) } } } opts := withServicesOptions{ dependencyPolicy: includeDependencies, } for _, option := range options { option(&opts) } for name, service := range services { if seen[name] { continue } seen[name] = true var dependencies map[string]ServiceDependency switch opts.dependencyPolicy { case includeDependents: dependencies = utils.MapsAppend(dependencies, p.dependentsForService(service)) case includeDependencies: dependencies = utils.MapsAppend(dependencies, service.DependsOn) case ignoreDependencies: } if len(dependencies) > 0 { err := p.withServices(utils.MapKeys(dependencies), fn, seen, options, dependencies) if err != nil { return err } } if err := fn(name, service.deepCopy()); err != nil { return err } } return nil }"),
  ("dependentsForService", "func (p *Project) dependentsForService(s ServiceConfig) map[string]ServiceDependency { dependent := make(map[string]ServiceDependency) for _, service := range p.Services { for name, dependency := range service.DependsOn { if name == s.Name { dependent[service.Name] = dependency } } } return dependent }"),
  ("HasProfile", "func (s ServiceConfig) HasProfile(profiles []string) bool { if len(s.Profiles) == 0 { return true } for _, p := range profiles { if p == \"*\" { return true } for _, sp := range s.Profiles { if sp == p { return true } } } return false }"),
  ("MappingWithEquals.Resolve", "func (m MappingWithEquals) Resolve(lookupFn func(string) (string, bool)) MappingWithEquals { for k, v := range m { if v == nil { if value, ok := lookupFn(k); ok { m[k] = &value } } } return m }"),
  ("MappingWithEquals.OverrideBy", "func (m MappingWithEquals) OverrideBy(other MappingWithEquals) MappingWithEquals { for k, v := range other { m[k] = v } return m }"),
  ("Labels.ToMappingWithEquals", "func (l Labels) ToMappingWithEquals() MappingWithEquals { mapping := MappingWithEquals{} for k, v := range l { v := v mapping[k] = &v } return mapping }"),
  ("Labels.Add", "func (l Labels) Add(key, value string) Labels { if l == nil { l = Labels{} } l[key] = value return l }"),
  ("NewLabelsFromMappingWithEquals", "func NewLabelsFromMappingWithEquals(mapping MappingWithEquals) Labels { labels := Labels{} for k, v := range mapping { if v != nil { labels[k] = *v } } return labels }")] := rfl

end CV.Heap
