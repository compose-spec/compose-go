import ComposeVerif.Lemmas.TravLive
import ComposeVerif.Lemmas.TravSkip
import ComposeVerif.Lemmas.TravRank
import ComposeVerif.Lemmas.DepGraphProj
import ComposeVerif.Lemmas.TravFixtures
/-!
# C13 — dependency-ordered traversal: once each, after dependencies, bounded, live

Property theorems about `Trav.step?` (the model of `graph.walk`), for **every** finite acyclic graph
(`GraphOK`), every concurrency limit, every root selection (`Graph.skip`), and every schedule
(`Reach` = any interleaving of the primitive steps, any visitor duration, any visitor result, any Go map
iteration order).

Reading guide: `s.log` is the ghost log of visitor entries (`Ev.start v`) and returns (`Ev.finish v err`),
newest first; `starts`/`finishes` project it to vertices; `terminal s` = `walk` has returned.
-/
namespace CV.Trav

/-- **once (at most)**: along every schedule the visitor is entered at most once per vertex, returns at most once per
vertex, and is entered only for vertices of the graph that are not skipped by the root selection. -/
theorem once {g : Graph} {lim : Option Nat} (hg : GraphOK g) {s : St} (h : Reach g lim s) :
    (starts s.log).Nodup ∧ (finishes s.log).Nodup ∧
    ∀ v ∈ starts s.log, v ∈ g.verts ∧ g.skip v = false := by
  have hI := (reach_inv hg h).l
  exact ⟨hI.startsNodup, hI.finishesNodup, fun v hv => ⟨hI.startedVerts v hv, (hI.startedWhere v hv).1⟩⟩

/-- **after dependencies**: whenever the visitor is entered for `v`, the visitor of every prerequisite of `v`
(dependency; dependent in reverse mode) that is visited at all has already returned — it is found further
down the log. -/
theorem after_deps {g : Graph} {lim : Option Nat} (hg : GraphOK g) {s : St} (h : Reach g lim s)
    (l1 l2 : List Ev) (v : V) (hlog : s.log = l1 ++ Ev.start v :: l2) :
    ∀ d ∈ g.pre v, g.skip d = false → d ∈ finishes l2 := by
  have hok := (reach_inv hg h).l.logOK
  rw [hlog] at hok
  clear hlog
  induction l1 with
  | nil => exact hok.1
  | cons e r ih =>
    cases e with
    | start u => exact ih hok.2
    | finish u b => exact ih hok

/-- a prerequisite that is never visited because of the root selection imposes nothing; one that is visited has
status `visited` before `v` is even claimed (state form of `after_deps`) -/
theorem claimed_after_deps_visited {g : Graph} {lim : Option Nat} (hg : GraphOK g) {s : St} (h : Reach g lim s)
    (v : V) (hv : s.status v ≠ .absent) : ∀ d ∈ g.pre v, s.status d = .visited :=
  (reach_inv hg h).l.depsVisited v (.inr hv)

/-- **bounded**: never more than `n` visitor callbacks in progress under `WithMaxConcurrency(n)` — for every schedule,
error or not: the coordinator keeps its errgroup slot until the caller has left the extremities loop (DESIGN §10 #12).
Under the rule of the code before that repair (`stepPre?`, `Neg/C13.lean`) the bound fails. -/
theorem bounded {g : Graph} {n : Nat} (hg : GraphOK g) {s : St} (h : Reach g (some n) s) : running s ≤ n :=
  (reach_inv hg h).running_le

/-- **deadlock-free**: every reachable state that is not terminal has an enabled step (possibly the environment's
`extCancel`; that `walk` itself never waits for anything but a visitor — no lost wake-up — is `progress_internal`). -/
theorem deadlock_free {g : Graph} {lim : Option Nat} (hg : GraphOK g) (hl : ∀ n, lim = some n → 1 ≤ n)
    {s : St} (h : Reach g lim s) : terminal s ∨ ∃ l s', step? g lim s l = some s' :=
  let hI := reach_inv hg h
  -- a visitor in progress can return
  (progress_inv g hg lim hl s hI.a hI.b).imp id fun h => h.elim (fun ⟨l, s', _, hs⟩ => ⟨l, s', hs⟩)
    (fun ⟨v, hv⟩ => ⟨.wReturn v false, running_can_return g lim s v false hv⟩)

/-- **terminates**: every schedule is finite — a run of `k` steps from a reachable state lowers the measure `mu`
by at least `k`, so no run from the initial state is longer than `mu g (init g)`. -/
theorem terminates {g : Graph} {lim : Option Nat} (hg : GraphOK g) {s s' : St} (h : Reach g lim s)
    (ls : List Label) (hr : runL g lim s ls = some s') : ls.length + mu g s' ≤ mu g s :=
  CV.Runs.length_le (runL_replays g lim) (R := Reach g lim) (fun h hs => .step h hs) (mu := mu g)
    (fun h hs => mu_step_lt hg h hs) h hr

/-- a schedule that cannot be extended has ended with `walk` returned (liveness = `terminates` + this) -/
theorem maximal_run_is_terminal {g : Graph} {lim : Option Nat} (hg : GraphOK g) (hl : ∀ n, lim = some n → 1 ≤ n)
    {s : St} (h : Reach g lim s) (hmax : ∀ l, step? g lim s l = none) : terminal s := by
  rcases deadlock_free hg hl h with ht | ⟨l, s', hs⟩
  · exact ht
  · rw [hmax l] at hs; cases hs

/-- **complete on success**: `walk` has returned and its context was never cancelled ⇒ every vertex went through the
whole life cycle (visited and received by the coordinator). -/
theorem terminal_complete {g : Graph} {lim : Option Nat} (hg : GraphOK g) {s : St} (h : Reach g lim s)
    (ht : terminal s) (hnc : s.cancelled = false) : ∀ v ∈ g.verts, s.status v = .visited ∧ v ∈ s.received := by
  have hI := reach_inv hg h
  intro v hv
  rcases hI.s.cDeadWhy ht.2.2 with hc | hall
  · rw [hnc] at hc; cases hc
  · exact ⟨hI.a.handed v (.inr (hall v hv)), hall v hv⟩

/-- **once (exactly), on success**: when `walk` has returned without error (and the caller did not cancel its own
context meanwhile), every vertex that is not skipped (all of them without roots; the roots and their transitive
dependents otherwise) has been entered and has returned; with `once` this is "exactly once". -/
theorem exactly_once_on_success {g : Graph} {lim : Option Nat} (hg : GraphOK g) {s : St} (h : Reach g lim s)
    (ht : terminal s) (hok : s.firstErr = none) (hext : s.extCancelled = false) :
    ∀ v ∈ g.verts, g.skip v = false → v ∈ starts s.log ∧ v ∈ finishes s.log := by
  have hI := reach_inv hg h
  intro v hv hk
  have hvis := (terminal_complete hg h ht (hI.e.not_cancelled hok hext) v hv).1
  have hf := (hI.l.visitedFin v hvis).resolve_left (by rw [hk]; nofun)
  exact ⟨hI.l.finSubStarts v hf, hf⟩

/-- **returns after all visits**: when `walk` has returned, every visitor callback that was entered has returned. -/
theorem returns_after_all_visits {g : Graph} {lim : Option Nat} (hg : GraphOK g) {s : St} (h : Reach g lim s)
    (ht : terminal s) : ∀ v ∈ starts s.log, v ∈ finishes s.log := by
  have hI := reach_inv hg h
  intro v hv
  rcases (hI.l.startedWhere v hv).2 with hf | hw
  · exact hf
  · rw [ht.2.1] at hw; cases hw

/-- **result = first error**: the value `walk` returns (`firstErr`) is `none` exactly when no failing visit was
handed to the errgroup, otherwise it is the *first* such visit, and that visit's callback really returned an error;
the group's context is cancelled exactly by such an error or by the caller (`extCancel`); at termination `none` means
no visitor failed at all. -/
theorem result_first_error {g : Graph} {lim : Option Nat} (hg : GraphOK g) {s : St} (h : Reach g lim s) :
    s.firstErr = s.errExits.getLast? ∧
    (∀ v, s.firstErr = some v → Ev.finish v true ∈ s.log) ∧
    (s.cancelled = true ↔ s.firstErr ≠ none ∨ s.extCancelled = true) ∧
    (terminal s → s.firstErr = none → ∀ v, Ev.finish v true ∉ s.log) := by
  have hI := reach_inv hg h
  have hfl := hI.e.firstErrLast
  refine ⟨hfl, ?_, ?_, ?_⟩
  · intro v hv
    rw [hfl] at hv
    exact hI.e.errExitsFin v (List.mem_of_getLast? hv)
  · rw [hI.e.cancelledIff, ne_eq, hI.e.firstErr_none_iff]
    cases s.errExits <;> cases s.extCancelled <;> simp
  · intro ht hnone v hv
    rcases hI.e.errAccounted v hv with ⟨pc, hpc, _⟩ | hx
    · rw [ht.2.1] at hpc; cases hpc
    · rw [hI.e.firstErr_none_iff.mp hnone] at hx; cases hx

/-- **progress of `walk` itself**: in every reachable state `walk` has returned, or one of its own goroutines can take a
step (`internal`: every label but a visitor's return and the caller's cancellation), or a visitor callback is in
progress — and that visitor may return, with either result.  So `walk` never waits for anything but a visitor:
no lost wake-up, no full channel, no errgroup slot that nobody frees; on the success path, after an error, after a
cancellation, with or without skipped (root-selection) vertices.  (`deadlock_free` alone would also be satisfied by the
environment step `extCancel`.) -/
theorem progress_internal {g : Graph} {lim : Option Nat} (hg : GraphOK g) (hl : ∀ n, lim = some n → 1 ≤ n)
    {s : St} (h : Reach g lim s) :
    terminal s ∨ (∃ l s', internal l = true ∧ step? g lim s l = some s') ∨
    (∃ v, wpc s.workers v = some .running ∧ ∀ e, ∃ s', step? g lim s (.wReturn v e) = some s') := by
  have hI := reach_inv hg h
  rcases progress_inv g hg lim hl s hI.a hI.b with ht | hi | ⟨v, hv⟩
  · exact .inl ht
  · exact .inr (.inl hi)
  · exact .inr (.inr ⟨v, hv, fun e => running_can_return g lim s v e hv⟩)

/-- **liveness under fairness**: a schedule that is fair to `walk` (no internal step is left enabled) and in which every
visitor that was entered has returned (no visitor in progress) has ended with `walk` returned.  Together with
`terminates` (no infinite schedule): under a fair scheduler and visitors that return, `walk` returns. -/
theorem fair_maximal_run_is_terminal {g : Graph} {lim : Option Nat} (hg : GraphOK g) (hl : ∀ n, lim = some n → 1 ≤ n)
    {s : St} (h : Reach g lim s) (hint : ∀ l, internal l = true → step? g lim s l = none)
    (hvis : ∀ v, wpc s.workers v ≠ some .running) : terminal s := by
  rcases progress_internal hg hl h with ht | ⟨l, s', hi, hs⟩ | ⟨v, hv, _⟩
  · exact ht
  · rw [hint l hi] at hs; cases hs
  · exact absurd hv (hvis v)

/-- **every reachable state can be completed** without an error and without a cancellation: there is a continuation
(every visitor still in progress returns nil, nobody cancels) of at most `mu g s` steps after which `walk` has
returned.  No reachable state is doomed. -/
theorem every_state_can_finish {g : Graph} {lim : Option Nat} (hg : GraphOK g) (hl : ∀ n, lim = some n → 1 ≤ n)
    {s : St} (h : Reach g lim s) :
    ∃ ls s', runL g lim s ls = some s' ∧ terminal s' ∧ ls.length ≤ mu g s ∧ ls.all calm = true := by
  -- progress by calm steps (`Runs.can_finish_with`); the bound on the length is `terminates`
  obtain ⟨ls, s', hr, ht, hall⟩ := CV.Runs.can_finish_with (runL_replays g lim) (R := Reach g lim) (fun h hs => .step h hs)
    (mu := mu g) (fun h hs => mu_step_lt hg h hs) (T := terminal) (P := calm) (fun {s} h => by
      have hI := reach_inv hg h
      rcases progress_inv g hg lim hl s hI.a hI.b with ht | ⟨l, s1, hint, hs⟩ | ⟨v, hv⟩
      · exact .inl ht
      · -- `calm` is false only on a failing `wReturn` and on `extCancel`, neither of them internal
        exact .inr ⟨l, s1, (by cases l <;> first | rfl | cases hint), hs⟩
      · exact .inr ⟨_, _, rfl, (running_can_return g lim s v false hv).choose_spec⟩) h
  exact ⟨ls, s', hr, ht, Nat.le_trans (Nat.le_add_right ..) (terminates hg h ls hr), hall⟩

/-- **no overlap with prerequisites** (state form of `after_deps`, for every moment and not only visitor entry): while
a worker of `v` exists (from `eg.Go` to its exit — in particular while `v`'s visitor runs), every prerequisite `d` of `v`
that still has a worker is past `t.done` (`marked` / `sent`): its visitor has returned. -/
theorem no_overlap_with_deps {g : Graph} {lim : Option Nat} (hg : GraphOK g) {s : St} (h : Reach g lim s)
    (v : V) (pc : WPc) (hv : (v, pc) ∈ s.workers) (d : V) (hd : d ∈ g.pre v) (pcd : WPc) (hdw : (d, pcd) ∈ s.workers) :
    ∃ e, pcd = .marked e ∨ pcd = .sent e := by
  have hI := reach_inv hg h
  -- `v` has been claimed, so `d` is visited: its worker, if it still has one, is past `t.done`
  have hvis := hI.l.depsVisited v (.inr (hI.a.worker_status hv)) d hd
  rcases wpc_cases pcd with he | ⟨e, rfl⟩ | ⟨e, rfl⟩
  · have := hI.a.wkEarly d pcd hdw he
    rw [hvis] at this; cases this
  · exact ⟨e, .inl rfl⟩
  · exact ⟨e, .inr rfl⟩

/-- **exact counts on success**: when `walk` returned nil (and the caller did not cancel), the visitor was entered
exactly once for every vertex the root selection keeps and never for a vertex it skips; skipped vertices still went
through the whole hand-off (status `visited`, received by the coordinator) — the ignored-node path is live. -/
theorem exact_counts_on_success {g : Graph} {lim : Option Nat} (hg : GraphOK g) {s : St} (h : Reach g lim s)
    (ht : terminal s) (hok : s.firstErr = none) (hext : s.extCancelled = false) :
    ∀ v ∈ g.verts, (starts s.log).count v = (if g.skip v then 0 else 1) ∧
                   (finishes s.log).count v = (if g.skip v then 0 else 1) ∧
                   s.status v = .visited ∧ v ∈ s.received := by
  intro v hv
  have ⟨hn1, hn2, hwhere⟩ := once hg h
  have hfs : ∀ u ∈ finishes s.log, u ∈ starts s.log := (reach_inv hg h).l.finSubStarts
  have hnc : s.cancelled = false := (reach_inv hg h).e.not_cancelled hok hext
  have ⟨hvis, hrecv⟩ := terminal_complete hg h ht hnc v hv
  -- on success a vertex is in the two (duplicate-free) lists exactly when it is not skipped
  have hs : v ∈ starts s.log ↔ g.skip v = false :=
    ⟨fun hm => (hwhere v hm).2, fun hk => (exactly_once_on_success hg h ht hok hext v hv hk).1⟩
  have hf : v ∈ finishes s.log ↔ g.skip v = false :=
    ⟨fun hm => hs.mp (hfs v hm), fun hk => (exactly_once_on_success hg h ht hok hext v hv hk).2⟩
  rw [hn1.count, hn2.count]
  cases hk : g.skip v <;> simp [hs, hf, hk, hvis, hrecv]

/-- **the error path is live and exact**: whenever `walk` has returned, whatever happened (errors, cancellation), every
visitor that was entered has returned exactly once, no vertex was entered twice, and the value returned is `nil`
exactly when no visitor returned an error (which error it is otherwise: `result_first_error`). -/
theorem outcome_on_return {g : Graph} {lim : Option Nat} (hg : GraphOK g) {s : St} (h : Reach g lim s) (ht : terminal s) :
    (∀ v, (starts s.log).count v = (finishes s.log).count v ∧ (starts s.log).count v ≤ 1) ∧
    (s.firstErr = none ↔ ∀ v, Ev.finish v true ∉ s.log) := by
  have ⟨hn1, hn2, _⟩ := once hg h
  have hfs : ∀ u ∈ finishes s.log, u ∈ starts s.log := (reach_inv hg h).l.finSubStarts
  have hret := returns_after_all_visits hg h ht
  have hres := result_first_error hg h
  refine ⟨fun v => ?_, ⟨hres.2.2.2 ht, ?_⟩⟩
  · have : v ∈ starts s.log ↔ v ∈ finishes s.log := ⟨hret v, hfs v⟩
    rw [hn1.count, hn2.count]
    by_cases hm : v ∈ starts s.log <;> simp [hm, this.symm]
  · intro hno
    cases hf : s.firstErr with
    | none => rfl
    | some v => exact absurd (hres.2.1 v hf) (hno v)

/-! ### non-vacuity: a concrete diamond graph satisfies the hypotheses and has a complete successful run -/

example : GraphOK diamond where
  nodup := by decide
  nonempty := by decide
  pre_mem := by decide
  post_mem := by decide
  pre_post := by decide
  rank := ⟨fun v => v, by decide⟩

/-- a full schedule of the diamond under `WithMaxConcurrency(1)`: 0, then 2 and 1 one after the other, then 3 -/
def diamondRun : List Label :=
  [.schedNext .M 0, .ready .M, .enter .M, .spawn .M, .schedEnd .M,
   .wBegin 0, .wReturn 0 false, .wDone 0, .wSend 0, .wExit 0,
   .cRecv, .schedNext .C 2, .ready .C, .enter .C, .spawn .C, .schedNext .C 1, .ready .C, .enter .C,
   .wBegin 2, .wReturn 2 false, .wDone 2, .wSend 2, .wExit 2, .spawn .C, .schedEnd .C,
   .cRecv, .schedNext .C 3, .ready .C, .schedEnd .C,
   .wBegin 1, .wReturn 1 false, .wDone 1, .wSend 1, .wExit 1,
   .cRecv, .schedNext .C 3, .ready .C, .enter .C, .spawn .C, .schedEnd .C,
   .wBegin 3, .wReturn 3 false, .wDone 3, .wSend 3, .wExit 3, .cRecv]

/-- the hypotheses of `exactly_once_on_success` / `terminal_complete` are satisfiable: the run above is a schedule of
the model that ends terminal without error, having visited 0, 2, 1, 3 in an admissible order -/
example : (runL diamond (some 1) (init diamond) diamondRun).map
    (fun s => (decide (terminal s), s.firstErr, s.cancelled, (starts s.log).reverse, (finishes s.log).reverse))
    = some (true, none, false, [0, 2, 1, 3], [0, 2, 1, 3]) := by decide +kernel

/-- … and a failing visitor: 0 fails, `walk` still terminates, returns that error, and 1, 2, 3 are never visited -/
example : (runL diamond none (init diamond)
    [.schedNext .M 0, .ready .M, .enter .M, .spawn .M, .schedEnd .M,
     .wBegin 0, .wReturn 0 true, .wDone 0, .wSend 0, .wExit 0, .cCtxDone]).map
    (fun s => (decide (terminal s), s.firstErr, (starts s.log).reverse))
    = some (true, some 0, [0]) := by decide +kernel

/-- why `exactly_once_on_success` needs `extCancelled = false`: if the caller cancels its own context the coordinator
may leave, `walk` returns nil, and services 1, 2, 3 have never been visited (outside the property, inside the model) -/
example : (runL diamond none (init diamond)
    [.schedNext .M 0, .ready .M, .enter .M, .spawn .M, .schedEnd .M, .extCancel, .cCtxDone,
     .wBegin 0, .wReturn 0 false, .wDone 0, .wSend 0, .wExit 0]).map
    (fun s => (decide (terminal s), s.firstErr, s.extCancelled, (starts s.log).reverse))
    = some (true, none, true, [0]) := by decide +kernel

/-- the measure of `terminates` on the diamond: no schedule has more than 54 steps (the complete run above has 46) -/
example : mu diamond (init diamond) = 54 ∧ diamondRun.length = 46 := by decide +kernel

/-! non-vacuity for `exact_counts_on_success` on the ignored-node path (`chainSkip`): 0 goes through the whole life cycle
without its visitor being entered, 1 is visited exactly once -/
example : GraphOK chainSkip :=
  ⟨by decide, by decide, by decide, by decide, by decide, ⟨fun v => v, by decide⟩⟩

example : (runL chainSkip (some 1) (init chainSkip)
    [.schedNext .M 0, .ready .M, .enter .M, .spawn .M, .schedEnd .M, .wBegin 0, .wDone 0, .wSend 0, .wExit 0,
     .cRecv, .schedNext .C 1, .ready .C, .enter .C, .spawn .C, .schedEnd .C,
     .wBegin 1, .wReturn 1 false, .wDone 1, .wSend 1, .wExit 1, .cRecv]).map
    (fun s => (decide (terminal s) && s.firstErr.isNone && !s.extCancelled && decide (s.status 0 = .visited),
               (starts s.log).count 0, (starts s.log).count 1, s.received))
    = some (true, 0, 1, [1, 0]) := by decide +kernel

/-- non-vacuity for the third alternative of `progress_internal`: with the only visitor in progress nothing else can
move (coordinator at `select` on an empty channel, caller in `eg.Wait`) — `walk` waits for the visitor and only for it -/
example : (runL chainSkip none (init chainSkip)
    [.schedNext .M 0, .ready .M, .enter .M, .spawn .M, .schedEnd .M, .wBegin 0, .wDone 0, .wSend 0, .wExit 0,
     .cRecv, .schedNext .C 1, .ready .C, .enter .C, .spawn .C, .schedEnd .C, .wBegin 1]).map
    (fun s => (decide (terminal s), wpc s.workers 1,
               (step? chainSkip none s .cRecv).isSome || (step? chainSkip none s .cCtxDone).isSome ||
               (step? chainSkip none s (.schedEnd .C)).isSome || (step? chainSkip none s (.wDone 1)).isSome,
               (step? chainSkip none s (.wReturn 1 true)).isSome))
    = some (false, some .running, false, true) := by decide +kernel

end CV.Trav

/-! ## Graph construction: cycles are refused before any visit, the project is not modified

Model: `DepGraph.run` = `newGraph` followed by `checkCycle`, everything `CollectInDependencyOrder` does before `walk`
is called (so "refused" = no visitor is ever entered: `walk` is not reached). -/
namespace CV.DepGraph

/-- **cyclic ⇒ refused**: on any finite vertex set closed under the adjacency, a closed walk through some vertex makes
`checkCycle` answer "cycle" (the depth-first search with fuel `|V| + 1` cannot miss it). -/
theorem cyclic_refused (adj : Name → List Name) (verts : List Name)
    (hclosed : ∀ v ∈ verts, ∀ c ∈ adj v, c ∈ verts) (v : Name) (hv : v ∈ verts) (n : Nat) (h : Reaches adj n v v) :
    checkCycle verts adj = true :=
  (checkCycle_iff adj verts hclosed).mpr ⟨v, hv, n, h⟩

/-- **acyclic ⇒ accepted**, and the hypothesis of the traversal theorems is the right one: a graph with a rank function
(`Trav.GraphOK.rank`) passes `checkCycle`; conversely whatever `checkCycle` reports is a real closed walk. -/
theorem acyclic_accepted (adj : Name → List Name) (verts : List Name) :
    (∀ rk : Name → Nat, (∀ v c, c ∈ adj v → rk c < rk v) → checkCycle verts adj = false) ∧
    (checkCycle verts adj = true → ∃ x n, Reaches adj n x x) :=
  ⟨fun rk hrk => checkCycle_accepts_ranked adj verts rk hrk, checkCycle_sound adj verts⟩

/-- **project unmodified**: the model `run` reports no changed `depends_on`, whatever the outcome.  `run` has no write
(`changed` is `[]` in both branches), so this says that the model has this shape; that the code behaves like the model is
the correspondence check's part (`trav.proj`).  The function that did write (`runOld`) and its witnesses: `Neg/C13.lean`. -/
theorem project_unmodified (p : Proj) : (run p).changed = [] := by
  simp only [run]
  split <;> rfl

/-- **a cyclic project is refused before any visit** (project level): `depAdj p` is the dependency graph the property
speaks about — each service's dependencies that are enabled services.  If it has a closed walk through a service,
`newGraph` + `checkCycle` never answer "ok" (a missing required dependency is reported first, or the cycle is found), so
`walk` is not reached and no visitor is called.  Holds for every iteration order: `run` is applied to the lists as given,
and the statement quantifies over all of them. -/
theorem cyclic_project_refused (p : Proj) (v : Name) (hv : v ∈ p.services.map (·.name)) (n : Nat)
    (h : Reaches (depAdj p) n v v) : (run p).cls ≠ "ok" :=
  fun hok => ((accepted_iff p).mp hok).2 v hv n h

/-- **a self dependency is refused**: a project whose single service `s` lists itself is not "ok", whatever else `s` lists
and in whatever order (under `runOld`, `Neg/C13.lean`, the answer depended on the order next to an optional missing
dependency) -/
theorem self_dependency_refused (s : Svc) (dis : List Name) (hself : ∃ d ∈ s.deps, d.name = s.name) :
    (run ⟨[s], dis⟩).cls ≠ "ok" := by
  -- the edge `s → s` is a closed walk of the dependency graph
  obtain ⟨d, hd, hn⟩ := hself
  refine cyclic_project_refused ⟨[s], dis⟩ s.name (List.mem_singleton_self _) 1 (.one ?_)
  show s.name ∈ depAdj ⟨[s], dis⟩ s.name
  rw [depAdj, List.find?_cons_of_pos (by exact beq_self_eq_true _)]
  exact List.mem_map.mpr ⟨d, List.mem_filter.mpr ⟨hd, by rw [hn]; exact List.elem_cons_self⟩, hn⟩

/-- **accepted ⇔ acyclic** when no required dependency is missing (`build` reports no error): the graph `newGraph`
hands to `walk` is exactly `depAdj p` (`build_is_depAdj`), it is accepted iff it has no closed walk, and then it has a
rank function — the hypothesis `GraphOK.rank` under which all traversal theorems are proved. -/
theorem accepted_iff_acyclic (p : Proj)
    (hb : (build (p.services.map (·.name)) p.disabled p.services []).1 = none) :
    ((run p).cls = "ok" ↔ ∀ v ∈ p.services.map (·.name), ∀ n, ¬ Reaches (depAdj p) n v v) ∧
    ((run p).cls = "ok" → ∃ rk : Name → Nat, ∀ v ∈ p.services.map (·.name), ∀ c ∈ depAdj p v, rk c < rk v) := by
  have hiff : (run p).cls = "ok" ↔ ∀ v ∈ p.services.map (·.name), ∀ n, ¬ Reaches (depAdj p) n v v := by
    rw [run_ok_iff, checkCycle_false_iff _ _ (depAdj_closed p)]
    exact and_iff_right hb
  refine ⟨hiff, fun hok => ?_⟩
  obtain ⟨rk, hrk, _⟩ := CV.Trav.rank_of_acyclic (depAdj p) _ (depAdj_closed p) (hiff.mp hok)
  exact ⟨rk, hrk⟩

/-- non-vacuity for the two theorems above: a 3-cycle behind an entry service that sorts first (the shape seed C13-2
hid from the search) is refused; the same services without the back edge are accepted -/
example : (run ⟨[⟨0, [⟨1, true⟩]⟩, ⟨1, [⟨2, true⟩]⟩, ⟨2, [⟨1, true⟩]⟩], []⟩).cls = "cycle" ∧
          (run ⟨[⟨0, [⟨1, true⟩]⟩, ⟨1, [⟨2, true⟩]⟩, ⟨2, []⟩], []⟩).cls = "ok" := by decide +kernel

/-- non-vacuity: a chain 2 → 1 → 0 with an optional dependency on a missing service satisfies the hypothesis, is
accepted and unmodified; closing the chain into a cycle is refused -/
example : (run ⟨[⟨0, [⟨9, false⟩]⟩, ⟨1, [⟨0, true⟩]⟩, ⟨2, [⟨1, true⟩]⟩], []⟩) = ⟨"ok", []⟩ ∧
          (run ⟨[⟨0, [⟨2, true⟩]⟩, ⟨1, [⟨0, true⟩]⟩, ⟨2, [⟨1, true⟩]⟩], []⟩) = ⟨"cycle", []⟩ := by decide +kernel

end CV.DepGraph

namespace CV.Trav
open CV.DepGraph (Reaches)

/-- **root selection** (`WithRootNodesAndDown`): on an acyclic dependency graph the visitor is called for a service iff
no roots were given, or it is a root, or it transitively depends on a root.  (`verts.length` is the recursion bound
the model of `vertex.descendents` is run with.) -/
theorem roots_select_dependents (deps : V → List V) (verts : List V) (after : List V) (v : V)
    (hclosed : ∀ v ∈ verts, ∀ c ∈ deps v, c ∈ verts) (hacyc : ∀ v ∈ verts, ∀ n, ¬ Reaches deps n v v) (hv : v ∈ verts) :
    skipOf deps verts.length after v = false ↔ after = [] ∨ v ∈ after ∨ ∃ r ∈ after, ∃ n, Reaches deps n v r := by
  obtain ⟨rk, hrk, hle⟩ := rank_of_acyclic deps verts hclosed hacyc
  rw [skipOf_false_iff]
  constructor
  · rintro (h | h | ⟨r, hr, n, _, hn⟩)
    · exact .inl h
    · exact .inr (.inl h)
    · exact .inr (.inr ⟨r, hr, n, hn⟩)
  · rintro (h | h | ⟨r, hr, n, hn⟩)
    · exact .inl h
    · exact .inr (.inl h)
    · have := hn.rank_add_le (S := (· ∈ verts)) hclosed hrk hv
      exact .inr (.inr ⟨r, hr, n, by have := hle v; omega, hn⟩)

/-- **acyclic = ranked = accepted**: for a finite vertex set closed under the adjacency, "no closed walk" (what
`checkCycle` decides) and "a rank function exists" (`GraphOK.rank`, the hypothesis of every traversal theorem above) are
the same thing, and whatever `checkCycle` accepts has a rank function bounded by the number of vertices. -/
theorem acyclic_ranked_accepted (adj : V → List V) (verts : List V) (hclosed : ∀ v ∈ verts, ∀ c ∈ adj v, c ∈ verts) :
    ((∀ v ∈ verts, ∀ n, ¬ Reaches adj n v v) ↔ ∃ rk : V → Nat, ∀ v ∈ verts, ∀ c ∈ adj v, rk c < rk v) ∧
    (CV.DepGraph.checkCycle verts adj = false →
      ∃ rk : V → Nat, (∀ v ∈ verts, ∀ c ∈ adj v, rk c < rk v) ∧ ∀ v, rk v ≤ verts.length) :=
  ⟨acyclic_iff_ranked adj verts hclosed, ranked_of_checkCycle_false adj verts hclosed⟩

/-- non-vacuity: chain 2 → 1 → 0 (2 depends on 1 depends on 0), root 1: 0 is skipped, 1 and 2 are visited -/
example : let deps : V → List V := fun v => if v = 2 then [1] else if v = 1 then [0] else []
    (skipOf deps 3 [1] 0, skipOf deps 3 [1] 1, skipOf deps 3 [1] 2) = (true, false, false) := by decide +kernel

end CV.Trav
