import ComposeVerif.Lemmas.Locked
import ComposeVerif.Lemmas.LockedSections
import ComposeVerif.Gen.LockSource
/-!
# C19 — the lock-guarded shared state: no race, no lost update, result independent of the schedule

`Model/Locked.lean`: any number of goroutines (`Tid` is an arbitrary type), each running any list of critical sections
`lock ; read ; write ; unlock` on one piece of guarded state, under EVERY interleaving of the four primitive steps.
Instances: `loader.versionWarning` (guarded by `versionWarningMu`) and `t.status` of the traversal (guarded by `t.mu`).
The source facts (`Gen/LockSource.lean`) say that the functions have exactly this shape and that every access of the
guarded state holds the mutex the fact names.

Here: safety of the locked system (mutual exclusion, no race, serialisability, no deadlock, `locked_preserves`), the two
`versionWarning` theorems, `traversal_enter_wins_once`, the source facts.  Its liveness (`locked_terminates`,
`locked_can_finish`), `t.results` as guarded state (`traversal_results_*`) and the memo instance are in
`Props/C19Conc.lean`, after the tables of the parallel regions.
-/
namespace CV.Locked

variable {σ Tid : Type} [DecidableEq Tid] {prog : Tid → List (σ → σ)} {m0 : σ} {s : St σ Tid}

/-- **mutual exclusion**: at most one goroutine is between `Lock()` and `Unlock()` -/
theorem locked_mutual_exclusion (hR : Reach true prog m0 s) {t u : Tid}
    (ht : inCS (s.pc t) = true) (hu : inCS (s.pc u) = true) : t = u := by
  have hI := inv_reach hR
  have h1 := hI.held t ht
  have h2 := hI.held u hu
  rw [h1] at h2; injection h2

/-- **every access is protected**: no reachable state enables two conflicting accesses of the guarded state by
    different goroutines -/
theorem locked_no_race (hR : Reach true prog m0 s) : ¬ RaceAt true s := by
  rintro ⟨l₁, l₂, t₁, t₂, w₁, w₂, ha₁, ha₂, hne, _, he₁, he₂⟩
  exact hne (locked_mutual_exclusion hR (enabled_access_inCS ha₁ he₁) (enabled_access_inCS ha₂ he₂))

/-- **no lost update / serialisability**: in every reachable state the guarded state is exactly what the SERIAL execution
    of the sections yields, in the order of their `write` steps (`hist`), one section at a time — and what each goroutine
    has left to run is what that serial execution leaves.  (The atomic `ready` / `enter` / `done` steps of
    `Model/Trav.lean` are this serial execution.) -/
theorem locked_serializable (hR : Reach true prog m0 s) : serial prog s.hist m0 = (s.mem, restAbs s) :=
  (inv_reach hR).ser

/-- a local copy read inside a section is never stale: nobody else can have written since -/
theorem locked_read_is_current (hR : Reach true prog m0 s) {t : Tid} {x : σ} (h : s.pc t = .loaded x) : x = s.mem :=
  (inv_reach hR).loaded t x h

/-- **no deadlock**: every goroutine has finished or some step is enabled -/
theorem locked_deadlock_free (hR : Reach true prog m0 s) : quiescent s ∨ ∃ l s', step? true s l = some s' := by
  have hI := inv_reach hR
  cases hh : s.holder with
  | some t =>
    right
    have hin := hI.holderIn t hh
    cases hpc : s.pc t with
    | out => rw [hpc] at hin; cases hin
    | holding => exact ⟨_, _, step?_of_step (.read hpc)⟩
    | loaded x =>
      cases hr : s.rest t with
      | nil => exact absurd hr (hI.restNe t hin)
      | cons f r => exact ⟨_, _, step?_of_step (.write hpc hr)⟩
    | written => exact ⟨_, _, step?_of_step (.unlock hpc)⟩
  | none =>
    by_cases hq : quiescent s
    · exact .inl hq
    · obtain ⟨t, ht⟩ : ∃ t, s.rest t ≠ [] := Classical.not_forall.mp hq
      have hpc := hI.out_of_no_holder hh t
      cases hr : s.rest t with
      | nil => exact absurd hr ht
      | cons f r => exact .inr ⟨_, _, step?_of_step (.lock hpc hr (by simp [hh]))⟩

/-- **what every section keeps true stays true under every interleaving** -/
theorem locked_preserves (P : σ → Prop) (hP : ∀ t, ∀ f ∈ prog t, ∀ m, P m → P (f m)) (h0 : P m0)
    (hR : Reach true prog m0 s) : P s.mem :=
  locked_inv (fun m _ => P m) (fun _ _ _ _ _ hf _ hm => hP _ _ hf _ hm) h0 hR

/-- when every load is through: no append is lost — `versionWarning` is a permutation of what it held before and ALL the
    files of ALL the loads (so its content as a multiset does not depend on the schedule) -/
theorem version_warning_no_lost_append (files : Tid → List String) (threads : List Tid) (hN : threads.Nodup)
    (hT : ∀ t, t ∉ threads → files t = []) {m0 : VW} {s : St VW Tid}
    (hR : Reach true (fun t => warnProg (files t)) m0 s) (hq : quiescent s) :
    s.mem.1.Perm (m0.1 ++ threads.flatMap files) := by
  -- `pend`: the files each load has still to record; recorded and pending together are all the files
  have h := locked_inv
    (fun m rest => ∃ pend : Tid → List String, (∀ t, rest t = warnProg (pend t)) ∧ (∀ t, t ∉ threads → pend t = []) ∧
      (m.1 ++ threads.flatMap pend).Perm (m0.1 ++ threads.flatMap files))
    ?_ ⟨files, fun _ => rfl, hT, .refl _⟩ hR
  · obtain ⟨pend, hrest, -, hperm⟩ := h
    have hz : threads.flatMap pend = [] := List.flatMap_eq_nil_iff.mpr fun t _ =>
      List.map_eq_nil_iff.mp ((hrest t).symm.trans (restAbs_of_quiescent hq t))
    rwa [hz, List.append_nil] at hperm
  · rintro ⟨w, l⟩ rest t f r - hr ⟨pend, hrest, hout, hperm⟩
    rw [hrest t] at hr
    cases hp : pend t with
    | nil => rw [hp] at hr; cases hr
    | cons a p =>
      rw [hp] at hr; cases hr
      have ht : t ∈ threads := Decidable.byContradiction fun hn => by rw [hout t hn] at hp; cases hp
      refine ⟨upd pend t p, fun u => ?_, fun u hu => ?_, ?_⟩
      · by_cases e : u = t
        · subst e; rw [upd_same, upd_same]; rfl
        · rw [upd_other _ _ e, upd_other _ _ e, hrest u]
      · rw [upd_other _ _ fun e : u = t => hu (e ▸ ht)]; exact hout u hu
      · show ((w ++ [a]) ++ threads.flatMap (upd pend t p)).Perm _
        rw [List.append_assoc]
        exact ((flatMap_upd_perm threads hN pend t a p ht hp).append_left w).trans hperm

/-- under every interleaving a warning is logged exactly once per recorded file, never twice -/
theorem version_warning_logged_once (files : Tid → List String) {s : St VW Tid}
    (hR : Reach true (fun t => warnProg (files t)) ([], []) s) : s.mem.2.Nodup ∧ ∀ f, f ∈ s.mem.2 ↔ f ∈ s.mem.1 := by
  apply locked_preserves LoggedOnce ?_ ?_ hR
  · intro t g hg m hm
    simp only [warnProg, List.mem_map] at hg
    obtain ⟨file, _, rfl⟩ := hg
    exact warn_loggedOnce file m hm
  · exact ⟨List.nodup_nil, fun f => Iff.rfl⟩

/-! ### `t.status` of the traversal: `enter` is a test-and-set -/

def EnteredOnce (m : TS) : Prop := m.2.Nodup ∧ ∀ v ∈ m.2, m.1 v ≠ .absent

/-- **a vertex is entered at most once**, whatever `ready` / `enter` / `done` calls the goroutines make and however they
    interleave: `enter` wins only on an absent vertex and nothing ever makes a vertex absent again -/
theorem traversal_enter_wins_once {prog : Tid → List (TS → TS)}
    (hP : ∀ t, ∀ f ∈ prog t, ∃ v, f = enterG v ∨ f = doneG v ∨ f = readyG v) {s : St TS Tid}
    (hR : Reach true prog (fun _ => .absent, []) s) : s.mem.2.Nodup := by
  refine (locked_preserves EnteredOnce ?_ ⟨List.nodup_nil, fun _ h => absurd h List.not_mem_nil⟩ hR).1
  intro t f hf ⟨st, won⟩ ⟨hn, ha⟩
  obtain ⟨v, rfl | rfl | rfl⟩ := hP t f hf
  · by_cases hv : st v = .absent
    · -- `enter` wins: `v` was absent, so not among the winners so far, and is entered now
      simp only [EnteredOnce, enterG, if_pos hv]
      refine ⟨nodup_snoc hn fun hm => ha v hm hv, fun u hu => ?_⟩
      rcases List.mem_append.mp hu with hu | hu
      · rw [enterF_of_ne_absent (ha u hu)]; exact ha u hu
      · cases List.mem_singleton.mp hu; simp [enterF, hv, setSt]
    · simp only [EnteredOnce, enterG, if_neg hv]
      exact ⟨hn, fun u hu => by rw [enterF_of_ne_absent (ha u hu)]; exact ha u hu⟩
  · refine ⟨hn, fun u hu => ?_⟩
    show doneF v st u ≠ .absent
    by_cases e : u = v
    · rw [e, doneF_self]; nofun
    · rw [doneF_of_ne st e]; exact ha u hu
  · exact ⟨hn, ha⟩

end CV.Locked

namespace CV.Gen

/-- **the modelled sections are the source's**: `warnObsoleteVersion` is `Lock(); defer Unlock(); read (Contains); write (append)` -/
theorem warn_source_is_modelled :
    warnSource =
    ["func (o *Options) warnObsoleteVersion(file string) {",
     "versionWarningMu.Lock()",
     "defer versionWarningMu.Unlock()",
     "if !slices.Contains(versionWarning, file) {",
     "logrus.Warning(fmt.Sprintf(\"%s: the attribute `version` is obsolete, it will be ignored, please remove it to avoid potential confusion\", file))",
     "}",
     "versionWarning = append(versionWarning, file)",
     "}"] :=
  rfl

/-- `ready`, `enter`, `done` of the traversal hold `t.mu` for their whole body and are `readyF`, `enterF`, `doneF` -/
theorem traversal_sections_source_is_modelled :
    travReadySource =
    ["func (t *traversal[S, T]) ready(v *vertex[S]) bool {", "t.mu.Lock()", "defer t.mu.Unlock()", "depends := v.children",
     "if t.inverse {", "depends = v.parents", "}", "for name := range depends {", "if t.status[name] != vertexVisited {",
     "return false", "}", "}", "return true", "}"] ∧
    travEnterSource =
    ["func (t *traversal[S, T]) enter(v *vertex[S]) bool {", "t.mu.Lock()", "defer t.mu.Unlock()",
     "if _, ok := t.status[v.key]; ok {", "return false", "}", "t.status[v.key] = vertexEntered", "return true", "}"] ∧
    travDoneSource =
    ["func (t *traversal[S, T]) done(v *vertex[S], result T) {", "t.mu.Lock()", "defer t.mu.Unlock()",
     "t.status[v.key] = vertexVisited", "t.results[v.key] = result", "}"] :=
  ⟨rfl, rfl, rfl⟩

/-- **every shared access is protected by the lock the source names**: each access of `loader.versionWarning` holds
    `versionWarningMu` and nothing else -/
theorem version_warning_accesses_hold_its_mutex :
    versionWarningAccesses ≠ [] ∧ versionWarningAccesses.all (fun (_, _, _, held) => held == ["versionWarningMu"]) = true := by
  decide +kernel

/-- each access of `t.status` / `t.results` inside package graph holds `t.mu` — except the one read of `t.results` by
    `CollectInDependencyOrder`, which happens after `walk` has returned (every goroutine joined by `eg.Wait`) -/
theorem traversal_field_accesses_hold_its_mutex :
    travGuardedFieldAccesses.filter (fun (_, _, _, held) => held != ["t.mu"]) =
      [("t.results", "graph.CollectInDependencyOrder", "read", [])] ∧
    travResultsReadAfterWalk = true ∧
    (travGuardedFieldAccesses.filter (fun (_, _, k, _) => k == "write")).map (fun (e, f, _, _) => (e, f)) =
      [("t.status", "graph.traversal.enter"), ("t.status", "graph.traversal.done"), ("t.results", "graph.traversal.done")] := by
  decide +kernel

end CV.Gen

namespace CV.Locked

def exFiles : Bool → List String := fun b => if b then ["a.yml", "b.yml"] else ["a.yml"]

/-- a run of the two loads, one whole section after the other (first load, then both sections of the second): it reaches
    a quiescent state with every append present and one warning per file -/
def exRun : List (Label Bool) :=
  [.lock false, .read false, .write false, .unlock false, .lock true, .read true, .write true, .unlock true,
   .lock true, .read true, .write true, .unlock true]

example : ((run true (init (fun t => warnProg (exFiles t)) ([], [])) exRun).map fun s => (s.mem, s.hist, s.holder)) =
    some ((["a.yml", "a.yml", "b.yml"], ["a.yml", "b.yml"]), [false, true, true], none) := by decide +kernel

/-- a reachable state in which a goroutine is blocked on the mutex (`lock true` refused while `false` holds it) -/
example : ((run true (init (fun t => warnProg (exFiles t)) ([], [])) [.lock false, .read false]).bind
    fun s => step? true s (.lock true)).isNone = true := by decide +kernel

end CV.Locked
