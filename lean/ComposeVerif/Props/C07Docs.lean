import ComposeVerif.Props.C07Sites
import ComposeVerif.Model.TemplateDocs
/-!
# C07 — no lookup state is carried from one document of a load to the next

`Props/C07Sites.lean` fixes the environment of *one* value given the include entries that enclose it.  The walk over
all documents of a load threads a heap of `interp.Options` cells (`Model/TemplateDocs.lean`); the theorems here say
that the threading is invisible: every value of every document — before, inside, after and between include entries and
`extends`, at any nesting depth — is interpolated in the environment of *its own* enclosing entries (`specDocs`),
and a walk never modifies a cell that existed before it started (frame property).  Seed C07-8 (`ApplyInclude` writing
`LookupValue` through the cloned pointer) is the variant `walkDocsShared`, refuted in `Neg/C07.lean`.
-/
namespace CV.Template.Docs
open CV.Template CV.Template.Sites

/-- the code that allocates, copies and writes `interp.Options` cells is the code the heap model was written against:
    `Options.clone` copies the pointer (`Interpolate: o.Interpolate`), `extends` and `ApplyInclude` walk with a clone,
    `toOptions` allocates the project's cell, and the **only** assignment to or through `Interpolate` in package loader
    is `ApplyInclude`'s allocation of a fresh cell (`Heap.alloc`) — no write through an existing pointer (`Heap.write`) -/
theorem options_cells_are_modelled :
    Gen.c07_interpolate_cells =
      ["extends.go: call opts.clone()",
       "include.go: call options.clone()",
       "include.go: loadOptions.Interpolate = &interp.Options{ Substitute: options.Interpolate.Substitute, LookupValue: config.LookupEnv, TypeCastMapping: options.Interpolate.TypeCastMapping, }",
       "loader.go: field Interpolate: o.Interpolate",
       "loader.go: field Interpolate: &interp.Options{ Substitute: template.Substitute, LookupValue: configDetails.LookupEnv, TypeCastMapping: interpolateTypeCastMapping, }"] := rfl

structure WalkOK (h : Heap) (env : GoMap) (r : Heap × List Out) (spec : List Out) : Prop where
  out : r.2 = spec
  mono : h.next ≤ r.1.next
  frame : ∀ i, i < h.next → r.1.cell i = h.cell i

theorem alloc_cell_new (h : Heap) (m : GoMap) : (h.alloc m).cell h.next = m := by
  simp [Heap.alloc]

theorem alloc_cell_old (h : Heap) (m : GoMap) (i : Nat) (hi : i < h.next) : (h.alloc m).cell i = h.cell i := by
  have : i ≠ h.next := Nat.ne_of_lt hi
  simp [Heap.alloc, this]

mutual
theorem walkDoc_ok : (d : Doc) → (h : Heap) → (p : Nat) → (env : GoMap) → p < h.next → h.cell p = env →
    WalkOK h env (walkDoc h p env d) (specDoc env d)
  | .value s, h, p, env, _, hc => by
    rw [walkDoc, specDoc, hc]
    exact ⟨rfl, Nat.le_refl _, fun _ _ => rfl⟩
  | .incl f ds, h, p, env, _, _ => by
    have ih := walkDocs_ok ds (h.alloc (includeEnv env f)) h.next (includeEnv env f)
      (Nat.lt_succ_self _) (alloc_cell_new h _)
    rw [walkDoc, specDoc]
    exact ⟨ih.out, Nat.le_of_succ_le ih.mono,
      fun i hi => (ih.frame i (Nat.lt_succ_of_lt hi)).trans (alloc_cell_old h _ i hi)⟩
  | .ext ds, h, p, env, hp, hc => by
    rw [walkDoc, specDoc]
    exact walkDocs_ok ds h p env hp hc
theorem walkDocs_ok : (ds : List Doc) → (h : Heap) → (p : Nat) → (env : GoMap) → p < h.next → h.cell p = env →
    WalkOK h env (walkDocs h p env ds) (specDocs env ds)
  | [], h, _, _, _, _ => ⟨rfl, Nat.le_refl _, fun _ _ => rfl⟩
  | d :: ds, h, p, env, hp, hc => by
    have i1 := walkDoc_ok d h p env hp hc
    have i2 := walkDocs_ok ds (walkDoc h p env d).1 p env (Nat.lt_of_lt_of_le hp i1.mono)
      ((i1.frame p hp).trans hc)
    rw [walkDocs, specDocs]
    exact ⟨by rw [← i1.out, ← i2.out], Nat.le_trans i1.mono i2.mono,
      fun i hi => (i2.frame i (Nat.lt_of_lt_of_le hi i1.mono)).trans (i1.frame i hi)⟩
end

/-- **statelessness of a load**: the values of the documents of a whole load, in order, are the ones of the
    specification in which every value only sees the env files of the include entries that enclose it -/
theorem load_is_stateless (env : GoMap) (ds : List Doc) : loadValues env ds = specDocs env ds :=
  (walkDocs_ok ds (Heap.init env) 0 env (by simp [Heap.init]) rfl).out

/-- the project's own `interp.Options` cell is never written during a load (frame property) -/
theorem load_keeps_project_lookup (env : GoMap) (ds : List Doc) :
    (walkDocs (Heap.init env) 0 env ds).1.cell 0 = env :=
  (walkDocs_ok ds (Heap.init env) 0 env (by simp [Heap.init]) rfl).frame 0 (by simp [Heap.init])

theorem specDocs_append (env : GoMap) (a b : List Doc) : specDocs env (a ++ b) = specDocs env a ++ specDocs env b := by
  induction a with
  | nil => simp [specDocs]
  | cons d ds ih => simp [specDocs, ih, List.append_assoc]

/-- a value that follows any documents (include entries with any env files, to any depth) in the parent is interpolated
    in the parent's environment: the values before it are what they are, the value itself is `Substitute` under the
    project environment -/
theorem value_after_includes (env : GoMap) (before : List Doc) (s : Str) :
    loadValues env (before ++ [.value s]) = specDocs env before ++ [subst (lookupEnv env) s] := by
  rw [load_is_stateless, specDocs_append]
  simp [specDocs, specDoc]

/-- … and for a template of the grammar it is the grammar's meaning in the project environment, whatever the
    env files of the include entries processed before it set -/
theorem value_after_includes_render (env : GoMap) (before : List Doc) (t : List Seg) (h : WF t = true) :
    loadValues env (before ++ [.value (renderL t)]) = specDocs env before ++ [evalOut (lookupEnv env) t] := by
  rw [value_after_includes, subst_render _ _ h]

/-- the same one level down: a later document of an include entry sees the entry's env file, not the env file of an
    include entry nested before it -/
theorem value_after_nested_include (env f : GoMap) (before : List Doc) (t : List Seg) (h : WF t = true) :
    loadValues env [.incl f (before ++ [.value (renderL t)])]
      = specDocs (includeEnv env f) before ++ [evalOut (lookupEnv (includeEnv env f)) t] := by
  rw [load_is_stateless]
  simp [specDocs, specDoc, specDocs_append, subst_render _ _ h]

/-- the value of an included document is the call-site model of `Props/C07Sites.lean` (so `site_render` etc. apply) -/
theorem value_in_include_is_site (env f : GoMap) (s : Str) :
    loadValues env [.incl f [.value s]] = [siteSubst env [f] s] := by
  rw [load_is_stateless]
  simp [specDocs, specDoc, siteSubst, includeChain]

/-- non-vacuity: an include that sets `A`, then `$A` in the parent where `A` is unset — the empty string -/
example : loadValues [] [.incl [(['A'], ['w'])] [.value ['$', 'A']], .value ['$', 'A']] = [.ok ['w'], .ok []] := by
  decide +kernel

/-- include entries nested inside each other, outermost first, around the documents `ds` -/
def nest : List GoMap → List Doc → List Doc
  | [], ds => ds
  | f :: fs, ds => [.incl f (nest fs ds)]

theorem specDocs_nest (env : GoMap) (files : List GoMap) (ds : List Doc) :
    specDocs env (nest files ds) = specDocs (includeChain env files) ds := by
  induction files generalizing env with
  | nil => rfl
  | cons f fs ih => simp [nest, specDocs, specDoc, includeChain, ih]

/-- **the walk composed with the call-site refinement**: a `WF` template in a document that sits inside include
    entries nested to any depth (env files `files`, outermost first) and *after* any other documents `before` of the
    innermost entry (which may apply further include entries with env files of their own) means what the grammar says in
    the layered environment of the enclosing entries — the first layer that sets a variable wins, and nothing that
    `before` set is visible -/
theorem nested_value_after_includes_render (env : GoMap) (files : List GoMap) (before : List Doc) (t : List Seg)
    (h : WF t = true) :
    loadValues env (nest files (before ++ [.value (renderL t)]))
      = specDocs (includeChain env files) before ++ [evalOut (layered (env :: files)) t] := by
  rw [load_is_stateless, specDocs_nest, specDocs_append]
  simp [specDocs, specDoc, subst_render _ _ h, include_lookup_is_layered]

/-- the outputs of the documents `a` do not depend on what follows them (prefix property of the walk) -/
theorem load_prefix (env : GoMap) (a b : List Doc) :
    loadValues env (a ++ b) = loadValues env a ++ loadValues env b := by
  rw [load_is_stateless, load_is_stateless, load_is_stateless, specDocs_append]

mutual
theorem specDoc_no_panic : (d : Doc) → (env : GoMap) → (p : PanicSite) → Out.panic p ∉ specDoc env d
  | .value s, env, p => by
    simp only [specDoc, List.mem_singleton]
    exact fun h => subst_never_panics _ s p h.symm
  | .incl f ds, env, p => by simpa [specDoc] using specDocs_no_panic ds (includeEnv env f) p
  | .ext ds, env, p => by simpa [specDoc] using specDocs_no_panic ds env p
theorem specDocs_no_panic : (ds : List Doc) → (env : GoMap) → (p : PanicSite) → Out.panic p ∉ specDocs env ds
  | [], _, _ => by simp [specDocs]
  | d :: ds, env, p => by
    simp only [specDocs, List.mem_append, not_or]
    exact ⟨specDoc_no_panic d env p, specDocs_no_panic ds env p⟩
end

theorem load_never_panics (env : GoMap) (ds : List Doc) (p : PanicSite) : Out.panic p ∉ loadValues env ds := by
  rw [load_is_stateless]; exact specDocs_no_panic ds env p

/-- non-vacuity of `nested_value_after_includes_render`: two nested entries, an inner include applied before the value -/
example : loadValues [(['B'], ['b'])] (nest [[(['A'], ['1'])], [(['A'], ['2']), (['C'], ['c'])]]
      ([.incl [(['D'], ['d'])] []] ++ [.value (renderL [.var ['A'] true, .var ['C'] false, .op ['D'] .dash [.var ['B'] true]])]))
    = [.ok ['1', 'c', 'b']] := by decide +kernel

end CV.Template.Docs
