import ComposeVerif.Gen.Globals
import ComposeVerif.Lemmas.TravLocked
import ComposeVerif.Props.C13
/-!
# C19 — the dependency-ordered traversal

The traversal clauses of C19 as theorems, each a corollary of the C13 development (`Model/Trav.lean`, `Lemmas/TravLive.lean`,
`Props/C13.lean`) for **every** finite acyclic dependency graph, every direction, every root selection, every concurrency
limit `≥ 1` (or none) and every schedule: no deadlock, termination, completability, first error, exactly one call per
selected service; the regenerated fact that the errgroup of the source has the `limit + 1` slots the model assumes
(`Neg/C19Traversal.lean`: with `limit` slots a one-service walk under `WithMaxConcurrency(1)` deadlocks); and
`traversal_status_written_only_by_sections`, which ties the atomic `enter` / `wDone` steps of the model to the lock-guarded
sections of `Model/Locked.lean`.
-/
namespace CV.C19
open CV.Trav

/-- **no deadlock**: in every reachable state of the walk, `walk` has returned or some goroutine can take a step
    (no lost wake-up, no visitor waiting for a slot the coordinator holds) -/
theorem traversal_deadlock_free {g : Graph} {lim : Option Nat} (hg : GraphOK g) (hl : ∀ n, lim = some n → 1 ≤ n)
    {s : St} (h : Reach g lim s) : terminal s ∨ ∃ l s', step? g lim s l = some s' :=
  deadlock_free hg hl h

/-- **termination**: no schedule of the walk is longer than `mu g (init g)` -/
theorem traversal_terminates {g : Graph} {lim : Option Nat} (hg : GraphOK g) (ls : List Label) (s' : St)
    (hr : runL g lim (init g) ls = some s') : ls.length ≤ mu g (init g) :=
  Nat.le_trans (Nat.le_add_right ..) (terminates hg .init ls hr)

/-- **every schedule can be completed**: from every reachable state some continuation ends with `walk` returned
    (with `traversal_terminates`: every maximal schedule is finite and ends returned) -/
theorem traversal_can_finish {g : Graph} {lim : Option Nat} (hg : GraphOK g) (hl : ∀ n, lim = some n → 1 ≤ n)
    {s : St} (h : Reach g lim s) : ∃ ls s', runL g lim s ls = some s' ∧ terminal s' :=
  let ⟨ls, s', hr, ht, _⟩ := every_state_can_finish hg hl h
  ⟨ls, s', hr, ht⟩

/-- **the traversal propagates its first error** (C19's clause, from C13's `result_first_error` / `outcome_on_return`):
    whenever `walk` has returned — every graph, limit, root selection, schedule — the value it returns is `nil` exactly
    when no visitor failed, otherwise it is the error of the FIRST failing visit handed to the errgroup, and that visitor
    really returned an error -/
theorem traversal_first_error {g : Graph} {lim : Option Nat} (hg : GraphOK g) {s : St} (h : Reach g lim s) (ht : terminal s) :
    s.firstErr = s.errExits.getLast? ∧
    (∀ v, s.firstErr = some v → Ev.finish v true ∈ s.log) ∧
    (s.firstErr = none ↔ ∀ v, Ev.finish v true ∉ s.log) :=
  let r := result_first_error hg h
  ⟨r.1, r.2.1, (outcome_on_return hg h ht).2⟩

/-- **the supplied function is called exactly once per selected service** (and never for a skipped one) when the walk
    returns without error; whatever happened, no service is visited twice and every visitor that was entered has returned
    before `walk` returns — no visitor is still running (and still writing) after the parallel operation is over -/
theorem traversal_calls_exactly_once {g : Graph} {lim : Option Nat} (hg : GraphOK g) {s : St} (h : Reach g lim s)
    (ht : terminal s) :
    (∀ v, (starts s.log).count v = (finishes s.log).count v ∧ (starts s.log).count v ≤ 1) ∧
    (s.firstErr = none → s.extCancelled = false →
      ∀ v ∈ g.verts, (starts s.log).count v = (if g.skip v then 0 else 1) ∧ s.status v = .visited) :=
  ⟨(outcome_on_return hg h ht).1, fun hok hext v hv =>
    let r := exact_counts_on_success hg h ht hok hext v hv
    ⟨r.1, r.2.2.1⟩⟩

/-- the source gives the errgroup `maxConcurrency + 1` slots, and only when a limit is set — what `slotFree` models -/
theorem traversal_limit_is_the_sources :
    CV.Gen.travSetLimitArgs = ["t.maxConcurrency + 1"] ∧ CV.Gen.travSetLimitGuards = ["t.maxConcurrency > 0"] :=
  ⟨rfl, rfl⟩

/-- **the walk writes `t.status` only through the lock-guarded sections**: every step of the traversal model leaves the
    status map unchanged, or applies the section `enterF v` (`enter` on an absent vertex), or the section `doneF v`
    (`wDone`) to it — the sections whose source is pinned by `traversal_sections_source_is_modelled` and whose interleavings
    are serialisable by `CV.Locked.locked_serializable` (so one atomic model step per section is sound) -/
theorem traversal_status_written_only_by_sections {g : Graph} {lim : Option Nat} {s s' : St} {l : Label}
    (h : step? g lim s l = some s') :
    stL s' = stL s ∨ (∃ v, stL s' = CV.Locked.enterF v (stL s)) ∨ (∃ v, stL s' = CV.Locked.doneF v (stL s)) := by
  cases step?_sound h with
  | visit _ hv =>
    rcases hv.status with e | ⟨_, v, _, habs, e⟩
    · exact .inl (stL_congr ((Trav.putSched_status ..).trans e))
    · -- `enter` wins an absent vertex
      have hv : stL s v = .absent := by unfold stL; rw [habs]; rfl
      exact .inr (.inl ⟨v, by rw [stL_setStatus ((Trav.putSched_status ..).trans e), Locked.enterF, if_pos hv]; rfl⟩)
  | work _ hk =>
    rcases hk.status with e | ⟨_, _, e⟩
    · exact .inl (stL_congr e)
    · exact .inr (.inr ⟨_, stL_setStatus e⟩)
  | coord _ _ hc => exact .inl (stL_congr hc.frame.1)
  | cancel => exact .inl rfl

/-! non-vacuity: a graph satisfying `GraphOK` with a real choice of schedules -/
def chain : Graph :=
  { verts := [0, 1, 2], pre := fun v => if v = 0 then [] else [v - 1],
    post := fun v => if v < 2 then [v + 1] else [], skip := fun _ => false }

example : GraphOK chain where
  nodup := by decide
  nonempty := by decide
  pre_mem := by decide
  post_mem := by decide
  pre_post := by decide
  rank := ⟨fun v => v, by decide⟩

end CV.C19
