import ComposeVerif.Lemmas.DotenvPrint
import ComposeVerif.Lemmas.DotenvFiles
/-!
# C18 — grammar-level round trip through a canonical printer

`printCanon` (`Spec/DotenvPrint.lean`) writes every variable as `KEY="…"` with `$` doubled, `"` and `\` escaped.
The theorems say: parsing the canonical text gives back the map, under EVERY lookup function (nothing in a canonical
text is interpolated, inherited or cut as a comment); printing what was parsed gives back the text on the printer's
range; every file that parses has a canonical form with the same meaning.  Values are arbitrary strings — line feeds
(multi-line double-quoted values), `#`, ` #`, quotes, backslashes, dollar signs, white space at either end.
-/
namespace CV.Dotenv
open CV CV.Template

/-- **parse ∘ print = id**: for every printable map (valid, distinct names; ANY values) and every lookup -/
theorem parse_printCanon (m : Map) (lookup : Env) (h : Printable m) : parse (printCanon m) lookup = .ok m := by
  unfold printCanon
  rw [parse_render_lemma lookup _ (canon_WF m h.1), evalLines, evalFrom_canon, mergeInto_nil m h.2]

/-- **print ∘ parse = id on the printer's range** -/
theorem print_parse_id (t : Str) (lookup : Env) (m : Map) (h : Printable m) (ht : t = printCanon m) :
    ∃ r, parse t lookup = .ok r ∧ printCanon r = t := by
  subst ht
  exact ⟨m, parse_printCanon m lookup h, rfl⟩

/-- the printer is injective on printable maps: different maps (as ordered lists of definitions) have different texts -/
theorem printCanon_injective (m m' : Map) (h : Printable m) (h' : Printable m') (e : printCanon m = printCanon m') : m = m' := by
  have a := parse_printCanon m (fun _ => none) h
  rw [e, parse_printCanon m' _ h'] at a
  cases a; rfl

/-- **every file that parses has a canonical form**: whatever the input and the lookup it was parsed under, if the
    names it defines are valid keys (always key-rune words by `parse_keys_valid`; not empty — the recorded finding —
    and not the bare word `export`) then the canonical text of the result parses to the same result under ANY lookup:
    normalisation removes every dependence on the lookup and is idempotent -/
theorem canonical_form (src : Str) (lookup lookup' : Env) (r : Map) (h : parse src lookup = .ok r)
    (hk : ∀ kv ∈ r, validKey kv.1 = true) :
    parse (printCanon r) lookup' = .ok r :=
  parse_printCanon r lookup' ⟨hk, parse_keys_nodup_lemma src lookup r h⟩

/-- a canonical value means itself in every environment: `$` does not interpolate, `\` does not escape, `"` does not
    close, ` #` does not start a comment, a line feed does not end the value -/
theorem canon_value (env : Env) (v : Str) : (Value.dq (dqEnc (escapeDollars v))).eval env = .ok v :=
  canon_value_eval env v

/-- the same through `GetEnvFromFile`: one canonical file, any caller environment -/
theorem fromFiles_printCanon (cur : Env) (m : Map) (h : Printable m) : fromFiles cur [printCanon m] [] = .ok m := by
  have hs : stripBOM (printCanon m) = printCanon m := by
    have := stripBOM_render false (m.map canonLine) (canon_WF m h.1)
    simpa [withBOM, printCanon] using this
  rw [fromFiles, hs, parse_printCanon m _ h]
  simp only [fromFiles]
  rw [mergeInto_nil m h.2]

/-- non-vacuity: a multi-line value with every special character, and its canonical text -/
example : Printable [(['A'], ['a', '\n', ' ', '#', '$', 'B', '"', '\\', '\'', ' ']), (['B', '.', 'c'], [])] := by
  refine ⟨by decide, by decide⟩
example : printCanon [(['A'], ['$', '"', '\\', '\n'])] =
    ['A', '=', '"', '$', '$', '\\', '"', '\\', '\\', '\n', '"', '\n'] := by decide +kernel
example : parse ['A', '=', '"', '$', '$', '\\', '"', '\\', '\\', '\n', '"', '\n'] (fun _ => some ['x']) =
    .ok [(['A'], ['$', '"', '\\', '\n'])] := by decide +kernel

end CV.Dotenv
