import ComposeVerif.Model.ResetLoop
import ComposeVerif.Props.C04
/-!
# C04 — one `ResetProcessor` per document: the loop as written is `loadDocs`; one processor for the whole file is not
-/
namespace CV.C04
open CV CV.Val CV.Merge CV.Unicity CV.Reset

theorem fresh_processor_is_loadDocs (post : Val → Out Val) : ∀ (docs : List YNode) (held : List TPath) (dict : Val),
    loadDocsP true post held dict docs = loadDocs post dict docs
  | [], _, _ => rfl
  | d :: r, held, dict => by
    simp only [loadDocsP, loadDocs, docStep_eq, procDecode, if_true, List.nil_append]
    exact Out.bind_congr fun dict' _ => fresh_processor_is_loadDocs post r _ dict'

private def doc1 : YNode := .map .none [("services", .map .none [("web", .map .none [("ports", .seq .none [.scalar .none (.str "8080:80")])])])]
private def doc2 : YNode := .map .none [("services", .map .none [("web", .map .none [("ports", .seq .override [.scalar .none (.str "9090:90")])])])]
private def doc3 : YNode := .map .none [("services", .map .none [("web", .map .none [("labels", .seq .none [.scalar .none (.str "a=b")])])])]

/-- one processor for the whole file: the path recorded for document 2's `!override` is applied again before document 3,
which deletes the ports document 2 installed — the code's loop keeps them -/
theorem hoisted_processor_reapplies_paths :
    loadDocsP true .ok [] (.map []) [doc1, doc2, doc3] =
      .ok (.map [("services", .map [("web", .map [("ports", .seq [.str "9090:90"]), ("labels", .seq [.str "a=b"])])])]) ∧
    loadDocsP false .ok [] (.map []) [doc1, doc2, doc3] =
      .ok (.map [("services", .map [("web", .map [("labels", .seq [.str "a=b"])])])]) := by
  decide +kernel

/-- the two loops differ only through the recorded paths: for documents that record none they coincide -/
theorem hoisted_processor_harmless_without_tags (post : Val → Out Val) : ∀ (docs : List YNode) (dict : Val),
    (∀ d ∈ docs, (readDoc d).2 = []) → loadDocsP false post [] dict docs = loadDocs post dict docs
  | [], _, _ => rfl
  | d :: r, dict, h => by
    have hd : (readDoc d).2 = [] := h d List.mem_cons_self
    simp only [loadDocsP, loadDocs, docStep_eq, procDecode, hd, List.append_nil, Bool.false_eq_true, if_false]
    exact Out.bind_congr fun dict' _ => hoisted_processor_harmless_without_tags post r dict' fun d' hd' =>
      h d' (List.mem_cons_of_mem _ hd')

end CV.C04
