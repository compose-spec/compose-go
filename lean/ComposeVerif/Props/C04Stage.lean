import ComposeVerif.Props.C04
import ComposeVerif.Lemmas.UnicityStage
/-!
# C04 — "a single entry per key" holds for the accumulated model after every document, whatever the stages in between do

`processRawYaml` calls `override.EnforceUnicity` twice: after the merge and again after schema validation,
canonicalisation and omit-empty ("Canonical transformation can reveal duplicates").  Those stages belong to other
properties and are the parameter `post` of the model; the theorems here hold for **every** `post`.
-/
namespace CV.C04
open CV CV.Val CV.Merge CV.Unicity CV.Reset

theorem enforce_seq_idem (ix : Indexer) (xs : List Val) (ks : List String) (p : TPath)
    (hp : indexerAt p = some ix) (hk : indexAll ix xs = .ok ks) :
    enforce (.seq (dedup ks xs)) p = .ok (.seq (dedup ks xs)) := by
  rw [enforce_indexed_seq p ix _ _ hp (indexAll_dedup ix xs ks hk)]
  unfold dedup
  rw [zip_fst_snd, unicity_idem]

mutual
/-- **`EnforceUnicity` is idempotent on whole trees**: a successful result is a fixed point -/
theorem enforce_idem : ∀ (v : Val) (p : TPath) (u : Val), enforce v p = .ok u → enforce u p = .ok u
  | .map kvs, p, u, h => by
    obtain ⟨m, hm, rfl⟩ := enforce_map_ok h
    simp only [enforce, enforceKVs_idem kvs p m hm, Out.bind]
  | .seq xs, p, u, h => by
    simp only [enforce] at h
    cases hp : indexerAt p with
    | none => rw [hp] at h; simp only [Out.ok.injEq] at h; subst h; simp only [enforce, hp]
    | some ix =>
      rw [hp] at h
      obtain ⟨ks, hk, h⟩ := bind_eq_ok h
      simp only [Out.ok.injEq] at h; subst h
      exact enforce_seq_idem ix xs ks p hp hk
  | .null, _, _, h | .bool _, _, _, h | .int _, _, _, h | .float _, _, _, h | .str _, _, _, h => by cases h; rfl
theorem enforceKVs_idem : ∀ (kvs : KVs) (p : TPath) (m : KVs), enforceKVs kvs p = .ok m → enforceKVs m p = .ok m
  | [], _, _, h => by cases h; rfl
  | (k, e) :: r, p, m, h => by
    obtain ⟨u, r', hu, hr, rfl⟩ := enforceKVs_cons_ok h
    simp only [enforceKVs, enforce_idem e (next p k) u hu, enforceKVs_idem r p r' hr, Out.bind]
end

theorem enforceTop_idem (v u : Val) (h : enforceTop v = .ok u) : enforceTop u = .ok u := by
  obtain ⟨kvs, m, rfl, hm, rfl⟩ := enforceTop_ok h
  simp only [enforceTop, enforce, enforceKVs_idem kvs _ m hm, Out.bind]

/-- **meaning of the fixed point**: a keyed list that `EnforceUnicity` leaves alone has pairwise distinct index keys —
"a single entry per key" -/
theorem fixpoint_seq_nodup (ix : Indexer) (xs : List Val) (p : TPath) (hp : indexerAt p = some ix)
    (h : enforce (.seq xs) p = .ok (.seq xs)) : ∃ ks, indexAll ix xs = .ok ks ∧ ks.Nodup := by
  simp only [enforce, hp] at h
  obtain ⟨ks, hk, h⟩ := bind_eq_ok h
  simp only [Out.ok.injEq, Val.seq.injEq] at h
  -- `h : dedup ks xs = xs`, and the entries `dedup` keeps carry the keys of the de-duplicated list: those are `ks`
  have hd := indexAll_dedup ix xs ks hk
  rw [h, hk] at hd
  exact ⟨ks, hk, Out.ok.inj hd ▸ unicity_nodup_keys (ks.zip xs)⟩

/-- after the per-document step (both `EnforceUnicity` calls, any stages in between) the accumulated model is a fixed
point of `EnforceUnicity` -/
theorem docStepU_deduplicated (post : Val → Out Val) (dict : Val) (doc : YNode) (r : Val)
    (h : docStepU post dict doc = .ok r) : enforceTop r = .ok r := by
  rw [docStepU, docStep_eq] at h
  obtain ⟨m, _, h⟩ := bind_eq_ok h
  obtain ⟨u, _, h⟩ := bind_eq_ok h
  obtain ⟨w, _, h⟩ := bind_eq_ok h
  exact enforceTop_idem w r h

theorem loadDocsU_deduplicated (post : Val → Out Val) (docs : List YNode) (dict r : Val)
    (hd : enforceTop dict = .ok dict) (h : loadDocsU post dict docs = .ok r) : enforceTop r = .ok r :=
  loadDocs_invariant (postU post) (fun v => enforceTop v = .ok v) docs dict r
    (fun d _ x x' _ => docStepU_deduplicated post x d x') hd h

/-- **whole fold**: however many files and `---` documents, and whatever the other stages do, the model the loader
accumulates holds a single entry per key in every keyed list (it is a fixed point of `EnforceUnicity`) -/
theorem loadFilesU_deduplicated (post : Val → Out Val) : ∀ (files : List (List YNode)) (dict r : Val),
    enforceTop dict = .ok dict → loadFilesU post dict files = .ok r → enforceTop r = .ok r := by
  intro files dict r hd h
  rw [loadFilesU, files_eq_documents] at h
  exact loadDocsU_deduplicated post _ dict r hd h

/-- the loader starts from the empty mapping, which is a fixed point -/
example : enforceTop (.map []) = .ok (.map []) := rfl

/-- with no stage between the two calls the second one changes nothing -/
theorem second_enforce_redundant_without_post (dict : Val) (doc : YNode) :
    docStepU .ok dict doc = docStep .ok dict doc := by
  rw [docStepU, docStep_eq, docStep_eq]
  refine Out.bind_congr fun m _ => ?_
  -- after a successful first `EnforceUnicity` the second one finds a fixed point
  show (enforceTop m).bind (fun v => (Out.ok v).bind enforceTop) = (enforceTop m).bind .ok
  exact Out.bind_congr fun u hu => enforceTop_idem m u hu

/-- the second call is needed: when the stages in between return a model with two entries under one key (here `post` is the
constant function returning such a model; in the loader canonicalisation can do it, expanding `"8080:80"` to the long form an
override already spelled), both entries stay unless `EnforceUnicity` runs again -/
theorem second_enforce_needed :
    let twice : Val := .map [("services", .map [("web", .map [("ports", .seq [
      .map [("target", .int 80), ("published", .str "8080")], .map [("target", .int 80), ("published", .str "8080"), ("mode", .str "host")]])])])]
    let once : Val := .map [("services", .map [("web", .map [("ports", .seq [
      .map [("target", .int 80), ("published", .str "8080"), ("mode", .str "host")]])])])]
    docStep (fun _ => .ok twice) (.map []) (.map .none []) = .ok twice ∧
    docStepU (fun _ => .ok twice) (.map []) (.map .none []) = .ok once := by
  decide +kernel

end CV.C04
