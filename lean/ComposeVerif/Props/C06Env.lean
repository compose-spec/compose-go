import ComposeVerif.Model.Include
import ComposeVerif.Props.C06
/-!
# C06 — the environment of the included project, down to the files (`dotenv.GetEnvFromFile`)

`Props/C06.lean` proves the environment clause of the property for *any* `GetEnvFromFile` (a world parameter).  Here the
loop of `dotenv.GetEnvFromFile` itself is the model (`getEnvLoop`, `Model/Include.lean`; file system and the parser of
one file are parameters), and the clause is closed:

  a variable of the included project = the parent's value if the parent defines it, else the value given by the **last**
  declared `env_file` (or the project directory's `.env`) that defines it; every file is parsed with a lookup that asks the
  parent environment first, then the files before it; a missing file / a directory / an unreadable file is an error.
-/
namespace CV.Include
open CV

theorem envSet_get (k v : String) (m : Env) (x : String) :
    Env.get (envSet k v m) x = if x = k then some v else Env.get m x := by
  rw [Env.get_eq, envSet_eq, Env.get_eq]; exact Assoc.lookup_insert

/-- the value the *last* entry for `x` gives (a Go map has one entry per key; a list may repeat it) -/
def Env.getLast : Env → String → Option String
  | [], _ => none
  | (k, v) :: r, x =>
    match Env.getLast r x with
    | some w => some w
    | none => if x = k then some v else none

/-- `for k, v := range env { envMap[k] = v }`: the file's variables replace, the others stay -/
theorem envOverride_get (acc env : Env) (x : String) :
    Env.get (envOverride acc env) x = match Env.getLast env x with
      | some w => some w
      | none => Env.get acc x := by
  simp only [envOverride]
  induction env generalizing acc with
  | nil => simp only [List.foldl_nil, Env.getLast]
  | cons p r ih =>
    obtain ⟨k, v⟩ := p
    simp only [List.foldl_cons, Env.getLast]
    rw [ih, envSet_get]
    cases Env.getLast r x with
    | some w => rfl
    | none =>
      by_cases hx : x = k
      · simp only [hx, if_true]
      · simp only [hx, if_false]

variable {C : Type}

/-- no file: the empty map, no access to the file system -/
theorem getEnvFromFile_nil (E : EnvWorld C) (cur : Env) : getEnvFromFile E cur [] = .ok [] := rfl

/-- one step of the loop: it goes on, or it is an error, or `read` / `parse` panicked (`all ≠ []`: inside the loop
`filenames` is not empty, so the `len(filenames) == 0` escape for a directory is dead code) -/
theorem getEnvLoop_step (E : EnvWorld C) (cur : Env) (all rest : List String) (f : String) (acc : Env) (hall : all ≠ []) :
    (∃ c env, E.stat (E.abs f) = .file ∧ E.read (E.abs f) = .ok c ∧ E.parse c (envLookup cur acc) = .ok env ∧
        getEnvLoop E cur all (f :: rest) acc = getEnvLoop E cur all rest (envOverride acc env)) ∨
    (∃ e, getEnvLoop E cur all (f :: rest) acc = .err e) ∨
    (∃ s, getEnvLoop E cur all (f :: rest) acc = .panic s ∧
        (E.read (E.abs f) = .panic s ∨ ∃ c, E.parse c (envLookup cur acc) = .panic s)) := by
  have hlen : ¬ all.length = 0 := fun e => hall (List.eq_nil_of_length_eq_zero e)
  rw [getEnvLoop]
  cases hs : E.stat (E.abs f) with
  | missing => exact .inr (.inl ⟨_, rfl⟩)
  | other => exact .inr (.inl ⟨_, rfl⟩)
  | dir => exact .inr (.inl ⟨_, if_neg hlen⟩)
  | file =>
    cases hr : E.read (E.abs f) with
    | err e => exact .inr (.inl ⟨_, rfl⟩)
    | panic s => exact .inr (.inr ⟨s, rfl, .inl rfl⟩)
    | ok c =>
      cases hp : E.parse c (envLookup cur acc) with
      | err e => exact .inr (.inl ⟨e, by simp only [hp]⟩)
      | panic s => exact .inr (.inr ⟨s, by simp only [hp], .inr ⟨c, hp⟩⟩)
      | ok env => exact .inl ⟨c, env, rfl, rfl, hp, by simp only [hp]⟩

/-- the lookup handed to the parser of every file asks the *current* (parent) environment first … -/
theorem envLookup_parent_first (cur acc : Env) (k v : String) (h : Env.get cur k = some v) :
    envLookup cur acc k = some v := by
  simp only [envLookup, h]

/-- … and only then the variables of the files read before -/
theorem envLookup_then_earlier_files (cur acc : Env) (k : String) (h : Env.get cur k = none) :
    envLookup cur acc k = Env.get acc k := by
  simp only [envLookup, h]

/-- `Parsed E cur files acc es r`: every file of `files` is a regular readable file whose parse — with the lookup
"parent first, then the files before" — is the corresponding element of `es`, and `r` accumulates them onto `acc` -/
inductive Parsed (E : EnvWorld C) (cur : Env) : List String → Env → List Env → Env → Prop
  | nil (acc : Env) : Parsed E cur [] acc [] acc
  | cons {f rest acc c env es r} :
      E.stat (E.abs f) = .file → E.read (E.abs f) = .ok c → E.parse c (envLookup cur acc) = .ok env →
      Parsed E cur rest (envOverride acc env) es r → Parsed E cur (f :: rest) acc (env :: es) r

/-- `hall`: `files` is what is left of `all`, so while a file is left `all` is not empty (with `files = all` it is `id`) -/
theorem getEnvLoop_ok_iff (E : EnvWorld C) (cur : Env) (all files : List String) (acc r : Env)
    (hall : files ≠ [] → all ≠ []) :
    getEnvLoop E cur all files acc = .ok r ↔ ∃ es, Parsed E cur files acc es r := by
  induction files generalizing acc with
  | nil =>
    simp only [getEnvLoop]
    constructor
    · intro h; cases h; exact ⟨[], .nil _⟩
    · rintro ⟨es, h⟩; cases h; rfl
  | cons f rest ih =>
    have hall := hall (List.cons_ne_nil _ _)
    constructor
    · intro h
      rcases getEnvLoop_step E cur all rest f acc hall with ⟨c, env, hs, hr, hp, he⟩ | ⟨e, he⟩ | ⟨s, he, _⟩
      · obtain ⟨es, hes⟩ := (ih _ fun _ => hall).mp (he ▸ h)
        exact ⟨env :: es, .cons hs hr hp hes⟩
      · rw [he] at h; cases h
      · rw [he] at h; cases h
    · rintro ⟨es, h⟩
      cases h with
      | cons hs hr hp hrest =>
        simp only [getEnvLoop, hs, hr, hp]
        exact (ih _ fun _ => hall).mpr ⟨_, hrest⟩

/-- **GetEnvFromFile succeeds ⇔ every declared file is a regular, readable file that parses** (in order, each with
the lookup "parent environment first, then the earlier files") -/
theorem getEnvFromFile_ok_iff (E : EnvWorld C) (cur : Env) (files : List String) (r : Env) :
    getEnvFromFile E cur files = .ok r ↔ ∃ es, Parsed E cur files [] es r :=
  getEnvLoop_ok_iff E cur files files [] r id

/-- the value the last of the parsed files defining `x` gives -/
def lastDefined : List Env → String → Option String
  | [], _ => none
  | e :: es, x =>
    match lastDefined es x with
    | some w => some w
    | none => Env.getLast e x

theorem parsed_get {E : EnvWorld C} {cur : Env} {files : List String} {acc r : Env} {es : List Env}
    (h : Parsed E cur files acc es r) (x : String) :
    Env.get r x = match lastDefined es x with
      | some w => some w
      | none => Env.get acc x := by
  induction h with
  | nil acc => simp only [lastDefined]
  | cons hs hr hp _ ih =>
    rw [ih, envOverride_get]
    simp only [lastDefined]
    split <;> rfl

theorem parsed_all_files {E : EnvWorld C} {cur : Env} {files : List String} {acc r : Env} {es : List Env}
    (h : Parsed E cur files acc es r) : ∀ f ∈ files, E.stat (E.abs f) = .file := by
  induction h with
  | nil acc => intro f hf; cases hf
  | cons hs _ _ _ ih =>
    intro g hg
    rcases List.mem_cons.mp hg with rfl | hg
    · exact hs
    · exact ih g hg

/-- **closed form of `GetEnvFromFile`**: on success, `result[x]` = the value given by the last file that defines `x` -/
theorem getEnvFromFile_last_wins (E : EnvWorld C) (cur : Env) (files : List String) (r : Env)
    (h : getEnvFromFile E cur files = .ok r) :
    ∃ es, Parsed E cur files [] es r ∧ ∀ x, Env.get r x = lastDefined es x := by
  obtain ⟨es, hes⟩ := (getEnvFromFile_ok_iff E cur files r).mp h
  refine ⟨es, hes, fun x => ?_⟩
  rw [parsed_get hes x]
  cases lastDefined es x <;> rfl

/-- a declared file that does not exist, is a directory or cannot be stat'ed makes the call fail -/
theorem getEnvFromFile_not_regular_fails (E : EnvWorld C) (cur : Env) (files : List String) (f : String)
    (hf : f ∈ files) (hs : E.stat (E.abs f) ≠ .file) : ∀ r, getEnvFromFile E cur files ≠ .ok r := by
  intro r h
  obtain ⟨es, hes⟩ := (getEnvFromFile_ok_iff E cur files r).mp h
  exact hs (parsed_all_files hes f hf)

/-- the first file decides the class of the failure: missing / directory -/
theorem getEnvFromFile_first_missing (E : EnvWorld C) (cur : Env) (f : String) (rest : List String)
    (hs : E.stat (E.abs f) = .missing) : getEnvFromFile E cur (f :: rest) = .err "envNotFound" := by
  simp only [getEnvFromFile, getEnvLoop, hs]

theorem getEnvFromFile_first_dir (E : EnvWorld C) (cur : Env) (f : String) (rest : List String)
    (hs : E.stat (E.abs f) = .dir) : getEnvFromFile E cur (f :: rest) = .err "isDir" := by
  simp only [getEnvFromFile, getEnvLoop, hs, List.length_cons]
  rfl

theorem getEnvLoop_noPanic (E : EnvWorld C) (cur : Env) (all files : List String) (acc : Env) (hall : files ≠ [] → all ≠ [])
    (hread : ∀ p s, E.read p ≠ .panic s) (hparse : ∀ c lk s, E.parse c lk ≠ .panic s) :
    NoPanic (getEnvLoop E cur all files acc) := by
  induction files generalizing acc with
  | nil => intro s h; cases h
  | cons f rest ih =>
    intro s h
    have hall := hall (List.cons_ne_nil _ _)
    rcases getEnvLoop_step E cur all rest f acc hall with ⟨_, env, _, _, _, he⟩ | ⟨e, he⟩ | ⟨s', he, hp⟩
    · exact ih _ (fun _ => hall) s (he ▸ h)
    · rw [he] at h; cases h
    · rcases hp with hp | ⟨c, hp⟩
      · exact hread _ _ hp
      · exact hparse _ _ _ hp

theorem getEnvFromFile_noPanic (E : EnvWorld C) (cur : Env) (files : List String)
    (hread : ∀ p s, E.read p ≠ .panic s) (hparse : ∀ c lk s, E.parse c lk ≠ .panic s) :
    ∀ s, getEnvFromFile E cur files ≠ .panic s :=
  getEnvLoop_noPanic E cur files files [] id hread hparse

/-- in a world whose `GetEnvFromFile` is the modelled loop, the environment `env'` the
included project is interpolated with gives every variable the parent's value if the parent defines it, and
otherwise the value of the last of the entry's env files (declared `env_file`s joined to the including project's
directory, or `<project directory>/.env` when none is declared and that file exists) that defines it — each of those
files having been parsed with the lookup "parent first, then the files before" -/
theorem include_env_closed_form (W : World) (E : EnvWorld C) (hW : W.envFromFile = getEnvFromFile E)
    (wd pd : String) (env env' : Env) (ef : List String) (h : includeEnv W wd pd env ef = .ok env') :
    ∃ efs fromFile es, envFiles W wd pd ef = .ok efs ∧ Parsed E env efs [] es fromFile ∧
      ∀ x, Env.get env' x = match Env.get env x with
        | some v => some v
        | none => lastDefined es x := by
  obtain ⟨efs, ff, h1, h2, hp, hn⟩ := include_env_precedence W wd pd env env' ef h
  rw [hW] at h2
  obtain ⟨es, hes, hget⟩ := getEnvFromFile_last_wins E env efs ff h2
  refine ⟨efs, ff, es, h1, hes, fun x => ?_⟩
  cases hx : Env.get env x with
  | some v => exact hp x v hx
  | none => rw [hn x hx, hget x]

/-- nested includes compose, environment clause: the project included at depth 2 is
interpolated with `env2`, computed from the depth-1 project's environment `env1`, itself computed from the root
environment `env`.  Every variable has the root's value if the root defines it, else the value of the last env file of
the depth-1 entry that defines it, else the value of the last env file of the depth-2 entry that defines it -/
theorem include_env_nested (W1 W2 : World) (E : EnvWorld C)
    (h1W : W1.envFromFile = getEnvFromFile E) (h2W : W2.envFromFile = getEnvFromFile E)
    (wd1 pd1 wd2 pd2 : String) (env env1 env2 : Env) (ef1 ef2 : List String)
    (h1 : includeEnv W1 wd1 pd1 env ef1 = .ok env1) (h2 : includeEnv W2 wd2 pd2 env1 ef2 = .ok env2) :
    ∃ efs1 ff1 es1 efs2 ff2 es2, Parsed E env efs1 [] es1 ff1 ∧ Parsed E env1 efs2 [] es2 ff2 ∧
      ∀ x, Env.get env2 x = match Env.get env x with
        | some v => some v
        | none => match lastDefined es1 x with
          | some w => some w
          | none => lastDefined es2 x := by
  obtain ⟨efs1, ff1, es1, _, hp1, hg1⟩ := include_env_closed_form W1 E h1W wd1 pd1 env env1 ef1 h1
  obtain ⟨efs2, ff2, es2, _, hp2, hg2⟩ := include_env_closed_form W2 E h2W wd2 pd2 env1 env2 ef2 h2
  refine ⟨efs1, ff1, es1, efs2, ff2, es2, hp1, hp2, fun x => ?_⟩
  rw [hg2 x, hg1 x]
  cases Env.get env x with
  | some v => rfl
  | none =>
    cases lastDefined es1 x with
    | some w => rfl
    | none => rfl

/-- non-vacuity: parent `V=p`; `a.env` gives `V=a, W=a`; `b.env` gives `W=b` — the project sees `V=p` (parent), `W=b`
(last file), and `b.env` was parsed while `W=a` was visible -/
example :
    let E : EnvWorld (List (String × String)) :=
      { abs := fun p => "/" ++ p, stat := fun p => if p = "/a.env" ∨ p = "/b.env" then .file else .missing,
        read := fun p => if p = "/a.env" then .ok [("V", "a"), ("W", "a")] else .ok [("W", "b")],
        parse := fun c _ => .ok c }
    (getEnvFromFile E [("V", "p")] ["a.env", "b.env"]).bind (fun ff => .ok (envMerge [("V", "p")] ff))
      = .ok [("V", "p"), ("W", "b")] ∧
    getEnvFromFile E [] ["a.env", "nope.env"] = .err "envNotFound" := by decide +kernel

end CV.Include
