import ComposeVerif.Lemmas.DecodeF
import ComposeVerif.Spec.SchemaKeys
import ComposeVerif.Gen.Types
import ComposeVerif.Gen.Schema
/-!
# C09 — everything the kernel evaluates over the regenerated descriptors, in one evaluation

The other `Props/C09*.lean` modules prove theorems about any descriptor environment; what they need to know about the
regenerated one (`Gen/Types.lean`, `Gen/Schema.lean`) is a finite fact, and kernel evaluation is its proof.  All those
facts are one conjunction, `tables`, evaluated once: materialising a string literal costs the kernel about two thousand
steps per character and it does so once per declaration, and the lookups `findStruct Gen.structs n`, the closure
`modelTypes …` and the walk `fieldPaths …` are shared between the conjuncts.  The groups are named (`DescriptorTables`, …)
and projected (`descriptor_tables`, …) for the module that uses them.  Re-run whenever `types/*.go` or
`schema/compose-spec.json` changes.
-/
namespace CV.C09
open CV CV.TypeDesc CV.Marshal CV.Encode CV.Decode CV.Generic CV.GenericF CV.RoundTrip CV.SchemaKeys

def genEnv : Env := { structs := Gen.structs, named := Gen.namedTypes, customs := Gen.customMethods }

/-- underlying type expressions of the named types that are decoded by hand and rendered by the default encoders -/
def defaultLeafTypes : List (String × TyExpr) :=
  [("DeviceCount", .prim "int64"), ("NanoCPUs", .prim "float32"),
   ("ShellCommand", .slice (.prim "string")),      -- hand-written `MarshalYAML` only: JSON renders the slice
   ("HealthCheckTest", .slice (.prim "string")), ("StringList", .slice (.prim "string")),
   ("StringOrNumberList", .slice (.prim "string")),
   ("Mapping", .map (.prim "string")), ("Labels", .map (.prim "string")), ("Options", .map (.prim "string")),
   ("MappingWithEquals", .map (.ptr (.prim "string")))]

def leafEnvB (env : Env) : Bool :=
  defaultLeafTypes.all fun p => (findStruct env.structs p.1).isNone && (findNamed env.named p.1 == some p.2)

def allLeafNames : List String :=
  ["UnitBytes", "Duration", "DeviceCount", "ShellCommand", "HealthCheckTest", "StringList", "StringOrNumberList",
   "Mapping", "Labels", "Options", "MappingWithEquals", "HostsList", "NanoCPUs", "UlimitsConfig"]

/-- in scope of `generic_roundtrip_all_leaves`, both renderings: 55 of the 67 model types -/
def coveredModelTypes : List String :=
  ["Networks", "Volumes", "NetworkConfig", "VolumeConfig", "Mapping", "DevelopConfig", "BlkioConfig", "ShellCommand",
   "ServiceConfigObjConfig", "CredentialSpecConfig", "DependsOnConfig", "DeployConfig", "DeviceMapping", "StringList",
   "MappingWithEquals", "StringOrNumberList", "ExtendsConfig", "HostsList", "DeviceRequest", "HealthCheckConfig",
   "Labels", "LoggingConfig", "UnitBytes", "ServiceNetworkConfig", "ServicePortConfig", "ServiceSecretConfig",
   "Duration", "UlimitsConfig", "ServiceVolumeConfig", "ServiceHook", "Options", "IPAMConfig", "External",
   "FileObjectConfig", "Trigger", "WeightDevice", "ThrottleDevice", "FileReferenceConfig", "ServiceDependency",
   "UpdateConfig", "Resources", "RestartPolicy", "Placement", "DeviceCount", "HealthCheckTest", "ServiceVolumeBind",
   "ServiceVolumeVolume", "ServiceVolumeTmpfs", "IPAMPool", "WatchAction", "Resource", "PlacementPreferences",
   "NanoCPUs", "GenericResource", "DiscreteGenericResource"]

/-- outside: the four types whose marshaller pre-processes the value (`Project`, `ServiceConfig`, `SecretConfig`,
    `ConfigObjConfig`: name / content cleared, restored by later reload stages), the two decoded after a canonicalisation
    step of their own (`EnvFile`, `SSHKey`/`SSHConfig`: `transform.Canonical`), the raw extension map, and what contains them -/
def uncoveredModelTypes : List String :=
  ["Project", "Services", "Secrets", "Configs", "Extensions", "ServiceConfig", "SecretConfig", "ConfigObjConfig",
   "BuildConfig", "EnvFile", "SSHConfig", "SSHKey"]

def svcVals (fd : FieldDesc) : Val :=
  if fd.goName = "Image" then .str "nginx" else if fd.goName = "Command" then .seq [.str "nginx", .str "-g"]
  else if fd.goName = "Entrypoint" then .seq [] else zeroVal genEnv 15 fd.ty

def svcSpecial (fd : FieldDesc) : Bool := fd.goName == "Image" || fd.goName == "Command" || fd.goName == "Entrypoint"

def isEmptyStr : Val → Bool
  | .str s => s == ""
  | _ => false

/-- distinct Go names and keys within every struct (byte sizes compared before strings: `nodupS`), then the obligations
    about the closure `modelTypes …` -/
abbrev DescriptorTables : Prop :=
  (Gen.structs.all fun s =>
    nodupS ((s.fields.filter rendered).map (·.goName)) && nodupS (renderedYamlKeys s) && nodupS (renderedJsonKeys s)) = true ∧
  (TagsConsistent Gen.structs (modelTypes Gen.structs Gen.namedTypes) &&
   Closed Gen.structs Gen.namedTypes (modelTypes Gen.structs Gen.namedTypes) &&
   OmitAgrees Gen.structs Gen.customMethods (modelTypes Gen.structs Gen.namedTypes) &&
   (customTypes Gen.customMethods (modelTypes Gen.structs Gen.namedTypes) == modelledCustoms)) = true

/-- the scope of the generic theorems without leaves (YAML: `Generic.plainB`; JSON) and with byte sizes and durations -/
abbrev ScopeTables : Prop :=
  (["CredentialSpecConfig", "DeviceMapping", "DiscreteGenericResource", "ExtendsConfig", "FileReferenceConfig",
    "ServiceSecretConfig", "ServiceConfigObjConfig", "GenericResource", "Placement", "PlacementPreferences",
    "ServiceDependency", "DependsOnConfig", "ServicePortConfig", "ServiceVolumeBind", "ServiceVolumeVolume", "WeightDevice"].all
    fun n => Generic.plainB genEnv 12 (.named n) && plainS genEnv .json [] 12 (.named n)) = true ∧
  (["ServiceVolumeTmpfs", "ThrottleDevice", "UpdateConfig", "RestartPolicy"].all fun n =>
    plainS genEnv .yaml ["UnitBytes", "Duration"] 12 (.named n) &&
    plainS genEnv .json ["UnitBytes", "Duration"] 12 (.named n)) = true

/-- the default-encoded leaves are declared as the source declares them; the covered types are in scope over all leaves,
    the uncovered ones are not, and the two lists partition the model types (last: the scope fact of the non-vacuity example) -/
abbrev LeavesTables : Prop :=
  leafEnvB genEnv = true ∧
  (coveredModelTypes.all fun n =>
    plainS genEnv .yaml allLeafNames 14 (.named n) && plainS genEnv .json allLeafNames 14 (.named n)) = true ∧
  (((modelTypes Gen.structs Gen.namedTypes).all fun n => coveredModelTypes.contains n != uncoveredModelTypes.contains n) = true
  ∧ ((coveredModelTypes ++ uncoveredModelTypes).all fun n => (modelTypes Gen.structs Gen.namedTypes).contains n) = true) ∧
  (uncoveredModelTypes.all fun n => !plainS genEnv .yaml allLeafNames 14 (.named n)) = true ∧
  (plainS genEnv .yaml allLeafNames 6 (.named "LoggingConfig") && plainS genEnv .json allLeafNames 6 (.named "LoggingConfig")) = true

/-- the scope of builds, services and the services mapping; and, field by field of `ServiceConfig`, that the minimal
    service leaves `Name` empty and the extension map nil, renders the three fields it sets, and leaves every other field
    at its zero value, which `omitempty` drops -/
abbrev ServicesTables : Prop :=
  ([Fmt.yaml, Fmt.json].all fun fmt =>
    plainS genEnv fmt (allLeafNames ++ ["EnvFile", "SSHConfig"]) 16 (.named "BuildConfig") &&
    plainS genEnv fmt (allLeafNames ++ ["EnvFile", "SSHConfig"]) 16 (.named "ServiceConfig") &&
    plainS genEnv fmt (allLeafNames ++ ["EnvFile", "SSHConfig"]) 17 (.named "Services")) = true ∧
  (Gen.struct_ServiceConfig.fields.all fun fd =>
    (fd.goName != "Name" || isEmptyStr (svcVals fd)) &&
    (if fd.yamlInline then isNull (svcVals fd)
     else if svcSpecial fd then
       !omittedF genEnv .yaml fd (svcVals fd) && fd.ty == (if fd.goName == "Image" then .prim "string" else .named "ShellCommand")
     else !rendered fd || omittedF genEnv .yaml fd (svcVals fd))) = true

/-- `SecretConfig` / `ConfigObjConfig` are named types over the struct `FileObjectConfig`, decoded generically -/
abbrev FileObjectTables : Prop :=
  (findStruct genEnv.structs "FileObjectConfig").isSome = true ∧
  ∀ n ∈ ["SecretConfig", "ConfigObjConfig"], hasMethod genEnv n "DecodeMapstructure" = false ∧
    findStruct genEnv.structs n = none ∧ findNamed genEnv.named n = some (.named "FileObjectConfig")

/-- both schema obligations (`KeysAccepted`, `GapsOmitted`) and the two non-vacuity instances over one walk of the model
    types (`fieldPaths`); each disjunction with the test that nearly every place passes first, so that the twelve gap
    prefixes are compared only at the places the schema does not accept -/
abbrev SchemaTables : Prop :=
  ((fieldPaths Gen.structs Gen.namedTypes).all fun p =>
    (accepted Gen.composeSchema p.1 || underGap p.1) && (p.2.2 || !knownGaps.contains p.1)) = true ∧
  ((fieldPaths Gen.structs Gen.namedTypes).map (·.1)).contains
    ["services", "*", "blkio_config", "weight_device", "[]", "path"] = true ∧
  accepted Gen.composeSchema ["services", "*", "blkio_config", "weight_device", "[]", "path"] = true

theorem tables :
    DescriptorTables ∧ ScopeTables ∧ LeavesTables ∧ ServicesTables ∧ FileObjectTables ∧ SchemaTables := by
  decide +kernel

theorem descriptor_tables : DescriptorTables := tables.1
theorem scope_tables : ScopeTables := tables.2.1
theorem leaves_tables : LeavesTables := tables.2.2.1
theorem services_tables : ServicesTables := tables.2.2.2.1
theorem fileObject_decls : FileObjectTables := tables.2.2.2.2.1
theorem schema_facts : SchemaTables := tables.2.2.2.2.2

theorem structs_nodup (s : StructDesc) (hs : s ∈ Gen.structs) :
    ((s.fields.filter rendered).map (·.goName)).Nodup ∧ (renderedYamlKeys s).Nodup ∧ (renderedJsonKeys s).Nodup := by
  have h := List.all_eq_true.mp descriptor_tables.1 s hs
  simp only [Bool.and_eq_true] at h
  exact ⟨nodupS_nodup _ h.1.1, nodupS_nodup _ h.1.2, nodupS_nodup _ h.2⟩

theorem plainB_gen (fmt : Fmt) (lv : List String) (f : Nat) (ty : TyExpr) :
    GenericF.plainB genEnv fmt lv f ty = plainS genEnv fmt lv f ty := by
  refine plainB_eq_plainS genEnv fmt lv (fun s hs => ⟨(structs_nodup s hs).1, ?_⟩) f ty
  cases fmt
  · rw [← renderedYamlKeys_eq]; exact (structs_nodup s hs).2.1
  · rw [← renderedJsonKeys_eq]; exact (structs_nodup s hs).2.2

end CV.C09
