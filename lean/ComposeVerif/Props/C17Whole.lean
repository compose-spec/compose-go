import ComposeVerif.Props.C11Whole
import ComposeVerif.Props.C17Options
/-!
# C17 — the name decision inside the composed pipeline

`Model/Pipeline.lean` (the composition of the stage models in the loader's order) ends in `finishLoad`:
empty model → error, **empty project name → error**, then `dict["name"] = projectName; Normalize`.  Here the clauses of
the property that speak about the whole load are stated about `Pipeline.load` / `Pipeline.loadY`, and composed with the
decision of `loadX` (cli options → `withNamePrecedenceLoad` → `loader.projectName`).
-/
namespace CV.Name
open CV CV.Val CV.Pipeline

/-- **a successful load always has a non-empty name** — at the whole pipeline: with `opts.projectName = ""` no list of
    documents loads -/
theorem pipeline_empty_name_is_error (c : Cfg) (h : c.projectName = "") (docs : List KVs) (d : KVs) :
    Pipeline.load c docs ≠ .ok d := by
  intro hh
  obtain ⟨m, _, hf⟩ := load_ok c docs d hh
  exact (Pipeline.finishLoad_ok c m d hf).1 h

/-- the same for files given as YAML text -/
theorem pipelineY_empty_name_is_error (c : Cfg) (h : c.projectName = "") (files : List (List Reset.YNode)) (d : KVs) :
    Pipeline.loadY c files ≠ .ok d := by
  intro hh
  obtain ⟨m, _, hf⟩ := loadY_ok c files d hh
  exact (Pipeline.finishLoad_ok c m d hf).1 h

/-- **the `name:` of the files never reaches `Normalize`**: whatever value `x` the merged model carries under `name`
    (the `name:` of a compose file that lost against an imperative name, say), the tail of the load is the same as
    without it — the decided name overwrites it first. -/
theorem finishLoad_ignores_file_name (c : Cfg) (x : Val) (dict : KVs) (hne : dict.isEmpty = false)
    (hnorm : c.opts.skipNormalization = false) :
    finishLoad c (Val.insert "name" x dict) = finishLoad c dict :=
  C11.Whole.finishLoad_file_name_irrelevant c hnorm dict (by rintro rfl; cases hne) x

/-- **composition with the decision**: configure the pipeline with the name the cli + `loader.projectName` decided
    (`loadX`, any option sequence, either position of the interpolation switch).  Then that name is the one
    `Spec.decide` selects from the four sources, it is valid and non-empty — the pipeline's name test passes — and a
    successful tail of the load carries it under `name` and names the volumes / configs / secrets after it -/
theorem decided_name_passes_pipeline (w : World) (o : PO) (skip : Bool) (r : Loaded) (h : loadX w o skip = .ok r)
    (c : Cfg) (hc : c.projectName = String.ofList r.name) (hnorm : c.opts.skipNormalization = false) :
    (∃ files, readConfigs w o.configs = .ok files ∧ Spec.decide (sourcesOfX w o files skip) = .name r.name) ∧
    validName r.name = true ∧ c.projectName ≠ "" ∧
    ∀ dict d, finishLoad c dict = .ok d →
      lookup "name" d = some (.str (String.ofList r.name)) ∧
      ∀ s, s = "volumes" ∨ s = "configs" ∨ s = "secrets" →
        lookup s d = (lookup s dict).map (C11.nameSectionV (some (.str (String.ofList r.name)))) := by
  obtain ⟨files, _, hf, hd⟩ := name_decision_any_interpolation w o skip r h
  have hv : validName r.name = true ∧ r.name ≠ [] := by
    obtain ⟨_, _, _, h⟩ := loadX_ok_inv w o skip r h
    exact loader_entry_name_valid _ _ _ _ r h
  refine ⟨⟨files, hf, hd⟩, hv.1, ?_, ?_⟩
  · rw [hc]
    intro he
    have : (String.ofList r.name).toList = "".toList := by rw [he]
    simp only [String.toList_ofList] at this
    exact hv.2 this
  · intro dict d hfin
    rw [← hc]
    exact ⟨C11.Whole.finishLoad_name c hnorm dict d hfin, C11.Whole.finishLoad_resource_names c hnorm dict d hfin⟩

/-! C11's naming rule on one unnamed volume: the name it builds starts with the project name it is given -/
example : C11.nameSectionV (some (.str "cli")) (.map [("v", .null)]) = .map [("v", .map [("name", .str "cli_v")])] := by rfl

end CV.Name
