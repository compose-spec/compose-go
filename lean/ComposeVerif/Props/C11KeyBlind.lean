import ComposeVerif.Model.C11Pipeline
import ComposeVerif.Lemmas.C11Walk
import ComposeVerif.Lemmas.Path
/-!
# C11 — the defaults do not depend on the *name* of a service

Service keys are user defined: `a`, `web.1`, `x-ray` (a key that looks like an extension) are all services, and the
property quantifies over all of them.  The walker of `transform.SetDefaultValues` decides by `tree.Path.Matches`
alone, and every row of the regenerated table `defaultValues` has `*` at the position of the service key — so two
services with the same attributes get the same defaults whatever they are called.
-/
namespace CV.C11
open CV CV.Val

/-- two paths that differ at most in their second part (under `services`: the service key) -/
def SameButKey (p q : TPath) : Prop := ∃ a x y r, p = a :: x :: r ∧ q = a :: y :: r

/-- every pattern that has a second part has `*` there: `tbl.all (TPath.secondAny ·.1)` (Lemmas/Path.lean) with the test spelt
`==`; the two unfold to the same term, which is how the lemmas below hand `hs` to `TPath.…_second_irrelevant` -/
def starAtKey (tbl : List (List String × String)) : Bool :=
  tbl.all fun row => match row.1 with
    | _ :: b :: _ => b == "*"
    | _ => true

theorem defaultValues_star_at_key : starAtKey CV.Gen.defaultValues = true := by decide +kernel

theorem pmatch_sameButKey {pat : List String} {p q : TPath}
    (hs : (match pat with | _ :: b :: _ => b == "*" | _ => true) = true) (h : SameButKey p q) :
    TPath.pmatch pat p = TPath.pmatch pat q := by
  obtain ⟨a, x, y, r, rfl, rfl⟩ := h
  exact TPath.pmatch_second_irrelevant hs a x y r

theorem firstMatch_sameButKey {tbl : List (List String × String)} {p q : TPath}
    (hs : starAtKey tbl = true) (h : SameButKey p q) : TPath.firstMatch tbl p = TPath.firstMatch tbl q := by
  obtain ⟨a, x, y, r, rfl, rfl⟩ := h
  exact TPath.firstMatch_second_irrelevant (fun e he => List.all_eq_true.mp hs e he) a x y r

theorem next_sameButKey {p q : TPath} (h : SameButKey p q) (k : String) : SameButKey (p.next k) (q.next k) := by
  obtain ⟨a, x, y, r, rfl, rfl⟩ := h
  refine ⟨a, x, y, r ++ [k.replace "." TPath.ghost], ?_, ?_⟩ <;> simp [TPath.next, TPath.root]

/-- **the walker is blind to the second part of the path** (the service key), for every document -/
theorem setDefaults_keyBlind (tbl : List (List String × String)) (hs : starAtKey tbl = true) :
    ∀ (v : Val) (p q : TPath), SameButKey p q → setDefaults tbl p v = setDefaults tbl q v := by
  intro v p
  induction p, v using setDefaults_induct tbl with
  | handler p h hm e v => intro q hq; rw [e, setDefaults_eq tbl q, ← firstMatch_sameButKey hs hq, hm]
  | map p kvs hm e ih =>
    intro q hq
    rw [e, setDefaults_eq tbl q, ← firstMatch_sameButKey hs hq, hm, descend, descend,
      mapMKVs_congr (g' := fun k => setDefaults tbl (q.next k)) fun kv hkv => ih kv hkv _ (next_sameButKey hq kv.1)]
  | seq p xs hm e ih =>
    intro q hq
    rw [e, setDefaults_eq tbl q, ← firstMatch_sameButKey hs hq, hm, descend, descend,
      Out.mapM_congr (g := setDefaults tbl (q.next "[]")) fun x hx => ih x hx _ (next_sameButKey hq "[]")]
  | leaf p v hm e hl =>
    intro q hq
    rw [e, setDefaults_eq tbl q, ← firstMatch_sameButKey hs hq, hm, hl, hl]

theorem setDefaultsKVs_keyBlind (tbl : List (List String × String)) (hs : starAtKey tbl = true)
    (kvs : List (String × Val)) (p q : TPath) (h : SameButKey p q) :
    setDefaultsKVs tbl p kvs = setDefaultsKVs tbl q kvs := by
  rw [setDefaultsKVs_eq_mapM, setDefaultsKVs_eq_mapM]
  exact mapMKVs_congr fun kv _ => setDefaults_keyBlind tbl hs kv.2 _ _ (next_sameButKey h kv.1)

theorem setDefaultsList_keyBlind (tbl : List (List String × String)) (hs : starAtKey tbl = true) :
    ∀ (xs : List Val) (p q : TPath), SameButKey p q → setDefaultsList tbl p xs = setDefaultsList tbl q xs := by
  intro xs p q h
  rw [setDefaultsList_eq_mapM, setDefaultsList_eq_mapM]
  exact Out.mapM_congr fun x _ => setDefaults_keyBlind tbl hs x _ _ (next_sameButKey h "[]")

/-- **`SetDefaultValues` treats `services.<x>` and `services.<y>` alike**: same attributes, same defaults, same
errors — `x-ray` is a service like `a` -/
theorem walker_blind_to_service_key (x y : String) (rest : List String) (v : Val) :
    setDefaults CV.Gen.defaultValues ("services" :: x :: rest) v =
      setDefaults CV.Gen.defaultValues ("services" :: y :: rest) v :=
  setDefaults_keyBlind _ defaultValues_star_at_key v _ _ ⟨"services", x, y, rest, rfl, rfl⟩

/-- **renaming a service** in the `services` mapping renames it in the result of `SetDefaultValues` and changes nothing
else: the first entry stored under `x` or under `y` comes out with the same value, the rest of the mapping the same -/
theorem services_entry_key_irrelevant (x y : String) (v v' : Val) (r r' : List (String × Val)) :
    setDefaultsKVs CV.Gen.defaultValues ["services"] ((x, v) :: r) = .ok ((x, v') :: r') ↔
      setDefaultsKVs CV.Gen.defaultValues ["services"] ((y, v) :: r) = .ok ((y, v') :: r') := by
  have hn : ∀ k : String, TPath.next ["services"] k = ["services", k.replace "." TPath.ghost] := fun k => by
    simp [TPath.next, TPath.root]
  have hb := setDefaults_keyBlind _ defaultValues_star_at_key v _ _
    ⟨"services", x.replace "." TPath.ghost, y.replace "." TPath.ghost, [], rfl, rfl⟩
  simp only [setDefaultsKVs_eq_mapM, mapMKVs_cons_ok, hn, hb, List.cons.injEq, Prod.mk.injEq, true_and]

/-- the three defaulting stages on the attributes of one service do not depend on the key it is stored under -/
theorem service_pipeline_blind_to_service_key (x y : String) (clean : String → String) (env : Env) (s : KVs) :
    svcPipeline CV.Gen.defaultValues ["services", x] clean env s =
      svcPipeline CV.Gen.defaultValues ["services", y] clean env s := by
  unfold svcPipeline
  cases canonSvcAttrs s with
  | ok c => simp only; rw [setDefaultsKVs_keyBlind _ defaultValues_star_at_key c _ _ ⟨"services", x, y, [], rfl, rfl⟩]
  | err e => rfl
  | panic z => rfl

/-- non-vacuity: the two paths of the instance are related, and the regenerated table is not empty -/
example : SameButKey ["services", "a", "ports", "[]"] ["services", "x-ray", "ports", "[]"] := ⟨_, _, _, _, rfl, rfl⟩
example : CV.Gen.defaultValues ≠ [] := by decide +kernel
-- an instance evaluated (the kernel cannot unfold `String.replace` inside `TPath.next`):
-- a long-form port of service `x-ray` gets what the one of `a` gets
#guard (match setDefaults CV.Gen.defaultValues ["services", "x-ray"] (.map [("ports", .seq [.map [("target", .int 80)]])]) with
  | .ok v => v == .map [("ports", .seq [.map [("target", .int 80), ("protocol", .str "tcp"), ("mode", .str "ingress")]])]
  | _ => false)

end CV.C11
