import ComposeVerif.Props.C17
import ComposeVerif.Lemmas.NameOptions
/-!
# C17 — option *sequences* with the profile options; the decided name is the project's name everywhere

`Model/NameOptions.lean` runs any sequence of the options of `cli/options.go` that read or write the project
environment, the profile options included (`runXOpts`, `runXP`).  For **every** sequence: the profile options are a
*frame* for what `Props/C17.lean` / `Props/C17Loader.lean` prove (erasing them changes neither the `ProjectOptions`,
the error nor the loaded name / environment, so every clause holds with profile options anywhere); the last profile
option decides, and `WithDefaultProfiles()` reads `COMPOSE_PROFILES` of the project environment *at that call*; the
resources without a `name:` are named after the name the precedence selected.
-/
namespace CV.Name
open CV CV.Name.Spec

/-- the bodies of the option functions the model mirrors, `loader.WithProfiles` (`opts.Profiles = profiles`:
    the last call decides), `ServiceConfig.HasProfile`, `Project.WithProfiles` (`Profiles` is the selection) -/
theorem profile_functions_are_source :
    CV.Gen.c17_body_WithDefaultProfiles =
      "{ return func(o *ProjectOptions) error { if len(profiles) == 0 { for _, s := range strings.Split(o.Environment[consts.ComposeProfiles], \",\") { profiles = append(profiles, strings.TrimSpace(s)) } } o.loadOptions = append(o.loadOptions, loader.WithProfiles(profiles)) return nil } }" ∧
    CV.Gen.c17_body_WithProfiles =
      "{ return func(o *ProjectOptions) error { o.loadOptions = append(o.loadOptions, loader.WithProfiles(profiles)) return nil } }" ∧
    CV.Gen.c17_body_WithLoadOptions =
      "{ return func(o *ProjectOptions) error { o.loadOptions = append(o.loadOptions, loadOptions...) return nil } }" ∧
    CV.Gen.c17_body_loaderWithProfiles = "{ return func(opts *Options) { opts.Profiles = profiles } }" ∧
    CV.Gen.c17_body_HasProfile =
      "{ if len(s.Profiles) == 0 { return true } for _, p := range profiles { if p == \"*\" { return true } for _, sp := range s.Profiles { if sp == p { return true } } } return false }" ∧
    CV.Gen.c17_body_ProjectWithProfiles =
      "{ newProject := p.deepCopy() enabled := Services{} disabled := Services{} for name, service := range newProject.AllServices() { if service.HasProfile(profiles) { enabled[name] = service } else { disabled[name] = service } } newProject.Services = enabled newProject.DisabledServices = disabled newProject.Profiles = slices.Clone(profiles) return newProject, nil }" ∧
    CV.Gen.c17_composeProfilesConst = String.ofList profilesKey := by
  exact ⟨rfl, rfl, rfl, rfl, rfl, rfl, String.ofList_toList.symm⟩

/-- where the decided name enters the model the resources are named from: `loader.load` overwrites `dict["name"]`
    with `opts.projectName` **unconditionally** right before `Normalize`, and `setNameFromKey` formats an implicit
    name as `<dict["name"]>_<key>` -/
theorem decided_name_names_the_resources_in_source :
    CV.Gen.c17_nameIntoModel =
      ["dict[\"name\"] = opts.projectName", "dict, err = Normalize(dict, configDetails.Environment)"] ∧
    CV.Gen.c17_resourceNameFmt = ["fmt.Sprintf(\"%s_%s\", dict[\"name\"], key)"] := by
  exact ⟨rfl, rfl⟩

/-- `ProjectOptions.LoadModel` (the raw-model entry of the cli) hands the loader the **project environment**, like
    `LoadProject` (the `fix:` commit of finding `load-model:name-precedence`): the model's one `loadX` stands for
    both entries -/
theorem loadModel_uses_project_environment_in_source :
    CV.Gen.c17_body_LoadModel =
      "{ configDetails, err := o.prepare(ctx) if err != nil { return nil, err } configDetails.Environment = o.Environment return loader.LoadModelWithContext(ctx, *configDetails, o.loadOptions...) }" := rfl

/-- erasing the profile options from a sequence changes nothing about the `ProjectOptions` it builds, nor about
    the error it stops with -/
theorem runXOpts_base (w : World) (xs : List XOpt) (st : XState) :
    (match runXOpts w xs st with | .ok st' => Except.ok st'.1 | .error e => .error e)
      = runOpts w (baseOpts xs) st.1 := by
  induction xs generalizing st with
  | nil => rfl
  | cons x xs ih =>
    cases x with
    | base b =>
      simp only [runXOpts, applyX, baseOpts, runOpts]
      cases applyOpt w st.1 b with
      | ok o' => exact ih (o', st.2)
      | error e => rfl
    | profiles l => simp only [runXOpts, applyX, baseOpts]; exact ih (st.1, some l)
    | defaultProfiles l => simp only [runXOpts, applyX, baseOpts]; exact ih (st.1, some _)

/-- **composition**: a run with profile options anywhere is, at `Project.Name` / `Project.Environment` / the
    interpolated strings and at the error, the run of `Model/NameLoader.lean` on the sequence without them — every
    theorem of `Props/C17.lean` and `Props/C17Loader.lean` is a theorem about these sequences -/
theorem runXP_is_runX (w : World) (x : Extras) (xs : List XOpt) (interps : List Bool) :
    (match runXP w x xs interps with | .ok r => Except.ok r.base | .error e => .error e)
      = runX w (baseOpts xs) interps := by
  unfold runXP runX
  rw [← runXOpts_base w xs ({ configs := w.given }, none)]
  cases runXOpts w xs ({ configs := w.given }, none) with
  | error e => rfl
  | ok st =>
    simp only
    cases loadX w st.1 (!interpFlag interps) <;> rfl

theorem runXP_ok_base (w : World) (x : Extras) (xs : List XOpt) (interps : List Bool) (r : LoadedX)
    (h : runXP w x xs interps = .ok r) : runX w (baseOpts xs) interps = .ok r.base := by
  have := runXP_is_runX w x xs interps
  rw [h] at this
  exact this.symm

/-- a successful load has a valid non-empty name, with profile options and `WithInterpolation` calls anywhere -/
theorem name_valid_any_sequence (w : World) (x : Extras) (xs : List XOpt) (interps : List Bool) (r : LoadedX)
    (h : runXP w x xs interps = .ok r) : validName r.base.name = true ∧ r.base.name ≠ [] :=
  name_valid_any_interpolation w (baseOpts xs) interps r.base (runXP_ok_base w x xs interps r h)

theorem implicitName_inj (a b k : Str) (h : implicitName a k = implicitName b k) : a = b :=
  List.append_cancel_right h

/-- **the imperative name wins everywhere**: a successful run whose last `WithName`
    is non-empty has exactly that name, and every resource without a `name:` of its own is called
    `<that name>_<key>` — whatever `name:` the compose files carry, whatever the environment, the directory, the
    order of the options, the position of the interpolation switch, the profile options -/
theorem explicit_name_wins_everywhere (w : World) (x : Extras) (xs : List XOpt) (interps : List Bool) (r : LoadedX)
    (h : runXP w x xs interps = .ok r) (hreq : requestedName (baseOpts xs) [] ≠ []) :
    r.base.name = requestedName (baseOpts xs) [] ∧
    r.resources = x.resourceKeys.map fun k => (k, implicitName (requestedName (baseOpts xs) []) k) := by
  have hn := explicit_name_wins_any_interpolation w (baseOpts xs) interps r.base (runXP_ok_base w x xs interps r h) hreq
  refine ⟨hn, ?_⟩
  rw [runXP_resources w x xs interps r h, hn]

/-- **the precedence clause, at the resource names**: the unnamed resources of a loaded project are named after the
    name `Spec.decide` selects from the four sources (explicit request, `COMPOSE_PROJECT_NAME` of the project
    environment, `name:` of the last selected file, project directory) -/
theorem resources_named_after_decision (w : World) (o : PO) (skip : Bool) (r : Loaded) (h : loadX w o skip = .ok r)
    (x : Extras) (p : Option (List Str)) :
    ∃ files n, readConfigs w o.configs = .ok files ∧ Spec.decide (sourcesOfX w o files skip) = .name n ∧
      (decorate x p r).base.name = n ∧
      (decorate x p r).resources = x.resourceKeys.map fun k => (k, implicitName n k) := by
  obtain ⟨files, _, hf, hd⟩ := name_decision_any_interpolation w o skip r h
  exact ⟨files, r.name, hf, hd, rfl, rfl⟩

/-- a resource named after a *losing* source is a different name: two projects' implicit names of one key coincide
    only if the project names do -/
theorem resources_distinguish_names (x : Extras) (p q : Option (List Str)) (r r' : Loaded) (k : Str)
    (hk : k ∈ x.resourceKeys) (h : (decorate x p r).resources = (decorate x q r').resources) : r.name = r'.name := by
  simp only [decorate] at h
  have h2 := List.map_inj_left.mp h k hk
  exact implicitName_inj _ _ k (Prod.mk.inj h2).2

/-- options of `Model/Name.lean` after a profile option leave the selection alone (a later `WithEnv` of
    `COMPOSE_PROFILES` included) -/
theorem base_options_keep_selection (w : World) (post : List Opt) (s1 st' : XState)
    (h : runXOpts w (post.map .base) s1 = .ok st') : st'.2 = s1.2 := by
  rw [runXOpts_map_base] at h
  split at h <;> cases h
  rfl

/-- no profile option: no profile is selected (`Project.Profiles` is empty, services with `profiles:` are disabled) -/
theorem no_profile_option_none (w : World) (l : List Opt) (o : PO) (st' : XState)
    (h : runXOpts w (l.map .base) (o, none) = .ok st') : st'.2 = none :=
  base_options_keep_selection w l (o, none) st' h

theorem profile_option_decides (w : World) (x : XOpt) (sel : PO → List Str)
    (hx : ∀ st, applyX w st x = .ok (st.1, some (sel st.1)))
    (pre : List XOpt) (post : List Opt) (st st' : XState)
    (h : runXOpts w (pre ++ x :: post.map .base) st = .ok st') :
    ∃ s1, runXOpts w pre st = .ok s1 ∧ st'.2 = some (sel s1.1) := by
  rw [runXOpts_append] at h
  cases h1 : runXOpts w pre st with
  | error e => rw [h1] at h; cases h
  | ok s1 =>
    rw [h1] at h
    simp only [runXOpts, hx] at h
    exact ⟨s1, rfl, base_options_keep_selection w post _ st' h⟩

/-- `WithProfiles(l)`: the **last** profile option decides, whatever ran before it and whatever options of the
    other kinds follow it -/
theorem withProfiles_last_decides (w : World) (pre : List XOpt) (l : List Str) (post : List Opt) (st st' : XState)
    (h : runXOpts w (pre ++ .profiles l :: post.map .base) st = .ok st') : st'.2 = some l :=
  (profile_option_decides w _ (fun _ => l) (fun _ => rfl) pre post st st' h).elim fun _ h => h.2

/-- `WithDefaultProfiles(l…)` with profiles given: they are the selection, the environment is not consulted -/
theorem defaultProfiles_given_decide (w : World) (pre : List XOpt) (l : List Str) (hl : l ≠ []) (post : List Opt)
    (st st' : XState) (h : runXOpts w (pre ++ .defaultProfiles l :: post.map .base) st = .ok st') : st'.2 = some l :=
  (profile_option_decides w _ (fun _ => l) (fun _ => by simp only [applyX, hl, if_false]) pre post st st' h).elim
    fun _ h => h.2

/-- `WithDefaultProfiles()`: `COMPOSE_PROFILES` of the project environment **as it is when the option runs**, split
    at `,`, entries trimmed — what later options write into the environment does not matter -/
theorem defaultProfiles_reads_env_at_call (w : World) (pre : List XOpt) (post : List Opt) (st st' : XState)
    (h : runXOpts w (pre ++ .defaultProfiles [] :: post.map .base) st = .ok st') :
    ∃ s1, runXOpts w pre st = .ok s1 ∧ st'.2 = some (envProfiles s1.1.env) :=
  profile_option_decides w _ (fun o => envProfiles o.env) (fun _ => rfl) pre post st st' h

/-- **documented order** (`… WithOsEnv, WithEnvFiles, WithDotEnv, WithDefaultProfiles()`): the profiles are read from
    `COMPOSE_PROFILES` of the layered environment explicit > OS > .env -/
theorem defaultProfiles_documented_order (w : World) (pre : List Opt) (hpre : ∀ x ∈ pre, x ≠ .withDotEnv)
    (o0 : PO) (h0 : o0.env = []) (p0 : Option (List Str)) (post : List Opt) (st' : XState)
    (h : runXOpts w ((pre ++ [Opt.withDotEnv]).map XOpt.base ++ XOpt.defaultProfiles [] :: post.map XOpt.base) (o0, p0) = .ok st') :
    ∃ o1 m, runOpts w pre o0 = .ok o1 ∧ getEnvFromFile w o1.env o1.envFiles [] = .ok m ∧
      st'.2 = some ((splitOn [','] ((lookupLayers [explicitLayer pre, osLayer w pre, m] profilesKey).getD [])).map trimSpace) := by
  obtain ⟨s1, hs1, hp⟩ := defaultProfiles_reads_env_at_call w _ post (o0, p0) st' h
  rw [runXOpts_map_base] at hs1
  cases hr : runOpts w (pre ++ [.withDotEnv]) o0 with
  | error e => rw [hr] at hs1; cases hs1
  | ok o' =>
    rw [hr] at hs1
    cases hs1
    obtain ⟨o1, m, h1, _, hm, hk⟩ := env_precedence_documented_order w pre hpre o0 o' h0 hr
    refine ⟨o1, m, h1, hm, ?_⟩
    rw [hp]
    simp only [envProfiles, hk profilesKey]

theorem trimSpace_last_not_space (s : Str) (c : Char) (h : (trimSpace s).getLast? = some c) : isSpaceGo c = false := by
  unfold trimSpace trimRight at h
  rw [List.getLast?_reverse] at h
  exact dropWhile_head_not _ _ c h

theorem trimSpace_head_not_space (s : Str) (c : Char) (h : (trimSpace s).head? = some c) : isSpaceGo c = false := by
  unfold trimSpace at h
  apply dropWhile_head_not isSpaceGo s c
  have hp := trimRight_prefix (s.dropWhile isSpaceGo)
  cases ht : trimRight (s.dropWhile isSpaceGo) with
  | nil => rw [ht] at h; cases h
  | cons a as =>
    rw [ht] at h hp
    simp only [List.head?_cons, Option.some.injEq] at h
    subst h
    rw [← hp]
    rfl

theorem trimSpace_fixed (s : Str) (h : ∀ c ∈ s, isSpaceGo c = false) : trimSpace s = s := by
  have keep : ∀ l : Str, (∀ c ∈ l, isSpaceGo c = false) → l.dropWhile isSpaceGo = l := by
    intro l hl
    cases l with
    | nil => rfl
    | cons a as => simp only [List.dropWhile, hl a List.mem_cons_self]
  unfold trimSpace trimRight
  rw [keep s h, keep s.reverse (fun c hc => h c (List.mem_reverse.mp hc)), List.reverse_reverse]

/-- every profile read from `COMPOSE_PROFILES` is trimmed: no entry starts or ends with a space, wherever the
    variable came from -/
theorem envProfiles_trimmed (env : Env) (p : Str) (hp : p ∈ envProfiles env) (c : Char) :
    (p.head? = some c → isSpaceGo c = false) ∧ (p.getLast? = some c → isSpaceGo c = false) := by
  unfold envProfiles at hp
  obtain ⟨q, _, rfl⟩ := List.mem_map.mp hp
  exact ⟨trimSpace_head_not_space q c, trimSpace_last_not_space q c⟩

/-- … and there is always at least one entry (an unset or empty variable selects the profile `""`) -/
theorem envProfiles_ne_nil (env : Env) : envProfiles env ≠ [] := by
  rw [envProfiles, Ne, List.map_eq_nil_iff]
  exact SplitLemmas.splitOnFuel_ne_nil _ _ _

/-- a service without `profiles:` is always enabled; one with `profiles:` iff a selected profile is `*` or listed -/
theorem hasProfile_iff (svc selected : List Str) :
    hasProfile svc selected = true ↔ svc = [] ∨ ∃ p ∈ selected, p = ['*'] ∨ p ∈ svc := by
  unfold hasProfile
  cases svc with
  | nil => simp
  | cons a as => simp [List.any_eq_true, List.contains_iff_mem]

example : envProfiles [(profilesKey, " dev , test ".toList)] = strs ["dev", "test"] := by decide +kernel
example : envProfiles [] = strs [""] := by decide +kernel                         -- unset: the one-entry list [""]
example : envProfiles [(profilesKey, "x,,test".toList)] = strs ["x", "", "test"] := by decide +kernel
example : envProfiles [(profilesKey, "dev;qa".toList)] = strs ["dev;qa"] := by decide +kernel
example : trimSpace " qa　".toList = "qa".toList := by decide +kernel
example : trimSpace "​qa".toList = "​qa".toList := by decide +kernel    -- ZERO WIDTH SPACE is not a space
example : trimSpace " \t\n".toList = [] := by decide +kernel
example : hasProfile (strs ["dev", "qa"]) (strs ["test", "qa"]) = true := by decide +kernel
example : hasProfile (strs ["dev", "qa"]) (strs ["test", ""]) = false := by decide +kernel
example : hasProfile (strs ["test"]) (strs ["*"]) = true := by decide +kernel
example : hasProfile (strs ["test"]) [] = false := by decide +kernel

/-- call-time dependence: `WithDefaultProfiles()` **before** the `WithEnv` that sets `COMPOSE_PROFILES` selects `[""]`,
    after it the value -/
example (w : World) : (runXOpts w [.defaultProfiles [], .base (.withEnv (strs ["COMPOSE_PROFILES=dev"]))] ({}, none)).toOption.map (·.2)
    = some (some (strs [""])) := rfl
example (w : World) : (runXOpts w [.base (.withEnv (strs ["COMPOSE_PROFILES=dev"])), .defaultProfiles []] ({}, none)).toOption.map (·.2)
    = some (some (strs ["dev"])) := rfl
example : implicitName "cli".toList "default".toList = "cli_default".toList := by decide +kernel


/-! ## which orders matter

`env_any_option_order` (Props/C17.lean) gives the environment of *any* sequence.  The orders that do **not**
matter, as equalities of the whole option state; the ones that do are in `Neg/C17.lean`
(`WithDotEnv` before `WithOsEnv`; `WithEnv` after `WithDotEnv`) and in the call-time examples above. -/

/-- `WithEnv` and `WithOsEnv` commute: explicit variables win over OS variables whichever is called first -/
theorem withEnv_withOsEnv_commute (w : World) (l : List Str) (o : PO) :
    runOpts w [.withEnv l, .withOsEnv] o = runOpts w [.withOsEnv, .withEnv l] o := by
  simp only [runOpts, applyOpt, List.append_assoc]

/-- two `WithEnv` calls are one call with the later list in front (the later binding wins) -/
theorem withEnv_twice (w : World) (l1 l2 : List Str) (o o' : PO) (h : runOpts w [.withEnv l1, .withEnv l2] o = .ok o') :
    o'.env = asEqualsMap l2 ++ asEqualsMap l1 ++ o.env ∧ o'.name = o.name ∧ o'.envFiles = o.envFiles ∧
      o'.workDir = o.workDir ∧ o'.configs = o.configs := by
  simp only [runOpts, applyOpt] at h
  cases h
  simp only [List.append_assoc, and_self]

/-- `WithOsEnv` is idempotent on what a lookup sees -/
theorem withOsEnv_twice (w : World) (o o1 o2 : PO) (h1 : runOpts w [.withOsEnv] o = .ok o1)
    (h2 : runOpts w [.withOsEnv, .withOsEnv] o = .ok o2) (k : Str) : o2.env.get k = o1.env.get k := by
  simp only [runOpts, applyOpt] at h1 h2
  cases h1; cases h2
  simp only [get_append]
  cases o.env.get k <;> cases (asEqualsMap w.os).get k <;> rfl

/-- no option reads `Name`: the state an option leaves, up to the name -/
theorem applyOpt_name_frame (w : World) (o : PO) (n : Str) (x : Opt) (hx : ∀ m, x ≠ .withName m) :
    applyOpt w { o with name := n } x = match applyOpt w o x with
      | .ok o1 => .ok { o1 with name := n }
      | .error e => .error e := by
  obtain ⟨nm, env, efs, wd, cfgs⟩ := o
  cases x with
  | withName m => exact absurd rfl (hx m)
  | withEnvFiles fs =>
    have hd : defaultEnvFile w ⟨n, env, efs, wd, cfgs⟩ = { defaultEnvFile w ⟨nm, env, efs, wd, cfgs⟩ with name := n } := by
      simp only [defaultEnvFile, projDirId]; split <;> rfl
    simp only [applyOpt, withEnvFiles, hd]
    cases fs with
    | cons f fs => rfl
    | nil =>
      simp only
      cases (asEqualsMap w.os).get disableKey with
      | none => rfl
      | some v => simp only; cases parseBool v with | none => rfl | some b => cases b <;> rfl
  | withConfigFileEnv =>
    simp only [applyOpt, withConfigFileEnv]
    cases cfgs <;> simp only
    cases env.get composeFileKey <;> simp only
    cases resolvePaths w _ <;> rfl
  | withDefaultConfigPath => cases cfgs <;> rfl
  | withDotEnv => simp only [applyOpt]; cases getEnvFromFile w env efs [] <;> rfl
  | withWorkDir d => cases d <;> rfl
  | _ => rfl

/-- **the position of `WithName` never matters**: a valid `WithName(n)` commutes with every other option (equal
    states, equal errors) — the explicit name wins wherever it stands among the options -/
theorem withName_commutes (w : World) (n : Str) (hn : normalize n = n) (x : Opt) (hx : ∀ m, x ≠ .withName m) (o : PO) :
    runOpts w [.withName n, x] o = runOpts w [x, .withName n] o := by
  have hN : ∀ p : PO, applyOpt w p (.withName n) = .ok { p with name := n } := by
    intro p; simp only [applyOpt, hn, if_true]
  simp only [runOpts, hN]
  rw [applyOpt_name_frame w o n x hx]
  cases applyOpt w o x <;> rfl

end CV.Name
