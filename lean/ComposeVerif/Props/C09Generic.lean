import ComposeVerif.Props.C09Tables
/-!
# C09 — generic round trip (YAML, no hand-written codecs): tag-driven encoding followed by generic decoding is the identity

Scope (`Spec/Generic.lean`): types rendered and decoded by the struct tags alone (`plainB`: scalars, pointers, lists,
`map[string]T`, nested structs; no hand-written marshaller / decoder / `IsZero`), values the rendering can carry
(`Stable`).  The encoder is `Model/Encode.lean` (tied by `c09.struct`), the decoder `Model/Decode.lean` (tied by `c09.load`).
-/
namespace CV.C09
open CV CV.TypeDesc CV.Marshal CV.Encode CV.Decode CV.Generic

/-- **generic round trip (YAML)**: for every plain type and every stable value of it, the rendering succeeds and decoding
    the rendering gives the value back — for any descriptor environment, any nesting depth -/
theorem generic_roundtrip (env : Env) (f : Nat) (ty : TyExpr) (v : Val)
    (hp : plainB env f ty = true) (hs : Stable env f ty v) :
    ∃ t, encode env .yaml f ty v = .ok t ∧ decode env f ty t = .ok v :=
  let ⟨t, he, hd, _⟩ := generic_roundtrip_aux env f ty v hp hs
  ⟨t, he, hd⟩

/-- the value decoded from the rendering (it is `v`, by `generic_roundtrip`) renders to the same tree again -/
theorem generic_render_idem (env : Env) (f : Nat) (ty : TyExpr) (v : Val)
    (hp : plainB env f ty = true) (hs : Stable env f ty v) :
    ∃ t v', encode env .yaml f ty v = .ok t ∧ decode env f ty t = .ok v' ∧ encode env .yaml f ty v' = .ok t :=
  let ⟨t, he, hd, _⟩ := generic_roundtrip_aux env f ty v hp hs
  ⟨t, v, he, hd, he⟩

/-- the model types of the current source that are in the scope of `generic_roundtrip` -/
theorem plain_model_types :
    (["CredentialSpecConfig", "DeviceMapping", "DiscreteGenericResource", "ExtendsConfig", "FileReferenceConfig",
      "ServiceSecretConfig", "ServiceConfigObjConfig", "GenericResource", "Placement", "PlacementPreferences",
      "ServiceDependency", "DependsOnConfig", "ServicePortConfig", "ServiceVolumeBind", "ServiceVolumeVolume", "WeightDevice"].all
      fun n => plainB genEnv 12 (.named n)) = true :=
  List.all_eq_true.mpr fun n hn => (Bool.and_eq_true_iff.mp (List.all_eq_true.mp scope_tables.1 n hn)).1

def ppVals (fd : FieldDesc) : Val := if fd.goName = "Spread" then .str "node.labels.az" else .null

/-- non-vacuity: a placement preference is a stable value of a plain model type -/
example : Stable genEnv 5 (.named "PlacementPreferences")
    (.map [("Spread", .str "node.labels.az"), ("Extensions", .null)]) := by
  have hfs : findStruct genEnv.structs "PlacementPreferences" = some Gen.struct_PlacementPreferences := by decide
  simp only [Stable, hfs]
  refine ⟨ppVals, rfl, ?_⟩
  intro fd hm hr
  simp only [Gen.struct_PlacementPreferences, List.mem_cons, List.mem_nil_iff, or_false] at hm
  rcases hm with h | h <;> subst h
  · refine ⟨fun h => by simp at h, ?_, ?_⟩
    · intro _ h
      simp [omittedY, zeroOf, isZeroY, primZero, ppVals] at h
    · intro _ _; simp [Stable, ppVals, isScalar]
  · exact ⟨fun _ => rfl, fun h => by simp at h, fun h => by simp at h⟩

end CV.C09
