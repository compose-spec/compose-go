import ComposeVerif.Lemmas.C02EnvLoop
import ComposeVerif.Lemmas.C02Fixtures
/-!
# C02 — `Project.WithServicesEnvironmentResolved` / `WithServicesLabelsResolved` do not depend on the order in which
Go ranges over `project.Services`

The loop bodies are C16's (`CV.EnvLayers.resolveServiceEnv / resolveServiceLabels`, tied to the real methods by C16's
correspondence, multi-service projects sharing files included); the loop is `CV.Det.EnvLoop.rangeServices`
(`Model/C02EnvLoop.lean`): list order = Go's iteration order, first error returned.
The closest wrong program — a cache of parsed files shared by the iterations — is refuted in `Neg/C02Env.lean`.
-/
namespace CV.Det.EnvLoop.Props
open CV CV.EnvLayers CV.Det.EnvLoop

theorem rangeServices_ok_iff_all (body : Service → Except Err Service) (m : List (Str × Service)) :
    isOkE (rangeServices body m) = m.all (fun p => isOkE (body p.2)) := rangeServices_isOk body m

/-- on success every service holds what *its own* body returned: nothing flows from one iteration to another -/
theorem rangeServices_pointwise (body : Service → Except Err Service) (m r : List (Str × Service))
    (h : rangeServices body m = .ok r) : r = m.map (fun p => (p.1, bodyVal body p.2)) := rangeServices_ok_eq body m r h

/-- a failing loop reports the error of one of the failing services (which one depends on the order) -/
theorem rangeServices_error_from_a_service (body : Service → Except Err Service) (m : List (Str × Service)) (e : Err)
    (h : rangeServices body m = .error e) : ∃ p ∈ m, body p.2 = .error e := by
  induction m with
  | nil => cases h
  | cons hd tl ih =>
    obtain ⟨n, s⟩ := hd
    simp only [rangeServices] at h
    cases hb : body s with
    | error e' => rw [hb] at h; cases h; exact ⟨(n, s), List.mem_cons_self, hb⟩
    | ok s' =>
      rw [hb] at h
      cases ht : rangeServices body tl with
      | error e' =>
        rw [ht] at h; cases h
        obtain ⟨p, hp, hpe⟩ := ih ht
        exact ⟨p, List.mem_cons_of_mem _ hp, hpe⟩
      | ok r' => rw [ht] at h; cases h

/-- **the services loop is independent of Go's iteration order**: two orders fail or succeed alike and, on success,
produce the same services (a permutation of the same name ↦ service pairs) -/
theorem rangeServices_perm (body : Service → Except Err Service) {m m' : List (Str × Service)} (hp : m'.Perm m) :
    isOkE (rangeServices body m') = isOkE (rangeServices body m) ∧
    ∀ r r', rangeServices body m = .ok r → rangeServices body m' = .ok r' → r'.Perm r := rangeServices_perm_aux body hp

/-- **`Project.WithServicesEnvironmentResolved`** (any project environment, file system, registry of formats, `discard`) -/
theorem withServicesEnvironmentResolved_perm (penv : List (Key × Str)) (fs : FS) (discard : Bool)
    {m m' : List (Str × Service)} (hp : m'.Perm m) :
    isOkE (withServicesEnvironmentResolved penv fs discard m') = isOkE (withServicesEnvironmentResolved penv fs discard m) ∧
    ∀ r r', withServicesEnvironmentResolved penv fs discard m = .ok r →
      withServicesEnvironmentResolved penv fs discard m' = .ok r' → r'.Perm r :=
  rangeServices_perm_aux _ hp

/-- **`Project.WithServicesLabelsResolved`** -/
theorem withServicesLabelsResolved_perm (fs : FS) (discard : Bool) {m m' : List (Str × Service)} (hp : m'.Perm m) :
    isOkE (withServicesLabelsResolved fs discard m') = isOkE (withServicesLabelsResolved fs discard m) ∧
    ∀ r r', withServicesLabelsResolved fs discard m = .ok r → withServicesLabelsResolved fs discard m' = .ok r' → r'.Perm r :=
  rangeServices_perm_aux _ hp

/-- each service of the result is what C16's loop body makes of that service alone -/
theorem withServicesEnvironmentResolved_pointwise (penv : List (Key × Str)) (fs : FS) (discard : Bool)
    (m r : List (Str × Service)) (h : withServicesEnvironmentResolved penv fs discard m = .ok r) (n : Str) (sv : Service)
    (hm : (n, sv) ∈ r) : ∃ s0, (n, s0) ∈ m ∧ resolveServiceEnv penv fs discard s0 = .ok sv := by
  have hall : m.all (fun p => isOkE (resolveServiceEnv penv fs discard p.2)) = true := by
    rw [← rangeServices_isOk]; unfold withServicesEnvironmentResolved at h; rw [h]; rfl
  rw [rangeServices_ok_eq _ m r h, List.mem_map] at hm
  obtain ⟨p, hp, he⟩ := hm
  have hok := List.all_eq_true.mp hall p hp
  simp only [Prod.mk.injEq] at he
  refine ⟨p.2, by rw [← he.1]; exact hp, ?_⟩
  rw [← he.2]
  unfold bodyVal
  cases hb : resolveServiceEnv penv fs discard p.2 with
  | ok s' => rfl
  | error e => rw [hb] at hok; cases hok

/-! non-vacuity: two services sharing an env file, both orders -/
example :
    (withServicesEnvironmentResolved [] CV.Det.Neg.Env.fs true [CV.Det.Neg.Env.web, CV.Det.Neg.Env.worker]).toOption.map
      (fun l => l.map (fun p => (p.1, lookup ['G'] p.2.environment))) =
    some [(['w', 'e', 'b'], some (some ['h', 'i', '-', 'w', 'e', 'b'])), (['w', 'r', 'k'], some (some ['h', 'i', '-', 'w', 'r', 'k']))] := by
  decide +kernel

end CV.Det.EnvLoop.Props
