import ComposeVerif.Model.EnvLayersUnicity
/-!
# C16 — `override.EnforceUnicity` on the file lists of a whole load

`uniqBy` (the loop of `enforceUnicity`, `Model/EnvLayersUnicity.lean`) is the identity on a list whose keys are pairwise
distinct — so every theorem about a whole load stated for the list handed to the Project methods speaks about the list
*as written* whenever no path is repeated — and on `[a, b, a']` with `key a = key a'` it keeps the first position and
the last entry (the shape of the recorded finding `repeated-path-first-position:env_file`, `Neg/C16Repeat.lean`).
-/
namespace CV.EnvLayers

theorem foldl_uniqStep_distinct {α : Type} (key : α → Str) :
    ∀ (l acc : List α), (∀ y, y ∈ acc → ∀ x, x ∈ l → key y ≠ key x) → (l.map key).Pairwise (· ≠ ·) →
      l.foldl (uniqStep key) acc = acc ++ l
  | [], acc, _, _ => by simp
  | x :: l, acc, h1, h2 => by
    have hx : acc.any (fun y => key y == key x) = false := by
      rw [List.any_eq_false]
      intro y hy
      have := h1 y hy x (by simp)
      simpa using this
    have h2' := List.pairwise_cons.mp h2
    have hstep : uniqStep key acc x = acc ++ [x] := by simp [uniqStep, hx]
    rw [List.foldl_cons, hstep, foldl_uniqStep_distinct key l (acc ++ [x]) ?_ h2'.2]
    · simp
    · intro y hy z hz
      rcases List.mem_append.mp hy with hy | hy
      · exact h1 y hy z (List.mem_cons_of_mem _ hz)
      · have : y = x := by simpa using hy
        subst this
        exact h2'.1 (key z) (List.mem_map.mpr ⟨z, hz, rfl⟩)

theorem uniqBy_distinct {α : Type} (key : α → Str) (l : List α) (h : (l.map key).Pairwise (· ≠ ·)) :
    uniqBy key l = l := by
  have := foldl_uniqStep_distinct key l [] (by intro y hy; cases hy) h
  simpa [uniqBy] using this

/-- a service whose env_file paths are pairwise distinct reaches the Project methods as written -/
theorem enforceUnicityFiles_distinct (s : Service) (h : (s.envFiles.map (·.path)).Pairwise (· ≠ ·)) :
    enforceUnicityFiles (·.path) s = s := by
  simp [enforceUnicityFiles, uniqBy_distinct _ _ h]

/-- the model's `enforceUnicityFiles` updates `envFiles` only.  That this is the code — no `label_file` row in
    `override.unique` — is the source fact `C16Src.unicity_rows_are_modelled_source`, not this theorem. -/
theorem enforceUnicityFiles_keeps_label_files (ukey : EnvFile → Str) (s : Service) :
    (enforceUnicityFiles ukey s).labelFiles = s.labelFiles ∧ (enforceUnicityFiles ukey s).labels = s.labels ∧
    (enforceUnicityFiles ukey s).environment = s.environment := ⟨rfl, rfl, rfl⟩

/-- **first position, last entry**: `[a, b, a']` with the key of `a` again at `a'` and another key at `b` becomes `[a', b]` -/
theorem uniqBy_repeated {α : Type} (key : α → Str) (a b a' : α) (hab : key a ≠ key b) (haa : key a = key a') :
    uniqBy key [a, b, a'] = [a', b] := by
  have h1 : ¬ key a' = key b := fun h => hab (haa.trans h)
  have h2 : ¬ key b = key a' := fun h => h1 h.symm
  simp [uniqBy, uniqStep, haa, h1, h2]

example : uniqBy (fun (f : EnvFile) => f.path) [⟨['a'], true, []⟩, ⟨['b'], true, []⟩, ⟨['a'], false, []⟩] =
    [⟨['a'], false, []⟩, ⟨['b'], true, []⟩] := by decide +kernel

end CV.EnvLayers
