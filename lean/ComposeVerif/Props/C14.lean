import ComposeVerif.Lemmas.Heap
import ComposeVerif.Lemmas.HeapResolve
import ComposeVerif.Gen.CopyPlan
import ComposeVerif.Gen.Derivations
/-!
# C14 — projects are immutable values: derivations copy, never alias or mutate

Property theorems only (definitions: `Model/Heap.lean`, `Spec/Heap.lean`; helper lemmas: `Lemmas/Heap.lean`).
`Gen.CopyPlan` is regenerated from `types/*.go` and `types/derived.gen.go` on every run.
-/
namespace CV.Heap
open CV.Gen.CopyPlan

/-- the Go type of a hand-written `deepCopy()` root, with every named type resolved through the regenerated type table -/
def rootTy (r : String × Ty × Plan) : Ty := Ty.resolve types 64 r.2.1
/-- the statements it executes, with every call of a generated function inlined -/
def rootPlan (r : String × Ty × Plan) : Plan := Plan.resolve fns 64 r.2.2

/-- all that is asked of the regenerated tables, in one kernel evaluation: the four checks share the resolution of the two roots -/
theorem roots_checked :
    roots.map (·.1) = ["Project", "ServiceConfig"] ∧
    ∀ r ∈ roots, (deep (rootTy r) (rootPlan r) = true ∧ covers (rootTy r) (rootPlan r) = true) ∧
      (rootPlan r).closed = true ∧ (rootTy r).closed = true := by
  decide +kernel

/-- **the generated copy code is deep and covers every field** — for the copy functions and struct definitions that are
in the source tree *now*.  A struct field added without regenerating `derived.gen.go` falsifies `covers`; a shallow
assignment of a field that holds a map, slice or pointer falsifies `deep`; a statement of an unrecognised shape is
`Plan.unknown`, which satisfies neither. -/
theorem copyPlan_ok :
    roots.map (·.1) = ["Project", "ServiceConfig"] ∧
    ∀ r ∈ roots, deep (rootTy r) (rootPlan r) = true ∧ covers (rootTy r) (rootPlan r) = true :=
  ⟨roots_checked.1, fun r hr => (roots_checked.2 r hr).1⟩

/-- 64 is the fuel `rootTy` / `rootPlan` resolve with; any fuel from the nesting depth on gives the same type and plan -/
theorem root_resolution_fuel_independent :
    ∀ r ∈ roots, ∀ m, 64 ≤ m → Plan.resolve fns m r.2.2 = rootPlan r ∧ Ty.resolve types m r.2.1 = rootTy r := by
  intro r hr m hm
  have hc := (roots_checked.2 r hr).2
  exact ⟨Plan.resolve_ge fns 64 r.2.2 hc.1 m hm, Ty.resolve_ge types 64 r.2.1 hc.2 m hm⟩

/-- the copy shares nothing with its source, is `reflect.DeepEqual` to it and well typed again — for every deep, covering
plan, type, value and allocation state, not only for the plans in the tree -/
theorem deep_copy_sound (t : Ty) (p : Plan) (v : GoVal) (n : Nat)
    (ht : hasTy t v = true) (hd : deep t p = true) (hc : covers t p = true) (hb : Below n v) :
    Isolated (exec p v n).1 v ∧ DeepEq (exec p v n).1 v ∧ hasTy t (exec p v n).1 = true ∧
      Within n (exec p v n).2 (addrs (exec p v n).1) :=
  have hf := exec_fresh v p t n ht hd
  ⟨hf.isolated hb, exec_erase v p t n ht hc, exec_hasTy v p t n ht hc, hf⟩

/-- the two `deepCopy()` methods of compose-go, as they are in the tree now: isolated deep-equal copies of every project / service -/
theorem deepCopy_roots_sound (r : String × Ty × Plan) (hr : r ∈ roots) (v : GoVal) (n : Nat)
    (ht : hasTy (rootTy r) v = true) (hb : Below n v) :
    Isolated (exec (rootPlan r) v n).1 v ∧ DeepEq (exec (rootPlan r) v n).1 v :=
  have h := copyPlan_ok.2 r hr
  have s := deep_copy_sound (rootTy r) (rootPlan r) v n ht h.1 h.2 hb
  ⟨s.1, s.2.1⟩

/-- the property's "mutating either afterwards never changes the other", for a copy and its source -/
theorem mutation_isolated (t : Ty) (p : Plan) (v : GoVal) (n : Nat)
    (ht : hasTy t v = true) (hd : deep t p = true) (hb : Below n v) :
    (∀ a ∈ addrs (exec p v n).1, ∀ c, write a c v = v) ∧
    (∀ a ∈ addrs v, ∀ c, write a c (exec p v n).1 = (exec p v n).1) :=
  ((exec_fresh v p t n ht hd).isolated hb).write

/-- a derivation = deep copy of the receiver, then writes confined to memory allocated since (no value of the receiver is
stored, nothing of the receiver is written): every project allocated before the frontier — the receiver in particular —
is unchanged by the derivation's writes, and the result shares no address with the receiver -/
theorem derivation_isolated (t : Ty) (p : Plan) (v : GoVal) (n : Nat) (ws : List (Nat × Cell)) (v' : GoVal) (n' : Nat)
    (ht : hasTy t v = true) (hd : deep t p = true) (hb : Below n v) (hs : DerivStep p v n ws v' n') :
    (∀ u, Below n u → writes ws u = u) ∧ Isolated v' v ∧ Within n n' (addrs v') := by
  obtain ⟨hm, hcf, rfl⟩ := hs
  have hf := exec_fresh v p t n ht hd
  have hw : Within n n' (addrs (writes ws (exec p v n).1)) := by
    refine ⟨Nat.le_trans hf.1 hm, ?_⟩
    intro x hx
    rcases addrs_writes ws _ x hx with h | ⟨w, hw, hxw⟩
    · have := hf.2 x h; omega
    · exact (hcf w hw).2 x hxw
  exact ⟨fun u => writes_below fun w hw => (hcf w hw).1, hw.isolated hb, hw⟩

theorem history_layers {t : Ty} {p : Plan} (hd : deep t p = true) :
    ∀ {v : GoVal} {n : Nat} {l : List (List (Nat × Cell) × GoVal)}, History t p v n l → hasTy t v = true → Below n v →
      (∀ u, Below n u → ∀ e ∈ l, writes e.1 u = u) ∧ Layers n (l.map (·.2)) := by
  intro v n l h
  induction h with
  | nil => intro _ _; exact ⟨fun _ _ _ => nofun, Layers.nil _⟩
  | @cons v v' n n' ws rest hs ht' _ ih =>
    intro ht hb
    obtain ⟨hw, -, hin⟩ := derivation_isolated t p v n ws v' n' ht hd hb hs
    obtain ⟨ih1, ih2⟩ := ih ht' hin.below
    refine ⟨fun u hu e he => ?_, Layers.cons hin ih2⟩
    rcases List.mem_cons.mp he with rfl | he'
    · exact hw u hu
    · exact ih1 u (hu.mono hin.1) e he'

/-- sequences of derivations of any length (the property asks for up to 4): the original project is unchanged by the
writes of every step, and the projects of the history are pairwise isolated -/
theorem history_isolated {t : Ty} {p : Plan} (hd : deep t p = true) :
    ∀ {v : GoVal} {n : Nat} {l : List (List (Nat × Cell) × GoVal)}, History t p v n l → hasTy t v = true → Below n v →
      (∀ e ∈ l, writes e.1 v = v) ∧ List.Pairwise Isolated (v :: l.map (·.2)) :=
  fun h ht hb => ⟨(history_layers hd h ht hb).1 _ hb, (history_layers hd h ht hb).2.pairwise hb⟩

/-! ## the derivations of `types/project.go`, as they are in the tree now (facts regenerated by `translator/escapes.go`)

`derivation_isolated` assumes `Confined`: after the copy, nothing is written through the receiver and no value read from
the receiver is stored.  The following theorems re-check the syntactic counterpart of that hypothesis on every run. -/

open CV.Gen.Derivations in
/-- no derivation stores, returns or hands on a reference-bearing value read from its receiver, and none writes through it -/
theorem no_receiver_escape : receiverEscapes = [] ∧ receiverWrites = [] := ⟨rfl, rfl⟩

open CV.Gen.Derivations in
/-- every method of `Project` that returns a `*Project` obtains it from `recv.deepCopy()` (or from another derivation) and
returns only that copy, `nil`, or another derivation's result -/
theorem derivations_start_from_copy :
    ∀ d ∈ derivations, (d.2.1 = "copy" ∨ d.2.1 = "delegate") ∧ ∀ r ∈ d.2.2, r = "copy-var" ∨ r = "nil" ∨ r = "delegate" := by
  decide +kernel

open CV.Gen.Derivations in
/-- the derivations that exist are exactly the ones the real-code oracle drives (`harness/p/c14/c14.go`, `c14OpPool`);
a new derivation breaks this theorem until the oracle covers it -/
theorem derivations_listed :
    derivations.map (·.1) = ["WithImagesResolved", "WithProfiles", "WithSelectedServices", "WithServicesDisabled",
      "WithServicesEnabled", "WithServicesEnvironmentResolved", "WithServicesLabelsResolved", "WithServicesTransform",
      "WithoutUnnecessaryResources"] :=
  rfl

open CV.Gen.Derivations in
/-- `ForEachService` hands every visitor a deep copy of the service -/
theorem visitor_gets_copy : visitorArgs = ["service.deepCopy()"] := rfl

/-- a struct with a scalar, a map of pointers to structs holding a slice, and an extension map with an opaque payload -/
def exTy : Ty := .struct [(0, .scalar), (1, .map (.ptr (.struct [(2, .slice .scalar)]))), (3, .map .iface)]
def exPlan : Plan := .fields [(0, .assign), (1, .newMap (.newPtr (.fields [(2, .newSlice .assign)]))), (3, .newMap .assign)]
def exVal : GoVal := .struct [(.fld 0, .scalar "s:n"), (.fld 1, .map 1 [(.str "k", .ptr 2 (.struct [(.fld 2, .slice 3 [(.idx, .scalar "s:x")])]))]),
  (.fld 3, .map 4 [(.str "x-a", .opaque 9 "map[k:v]")])]

example : hasTy exTy exVal = true ∧ deep exTy exPlan = true ∧ covers exTy exPlan = true ∧ Below 5 exVal := by
  unfold Below; decide

/-- the copy really allocates: its addresses are 5, 6, 7, 8, and the opaque payload is the shared one -/
example : addrs (exec exPlan exVal 5).1 = [5, 6, 7, 8] ∧ oaddrs (exec exPlan exVal 5).1 = [9] := by decide

/-- a derivation step with a non-trivial confined write (replace the copied slice's content, allocate a new pointee) -/
example : DerivStep exPlan exVal 5 [(7, .kids [(.idx, .scalar "s:y")]), (6, .pointee (.struct [(.fld 2, .slice 9 [])]))]
    (writes [(7, .kids [(.idx, .scalar "s:y")]), (6, .pointee (.struct [(.fld 2, .slice 9 [])]))] (exec exPlan exVal 5).1) 10 := by
  unfold DerivStep Confined; exact ⟨by decide, by decide, rfl⟩

/-- the real roots are non-trivial: the Project plan copies 12 fields, the ServiceConfig plan 96 -/
example : (roots.map fun r => match rootPlan r with | .newPtr (.fields ps) => ps.length | _ => 0) = [12, 96] := by decide +kernel

end CV.Heap
