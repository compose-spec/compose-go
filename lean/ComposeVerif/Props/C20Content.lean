import ComposeVerif.Props.C20
/-!
# C20 — rendering with secret content requested: where the value may appear

`render_with_content_exact` (`Props/C20.lean`) says the value *is* under `content`; this says it is *nowhere else*.
Lemmas: `ObjOkF_fields`, `ValOkF_renderSecret_flagged` in `Lemmas/Secrets.lean`.
-/
namespace CV.Secrets
open CV
open CV.Val hiding lookup_insert_self lookup_insert_ne

/-- **rendering with secret content requested**: for every model and environment, in both renderers,
the taint of the rendering is confined to the string under the `content` key of a secret — every other key and string of
the `secrets` section and the whole `configs` section are untainted (the oracle's `leak:secret:<r>:elsewhere` and
`leak:config:*` with content requested) -/
theorem render_with_content_confined {P : String → Prop} (hv : VocabOk P)
    {env : Env} {pname : String} {dict : KVs} (hd : AllStrKV P dict)
    (hgs : GenNamesOk P pname "secrets" dict) (hgc : GenNamesOk P pname "configs" dict)
    {p : Proj} (h : load env pname dict = .ok p) (r : Renderer) :
    ∃ secs cfgs, render r true p = .map (sectionKV "secrets" secs ++ sectionKV "configs" cfgs) ∧
      (∀ e ∈ secs, P e.1 ∧ ValOkF P "content" e.2) ∧ AllStrKV P cfgs := by
  obtain ⟨hS, hC⟩ := hv.confined (section_confined hd hgs) (section_clean hd hgc) h
  refine ⟨_, _, rfl, ?_, ?_⟩
  · intro e he
    simp only [applyOpts, if_true, withContent, mapVals, List.map_map, List.mem_map] at he
    obtain ⟨kv, hkv, rfl⟩ := he
    exact ⟨(hS kv hkv).1, ValOkF_renderSecret_flagged hv.vocab (hS kv hkv).2.1 r⟩
  · simp only [applyOpts, if_true, withContent]
    exact AllStrKV_mapVals fun e he => ⟨(hC e he).1, AllStr_renderConfig hv.vocab (hC e he).2.1 (hC e he).2.2 r⟩

/-- non-vacuity on the example model of `Props/C20.lean`: with content requested the canary *is* in both renderings
(so the exemption is used), and the model satisfies the hypotheses (`Props/C20.lean`, `namespace Example`) -/
example : ¬ Clean Example.canary (render .json true Example.proj) ∧ ¬ Clean Example.canary (render .yaml true Example.proj) := by
  decide +kernel

end CV.Secrets
