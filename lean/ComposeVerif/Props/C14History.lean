import ComposeVerif.Props.C14Apply
import ComposeVerif.Props.C14Visit
/-!
# C14 — histories

Branching histories (`runTree`: every step may derive from *any* earlier project, the shape the oracle drives):
`tree_history_isolated` — all projects pairwise isolated, the projects of the start unchanged by every log; hence a write
through any address of one project leaves every other project as it was (`pairwise_mutation_isolated`,
`tree_mutation_isolated`: the oracle's last step mutates each project in turn and compares all the others); the history
keeps all its projects (`runTree_length`).  Chains mixing derivations, visits and renderings with secret content:
`mixed_history_with_marshal_tree`.  Chains of programs alone are in `Props/C14Deriv.lean`, chains with visits in `Props/C14Visit.lean`.
-/
namespace CV.Heap

/-- one step of a branching history: the index of the project it derives from (0 = the original), a program, its arguments -/
abbrev TStep := Nat × List Stmt × List (String × PData)

/-- run a branching history: `acc` holds every project made so far (the original first); a step whose index is out of
range derives from `nil` (an empty project).  Returns all projects and the write log of every step. -/
def runTree (t : Ty) (plan : Plan) : List TStep → List GoVal → Nat → List GoVal × List (List (Nat × Cell))
  | [], acc, _ => (acc, [])
  | (i, prog, args) :: r, acc, n =>
    let st := runProg t plan prog (acc.getD i .nil) args n
    let rest := runTree t plan r (acc ++ [getVar "result" st.vars]) st.next
    (rest.1, st.log :: rest.2)

theorem below_getD {n : Nat} {acc : List GoVal} (h : ∀ v ∈ acc, Below n v) (i : Nat) : Below n (acc.getD i .nil) := by
  rw [List.getD_eq_getElem?_getD]
  cases hi : acc[i]? with
  | none => intro a ha; simp [addrs] at ha
  | some v => exact h v (List.mem_of_getElem? hi)

/-- **branching histories** of any length over any receiver-free programs: all projects are pairwise isolated, and the
projects that existed before the history started are unchanged by every write of every step.  `runTree` appends each
result at the end of `acc`, so the invariant is the forward one — all of `acc` below the frontier — and not `Layers`, which
is for lists that grow at the front -/
theorem tree_history_isolated (t : Ty) (plan : Plan) (hd : deep t plan = true) :
    ∀ (h : List TStep) (acc : List GoVal) (n : Nat),
      (∀ e ∈ h, rfL e.2.1 = true) → (∀ v ∈ acc, Below n v) → List.Pairwise Isolated acc →
      List.Pairwise Isolated (runTree t plan h acc n).1 ∧
      ∀ log ∈ (runTree t plan h acc n).2, ∀ v ∈ acc, writes log v = v := by
  intro h
  induction h with
  | nil => intro acc n _ _ hp; exact ⟨hp, nofun⟩
  | cons e r ih =>
    intro acc n hrf hb hp
    obtain ⟨i, prog, args⟩ := e
    have hc := prog_confined t plan prog (acc.getD i .nil) args n (hrf _ (List.mem_cons_self ..)) hd (below_getD hb i)
    have hw := prog_result_within t plan prog (acc.getD i .nil) args n (hrf _ (List.mem_cons_self ..)) hd (below_getD hb i)
    have ih' := ih (acc ++ [getVar "result" (runProg t plan prog (acc.getD i .nil) args n).vars]) _
      (fun e he => hrf e (List.mem_cons_of_mem _ he))
      (fun v hv => by
        rcases List.mem_append.mp hv with hm | hm
        · exact (hb v hm).mono hw.1
        · rw [List.mem_singleton.mp hm]; exact hw.below)
      (List.pairwise_append.mpr ⟨hp, List.pairwise_singleton .., fun v hv w hw' a ha haw => by
        rw [List.mem_singleton.mp hw'] at haw; exact hw.isolated (hb v hv) a haw ha⟩)
    refine ⟨ih'.1, fun log hl v hv => ?_⟩
    rcases List.mem_cons.mp hl with rfl | hm
    · exact hc.2.1 v (hb v hv)
    · exact ih'.2 log hm v (List.mem_append_left _ hv)

/-- … for the code in the tree now: any branching history over the nine derivations and the secret-content rendering,
starting from one project -/
theorem tree_history_tree (h : List TStep) (v : GoVal) (n : Nat) (hb : Below n v)
    (hmem : ∀ e ∈ h, e.2.1 ∈ Deriv.applySecrets :: Deriv.programs.map (·.2)) :
    List.Pairwise Isolated (runTree projTy projPlan h [v] n).1 ∧
      ∀ log ∈ (runTree projTy projPlan h [v] n).2, writes log v = v := by
  have := tree_history_isolated projTy projPlan projPlan_deep.1 h [v] n (fun e he => bodies_receiver_free (hmem e he))
    (by intro w hw; rw [List.mem_singleton.mp hw]; exact hb) (List.pairwise_singleton _ _)
  exact ⟨this.1, fun log hl => this.2 log hl v (List.mem_singleton.mpr rfl)⟩

/-- non-vacuity: three siblings derived from the same project (`WithoutUnnecessaryResources` twice and a plain copy, all
from #0): four projects, the three results occupy fresh, disjoint address ranges and no step is stuck -/
example :
    ((runTree exTy2 exPlan2 [(0, Deriv.withoutUnnecessaryResources, []), (0, Deriv.withoutUnnecessaryResources, []),
        (0, [.deepCopy "c" (.var "p"), .assign "result" (.var "c")], [])] [exProj] 6).1.map fun v => (addrs v).foldl min 1000) = [1, 6, 15, 24] := by
  simp only [exTy2, exPlan2, exProj, Deriv.withoutUnnecessaryResources, Deriv.keep, Deriv.required, Deriv.fieldIds]
  decide +kernel

/-- pairwise isolated projects: a write through any address of one leaves every other one as it was (the last step of
the oracle — mutate each project of the history in turn, compare all the others — as a theorem) -/
theorem pairwise_mutation_isolated {l : List GoVal} (hp : List.Pairwise Isolated l) :
    ∀ (i j : Nat) (hi : i < l.length) (hj : j < l.length), i ≠ j →
      ∀ a ∈ addrs l[i], ∀ c, write a c l[j] = l[j] := by
  intro i j hi hj hne
  rcases Nat.lt_or_gt_of_ne hne with h | h
  · exact (List.pairwise_iff_getElem.mp hp i j hi hj h).write.1
  · exact (List.pairwise_iff_getElem.mp hp j i hj hi h).write.2

/-- … for the ten bodies in the tree and every two distinct projects of a branching history, the original included -/
theorem tree_mutation_isolated (h : List TStep) (v : GoVal) (n : Nat) (hb : Below n v)
    (hmem : ∀ e ∈ h, e.2.1 ∈ Deriv.applySecrets :: Deriv.programs.map (·.2)) :
    let ps := (runTree projTy projPlan h [v] n).1
    ∀ (i j : Nat) (hi : i < ps.length) (hj : j < ps.length), i ≠ j → ∀ a ∈ addrs ps[i], ∀ c, write a c ps[j] = ps[j] :=
  pairwise_mutation_isolated (tree_history_tree h v n hb hmem).1

/-- so the statements above range over every project the history made -/
theorem runTree_length (t : Ty) (plan : Plan) : ∀ (h : List TStep) (acc : List GoVal) (n : Nat),
    (runTree t plan h acc n).1.length = acc.length + h.length
  | [], acc, n => by simp [runTree]
  | (i, prog, args) :: r, acc, n => by
    simp only [runTree, List.length_cons]
    rw [runTree_length t plan r]
    simp only [List.length_append, List.length_cons, List.length_nil]
    omega
end CV.Heap

namespace CV.Heap.Visit
open CV.Heap
/-- **histories mixing derivations, visits and renderings with secret content**, any length: the original project, every
derived project, every project handed to an encoder and every service handed to a visitor are pairwise isolated -/
theorem mixed_history_with_marshal_tree (h : List Step) (v : GoVal) (n : Nat) (hb : Below n v)
    (hp : ∀ e ∈ h, match e with
      | .prog pg _ => pg ∈ Deriv.applySecrets :: Deriv.programs.map (·.2)
      | .visit _ _ => True) :
    List.Pairwise Isolated (v :: runMixed projTy projPlan svcTy svcPlan h v n) :=
  mixed_history_isolated projTy projPlan svcTy svcPlan projPlan_deep.1 svcPlan_deep.1 svcPlan_deep.2 h v n
    (steps_rf (fun _ => bodies_receiver_free) fun e he pg args heq => by subst heq; exact hp _ he) hb
end CV.Heap.Visit
