import ComposeVerif.Lemmas.EnvLayersLoad
import ComposeVerif.Props.C16
/-!
# C16 — YAML `labels` through a whole load, the second caller `WithServicesEnabled`, re-resolution, the layering for
any registry of env_file formats, labels in any iteration order through the `len == 0` test, which failing service is reported
-/
namespace CV.EnvLayers
open CV.EnvLayers.Spec

/-- `Labels.DecodeMapstructure`: in the sequence form the last element naming `k` decides
    (`- k` gives the empty value), in the mapping form `k:` (null) is the empty value. -/
theorem decodeLabels_last_wins (yl : YLabels) (k : Key) : lookup k (decodeLabels yl) = yamlLabel yl k := by
  cases yl with
  | absent => rfl
  | list items => exact lookup_overrideBy_nil k _
  | map kvs =>
    show lookup k (overrideBy [] _) = _
    rw [lookup_overrideBy_nil, ← List.map_reverse, lookup_map_val fun _ => labelMapValue]
    rfl

/-- Through a whole load — `labels` written as a sequence or as a mapping, any combination
    of `SkipNormalization`, `SkipResolveEnvironment`, discard — the final `Labels` of a service are: what the YAML `labels`
    say (last element wins), else the last label file that defines the key. -/
theorem load_labels_precedence (cfg : LoadCfg) (penv : List (Key × Str)) (fs : FS) (y : YService) (s1 s2 : Service)
    (hwf : WFFS fs) (h1 : loadServiceEnv cfg penv fs y.yenv y.decoded = .ok s1)
    (h2 : resolveServiceLabels fs cfg.discard s1 = .ok s2) (k : Key) :
    lookup k s2.labels = finalLabelY (labelContents fs y.svc.labelFiles) y.ylabels k := by
  have hk := loadServiceEnv_keeps_labels cfg penv fs y.yenv y.decoded s1 h1
  have hd : Distinct s1.labels := hk.1 ▸ distinct_decodeLabels y.ylabels
  have hl := labels_precedence fs cfg.discard s1 s2 hwf hd h2 k
  rw [hk.1, hk.2] at hl
  rw [hl]
  unfold finalLabel finalLabelY
  show orElse (lookup k (decodeLabels y.ylabels)) _ = _
  rw [decodeLabels_last_wins]
  rfl

/-- Both observations of one service of a whole load, from the YAML forms. -/
theorem load_service_final_y (cfg : LoadCfg) (penv : List (Key × Str)) (fs : FS) (y : YService) (s1 s2 : Service)
    (hwf : WFFS fs) (hpenv : NoEqKeys penv) (hres : cfg.skipResolveEnvironment = false)
    (h1 : loadServiceEnv cfg penv fs y.yenv y.decoded = .ok s1) (h2 : resolveServiceLabels fs cfg.discard s1 = .ok s2) (k : Key) :
    lookup k s2.environment = finalEnv penv (envContents fs y.svc.envFiles) (decodeEnv y.yenv) k ∧
    lookup k s2.labels = finalLabelY (labelContents fs y.svc.labelFiles) y.ylabels k :=
  ⟨(load_service_final cfg penv fs y.yenv y.decoded s1 s2 hwf hpenv hres (distinct_decodeLabels _) h1 h2 k).1,
   load_labels_precedence cfg penv fs y s1 s2 hwf h1 h2 k⟩

/-- `WithServicesEnabled()` returns the copy: no env file is read (also no
    error for a missing required file). -/
theorem enabled_without_names_resolves_nothing (penv : List (Key × Str)) (fs : FS) (svcs : List (Str × Service)) :
    withServicesEnabled penv fs [] svcs = .ok svcs := rfl

/-- `WithServicesEnabled(n, …)` is environment resolution with discard: on success every service
    has lost its `env_file` references (and only those: `discard_only_drops_refs`). -/
theorem enabled_discards (penv : List (Key × Str)) (fs : FS) (n : Str) (ns : List Str) (svcs r : List (Str × Service))
    (h : withServicesEnabled penv fs (n :: ns) svcs = .ok r) :
    resolveProjectEnv penv fs true svcs = .ok r ∧ ∀ p ∈ r, p.2.envFiles = [] := by
  have h' : resolveProjectEnv penv fs true svcs = .ok r := h
  refine ⟨h', fun p hp => ?_⟩
  have hm := project_env_ok penv fs true svcs r h'
  have : (p.1, Except.ok p.2) ∈ r.map (fun q => (q.1, (Except.ok q.2 : Except Err Service))) := List.mem_map.2 ⟨p, hp, rfl⟩
  rw [← hm] at this
  obtain ⟨q, _, hq⟩ := List.mem_map.1 this
  obtain ⟨acc, _, e⟩ := resolveServiceEnv_ok (Prod.mk.inj hq).2
  rw [e]
  rfl

/-- Resolving the environment of an already resolved service again — what
    `WithServicesEnabled` does to a loaded project, with or without the file references still there — succeeds and
    changes no value: the `environment` layer already carries every file value and every project-environment value. -/
theorem resolve_env_idempotent (penv : List (Key × Str)) (fs : FS) (d d' : Bool) (s s' : Service)
    (hd : Distinct s.environment) (h : resolveServiceEnv penv fs d s = .ok s') :
    ∃ s'', resolveServiceEnv penv fs d' s' = .ok s'' ∧ (∀ k, lookup k s''.environment = lookup k s'.environment) ∧
      s''.envFiles = (if d' then [] else s'.envFiles) ∧ s''.labels = s.labels ∧ s''.labelFiles = s.labelFiles := by
  obtain ⟨acc, hl, rfl⟩ := resolveServiceEnv_ok h
  · have hacc : Distinct acc := loadEnvFiles_distinct penv fs s.envFiles [] acc distinct_nil hl
    have hd1 : Distinct (overrideBy (toMWE acc) (resolveMWE (fun n => lookup n penv) s.environment)) :=
      distinct_overrideBy _ _ (distinct_toMWE _ hacc)
    -- the pointwise fixed point
    have key : ∀ (acc2 : List (Key × Str)), (∀ k, lookup k acc2 = none ∨ lookup k acc2 = lookup k acc) → ∀ k,
        lookup k (overrideBy (toMWE acc2) (resolveMWE (fun n => lookup n penv)
          (overrideBy (toMWE acc) (resolveMWE (fun n => lookup n penv) s.environment)))) =
        lookup k (overrideBy (toMWE acc) (resolveMWE (fun n => lookup n penv) s.environment)) := by
      intro acc2 h2 k
      rw [lookup_resolved_env penv acc2 _ hd1 k, lookup_resolved_env penv acc _ hd k]
      cases he : lookup k s.environment with
      | some v => simp [rv_idem]
      | none =>
        simp only [Option.map_none]
        cases ha : lookup k acc with
        | some x => simp [rv]
        | none =>
          rcases h2 k with h0 | h0
          · simp [h0]
          · simp [h0, ha]
    cases d with
    | true =>
      refine ⟨_, resolveServiceEnv_eq penv fs d' _, fun k => key [] (fun _ => Or.inl rfl) k, ?_, rfl, rfl⟩
      cases d' <;> rfl
    | false =>
      exact ⟨_, (resolveServiceEnv_eq penv fs d' _).trans (congrArg (Except.map _) hl), fun k => key acc (fun _ => Or.inr rfl) k,
        rfl, rfl, rfl⟩

/-- No hypothesis on the outside world: whatever is registered with
    `dotenv.RegisterFormat`, whatever the files contain — if environment resolution succeeds, the final environment is,
    key by key, `environment` over the last env file whose parser returned the key, each file read with the lookup
    "earlier files, then the project environment"; value-less entries from the project environment. -/
theorem env_precedence_any_format (penv : List (Key × Str)) (fs : FS) (discard : Bool) (s s' : Service)
    (hd : Distinct s.environment) (h : resolveServiceEnv penv fs discard s = .ok s') (k : Key) :
    lookup k s'.environment = finalEnvG penv fs s.envFiles s.environment k := by
  obtain ⟨acc, hl, rfl⟩ := resolveServiceEnv_ok h
  have hacc : lookup k acc = filesValGFrom penv fs (fun _ => none) s.envFiles.reverse k :=
    loadEnvFiles_specG penv fs s.envFiles [] acc hl k
  refine (lookup_resolved_env penv acc s.environment hd k).trans ?_
  unfold finalEnvG
  rw [hacc]
  cases lookup k s.environment with
  | none => rfl
  | some v => cases v <;> rfl

/-- With the library's (empty) registry and well-formed files the format-agnostic layering is
    the dotenv layering `finalEnv` wherever resolution succeeds. -/
theorem finalEnvG_is_finalEnv (penv : List (Key × Str)) (fs : FS) (discard : Bool) (s s' : Service) (hwf : WFFS fs)
    (hd : Distinct s.environment) (h : resolveServiceEnv penv fs discard s = .ok s') (k : Key) :
    finalEnvG penv fs s.envFiles s.environment k = finalEnv penv (envContents fs s.envFiles) s.environment k :=
  (env_precedence_any_format penv fs discard s s' hd h k).symm.trans (env_precedence penv fs discard s s' hwf hd h k)

/-- A file with a registered format is a layer like any other: the value its parser
    returns for `k` wins over every earlier file and loses to `environment`. -/
theorem registered_layer_precedence (penv : List (Key × Str)) (fs : FS) (discard : Bool) (s s' : Service)
    (pre : List EnvFile) (f : EnvFile) (hd : Distinct s.environment) (hs : s.envFiles = pre ++ [f])
    (h : resolveServiceEnv penv fs discard s = .ok s') (k : Key) (v : Str)
    (hv : layerVal fs f (envLook penv (filesValGFrom penv fs (fun _ => none) pre.reverse)) k = some v) :
    lookup k s'.environment = match lookup k s.environment with
      | some (some x) => some (some x)
      | some none => some (lookup k penv)
      | none => some (some v) := by
  rw [env_precedence_any_format penv fs discard s s' hd h k]
  unfold finalEnvG
  rw [hs, List.reverse_append]
  simp only [List.reverse_cons, List.reverse_nil, List.nil_append, List.singleton_append, filesValGFrom, hv]
  cases lookup k s.environment with
  | none => rfl
  | some x => cases x <;> rfl

/-- Whatever order Go picks for every `range` inside
    `WithServicesLabelsResolved` — the `OverrideBy` loops and `NewLabelsFromMappingWithEquals` — and whichever branch of the
    `len(labels) == 0` test is taken: the run fails iff the list-order model fails, with the same error, and otherwise
    the final `Labels` have the model's value at every key. -/
theorem labels_any_iteration_order_full (fs : FS) (discard : Bool) (s : Service) (hd : Distinct s.labels)
    (out : Except Err (List (Key × Str))) (h : ServiceLabelsRunFull fs s out) :
    Agrees out ((resolveServiceLabels fs discard s).map (·.labels)) := by
  obtain ⟨merged, hrun, hout⟩ := h
  rw [resolveServiceLabels_eq]
  rcases (labels_any_iteration_order fs s hd merged hrun).cases with ⟨e, rfl, hb⟩ | ⟨final, y, rfl, hb, hme⟩
  · cases (hout : out = .error e)
    cases hl : loadLabelFiles fs s.labelFiles [] <;> rw [hl] at hb <;> cases hb
    exact rfl
  · obtain ⟨acc0, hl, rfl⟩ := map_eq_ok hb
    rw [hl]
    have hdl : Distinct (overrideBy (toMWE acc0) (toMWE s.labels)) :=
      distinct_overrideBy _ _ (distinct_toMWE _ (loadLabelFiles_distinct fs s.labelFiles [] acc0 distinct_nil hl))
    have hdf : Distinct final := by
      obtain ⟨r, _, hm⟩ := hrun
      cases r with
      | error e => cases hm
      | ok acc =>
        obtain ⟨fin, ⟨_, _, hl'⟩, he⟩ := hm
        cases he
        exact hl'.1
    show Agrees out (.ok (if _ then s.labels else ofMWE _))
    rw [← hme.isEmpty_eq]
    simp only at hout
    split at hout
    · rw [hout, if_pos ‹_›]
      exact MapEq.refl _
    · obtain ⟨res, hlist, rfl⟩ := hout
      rw [if_neg ‹_›]
      intro k
      rw [hlist.2 k, lookup_ofMWE k _ hdf, lookup_ofMWE k _ hdl, hme k]

/-- Go returns from the services loop at the first failing service of its map
    iteration order.  For every listing `rs'` of the services: the loop succeeds iff the model (`collect`) succeeds, and
    a reported error is one of the model's errors. -/
theorem reported_error_is_first_failing {α : Type} (rs rs' : List (Str × Except Err α)) (hp : rs.Perm rs') :
    (firstErr rs' = none ↔ ∃ r, collect rs = .ok r) ∧
    (∀ e, firstErr rs' = some e → ∃ es, collect rs = .error es ∧ e ∈ es) := by
  have hperm : (errsOf rs).Perm (errsOf rs') := hp.filterMap _
  rw [firstErr_eq_head]
  rcases collect_eq rs with ⟨r, hr, h0⟩ | ⟨hc, hne⟩
  · have h0' : errsOf rs' = [] := by rw [h0] at hperm; exact hperm.symm.eq_nil
    rw [h0']
    exact ⟨⟨fun _ => ⟨r, hr⟩, fun _ => rfl⟩, fun e he => nomatch he⟩
  · rw [hc]
    refine ⟨⟨fun h => absurd (by rw [List.head?_eq_none_iff.1 h] at hperm; exact hperm.eq_nil) hne, fun ⟨r, hr⟩ => nomatch hr⟩,
      fun e he => ⟨_, rfl, hperm.symm.subset (List.mem_of_mem_head? he)⟩⟩

/-- The error set is tight: each of the model's errors is the one Go reports
    for *some* iteration order of the services map. -/
theorem every_failing_service_can_be_reported {α : Type} (rs : List (Str × Except Err α)) (es : List Err)
    (h : collect rs = .error es) (e : Err) (he : e ∈ es) :
    ∃ rs', rs.Perm rs' ∧ firstErr rs' = some e := by
  rcases collect_eq rs with ⟨r, hr, _⟩ | ⟨hc, _⟩
  · rw [hr] at h; cases h
  · rw [hc] at h
    simp only [Except.error.injEq] at h
    subst h
    obtain ⟨p, hp, hpe⟩ := List.mem_filterMap.1 he
    obtain ⟨a, b, hab⟩ := List.append_of_mem hp
    refine ⟨p :: (a ++ b), ?_, ?_⟩
    · rw [hab]; exact List.perm_middle
    · obtain ⟨n, x⟩ := p
      cases x with
      | ok v => simp at hpe
      | error e' =>
        simp only [Option.some.injEq] at hpe
        subst hpe
        rfl

/-- `WithServicesEnvironmentResolved` on any iteration order `svcs'` of the services map:
    its outcome class and its error are those of the list-order model. -/
theorem project_env_error_choice (penv : List (Key × Str)) (fs : FS) (discard : Bool) (svcs svcs' : List (Str × Service))
    (hp : svcs.Perm svcs') :
    (firstErr (svcs'.map fun p => (p.1, resolveServiceEnv penv fs discard p.2)) = none ↔
      ∃ r, resolveProjectEnv penv fs discard svcs = .ok r) ∧
    (∀ e, firstErr (svcs'.map fun p => (p.1, resolveServiceEnv penv fs discard p.2)) = some e →
      ∃ es, resolveProjectEnv penv fs discard svcs = .error es ∧ e ∈ es) :=
  reported_error_is_first_failing _ _ (hp.map _)

namespace Example

/-- sequence-form labels with a duplicate, a bare element and an `=` inside the value; label file `l1` under them -/
def yl0 : YLabels := .list [.kv ['L'] ['1'], .bare ['B'], .kv ['L'] ['2'], .kv ['D'] ['x', '=', 'y']]

example : (decodeLabels yl0) = [(['L'], ['2']), (['B'], []), (['D'], ['x', '=', 'y'])] := by decide +kernel
example : yamlLabel (.map [(['B'], none), (['L'], some ['1'])]) ['B'] = some [] := by decide +kernel

/-- a file system with the registered format `kv` (the harness's `c16kv` parser): file `k` is read by it — `A=$x` is taken
    literally, the bare `C` is inherited from the lookup — after the dotenv file `e` -/
def fsK : FS :=
  { node := fun p =>
      if p = ['k'] then some (.file [.assign ['A'] [.lit ['$', 'x']], .bare ['C'], .bare ['Z']])
      else if p = ['e'] then some (.file [.assign ['A'] [.lit ['1']], .assign ['Z'] [.lit ['z']], .assign ['Y'] [.lit ['y']]])
      else none
    formats := fun n => if n = ['k', 'v'] then some kvParser else none }

def sK : Service :=
  { environment := [(['Y'], none)], envFiles := [⟨['e'], true, []⟩, ⟨['k'], true, ['k', 'v']⟩], labels := [], labelFiles := [] }

/-- hypotheses of `env_precedence_any_format` / `registered_layer_precedence` hold with a registered format, and every layer
    shows: `A` from the registered layer (over `e`), `C` inherited from the project environment, `Z` inherited from the
    earlier file, `Y` value-less and unset over `e` -/
example : Distinct sK.environment ∧
    (resolveServiceEnv [(['C'], ['c'])] fsK false sK).map (fun s' =>
      ([['A'], ['C'], ['Z'], ['Y']] : List Key).map fun k => lookup k s'.environment) =
    .ok [some (some ['$', 'x']), some (some ['c']), some (some ['z']), some none] ∧
    layerVal fsK ⟨['k'], true, ['k', 'v']⟩
      (envLook [(['C'], ['c'])] (filesValGFrom [(['C'], ['c'])] fsK (fun _ => none) [⟨['e'], true, []⟩])) ['A'] = some ['$', 'x'] := by
  decide +kernel

/-- a run of `WithServicesLabelsResolved` in the sense of `ServiceLabelsRunFull`: no label file, labels `L`, `M` listed in
    the other order at the end -/
example : ServiceLabelsRunFull fsK { sK with labels := [(['L'], ['1']), (['M'], ['2'])] }
    (.ok [(['M'], ['2']), (['L'], ['1'])]) := by
  refine ⟨.ok [(['L'], some ['1']), (['M'], some ['2'])], ⟨.ok [], FilesRun.nil [], ?_⟩, ?_⟩
  · exact ⟨_, ⟨_, List.Perm.refl _, by decide +kernel, fun _ => rfl⟩, rfl⟩
  · refine ⟨_, ⟨by decide +kernel, fun k => ?_⟩, rfl⟩
    show lookup k [(['M'], ['2']), (['L'], ['1'])] = lookup k [(['L'], ['1']), (['M'], ['2'])]
    by_cases h1 : ['M'] = k
    · subst h1; rfl
    · by_cases h2 : ['L'] = k
      · subst h2; rfl
      · simp [lookup, h1, h2]

/-- … and the empty branch: nothing anywhere ⇒ `Labels` stay as they were -/
example : ServiceLabelsRunFull fsK sK (.ok []) :=
  ⟨.ok [], ⟨.ok [], FilesRun.nil [], _, ⟨_, List.Perm.refl _, by decide +kernel, fun _ => rfl⟩, rfl⟩, rfl⟩

/-- `resolve_env_idempotent` on the example: resolving the resolved service again changes nothing -/
example : (resolveServiceEnv [(['C'], ['c'])] fsK false sK).bind (resolveServiceEnv [(['C'], ['c'])] fsK true) =
    (resolveServiceEnv [(['C'], ['c'])] fsK true sK) := by decide +kernel

/-- two failing services with different errors: either can be reported -/
def twoFailing : List (Str × Except Err Unit) := [(['a'], .error .notFound), (['b'], .ok ()), (['c'], .error .parse)]
example : collect twoFailing = .error [.notFound, .parse] := by decide +kernel
example : firstErr twoFailing = some .notFound ∧ firstErr twoFailing.reverse = some .parse := by decide +kernel

end Example

end CV.EnvLayers
