import ComposeVerif.Props.C07Edge
/-!
# C07 — arguments are evaluated eagerly

The property text says that defaults, replacements and error messages "are themselves interpolated"; the code
decides *when*: `withDefaultWhenAbsence`, `withDefaultWhenPresence` and `withRequired` interpolate the argument
**before** they look the variable up, whether or not the branch that uses it is selected.  The specification
mirrors that (`Seg.eval` evaluates `arg` first), so a malformed or failing-mandatory substitution inside an
*unused* default is still an error.  A lazy implementation (interpolating the argument only in the selected
branch) contradicts `subst_argument_error_is_the_result` below.
-/
namespace CV.Template

/-- spec: the meaning of `${n op arg}` is the error of `arg` whenever `arg` has one — whatever `n` is bound to -/
theorem eval_argument_first (env : Env) (n : Str) (o : Op) (arg : List Seg) (e : Err)
    (h : evalL env arg = .error e) : (Seg.op n o arg).eval env = .error e := by
  rw [Seg.eval, h]

/-- **eager evaluation**: if the argument of `${n op arg}` evaluates to an error, that error is the result of
    `Substitute` for *every* operator and *every* state of `n` — also when the operator does not use the argument
    (`${n:-arg}` with `n` set, `${n:+arg}` with `n` unset, `${n:?arg}` with `n` set, …) -/
theorem subst_argument_error_is_the_result (env : Env) (n : Str) (o : Op) (arg : List Seg) (e : Err)
    (hn : validName n = true) (harg : wfL true arg = true) (he : evalOut env arg = .err e) :
    subst env (Seg.op n o arg).render = .err e := by
  rw [subst_op env n o arg hn harg, he]

/-- the same inside any well-formed template: an error in an unused default is the error of the whole template
    unless an earlier segment already failed -/
theorem subst_unused_argument_error_propagates (env : Env) (pre post : List Seg) (n : Str) (o : Op) (arg : List Seg)
    (e : Err) (p : Str) (h : WF (pre ++ Seg.op n o arg :: post) = true)
    (hpre : evalOut env pre = .ok p) (he : evalL env arg = .error e) :
    subst env (renderL (pre ++ Seg.op n o arg :: post)) = .err e := by
  rw [subst_render env _ h, evalOut_append, evalOut_cons, hpre, eval_argument_first env n o arg e he]
  have hnp := evalOut_ne_panic env post
  cases hpost : evalOut env post with
  | ok s => rfl
  | err e' => rfl
  | panic q => exact absurd hpost (hnp q)

/-- instance: a malformed substitution inside the *unused* default of a set variable is an error
    (`${A:-${}}` with `A` set; a lazy implementation returns the value of `A`) -/
theorem unused_malformed_default_is_an_error (env : Env) (v : Str) (_ : env ['A'] = some v) :
    subst env "${A:-${}}".toList = .err .invalid := by
  -- `subst_op_unbalanced_closed` at `${A:-` a `}` with a = `${}`: the brace counter closes at the last brace, the argument is
  -- `${}`, which is malformed
  have h := subst_op_unbalanced_closed env [] ['A'] .colonDash "${}".toList [] [] rfl (by decide)
    (by intro c hc; revert c; decide) (by intro c hc; cases hc) (Or.inl rfl) (by rintro ⟨c, hc, _⟩; cases hc) (by decide)
  have hinner : subst env "${}".toList = .err .invalid := by
    have := subst_malformed_err env [] ['}'] (by decide) ((matchBraced_invalid_iff _).1 rfl)
    simpa [renderL, evalOut, evalL, seq] using this
  rw [hinner] at h
  exact h

end CV.Template
