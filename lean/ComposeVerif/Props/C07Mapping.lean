import ComposeVerif.Props.C07
import ComposeVerif.Model.Dotenv
import ComposeVerif.Gen.C07Callers
/-!
# C07 — the mapping handed to `Substitute` by the dotenv parser keeps the variable states apart

`dotenv.expandVariables` (model: `CV.Dotenv.expandVars`, owned by C18) calls `template.Substitute` with the
mapping "lookup function first, earlier lines of the file second" (`envOf`).  The grammar's variable states only
mean something if that mapping keeps *set-but-empty* and *unset* apart; these theorems say it does, and what the
colon-less operators then yield inside an env file.  The real `expandVariables` is tied to this by the
`substDotenv` oracle of `harness/p/c07/c07_mapping.go` (lookup returning `("", true)`).
-/
namespace CV.Template
open CV.Dotenv

/-- the code around `Substitute` the models were written against is the code in the source now: the mapping closure
    of `dotenv.expandVariables` (lookup first — the condition is the bare `ok` —, then the earlier lines), the
    way `interpolation` picks and calls `Substitute` (the lookup function handed over as is), and the statements
    of `getFirstBraceClosingIndex` (every brace counted: `firstCloseGo`) -/
theorem callers_are_modelled :
    CV.Gen.c07_dotenv_substitute_arg = "value" ∧
    CV.Gen.c07_dotenv_mapping =
      ["if v, ok := lookupFn(k); ok { return v, true }", "v, ok := envMap[k]", "return v, ok"] ∧
    CV.Gen.c07_interpolate_substitute =
      ["opts.Substitute = template.Substitute",
       "newValue, err := opts.Substitute(value, template.Mapping(opts.LookupValue))"] ∧
    CV.Gen.c07_firstBraceClosingIndex =
      ["openVariableBraces := 0",
       "for i := 0; i < len(s); i++ { if s[i] == '}' { openVariableBraces-- if openVariableBraces == 0 { return i } } if s[i] == '{' { openVariableBraces++ } }",
       "return -1"] :=
  ⟨rfl, rfl, rfl, rfl⟩

/-- a hit of the lookup function is what `Substitute` sees — also when the value is empty, and whatever the file says -/
theorem dotenv_mapping_lookup_first (lookup : Env) (m : Map) (k v : Str) (h : lookup k = some v) :
    envOf lookup m k = some v := by
  simp [envOf, h]

theorem dotenv_mapping_file_second (lookup : Env) (m : Map) (k : Str) (h : lookup k = none) :
    envOf lookup m k = get m k := by
  simp [envOf, h]

/-- `expandVariables` is `Substitute` under that mapping: same value, same error -/
theorem dotenv_expandVars_is_subst (value : Str) (m : Map) (lookup : Env) :
    (∀ r, expandVars value m lookup = .ok (.ok r) ↔ subst (envOf lookup m) value = .ok r) ∧
    (∀ e, expandVars value m lookup = .ok (.error (.tmpl e)) ↔ subst (envOf lookup m) value = .err e) := by
  unfold expandVars
  cases h : subst (envOf lookup m) value <;> simp

/-- hence every C07 theorem transfers; in particular the refinement: a well-formed template in an env-file value
    evaluates by the grammar in the lookup-then-file environment -/
theorem dotenv_expandVars_render (t : List Seg) (m : Map) (lookup : Env) (h : WF t = true) :
    expandVars (renderL t) m lookup =
      match evalOut (envOf lookup m) t with
      | .ok v => .ok (.ok v)
      | .err e => .ok (.error (.tmpl e))
      | .panic p => .error (.tmpl p) := by
  unfold expandVars
  rw [subst_render _ t h]
  cases evalOut (envOf lookup m) t <;> rfl

/-- **set-but-empty is set**: a variable the lookup function reports as set to the empty string is *set* for the
    colon-less operators inside an env file — `${n-d}` is empty, `${n+r}` is `r`, `${n?e}` is empty (no error) —
    whatever the earlier lines of the file say about `n` -/
theorem dotenv_lookup_set_empty_is_set (lookup : Env) (m : Map) (n : Str) (arg : List Seg) (d : Str)
    (hn : validName n = true) (harg : wfL true arg = true) (hl : lookup n = some [])
    (hd : evalOut (envOf lookup m) arg = .ok d) :
    expandVars (Seg.op n .dash arg).render m lookup = .ok (.ok []) ∧
    expandVars (Seg.op n .plus arg).render m lookup = .ok (.ok d) ∧
    expandVars (Seg.op n .q arg).render m lookup = .ok (.ok []) := by
  have hv := dotenv_mapping_lookup_first lookup m n [] hl
  obtain ⟨h1, h2, h3⟩ := subst_op_set _ n arg d [] hn harg hd hv
  unfold expandVars
  rw [h1, h2, h3]
  exact ⟨rfl, rfl, rfl⟩

/-- … whereas an unset variable (no lookup hit, not defined earlier in the file) takes the other branch -/
theorem dotenv_unset_is_unset (lookup : Env) (m : Map) (n : Str) (arg : List Seg) (d : Str)
    (hn : validName n = true) (harg : wfL true arg = true) (hl : lookup n = none) (hm : get m n = none)
    (hd : evalOut (envOf lookup m) arg = .ok d) :
    expandVars (Seg.op n .dash arg).render m lookup = .ok (.ok d) ∧
    expandVars (Seg.op n .plus arg).render m lookup = .ok (.ok []) ∧
    expandVars (Seg.op n .q arg).render m lookup = .ok (.error (.tmpl (.required n d))) := by
  have hv : envOf lookup m n = none := by rw [dotenv_mapping_file_second lookup m n hl, hm]
  obtain ⟨h1, h2, h3⟩ := subst_op_unset _ n arg d hn harg hd hv
  unfold expandVars
  rw [h1, h2, h3]
  exact ⟨rfl, rfl, rfl⟩

/-- non-vacuity: the hypotheses are satisfiable and the two theorems separate the two states on `${V-d}` -/
example : expandVars (Seg.op ['V'] .dash [.lit ['d']]).render [] (fun k => if k = ['V'] then some [] else none) = .ok (.ok []) :=
  (dotenv_lookup_set_empty_is_set _ [] ['V'] [.lit ['d']] ['d'] (by decide) (by decide) (by simp)
    (by simp [evalOut, evalL, Seg.eval])).1

example : expandVars (Seg.op ['V'] .dash [.lit ['d']]).render [] (fun _ => none) = .ok (.ok ['d']) :=
  (dotenv_unset_is_unset _ [] ['V'] [.lit ['d']] ['d'] (by decide) (by decide) rfl rfl
    (by simp [evalOut, evalL, Seg.eval])).1

end CV.Template
