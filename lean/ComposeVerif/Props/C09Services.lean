import ComposeVerif.Props.C09Leaves
import ComposeVerif.Model.RoundTripScope
/-!
# C09 — services and builds in the generic round trip: everything except `env_file` and `build.ssh`

`Props/C09Leaves.lean` leaves twelve model types outside the generic theorem.  Two of them are the central ones:
`BuildConfig` (blocked by `SSHConfig`) and `ServiceConfig` (blocked by `EnvFile`, `BuildConfig`, and by its own
`MarshalYAML`, which clears `Name` before rendering the struct by its tags).  Here both come into scope:

* `EnvFile` / `SSHConfig` are admitted as leaves **without values** (`leavesNoEnvSSH`): their short rendering is read
  back only after `transform.Canonical`, a reload stage outside the decode model (`envfile_short_form_needs_canonical`),
  so a stable service / build has no `env_file` / `ssh` entries;
* a struct whose marshaller only pre-processes the value (`GenericF.structOnly`) is in scope for the values the
  pre-processing leaves alone — the first conjunct of `Stable`; for a service: `Name = ""` (`custom_ServiceConfig_unnamed`),
  the state in which the decoder produces it before the loader fills the name in from the key.
-/
namespace CV.C09
open CV CV.TypeDesc CV.Marshal CV.Encode CV.Decode CV.Generic CV.GenericF

-- keeps the elaborator from unfolding `Stable … 16 (.named "T") v` (string lookups) when such a hypothesis is an argument
attribute [local irreducible] GenericF.Stable

/-- all leaves of `Props/C09Leaves.lean` plus `EnvFile` and `SSHConfig` as leaves WITHOUT values (`leafOK` is false on both):
    a stable value has no `env_file` / `ssh` entries — the name says what is absent from the values, not from the names -/
def leavesNoEnvSSH : Leaves := { names := allLeafNames ++ ["EnvFile", "SSHConfig"], ok := leafOK, depth := 3 }

theorem leavesNoEnvSSH_sound (env : Env) (henv : leafEnvB env = true) (fmt : Fmt) : LeafSound env fmt leavesNoEnvSSH := by
  intro n hn f v hf hok hnn
  by_cases h : allLeafNames.contains n = true
  · exact allLeaves_sound env henv fmt n h f v hf hok hnn
  · exfalso
    simp only [leavesNoEnvSSH, List.contains_eq_mem, List.mem_append, decide_eq_true_eq] at hn h
    rcases hn with hn | hn
    · exact h hn
    · simp only [List.mem_cons, List.mem_nil_iff, or_false] at hn
      rcases hn with rfl | rfl <;> simp [leavesNoEnvSSH, leafOK] at hok

/-- the full statement is false for the decode model (as for `loader.Transform`): the short form of a required env_file
    entry is a string, which the struct decoder rejects — canonicalisation has to run first -/
theorem envfile_short_form_needs_canonical :
    encode genEnv .yaml 5 (.named "EnvFile") (mkEnvFile "a.env" true "") = .ok (.str "a.env") ∧
    decode genEnv 5 (.named "EnvFile") (.str "a.env") = .err "not-a-mapping" := by
  constructor <;> rfl

/-- `ServiceConfig.MarshalYAML` is not the identity on a named service: the name is cleared (the reload restores it
    from the key of the services mapping) -/
theorem service_name_cleared :
    custom .yaml "ServiceConfig" (.map [("Name", .str "web"), ("Image", .str "nginx")]) =
      some (.inr ("ServiceConfig", .map [("Name", .str ""), ("Image", .str "nginx")])) := by
  rfl

/-- the first conjunct of `Stable` for a service: `MarshalYAML` leaves a service without name alone (JSON has no marshaller) -/
theorem custom_ServiceConfig_unnamed (fmt : Fmt) (fs : List (String × Val)) (h : ∀ p ∈ fs, p.1 = "Name" → p.2 = .str "") :
    custom fmt "ServiceConfig" (.map fs) = none ∨ custom fmt "ServiceConfig" (.map fs) = some (.inr ("ServiceConfig", .map fs)) := by
  cases fmt with
  | json => exact Or.inl rfl
  | yaml =>
    refine Or.inr ?_
    show some (Sum.inr ("ServiceConfig", Val.map (setField "Name" (.str "") fs))) = _
    rw [setField_same "Name" (.str "") fs h]

/-- `BuildConfig`, `ServiceConfig` and the services mapping are in scope, both renderings, once `env_file` / `ssh` are
    admitted as value-less leaves (JSON skips `ServiceConfig.Name` — `json:"-"` — which `plainB` admits as "left out") -/
theorem plain_service_and_build :
    ([Fmt.yaml, Fmt.json].all fun fmt =>
      GenericF.plainB genEnv fmt leavesNoEnvSSH.names 16 (.named "BuildConfig") &&
      GenericF.plainB genEnv fmt leavesNoEnvSSH.names 16 (.named "ServiceConfig") &&
      GenericF.plainB genEnv fmt leavesNoEnvSSH.names 17 (.named "Services")) = true := by
  simp only [plainB_gen]
  exact services_tables.1

theorem plain_service_and_build_fmt (fmt : Fmt) :
    GenericF.plainB genEnv fmt leavesNoEnvSSH.names 16 (.named "BuildConfig") = true ∧
    GenericF.plainB genEnv fmt leavesNoEnvSSH.names 16 (.named "ServiceConfig") = true ∧
    GenericF.plainB genEnv fmt leavesNoEnvSSH.names 17 (.named "Services") = true := by
  have h := plain_service_and_build
  simp only [List.all_cons, List.all_nil, Bool.and_true, Bool.and_eq_true] at h
  cases fmt
  · exact ⟨h.1.1.1, h.1.1.2, h.1.2⟩
  · exact ⟨h.2.1.1, h.2.1.2, h.2.2⟩

/-- **a build section reloads to itself**, both renderings — `_partial`: no `ssh` keys (they need `transform.Canonical`) -/
theorem roundtrip_BuildConfig_partial (fmt : Fmt) (v : Val)
    (hs : GenericF.Stable genEnv fmt leavesNoEnvSSH 16 (.named "BuildConfig") v) :
    ∃ t, encode genEnv fmt 16 (.named "BuildConfig") v = .ok t ∧ decode genEnv 16 (.named "BuildConfig") t = .ok v :=
  generic_roundtrip_fmt genEnv fmt leavesNoEnvSSH (leavesNoEnvSSH_sound genEnv leafEnv_gen fmt) 16 _ v
    (plain_service_and_build_fmt fmt).1 hs

/-- **a service reloads to itself** through either rendering and `loader.Transform` — `_partial`: a service as the
    decoder produces it (name not yet filled in from the key), without `env_file` and `build.ssh`; the full statement fails
    on `envfile_short_form_needs_canonical` / `service_name_cleared`; the stages that repair both are decided by the oracle -/
theorem roundtrip_ServiceConfig_partial (fmt : Fmt) (v : Val)
    (hs : GenericF.Stable genEnv fmt leavesNoEnvSSH 16 (.named "ServiceConfig") v) :
    ∃ t, encode genEnv fmt 16 (.named "ServiceConfig") v = .ok t ∧ decode genEnv 16 (.named "ServiceConfig") t = .ok v :=
  generic_roundtrip_fmt genEnv fmt leavesNoEnvSSH (leavesNoEnvSSH_sound genEnv leafEnv_gen fmt) 16 _ v
    (plain_service_and_build_fmt fmt).2.1 hs

theorem roundtrip_Services_partial (fmt : Fmt) (v : Val)
    (hs : GenericF.Stable genEnv fmt leavesNoEnvSSH 17 (.named "Services") v) :
    ∃ t, encode genEnv fmt 17 (.named "Services") v = .ok t ∧ decode genEnv 17 (.named "Services") t = .ok v :=
  generic_roundtrip_fmt genEnv fmt leavesNoEnvSSH (leavesNoEnvSSH_sound genEnv leafEnv_gen fmt) 17 _ v
    (plain_service_and_build_fmt fmt).2.2 hs

/-- the harness classifier (`Model/RoundTripScope.lean`, op `c09.rt`) takes the names and the depth of its leaves from
    these; its value test `leafOKB` is its own (stricter: `HostsList` is out of scope there) -/
theorem classifier_leaves_match :
    RoundTripScope.leafNames = leavesNoEnvSSH.names ∧ RoundTripScope.leafDepth = leavesNoEnvSSH.depth :=
  ⟨rfl, rfl⟩

theorem isEmptyStr_eq {v : Val} (h : isEmptyStr v = true) : v = .str "" := by
  cases v <;> simp_all [isEmptyStr]

def minimalService : Val := .map ((Gen.struct_ServiceConfig.fields.filter rendered).map fun fd => (fd.goName, svcVals fd))

theorem svcVals_plain (fd : FieldDesc) (h : svcSpecial fd = false) : svcVals fd = zeroVal genEnv 15 fd.ty := by
  simp only [svcSpecial, Bool.or_eq_false_iff, beq_eq_false_iff_ne, ne_eq] at h
  simp [svcVals, h.1.1, h.1.2, h.2]

theorem minimalService_stable : GenericF.Stable genEnv .yaml leavesNoEnvSSH 16 (.named "ServiceConfig") minimalService := by
  have key := fun fd hm => Bool.and_eq_true_iff.mp (List.all_eq_true.mp services_tables.2 fd hm)
  refine (stable_struct_iff (by simp [leavesNoEnvSSH, allLeafNames]) rfl).mpr ⟨?_, svcVals, rfl, fun fd hm hr => ?_⟩
  · refine custom_ServiceConfig_unnamed .yaml _ fun p hp hk => ?_
    obtain ⟨fd, hfd, rfl⟩ := List.mem_map.mp hp
    have h := (key fd (List.mem_filter.mp hfd).1).1
    rw [show fd.goName = "Name" from hk] at h
    exact isEmptyStr_eq h
  · have h := (key fd hm).2
    cases hi : fd.yamlInline with
    | true => rw [hi, if_pos rfl] at h; exact ⟨fun _ => isNull_eq h, nofun, nofun⟩
    | false =>
      rw [hi, if_neg Bool.false_ne_true] at h
      refine ⟨nofun, ?_⟩
      cases hsp : svcSpecial fd with
      | false =>
        simp only [hsp, hr, Bool.false_eq_true, if_false, Bool.not_true, Bool.false_or] at h
        exact ⟨fun _ _ => svcVals_plain fd hsp, fun _ ho => (by rw [h] at ho; cases ho)⟩
      | true =>
        simp only [hsp, if_true, Bool.and_eq_true, Bool.not_eq_true', beq_iff_eq] at h
        refine ⟨fun _ ho => (by rw [h.1] at ho; cases ho), fun _ _ => ?_⟩
        rw [h.2]
        by_cases hn : fd.goName = "Image"
        · simp [GenericF.Stable, svcVals, hn, isScalar]
        · have hv : svcVals fd = .seq [.str "nginx", .str "-g"] ∨ svcVals fd = .seq [] := by
            simp only [svcSpecial, Bool.or_eq_true, beq_iff_eq] at hsp
            rcases hsp with (h' | h') | h'
            · exact absurd h' hn
            · exact Or.inl (by simp [svcVals, h'])
            · exact Or.inr (by simp [svcVals, h'])
          simp only [hn, if_false]
          refine (stable_leaf_iff (by simp [leavesNoEnvSSH, allLeafNames])).mpr ⟨by decide, ?_, by rcases hv with h' | h' <;> simp [h']⟩
          rcases hv with h' | h' <;> simp [leavesNoEnvSSH, leafOK, IsStrList, h', allStr]

example : ∃ t, encode genEnv .yaml 16 (.named "ServiceConfig") minimalService = .ok t ∧
    decode genEnv 16 (.named "ServiceConfig") t = .ok minimalService :=
  roundtrip_ServiceConfig_partial .yaml minimalService minimalService_stable

end CV.C09
