import ComposeVerif.Lemmas.FanoutProgress
import ComposeVerif.Lemmas.Interleave
import ComposeVerif.Gen.Globals
import ComposeVerif.Gen.FanoutSource
/-!
# C19 — the library is safe to use from concurrent goroutines

In this order:
* `CV.Fanout`: `types.(*Project).WithServicesTransform` as the transition system of `Model/Fanout.lean`, for EVERY service
  list without duplicates, EVERY outcome of the supplied function and EVERY schedule (`Reach` = any finite sequence of
  enabled steps): no deadlock, termination, exact result, first error, one call of the function per service, no race on
  `newProject.Services`; then the non-vacuity runs.
* `CV.Gen`: the regenerated facts — first the two that tie the fan-out model to the source (statement skeleton, statement
  order), then those about package-level state (`shared_writes_reviewed` …).
* `CV.Interleave`: non-interference of loads that write no shared state, for every interleaving (`interleave_noninterf`),
  and its bridge from the regenerated facts (`noninterf_from_static_facts`).

The lock-guarded state is in `Props/C19Locks.lean` and `Props/C19Conc.lean`, the traversal in `Props/C19Traversal.lean`,
shared inputs in `Props/C19Shared.lean`.
-/
namespace CV.Fanout

variable {cfg : Cfg} {s : St}

theorem fanout_invariant (hN : cfg.svcs.Nodup) (hR : Reach cfg s) : Inv cfg s := by
  induction hR with
  | init => exact inv_init cfg
  | step _ h ih => exact inv_step hN ih h

/-- **no deadlock**: in every reachable state the call has returned or some goroutine can take a step -/
theorem fanout_deadlock_free (hN : cfg.svcs.Nodup) (hR : Reach cfg s) :
    terminal s ∨ ∃ l s', step? cfg s l = some s' :=
  deadlock_free_of_inv (fanout_invariant hN hR)

theorem fanout_measure_decreases (hN : cfg.svcs.Nodup) (hR : Reach cfg s) {l : Label} {s' : St}
    (h : step? cfg s l = some s') : mu cfg s' < mu cfg s :=
  mu_decreases hN (fanout_invariant hN hR) h

/-- **termination**: every schedule is finite — no run from the initial state has more than `7·n + 8` steps -/
theorem fanout_terminates (hN : cfg.svcs.Nodup) (ls : List Label) (s' : St) (h : run cfg (init cfg) ls = some s') :
    ls.length ≤ 7 * cfg.svcs.length + 8 := by
  have := Runs.length_le (replays cfg) .step (fun hs => mu_decreases hN (fanout_invariant hN hs)) .init h
  rw [mu_init] at this; omega

theorem fanout_can_finish (hN : cfg.svcs.Nodup) (hR : Reach cfg s) :
    ∃ ls s', run cfg s ls = some s' ∧ terminal s' :=
  Runs.can_finish (replays cfg) .step (fun hs => mu_decreases hN (fanout_invariant hN hs))
    (fun hs => deadlock_free_of_inv (fanout_invariant hN hs)) hR

/-- **exact result**: when the call has returned without error, the project's services are exactly
    `{n ↦ fn n s}` — every service of the receiver, nothing else, each with the value the function returned for it -/
theorem fanout_complete (hN : cfg.svcs.Nodup) (hR : Reach cfg s) (ht : terminal s) (he : s.firstErr = none) :
    ∃ f, s.services = some f ∧ ∀ v, f v = if v ∈ cfg.svcs then cfg.fn v else none :=
  ⟨_, by rw [(returned_outcome (fanout_invariant hN hR) ht).2, if_pos he], fun _ => rfl⟩

/-- **first error**: the returned error is the error of the FIRST call of the function that failed (in the order
    in which the failures were recorded), it is an error of a service of the project, no error is returned iff no
    call failed, and on error the project keeps the receiver's services -/
theorem fanout_first_error (hN : cfg.svcs.Nodup) (hR : Reach cfg s) (ht : terminal s) :
    s.firstErr = s.fails.head? ∧
    (∀ v, s.firstErr = some v → v ∈ cfg.svcs ∧ cfg.fn v = none) ∧
    (s.firstErr = none ↔ ∀ v ∈ cfg.svcs, cfg.fn v ≠ none) ∧
    (s.firstErr ≠ none → s.services = none) :=
  have hI := fanout_invariant hN hR
  have ho := returned_outcome hI ht
  ⟨hI.errFails, fun _ => firstErr_failed hI, ho.1, fun hne => by rw [ho.2, if_neg hne]⟩

/-- **one call per service**: when the call has returned, the supplied function has been invoked exactly once for every
    service of the project and for nothing else (also after a failure: no worker is skipped) -/
theorem fanout_calls_once (hN : cfg.svcs.Nodup) (hR : Reach cfg s) (ht : terminal s) :
    s.calls.Nodup ∧ ∀ v, v ∈ s.calls ↔ v ∈ cfg.svcs := by
  have hI := fanout_invariant hN hR
  refine ⟨hI.callsNodup, fun v => ⟨fun hv => hI.wSvcs v ((hI.callsW v).mp hv).1, fun hv => ?_⟩⟩
  have h1 := hI.waitAll (.inr ht) v hv
  have h2 := (hI.ret ht).2 v hv
  refine (hI.callsW v).mpr ⟨h1, fun hs => ?_⟩
  rw [hs] at h2; simp [live] at h2

/-- **no data race on `newProject.Services`**: in no reachable state are two conflicting accesses to the field
    (the caller's read before its loop / after `Wait`, the collector's final store) enabled together -/
theorem fanout_no_field_race (hN : cfg.svcs.Nodup) (hR : Reach cfg s) : ¬ RaceAt cfg s := by
  have hI := fanout_invariant hN hR
  rintro ⟨l₁, l₂, w₁, w₂, hact, ha₁, ha₂, hw, he₁, he₂⟩
  rcases enabled_fieldAccess hI ha₁ he₁ with ⟨rfl, c₁⟩ | ⟨rfl, c₁⟩ <;>
    rcases enabled_fieldAccess hI ha₂ he₂ with ⟨rfl, c₂⟩ | ⟨rfl, c₂⟩
  · exact hact rfl
  · rcases c₂ with c₂ | c₂ <;> rw [c₁] at c₂ <;> cases c₂
  · rcases c₁ with c₁ | c₁ <;> rw [c₂] at c₁ <;> cases c₁
  · rcases hw with h | h <;> cases h

/-- **the outcome does not depend on the schedule** (`_partial`: everything but the identity of the error).  Two
    returned states of the same call — reached by ANY two schedules, spawn orders, completion orders — agree on whether an
    error is returned, on whether the services were replaced, and on every service value; when at most one service's
    function fails they also return the same error.  The full-strength statement (the same error always) is refuted in
    `Neg/C19.lean` (`fanout_error_depends_on_schedule`): with two failing services the schedule decides which is first. -/
theorem fanout_schedule_independent_partial (hN : cfg.svcs.Nodup) {s₁ s₂ : St} (h₁ : Reach cfg s₁) (h₂ : Reach cfg s₂)
    (t₁ : terminal s₁) (t₂ : terminal s₂) :
    (s₁.firstErr = none ↔ s₂.firstErr = none) ∧
    (s₁.services.isSome = s₂.services.isSome) ∧
    (∀ f₁ f₂, s₁.services = some f₁ → s₂.services = some f₂ → ∀ v, f₁ v = f₂ v) ∧
    ((∀ v w, v ∈ cfg.svcs → w ∈ cfg.svcs → cfg.fn v = none → cfg.fn w = none → v = w) → s₁.firstErr = s₂.firstErr) := by
  have hI₁ := fanout_invariant hN h₁
  have hI₂ := fanout_invariant hN h₂
  have o₁ := returned_outcome hI₁ t₁
  have o₂ := returned_outcome hI₂ t₂
  have hiff : s₁.firstErr = none ↔ s₂.firstErr = none := o₁.1.trans o₂.1.symm
  have hsv : s₁.services = s₂.services := by rw [o₁.2, o₂.2]; simp only [hiff]
  refine ⟨hiff, congrArg Option.isSome hsv,
    fun f₁ f₂ hf₁ hf₂ => congrFun (Option.some.inj (hf₁.symm.trans (hsv.trans hf₂))), fun huniq => ?_⟩
  cases e₁ : s₁.firstErr with
  | none => exact (hiff.mp e₁).symm
  | some v =>
    cases e₂ : s₂.firstErr with
    | none => exact absurd (hiff.mpr e₂) (e₁ ▸ nofun)
    | some w =>
      obtain ⟨a₁, b₁⟩ := firstErr_failed hI₁ e₁
      obtain ⟨a₂, b₂⟩ := firstErr_failed hI₂ e₂
      rw [huniq v w a₁ a₂ b₁ b₂]

def exCfg : Cfg := { svcs := [0, 1, 2], fn := fun v => if v = 1 then none else some (10 + v) }
def exOk : Cfg := { svcs := [0, 1, 2], fn := fun v => some (10 + v) }

def exRunOk : List Label :=
  [.mRead, .mSpawnC, .mSpawn 2, .mSpawn 0, .wBegin 2, .mSpawn 1, .mWait, .wBegin 0, .wReturn 2, .wSend 2, .cRecv, .wBegin 1,
   .wReturn 1, .wReturn 0, .wSend 0, .cStore, .wSend 1, .wExit 2, .cRecv, .cStore, .cRecv, .wExit 0, .cStore, .cExit, .wExit 1, .mReturn]

def exRunErr : List Label :=
  [.mRead, .mSpawnC, .mSpawn 0, .mSpawn 1, .mSpawn 2, .mWait, .wBegin 1, .wBegin 0, .wReturn 1, .wReturn 0, .wFail 1, .wSend 0,
   .cRecv, .cStore, .wBegin 2, .wReturn 2, .wSend 2, .cCtxDone, .cReturn, .wExit 0, .wExit 2, .mReturn]

/-- what the caller observes of a final state -/
def observe (cfg : Cfg) (s : St) : MPc × Option V × Option (List (Option Nat)) :=
  (s.m, s.firstErr, s.services.map fun f => cfg.svcs.map f)

example : exOk.svcs.Nodup ∧ exCfg.svcs.Nodup := by decide
/-- the witness state of `Neg/C19.lean` (`legacy_order_races`) with the statement order of the code after the `fix:` commit: no race -/
example : ¬ RaceAt emptyCfg (init emptyCfg) := fanout_no_field_race (by decide) .init
/-- a 26-step run with interleaved workers reaches a returned state with exactly `fn`'s results -/
example : (run exOk (init exOk) exRunOk).map (observe exOk) = some (.returned, none, some [some 10, some 11, some 12]) := by decide +kernel
/-- a run in which service 1 fails while 0 and 2 still send: the error of 1 is returned, the services are untouched -/
example : (run exCfg (init exCfg) exRunErr).map (observe exCfg) = some (.returned, some 1, none) := by decide +kernel
/-- reachable non-terminal states exist in which several goroutines are enabled (the theorems quantify over real choice) -/
example : ((run exCfg (init exCfg) (exRunErr.take 12)).map fun s => (enabled exCfg s).length) = some 4 := by decide +kernel

end CV.Fanout

namespace CV.Gen

/-- **the modelled function is the source's**: the statement skeleton of `WithServicesTransform` (hook calls and comments
    removed) regenerated from the tree is, line for line, the one `Model/Fanout.lean` models — `expect` is the
    number of services and the result channel is buffered with exactly that capacity (`wSend` never blocks), the field is
    read before the collector starts, the collector selects on `ctx.Done()` and the channel and counts down, a worker
    tests the error before it sends.  An unbuffered channel, a dropped `select` case, a send before the error test … all
    change this fact. -/
theorem fanout_source_is_modelled :
    fanoutSource =
    [
    "func (p *Project) WithServicesTransform(fn func(name string, s ServiceConfig) (ServiceConfig, error)) (*Project, error) {",
    "type result struct {",
    "name string",
    "service ServiceConfig",
    "}",
    "expect := len(p.Services)",
    "resultCh := make(chan result, expect)",
    "newProject := p.deepCopy()",
    "services := newProject.Services",
    "eg, ctx := errgroup.WithContext(context.Background())",
    "eg.Go(func() error {",
    "s := Services{}",
    "for expect > 0 {",
    "select {",
    "case <-ctx.Done():",
    "return nil",
    "case r := <-resultCh:",
    "s[r.name] = r.service",
    "expect--",
    "}",
    "}",
    "newProject.Services = s",
    "return nil",
    "})",
    "for n, s := range services {",
    "name := n",
    "service := s",
    "eg.Go(func() error {",
    "updated, err := fn(name, service)",
    "if err != nil {",
    "return err",
    "}",
    "resultCh <- result{",
    "name: name,",
    "service: updated,",
    "}",
    "return nil",
    "})",
    "}",
    "return newProject, eg.Wait()",
    "}"] :=
  rfl

/-- the statement order the model's initial state assumes (the caller reads `newProject.Services` before the collector
    goroutine exists, two `eg.Go` sites) is the order of the source -/
theorem fanout_model_order_is_the_sources : fanoutFieldReadPrecedesSpawn = true := rfl

/-- the regenerated list of writes to package-level state that happen after initialisation without a held mutex is
    the reviewed one: only `dotenv.RegisterFormat` (an exported registration function that no load, fan-out or
    traversal reaches).  A new package-level cache written during a load, or the removal of the mutex around
    `versionWarning`, changes the regenerated fact and breaks this theorem. -/
theorem shared_writes_reviewed :
    unguardedGlobalWrites = [("dotenv", "formats", "dotenv.RegisterFormat", false)] ∧
    (unguardedGlobalWrites.filter fun (_, _, _, reach) => reach) = [] :=
  ⟨rfl, rfl⟩

/-- every access — READS included — to a package-level variable that is written under a held `Lock()` happens under a
    held `Lock()` too (outside `init`); the guarded variables are the reviewed ones.  Narrowing the locked region of
    `warnObsoleteVersion` so that `slices.Contains` reads `versionWarning` unlocked changes this regenerated fact. -/
theorem guarded_vars_always_locked :
    lockGuardedVars = ["loader.versionWarning"] ∧ unguardedAccessesOfGuardedVars = [] :=
  ⟨rfl, rfl⟩

/-- no function hands out a package-level variable (or a part, an alias or the address of one) as its result: nobody
    outside the writers listed in `globalWrites` can store through it.  `globalWrites` itself also lists stores
    through LOCAL ALIASES of a package-level variable (`t := G; t[k] = v`, `p := &G; (*p)[k] = v`, `for _, x := range G`)
    and stores made by a callee that is handed the variable (`f(G)` with `f` — transitively — storing through that
    parameter, `sort.Strings(G)` …), so `shared_writes_reviewed` speaks about those as well. -/
theorem no_global_escapes_by_return : globalsReturned = [] :=
  rfl

/-- reference-typed package-level variables leave their variable only once: the interpolation cast table is placed in the
    per-load `interp.Options.TypeCastMapping` (by `loader.toOptions`) — and nothing in the module stores or deletes through
    a field of that name, so the copy is read-only.  A table handed to a struct field / map / slice / channel, or `&G`
    handed to code outside the module, adds a row here; a store through such a field adds one to the last list. -/
theorem global_escapes_reviewed :
    globalsEscaping = [("loader", "interpolateTypeCastMapping", "loader.toOptions", "literal:interp.Options.TypeCastMapping")] ∧
    escapedIntoFields = ["TypeCastMapping"] ∧ storesThroughEscapedFields = [] :=
  ⟨rfl, rfl, rfl⟩

/-- the only store into caller-owned data through a parameter of the loader / cli packages is the known one
    (`loader.projectName`, finding `race-write@loader.projectName`); the full-strength statement
    `callerOwnedWrites = []` is refuted in `Neg/C19.lean` -/
theorem caller_owned_writes_reviewed_partial :
    callerOwnedWrites = [("loader.projectName", "details", "details.Environment[consts.ComposeProjectName]")] :=
  rfl

end CV.Gen

namespace CV.Interleave

/-- **non-interference**: if every load writes only its own locations (no package-level variable, no caller-owned
    map, nothing of another load) and what it writes depends only on its own and the shared locations, then for
    EVERY interleaving `sched` of any number of loads, each load ends with exactly the state it reaches when its
    steps run alone, and the shared state is unchanged -/
theorem interleave_noninterf {Loc Val Tid : Type} [DecidableEq Tid] (S : Sys Loc Val Tid)
    (hW : WritesOwn S) (hR : ReadsOwnOrShared S) (sched : List Tid) (m : Loc → Val) :
    (∀ t x, S.owner x = some t → exec S sched m x = solo S t (sched.count t) m x) ∧
    (∀ x, S.owner x = none → exec S sched m x = m x) :=
  ⟨fun t x hx => exec_agree_solo hW hR t sched m x (.inl hx), shared_unchanged S hW sched m⟩

/-- a two-load system satisfying the hypotheses of `interleave_noninterf`: each load increments its own counter by the
    value of a shared read-only location -/
def exSys : Sys (Option Bool) Nat Bool :=
  { owner := fun x => x,
    step := fun t m x => if x = some t then m x + m none else m x }

example : WritesOwn exSys := by
  intro t m x hx
  simp only [exSys] at hx ⊢
  split
  · next h => exact absurd h hx
  · rfl

example : ReadsOwnOrShared exSys := by
  intro t m m' hA x hx
  simp only [exSys] at hx ⊢
  subst hx
  simp only [if_true]
  rw [hA (some t) (.inl rfl), hA none (.inr rfl)]

/-- **from the static facts to `WritesOwn`** .  Let `foot t` be a set of
    locations that over-approximates what load `t` may write (`frame`: a step changes nothing outside it).  If
    (`globalFoot`) a package-level variable is in a load's footprint only when the regenerated table lists a write to it
    that is reachable from a load entry point, after `init`, without a held lock — and
    `CV.Gen.shared_writes_reviewed` says there is no such row — and (`privFoot`) every other location of the footprint is
    owned by the writing load, then the loads write only what they own; with `ReadsOwnOrShared` every interleaving
    gives each load the state it reaches alone and leaves the package-level variables untouched.
    What stays trusted is exactly `frame` + `globalFoot`: that `translator/globals.go` sees every write (its blind spots are
    listed in design/C19.md). -/
theorem noninterf_from_static_facts {L Val Tid : Type} [DecidableEq Tid] (S : Sys (PLoc L) Val Tid)
    (foot : Tid → PLoc L → Prop)
    (frame : ∀ t m x, ¬ foot t x → S.step t m x = m x)
    (globalsShared : ∀ p v, S.owner (.global p v) = none)
    (globalFoot : ∀ t p v, foot t (.global p v) → ∃ w, (p, v, w, true) ∈ CV.Gen.unguardedGlobalWrites)
    (privFoot : ∀ t l, foot t (.priv l) → S.owner (.priv l) = some t)
    (hR : ReadsOwnOrShared S) (sched : List Tid) (m : PLoc L → Val) :
    (∀ t x, S.owner x = some t → exec S sched m x = solo S t (sched.count t) m x) ∧
    (∀ p v, exec S sched m (.global p v) = m (.global p v)) := by
  have hnone : ∀ p v w, (p, v, w, true) ∉ CV.Gen.unguardedGlobalWrites := by
    intro p v w hmem
    have h := CV.Gen.shared_writes_reviewed.2
    have : (p, v, w, true) ∈ CV.Gen.unguardedGlobalWrites.filter (fun (_, _, _, reach) => reach) :=
      List.mem_filter.mpr ⟨hmem, rfl⟩
    rw [h] at this; cases this
  have hW : WritesOwn S := by
    intro t m x hx
    apply frame
    intro hf
    cases x with
    | global p v => obtain ⟨w, hw⟩ := globalFoot t p v hf; exact hnone p v w hw
    | priv l => exact hx (privFoot t l hf)
  have h := interleave_noninterf S hW hR sched m
  exact ⟨h.1, fun p v => h.2 _ (globalsShared p v)⟩

/-- non-vacuity: two loads that each add the value of a package-level table entry to their own counter satisfy every
    hypothesis of `noninterf_from_static_facts` (footprint = the load's own counter) -/
def exLoads : Sys (PLoc Bool) Nat Bool :=
  { owner := fun x => match x with | .global _ _ => none | .priv b => some b,
    step := fun t m x => if x = .priv t then m x + m (.global "loader" "interpolateTypeCastMapping") else m x }

example (sched : List Bool) (m : PLoc Bool → Nat) :
    ∀ p v, exec exLoads sched m (.global p v) = m (.global p v) :=
  (noninterf_from_static_facts exLoads (fun t x => x = .priv t)
    (by intro t m x hx; simp only [exLoads]; split
        · next h => exact absurd h hx
        · rfl)
    (by intro p v; rfl)
    (by intro t p v h; cases h)
    (by intro t l h; cases h; rfl)
    (by intro t m m' hA x hx
        cases x with
        | global p v => simp [exLoads] at hx
        | priv b =>
          simp only [exLoads] at hx
          have hb : b = t := by injection hx
          subst hb
          simp only [exLoads, if_true]
          rw [hA (.priv b) (.inl rfl), hA (.global _ _) (.inr rfl)])
    sched m).2

end CV.Interleave
