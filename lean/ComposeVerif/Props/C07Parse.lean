import ComposeVerif.Props.C07
import ComposeVerif.Model.TemplateParse
/-!
# C07 — the refinement theorem as a statement about *strings*

`subst_render` quantifies over ASTs.  With the checked parser `parse?` (Model/TemplateParse.lean) the grammar is a
decidable set of strings and the statement becomes: **for every string the grammar derives (unambiguously), and every
variable mapping, `Substitute` returns what the grammar says** — value or empty string for `$VAR` / `${VAR}`, the
operator table with recursively interpolated arguments, `$` for `$$`, literal text verbatim, values never expanded
again, first error in left-to-right order.  The harness evaluates `parse?` on every string of the exhaustive small
scope (and on every generated rendering) and compares the real `template.Substitute` with `evalOut` whenever it
accepts; the share of accepted strings is part of the evidence.
-/
namespace CV.Template

/-- the parser is sound by construction: what it returns is a well-formed AST whose concrete syntax is the text -/
theorem parse_sound (s : Str) (t : List Seg) (h : parse? s = some t) : renderL t = s ∧ WF t = true := by
  unfold parse? at h
  split at h
  · split at h
    · next hc => cases h; exact hc
    · cases h
  · cases h

/-- **the property over strings**: on every string of the grammar `Substitute` computes the grammar's meaning -/
theorem subst_parsed (env : Env) (s : Str) (t : List Seg) (h : parse? s = some t) :
    subst env s = evalOut env t := by
  obtain ⟨hr, hw⟩ := parse_sound s t h
  rw [← hr]; exact subst_render env t hw

/-- two well-formed ASTs with the same concrete syntax mean the same: the meaning of a string of the grammar does not
    depend on the AST chosen for it -/
theorem parsed_meaning_unique (env : Env) (t t' : List Seg) (h : WF t = true) (h' : WF t' = true)
    (hr : renderL t = renderL t') : evalOut env t = evalOut env t' := by
  rw [← subst_render env t h, ← subst_render env t' h', hr]

/-- the meaning `evalOut` gives to an accepted string is not a panic (`evalOut` never is one: `evalOut_ne_panic`; that
    `Substitute` panics on no string at all is `subst_never_panics`) -/
theorem parsed_never_panics (env : Env) (s : Str) (t : List Seg) (h : parse? s = some t) (p : PanicSite) :
    evalOut env t ≠ .panic p := by
  rw [← subst_parsed env s t h]; exact subst_never_panics env s p

/-- every rendering of a well-formed AST that the parser accepts is accepted *with the AST's meaning* (whatever AST the
    parser rebuilt: literals may be split differently) -/
theorem parse_render_meaning (env : Env) (t t' : List Seg) (h : WF t = true) (hp : parse? (renderL t) = some t') :
    evalOut env t' = evalOut env t := by
  rw [← subst_parsed env _ t' hp, subst_render env t h]

/-! non-vacuity: the parser accepts a JSON-like default followed by text and another substitution, nested operators
    with an escape, … -/
example : (parse? ['$', '{', 'A', ':', '-', '{', '}', '}', ' ', '$', '{', 'B', '}']).isSome = true := by decide +kernel
example : (parse? ['a', '$', '$', '$', '{', 'A', ':', '?', '$', '{', 'B', '-', 'x', '}', 'y', '}', '$', 'C', '-']).isSome = true := by
  decide +kernel
/-- … and rejects what the grammar does not derive unambiguously: an unbalanced brace in a default, an empty name, a
    lone `$`, a newline inside an argument -/
example : (parse? ['$', '{', 'A', ':', '-', '{', '}', ' ', '$', '{', 'B', '}']).isSome = false ∧
    (parse? ['$', '{', '}']).isSome = false ∧ (parse? ['a', '$', ' ']).isSome = false ∧
    (parse? ['$', '{', 'A', '-', '\n', '}']).isSome = false := by decide +kernel
/-- the string-level theorem applied: `${A-d}` with `A` set to the empty string is empty, with `A` unset it is `d` -/
example : subst (fun k => if k = ['A'] then some [] else none) ['$', '{', 'A', '-', 'd', '}'] = .ok [] ∧
    subst (fun _ => none) ['$', '{', 'A', '-', 'd', '}'] = .ok ['d'] := by
  have h : parse? ['$', '{', 'A', '-', 'd', '}'] = some [.op ['A'] .dash [.lit ['d']]] := by rfl
  exact ⟨by rw [subst_parsed _ _ _ h]; rfl, by rw [subst_parsed _ _ _ h]; rfl⟩

end CV.Template
