import ComposeVerif.Props.C20
import ComposeVerif.Lemmas.SecretsInclude
import ComposeVerif.Gen.SecretsIncludeFacts
/-!
# C20 — secrets and configs declared in an included file

An included model is resolved twice: by its own `loadYamlModel` with the include's environment (the including
environment merged with the include's env file) and, after `importResources`, by the including model with its own
environment.  Model in `Model/SecretsInclude.lean`, lemmas in `Lemmas/SecretsInclude.lean`.
-/
namespace CV.Secrets
open CV
open CV.Val hiding lookup_insert_self lookup_insert_ne

/-- `Mapping.Merge` keeps what is defined, `ResolveEnvironment` calls the three resolvers, `loadYamlModel` ends with
the modelled resolution statement (an included model resolves services and secrets only) followed by the `return`,
`ApplyInclude` loads the included model with `environment.Clone().Merge(envFromFile)`, `importResource` has the
modelled body -/
theorem include_functions_are_modelled :
    CV.Gen.SecretsInclude.body_Mapping_Merge = "{ for k, v := range o { if _, set := m[k]; !set { m[k] = v } } return m }" ∧
    CV.Gen.SecretsInclude.body_Mapping_Clone = "{ clone := Mapping{} for k, v := range m { clone[k] = v } return clone }" ∧
    CV.Gen.SecretsInclude.body_ResolveEnvironment = "{ resolveServicesEnvironment(dict, environment) resolveSecretsEnvironment(dict, environment) resolveConfigsEnvironment(dict, environment) }" ∧
    CV.Gen.SecretsInclude.loadYamlModel_resolution = ["if len(included) == 0 { ResolveEnvironment(dict, config.Environment) } else { resolveServicesEnvironment(dict, config.Environment) resolveSecretsEnvironment(dict, config.Environment) }"] ∧
    CV.Gen.SecretsInclude.loadYamlModel_after_resolution = ["return dict, nil"] ∧
    CV.Gen.SecretsInclude.applyInclude_environment = "environment.Clone().Merge(envFromFile)" ∧
    CV.Gen.SecretsInclude.applyInclude_envFromFile = ["envFromFile, err := dotenv.GetEnvFromFile(environment, r.EnvFile)"] ∧
    CV.Gen.SecretsInclude.applyInclude_load = "imported, err := loadYamlModel(ctx, config, loadOptions, &cycleTracker{}, included)" ∧
    CV.Gen.SecretsInclude.body_importResource = "{ from := source[key] if from != nil { var to map[string]any if v, ok := target[key]; ok && v != nil { to, ok = v.(map[string]any) if !ok { return fmt.Errorf(\"%s must be a mapping\", key) } } else { to = map[string]any{} } resources, ok := from.(map[string]any) if !ok { return fmt.Errorf(\"%s must be a mapping\", key) } for name, a := range resources { if conflict, ok := to[name]; ok { if same(key, name, a, conflict) { continue } return fmt.Errorf(\"%s.%s conflicts with imported resource\", key, name) } to[name] = a } target[key] = to } return nil }" :=
  ⟨rfl, rfl, rfl, rfl, rfl, rfl, rfl, rfl, rfl⟩

/-- **no other path for the value** (whole library, regenerated): the resolvers are called from `ResolveEnvironment` and
from the last statement of `loadYamlModel` only; the carrier key is used by `resolveSecretsEnvironment` (write) and
`secretConfigDecoderHook` (read, delete) only; the rendering flag is written by `marshallOptions.apply` (and copied by the
generated deep copies) and read by the two secret renderers only -/
theorem no_other_path_for_the_value :
    CV.Gen.SecretsInclude.resolver_call_sites =
      ["loader/environment.go:ResolveEnvironment:resolveConfigsEnvironment", "loader/environment.go:ResolveEnvironment:resolveSecretsEnvironment",
       "loader/loader.go:loadYamlModel:ResolveEnvironment", "loader/loader.go:loadYamlModel:resolveSecretsEnvironment"] ∧
    CV.Gen.SecretsInclude.carrier_uses =
      ["loader/environment.go:resolveSecretsEnvironment:SecretConfigXValue", "loader/loader.go:processExtensions:SecretConfigXValue",
       "loader/loader.go:secretConfigDecoderHook:SecretConfigXValue", "loader/loader.go:secretConfigDecoderHook:SecretConfigXValue"] ∧
    CV.Gen.SecretsInclude.flag_writes =
      ["types/derived.gen.go:deriveDeepCopy_*:dst.marshallContent = src.marshallContent", "types/derived.gen.go:deriveDeepCopy_*:dst.marshallContent = src.marshallContent",
       "types/project.go:marshallOptions.apply:config.marshallContent = true"] ∧
    CV.Gen.SecretsInclude.flag_uses =
      ["types/derived.gen.go:deriveDeepCopy_*:marshallContent", "types/derived.gen.go:deriveDeepCopy_*:marshallContent",
       "types/derived.gen.go:deriveDeepCopy_*:marshallContent", "types/derived.gen.go:deriveDeepCopy_*:marshallContent",
       "types/project.go:marshallOptions.apply:marshallContent", "types/types.go:SecretConfig.MarshalJSON:marshallContent",
       "types/types.go:SecretConfig.MarshalYAML:marshallContent"] := ⟨rfl, rfl, rfl, rfl⟩

/-- **the include's environment**: what the including environment defines wins; the include's env file only adds -/
theorem merge_top_wins (top file : Env) (k : String) :
    (mergeEnv top file).lookup k = match top.lookup k with | some v => some v | none => file.lookup k :=
  lookup_mergeEnv top file k

/-- **the second resolution keeps the value**: resolving with the including environment an object already resolved
with the include's environment changes nothing — whether or not the including environment defines the variable
(for any carrier other than `environment`: `x-#value`, `content`) -/
theorem second_resolution_keeps_value (c : String) (hc : c ≠ "environment") (top file : Env) (v : Val) :
    resolveObj c top (resolveObj c (mergeEnv top file) v) = resolveObj c (mergeEnv top file) v :=
  resolveObj_second c hc (EnvExtends_mergeEnv top file) v

/-- **nested includes**: the model of the innermost file is resolved again by every model on the way up; as long as the
innermost environment extends each of them (it does: every include merges its env file *under* the environment it
is given, `merge_extends`), the value found first survives any number of later resolutions.  The outermost resolution is
the head of `outer`. -/
theorem resolution_chain_keeps_value (c : String) (hc : c ≠ "environment") {big : Env} (v : Val)
    (outer : List Env) (h : ∀ e ∈ outer, EnvExtends e big) :
    outer.foldr (fun e acc => resolveObj c e acc) (resolveObj c big v) = resolveObj c big v := by
  induction outer with
  | nil => rfl
  | cons e r ih =>
    simp only [List.foldr]
    rw [ih fun x hx => h x (List.mem_cons_of_mem _ hx)]
    exact resolveObj_second c hc (h e List.mem_cons_self) v

/-- the include's environment extends the including one, and so on transitively -/
theorem merge_extends (top file file2 : Env) :
    EnvExtends top (mergeEnv top file) ∧ EnvExtends top (mergeEnv (mergeEnv top file) file2) :=
  ⟨EnvExtends_mergeEnv top file, EnvExtends_trans (EnvExtends_mergeEnv top file) (EnvExtends_mergeEnv _ file2)⟩

/-- non-vacuity: two levels of include, the variable is defined by the innermost env file only -/
example : [[("A", "a")], mergeEnv [("A", "a")] [("B", "b")]].foldr (fun e acc => resolveObj xValue e acc)
      (resolveObj xValue (mergeEnv (mergeEnv [("A", "a")] [("B", "b")]) [("V", "inner")]) (.map [("environment", .str "V")])) =
    .map [("environment", .str "V"), (xValue, .str "inner")] := by decide +kernel

/-- the second resolution leaves a whole section of a model resolved with the include's environment as it is -/
theorem second_resolution_keeps_section (sect c : String) (hc : c ≠ "environment") (top file : Env) (dict : KVs) :
    resolveSection sect c top (resolveSection sect c (mergeEnv top file) dict) = resolveSection sect c (mergeEnv top file) dict := by
  unfold resolveSection
  cases h : Val.lookup sect dict with
  | none => simp only [h]
  | some v =>
    cases v with
    | map objs => simp only [lookup_insert_self, resolveObjs_second c hc (EnvExtends_mergeEnv top file), insert_insert]
    | _ => simp only [h]

/-- **taint confinement survives a second resolution**: an object whose only taint is a string under the first carrier
entry (what a first resolution leaves) still is after another resolution, with any environment -/
theorem taint_confined_second_resolution {P : String → Prop} {c : String} (hc : P c) (env : Env) {v : Val}
    (h : ValOkF P c v) : ValOkF P c (resolveObj c env v) := ValOkF_resolveObj hc env h

/-- a secret of an included file that names a variable its include's environment defines carries that value after
both resolutions -/
theorem included_secret_carries_value {top file : Env} {kvs : KVs} {e v : String}
    (he : Val.lookup "environment" kvs = some (.str e)) (hee : e ≠ "") (hv : (mergeEnv top file).lookup e = some v) :
    resolveObj xValue top (resolveObj xValue (mergeEnv top file) (.map kvs)) = .map (Val.insert xValue (.str v) kvs) := by
  rw [resolveObj_second xValue (by simp [xValue]) (EnvExtends_mergeEnv top file)]
  exact resolveObj_found he hee hv

/-- non-vacuity: a variable only the include's env file defines; the including environment alone resolves nothing -/
example : resolveObj xValue [("TOP", "t")] (resolveObj xValue (mergeEnv [("TOP", "t")] [("V", "canary"), ("TOP", "shadowed")])
      (.map [("environment", .str "V")])) = .map [("environment", .str "V"), (xValue, .str "canary")] ∧
    resolveObj xValue [("TOP", "t")] (.map [("environment", .str "V")]) = .map [("environment", .str "V")] ∧
    (mergeEnv [("TOP", "t")] [("V", "canary"), ("TOP", "shadowed")]).lookup "TOP" = some "t" := by decide +kernel

/-- **value availability, carrier form**: a raw secret object that carries `v` under `x-#value` (and has no `content`
key of its own) is decoded — at any path whose keys are not user defined — with `Content = v`, whatever resolution
put the value there -/
theorem secret_carrier_value_loaded {kvs1 : KVs} {v pname n : String} {p : TPath}
    (hx : Val.lookup xValue kvs1 = some (.str v)) (hnc : Val.lookup "content" kvs1 = none)
    (hp : isUserDefined p = false) {o : FileObj}
    (hd : decodeSecret (pxVal p (.map (setNameKVs pname n kvs1))) = .ok o) : o.content = v := by
  refine content_of_carrier ?_ ?_ hp hd
  · rw [lookup_setNameKVs_ne (by simp [xValue])]; exact hx
  · rw [lookup_setNameKVs_ne (by simp)]; exact hnc

/-- **value availability for a secret of an included file**: whenever the model with its include loads, a secret the
included file declares (and the including file does not) that names a non-empty variable the *include's* environment
defines — the including environment, or else the include's env file — is on the project with `Content` equal to that
value: the second resolution, by the including model, does not lose it -/
theorem included_secret_value_available_on_project {top file : Env} {pname : String} {main inc : KVs} {p : Proj}
    (h : loadInc top file pname main inc = .ok p) {objs kvs : KVs} {n e v : String}
    (hS : lookup "secrets" inc = some (.map objs)) (hl : lookup n objs = some (.map kvs))
    (hmain : ∀ to, lookup "secrets" main = some (.map to) → lookup n to = none)
    (he : lookup "environment" kvs = some (.str e)) (hee : e ≠ "") (hv : (mergeEnv top file).lookup e = some v)
    (hnc : lookup "content" kvs = none) :
    ∃ o, (n, o) ∈ p.secrets ∧ o.content = v := by
  unfold loadInc at h
  obtain ⟨m, hm, hload⟩ := Out.bind_eq_ok.1 h
  unfold includeModel at hm
  obtain ⟨m1, h1, h2⟩ := Out.bind_eq_ok.1 hm
  have hS' : lookup "secrets" (resolveModel true (mergeEnv top file) inc) =
      some (.map (resolveObjs xValue (mergeEnv top file) objs)) := by
    simp only [resolveModel, if_true, resolveSecretsEnv, lookup_resolveSection_self, hS, rsv]
  have hent : lookup n (resolveObjs xValue (mergeEnv top file) objs) = some (.map (Val.insert xValue (.str v) kvs)) := by
    rw [lookup_resolveObjs, hl]
    simp only [Option.map, resolveObj_found he hee hv]
  have hsec : ∃ to', lookup "secrets" m1 = some (.map to') ∧ lookup n to' = some (.map (Val.insert xValue (.str v) kvs)) := by
    rcases importSection_spec h1 with ⟨hno, _⟩ | ⟨res, to, to', hres, hto, himp, rfl⟩
    · rw [hS'] at hno; rcases hno with hno | hno <;> cases hno
    · rw [hS'] at hres; cases hres
      refine ⟨to', lookup_insert_self _ _ _, importObjs_adds himp ?_ hent⟩
      rcases hto with hto | ⟨rfl, _⟩
      · exact hmain to hto
      · rfl
  obtain ⟨to', hm1, hn⟩ := hsec
  have hm' : lookup "secrets" m = some (.map to') := by
    rw [importSection_lookup_ne (by simp) h2]; exact hm1
  -- the including model's own pipeline; the second resolution leaves the object as it is
  obtain ⟨v2, o, h2', ho, mo⟩ := mem_loadSection (isSecret := true) hm' (load_ok hload).1 (mem_of_lookup hn)
  have hsame : resolveObj xValue top (.map (Val.insert xValue (.str v) kvs)) = .map (Val.insert xValue (.str v) kvs) := by
    have := included_secret_carries_value (top := top) he hee hv
    rwa [resolveObj_found he hee hv] at this
  simp only [if_true, hsame, setNameObj] at h2'
  cases h2'
  refine ⟨o, mo, secret_carrier_value_loaded (lookup_insert_self _ _ _) ?_ (secret_paths_not_user_defined n) ho⟩
  rw [lookup_insert_ne (by simp [xValue])]; exact hnc

/-- **requested content is exact for a secret of an included file**: under the hypotheses of
`included_secret_value_available_on_project`, with a non-empty value, both renderers with secret content requested write
exactly that value under `content` of the secret (composition with `render_with_content_exact`) -/
theorem included_secret_content_rendered_exactly {top file : Env} {pname : String} {main inc : KVs} {p : Proj}
    (h : loadInc top file pname main inc = .ok p) {objs kvs : KVs} {n e v : String}
    (hS : lookup "secrets" inc = some (.map objs)) (hl : lookup n objs = some (.map kvs))
    (hmain : ∀ to, lookup "secrets" main = some (.map to) → lookup n to = none)
    (he : lookup "environment" kvs = some (.str e)) (hee : e ≠ "") (hv : (mergeEnv top file).lookup e = some v)
    (hnc : lookup "content" kvs = none) (hvne : v ≠ "") (r : Renderer) :
    ∃ o, (n, o) ∈ p.secrets ∧ ∃ out, renderSecret r { o with marshallContent := true } = .map out ∧
      lookup "content" out = some (.str v) := by
  obtain ⟨o, mo, hc⟩ := included_secret_value_available_on_project h hS hl hmain he hee hv hnc
  exact ⟨o, mo, render_with_content_value hc hvne r⟩

/-- the same composition for a single-file model (`secret_value_available_on_project` ∘ `render_with_content_exact`):
"rendering with secret content requested reproduces the value exactly", from the raw model to the rendered tree -/
theorem secret_content_rendered_exactly {env : Env} {pname : String} {dict : KVs} {p : Proj}
    (h : load env pname dict = .ok p) {objs kvs : KVs} {n e v : String}
    (hS : lookup "secrets" dict = some (.map objs)) (hm : (n, Val.map kvs) ∈ objs)
    (he : lookup "environment" kvs = some (.str e)) (hee : e ≠ "") (hv : env.lookup e = some v)
    (hnc : lookup "content" kvs = none) (hvne : v ≠ "") (r : Renderer) :
    ∃ o, (n, o) ∈ p.secrets ∧ ∃ out, renderSecret r { o with marshallContent := true } = .map out ∧
      lookup "content" out = some (.str v) := by
  obtain ⟨o, mo, hc⟩ := secret_value_available_on_project h hS hm he hee hv hnc
  exact ⟨o, mo, render_with_content_value hc hvne r⟩

/-- the literal composition and the section-wise pipeline agree for a model with an include too -/
theorem loadDictInc_agrees_with_loadInc (top file : Env) (pname : String) (main inc : KVs) (p : Proj) :
    loadDictInc top file pname main inc = .ok p ↔ loadInc top file pname main inc = .ok p := by
  unfold loadDictInc loadInc
  simp only [Out.bind_eq_ok, loadDict_agrees_with_load]

/-- **taint_confined (secrets, resolved input)**: the whole-pipeline confinement of `taint_confined_secrets` for a model
whose secrets may already have been resolved (a string under the first `x-#value` entry is exempt on input too) — the
state of the including model after the import -/
theorem taint_confined_secrets_resolved {P : String → Prop} (hx : P extKey) (hxv : P xValue) (hn : P "name")
    (hemp : P "") (hnil : P "<nil>") (hcut : CutClosed P)
    {env : Env} {pname : String} {dict : KVs}
    (hsec : ∀ objs, lookup "secrets" dict = some (.map objs) →
      ∀ e ∈ objs, P e.1 ∧ P (pname ++ "_" ++ e.1) ∧ ValOkF P xValue e.2)
    {ss : List (String × FileObj)} (h : loadSection true env pname dict = .ok ss) :
    ∀ e ∈ ss, P e.1 ∧ e.2.CleanBut P ∧ e.2.marshallContent = false :=
  secrets_confined hx hxv hn hemp hnil hcut hsec h

/-- **the including model after the import**: when both files are untainted (and the generated names are), every secret
of the merged model is untainted except a string under its first `x-#value` entry — the values of *both* environments
sit only there — and the configs section is untainted (an included model does not resolve its configs) -/
theorem include_confines_taint {P : String → Prop} (hxv : P xValue) {top file : Env} {pname : String} {main inc m : KVs}
    (hmain : AllStrKV P main) (hinc : AllStrKV P inc)
    (hgm : GenNamesOk P pname "secrets" main) (hgi : GenNamesOk P pname "secrets" inc)
    (hcm : GenNamesOk P pname "configs" main) (hci : GenNamesOk P pname "configs" inc)
    (h : includeModel top file main inc = .ok m) :
    (∀ objs, lookup "secrets" m = some (.map objs) → ∀ e ∈ objs, P e.1 ∧ P (pname ++ "_" ++ e.1) ∧ ValOkF P xValue e.2) ∧
    (∀ v, lookup "configs" m = some v → AllStr P v) ∧ GenNamesOk P pname "configs" m := by
  unfold includeModel at h
  obtain ⟨m1, h1, h2⟩ := Out.bind_eq_ok.1 h
  have hsecI := forall_resolveSection (Q0 := fun n v => P n ∧ P (pname ++ "_" ++ n) ∧ ValOkF P xValue v)
    (Q1 := fun n v => P n ∧ P (pname ++ "_" ++ n) ∧ ValOkF P xValue v) "secrets" xValue (mergeEnv top file) (fun n v hq => ⟨hq.1, hq.2.1, ValOkF_resolveObj hxv _ hq.2.2⟩)
    (section_confined hinc hgi)
  have hcfgI : lookup "configs" (resolveModel true (mergeEnv top file) inc) = lookup "configs" inc :=
    lookup_resolveSection_ne (by simp) _ _ _
  have hcfg1 : lookup "configs" m1 = lookup "configs" main := importSection_lookup_ne (by simp) h1
  refine ⟨?_, ?_, ?_⟩
  · intro objs hl
    rw [importSection_lookup_ne (by simp) h2] at hl
    exact importSection_forall (Q := fun n v => P n ∧ P (pname ++ "_" ++ n) ∧ ValOkF P xValue v) h1 hsecI
      (section_confined hmain hgm) objs hl
  · refine importSection_AllStr h2 ?_ ?_
    · intro v hl; rw [hcfgI] at hl; exact AllStrKV_lookup hinc hl
    · intro v hl; rw [hcfg1] at hl; exact AllStrKV_lookup hmain hl
  · exact importSection_forall (Q := fun n _ => P (pname ++ "_" ++ n)) h2
      (fun objs hl => by rw [hcfgI] at hl; exact hci objs hl)
      (fun objs hl => by rw [hcfg1] at hl; exact hcm objs hl)

/-- **render_default_clean with an include**: for every including and included model, every including
environment and every env file of the include, the default YAML and JSON renderings of the secrets and configs sections
of the loaded project are untainted: neither environment's values reach them -/
theorem render_default_clean_included {P : String → Prop} (hv : VocabOk P)
    {top file : Env} {pname : String} {main inc : KVs}
    (hmain : AllStrKV P main) (hinc : AllStrKV P inc)
    (hgm : GenNamesOk P pname "secrets" main) (hgi : GenNamesOk P pname "secrets" inc)
    (hcm : GenNamesOk P pname "configs" main) (hci : GenNamesOk P pname "configs" inc)
    {p : Proj} (h : loadInc top file pname main inc = .ok p) (r : Renderer) :
    AllStr P (render r false p) := by
  unfold loadInc at h
  obtain ⟨m, hm, hload⟩ := Out.bind_eq_ok.1 h
  obtain ⟨hsec, hcfg, hgc⟩ := include_confines_taint hv.carrier hmain hinc hgm hgi hcm hci hm
  exact AllStr_render_default hv (hv.confined hsec
    (fun objs hl e he => have h := AllStrKV_iff.1 (hcfg _ hl) e he; ⟨h.1, hgc objs hl e he, h.2⟩) hload) r

/-- the property's wording for a model with an include: a canary that occurs in neither file (nor in the vocabulary or
the generated names) occurs nowhere in the default rendering — whatever the including environment *and the include's
env file* hold -/
theorem canary_absent_from_default_rendering_included (c : List Char) (hv : VocabOk (fun s => ¬ occurs c s))
    {top file : Env} {pname : String} {main inc : KVs} (hmain : Clean c (.map main)) (hinc : Clean c (.map inc))
    (hgm : GenNamesOk (fun s => ¬ occurs c s) pname "secrets" main) (hgi : GenNamesOk (fun s => ¬ occurs c s) pname "secrets" inc)
    (hcm : GenNamesOk (fun s => ¬ occurs c s) pname "configs" main) (hci : GenNamesOk (fun s => ¬ occurs c s) pname "configs" inc)
    {p : Proj} (h : loadInc top file pname main inc = .ok p) (r : Renderer) :
    Clean c (render r false p) :=
  render_default_clean_included hv (by simpa [Clean, AllStr] using hmain) (by simpa [Clean, AllStr] using hinc) hgm hgi hcm hci h r

/-! ## non-vacuity: a model with an include that has its own env file -/
namespace ExampleInc

def canary : List Char := "CANARY-9: {x}".toList

def main : KVs :=
  [("services", .map [("web", .map [("image", .str "nginx"), ("secrets", .seq [.str "token"])])]),
   ("secrets", .map [("local", .map [("environment", .str "LOCAL_TOKEN")])])]

def inc : KVs :=
  [("secrets", .map [("token", .map [("environment", .str "MODULE_TOKEN")]), ("both", .map [("environment", .str "LOCAL_TOKEN")])]),
   ("configs", .map [("cfg", .map [("environment", .str "MODULE_CFG")])])]

def top : Env := [("LOCAL_TOKEN", "local-value")]
def file : Env := [("MODULE_TOKEN", "CANARY-9: {x}"), ("MODULE_CFG", "cfg CANARY-9: {x}"), ("LOCAL_TOKEN", "shadowed CANARY-9: {x}")]

def proj : Proj :=
  { secrets := [("local", { name := "p_local", environment := "LOCAL_TOKEN", content := "local-value" }),
                ("token", { name := "p_token", environment := "MODULE_TOKEN", content := "CANARY-9: {x}" }),
                ("both", { name := "p_both", environment := "LOCAL_TOKEN", content := "local-value" })],
    configs := [("cfg", { name := "p_cfg", environment := "MODULE_CFG" })] }

/-- it loads; the secret of the included file carries the value only the include's env file defines; a variable both
define has the including environment's value; the included config is not resolved by the include's env file -/
theorem loads : loadInc top file "p" main inc = .ok proj := by decide +kernel
example : loadInc top file "p" main inc = .ok proj := loads
example : loadDictInc top file "p" main inc = .ok proj := (loadDictInc_agrees_with_loadInc ..).2 loads
example : Clean canary (.map main) ∧ Clean canary (.map inc) := by decide +kernel
example : Clean canary (render .yaml false proj) ∧ Clean canary (render .json false proj) := by decide +kernel
example : ¬ Clean canary (render .yaml true proj) := by decide +kernel
example : render .json false proj ≠ .map [] := by decide +kernel

end ExampleInc

end CV.Secrets
