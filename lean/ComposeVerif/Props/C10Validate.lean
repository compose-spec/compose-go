import ComposeVerif.Lemmas.Validate
import ComposeVerif.Lemmas.Path
import ComposeVerif.Gen.Tables
/-!
# C10 — the structural exclusivity checks on the merged tree (`validation.Validate`)

`validate` is the model of `validation.Validate` (Model/Validate.lean), `ValidTree` the specification (Spec/Validate.lean):
every node the walk reaches at a path that a row of the `checks` table matches passes that row's rule.
`validate_iff` is the equivalence, `validate_rejects` its contrapositive for one reached node; the `validate_rejects_*`
theorems are the clauses of the property one by one — a walk to the node, the row, the reason the node fails.
-/
namespace CV.Validate
open CV CV.TPath

/-- the `checks` table of the source is the table the model is written against (patterns and checkers) -/
theorem validate_table_is_source :
    CV.Gen.validationChecks = table.map (fun r => (r.1, r.2.goName)) := rfl

/-- no two patterns of the table can match the same path … -/
theorem validate_table_exclusive : PairwiseExclusive table := by decide

/-- … hence Go's random iteration over the `checks` map always selects the same checker -/
theorem validate_table_order_irrelevant (t' : List (List String × Checker)) (hp : t'.Perm table) (x : TPath) :
    firstMatch t' x = firstMatch table x :=
  firstMatch_perm validate_table_exclusive hp x

/-- **`Validate` returns nil iff every checked node of the tree satisfies its rule** (all trees; the statement on
the right only speaks about membership, so it holds for every iteration order of every mapping) -/
theorem validate_iff (t : Val) : validate t = .ok ↔ ValidTree t := by
  rw [validate_ok_iff_failures]
  unfold failures ValidTree
  rw [failuresAt_nil_iff]
  unfold AllOK
  exact forall_congr' fun q => forall_congr' fun w => forall_congr' fun c =>
    imp_congr_right fun _ => imp_congr_right fun _ => run_ok_iff c w

/-- the decision procedure used by the harness agrees with the model -/
theorem validTreeB_iff (t : Val) : validTreeB t = true ↔ ValidTree t := by
  rw [← validate_iff, validate_ok_iff_failures]
  unfold validTreeB
  cases failures t <;> simp

/-- **every broken structural rule is rejected**: the walk reaches a node, at a path some row of the table matches,
that fails the row's rule — wherever in the tree, whatever else the tree contains -/
theorem validate_rejects {t w : Val} {q : TPath} {c : Checker} (hr : Reaches TPath.root t q w)
    (hm : firstMatch table q = some c) (hbad : ¬ Passes c w) : validate t ≠ .ok :=
  fun hok => hbad ((validate_iff t).mp hok q w c hr hm)

/-- an external volume — `external` in any form `asBoolean` reads as true — with a key `checkExternal` does not tolerate -/
theorem validate_rejects_external_volume {top vols kvs : Val.KVs} {name k : String} {x y : Val}
    (h1 : ("volumes", Val.map vols) ∈ top) (h2 : (name, Val.map kvs) ∈ vols)
    (hext : Val.lookup "external" kvs = some x) (hb : asBoolean x = some true) (hk : (k, y) ∈ kvs)
    (hbad : externalAllowed k = false) : validate (.map top) ≠ .ok :=
  validate_rejects (reaches_resource (.head _) h1 h2) (by simp [firstMatch, table, pmatch])
    (not_passes_external hext hb hk hbad)

/-- **an external volume declared together with creation parameters is rejected**, wherever the two halves came from -/
theorem validate_rejects_external_volume_with_parameters (top vols kvs : Val.KVs) (name k : String) (x : Val)
    (h1 : ("volumes", Val.map vols) ∈ top) (h2 : (name, Val.map kvs) ∈ vols)
    (hext : Val.lookup "external" kvs = some (.bool true)) (hk : (k, x) ∈ kvs) (hbad : externalAllowed k = false) :
    validate (.map top) ≠ .ok :=
  validate_rejects_external_volume h1 h2 hext rfl hk hbad

/-- **a secret with none (and no driver / external) or several of its mutually exclusive sources is rejected** -/
theorem validate_rejects_secret_sources (top secs kvs : Val.KVs) (name : String)
    (h1 : ("secrets", Val.map secs) ∈ top) (h2 : (name, Val.map kvs) ∈ secs)
    (hbad : countPresent ["file", "environment"] kvs > 1 ∨
      (countPresent ["file", "environment"] kvs = 0 ∧ has "driver" kvs = false ∧ has "external" kvs = false)) :
    validate (.map top) ≠ .ok :=
  validate_rejects (reaches_resource (.tail _ (.head _)) h1 h2) (by simp [firstMatch, table, pmatch])
    (not_passes_fileObject hbad)

/-- **a config with none (and no driver / external) or several of its mutually exclusive sources is rejected** -/
theorem validate_rejects_config_sources (top cfgs kvs : Val.KVs) (name : String)
    (h1 : ("configs", Val.map cfgs) ∈ top) (h2 : (name, Val.map kvs) ∈ cfgs)
    (hbad : countPresent ["file", "environment", "content"] kvs > 1 ∨
      (countPresent ["file", "environment", "content"] kvs = 0 ∧ has "driver" kvs = false ∧ has "external" kvs = false)) :
    validate (.map top) ≠ .ok :=
  validate_rejects (reaches_resource (.tail _ (.tail _ (.head _))) h1 h2) (by simp [firstMatch, table, pmatch])
    (not_passes_fileObject hbad)

/-! non-vacuity -/
def exampleTree : Val :=
  .map [("volumes", .map [("data", .null), ("ext", .map [("external", .bool true), ("name", .str "n")])]),
        ("secrets", .map [("tok", .map [("file", .str "./t")])]),
        ("configs", .map [("c", .map [("content", .str "x")])]),
        ("services", .map [("a", .map [("image", .str "i"),
            ("gpus", .seq [.map [("count", .int 1)]]),
            ("develop", .map [("watch", .seq [.map [("path", .str "./p"), ("action", .str "rebuild")]])])])])]

theorem validate_exampleTree : validate exampleTree = .ok := by decide +kernel

example : validate exampleTree = .ok := validate_exampleTree
example : ValidTree exampleTree := (validate_iff _).mp validate_exampleTree
example : validate (.map [("volumes", .map [("ext", .map [("external", .bool true), ("driver", .str "d")])])]) = .err .conflictingExternal := by decide +kernel
example : validate (.map [("secrets", .map [("s", .map [("file", .str "f"), ("environment", .str "E")])])]) = .err .exclusive := by decide +kernel
example : validate (.map [("configs", .map [("c", .map [("name", .str "n")])])]) = .err .missing := by decide +kernel
example : validate (.map [("secrets", .map [("s", .str "oops")])]) = .panic "validation.init.checkFileObject" := by decide +kernel


/-! ## the rules below a service: `gpus.*` and `develop.watch.*.path`, for every service name -/


theorem next_services : next TPath.root "services" = ["services"] := by decide +kernel

/-- the walk reaches every attribute value `services.<name>.<attr>` -/
theorem reaches_service_attr {top svcs svc : Val.KVs} {name attr : String} {v : Val}
    (hattr : ghostify attr = attr)
    (h1 : ("services", Val.map svcs) ∈ top) (h2 : (name, Val.map svc) ∈ svcs) (h3 : (attr, v) ∈ svc) :
    Reaches TPath.root (.map top) ["services", ghostify name, attr] v := by
  have r1 : Reaches _ (.map top) (next TPath.root "services") _ := .map_step (by decide) h1
  have r2 : Reaches ["services"] (.map svcs) (next ["services"] name) _ := .map_step (by decide) h2
  rw [next_services] at r1
  rw [next_nonroot _ (by decide)] at r2
  exact (r1.trans r2).map_plain (by simp [TPath.root]) (by simp [firstMatch, table, pmatch]) hattr h3

/-- **`gpus`: a device request that gives both `count` and `device_ids` is rejected**, for every service name -/
theorem validate_rejects_gpus_count_and_ids (top svcs svc kvs : Val.KVs) (name : String) (gpus : List Val)
    (h1 : ("services", Val.map svcs) ∈ top) (h2 : (name, Val.map svc) ∈ svcs) (h3 : ("gpus", Val.seq gpus) ∈ svc)
    (h4 : Val.map kvs ∈ gpus) (hc : has "count" kvs = true) (hi : has "device_ids" kvs = true) :
    validate (.map top) ≠ .ok := by
  have r := (reaches_service_attr (by decide +kernel) h1 h2 h3).seq_plain (by simp [TPath.root])
    (by simp [firstMatch, table, pmatch]) h4
  refine validate_rejects r (c := .deviceRequest) (by simp [firstMatch, table, pmatch]) ?_
  rintro ⟨kvs', h, hx⟩
  cases h
  exact hx ⟨hc, hi⟩

/-- **`develop.watch`: a trigger with a blank `path` is rejected**, for every service name -/
theorem validate_rejects_blank_watch_path (top svcs svc dev trig : Val.KVs) (name : String) (watch : List Val)
    (h1 : ("services", Val.map svcs) ∈ top) (h2 : (name, Val.map svc) ∈ svcs) (h3 : ("develop", Val.map dev) ∈ svc)
    (h4 : ("watch", Val.seq watch) ∈ dev) (h5 : Val.map trig ∈ watch) (h6 : ("path", Val.str "") ∈ trig) :
    validate (.map top) ≠ .ok := by
  have r3 := reaches_service_attr (by decide +kernel) h1 h2 h3
  have r4 := r3.map_plain (by simp [TPath.root]) (by simp [firstMatch, table, pmatch]) (by decide +kernel) h4
  have r5 := r4.seq_plain (by simp [TPath.root]) (by simp [firstMatch, table, pmatch]) h5
  have r6 := r5.map_plain (by simp [TPath.root]) (by simp [firstMatch, table, pmatch]) (by decide +kernel) h6
  refine validate_rejects r6 (c := .path) (by simp [firstMatch, table, pmatch]) ?_
  rintro ⟨s, h, hne⟩
  cases h
  exact hne rfl

/-! non-vacuity -/
example : validate (.map [("services", .map [("a", .map [("image", .str "i"),
    ("gpus", .seq [.map [("count", .int 1), ("device_ids", .seq [.str "0"])]])])])]) = .err .countAndIds := by decide +kernel
example : validate (.map [("services", .map [("a", .map [("image", .str "i"),
    ("develop", .map [("watch", .seq [.map [("path", .str ""), ("action", .str "sync")]])])])])]) = .err .blank := by decide +kernel

end CV.Validate
