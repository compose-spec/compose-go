import ComposeVerif.Gen.C04Source
/-!
# C04 — the modelled functions are the source (regenerated source facts)

`translator/c04.go` prints, on every run, the body (comments stripped, white space normalised) of every Go function the
C04 models mirror.  The theorems below fix those texts: **any edit to a modelled function breaks an obligation here**,
whether or not a generated input tells the two versions apart (e.g. an aliasing slip such as storing one shared default
mapping in `convertIntoMapping`, which the value-typed model cannot see).  After an intended change of the code, the
model is re-read against the new body and the text here updated in the same commit.
-/
namespace CV.C04
open CV.Gen

/-- override/merge.go and override/extends.go: the list of functions and the body of every function `Model/Merge.lean` mirrors (`mergeYaml` ↦ `mergeStep`/`defaultStep`/`specialStep`, `mergeMappings` ↦ `mergeKVsWith`, `convertIntoSequence` ↦ `intoSeq`, `convertIntoMapping` ↦ `intoMap`/`listIntoMap`, `mergeIPAMConfig`/`ipamPools` ↦ `ipamStep`/`ipamFold`/`ipamPools`, …) -/
theorem merge_go_is_modelled_source :
    c04_functions_merge =
      ["Merge", "init", "mergeYaml", "mergeMappings", "mergeLogging", "sameScalar", "mergeBuild", "mergeDependsOn", "mergeNetworks", "mergeExtraHosts", "mergeToSequence", "convertIntoSequence", "mergeUlimit", "mergeIPAMConfig", "ipamPools", "convertIntoMapping", "copyMap", "override"] ∧
    c04_body_Merge =
      "{ merged, err := mergeYaml(right, left, tree.NewPath()) if err != nil { return nil, err } return merged.(map[string]any), nil }" ∧
    c04_body_mergeYaml =
      "{ for pattern, merger := range mergeSpecials { if p.Matches(pattern) { merged, err := merger(e, o, p) if err != nil { return nil, err } return merged, nil } } if o == nil { return e, nil } switch value := e.(type) { case map[string]any: other, ok := o.(map[string]any) if !ok { return nil, fmt.Errorf(\"cannot override %s\", p) } return mergeMappings(value, other, p) case []any: other, ok := o.([]any) if !ok { return nil, fmt.Errorf(\"cannot override %s\", p) } return append(value, other...), nil default: return o, nil } }" ∧
    c04_body_mergeMappings =
      "{ if mapping == nil { mapping = make(map[string]any, len(other)) } for k, v := range other { e, ok := mapping[k] if !ok || strings.HasPrefix(k, \"x-\") { mapping[k] = v continue } next := p.Next(k) merged, err := mergeYaml(e, v, next) if err != nil { return nil, err } mapping[k] = merged } return mapping, nil }" ∧
    c04_body_mergeLogging =
      "{ if c == nil { return o, nil } if o == nil { return c, nil } config, ok := c.(map[string]any) if !ok { return nil, fmt.Errorf(\"cannot override %s\", p) } other, ok := o.(map[string]any) if !ok { return nil, fmt.Errorf(\"cannot override %s\", p) } d, ok1 := other[\"driver\"] o, ok2 := config[\"driver\"] if sameScalar(d, o) || !ok1 || !ok2 { return mergeMappings(config, other, p) } return other, nil }" ∧
    c04_body_sameScalar =
      "{ switch d.(type) { case map[string]any, []any: return false } switch o.(type) { case map[string]any, []any: return false } return d == o }" ∧
    c04_body_mergeBuild =
      "{ toBuild := func(c any) (map[string]any, error) { switch v := c.(type) { case nil: return map[string]any{}, nil case string: return map[string]any{ \"context\": v, }, nil case map[string]any: return v, nil } return nil, fmt.Errorf(\"cannot override %s\", path) } right, err := toBuild(c) if err != nil { return nil, err } left, err := toBuild(o) if err != nil { return nil, err } return mergeMappings(right, left, path) }" ∧
    c04_body_mergeDependsOn =
      "{ right, err := convertIntoMapping(c, map[string]any{ \"condition\": \"service_started\", \"required\": true, }, path) if err != nil { return nil, err } left, err := convertIntoMapping(o, map[string]any{ \"condition\": \"service_started\", \"required\": true, }, path) if err != nil { return nil, err } return mergeMappings(right, left, path) }" ∧
    c04_body_mergeNetworks =
      "{ right, err := convertIntoMapping(c, nil, path) if err != nil { return nil, err } left, err := convertIntoMapping(o, nil, path) if err != nil { return nil, err } return mergeMappings(right, left, path) }" ∧
    c04_body_mergeExtraHosts =
      "{ right := convertIntoSequence(c) left := convertIntoSequence(o) // keep only the elements of left that are not already in right; the override's own slice must not be // rewritten in place: the same override can be merged again (a service extended through another file // is resolved once per visit), and a compacted slice with a stale tail then yields duplicates var kept []any for _, v := range left { if !slices.ContainsFunc(right, func(r any) bool { return sameScalar(r, v) }) { kept = append(kept, v) } } return append(right, kept...), nil }" ∧
    c04_body_mergeToSequence =
      "{ right := convertIntoSequence(c) left := convertIntoSequence(o) return append(right, left...), nil }" ∧
    c04_body_convertIntoSequence =
      "{ switch v := value.(type) { case map[string]any: seq := make([]any, 0, len(v)) for k, val := range v { if val == nil { seq = append(seq, k) } else { switch vl := val.(type) { case []any: for _, vlv := range vl { seq = append(seq, fmt.Sprintf(\"%s=%v\", k, vlv)) } default: seq = append(seq, fmt.Sprintf(\"%s=%v\", k, val)) } } } slices.SortFunc(seq, func(a, b any) int { return cmp.Compare(a.(string), b.(string)) }) return seq case []any: return v case string: return []any{v} } return nil }" ∧
    c04_body_mergeUlimit =
      "{ over, ismapping := o.(map[string]any) if base, ok := o.(map[string]any); ok && ismapping { return mergeMappings(base, over, p) } return o, nil }" ∧
    c04_body_mergeIPAMConfig =
      "{ base, err := ipamPools(c, path) if err != nil { return nil, err } other, err := ipamPools(o, path) if err != nil { return nil, err } ipamConfigs := make([]any, 0, len(base)+len(other)) for _, pool := range base { ipamConfigs = append(ipamConfigs, pool) } for _, left := range other { index := slices.IndexFunc(ipamConfigs, func(a any) bool { return sameScalar(a.(map[string]any)[\"subnet\"], left[\"subnet\"]) }) if index < 0 { ipamConfigs = append(ipamConfigs, left) continue } merged, err := mergeMappings(ipamConfigs[index].(map[string]any), left, path) if err != nil { return nil, err } ipamConfigs[index] = merged } return ipamConfigs, nil }" ∧
    c04_body_ipamPools =
      "{ if v == nil { return nil, nil } seq, ok := v.([]any) if !ok { return nil, fmt.Errorf(\"cannot override %s\", path) } pools := make([]map[string]any, 0, len(seq)) for _, e := range seq { pool, err := convertIntoMapping(e, nil, path) if err != nil { return nil, err } pools = append(pools, pool) } return pools, nil }" ∧
    c04_body_convertIntoMapping =
      "{ switch v := a.(type) { case nil: return map[string]any{}, nil case map[string]any: return v, nil case []any: converted := map[string]any{} for _, s := range v { key, ok := s.(string) if !ok { return nil, fmt.Errorf(\"%s: unexpected type %T\", p, s) } if defaultValue == nil { converted[key] = nil } else { converted[key] = copyMap(defaultValue) } } return converted, nil } return nil, fmt.Errorf(\"cannot override %s\", p) }" ∧
    c04_body_copyMap =
      "{ c := make(map[string]any) for k, v := range m { c[k] = v } return c }" ∧
    c04_body_override =
      "{ return other, nil }" ∧
    c04_body_ExtendService =
      "{ yaml, err := mergeYaml(base, override, tree.NewPath(\"services.x\")) if err != nil { return nil, err } return yaml.(map[string]any), nil }" := by
  exact ⟨rfl, rfl, rfl, rfl, rfl, rfl, rfl, rfl, rfl, rfl, rfl, rfl, rfl, rfl, rfl, rfl, rfl, rfl, rfl⟩

/-- override/uncity.go: the list of functions and the body of `enforceUnicity` (↦ `Unicity.enforce`, `dedupKVs`) and of every indexer (↦ `Unicity.index`) -/
theorem uncity_go_is_modelled_source :
    c04_functions_uncity =
      ["init", "EnforceUnicity", "enforceUnicity", "keyValueIndexer", "volumeIndexer", "deviceMappingIndexer", "exposeIndexer", "mountIndexer", "portIndexer", "envFileIndexer"] ∧
    c04_body_EnforceUnicity =
      "{ uniq, err := enforceUnicity(value, tree.NewPath()) if err != nil { return nil, err } return uniq.(map[string]any), nil }" ∧
    c04_body_enforceUnicity =
      "{ switch v := value.(type) { case map[string]any: for k, e := range v { u, err := enforceUnicity(e, p.Next(k)) if err != nil { return nil, err } v[k] = u } return v, nil case []any: for pattern, indexer := range unique { if p.Matches(pattern) { seq := []any{} keys := map[string]int{} for i, entry := range v { key, err := indexer(entry, p.Next(fmt.Sprintf(\"[%d]\", i))) if err != nil { return nil, err } if j, ok := keys[key]; ok { seq[j] = entry } else { seq = append(seq, entry) keys[key] = len(seq) - 1 } } return seq, nil } } } return value, nil }" ∧
    c04_body_keyValueIndexer =
      "{ switch value := v.(type) { case string: key, _, found := strings.Cut(value, \"=\") if found { return key, nil } return value, nil default: return \"\", fmt.Errorf(\"%s: unexpected type %T\", p, v) } }" ∧
    c04_body_volumeIndexer =
      "{ switch value := y.(type) { case map[string]any: target, ok := value[\"target\"].(string) if !ok { return \"\", fmt.Errorf(\"service volume %s is missing a mount target\", p) } return target, nil case string: volume, err := format.ParseVolume(value) if err != nil { return \"\", err } return volume.Target, nil } return \"\", nil }" ∧
    c04_body_deviceMappingIndexer =
      "{ switch value := y.(type) { case map[string]any: target, ok := value[\"target\"].(string) if !ok { return \"\", fmt.Errorf(\"service device %s is missing a mount target\", p) } return target, nil case string: arr := strings.Split(value, \":\") if len(arr) == 1 { return arr[0], nil } return arr[1], nil } return \"\", nil }" ∧
    c04_body_exposeIndexer =
      "{ switch v := a.(type) { case string: return v, nil case int: return strconv.Itoa(v), nil default: return \"\", fmt.Errorf(\"%s: unsupported expose value %s\", path, a) } }" ∧
    c04_body_mountIndexer =
      "{ return func(a any, path tree.Path) (string, error) { switch v := a.(type) { case string: return fmt.Sprintf(\"%s/%s\", defaultPath, v), nil case map[string]any: t, ok := v[\"target\"] if ok { target, isString := t.(string) if !isString { return \"\", fmt.Errorf(\"%s: unexpected type %T\", path, t) } return target, nil } return fmt.Sprintf(\"%s/%s\", defaultPath, v[\"source\"]), nil default: return \"\", fmt.Errorf(\"%s: unsupported expose value %s\", path, a) } } }" ∧
    c04_body_portIndexer =
      "{ switch value := y.(type) { case int: return strconv.Itoa(value), nil case map[string]any: target, ok := value[\"target\"] if !ok { return \"\", fmt.Errorf(\"service ports %s is missing a target port\", p) } published, ok := value[\"published\"] if !ok { if pub, ok := value[\"published\"]; ok { published = fmt.Sprintf(\"%d\", pub) } } host, ok := value[\"host_ip\"] if !ok { host = \"0.0.0.0\" } protocol, ok := value[\"protocol\"] if !ok { protocol = \"tcp\" } return fmt.Sprintf(\"%s:%v:%v/%s\", host, published, target, protocol), nil case string: return value, nil } return \"\", nil }" ∧
    c04_body_envFileIndexer =
      "{ switch value := y.(type) { case string: return value, nil case map[string]any: if pathValue, ok := value[\"path\"]; ok { path, isString := pathValue.(string) if !isString { return \"\", fmt.Errorf(\"%s: unexpected type %T\", p, pathValue) } return path, nil } return \"\", fmt.Errorf(\"environment path attribute %s is missing\", p) } return \"\", nil }" := by
  exact ⟨rfl, rfl, rfl, rfl, rfl, rfl, rfl, rfl, rfl, rfl⟩

/-- loader/reset.go `resolveReset` / `Apply` / `applyNullOverrides` (↦ `Reset.resolve`, `Reset.applyNull`) and tree/path.go `Next` / `Parts` / `Matches` (↦ `Merge.next`, `TPath.pmatch`) -/
theorem reset_and_path_is_modelled_source :
    c04_body_resolveReset =
      "{ pathStr := path.String() if strings.Contains(pathStr, \".<<\") { path = tree.NewPath(strings.Replace(pathStr, \".<<\", \"\", 1)) } if p.active == nil { p.active = make(map[*yaml.Node]int) } if p.active[node] >= 2 { return nil, fmt.Errorf(\"cycle detected: node at path %s is nested inside itself\", path.String()) } p.active[node]++ defer func() { p.active[node]-- }() if node.Kind == yaml.AliasNode { if err := p.checkForCycle(node.Alias, path); err != nil { return nil, err } return p.resolveReset(node.Alias, path) } if node.Tag == \"!reset\" { p.paths = append(p.paths, path) return nil, nil } if node.Tag == \"!override\" { p.paths = append(p.paths, path) return node, nil } switch node.Kind { case yaml.SequenceNode: var nodes []*yaml.Node for idx, v := range node.Content { next := path.Next(strconv.Itoa(idx)) resolved, err := p.resolveReset(v, next) if err != nil { return nil, err } if resolved != nil { nodes = append(nodes, resolved) } } node.Content = nodes case yaml.MappingNode: var key string var nodes []*yaml.Node for idx, v := range node.Content { if idx%2 == 0 { key = v.Value } else { resolved, err := p.resolveReset(v, path.Next(key)) if err != nil { return nil, err } if resolved != nil { nodes = append(nodes, node.Content[idx-1], resolved) } } } node.Content = nodes } return node, nil }" ∧
    c04_body_Apply =
      "{ return p.applyNullOverrides(target, tree.NewPath()) }" ∧
    c04_body_applyNullOverrides =
      "{ switch v := target.(type) { case map[string]any: KEYS: for k, e := range v { next := path.Next(k) for _, pattern := range p.paths { if next.Matches(pattern) { delete(v, k) continue KEYS } } err := p.applyNullOverrides(e, next) if err != nil { return err } } case []any: ITER: for i, e := range v { next := path.Next(fmt.Sprintf(\"[%d]\", i)) for _, pattern := range p.paths { if next.Matches(pattern) { continue ITER } } err := p.applyNullOverrides(e, next) if err != nil { return err } } } return nil }" ∧
    c04_body_Next =
      "{ if p == \"\" { return Path(part) } part = strings.ReplaceAll(part, pathSeparator, \"👻\") return Path(string(p) + pathSeparator + part) }" ∧
    c04_body_Parts =
      "{ return strings.Split(string(p), pathSeparator) }" ∧
    c04_body_Matches =
      "{ patternParts := pattern.Parts() parts := p.Parts() if len(patternParts) != len(parts) { return false } for index, part := range parts { switch patternParts[index] { case PathMatchAll, part: continue default: return false } } return true }" := by
  exact ⟨rfl, rfl, rfl, rfl, rfl, rfl⟩

/-- loader/loader.go `loadYamlFile`: the per-document decode loop (a fresh `ResetProcessor` per `---` document ↦ `Reset.loadDocs`/`docStep`; seeded changes C04-2 / C04-3 hoist it out of the loop) and the order of the stages in `processRawYaml` (`Apply` before `Merge` before `EnforceUnicity` … `Canonical`, `OmitEmpty`, `EnforceUnicity` again); loader/omitEmpty.go `omitEmpty` (empty sequence stays non-nil) -/
theorem document_loop_is_modelled_source :
    c04_body_omitEmpty =
      "{ switch v := data.(type) { case map[string]any: for k, e := range v { if isEmpty(e) && mustOmit(p) { delete(v, k) continue } v[k] = omitEmpty(e, p.Next(k)) } return v case []any: c := make([]any, 0, len(v)) for _, e := range v { if isEmpty(e) && mustOmit(p) { continue } c = append(c, omitEmpty(e, p.Next(\"[]\"))) } return c default: return data } }" ∧
    c04_decodeLoop =
      "for { var raw interface{} reset := &ResetProcessor{target: &raw} err := decoder.Decode(reset) if err != nil && errors.Is(err, io.EOF) { break } if err != nil { return nil, nil, err } processor = reset if err := processRawYaml(raw, processor); err != nil { return nil, nil, err } }" ∧
    c04_stageCalls =
      ["convertToStringKeysRecursive", "interp.Interpolate", "fixEmptyNotNull", "ApplyExtends", "processor.Apply", "ApplyInclude", "override.Merge", "override.EnforceUnicity", "schema.Validate", "opts.warnObsoleteVersion", "transform.Canonical", "OmitEmpty", "override.EnforceUnicity"] := by
  exact ⟨rfl, rfl, rfl⟩

end CV.C04
