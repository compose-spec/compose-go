import ComposeVerif.Lemmas.TravCancel
import ComposeVerif.Lemmas.TravInvM
import ComposeVerif.Props.C13
/-!
# C13 — the transition system `Trav.step?`: inductive bound, cancellation, well-founded termination, transitive order, dead branches

Beside `Props/C13.lean` (the clauses of the property for reachable states):

* the concurrency bound as an **inductive invariant** (`bound_invariant`);
* **error propagation**: what happens after an error / a cancellation (`no_new_worker_after_cancel_partial`; the
  full-strength "no visitor starts after an error" is false, `Neg/C13.lean error_stops_new_visits_false`);
* **termination** as a well-founded measure (`step_wellFounded`, `no_infinite_schedule`) and **every fair schedule
  ends** (`fair_schedule_ends`);
* **visit order ⊇ dependency order**, transitively, in both directions (`visit_order_extends_prerequisite_order`:
  `pre` = dependencies in a forward walk, dependents in a reverse walk);
* the two branches of `step?` that no schedule reaches (`caller_never_refused`);
* root selection depends on the set of descendants only (`skip_depends_on_descendant_set`).
-/
namespace CV.Trav

/-- **`WithMaxConcurrency(n)` as an invariant**: `Inv g (some n)` (the conjunction the other theorems rest on, with the
semaphore clauses `InvS`) holds initially, is preserved by *every* enabled step from *any* state satisfying it —
reachable or not —, and implies the bound: at most `n` visitors in progress and at most `n + 1` errgroup slots taken
(workers + coordinator).  `bounded` is the corollary for reachable states. -/
theorem bound_invariant {g : Graph} {n : Nat} (hg : GraphOK g) :
    Inv g (some n) (init g) ∧
    (∀ s l s', Inv g (some n) s → step? g (some n) s l = some s' → Inv g (some n) s') ∧
    (∀ s, Inv g (some n) s → running s ≤ n ∧ sem s ≤ n + 1) :=
  ⟨init_inv g hg (some n), fun s l s' hI hs => inv_step hg (step?_sound hs) hI,
    fun s hI => ⟨hI.running_le, hI.s.semLe n rfl⟩⟩

/-- the invariant is not vacuous: under limit 1 a state with one visitor in progress is reachable (and satisfies it) -/
example : (runL three (some 1) (init three) [.schedNext .M 0, .ready .M, .enter .M, .spawn .M, .wBegin 0]).map
    (fun s => (running s, sem s)) = some (1, 2) := by decide +kernel

/-- **after the coordinator has seen the cancellation** (it has returned although some vertex was never handed to it —
which, by the invariant, happens only when the context is cancelled, i.e. after a visitor error or the caller's own
cancellation, and only once the caller has left its loop): the context is cancelled, the caller is in `eg.Wait`, and
every step of `walk`'s own goroutines that is still enabled is a step of a worker — nobody runs `visit`, no goroutine is
created.  (That the worker set only shrinks and that this holds along every continuation is the next theorem.)
`_partial`: the full-strength statement `ErrorStopsNewVisits` — nothing starts from the moment the error is recorded — is
false for the code, see `Neg/C13.lean`. -/
theorem no_new_worker_after_cancel_partial {g : Graph} {lim : Option Nat} (hg : GraphOK g) {s : St} (h : Reach g lim s)
    (hc : s.cAlive = false) (hleft : ∃ v ∈ g.verts, v ∉ s.received) :
    s.cancelled = true ∧ s.m = none ∧
    ∀ l s', step? g lim s l = some s' →
      internal l = true → (∃ v, l = .wBegin v ∨ l = .wDone v ∨ l = .wSend v ∨ l = .wExit v) := by
  have hI := reach_inv hg h
  obtain ⟨v0, hv0, hn0⟩ := hleft
  have hcan : s.cancelled = true := by
    rcases hI.s.cDeadWhy hc with h1 | h1
    · exact h1
    · exact absurd (h1 v0 hv0) hn0
  have hm : s.m = none := by
    rcases hI.s.cDeadBound hc with h1 | h1
    · exact absurd (h1 v0 hv0) hn0
    · exact h1.1
  refine ⟨hcan, hm, fun l s' hs hi => ?_⟩
  rcases quiet_cases hc hm (step?_sound hs) with ⟨v, _, _, _, _, hk, _⟩ | ⟨rfl, _⟩
  · cases hk
    case ret => cases hi
    case done => exact ⟨v, .inr (.inl rfl)⟩
    case send => exact ⟨v, .inr (.inr (.inl rfl))⟩
    case exit => exact ⟨v, .inr (.inr (.inr rfl))⟩
    all_goals exact ⟨v, .inl rfl⟩
  · cases hi

/-- … in terms of what the property observes: from such a state on, along **any continuation**, the coordinator stays
away, the worker set only shrinks and every visitor entered later belongs to a worker goroutine that already existed -/
theorem no_new_visits_after_cancel_partial {g : Graph} {lim : Option Nat} (hg : GraphOK g) {s : St} (h : Reach g lim s)
    (hc : s.cAlive = false) (hleft : ∃ v ∈ g.verts, v ∉ s.received) (ls : List Label) (s' : St)
    (hr : runL g lim s ls = some s') :
    s'.cAlive = false ∧ s'.m = none ∧
    (∀ v, v ∈ s'.workers.map (·.1) → v ∈ s.workers.map (·.1)) ∧
    (∀ v, v ∈ starts s'.log → v ∈ starts s.log ∨ v ∈ s.workers.map (·.1)) := by
  have hm : s.m = none := (no_new_worker_after_cancel_partial hg h hc hleft).2.1
  obtain ⟨h1, h2, _, h4, h5⟩ := quiet_run ls s s' hc hm hr
  exact ⟨h1, h2, h4, h5⟩

/-- non-vacuity: on the diamond, 0 fails, the coordinator takes `ctx.Done()`: the hypotheses hold (1, 2, 3 never handed
over) with worker 0 still there -/
example : (runL diamond none (init diamond)
    [.schedNext .M 0, .ready .M, .enter .M, .spawn .M, .schedEnd .M,
     .wBegin 0, .wReturn 0 true, .wDone 0, .wSend 0, .wExit 0, .cCtxDone]).map
    (fun s => (s.cAlive, s.received, s.cancelled, s.firstErr)) = some (false, [], true, some 0) := by decide +kernel

/-- **the step relation is well-founded** on reachable states (`mu` strictly decreases): there is no infinite
descending chain `s₀ → s₁ → …`, whatever the scheduler, the visitors' results and the Go map orders do. -/
theorem step_wellFounded {g : Graph} {lim : Option Nat} (hg : GraphOK g) :
    WellFounded (fun s' s : St => Reach g lim s ∧ ∃ l, step? g lim s l = some s') := by
  apply Subrelation.wf (r := InvImage (· < ·) (mu g)) _ (InvImage.wf (mu g) Nat.lt_wfRel.wf)
  intro s' s ⟨hr, l, hs⟩
  exact mu_step_lt hg hr hs

theorem no_infinite_schedule {g : Graph} {lim : Option Nat} (hg : GraphOK g) (f : Nat → St) (h0 : Reach g lim (f 0)) :
    ¬ ∀ i, ∃ l, step? g lim (f i) l = some (f (i + 1)) := by
  intro hall
  have key : ∀ i, Reach g lim (f i) ∧ i + mu g (f i) ≤ mu g (f 0) := by
    intro i
    induction i with
    | zero => exact ⟨h0, by omega⟩
    | succ i ih =>
      obtain ⟨l, hs⟩ := hall i
      have := mu_step_lt hg ih.1 hs
      exact ⟨.step ih.1 hs, by omega⟩
  have := (key (mu g (f 0) + 1)).2
  omega

/-- **every fair schedule ends**: take any infinite sequence of states from `init g` in which each state is a step of
the previous one, or — stuttering — equal to it, where stuttering is allowed only when `walk` itself cannot move (no
internal step enabled: the scheduler is fair to walk's goroutines) and no visitor is in progress (visitors return).
Then `walk` has returned at some point of the sequence. -/
theorem fair_schedule_ends {g : Graph} {lim : Option Nat} (hg : GraphOK g) (hl : ∀ n, lim = some n → 1 ≤ n)
    (f : Nat → St) (h0 : f 0 = init g)
    (hstep : ∀ i, (∃ l, step? g lim (f i) l = some (f (i + 1))) ∨
      (f (i + 1) = f i ∧ (∀ l, internal l = true → step? g lim (f i) l = none) ∧
        ∀ v, wpc (f i).workers v ≠ some .running)) :
    ∃ i, terminal (f i) := by
  have hreach : ∀ i, Reach g lim (f i) := by
    intro i
    induction i with
    | zero => rw [h0]; exact .init
    | succ i ih =>
      rcases hstep i with ⟨l, hs⟩ | ⟨he, _⟩
      · exact .step ih hs
      · rw [he]; exact ih
  by_cases hall : ∀ i, ∃ l, step? g lim (f i) l = some (f (i + 1))
  · exact absurd hall (no_infinite_schedule hg f (hreach 0))
  · have ⟨i, hi⟩ : ∃ i, ¬ ∃ l, step? g lim (f i) l = some (f (i + 1)) := Classical.not_forall.mp hall
    rcases hstep i with hs | ⟨_, hint, hvis⟩
    · exact absurd hs hi
    · exact ⟨i, fair_maximal_run_is_terminal hg hl (hreach i) hint hvis⟩

/-- **the visit order extends the (transitive) prerequisite order**: when `v`'s visitor is entered, the visitor of every
transitive prerequisite `d` of `v` has already returned — `d`'s return lies further down the log.  `Graph.pre` is the
dependency relation in a forward walk and its converse in a reverse walk (`collect_walk_graph`), so this is
"dependencies (transitively) before" and "dependents (transitively) before" at once. -/
theorem visit_order_extends_prerequisite_order {g : Graph} {lim : Option Nat} (hg : GraphOK g) {s : St}
    (h : Reach g lim s) {d v : V} (hc : PreChain g d v) (hd : g.skip d = false) :
    ∀ (l1 l2 : List Ev), s.log = l1 ++ Ev.start v :: l2 → d ∈ finishes l2 := by
  intro l1 l2 hlog
  -- the moment `v`'s visitor was entered
  obtain ⟨s0, h0, e0⟩ := reach_log_suffix h l1 _ hlog
  have hL := (reach_inv hg h0).l
  have := hL.chain_finished hc hd fun habs => hL.freshNotStarted v (.inl habs) (by rw [e0]; exact List.mem_cons_self ..)
  rwa [e0] at this

/-- … and as an order on the finished log: entry of `d` before return of `d` before entry of `v` (so the *entries* are
ordered too) -/
theorem prerequisite_entered_first {g : Graph} {lim : Option Nat} (hg : GraphOK g) {s : St}
    (h : Reach g lim s) {d v : V} (hc : PreChain g d v) (hd : g.skip d = false)
    (l1 l2 : List Ev) (hlog : s.log = l1 ++ Ev.start v :: l2) : d ∈ starts l2 ∧ d ≠ v := by
  have hf := visit_order_extends_prerequisite_order hg h hc hd l1 l2 hlog
  -- the moment before
  obtain ⟨s1, h1, e1⟩ := reach_log_suffix h (l1 ++ [Ev.start v]) l2 (by rw [hlog, List.append_assoc]; rfl)
  have hmem : d ∈ starts l2 := e1 ▸ (reach_inv hg h1).l.finSubStarts d (e1 ▸ hf)
  obtain ⟨s0, h0, e0⟩ := reach_log_suffix h l1 _ hlog
  have hnd := (reach_inv hg h0).l.startsNodup
  rw [e0] at hnd
  exact ⟨hmem, fun e => (List.nodup_cons.mp hnd).1 (e ▸ hmem)⟩

/-- non-vacuity: on the diamond 0 is a transitive prerequisite of 3 -/
example : PreChain diamond 0 3 := .cons (.one (by decide)) (by decide) (by decide : 1 ∈ diamond.pre 3)

/-- **the caller is never refused**: the caller of `walk` only tries vertices without prerequisite and the coordinator
only vertices with one (`post` ⊆ converse of `pre`), so in every reachable state the caller's readiness test succeeds and
its claim wins: the `else` branches of `step?` at `.ready .M` and `.enter .M` are dead.  This is what the label coverage
printed by the harness (`lts-label-*`: every rule and branch of `step?` taken by accepted real schedules) leaves out. -/
theorem caller_never_refused {g : Graph} {lim : Option Nat} (hg : GraphOK g) (hpp : ∀ v u, u ∈ g.post v → v ∈ g.pre u)
    {s : St} (h : Reach g lim s) (todo : List V) (v : V) :
    (s.m = some ⟨todo, .ready v⟩ → step? g lim s (.ready .M) = some (putSched s .M (some ⟨todo, .enter v⟩))) ∧
    (s.m = some ⟨todo, .enter v⟩ → step? g lim s (.enter .M) =
      some (putSched { s with status := setStatus s.status v .entered } .M (some ⟨todo, .spawn v⟩))) := by
  have hI := reach_invM hg hpp h
  constructor
  · intro hm
    have hpre : g.pre v = [] := hI.mExt v (by simp [hm, schedVs])
    exact step?_complete (.visit (w := .M) hm (.readyT (by rw [hpre]; nofun)))
  · intro hm
    have habs : s.status v = .absent := hI.mAbsent v (by simp [hm, pendVs])
    exact step?_complete (.visit (w := .M) hm (.enterT habs))

/-- non-vacuity: the diamond's `post` is inside the converse of its `pre` -/
example : ∀ v ∈ diamond.verts, ∀ u ∈ diamond.post v, v ∈ diamond.pre u := by decide

/-- **root selection depends on the *set* of descendants only**: whatever list `D` an implementation of
`vertex.descendents` returns for `v` — duplicates or not, in any order — as long as it has the same members as the
model's `descendents`, `t.skip` decides the same.  (A correct deduplicating rewrite keeps the model valid; the truncating
one of seed C13-7 changes the set and is caught by `plan:root-selection`.) -/
theorem skip_depends_on_descendant_set (deps : V → List V) (fuel : Nat) (after : List V) (v : V) (D : List V)
    (h : ∀ r, r ∈ D ↔ r ∈ descendents deps fuel v) :
    skipOf deps fuel after v =
      (if after.isEmpty then false else if after.contains v then false else !(after.any (fun r => D.contains r))) := by
  have hc : (fun r => decide (r ∈ descendents deps fuel v)) = (fun r => decide (r ∈ D)) := by
    funext r
    simp [h r]
  simp [skipOf, hc]

/-- the shape of seed C13-7 (3 → {0, 2}, 2 → {0, 1}, root 1): the model keeps 3 (it reaches the root through 2, behind
the shared dependency 0) and skips only 0 -/
example : (List.range 4).map (skipOf (fun v => if v = 3 then [0, 2] else if v = 2 then [0, 1] else []) 4 [1])
    = [true, false, false, false] := by decide +kernel

end CV.Trav
