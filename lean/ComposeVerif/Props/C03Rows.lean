import ComposeVerif.Props.C03Doc
/-!
# C03 — the remaining rows of `transform.transformers`, stated on whole documents

`Props/C03Doc.lean` lifts the attribute theorems of the rows directly below a service.  Here: the rows **below
`services.*.build`** (`build.ssh`, `build.additional_contexts`, `build.secrets.*` — the chain runs through the recursing
handler `transformBuild`) and the top-level row `include.*`.
-/
namespace CV.Short
open CV CV.Short.Spec

/-- **lifting below `build`**: two values with the same transform at `services.n.build.k` give the same canonical
document (any other build attribute, service attribute, service, top-level section) -/
theorem canonical_build_attr_congr (ign : Bool) (top1 top2 svcs1 svcs2 a b ba bb : Val.KVs) (n k : String) (v v' : Val)
    (h : transform ign ["services", seg n, "build", seg k] v = transform ign ["services", seg n, "build", seg k] v') :
    canonical ign (docWith top1 top2 svcs1 svcs2 a b n "build" (.map (ba ++ (k, v) :: bb)))
      = canonical ign (docWith top1 top2 svcs1 svcs2 a b n "build" (.map (ba ++ (k, v') :: bb))) := by
  apply canonical_service_attr_congr
  rw [attrPath_eq, seg_build]
  apply transform_key_congr _ _ _ _ _ _ _ (by rw [dispatch_build]; simp [recursesOnMap])
  have hne : (["services", seg n, "build"] : TPath) ≠ TPath.root := by simp [TPath.root]
  rw [TPath.nextK_of_ne_root _ _ hne]
  exact h

/-- `build.ssh: [default, ID=PATH]` ≡ `build.ssh: {default: null, ID: PATH}`, whole documents -/
theorem canonical_buildSSH_short_eq_long (ign : Bool) (top1 top2 svcs1 svcs2 a b ba bb : Val.KVs) (n : String)
    (id path : Str) (hid : ∀ x ∈ id, x ≠ '=') (hd : String.ofList id ≠ "default") :
    canonical ign (docWith top1 top2 svcs1 svcs2 a b n "build"
        (.map (ba ++ ("ssh", .seq [.str "default", .str (String.ofList (id ++ '=' :: path))]) :: bb)))
      = canonical ign (docWith top1 top2 svcs1 svcs2 a b n "build"
        (.map (ba ++ ("ssh", .map [("default", .null), (String.ofList id, sv path)]) :: bb))) := by
  apply canonical_build_attr_congr
  rw [seg_ssh, transform_at_buildSSH, transform_at_buildSSH, transformSSH_short_eq_long id path hid hd, transformSSH_long_id]

/-- `build.additional_contexts: [KEY=VALUE]` ≡ `{KEY: VALUE}`, whole documents -/
theorem canonical_additionalContexts_short_eq_long (ign : Bool) (top1 top2 svcs1 svcs2 a b ba bb : Val.KVs) (n : String)
    (k v : Str) (hk : ∀ x ∈ k, x ≠ '=') :
    canonical ign (docWith top1 top2 svcs1 svcs2 a b n "build"
        (.map (ba ++ ("additional_contexts", .seq [.str (String.ofList (k ++ '=' :: v))]) :: bb)))
      = canonical ign (docWith top1 top2 svcs1 svcs2 a b n "build"
        (.map (ba ++ ("additional_contexts", .map [(String.ofList k, sv v)]) :: bb))) := by
  apply canonical_build_attr_congr
  rw [seg_additional_contexts, transform_at_additionalContexts, transform_at_additionalContexts,
    transformKeyValue_short_eq_long k v hk ign, transformKeyValue_long_id]

/-- a secret name anywhere in `build.secrets` ≡ `{source: name}`, whole documents -/
theorem canonical_buildSecrets_short_eq_long (ign : Bool) (top1 top2 svcs1 svcs2 a b ba bb : Val.KVs) (n : String)
    (pre post : List Val) (s : String) :
    canonical ign (docWith top1 top2 svcs1 svcs2 a b n "build" (.map (ba ++ ("secrets", .seq (pre ++ .str s :: post)) :: bb)))
      = canonical ign (docWith top1 top2 svcs1 svcs2 a b n "build"
          (.map (ba ++ ("secrets", .seq (pre ++ .map [("source", .str s)] :: post)) :: bb))) := by
  apply canonical_build_attr_congr
  rw [seg_secrets]
  apply transform_item_congr _ _ _ _ _ _ (no_row_buildSecrets _) (by simp [TPath.root])
  show transform ign ["services", seg n, "build", "secrets", "[]"] _ = transform ign ["services", seg n, "build", "secrets", "[]"] _
  rw [transform_at_buildSecret, transform_at_buildSecret]
  rfl

/-- `include: [path]` ≡ `include: [{path: path}]` anywhere in the list, whole documents -/
theorem canonical_include_short_eq_long (ign : Bool) (top1 top2 : Val.KVs) (pre post : List Val) (s : String) :
    canonical ign (.map (top1 ++ ("include", .seq (pre ++ .str s :: post)) :: top2))
      = canonical ign (.map (top1 ++ ("include", .seq (pre ++ .map [("path", .str s)] :: post)) :: top2)) := by
  unfold canonical
  apply transform_key_congr _ _ _ _ _ _ _ root_recurses
  obtain ⟨h1, hk, hp⟩ : TPath.nextK TPath.root "include" = ["include"]
      ∧ TPath.firstMatch CV.Gen.transformers ["include"] = none
      ∧ TPath.firstMatch CV.Gen.transformers ["include", "[]"] = some "transformInclude" := by decide +kernel
  rw [h1]
  apply transform_item_congr _ _ _ _ _ _ hk (by simp [TPath.root])
  show transform ign ["include", "[]"] _ = transform ign ["include", "[]"] _
  rw [transform_leaf_at ign _ _ _ hp (by simp [recursesOnMap]), transform_leaf_at ign _ _ _ hp (by simp [recursesOnMap]),
    leaf_include, leaf_include]
  rfl

end CV.Short
