import ComposeVerif.Gen.C07Funcs
/-!
# C07 — the functions of template/template.go that the model mirrors are the ones in the source now

`translator/c07_funcs.go` prints, for each function the hand-written models
(`Model/Template.lean`, `Model/TemplateOpts.lean`) mirror, its signature and the text of its statements
(comments dropped, white space squashed).  The obligation below compares them with the text the models were
written against; an edit of any of these functions breaks it and the model has to be re-read against the source.
(`getFirstBraceClosingIndex`, the dotenv mapping closure and the interpolation call: `callers_are_modelled`;
the regexp fragments and the operator table: `regex_is_modelled`, `opTable_is_modelled`.)
-/
namespace CV.Template

def src_SubstituteWithOptions : String × List String :=
  ("func(template string, mapping Mapping, options ...Option) (string, error)",
  ["var returnErr error",
   "cfg := &Config{ pattern: DefaultPattern, replacementFunc: DefaultReplacementFunc, logging: true, }",
   "for _, o := range options { o(cfg) }",
   "result := cfg.pattern.ReplaceAllStringFunc(template, func(substring string) string { replacement, err := cfg.replacementFunc(substring, mapping, cfg) if err != nil { var tmplErr *InvalidTemplateError if errors.As(err, &tmplErr) { if tmplErr.Template == \"\" { tmplErr.Template = template } } if returnErr == nil { returnErr = err } } return replacement })",
   "return result, returnErr"])

def src_DefaultReplacementFunc : String × List String :=
  ("func(substring string, mapping Mapping, cfg *Config) (string, error)",
  ["value, _, err := DefaultReplacementAppliedFunc(substring, mapping, cfg)",
   "return value, err"])

def src_DefaultReplacementAppliedFunc : String × List String :=
  ("func(substring string, mapping Mapping, cfg *Config) (string, bool, error)",
  ["pattern := cfg.pattern",
   "subsFunc := cfg.substituteFunc",
   "if subsFunc == nil { _, subsFunc = getSubstitutionFunctionForTemplate(substring) }",
   "closingBraceIndex := getFirstBraceClosingIndex(substring)",
   "rest := \"\"",
   "if closingBraceIndex > -1 { rest = substring[closingBraceIndex+1:] substring = substring[0 : closingBraceIndex+1] }",
   "matches := pattern.FindStringSubmatch(substring)",
   "groups := matchGroups(matches, pattern)",
   "if escaped := groups[groupEscaped]; escaped != \"\" { return escaped, true, nil }",
   "braced := false",
   "substitution := groups[groupNamed]",
   "if substitution == \"\" { substitution = groups[groupBraced] braced = true }",
   "if substitution == \"\" { return \"\", false, &InvalidTemplateError{} }",
   "if braced { value, applied, err := subsFunc(substitution, mapping) if err != nil { return \"\", false, err } if applied { interpolatedNested, err := SubstituteWith(rest, mapping, pattern) if err != nil { return \"\", false, err } return value + interpolatedNested, true, nil } }",
   "value, ok := mapping(substitution)",
   "if !ok && cfg.logging { logrus.Warnf(\"The %q variable is not set. Defaulting to a blank string.\", substitution) }",
   "return value, ok, nil"])

def src_SubstituteWith : String × List String :=
  ("func(template string, mapping Mapping, pattern *regexp.Regexp, subsFuncs ...SubstituteFunc) (string, error)",
  ["options := []Option{ WithPattern(pattern), }",
   "if len(subsFuncs) > 0 { options = append(options, WithSubstitutionFunction(subsFuncs[0])) }",
   "return SubstituteWithOptions(template, mapping, options...)"])

def src_getSubstitutionFunctionForTemplate : String × List String :=
  ("func(template string) (string, SubstituteFunc)",
  ["interpolationMapping := []struct { string SubstituteFunc }{ {\":?\", requiredErrorWhenEmptyOrUnset}, {\"?\", requiredErrorWhenUnset}, {\":-\", defaultWhenEmptyOrUnset}, {\"-\", defaultWhenUnset}, {\":+\", defaultWhenNotEmpty}, {\"+\", defaultWhenSet}, }",
   "sort.Slice(interpolationMapping, func(i, j int) bool { idxI := strings.Index(template, interpolationMapping[i].string) idxJ := strings.Index(template, interpolationMapping[j].string) if idxI < 0 { return false } if idxJ < 0 { return true } return idxI < idxJ })",
   "return interpolationMapping[0].string, interpolationMapping[0].SubstituteFunc"])

def src_Substitute : String × List String :=
  ("func(template string, mapping Mapping) (string, error)",
  ["return SubstituteWith(template, mapping, DefaultPattern)"])

def src_defaultWhenEmptyOrUnset : String × List String :=
  ("func(substitution string, mapping Mapping) (string, bool, error)",
  ["return withDefaultWhenAbsence(substitution, mapping, true)"])

def src_defaultWhenUnset : String × List String :=
  ("func(substitution string, mapping Mapping) (string, bool, error)",
  ["return withDefaultWhenAbsence(substitution, mapping, false)"])

def src_defaultWhenNotEmpty : String × List String :=
  ("func(substitution string, mapping Mapping) (string, bool, error)",
  ["return withDefaultWhenPresence(substitution, mapping, true)"])

def src_defaultWhenSet : String × List String :=
  ("func(substitution string, mapping Mapping) (string, bool, error)",
  ["return withDefaultWhenPresence(substitution, mapping, false)"])

def src_requiredErrorWhenEmptyOrUnset : String × List String :=
  ("func(substitution string, mapping Mapping) (string, bool, error)",
  ["return withRequired(substitution, mapping, \":?\", func(v string) bool { return v != \"\" })"])

def src_requiredErrorWhenUnset : String × List String :=
  ("func(substitution string, mapping Mapping) (string, bool, error)",
  ["return withRequired(substitution, mapping, \"?\", func(_ string) bool { return true })"])

def src_withDefaultWhenPresence : String × List String :=
  ("func(substitution string, mapping Mapping, notEmpty bool) (string, bool, error)",
  ["sep := \"+\"",
   "if notEmpty { sep = \":+\" }",
   "if !strings.Contains(substitution, sep) { return \"\", false, nil }",
   "name, defaultValue := partition(substitution, sep)",
   "defaultValue, err := Substitute(defaultValue, mapping)",
   "if err != nil { return \"\", false, err }",
   "value, ok := mapping(name)",
   "if ok && (!notEmpty || (notEmpty && value != \"\")) { return defaultValue, true, nil }",
   "return value, true, nil"])

def src_withDefaultWhenAbsence : String × List String :=
  ("func(substitution string, mapping Mapping, emptyOrUnset bool) (string, bool, error)",
  ["sep := \"-\"",
   "if emptyOrUnset { sep = \":-\" }",
   "if !strings.Contains(substitution, sep) { return \"\", false, nil }",
   "name, defaultValue := partition(substitution, sep)",
   "defaultValue, err := Substitute(defaultValue, mapping)",
   "if err != nil { return \"\", false, err }",
   "value, ok := mapping(name)",
   "if !ok || (emptyOrUnset && value == \"\") { return defaultValue, true, nil }",
   "return value, true, nil"])

def src_withRequired : String × List String :=
  ("func(substitution string, mapping Mapping, sep string, valid func(string) bool) (string, bool, error)",
  ["if !strings.Contains(substitution, sep) { return \"\", false, nil }",
   "name, errorMessage := partition(substitution, sep)",
   "errorMessage, err := Substitute(errorMessage, mapping)",
   "if err != nil { return \"\", false, err }",
   "value, ok := mapping(name)",
   "if !ok || !valid(value) { return \"\", true, &MissingRequiredError{ Reason: errorMessage, Variable: name, } }",
   "return value, true, nil"])

def src_matchGroups : String × List String :=
  ("func(matches []string, pattern *regexp.Regexp) map[string]string",
  ["groups := make(map[string]string)",
   "for i, name := range pattern.SubexpNames()[1:] { groups[name] = matches[i+1] }",
   "return groups"])

def src_partition : String × List String :=
  ("func(s, sep string) (string, string)",
  ["if strings.Contains(s, sep) { parts := strings.SplitN(s, sep, 2) return parts[0], parts[1] }",
   "return s, \"\""])

theorem template_functions_are_modelled :
    CV.Gen.c07_fn_SubstituteWithOptions = src_SubstituteWithOptions ∧
    CV.Gen.c07_fn_DefaultReplacementFunc = src_DefaultReplacementFunc ∧
    CV.Gen.c07_fn_DefaultReplacementAppliedFunc = src_DefaultReplacementAppliedFunc ∧
    CV.Gen.c07_fn_SubstituteWith = src_SubstituteWith ∧
    CV.Gen.c07_fn_getSubstitutionFunctionForTemplate = src_getSubstitutionFunctionForTemplate ∧
    CV.Gen.c07_fn_Substitute = src_Substitute ∧
    CV.Gen.c07_fn_defaultWhenEmptyOrUnset = src_defaultWhenEmptyOrUnset ∧
    CV.Gen.c07_fn_defaultWhenUnset = src_defaultWhenUnset ∧
    CV.Gen.c07_fn_defaultWhenNotEmpty = src_defaultWhenNotEmpty ∧
    CV.Gen.c07_fn_defaultWhenSet = src_defaultWhenSet ∧
    CV.Gen.c07_fn_requiredErrorWhenEmptyOrUnset = src_requiredErrorWhenEmptyOrUnset ∧
    CV.Gen.c07_fn_requiredErrorWhenUnset = src_requiredErrorWhenUnset ∧
    CV.Gen.c07_fn_withDefaultWhenPresence = src_withDefaultWhenPresence ∧
    CV.Gen.c07_fn_withDefaultWhenAbsence = src_withDefaultWhenAbsence ∧
    CV.Gen.c07_fn_withRequired = src_withRequired ∧
    CV.Gen.c07_fn_matchGroups = src_matchGroups ∧
    CV.Gen.c07_fn_partition = src_partition :=
  ⟨rfl, rfl, rfl, rfl, rfl, rfl, rfl, rfl, rfl, rfl, rfl, rfl, rfl, rfl, rfl, rfl, rfl⟩

end CV.Template
