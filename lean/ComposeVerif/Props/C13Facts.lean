import ComposeVerif.Gen.C13Facts
/-!
# C13 — the source still has the shape the transition system was written against

`Gen/C13Facts.lean` is regenerated from `graph/traversal.go` / `graph/graph.go` on every run (translator/c13.go): the
synchronisation-relevant operations of each function in source order.  The literals below are what `Model/Trav.lean`
models, with the correspondence to the labels of the LTS:

* `walk`: counter `expect := len(vertices)`; `nodeCh` buffered with one place per vertex (`wSend` never blocks);
  `eg.SetLimit(maxConcurrency + 1)` (`slotFree`: `sem < limit + 1`); coordinator = first `eg.Go`: `select` on
  `ctx.Done()` (`cCtxDone`, after `<-spawned`: enabled iff `m = none`) / `nodeCh` (`cRecv`: `expect--`, exit at 0, then the
  adjacents loop `schedNext C` …); caller: extremities loop (`schedNext M` …), `close(spawned)` + `eg.Wait` (`schedEnd M`).
* `visit`: `ready` → `enter` → `eg.Go` (`spawn`) in this order; worker: skip test / visitor (`wBegin`, `wReturn`),
  `t.done` **before** `nodeCh <- node` (`wDone` before `wSend`: invariant `handed`), then `return err` (`wExit`).
* `ready` / `enter` / `done`: whole body under `t.mu` (atomic steps); `ready` compares with `vertexVisited`;
  `enter` is a test-and-set on presence in the map; `done` writes `vertexVisited`.
* `skip`, `descendents`: modelled by `skipOf`, `descendents`.

An edit that reorders, drops or adds one of these operations breaks `traversal_source_is_modelled` (and the check then
searches for a failing input with the oracle).
-/
namespace CV.Trav

theorem traversal_source_is_modelled :
    CV.Gen.c13_walk =
      [ "expect := len(g.vertices)", "if expect == 0", "return nil", "make(chan *vertex[S], expect)", "close", "errgroup.WithContext", "if t.maxConcurrency > 0", "eg.SetLimit(t.maxConcurrency + 1)", "make(chan struct{})", "eg.Go", "yield C.select", "recv ctx.Done()", "yield C.ctxDone", "recv spawned", "return nil", "recv nodeCh", "yield C.recv", "expect--", "if expect == 0", "yield C.exit", "return nil", "range t.adjacentNodes(node)", "t.adjacentNodes", "t.visit", "range t.extremityNodes(g)", "t.extremityNodes", "t.visit", "close", "yield M.wait", "return eg.Wait()", "eg.Wait"] ∧
    CV.Gen.c13_visit =
      [ "yield ready", "if !t.ready(node)", "t.ready", "return", "yield enter", "if !t.enter(node)", "t.enter", "return", "yield spawn", "eg.Go", "yield W.begin", "if !t.skip(node)", "t.skip", "t.visitor", "yield W.done", "t.done", "yield W.send", "send nodeCh", "yield W.exit", "return err"] ∧
    CV.Gen.c13_ready =
      [ "t.mu.Lock", "t.mu.Unlock", "depends := v.children", "if t.inverse", "depends = v.parents", "range depends", "if t.status[name] != vertexVisited", "return false", "return true"] ∧
    CV.Gen.c13_enter =
      [ "t.mu.Lock", "t.mu.Unlock", "if _, ok := t.status[v.key]; ok", "return false", "t.status[v.key] = vertexEntered", "return true"] ∧
    CV.Gen.c13_done =
      [ "t.mu.Lock", "t.mu.Unlock", "t.status[v.key] = vertexVisited", "t.results[v.key] = result"] ∧
    CV.Gen.c13_skip =
      [ "if len(t.after) == 0", "return false", "if slices.Contains(t.after, node.key)", "slices.Contains", "return false", "node.descendents", "range t.after", "if slices.Contains(ancestors, name)", "slices.Contains", "return false", "return true"] ∧
    CV.Gen.c13_extremityNodes =
      [ "if t.inverse", "return g.roots()", "return g.leaves()"] ∧
    CV.Gen.c13_adjacentNodes =
      [ "if t.inverse", "return v.children", "return v.parents"] ∧
    CV.Gen.c13_descendents =
      ["range v.children", "return vx"] :=
  ⟨rfl, rfl, rfl, rfl, rfl, rfl, rfl, rfl, rfl⟩

/-- **the glue around `walk`** (`graph/services.go`, `graph/graph.go`, `graph/cycle.go`), regenerated on every
run, is the code `Model/TravProj.lean` / `Model/DepGraph.lean` were written against:

* `CollectInDependencyOrder`: `newGraph`, error ⇒ return before anything else (`Plan.refused`), `newTraversal`, the
  options applied in order, `walk` (`Plan.empty` / `Plan.walk`), `return t.results, err`;
* `newGraph`: a vertex per entry of `project.Services`; per `depends_on` entry: not an enabled service ⇒ required ⇒
  "disabled" if in `DisabledServices` else "unknown" (`scanDeps`), optional ⇒ no edge; otherwise both
  `src.children[dep] = dest` **and** `dest.parents[name] = src` (`children` / `parents`, `mem_parents_iff`); then `checkCycle`;
* `roots` / `leaves`: vertices without parents / without children (`extremities`: `pre = []`);
* `checkCycle` / `searchCycle`: a search from every vertex in name order; a child found on the current path is a cycle,
  otherwise descend with the path extended (`DepGraph.searchCycle`: no visited set, no pruning). -/
theorem glue_source_is_modelled :
    CV.Gen.c13_CollectInDependencyOrder =
      ["newGraph", "if err != nil", "return nil, err", "newTraversal", "range options", "option", "err = walk(ctx, graph, t)", "walk", "return t.results, err"] ∧
    CV.Gen.c13_newGraph =
      ["range project.Services", "g.addVertex", "range project.Services", "src := g.vertices[name]", "range s.DependsOn", "if !ok", "if condition.Required", "if ds, exists := project.DisabledServices[dep]; exists", "return nil, fmt.Errorf(\"service %q is required by %q but is disabled. Can be enabled by profiles %s\", dep, name, ds.Profiles)", "fmt.Errorf", "return nil, fmt.Errorf(\"service %q depends on unknown service %q\", name, dep)", "fmt.Errorf", "src.children[dep] = dest", "dest.parents[name] = src", "err := g.checkCycle()", "g.checkCycle", "return g, err"] ∧
    CV.Gen.c13_roots =
      ["range g.vertices", "if len(v.parents) == 0", "res = append(res, v)", "append", "return res"] ∧
    CV.Gen.c13_leaves =
      ["range g.vertices", "if len(v.children) == 0", "res = append(res, v)", "append", "return res"] ∧
    CV.Gen.c13_checkCycle =
      ["names := utils.MapKeys(g.vertices)", "utils.MapKeys", "range names", "err := searchCycle([]string{name}, g.vertices[name])", "searchCycle", "if err != nil", "return err", "return nil"] ∧
    CV.Gen.c13_searchCycle =
      ["names := utils.MapKeys(v.children)", "utils.MapKeys", "range names", "if i := slices.Index(path, name); i >= 0", "slices.Index", "return fmt.Errorf(\"dependency cycle detected: %s -> %s\", strings.Join(path[i:], \" -> \"), name)", "fmt.Errorf", "ch := v.children[name]", "err := searchCycle(append(path, name), ch)", "searchCycle", "append", "if err != nil", "return err", "return nil"] :=
  ⟨rfl, rfl, rfl, rfl, rfl, rfl⟩

end CV.Trav
