import ComposeVerif.Lemmas.Pipeline
import ComposeVerif.Model.C10Pipeline
import ComposeVerif.Props.C10Glue
import ComposeVerif.Props.C10Opts
/-!
# C10 — accepted ⇒ consistent, stated for the composed pipeline

About `Pipeline.load` (the composed model of `loader.LoadModelWithContext`, tied to the real function by the streams
`pipeline.load` / `pipeline.loadY`) and `C10Whole.loadProject` (the same followed by the typed decode — a parameter — and
the consistency check).
Everything goes through `load_ok_validated` (a load that succeeds with `SkipValidation` off read a `ValidTree`) and
`loadProject_accepted_consistent` (the typed tail on top of it); the rejection theorems are their contrapositives, rule by rule.
-/
namespace CV.C10Whole
open CV CV.Pipeline CV.Consistency CV.Validate

theorem validateStage_ok {c : Cfg} {d d' : Val} (hv : c.opts.skipValidation = false)
    (h : validateStage c d = .ok d') : d' = d ∧ validate d = .ok := by
  unfold validateStage at h
  rw [hv] at h
  simp only [Bool.false_eq_true, if_false] at h
  cases hval : validate d with
  | ok => rw [hval] at h; simp only [ofValidate] at h; cases h; exact ⟨rfl, rfl⟩
  | err e => rw [hval] at h; cases h
  | panic s => rw [hval] at h; cases h

/-- whatever produced the merged tree (documents, or files given as YAML text): when the model is finished and the load
completed with validation on, the tree with its defaults set is a `ValidTree` -/
theorem finish_ok_validated (c : Cfg) (hv : c.opts.skipValidation = false) (src : Out Val) (m : Val.KVs)
    (h : ((src.bind (finishModel c)).bind (finishLoad c)) = .ok m) : ∃ d, src.bind (defaultsStage c) = .ok d ∧ ValidTree d := by
  obtain ⟨_, hm', _⟩ := bind_eq_ok.1 h
  obtain ⟨_, d, _, _, rfl, hd, hval, _⟩ := model_ok hm'
  exact ⟨d, hd, (validate_iff d).mp (validateStage_ok hv hval).2⟩

/-- non-vacuity (`SkipInterpolation` set: `external: yes` is still a string): the tree with `driver` next to it stops in the
validation stage, the same volume without creation parameter goes through -/
example : (finishModel exCfg (.map exBadDoc)).stage = "err:validation" := by decide +kernel
example : ∃ m, finishModel exCfg (.map exGoodDoc) = .ok m := ⟨_, rfl⟩
example : (validateStage exCfg (.map exBadDoc)).stage = "err:validation" ∧ (validateStage exCfg (castTop (.map exBadDoc))).stage = "err:validation" := by decide +kernel

/-- **a load that succeeds with validation on validated a `ValidTree`**: the tree the structural stage reads — every
document merged, defaults set — exists and every checked node of it satisfies its rule; all configurations, all option
combinations, any number of documents -/
theorem load_ok_validated (c : Cfg) (hv : c.opts.skipValidation = false) (docs : List Val.KVs) (m : Val.KVs)
    (h : load c docs = .ok m) : ∃ d, validatedTree c docs = .ok d ∧ ValidTree d := by
  unfold load at h
  split at h
  · cases h
  · exact finish_ok_validated c hv _ m h

/-- **the converse clause for the whole dictionary pipeline**: a model whose merged tree breaks a structural rule does not
load, whatever the other options are -/
theorem load_rejects_invalid_tree (c : Cfg) (hv : c.opts.skipValidation = false) (docs : List Val.KVs) (d : Val)
    (hd : validatedTree c docs = .ok d) (hbad : ¬ ValidTree d) : ∀ m, load c docs ≠ .ok m := by
  intro m h
  obtain ⟨d', hd', hvalid⟩ := load_ok_validated c hv docs m h
  rw [hd] at hd'
  cases hd'
  exact hbad hvalid

theorem load_rejects_of_validate (c : Cfg) (hv : c.opts.skipValidation = false) (docs : List Val.KVs) {d : Val}
    (hd : validatedTree c docs = .ok d) (hbad : validate d ≠ .ok) : ∀ m, load c docs ≠ .ok m :=
  load_rejects_invalid_tree c hv docs d hd fun h => hbad ((validate_iff d).mpr h)

/-- … and the failure is reported by the `validation` stage (or is a panic of one of the checkers' unchecked assertions) -/
theorem load_validation_error (c : Cfg) (hv : c.opts.skipValidation = false) (docs : List Val.KVs) (hne : docs ≠ []) (d : Val)
    (hd : validatedTree c docs = .ok d) (hbad : ¬ ValidTree d) :
    load c docs = .err "validation" ∨ ∃ s, load c docs = .panic s := by
  have hnv : validate d ≠ .ok := fun h => hbad ((validate_iff d).mp h)
  unfold validatedTree at hd
  obtain ⟨merged, hmerged, hdef⟩ := bind_eq_ok.1 hd
  have he : docs.isEmpty = false := by cases docs <;> simp_all
  unfold load loadYamlModel finishModel validateStage
  simp only [he, Bool.false_eq_true, if_false, hmerged, Out.bind, hdef, hv]
  cases hval : validate d with
  | ok => exact absurd hval hnv
  | err e => left; rfl
  | panic s => right; exact ⟨s, rfl⟩

/-- the external-volume instance: the merged tree declares an external volume — `external` in any spelling the cast reads as
true — together with a creation parameter ⇒ the load fails, with `SkipInterpolation` or without -/
theorem load_rejects_external_volume_any_spelling (c : Cfg) (hv : c.opts.skipValidation = false) (docs : List Val.KVs)
    (top vols kvs : Val.KVs) (name k s : String) (x : Val)
    (hd : validatedTree c docs = .ok (.map top))
    (h1 : ("volumes", Val.map vols) ∈ top) (h2 : (name, Val.map kvs) ∈ vols)
    (hext : Val.lookup "external" kvs = some (.str s)) (hs : Interp.parseBool s = some true)
    (hk : (k, x) ∈ kvs) (hbad : externalAllowed k = false) : ∀ m, load c docs ≠ .ok m :=
  load_rejects_of_validate c hv docs hd
    (validate_rejects_external_volume_any_spelling top vols kvs name k s x h1 h2 hext hs hk hbad)

theorem validateStage_cast_invariant (c : Cfg) (d : Val) :
    (validateStage c (castTop d)).stage = (validateStage c d).stage := by
  unfold validateStage
  split
  · rfl
  · rw [validate_cast_invariant]
    cases validate d <;> rfl

theorem tailOpts_checksOn (c : Cfg) (hv : c.opts.skipValidation = false) : Glue.ChecksOn (tailOpts c false) :=
  ⟨hv, rfl⟩

/-- **accepted ⇒ consistent, for the composed function**: a project returned by a load with both checks on comes from a
merged tree in which every checked node satisfies its structural rule, and it satisfies every reference, exclusivity and
pairing rule and has an acyclic dependency graph; it is the decoded project with `deploy.replicas := scale` written -/
theorem loadProject_accepted_consistent (c : Cfg) (hv : c.opts.skipValidation = false) (decode : Val.KVs → Proj)
    (hnd : ∀ m, (decode m).enabled.Nodup) (docs : List Val.KVs) (p : Proj)
    (h : loadProject c false decode docs = .ok p) :
    (∃ d, validatedTree c docs = .ok d ∧ ValidTree d) ∧
    ∃ m, load c docs = .ok m ∧ p = postState (decode m) ∧ ConsistentFull (decode m) ∧ ConsistentFull p ∧ Consistent p := by
  unfold loadProject at h
  obtain ⟨m, hm, htail⟩ := bind_eq_ok.1 h
  refine ⟨load_ok_validated c hv docs m hm, m, hm, ?_⟩
  cases hcs : Glue.consistencyStage (tailOpts c false) (decode m) <;> rw [hcs] at htail <;> cases htail
  obtain ⟨hc, rfl⟩ := (Glue.consistencyStage_ok_iff rfl).mp hcs
  have hret := accepted_returned_consistent (decode m) (hnd m) hc
  exact ⟨rfl, (checkConsistency_iff (decode m) (hnd m)).mp hc, hret, hret.consistent⟩

/-- **the converse for the composed function**: the merged tree breaks a structural rule, or the decoded project breaks a
consistency rule ⇒ no project is returned -/
theorem loadProject_rejects (c : Cfg) (hv : c.opts.skipValidation = false) (decode : Val.KVs → Proj)
    (hnd : ∀ m, (decode m).enabled.Nodup) (docs : List Val.KVs)
    (hbad : (∃ d, validatedTree c docs = .ok d ∧ ¬ ValidTree d) ∨ (∀ m, load c docs = .ok m → ¬ ConsistentFull (decode m))) :
    ∀ p, loadProject c false decode docs ≠ .ok p := by
  intro p h
  obtain ⟨⟨d, hd, hvalid⟩, m, hm, _, hfull, _⟩ := loadProject_accepted_consistent c hv decode hnd docs p h
  rcases hbad with ⟨d', hd', hb⟩ | hb
  · rw [hd] at hd'; cases hd'; exact hb hvalid
  · exact hb m hm hfull

/-- a skipped consistency check neither rejects nor writes: the decoded project is returned as it is -/
theorem loadProject_skip_frame (c : Cfg) (decode : Val.KVs → Proj) (docs : List Val.KVs) (m : Val.KVs)
    (h : load c docs = .ok m) : loadProject c true decode docs = .ok (decode m) := by
  unfold loadProject
  rw [h]
  rfl

/-! ## the converse clauses of the property, one by one, for the composed pipeline

Each is `load_rejects_invalid_tree` applied to the whole-tree rejection theorem of the rule: whatever the documents, the
option flags other than `SkipValidation`, and the rest of the merged tree. -/

/-- an external volume declared (as a boolean) together with a creation parameter -/
theorem load_rejects_external_volume (c : Cfg) (hv : c.opts.skipValidation = false) (docs : List Val.KVs)
    (top vols kvs : Val.KVs) (name k : String) (x : Val) (hd : validatedTree c docs = .ok (.map top))
    (h1 : ("volumes", Val.map vols) ∈ top) (h2 : (name, Val.map kvs) ∈ vols)
    (hext : Val.lookup "external" kvs = some (.bool true)) (hk : (k, x) ∈ kvs) (hbad : externalAllowed k = false) :
    ∀ m, load c docs ≠ .ok m :=
  load_rejects_of_validate c hv docs hd
    (validate_rejects_external_volume_with_parameters top vols kvs name k x h1 h2 hext hk hbad)

/-- a secret with none (and no driver / external) or several of its mutually exclusive sources -/
theorem load_rejects_secret_sources (c : Cfg) (hv : c.opts.skipValidation = false) (docs : List Val.KVs)
    (top secs kvs : Val.KVs) (name : String) (hd : validatedTree c docs = .ok (.map top))
    (h1 : ("secrets", Val.map secs) ∈ top) (h2 : (name, Val.map kvs) ∈ secs)
    (hbad : countPresent ["file", "environment"] kvs > 1 ∨
      (countPresent ["file", "environment"] kvs = 0 ∧ has "driver" kvs = false ∧ has "external" kvs = false)) :
    ∀ m, load c docs ≠ .ok m :=
  load_rejects_of_validate c hv docs hd
    (validate_rejects_secret_sources top secs kvs name h1 h2 hbad)

/-- a config with none (and no driver / external) or several of its mutually exclusive sources -/
theorem load_rejects_config_sources (c : Cfg) (hv : c.opts.skipValidation = false) (docs : List Val.KVs)
    (top cfgs kvs : Val.KVs) (name : String) (hd : validatedTree c docs = .ok (.map top))
    (h1 : ("configs", Val.map cfgs) ∈ top) (h2 : (name, Val.map kvs) ∈ cfgs)
    (hbad : countPresent ["file", "environment", "content"] kvs > 1 ∨
      (countPresent ["file", "environment", "content"] kvs = 0 ∧ has "driver" kvs = false ∧ has "external" kvs = false)) :
    ∀ m, load c docs ≠ .ok m :=
  load_rejects_of_validate c hv docs hd
    (validate_rejects_config_sources top cfgs kvs name h1 h2 hbad)

/-- a `gpus` device request with both `count` and `device_ids`, in any service -/
theorem load_rejects_gpus_count_and_ids (c : Cfg) (hv : c.opts.skipValidation = false) (docs : List Val.KVs)
    (top svcs svc kvs : Val.KVs) (name : String) (gpus : List Val) (hd : validatedTree c docs = .ok (.map top))
    (h1 : ("services", Val.map svcs) ∈ top) (h2 : (name, Val.map svc) ∈ svcs) (h3 : ("gpus", Val.seq gpus) ∈ svc)
    (h4 : Val.map kvs ∈ gpus) (hc : has "count" kvs = true) (hi : has "device_ids" kvs = true) :
    ∀ m, load c docs ≠ .ok m :=
  load_rejects_of_validate c hv docs hd
    (validate_rejects_gpus_count_and_ids top svcs svc kvs name gpus h1 h2 h3 h4 hc hi)

/-- a blank `develop.watch.*.path`, in any service -/
theorem load_rejects_blank_watch_path (c : Cfg) (hv : c.opts.skipValidation = false) (docs : List Val.KVs)
    (top svcs svc dev trig : Val.KVs) (name : String) (watch : List Val) (hd : validatedTree c docs = .ok (.map top))
    (h1 : ("services", Val.map svcs) ∈ top) (h2 : (name, Val.map svc) ∈ svcs) (h3 : ("develop", Val.map dev) ∈ svc)
    (h4 : ("watch", Val.seq watch) ∈ dev) (h5 : Val.map trig ∈ watch) (h6 : ("path", Val.str "") ∈ trig) :
    ∀ m, load c docs ≠ .ok m :=
  load_rejects_of_validate c hv docs hd
    (validate_rejects_blank_watch_path top svcs svc dev trig name watch h1 h2 h3 h4 h5 h6)

/-- the consistency half in the property's own terms: a decoded project that is not `Consistent` — some enabled service
breaks one of the sixteen rules of the property text, or the dependency graph has a cycle — is not returned -/
theorem loadProject_rejects_broken_rule (c : Cfg) (hv : c.opts.skipValidation = false) (decode : Val.KVs → Proj)
    (hnd : ∀ m, (decode m).enabled.Nodup) (docs : List Val.KVs) (m : Val.KVs) (hm : load c docs = .ok m)
    (hbad : ¬ Consistent (decode m)) : ∀ p, loadProject c false decode docs ≠ .ok p := by
  intro p h
  obtain ⟨_, m', hm', _, hfull, _⟩ := loadProject_accepted_consistent c hv decode hnd docs p h
  rw [hm] at hm'
  cases hm'
  exact hbad hfull.consistent

/-! ## the same for files given as YAML text (`Pipeline.loadY`: several `---` documents per file, `!reset` / `!override`) -/

theorem loadY_ok_validated (c : Cfg) (hv : c.opts.skipValidation = false) (files : List (List Reset.YNode)) (m : Val.KVs)
    (h : loadY c files = .ok m) : ∃ d, validatedTreeY c files = .ok d ∧ ValidTree d := by
  unfold loadY at h
  split at h
  · cases h
  · exact finish_ok_validated c hv _ m h

/-- … and a merged tree that breaks a structural rule does not load, whatever `!reset` / `!override` tags produced it -/
theorem loadY_rejects_invalid_tree (c : Cfg) (hv : c.opts.skipValidation = false) (files : List (List Reset.YNode)) (d : Val)
    (hd : validatedTreeY c files = .ok d) (hbad : ¬ ValidTree d) : ∀ m, loadY c files ≠ .ok m := by
  intro m h
  obtain ⟨d', hd', hvalid⟩ := loadY_ok_validated c hv files m h
  rw [hd] at hd'
  cases hd'
  exact hbad hvalid

end CV.C10Whole
