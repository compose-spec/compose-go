import ComposeVerif.Lemmas.HeapVisit
import ComposeVerif.Props.C14Apply
import ComposeVerif.Gen.C14Progs
/-!
# C14 — visiting services: `ForEachService` / `withServices` on the heap model

`Model/HeapVisit.lean` is the recursion of `withServices` with its heap effects: the stores into `seen` and into the map
of `dependentsForService`, the local `dependencies` that *is* the receiver's `DependsOn` map under the default policy, and
`service.deepCopy()` for the visitor.  The walk reads the receiver itself — there is no project-level copy — so the
clauses of the property are proved from an invariant of the walk (`Lemmas/HeapVisit.lean: VInv`, induction over the fuel
for every name list, policy, `dependencies` value and state), not from "receiver free".
-/
namespace CV.Heap.Visit
open CV.Heap CV.Heap.Deriv CV.Gen.CopyPlan

/-- **visiting services leaves the receiver as it was and hands out isolated deep copies**, for every deep covering copy
plan, project (well typed or not), policy, name list and allocation state: every heap write of the walk goes through memory
allocated since the call; every service handed to the visitor is fresh memory, has the service type and is deep-equal to
the receiver's service of that name ("carries every field"), so mutating it or the receiver never changes the other; the
services handed out are pairwise isolated -/
theorem forEachService_sound (t : Ty) (plan : Plan) (hd : deep t plan = true) (hc : covers t plan = true)
    (p : GoVal) (policy : String) (names : List String) (n : Nat) (hb : Below n p) :
    let st := forEachService t plan p policy false names n
    (∀ u, Below n u → writes st.log u = u) ∧
    (∀ e ∈ st.out, Isolated e.2 p ∧ Within n st.next (addrs e.2) ∧ hasTy t e.2 = true ∧
        (∃ s a, kidOf (.str e.1) (kidsOf (getFld fServices p)) = some s ∧ DeepEq e.2 (.ptr a s)) ∧
        (∀ a ∈ addrs e.2, ∀ c, write a c p = p) ∧ (∀ a ∈ addrs p, ∀ c, write a c e.2 = e.2)) ∧
    List.Pairwise (fun a b : String × GoVal => Isolated a.2 b.2) st.out := by
  have h := forEachService_inv hd hc p policy names n
  refine ⟨fun u => writes_below h.log, fun e he => ?_, h.pw⟩
  obtain ⟨h1, h2, h3⟩ := h.out e he
  have hw : Within n _ (addrs e.2) := ⟨h.lo.2, h1⟩
  exact ⟨hw.isolated hb, hw, h2, h3, (hw.isolated hb).write⟩

theorem forEachService_next_ge (t : Ty) (plan : Plan) (hd : deep t plan = true) (hc : covers t plan = true)
    (p : GoVal) (policy : String) (names : List String) (n : Nat) :
    n ≤ (forEachService t plan p policy false names n).next :=
  (forEachService_inv hd hc p policy names n).lo.2

/-- type and resolved plan of `ServiceConfig.deepCopy()` (the second root of the regenerated copy plan) -/
def svcTy : Ty := match roots with | _ :: r :: _ => rootTy r | _ => .unknown "no root"
def svcPlan : Plan := match roots with | _ :: r :: _ => rootPlan r | _ => .unknown "no root"

/- the second entry of the regenerated `roots`, by position, as `projPlan_deep` is the first -/
theorem svcPlan_deep : deep svcTy svcPlan = true ∧ covers svcTy svcPlan = true :=
  copyPlan_ok.2 _ (List.mem_cons_of_mem _ (List.mem_cons_self ..))

/-- `forEachService_sound` for the `ServiceConfig.deepCopy` that is in the tree now -/
theorem forEachService_tree (p : GoVal) (policy : String) (names : List String) (n : Nat) (hb : Below n p) :
    let st := forEachService svcTy svcPlan p policy false names n
    (∀ u, Below n u → writes st.log u = u) ∧
    (∀ e ∈ st.out, Isolated e.2 p ∧ hasTy svcTy e.2 = true ∧
        ∃ s a, kidOf (.str e.1) (kidsOf (getFld fServices p)) = some s ∧ DeepEq e.2 (.ptr a s)) ∧
    List.Pairwise (fun a b : String × GoVal => Isolated a.2 b.2) st.out :=
  have h := forEachService_sound svcTy svcPlan svcPlan_deep.1 svcPlan_deep.2 p policy names n hb
  ⟨h.1, fun e he => ⟨(h.2.1 e he).1, (h.2.1 e he).2.2.1, (h.2.1 e he).2.2.2.1⟩, h.2.2⟩

/-- the functions the walk is written against — `ForEachService`, `withServices`, `getServicesByNames`,
`dependentsForService`, `ServiceConfig.deepCopy`, `utils.MapsAppend` (returns its *source* when the target is nil: that is
why `dependencies` is the receiver's map), `utils.MapKeys` — still have, comments and `verifYield` lines removed, exactly
this source text (regenerated by `translator/c14prog.go`; seed C14-5 adds a statement to `withServices`, seed C14-4 changes
`ServiceConfig.deepCopy`) -/
theorem visit_sources_unchanged : CV.Gen.C14Progs.visitSources = [
  ("ForEachService", "func (p *Project) ForEachService(names []string, fn ServiceFunc, options ...DependencyOption) error { if len(options) == 0 { options = []DependencyOption{IncludeDependencies} } return p.withServices(names, fn, map[string]bool{}, options, map[string]ServiceDependency{}) }"),
  ("withServices", "func (p *Project) withServices(names []string, fn ServiceFunc, seen map[string]bool, options []DependencyOption, dependencies map[string]ServiceDependency) error { services, servicesNotFound := p.getServicesByNames(names...) if len(servicesNotFound) > 0 { for _, serviceNotFound := range servicesNotFound { if dependency, ok := dependencies[serviceNotFound]; !ok || dependency.Required { return fmt.Errorf(\"no such service: %s\", serviceNotFound) } } } opts := withServicesOptions{ dependencyPolicy: includeDependencies, } for _, option := range options { option(&opts) } for name, service := range services { if seen[name] { continue } seen[name] = true var dependencies map[string]ServiceDependency switch opts.dependencyPolicy { case includeDependents: dependencies = utils.MapsAppend(dependencies, p.dependentsForService(service)) case includeDependencies: dependencies = utils.MapsAppend(dependencies, service.DependsOn) case ignoreDependencies: } if len(dependencies) > 0 { err := p.withServices(utils.MapKeys(dependencies), fn, seen, options, dependencies) if err != nil { return err } } if err := fn(name, service.deepCopy()); err != nil { return err } } return nil }"),
  ("getServicesByNames", "func (p *Project) getServicesByNames(names ...string) (Services, []string) { if len(names) == 0 { return p.Services, nil } services := Services{} var servicesNotFound []string for _, name := range names { service, ok := p.Services[name] if !ok { servicesNotFound = append(servicesNotFound, name) continue } services[name] = service } return services, servicesNotFound }"),
  ("dependentsForService", "func (p *Project) dependentsForService(s ServiceConfig) map[string]ServiceDependency { dependent := make(map[string]ServiceDependency) for _, service := range p.Services { for name, dependency := range service.DependsOn { if name == s.Name { dependent[service.Name] = dependency } } } return dependent }"),
  ("ServiceConfig.deepCopy", "func (s *ServiceConfig) deepCopy() *ServiceConfig { if s == nil { return nil } n := &ServiceConfig{} deriveDeepCopyService(n, s) return n }"),
  ("utils.MapsAppend", "func MapsAppend[T comparable, U any](target map[T]U, source map[T]U) map[T]U { if target == nil { return source } if source == nil { return target } for key, value := range source { if _, ok := target[key]; !ok { target[key] = value } } return target }"),
  ("utils.MapKeys", "func MapKeys[T constraints.Ordered, U any](theMap map[T]U) []T { result := maps.Keys(theMap) slices.Sort(result) return result }")] := rfl

/-- one operation of a history: a derivation program with its pure arguments, or a visit -/
inductive Step where
  | prog (pg : List Stmt) (args : List (String × PData))
  | visit (policy : String) (names : List String)

/-- run a history: a derivation continues from its result, a visit from the project it visited; the list holds every value
the history produces — the derived projects and the services handed to visitors — in order -/
def runMixed (t : Ty) (plan : Plan) (ts : Ty) (sp : Plan) : List Step → GoVal → Nat → List GoVal
  | [], _, _ => []
  | .prog pg args :: r, v, n =>
    let st := runProg t plan pg v args n
    getVar "result" st.vars :: runMixed t plan ts sp r (getVar "result" st.vars) st.next
  | .visit policy names :: r, v, n =>
    let st := forEachService ts sp v policy false names n
    st.out.map (·.2) ++ runMixed t plan ts sp r v st.next

def Step.rf : Step → Bool
  | .prog pg _ => rfL pg
  | .visit _ _ => true

theorem runMixed_layers (t : Ty) (plan : Plan) (ts : Ty) (sp : Plan) (hd : deep t plan = true)
    (hds : deep ts sp = true) (hcs : covers ts sp = true) :
    ∀ (h : List Step) (v : GoVal) (n : Nat), (∀ e ∈ h, e.rf = true) → Below n v → Layers n (runMixed t plan ts sp h v n)
  | [], _, n, _, _ => Layers.nil n
  | .prog pg args :: r, v, n, hrf, hb => by
    have hw := prog_result_within t plan pg v args n (hrf _ (List.mem_cons_self ..)) hd hb
    exact Layers.cons hw (runMixed_layers t plan ts sp hd hds hcs r _ _
      (fun e he => hrf e (List.mem_cons_of_mem _ he)) hw.below)
  | .visit policy names :: r, v, n, hrf, hb => by
    have hs := forEachService_sound ts sp hds hcs v policy names n hb
    have hle := forEachService_next_ge ts sp hds hcs v policy names n
    refine Layers.append (List.pairwise_map.mpr hs.2.2) (fun x hx => ?_) hle
      (runMixed_layers t plan ts sp hd hds hcs r v _ (fun e he => hrf e (List.mem_cons_of_mem _ he)) (hb.mono hle))
    obtain ⟨e, he, rfl⟩ := List.mem_map.mp hx
    exact (hs.2.1 e he).2.1

/-- **histories of derivations and visits** (any length, any receiver-free programs, any policies, names and arguments):
the original project, every derived project and every service handed to a visitor are pairwise isolated -/
theorem mixed_history_isolated (t : Ty) (plan : Plan) (ts : Ty) (sp : Plan) (hd : deep t plan = true)
    (hds : deep ts sp = true) (hcs : covers ts sp = true)
    (h : List Step) (v : GoVal) (n : Nat) (hrf : ∀ e ∈ h, e.rf = true) (hb : Below n v) :
    List.Pairwise Isolated (v :: runMixed t plan ts sp h v n) :=
  (runMixed_layers t plan ts sp hd hds hcs h v n hrf hb).pairwise hb

theorem steps_rf {S : List (List Stmt)} (hS : ∀ pg ∈ S, rfL pg = true) {h : List Step}
    (hp : ∀ e ∈ h, ∀ pg args, e = .prog pg args → pg ∈ S) : ∀ e ∈ h, e.rf = true := by
  intro e he
  cases e with
  | visit _ _ => rfl
  | prog pg args => exact hS pg (hp _ he pg args rfl)

/-- … with the copy plans and the nine derivation programs that are in the tree now -/
theorem mixed_history_tree (h : List Step) (v : GoVal) (n : Nat) (hb : Below n v)
    (hp : ∀ e ∈ h, match e with | .prog pg _ => pg ∈ Deriv.programs.map (·.2) | .visit _ _ => True) :
    List.Pairwise Isolated (v :: runMixed projTy projPlan svcTy svcPlan h v n) :=
  mixed_history_isolated projTy projPlan svcTy svcPlan projPlan_deep.1 svcPlan_deep.1 svcPlan_deep.2 h v n
    (steps_rf (fun _ hm => bodies_receiver_free (List.mem_cons_of_mem _ hm))
      fun e he pg args heq => by subst heq; exact hp _ he) hb

def exSvcTy : Ty := .ptr (.struct [(fName, .scalar), (fDependsOn, .map (.struct [(fRequired, .scalar)]))])
def exSvcPlan : Plan := .newPtr (.fields [(fName, .assign), (fDependsOn, .newMap (.fields [(fRequired, .assign)]))])
/-- `web` depends (optionally) on `db`, which is not enabled; `api` depends on `web` -/
def exVisitProj : GoVal := .ptr 1 (.struct [(.fld fServices, .map 2 [
  (.str "api", .struct [(.fld fName, .scalar "s:api"), (.fld fDependsOn, .map 3 [(.str "web", .struct [(.fld fRequired, .scalar "b:true")])])]),
  (.str "web", .struct [(.fld fName, .scalar "s:web"), (.fld fDependsOn, .map 4 [(.str "db", .struct [(.fld fRequired, .scalar "b:false")])])])])])

/-- the walk really runs: `api` with dependencies visits `web` first, both copies are new memory, only `seen` is written;
with `IncludeDependents` from `web` the `dependent` map is written as well -/
example : deep exSvcTy exSvcPlan = true ∧ covers exSvcTy exSvcPlan = true ∧
    (forEachService exSvcTy exSvcPlan exVisitProj "deps" false ["api"] 5).err = none ∧
    (forEachService exSvcTy exSvcPlan exVisitProj "deps" false ["api"] 5).out.map (·.1) = ["web", "api"] ∧
    (forEachService exSvcTy exSvcPlan exVisitProj "deps" false ["api"] 5).out.map (fun e => addrs e.2) = [[8, 9], [11, 12]] ∧
    (forEachService exSvcTy exSvcPlan exVisitProj "deps" false ["api"] 5).log.map (·.1) = [5, 5] ∧
    (forEachService exSvcTy exSvcPlan exVisitProj "dependents" false ["web"] 5).out.map (·.1) = ["api", "web"] ∧
    (forEachService exSvcTy exSvcPlan exVisitProj "dependents" false ["web"] 5).log.map (·.1) = [5, 7, 5] := by
  decide +kernel

def exSvcTy2 : Ty := .ptr (.struct [(fNetworks, .map (.ptr .scalar))])
def exSvcPlan2 : Plan := .newPtr (.fields [(fNetworks, .newMap (.newPtr .assign))])
def exHist : List Step := [.visit "deps" [], .prog withoutUnnecessaryResources [], .visit "ignore" ["web"]]
/-- a history mixing visits and a derivation really runs on the project of `Props/C14Deriv.lean`: visit everything (one copy,
cells 9–10), prune the unused resources (a project in cells 11–19), visit `web` of the result (cells 23–24) -/
example : (∀ e ∈ exHist, e.rf = true) ∧ deep exSvcTy2 exSvcPlan2 = true ∧ covers exSvcTy2 exSvcPlan2 = true ∧
    (runMixed exTy2 exPlan2 exSvcTy2 exSvcPlan2 exHist exProj 6).map addrs =
      [[9, 10], [11, 16, 13, 14, 15, 17, 18, 19], [23, 24]] := by decide +kernel

end CV.Heap.Visit
