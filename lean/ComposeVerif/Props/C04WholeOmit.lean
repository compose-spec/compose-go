import ComposeVerif.Props.C04Whole
import ComposeVerif.Gen.OmitEmpty
/-!
# C04 / composed pipeline — the omit-empty table of the tree

`Props/C04Whole.lean` proves that a top-level entry introduced with `!override` survives every later stage of the composed
step under the hypothesis that no pattern of the omit-empty table has fewer than two parts.  That table
reaches the model at run time (the harness hands `loader.VerifOmitEmptyPatterns()` to the driver); it is also
regenerated from `loader/omitEmpty.go` on every run (`translator/omitempty.go` → `Gen/OmitEmpty.lean`), so the hypothesis is
a decided fact about the source, the theorems are instantiated at the table the code has, and the driver refuses a run
whose run-time table is not the regenerated one (`Ops/Pipeline.omitTableBad`: a disagreement, the tie is broken).
-/
namespace CV.C04.Whole
open CV CV.Pipeline

/-- the table the models and the theorems below were written against; `unknown:` rows (a shape the translator does not
recognise) or any other table break this obligation -/
theorem omitempty_table_is_source : CV.Gen.omitempty = [["services", "*", "dns"]] := by decide +kernel

/-- every pattern of the table of the tree has at least two parts (no top-level key can be dropped by `OmitEmpty`) -/
theorem omitempty_patterns_long : ∀ pat ∈ CV.Gen.omitempty, 2 ≤ pat.length := by decide +kernel

/-- `restStages_keeps_top_key` at the table of the tree: no hypothesis about the table is left -/
theorem restStages_keeps_top_key_src (c : Cfg) (ho : c.omitPats = CV.Gen.omitempty) (u : Val.KVs) (r : Val) (k : String)
    (hk : k ≠ "version") (hin : k ∈ Val.keys u) (h : restStages c (.map u) = .ok r) :
    ∃ kvs, r = .map kvs ∧ k ∈ Val.keys kvs :=
  restStages_keeps_top_key c (ho ▸ omitempty_patterns_long) u r k hk hin h

/-- **`!override` on a top-level entry, through all stages of the composed step, for the loader's own table** -/
theorem processNode_override_replaces_src (c : Cfg) (hi : c.opts.skipInterpolation = true) (he : c.opts.skipExtends = true)
    (ho : c.omitPats = CV.Gen.omitempty)
    (a : Val.KVs) (es : List (String × Reset.YNode)) (k : String) (x : Reset.YNode) (r : Val) (hk : k ≠ "version")
    (ht : x.tag = .override) (hnd : (es.map Prod.fst).Nodup) (hmem : (k, x) ∈ es)
    (h : processNode c (.map a) (.map .none es) = .ok r) : ∃ kvs, r = .map kvs ∧ k ∈ Val.keys kvs :=
  processNode_override_replaces c hi he (ho ▸ omitempty_patterns_long) a es k x r hk ht hnd hmem h

/-- the non-vacuity configuration of `C04Whole` uses exactly the table of the tree -/
example : exCfg.omitPats = CV.Gen.omitempty := by decide +kernel

end CV.C04.Whole
