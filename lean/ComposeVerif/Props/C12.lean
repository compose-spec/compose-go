import ComposeVerif.Lemmas.PathsCompose
import ComposeVerif.Lemmas.PathsRows
import ComposeVerif.Gen.PathsConsts
import ComposeVerif.Lemmas.TablesExclusive
import ComposeVerif.Lemmas.PathsVectors
/-!
# C12 — relative paths resolve against the right directory, everything else is untouched

Property theorems only (helper lemmas: `Lemmas/PathsClean.lean`, `PathsWin.lean`, `PathsStr.lean`, `PathsTree.lean`,
`PathsCompose.lean`; what the resolvers did before the repairs: `Neg/C12.lean`).
All statements quantify over every string / tree / base directory; nothing is bounded.
-/
namespace CV.Paths
open CV CV.TPath CV.Paths.Spec

/-! ## the regenerated facts the model was written against -/

/-- the resolver table regenerated from paths/resolve.go is this literal: the theorems below talk about the table in the
source -/
theorem resolvers_is_modelled :
    CV.Gen.resolvers = [
      (["services", "*", "build", "context"], "absContextPath"),
      (["services", "*", "build", "additional_contexts", "*"], "absContextPath"),
      (["services", "*", "env_file", "*", "path"], "absPath"),
      (["services", "*", "label_file", "*"], "absPath"),
      (["services", "*", "extends", "file"], "absExtendsPath"),
      (["services", "*", "develop", "watch", "*", "path"], "absSymbolicLink"),
      (["services", "*", "volumes", "*"], "absVolumeMount"),
      (["configs", "*", "file"], "maybeUnixPath"),
      (["secrets", "*", "file"], "maybeUnixPath"),
      (["include", "path"], "absPath"),
      (["include", "project_directory"], "absPath"),
      (["include", "env_file"], "absPath"),
      (["volumes", "*"], "volumeDriverOpts")] := rfl

/-- no two rows can match the same path … -/
theorem resolvers_exclusive : PairwiseExclusive CV.Gen.resolvers := CV.Gen.tables_exclusive.2.2.2.2.1

/-- … so the order in which Go ranges over the `map[tree.Path]resolver` is irrelevant: every permutation of
the table gives the same walk -/
theorem resolve_table_order_irrelevant (t' : Table) (hp : t'.Perm CV.Gen.resolvers) (cfg : Cfg) (p : TPath) (v : Val) :
    walk t' cfg p v = walk CV.Gen.resolvers cfg p v :=
  walk_congr _ _ cfg (fun x => firstMatch_perm resolvers_exclusive hp x) p v

theorem resolvers_handlers_known :
    ∀ e ∈ CV.Gen.resolvers, e.2 ∈ ["absPath", "absContextPath", "absExtendsPath", "absSymbolicLink",
      "absVolumeMount", "maybeUnixPath", "volumeDriverOpts"] := by decide +kernel

/-- prefixes, the `://` test, the `~` prefix and the literals of the two map resolvers are the modelled ones -/
theorem constants_are_modelled :
    CV.Gen.paths_remotePrefixes.map String.toList = remotePrefixes ∧
    CV.Gen.paths_contextLits = ["unexpected type %T", "://"] ∧ "://".toList = schemeSep ∧
    CV.Gen.paths_expandUserLits.head? = some "~" ∧
    CV.Gen.paths_volumeMountLits = ["type", "source", "invalid mount config for type \"bind\": field Source must not be empty", "source"] ∧
    CV.Gen.types_VolumeTypeBind = "bind" ∧
    CV.Gen.paths_driverOptsLits = ["unexpected type %T", "driver", "local", "driver_opts", "unexpected type %T", "device", "o", "bind", "device"] :=
  ⟨rfl, rfl, rfl, rfl, rfl, rfl, rfl⟩

/-! ## `filepath.Clean` / `Join` (lexical, modelled in full) -/

theorem clean_idempotent (p : Str) : clean (clean p) = clean p := clean_idem p

theorem clean_keeps_anchor (p : Str) : isAbs (clean p) = isAbs p ∧ clean p ≠ [] := ⟨isAbs_clean p, clean_ne_nil p⟩

theorem join_abs (a b : Str) (ha : isAbs a = true) : isAbs (join a b) = true := isAbs_join a b ha

theorem join_associative (a b c : Str) (ha : a ≠ []) (hb : b ≠ []) (hbr : isAbs b = false) :
    join (join a b) c = join a (join b c) := join_assoc a b c ha hb hbr

example : join ['/', 'w'] (join ['s'] ['.', '.', '/', 'x']) = ['/', 'w', '/', 'x'] := by decide +kernel

/-! ## Windows-absolute detection is total (no index or slice bound out of range) -/

theorem volumeNameLen_never_panics (p : Str) : ∃ n, volumeNameLen? p = some n ∧ n ≤ p.length :=
  volumeNameLen_total p

theorem isWindowsAbs_never_panics (p : Str) : isWindowsAbs? p ≠ none := by
  obtain ⟨b, hb⟩ := isWindowsAbs_total p
  rw [hb]; simp

/-- **the index-based code decides the specification of "Windows-absolute"**: drive letter + `:` + slash, or
`\\\\server\\share\\…` with non-empty server and share names that do not start with a dot (either slash) -/
theorem isWindowsAbs_decides_spec (p : Str) : isWindowsAbs? p = some (Spec.winAbs p) := isWindowsAbs_eq_spec p

example : Spec.winAbs ['\\', '\\', 's', '\\', 'h', '\\', 'x'] = true ∧ Spec.winAbs ['c', ':', '/'] = true ∧
    Spec.winAbs ['c', ':', 'x'] = false ∧ Spec.winAbs ['\\', '\\', '.', '\\', 'p', '\\'] = false := by decide +kernel

theorem maybeUnixPath_total (cfg : Cfg) (s : Str) : ∃ r, maybeUnixStr cfg s = .ok r := maybeUnixStr_total cfg s

/-! ## one attribute: the model against the specification -/

/-- the string part of the resolver the table attaches to an attribute of kind `k` -/
def resolveStr (k : Kind) (cfg : Cfg) (s : Str) : Out Str :=
  match k with
  | .localPath => .ok (absPathStr cfg s)
  | .context => .ok (absContextStr cfg s)
  | .extendsFile => .ok (absExtendsStr cfg s)
  | .mount => maybeUnixStr cfg s

/-- the exemption test of an attribute kind -/
def preOf (k : Kind) (cfg : Cfg) : Str → Bool :=
  match k with
  | .context => Paths.urlLike
  | .extendsFile => cfg.remote
  | _ => fun _ => false

theorem preOf_false (k : Kind) (cfg : Cfg) (s : Str) (hu : k = .context → Spec.urlLike s = false)
    (hr : k = .extendsFile → cfg.remote s = false) : preOf k cfg s = false := by
  cases k
  · rfl
  · exact hu rfl
  · rfl
  · exact hr rfl

/-- the four resolvers as one function (`Lemmas/PathsStr.lean`) -/
theorem resolveStr_eq (k : Kind) (cfg : Cfg) (s : Str) :
    resolveStr k cfg s = .ok (resolveWith (preOf k cfg) (k == .mount) cfg s) := by
  cases k
  · exact congrArg Out.ok (absPathStr_eq cfg s)
  · exact congrArg Out.ok (absContextStr_eq cfg s)
  · exact maybeUnixStr_eq cfg s
  · exact congrArg Out.ok (absExtendsStr_eq cfg s)

/-- absolute paths are left as written, for every kind of attribute -/
theorem abs_untouched (k : Kind) (cfg : Cfg) (s : Str) (h : isAbs s = true) : resolveStr k cfg s = .ok s := by
  rw [resolveStr_eq, resolveWith_kept _ cfg s (keep_abs _ s h)]

/-- remote / URL-like build contexts (`://` anywhere, or one of the six prefixes) are left as written -/
theorem remote_untouched (cfg : Cfg) (s : Str) (h : Spec.urlLike s = true) : resolveStr .context cfg s = .ok s := by
  simp only [resolveStr, Out.ok.injEq]
  exact absContextStr_url cfg s h

/-- each prefix of the list is recognised -/
theorem remote_prefix_recognised (pre rest : Str) (h : pre ∈ remotePrefixes) : Spec.urlLike (pre ++ rest) = true := by
  have : isRemoteContext (pre ++ rest) = true := by
    simp only [isRemoteContext, List.any_eq_true]
    exact ⟨pre, h, by simp⟩
  simp [Spec.urlLike, this]

/-- a loader-recognised remote reference in `extends.file` is left as written -/
theorem loader_remote_untouched (cfg : Cfg) (s : Str) (h : cfg.remote s = true) : resolveStr .extendsFile cfg s = .ok s := by
  simp [resolveStr, absExtendsStr, h]

/-- Windows-absolute mount sources / secret and config files / bind devices are left as written -/
theorem winabs_untouched_for_mounts (cfg : Cfg) (s : Str) (h : isWindowsAbs? s = some true) :
    resolveStr .mount cfg s = .ok s := maybeUnixStr_winabs_untouched cfg s h

/-- … and only for those: for the other kinds a Windows-absolute value is an ordinary relative path -/
theorem winabs_is_relative_elsewhere (cfg : Cfg) (s : Str) (ha : isAbs s = false) (hne : s ≠ []) (ht : tilde s = false)
    (hu : Spec.urlLike s = false) (hr : cfg.remote s = false) :
    resolveStr .localPath cfg s = .ok (joinWd cfg.wd s) ∧ resolveStr .context cfg s = .ok (joinWd cfg.wd s) ∧
    resolveStr .extendsFile cfg s = .ok (joinWd cfg.wd s) := by
  have hk := keep_rel false s ha (fun _ => hne) nofun
  simp only [resolveStr_eq]
  exact ⟨congrArg Out.ok (resolveWith_relative cfg s rfl ht hk), congrArg Out.ok (resolveWith_relative cfg s hu ht hk),
    congrArg Out.ok (resolveWith_relative cfg s hr ht hk)⟩

/-- a relative value becomes the base directory joined with it (`joinWd`: lexically cleaned; against a *relative*
base a leading `./` is kept where the result would otherwise be re-read as `~`, remote or Windows-absolute) -/
theorem relative_is_guarded_join (k : Kind) (cfg : Cfg) (s : Str) (ha : isAbs s = false) (hne : s ≠ []) (ht : tilde s = false)
    (hu : k = .context → Spec.urlLike s = false) (hr : k = .extendsFile → cfg.remote s = false)
    (hw : k = .mount → isWindowsAbs? s = some false) :
    resolveStr k cfg s = .ok (joinWd cfg.wd s) := by
  rw [resolveStr_eq, resolveWith_relative cfg s (preOf_false k cfg s hu hr) ht
    (keep_rel _ s ha (fun _ => hne) fun e => hw (eq_of_beq e))]

/-- **against an absolute base a relative value becomes exactly `Join(base, value)`** -/
theorem relative_is_join (k : Kind) (cfg : Cfg) (s : Str) (hwd : isAbs cfg.wd = true)
    (ha : isAbs s = false) (hne : s ≠ []) (ht : tilde s = false)
    (hu : k = .context → Spec.urlLike s = false) (hr : k = .extendsFile → cfg.remote s = false)
    (hw : k = .mount → isWindowsAbs? s = some false) :
    resolveStr k cfg s = .ok (join cfg.wd s) := by
  rw [relative_is_guarded_join k cfg s ha hne ht hu hr hw, joinWd_of_abs _ _ hwd]

/-- the guard of a relative result is the specification's `localize` -/
theorem joinWd_is_localized_join (wd s : Str) : joinWd wd s = Spec.localize (join wd s) := by
  simp only [joinWd, Spec.localize, ambiguous_eq_reread]

/-- a guarded result denotes the same path: joining it onto any directory ignores the `./` -/
theorem guarded_join_same_path (W R v : Str) (hW : W ≠ []) : join W (joinWd R v) = join W (join R v) :=
  join_joinWd W R v hW

theorem join_is_clean_concat (wd s : Str) (h : wd ≠ []) : join wd s = clean (wd ++ '/' :: s) := join_of_ne wd s h

/-- a leading `~` expands to the home directory joined with the rest -/
theorem tilde_expands (k : Kind) (cfg : Cfg) (h rest : Str) (hh : cfg.home = some h) (ha : isAbs h = true)
    (hu : k = .context → Spec.urlLike ('~' :: rest) = false) (hr : k = .extendsFile → cfg.remote ('~' :: rest) = false) :
    resolveStr k cfg ('~' :: rest) = .ok (join h rest) := by
  rw [resolveStr_eq, resolveWith_tilde _ cfg h rest (preOf_false k cfg _ hu hr) hh ha]

/-- **the model refines the specification**, for every kind of path attribute:
whatever `Spec.expected?` prescribes is what the resolver computes (the proof follows the if-order of `Spec.classify`,
one `by_cases` per test, each exempt / tilde / absolute branch closed by its lemma above) -/
theorem model_meets_spec (k : Kind) (cfg : Cfg) (s r : Str)
    (h : expected? k cfg.wd cfg.home cfg.remote s = some r) : resolveStr k cfg s = .ok r := by
  unfold expected? at h
  unfold classify at h
  by_cases h1 : k = .context ∧ Spec.urlLike s = true
  · simp only [h1, and_self, if_true, Option.some.injEq] at h
    subst h
    rw [h1.1]; exact remote_untouched cfg s h1.2
  simp only [h1, if_false] at h
  by_cases h2 : k = .extendsFile ∧ cfg.remote s = true
  · simp only [h2, and_self, if_true, Option.some.injEq] at h
    subst h
    rw [h2.1]; exact loader_remote_untouched cfg s h2.2
  simp only [h2, if_false] at h
  by_cases h3 : s = []
  · simp [h3] at h
  simp only [h3, if_false] at h
  have hu : k = .context → Spec.urlLike s = false := fun e => by
    cases hh : Spec.urlLike s with
    | false => rfl
    | true => exact absurd ⟨e, hh⟩ h1
  have hr : k = .extendsFile → cfg.remote s = false := fun e => by
    cases hh : cfg.remote s with
    | false => rfl
    | true => exact absurd ⟨e, hh⟩ h2
  by_cases h4 : s.head? = some '~'
  · simp only [h4, if_true] at h
    cases s with
    | nil => simp at h4
    | cons c rest =>
      simp only [List.head?_cons, Option.some.injEq] at h4
      subst h4
      cases hh : cfg.home with
      | none => rw [hh] at h; simp at h
      | some hm =>
        rw [hh] at h
        simp only at h
        by_cases ha : isAbs hm = true
        · simp only [ha, if_true, List.drop_succ_cons, List.drop_zero, Option.some.injEq] at h
          subst h
          exact tilde_expands k cfg hm rest hh ha hu hr
        · simp [ha] at h
  simp only [h4, if_false] at h
  by_cases h5 : isAbs s = true
  · simp only [h5, if_true, Option.some.injEq] at h
    subst h
    exact abs_untouched k cfg s h5
  simp only [h5, Bool.false_eq_true, if_false] at h
  by_cases h6 : k = .mount ∧ winAbs s = true
  · simp only [h6, and_self, if_true, Option.some.injEq] at h
    subst h
    rw [h6.1]
    exact winabs_untouched_for_mounts cfg s (by rw [isWindowsAbs_eq_spec, h6.2])
  simp only [h6, if_false, Option.some.injEq] at h
  subst h
  rw [← joinWd_is_localized_join]
  refine relative_is_guarded_join k cfg s (by simpa using h5) h3 (by simp [tilde, h4]) hu hr (fun e => ?_)
  rw [isWindowsAbs_eq_spec]
  cases hw : winAbs s with
  | false => rfl
  | true => exact absurd ⟨e, hw⟩ h6

example : expected? .context ['/', 'w'] (some ['/', 'h']) (fun _ => false) ['.', '/', 'x'] = some ['/', 'w', '/', 'x'] := by decide +kernel

/-- **every resolved path attribute is absolute or exempt**: with an absolute base and an absolute (or unset) home,
the resolved value is absolute, or it is the written value and that value is exempt (remote/URL-like context,
loader-recognised remote reference, Windows-absolute mount source); the written value is not empty -/
theorem resolved_abs_or_exempt (k : Kind) (cfg : Cfg) (s r : Str) (hwd : isAbs cfg.wd = true)
    (hhome : ∀ h, cfg.home = some h → isAbs h = true) (hne : s ≠ []) (h : resolveStr k cfg s = .ok r) :
    isAbs r = true ∨
    (r = s ∧ ((k = .context ∧ Spec.urlLike s = true) ∨ (k = .extendsFile ∧ cfg.remote s = true) ∨
              (k = .mount ∧ isWindowsAbs? s = some true))) := by
  rw [resolveStr_eq, Out.ok.injEq] at h
  subst h
  rcases resolveWith_cases (preOf k cfg) (k == .mount) cfg s with ⟨hp, e⟩ | ⟨_, hk, e⟩ | ⟨_, _, e⟩ <;> rw [e]
  · refine .inr ⟨rfl, ?_⟩
    cases k
    · cases hp
    · exact .inl ⟨rfl, hp⟩
    · cases hp
    · exact .inr (.inl ⟨rfl, hp⟩)
  · -- kept: `~` expansion left the value alone (it is not empty: absolute, or Windows-absolute for a mount) or made it absolute
    rcases expandUser_eq_or_abs cfg.home hhome s with e' | ha
    · rw [e'] at hk ⊢
      rcases keep_cases _ _ hk with ha | ⟨_, h0⟩ | ⟨hm, hw⟩
      · exact .inl ha
      · exact absurd h0 hne
      · exact .inr ⟨rfl, .inr (.inr ⟨eq_of_beq hm, hw⟩)⟩
    · exact .inl ha
  · rw [joinWd_of_abs _ _ hwd]; exact .inl (isAbs_join _ _ hwd)

example : resolveStr .mount ⟨['/', 'w'], none, fun _ => false, some⟩ ['C', ':', '\\', 'x'] = .ok ['C', ':', '\\', 'x'] := by decide +kernel
example : resolveStr .localPath ⟨['/', 'w'], none, fun _ => false, some⟩ ['C', ':', '\\', 'x'] = .ok ['/', 'w', '/', 'C', ':', '\\', 'x'] := by decide +kernel

/-! ## frame: nothing but path attributes is ever rewritten -/

/-- the resolved tree differs from the input only inside nodes whose path matches a resolver row: same keys in the
same order, same list lengths, every scalar elsewhere identical -/
theorem frame (cfg : Cfg) (v v' : Val) (h : resolve cfg v = .ok v') : Frame CV.Gen.resolvers TPath.root v v' :=
  walk_frame _ cfg _ v v' h

/-- at a node whose path matches a row, the walker does exactly what that row's resolver does (and does not descend) -/
theorem walk_at_row (cfg : Cfg) (p : TPath) (v : Val) (h : String) (hm : firstMatch CV.Gen.resolvers p = some h) :
    walk CV.Gen.resolvers cfg p v = applyResolver cfg h v :=
  walk_of_match _ cfg p v h hm

example : firstMatch CV.Gen.resolvers ["services", "a", "build", "context"] = some "absContextPath" := by decide +kernel

theorem frame_scalar (cfg : Cfg) (p : TPath) (v : Val) (hm : firstMatch CV.Gen.resolvers p = none)
    (hs : (∀ kvs, v ≠ .map kvs) ∧ (∀ xs, v ≠ .seq xs)) : walk CV.Gen.resolvers cfg p v = .ok v :=
  walk_scalar _ cfg p v hm hs

example : firstMatch CV.Gen.resolvers ["services", "a", "image"] = none := by decide +kernel
example : firstMatch CV.Gen.resolvers ["services", "a", "build", "dockerfile"] = none := by decide +kernel
example : firstMatch CV.Gen.resolvers ["services", "a", "volumes", "[]"] = some "absVolumeMount" := by decide +kernel

/-- inside a service volume only `source` of a bind mount can change: named-volume (and tmpfs, npipe, …) sources are
never rewritten -/
theorem named_volume_untouched (cfg : Cfg) (kvs : Val.KVs) (h : Val.lookup "type" kvs ≠ some (.str "bind")) :
    absVolumeMount cfg (.map kvs) = .ok (.map kvs) := by
  cases hl : Val.lookup "type" kvs with
  | none => simp [absVolumeMount, hl]
  | some t =>
    cases t with
    | str x =>
      by_cases hx : x = "bind"
      · subst hx; exact absurd hl h
      · simp [absVolumeMount, hl, hx]
    | _ => simp [absVolumeMount, hl]

/-- what can happen to a bind mount: its `source` is replaced by the resolved path, nothing else -/
theorem bind_mount_only_source (cfg : Cfg) (kvs : Val.KVs) (v' : Val) (h : absVolumeMount cfg (.map kvs) = .ok v') :
    v' = .map kvs ∨ ∃ s r, Val.lookup "source" kvs = some (.str s) ∧ maybeUnixStr cfg s.toList = .ok r ∧
      v' = .map (Val.insert "source" (.str (String.ofList r)) kvs) := by
  rcases absVolumeMount_shape cfg kvs v' h with ⟨h, _⟩ | ⟨_, s, r, h1, h2, h3⟩
  · exact .inl h
  · exact .inr ⟨s, r, h1, h2, h3⟩

/-- a top-level volume is rewritten only at `driver_opts.device`, only for `driver: local` with `o: bind` -/
theorem volume_only_bind_device (cfg : Cfg) (kvs : Val.KVs) (v' : Val) (h : volumeDriverOpts cfg (.map kvs) = .ok v') :
    v' = .map kvs ∨
    (Val.lookup "driver" kvs = some (.str "local") ∧
      ∃ opts dev d, Val.lookup "driver_opts" kvs = some (.map opts) ∧ Val.lookup "o" opts = some (.str "bind") ∧
        Val.lookup "device" opts = some dev ∧ maybeUnixPath cfg dev = .ok d ∧
        v' = .map (Val.insert "driver_opts" (.map (Val.insert "device" d opts)) kvs)) :=
  (volumeDriverOpts_shape cfg kvs v' h).imp (·.1) id


/-- **resolving an already resolved model changes nothing** (absolute base; symbolic-link resolution a projection) -/
theorem resolve_idem (cfg : Cfg) (hok : IdemOK cfg) (v v' : Val) (h : resolve cfg v = .ok v') :
    resolve cfg v' = .ok v' :=
  walk_idem _ cfg hok _ v v' h

/-- the hypotheses of `resolve_idem` are satisfiable: an absolute base, no symbolic links -/
example : IdemOK ⟨['/', 'w'], none, fun _ => false, some⟩ := idemOK_of_symOK _ _ _ _ symOK_some rfl


/-- **path resolution never panics**, whatever the shape of the tree: `absContextPath`, `absExtendsPath`, `maybeUnixPath`,
`absVolumeMount`, `volumeDriverOpts` answer a value of the wrong kind with an error (`wrong_kind_is_error`) -/
theorem resolve_never_panics (cfg : Cfg) (v : Val) (s : String) : resolve cfg v ≠ .panic s :=
  walk_no_panic _ resolvers_handlers_known cfg _ v s

/-- one value of the wrong kind for each of four resolvers: the answer is an error of class `unexpectedType` (in general:
`absPath_other`, the second clause of `onStr`, `volumeDriverOpts_other`) -/
theorem wrong_kind_is_error (cfg : Cfg) (n : Int) :
    absContextPath cfg (.int n) = .err "unexpectedType" ∧ absExtendsPath cfg .null = .err "unexpectedType" ∧
    maybeUnixPath cfg (.seq []) = .err "unexpectedType" ∧ volumeDriverOpts cfg (.str "x") = .err "unexpectedType" := by
  simp [absContextPath, absExtendsPath, maybeUnixPath, volumeDriverOpts]

/-! ## two-stage resolution (include / extends) = one-stage resolution against the joined directory

Included and extended files are resolved first against a directory `R` relative to the project directory, then —
with the rest of the model — against the project directory `W`.  That is resolving against `Join(W, R)` because the
first stage joins with the guard `joinWd`; with a plain `filepath.Join` it is not (`Neg/C12.lean`: `absPathStr₀` …,
`compose_failed_*`). -/

/-- env/label files, watch paths -/
theorem resolve_compose (home : Option Str) (remote : Str → Bool) (sym : Str → Option Str) (W R s : Str)
    (hW : W ≠ []) (hR : R ≠ []) (hRr : isAbs R = false) :
    absPathStr ⟨W, home, remote, sym⟩ (absPathStr ⟨R, home, remote, sym⟩ s) =
      absPathStr ⟨join W R, home, remote, sym⟩ s :=
  absPathStr_compose home remote sym W R hW hR hRr s

/-- build contexts -/
theorem resolve_compose_context (home : Option Str) (remote : Str → Bool) (sym : Str → Option Str) (W R s : Str)
    (hW : W ≠ []) (hR : R ≠ []) (hRr : isAbs R = false) (hhome : ∀ h, home = some h → h ≠ []) :
    absContextStr ⟨W, home, remote, sym⟩ (absContextStr ⟨R, home, remote, sym⟩ s) =
      absContextStr ⟨join W R, home, remote, sym⟩ s :=
  absContextStr_compose home remote sym W R hW hR hRr s

/-- mount sources, secret/config files, bind devices -/
theorem resolve_compose_mount (home : Option Str) (remote : Str → Bool) (sym : Str → Option Str) (W R s m : Str)
    (hW : W ≠ []) (hR : R ≠ []) (hRr : isAbs R = false)
    (h1 : maybeUnixStr ⟨R, home, remote, sym⟩ s = .ok m) :
    maybeUnixStr ⟨W, home, remote, sym⟩ m = maybeUnixStr ⟨join W R, home, remote, sym⟩ s :=
  maybeUnixStr_compose home remote sym W R hW hR hRr s m h1

/-- the inputs of `Neg.compose_failed_tilde_dir`, through the resolvers with the guarded join -/
example : absPathStr ⟨Neg.W, Neg.H, fun _ => false, some⟩ (absPathStr ⟨['~'], Neg.H, fun _ => false, some⟩ ['x'])
    = ['/', 'w', '/', '~', '/', 'x'] := by decide +kernel

/-- at every node matched by a row, for every resolver, the second stage composes with the first
(no remote resource loaders — the default —, no symbolic links) -/
theorem compose_at_every_node (home : Option Str) (W R : Str) (hW : W ≠ []) (hR : R ≠ []) (hRr : isAbs R = false)
    (hhome : ∀ h, home = some h → h ≠ []) (hn : String) (v : Val) :
    ComposeAt ⟨R, home, fun _ => false, some⟩ ⟨W, home, fun _ => false, some⟩ ⟨join W R, home, fun _ => false, some⟩ hn v :=
  composeAt_all home (fun _ => false) W R hW hR hRr (fun _ => rfl) hn v

/-- **whole trees**: resolving against the relative directory `R` and then against `W` is resolving against `Join(W, R)` —
same result tree, same error — for every tree, every non-empty `W`, every non-empty relative `R` (no remote resource
loaders, no symbolic links; with them: `resolve_compose_tree_sym`) -/
theorem resolve_compose_tree (home : Option Str) (W R : Str) (hW : W ≠ []) (hR : R ≠ []) (hRr : isAbs R = false)
    (hhome : ∀ h, home = some h → h ≠ []) (v v1 : Val)
    (h : resolve ⟨R, home, fun _ => false, some⟩ v = .ok v1) :
    resolve ⟨W, home, fun _ => false, some⟩ v1 = resolve ⟨join W R, home, fun _ => false, some⟩ v :=
  walk_compose_of_stageOK (stageOK_join home _ some W R hW hR hRr symOK_some (fun _ => rfl)) _ _ v v1 h

/-- three stages (include inside include, extends inside include): still the joined directory -/
theorem resolve_compose_tree_twice (home : Option Str) (W R1 R2 : Str) (hW : W ≠ []) (h1 : R1 ≠ []) (h1r : isAbs R1 = false)
    (h2 : R2 ≠ []) (h2r : isAbs R2 = false) (hhome : ∀ h, home = some h → h ≠ []) (v va vb : Val)
    (ha : resolve ⟨R2, home, fun _ => false, some⟩ v = .ok va)
    (hb : resolve ⟨R1, home, fun _ => false, some⟩ va = .ok vb) :
    resolve ⟨W, home, fun _ => false, some⟩ vb = resolve ⟨join W (join R1 R2), home, fun _ => false, some⟩ v := by
  have e1 := resolve_compose_tree home R1 R2 h1 h2 h2r hhome v va ha
  rw [hb] at e1
  have hj : join R1 R2 ≠ [] := join_ne_nil _ _ h1
  have hjr : isAbs (join R1 R2) = false := isAbs_join_rel _ _ h1 h1r
  exact resolve_compose_tree home W (join R1 R2) hW hj hjr hhome v vb e1.symm

end CV.Paths
