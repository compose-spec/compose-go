import ComposeVerif.Props.C13Collect
import ComposeVerif.Props.C13Lts
/-!
# C13 — the theorems of `Props/C13Lts.lean` composed with `CollectInDependencyOrder` (`TravProj.plan`)

Statements about the project's `depends_on` relation (`depAdj p`), for every project with distinct service names, every
direction, limit, root selection and schedule: transitive visit order in both directions, termination of every fair
schedule (the side condition "limit ≥ 1" is discharged by `limitOf`), behaviour after cancellation, the caller is
never refused.
-/
namespace CV.TravProj
open CV.DepGraph CV.Trav

/-- **visit order ⊇ transitive dependency order, both directions.**  Forward walk: when the visitor of `v` is entered,
the visitor of every service `d` that `v` transitively depends on (through visited services) has returned.  Reverse walk
(`InReverseOrder`): the visitor of every service `d` that transitively depends on `v` has returned. -/
theorem collect_order_transitive (p : Proj) (hnd : (names p).Nodup) (inverse : Bool) (maxc : Int) (after : List Name)
    {g : Graph} {lim : Option Nat} (h : plan p inverse maxc after = .walk g lim) {s : St} (hr : Reach g lim s)
    (l1 l2 : List Ev) (v : V) (hlog : s.log = l1 ++ Ev.start v :: l2) (d : V) (hd : g.skip d = false) :
    (inverse = false → DependsVia p (fun m => g.skip m = false) v d → d ∈ finishes l2) ∧
    (inverse = true → DependsVia p (fun m => g.skip m = false) d v → d ∈ finishes l2) := by
  have ⟨hg, _, hpre, _⟩ := collect_walk_graph p hnd inverse maxc after h
  constructor
  · intro hi hc
    subst hi
    exact visit_order_extends_prerequisite_order hg hr
      (preChain_of_dependsVia_fwd (fun v d => by simpa using hpre v d) hc) hd l1 l2 hlog
  · intro hi hc
    subst hi
    exact visit_order_extends_prerequisite_order hg hr
      (preChain_of_dependsVia_rev (fun v d => by simpa using hpre v d) hc) hd l1 l2 hlog

/-- **every fair schedule of an accepted project ends** (and none is infinite): for every option combination — the
LTS side condition "limit ≥ 1" is discharged by `limitOf` (a non-positive `WithMaxConcurrency` sets no limit). -/
theorem collect_fair_schedule_ends (p : Proj) (hnd : (names p).Nodup) (inverse : Bool) (maxc : Int) (after : List Name)
    {g : Graph} {lim : Option Nat} (h : plan p inverse maxc after = .walk g lim) :
    WellFounded (fun s' s : St => Reach g lim s ∧ ∃ l, step? g lim s l = some s') ∧
    ∀ (f : Nat → St), f 0 = init g →
      (∀ i, (∃ l, step? g lim (f i) l = some (f (i + 1))) ∨
        (f (i + 1) = f i ∧ (∀ l, internal l = true → step? g lim (f i) l = none) ∧
          ∀ v, wpc (f i).workers v ≠ some .running)) →
      ∃ i, terminal (f i) := by
  have ⟨hg, _, _, _, _, _, hl⟩ := collect_walk_graph p hnd inverse maxc after h
  exact ⟨step_wellFounded hg, fun f h0 hs => fair_schedule_ends hg (fun n hn => (hl n hn).1) f h0 hs⟩

/-- **after the coordinator has seen the cancellation** nothing new is started, along any continuation (project level) -/
theorem collect_quiet_after_cancel_partial (p : Proj) (hnd : (names p).Nodup) (inverse : Bool) (maxc : Int)
    (after : List Name) {g : Graph} {lim : Option Nat} (h : plan p inverse maxc after = .walk g lim) {s : St}
    (hr : Reach g lim s) (hc : s.cAlive = false) (hleft : ∃ v ∈ names p, v ∉ s.received) (ls : List Label) (s' : St)
    (hrun : runL g lim s ls = some s') :
    s.cancelled = true ∧
    (∀ v, v ∈ s'.workers.map (·.1) → v ∈ s.workers.map (·.1)) ∧
    (∀ v, v ∈ starts s'.log → v ∈ starts s.log ∨ v ∈ s.workers.map (·.1)) := by
  have ⟨hg, hv, _⟩ := collect_walk_graph p hnd inverse maxc after h
  have hleft' : ∃ v ∈ g.verts, v ∉ s.received := by rw [hv]; exact hleft
  have h1 := no_new_worker_after_cancel_partial hg hr hc hleft'
  have h2 := no_new_visits_after_cancel_partial hg hr hc hleft' ls s' hrun
  exact ⟨h1.1, h2.2.2.1, h2.2.2.2⟩

/-- **the caller is never refused**, for the graph of every accepted project (both directions): `post` is the converse
of `pre` there (`collect_walk_graph`), which discharges the hypothesis of `caller_never_refused` -/
theorem collect_caller_never_refused (p : Proj) (hnd : (names p).Nodup) (inverse : Bool) (maxc : Int) (after : List Name)
    {g : Graph} {lim : Option Nat} (h : plan p inverse maxc after = .walk g lim) {s : St} (hr : Reach g lim s)
    (todo : List V) (v : V) :
    (s.m = some ⟨todo, .ready v⟩ → step? g lim s (.ready .M) = some (putSched s .M (some ⟨todo, .enter v⟩))) ∧
    (s.m = some ⟨todo, .enter v⟩ → step? g lim s (.enter .M) =
      some (putSched { s with status := setStatus s.status v .entered } .M (some ⟨todo, .spawn v⟩))) := by
  have ⟨hg, _, hpre, hpost, _⟩ := collect_walk_graph p hnd inverse maxc after h
  refine caller_never_refused hg (fun v u hu => ?_) hr todo v
  have := (hpost v u).mp hu
  exact (hpre u v).mpr (by cases inverse <;> simpa using this)

/-- non-vacuity of `collect_order_transitive`: in the chain 2 → 1 → 0, service 2 depends on 0 through 1 -/
example : DependsVia chain3 (fun _ => True) 2 0 :=
  .cons (m := 1) (by decide) trivial (.one (by decide))

end CV.TravProj
