import ComposeVerif.Lemmas.C08Template
/-!
# C08 — whole documents

The per-leaf lemmas of `Lemmas/C08Template.lean` composed over the traversal (`Props/C08.lean` imports this file):
statements about *documents* — the objects the property quantifies over ("all generated documents × all choices of which scalar leaves are replaced by `${V}`,
`${UNSET:-literal}` or `pre${V}post`", "writing every `$` of a document as `$$`").  Definitions: `Spec/InterpTree.lean`
(`walk`, `castTree`, `LeafRel`, `IsTemplateOf`, `interpolateStage`).  Every theorem holds for every tree, path, table,
environment and float parser; the equalities are between *outcomes* (value, error with its path, or panic).
-/
namespace CV.Interp
open CV CV.TPath

/-- `recursiveInterpolate` is the traversal with the `case string:` arm `leaf` -/
theorem interp_is_walk (c : Cfg) (p : TPath) (v : Val) : interp c p v = walk (leaf c) p v := interp_eq_walk c v p

/-- **the `$$` clause at full strength** (no `NoCast` hypothesis, cf. `interp_escape_roundtrip`): a document with every `$`
    of every value written `$$`, interpolated under *any* environment, is the original document with nothing substituted —
    strings on cast rows cast, cast failures reported with their path, everything else untouched -/
theorem escape_document_typed (c : Cfg) (p : TPath) (v : Val) : interp c p (escapeAll v) = castTree c p v := by
  simp only [interp_eq_walk, walk_escapeAll, leaf_escape]
  rfl

/-- the same for the entry point `Interpolate` (top-level mapping, keys start at `tree.NewPath(key)`) -/
theorem escape_toplevel_typed (c : Cfg) (kvs : List (String × Val)) :
    interpolate c (escapeKVs kvs) = castDocument c kvs := by
  simp only [interpolate, interpKVs_eq_walk, walkKVs_escapeAll, leaf_escape]
  rfl

/-- hence the escaped document does not depend on the environment at all -/
theorem escape_env_independent (c c' : Cfg) (ht : c'.table = c.table) (hf : c'.fp = c.fp) (p : TPath) (v : Val) :
    interp c p (escapeAll v) = interp c' p (escapeAll v) := by
  have h : castOnly c' = castOnly c := by funext q s; simp only [castOnly, ht, hf]
  rw [escape_document_typed, escape_document_typed, castTree, castTree, h]

/-- **the cast table is applied exactly at its rows**: with no string on a row, "nothing substituted" is the tree itself -/
theorem castTree_noCast (c : Cfg) (p : TPath) (v : Val) (h : NoCast c.table p v) : castTree c p v = .ok v :=
  walk_fix v p fun q s hm => castOnly_none (h q s hm)

/-- a document without `$` in its values: interpolation on gives the document with nothing substituted -/
theorem dollar_free_document_typed (c : Cfg) (p : TPath) (v : Val)
    (hd : ∀ q s, (q, s) ∈ leaves p v → '$' ∉ s.toList) : interp c p v = castTree c p v := by
  rw [interp_eq_walk]
  exact walk_congr_on v p fun q s hm => leaf_dollar_free c q s (hd q s hm)

/-- **type transparency for whole documents**: replace any choice of string leaves of `v` by well-formed templates of the
    grammar (`${V}`, `$V`, `${UNSET:-lit}`, `pre${V}post`, any nesting) that evaluate, under the environment, to the text
    they replace — the variable-bearing document `v'` has exactly the outcome of the literal document with nothing
    substituted: same typed values at every path, same error naming the same path -/
theorem variable_document_is_literal (c : Cfg) (p : TPath) (v' v : Val)
    (h : LeafRel (fun _ s t => IsTemplateOf c.env s t) p v' v) : interp c p v' = castTree c p v := by
  rw [interp_eq_walk]
  exact walk_congr (leaf_isTemplateOf c) v' v p h

/-- … and when the literal document itself carries no `$`, both documents *interpolate* to the same outcome
    (the statement the oracle `c08meta` samples on real loads) -/
theorem variable_document_eq_literal_document (c : Cfg) (p : TPath) (v' v : Val)
    (h : LeafRel (fun _ s t => IsTemplateOf c.env s t) p v' v)
    (hd : ∀ q s, (q, s) ∈ leaves p v → '$' ∉ s.toList) : interp c p v' = interp c p v := by
  rw [variable_document_is_literal c p v' v h, dollar_free_document_typed c p v hd]

/-- a `$`-free string is a template of itself: leaves that are left alone satisfy the relation -/
theorem isTemplateOf_literal (env : CV.Template.Env) (s : String) (h : '$' ∉ s.toList) : IsTemplateOf env s s := by
  refine ⟨[.lit s.toList], ?_, ?_, ?_⟩
  · simp only [CV.Template.WF, CV.Template.wfL, CV.Template.Seg.wf, CV.Template.litOkTop, Bool.and_true, Bool.false_eq_true,
      if_false, List.all_eq_true, bne_iff_ne, ne_eq]
    intro ch hc he; exact h (he ▸ hc)
  · simp [CV.Template.renderL, CV.Template.Seg.render, String.ofList_toList]
  · simp [CV.Template.evalL, CV.Template.Seg.eval]

/-- `${NAME}` with `NAME` set to `t` is a template of `t` -/
theorem isTemplateOf_var (env : CV.Template.Env) (n : Str) (t : String) (hn : CV.Template.validName n = true)
    (he : env n = some t.toList) : IsTemplateOf env (String.ofList ('$' :: '{' :: (n ++ ['}']))) t := by
  refine ⟨[.var n true], ?_, ?_, ?_⟩
  · simp [CV.Template.WF, CV.Template.wfL, CV.Template.Seg.wf, hn]
  · simp [CV.Template.renderL, CV.Template.Seg.render]
  · simp [CV.Template.evalL, CV.Template.Seg.eval, he]

/-- the variable-bearing document and the literal one have the same keys, in the same order -/
theorem variable_document_keys {R : TPath → String → String → Prop} (p : TPath) (kvs' kvs : List (String × Val))
    (h : LeafRelKVs R p kvs' kvs) : kvs.map Prod.fst = kvs'.map Prod.fst := leafRel_keys kvs' kvs p h

/-! ## errors at document level: "a value that cannot be converted is an error naming the attribute path" -/

/-- nothing substituted: the only possible error is the cast error of one string leaf, naming that leaf's path -/
theorem castTree_error_names_path (c : Cfg) (p : TPath) (v : Val) (e : Err) (h : castTree c p v = .err e) :
    ∃ q s, (q, s) ∈ leaves p v ∧ castOnly c q s = .err e ∧ e = .cast (pathString q) := by
  obtain ⟨q, s, hm, hl⟩ := walk_err_leaf (castOnly c) v p e h
  exact ⟨q, s, hm, hl, (castOnly_err_path hl).1⟩

/-- if the variable-bearing document fails, the literal one has a string that its cast row rejects, and the error
    names the path of that attribute *in the literal document* (never a substitution error: the templates evaluate) -/
theorem variable_document_error_names_path (c : Cfg) (p : TPath) (v' v : Val) (e : Err)
    (h : LeafRel (fun _ s t => IsTemplateOf c.env s t) p v' v) (he : interp c p v' = .err e) :
    ∃ q t, (q, t) ∈ leaves p v ∧ castOnly c q t = .err e ∧ e = .cast (pathString q) := by
  rw [variable_document_is_literal c p v' v h] at he
  exact castTree_error_names_path c p v e he

/-- the same for the escaped document: the only way it can fail is a `$`-bearing (or otherwise unconvertible) text on a
    cast row, reported at its path -/
theorem escaped_document_error_names_path (c : Cfg) (p : TPath) (v : Val) (e : Err)
    (he : interp c p (escapeAll v) = .err e) :
    ∃ q t, (q, t) ∈ leaves p v ∧ castOnly c q t = .err e ∧ e = .cast (pathString q) := by
  rw [escape_document_typed] at he
  exact castTree_error_names_path c p v e he

/-! ## the loader step: interpolation on / off (loader/loader.go `loadYamlFile`; its guard is held to the source by
`Props/C08Source.lean: interpolation_option_sites`) -/

/-- with `SkipInterpolation` the document is handed on as it is -/
theorem stage_off_id (c : Cfg) (kvs : List (String × Val)) : interpolateStage true c kvs = .ok kvs := rfl

/-- **on(escaped) ≡ off(original)** at the loader step, typed: the escaped document with interpolation on is the
    original document — which is what interpolation off hands on — with nothing substituted (`castDocument`; the
    decode-time cast of loader/mapstructure.go computes the same leaf values, `decode_time_is_castOnly`) -/
theorem stage_on_escaped_is_stage_off (c : Cfg) (kvs : List (String × Val)) :
    interpolateStage false c (escapeKVs kvs) =
      (match interpolateStage true c kvs with
       | .ok kvs0 => castDocument c kvs0
       | .err e => .err e
       | .panic s => .panic s) := by
  simp only [interpolateStage, if_true, Bool.false_eq_true, if_false]
  exact escape_toplevel_typed c kvs

private def cfgT : Cfg :=
  { table := [(["services", "*", "init"], "toBoolean"), (["services", "*", "scale"], "toInt")],
    fp := { f64 := fun _ => none, f32 := fun _ => none },
    env := fun k => if k = ['V'] then some ['y', 'e', 's'] else if k = ['N'] then some ['0', '1', '0'] else none }

/-- `variable_document_is_literal`: a two-leaf document, one leaf replaced by `${V}`, one by `${N}`, one left alone -/
example : LeafRel (fun _ s t => IsTemplateOf cfgT.env s t) ["services"]
    (.map [("a", .map [("init", .str "${V}"), ("scale", .str "${N}"), ("image", .str "i"), ("x", .int 3)])])
    (.map [("a", .map [("init", .str "yes"), ("scale", .str "010"), ("image", .str "i"), ("x", .int 3)])]) := by
  simp only [LeafRel, LeafRelKVs]
  refine ⟨_, rfl, _, _, rfl, ⟨_, rfl, _, _, rfl, ⟨_, rfl, ?_⟩, _, _, rfl, ⟨_, rfl, ?_⟩, _, _, rfl, ⟨_, rfl, ?_⟩, _, _, rfl, rfl, rfl⟩, rfl⟩
  · exact isTemplateOf_var cfgT.env ['V'] "yes" (by decide +kernel) (by decide +kernel)
  · exact isTemplateOf_var cfgT.env ['N'] "010" (by decide +kernel) (by decide +kernel)
  · exact isTemplateOf_literal cfgT.env "i" (by decide +kernel)

/-- … and the literal text with nothing substituted is the typed value (`010` ↦ 8: YAML's octal) -/
example : castTree cfgT ["services", "a", "scale"] (.str "010") = .ok (.int 8) := by
  rw [castTree, walk, castOnly, show firstMatch cfgT.table ["services", "a", "scale"] = some "toInt" by decide +kernel]
  simp only [Caster.ofName, Caster.apply, show parseInt "010" = some 8 by decide +kernel, Option.map_some]

/-- `escape_document_typed` on a cast row: the `$`-bearing text is not a boolean — the cast error names the path -/
example : castTree cfgT ["services", "a", "init"] (.str "$V") = .err (.cast (pathString ["services", "a", "init"])) := by
  rw [castTree, walk, castOnly, show firstMatch cfgT.table ["services", "a", "init"] = some "toBoolean" by decide +kernel]
  simp only [Caster.ofName, Caster.apply, show parseBool "$V" = none by decide +kernel, Option.map_none]

end CV.Interp
