import ComposeVerif.Lemmas.C01Files
/-!
# C01 — a missing or unreadable `env_file` / `label_file` is an error naming it (optional env files excepted)

For every state of the disk, every list of files: `resolveService` answers ok only if every label file and every
required env file is a readable file that parses, and every optional env file is either absent or such a file; an error
names a path of the service's lists at which the disk is not a parsable file; an absent optional env file alone never
causes an error.  Tie: stream `c01files` (real `WithServicesEnvironmentResolved` / `WithServicesLabelsResolved` on a
materialised directory), and streams (c), (c') of the whole-load oracle (design/C01.md §5: referenced files removed / replaced by a directory).
-/
namespace CV.C01
open CV.C01.Files

/-- the clause in contrapositive form: the service resolves only if nothing it needs is missing
or unreadable — every label file and every required env file is a file that parses, an optional env file is that or absent -/
theorem files_missing_or_unreadable_err (fs : String → Disk) (envFiles : List EnvFile) (labelFiles : List String) (l : List String)
    (h : resolveService fs false envFiles labelFiles = .ok l) :
    (∀ e ∈ envFiles, fs e.path = .file true ∨ (e.required = false ∧ isMissing (fs e.path) = true)) ∧
    (∀ p ∈ labelFiles, fs p = .file true) := by
  have h1 := loadEnvFiles_isOk fs envFiles []
  have h2 := loadLabelFiles_isOk fs labelFiles []
  unfold resolveService at h
  simp only [Bool.false_eq_true, if_false] at h
  cases he : loadEnvFiles fs envFiles [] <;> rw [he] at h h1 <;> first | cases h | skip
  cases hl : loadLabelFiles fs labelFiles [] <;> rw [hl] at h h2 <;> first | cases h | skip
  exact ⟨fun e hm => envGood_iff.mp (List.all_eq_true.mp h1.symm e hm), fun p hm => by simpa using List.all_eq_true.mp h2.symm p hm⟩

/-- an error of the env-file loop names one of the service's env files, the disk does
not hold a parsable file there, and if it is merely absent the entry was a required one (an absent OPTIONAL env file
is never the reason of an error) -/
theorem envFile_error_names_a_culprit (fs : String → Disk) (es : List EnvFile) (c p : String)
    (h : loadEnvFiles fs es [] = .err c p) :
    ∃ e ∈ es, e.path = p ∧ fs p ≠ .file true ∧ (isMissing (fs p) = true → e.required = true) :=
  loadEnvFiles_err_names fs es [] c p h

/-! non-vacuity -/
example : resolveService (fun p => if p = "opt.env" then .absent else .file true) false
    [⟨"a.env", true⟩, ⟨"opt.env", false⟩] ["a.labels"] = .ok ["a.env", "a.labels"] := by decide
example : resolveService (fun p => if p = "a.env" then .parentIsFile else .file true) false
    [⟨"a.env", true⟩] [] = .err "notFound" "a.env" := by decide
example : resolveService (fun p => if p = "opt.env" then .directory else .file true) false
    [⟨"opt.env", false⟩] [] = .err "read" "opt.env" := by decide
example : resolveService (fun _ => .absent) true [⟨"a.env", true⟩] ["a.labels"] = .err "notFound" "a.labels" := by decide +kernel


/-- the project resolves iff every service does, each on its own: nothing is carried from one service to the next -/
theorem resolveProject_ok_iff (fs : String → Disk) (skipEnv : Bool) (svcs : List Svc) :
    (resolveProject fs skipEnv svcs).isOk = true ↔
      (skipEnv = true ∨ ∀ s ∈ svcs, (loadEnvFiles fs s.envFiles []).isOk = true) ∧
      ∀ s ∈ svcs, (loadLabelFiles fs s.labelFiles []).isOk = true := by
  simp only [resolveProject_isOk, loadEnvFiles_isOk, loadLabelFiles_isOk, List.all_eq_true, Bool.and_eq_true, Bool.or_eq_true]

/-- whether the project resolves does not depend on the order in which the Go map hands out the services -/
theorem resolveProject_ok_perm (fs : String → Disk) (skipEnv : Bool) (svcs svcs' : List Svc) (hp : svcs.Perm svcs') :
    (resolveProject fs skipEnv svcs).isOk = (resolveProject fs skipEnv svcs').isOk := by
  rw [resolveProject_isOk, resolveProject_isOk, hp.all_eq, hp.all_eq]

/-- **the clause, for a whole project**: if ANY service lists, at ANY position, a required env file that is not there,
the project does not resolve — whatever other references to the same path exist (optional ones, earlier ones, in the
same or in other services) and in whatever order the services are visited.  (What seeded change C01-8 falsifies.) -/
theorem project_required_env_file_missing_err (fs : String → Disk) (svcs : List Svc) (s : Svc) (e : EnvFile)
    (hs : s ∈ svcs) (he : e ∈ s.envFiles) (hr : e.required = true) (hm : isMissing (fs e.path) = true) :
    (resolveProject fs false svcs).isOk = false := by
  rw [resolveProject_isOk, Bool.false_or, Bool.and_eq_false_iff, List.all_eq_false]
  exact .inl ⟨s, hs, by rw [Bool.not_eq_true, List.all_eq_false]; exact ⟨e, he, by simp [envGood, hm, hr]⟩⟩

/-- … and the same for a label file (there is no optional form) -/
theorem project_label_file_missing_err (fs : String → Disk) (skipEnv : Bool) (svcs : List Svc) (s : Svc) (p : String)
    (hs : s ∈ svcs) (hp : p ∈ s.labelFiles) (hm : isMissing (fs p) = true) :
    (resolveProject fs skipEnv svcs).isOk = false := by
  rw [resolveProject_isOk, Bool.and_eq_false_iff, List.all_eq_false]
  refine .inr ⟨s, hs, ?_⟩
  rw [Bool.not_eq_true, List.all_eq_false]
  exact ⟨p, hp, by cases hd : fs p <;> simp_all [isMissing]⟩

/-- non-vacuity: the shape of seeded change C01-8 — service `a` marks `x.env` optional, service `b` requires it, nothing on disk -/
example : (resolveProject (fun _ => .absent) false
    [⟨[⟨"x.env", false⟩], []⟩, ⟨[⟨"x.env", true⟩], []⟩]).isOk = false :=
  project_required_env_file_missing_err _ _ ⟨[⟨"x.env", true⟩], []⟩ ⟨"x.env", true⟩ (by simp) (by simp) rfl rfl

end CV.C01
