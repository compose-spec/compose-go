import ComposeVerif.Lemmas.IncludeImport
/-!
# C06 — `importResources`: when it is a conflict, what it yields, and the sameness test of `ApplyInclude`

The import is a four-storey recursion (`importEntries` over the names of one section, `importResource` for one section of
the document, `importKinds` over the five sections, `importResources`); each fact is proved for the loop over the names
and carried up, storey by storey, in `Lemmas/IncludeImport.lean`.  `s` / `S` is the sameness test: `reflect.DeepEqual`, or `sameResource` inside `ApplyInclude`.
-/
namespace CV.Include
open CV CV.Val

variable {s : Val → Val → Bool} {S : String → Val → Val → Bool}

/-- resources that are already there with the same value (`s a c`) are accepted and change nothing -/
theorem importEntries_identical_ok (frm to : KVs)
    (h : ∀ n a, (n, a) ∈ frm → ∃ c, lookup n to = some c ∧ s a c = true) :
    importEntries s frm to = .ok to := by
  fun_induction importEntries s frm to with
  | case1 to => rfl
  | case2 _ _ _ _ _ _ _ ih => exact ih fun n a' hm => h n a' (List.mem_cons_of_mem _ hm)
  | case3 name a rest to c hl hs =>
    obtain ⟨c', hc, hs'⟩ := h name a List.mem_cons_self
    rw [hl] at hc; cases hc; exact absurd hs' hs
  | case4 name a rest to hl ih =>
    obtain ⟨c, hc, _⟩ := h name a List.mem_cons_self
    rw [hl] at hc; cases hc

/-- the same resources arriving a second time (through another include route) are accepted and change nothing -/
theorem importEntries_twice (frm to r : KVs) (hrefl : ∀ a, s a a = true)
    (h : importEntries s frm to = .ok r) : importEntries s frm r = .ok r :=
  importEntries_identical_ok frm r (importEntries_ok_mem hrefl frm to r h)

/-- importing a validated model into a document is a conflict error exactly when one of
the five sections defines some name on both sides with non-equal values -/
theorem import_conflict_iff (src tgt : KVs) (hs : WfSource src) (ht : WfTarget tgt) :
    importResources S src tgt = .err "conflict" ↔ ∃ k, k ∈ resourceKinds ∧ ConflictAt S src tgt k :=
  importKinds_conflict_iff src hs resourceKinds tgt resourceKinds_nodup (fun _ h => h) ht

/-- a successful `importResources` is the section-wise union (own definitions first); nothing else moves -/
theorem importResources_paste (src tgt r : KVs) (h : importResources S src tgt = .ok r) :
    (∀ k, k ∈ resourceKinds → ∀ n, resourceOf r k n = match resourceOf tgt k n with
        | some v => some v
        | none => resourceOf src k n) ∧
    (∀ k, k ∉ resourceKinds → lookup k r = lookup k tgt) :=
  importKinds_paste src resourceKinds tgt r resourceKinds_nodup h

/-! ## `sameResource`, the test used inside `ApplyInclude` -/

theorem sameResource_refl (W : World) (base k : String) (a : Val) : sameResource W base k a a = true := by
  rw [sameResource, veq_refl, Bool.true_or]

theorem sameResource_of_eq (W : World) (base k : String) (a c : Val) (h : a = c) : sameResource W base k a c = true := by
  subst h; exact sameResource_refl W base k a

/-- **identical after resolution ⇒ accepted**: two definitions whose relative paths resolve, against the including
project's directory, to the same resource are the same — the case of one file reached through two include routes -/
theorem sameResource_of_resolved (W : World) (base k : String) (a c x : Val)
    (ha : W.resolveRes base k a = some x) (hc : W.resolveRes base k c = some x) : sameResource W base k a c = true := by
  simp [sameResource, ha, hc, veq_refl]

/-- … and only those: if the definitions are the same, they are equal or their resolved forms are -/
theorem sameResource_iff (W : World) (base k : String) (a c : Val) :
    sameResource W base k a c = true ↔
      a = c ∨ ∃ x, W.resolveRes base k a = some x ∧ W.resolveRes base k c = some x := by
  simp only [sameResource, Bool.or_eq_true, veq_iff]
  constructor
  · rintro (h | h)
    · exact .inl h
    · cases ha : W.resolveRes base k a with
      | none => simp [ha] at h
      | some x =>
        cases hc : W.resolveRes base k c with
        | none => simp [ha, hc] at h
        | some y =>
          simp only [ha, hc, veq_iff] at h
          exact .inr ⟨x, rfl, by rw [h]⟩
  · rintro (h | ⟨x, ha, hc⟩)
    · exact .inl h
    · right; simp [ha, hc, veq_refl]

/-- the same included model imported a second time inside one `ApplyInclude` (two routes) is accepted and changes nothing -/
theorem import_twice_sameResource (W : World) (base k : String) (frm to r : KVs) (hnd : (frm.map Prod.fst).Nodup)
    (h : importEntries (sameResource W base k) frm to = .ok r) : importEntries (sameResource W base k) frm r = .ok r :=
  importEntries_twice frm to r (sameResource_refl W base k) h

end CV.Include
