import ComposeVerif.Props.C05
/-!
# C05 — the fuel of the model is not part of the property

`applySvc` (the model of the recursive `applyServiceExtends`) is defined by recursion on a fuel argument and
`applyExtendsOrd` runs it with `fuelFor E S` = number of possible tracker keys + 1.  Two facts make the fuel invisible:

* **sufficiency** (`extends_terminates`): with `fuelFor` the out-of-fuel marker is never produced — the cycle
  tracker holds pairwise distinct keys of a finite universe (pigeonhole), so every chain ends or is cut before;
* **irrelevance** (`applySvc_fuel_mono`): a run that does not end in the marker is reproduced verbatim by every
  run with more fuel — induction on the fuel: the step taken (`step`) does not look at the fuel.

Hence `fuel_irrelevant`: for **every** fuel `≥ fuelFor E S` the loop of `ApplyExtends` computes the same outcome (result,
error class or panic site) as `applyExtendsOrd` — the outcome is a function of the document, the files and the visit
order alone; `fuelFor` is a bound that always suffices, not a parameter of the statement.  With the files inside the
model no hypothesis on the environment is left: `fuel_irrelevant_anchored` (Props/C05Anchor.lean), `fuel_irrelevant_loaded`
(Props/C05Load.lean).
-/
namespace CV.Extends
open CV CV.Val

/-- **fuel sufficiency and irrelevance**: any fuel `≥ fuelFor E S` gives the outcome of `fuelFor E S`, for every
document, every file system and every visit order (`FuelFree`: the merge step / file loading do not themselves return
the model's marker — discharged for the real merge step over canonical and raw files in `Props/C05Anchor.lean`,
`Props/C05Load.lean`) -/
theorem fuel_irrelevant {E : Env} (hE : FuelFree E) {order : List String} {S : KVs} (hord : Visits order S)
    (fuel : Nat) (hf : fuelFor E S ≤ fuel) :
    applyAll E fuel order S = applyAll E (fuelFor E S) order S :=
  applyAll_fuel_mono E hf order S
    (applyAll_no_fuel E hE S order S (KeysSub.self E S)
      (fun n hn => KeysSub.self E S n ((hord n).mp hn)))

/-- the outcome of the loop is the **limit** over the fuel: from `fuelFor E S` on it is constant and never the marker -/
theorem extends_outcome_is_fuel_limit {E : Env} (hE : FuelFree E) {order : List String} {S : KVs} (hord : Visits order S) :
    ∃ r, r ≠ .panic fuelMark ∧ ∀ fuel, fuelFor E S ≤ fuel → applyAll E fuel order S = r :=
  ⟨applyAll E (fuelFor E S) order S,
   applyAll_no_fuel E hE S order S (KeysSub.self E S) (fun n hn => KeysSub.self E S n ((hord n).mp hn)),
   fun fuel hf => fuel_irrelevant hE hord fuel hf⟩

/-- the same for one service resolved from the raw mapping with an empty tracker (what `flattenF` / the chain fold
describe): every fuel `≥ fuelFor` gives the same outcome -/
theorem fuel_irrelevant_service {E : Env} (hE : FuelFree E) {S : KVs} (n : String) (fuel : Nat) (hf : fuelFor E S ≤ fuel) :
    applySvc E fuel E.mainFile n S [] = applySvc E (fuelFor E S) E.mainFile n S [] :=
  applySvc_fuel_mono E hf _ _ _ _ (applySvc_main_no_fuel hE (KeysSub.self E S) n)

/-- non-vacuity: the bound is a concrete number — the main file alone, two services: 1 file × 2 names + 1 -/
example : fuelFor ⟨"m", [], fun _ s => .ok s⟩ [("a", .null), ("b", .null)] = 3 := rfl

end CV.Extends
