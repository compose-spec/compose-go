import ComposeVerif.Lemmas.ShortUnits
/-!
# C03 — alternative spellings of durations and byte sizes denote the same typed value

Stated over C09's models of `Duration.DecodeMapstructure` (`time.ParseDuration`) and `UnitBytes.DecodeMapstructure`
(`units.RAMInBytes`), which C09 ties to the real decoders by its own correspondence; C03's metamorphic oracle loads the
pairs `duration`, `bytes:*` through the real loader.
-/
namespace CV.Short.Units
open CV CV.Marshal

/-- a duration written as integer segments (`1m30s`, `90s`, `1h0m5s`, `1500ms` …) decodes to its number of nanoseconds -/
theorem duration_short_eq_long (d : DurSpec) (hne : d ≠ []) (hb : totalNanos d < two63) :
    decode_Duration (.str (String.ofList (renderDur d))) = .ok (.int (totalNanos d)) := by
  show parseDuration (sprint (.str (String.ofList (renderDur d)))) = _
  exact parseDuration_render d hne hb

/-- two spellings of the same duration load to the same typed value -/
theorem duration_spellings_eq (d1 d2 : DurSpec) (h1 : d1 ≠ []) (h2 : d2 ≠ []) (heq : totalNanos d1 = totalNanos d2)
    (hb : totalNanos d1 < two63) :
    decode_Duration (.str (String.ofList (renderDur d1))) = decode_Duration (.str (String.ofList (renderDur d2))) := by
  rw [duration_short_eq_long d1 h1 hb, duration_short_eq_long d2 h2 (heq ▸ hb), heq]

/-- non-vacuity: `1m30s` and `90s` -/
example : totalNanos [(1, .m), (30, .s)] = totalNanos [(90, .s)] ∧ totalNanos [(90, .s)] < two63 := by decide

/-- and the canonical text (`Duration.String`, what a marshalled project shows) is one more spelling of the same value -/
theorem duration_canonical_spelling (d : DurSpec) (hne : d ≠ []) (hb : totalNanos d < two63) :
    decode_Duration (.str (durString (totalNanos d))) = decode_Duration (.str (String.ofList (renderDur d))) := by
  rw [duration_short_eq_long d hne hb]
  have h63 : -(two63 : Int) ≤ 0 := by decide
  have h0 : (0 : Int) ≤ (totalNanos d : Int) := Int.natCast_nonneg _
  have h := parseDuration_durString (totalNanos d : Int) ⟨by omega, by exact_mod_cast hb⟩
  show parseDuration (sprint (.str (durString (totalNanos d : Int)))) = _
  exact h

/-- a size with a unit (`2m`, `512kb`, `1GiB`) decodes to the same typed value as the integer number of bytes -/
theorem size_short_eq_long (a : SizeSpec) (hb : a.bytes < two53) :
    decode_UnitBytes (.str (String.ofList a.render)) = decode_UnitBytes (.int a.bytes) := by
  have hnone : parseInt64? (String.ofList a.render).toList = none := by
    rw [String.toList_ofList]
    exact parseInt64_none _ _ _ (a.unit.letter a.upper).2.1
  simp only [decode_UnitBytes, hnone, ramInBytes_render a hb]

/-- non-vacuity: `2m` is 2097152 bytes, `1GiB` is 1073741824 -/
example : (SizeSpec.mk 2 .m false .bare).bytes = 2097152 ∧ (SizeSpec.mk 1 .g true .ib).bytes = 1073741824
    ∧ (SizeSpec.mk 2 .m false .bare).bytes < two53 := by decide

end CV.Short.Units
