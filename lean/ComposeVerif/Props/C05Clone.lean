import ComposeVerif.Lemmas.ExtendsClone
import ComposeVerif.Gen.C05Facts
/-!
# C05 — `deepClone` gives the merge a private copy of the base

"…equals the base service's fully resolved definition with the extending service's own attributes applied on top":
the merge step writes in place, so this holds for *every* service extending a base — siblings, later links of a chain
that re-read the memoised base, the base itself — only if the working copy shares no container with the base.
Proved here over the heap model `Model/ExtendsClone.lean` for trees of any size and depth; the corresponding statement
about the real heap is decided by the `c05.clone` stream (real `deepClone`: pointer identity of every map header and
backing array, then a write through every container of the clone) and by `result-shares-structure` on whole results.
-/
namespace CV.Extends.Clone
open CV

/-- = `clone_erase` -/
theorem clone_same_value (v : HVal) (n : Nat) : erase (clone n v).1 = erase v := clone_erase v n

/-- every container of the clone is freshly allocated (address in `[n, n')`), and no two containers of the clone are
the same object: the clone is a tree -/
theorem clone_all_fresh (v : HVal) (n : Nat) :
    (∀ a ∈ addrs (clone n v).1, n ≤ a ∧ a < (clone n v).2) ∧ (addrs (clone n v).1).Nodup :=
  ⟨(clone_fresh v n).2.1, (clone_fresh v n).2.2⟩

/-- **independence**: the clone shares no container with the base (nor with anything allocated before the call) -/
theorem clone_independent (v : HVal) (n : Nat) (hv : ∀ a ∈ addrs v, a < n) :
    ∀ a ∈ addrs (clone n v).1, a ∉ addrs v := by
  intro a ha hm
  have h1 := (clone_fresh v n).2.1 a ha
  have h2 := hv a hm
  omega

/-- **the in-place merge cannot reach the base**: whatever is written into any container of the clone, the base —
which stays in the services map and is extended again by other services — is unchanged -/
theorem clone_isolates_base (v : HVal) (n : Nat) (hv : ∀ a ∈ addrs v, a < n) (a : Nat) (ha : a ∈ addrs (clone n v).1)
    (c : HVal) : write a c v = v :=
  write_not_mem v a c (clone_independent v n hv a ha)

/-- **siblings are independent of one another**: two services extending the same base work on disjoint copies (the
second clone is taken after the first, from an unchanged base) -/
theorem sibling_clones_disjoint (v : HVal) (n m : Nat) (hm : (clone n v).2 ≤ m) :
    ∀ a ∈ addrs (clone n v).1, a ∉ addrs (clone m v).1 := by
  intro a ha hb
  have h1 := (clone_fresh v n).2.1 a ha
  have h2 := (clone_fresh v m).2.1 a hb
  omega

/-- … so a write through one sibling's copy leaves the other sibling's copy unchanged -/
theorem sibling_write_invisible (v : HVal) (n m : Nat) (hm : (clone n v).2 ≤ m) (a : Nat)
    (ha : a ∈ addrs (clone n v).1) (c : HVal) : write a c (clone m v).1 = (clone m v).1 :=
  write_not_mem _ a c (sibling_clones_disjoint v n m hm a ha)

/-- = `clone_count`: `deepClone` allocates exactly one new container per container of its argument (the quantity the `c05.clone`
stream compares with the number of distinct new objects on the real heap) -/
theorem clone_allocates_one_per_container (v : HVal) (n : Nat) : (clone n v).2 = n + (addrs v).length :=
  clone_count v n

/-- the statements above are **not** true of the two slips `cloneShallowMap`, `cloneInPlaceSeq`, although both preserve the
value: they are about the heap, not about values (`Neg/C05Clone.lean`) -/
theorem independence_excludes_seeded_slips :
    (erase (cloneShallowMap 2 Neg.base).1 = erase Neg.base ∧ ¬ ∀ a ∈ addrs (cloneShallowMap 2 Neg.base).1, a ∉ addrs Neg.base) ∧
    (erase (cloneInPlaceSeq 2 Neg.baseL).1 = erase Neg.baseL ∧ ¬ ∀ a ∈ addrs (cloneInPlaceSeq 2 Neg.baseL).1, a ∉ addrs Neg.baseL) :=
  ⟨⟨rfl, fun h => h 1 Neg.shallow_shares.1 Neg.shallow_shares.2⟩,
   ⟨rfl, fun h => h 1 Neg.inplace_shares.1 Neg.inplace_shares.2⟩⟩

/-- the clone function modelled here is the one in the tree: statement skeleton of `deepClone`, regenerated -/
theorem deepClone_source_is_modelled :
    CV.Gen.c05_deepClone = [
  "typeswitch v := value.(type)",
  "case []any",
  "range v",
  "cp[i] = deepClone(…)",
  "deepClone(e)",
  "return cp",
  "case map[string]any",
  "range v",
  "cp[k] = deepClone(…)",
  "deepClone(e)",
  "return cp",
  "default",
  "return value"] := rfl

/-- a base laid out below the allocator satisfies the hypothesis of `clone_independent`; its clone lives at 2, 3 -/
example : (∀ a ∈ addrs Neg.base, a < 2) ∧ addrs (clone 2 Neg.base).1 = [2, 3] := by decide

end CV.Extends.Clone
