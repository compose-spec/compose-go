import ComposeVerif.Props.C03
import ComposeVerif.Lemmas.ShortIdem
/-!
# C03 — from the attribute to the whole document

The `transformX_short_eq_long` theorems of `Props/C03.lean` speak about one transformer on one value.  The property
speaks about the loaded *document*.  `canonical_service_attr_congr` lifts any of them: `transform.Canonical` of a
document depends on the value of attribute `k` of service `n` only through the transform of that value at its path —
for every other top-level section, every other service, every other attribute of the service, in any position of the
(ordered) mappings.  The instances below state short ≡ long for whole documents.
-/
namespace CV.Short
open CV CV.Short.Spec

/-- the document around the attribute -/
def docWith (top1 top2 svcs1 svcs2 a b : Val.KVs) (n k : String) (v : Val) : Val :=
  .map (top1 ++ ("services", .map (svcs1 ++ (n, .map (a ++ (k, v) :: b)) :: svcs2)) :: top2)

/-- **lifting**: two values with the same transform at `services.n.k` give the same canonical document -/
theorem canonical_service_attr_congr (ign : Bool) (top1 top2 svcs1 svcs2 a b : Val.KVs) (n k : String) (v v' : Val)
    (h : transform ign (attrPath n k) v = transform ign (attrPath n k) v') :
    canonical ign (docWith top1 top2 svcs1 svcs2 a b n k v) = canonical ign (docWith top1 top2 svcs1 svcs2 a b n k v') := by
  unfold canonical docWith
  apply transform_key_congr _ _ _ _ _ _ _ root_recurses
  rw [services_path]
  apply transform_key_congr _ _ _ _ _ _ _ services_recurses
  have hne : (["services"] : TPath) ≠ TPath.root := by decide
  rw [TPath.nextK_of_ne_root _ _ hne]
  apply transform_key_congr _ _ _ _ _ _ _ (service_recurses _)
  simpa [attrPath, services_path, TPath.nextK_of_ne_root _ _ hne] using h

/-- `depends_on: [names]` ≡ `depends_on: {name: {condition: service_started, required: true}}`, whole documents -/
theorem canonical_dependsOn_short_eq_long (ign : Bool) (top1 top2 svcs1 svcs2 a b : Val.KVs) (n : String)
    (names : List String) (hnd : names.Nodup) :
    canonical ign (docWith top1 top2 svcs1 svcs2 a b n "depends_on" (.seq (names.map Val.str)))
      = canonical ign (docWith top1 top2 svcs1 svcs2 a b n "depends_on" (.map (names.map (fun x => (x, startedRequired))))) := by
  apply canonical_service_attr_congr
  obtain ⟨h1, h2⟩ := transformDependsOn_short_eq_long names hnd
  rw [attrPath_eq, seg_depends_on, transform_at_dependsOn, transform_at_dependsOn, h1, h2]

/-- service `networks: [names]` ≡ `networks: {name: null}`, whole documents -/
theorem canonical_networks_short_eq_long (ign : Bool) (top1 top2 svcs1 svcs2 a b : Val.KVs) (n : String)
    (names : List String) (hnd : names.Nodup) :
    canonical ign (docWith top1 top2 svcs1 svcs2 a b n "networks" (.seq (names.map Val.str)))
      = canonical ign (docWith top1 top2 svcs1 svcs2 a b n "networks" (.map (names.map (fun x => (x, Val.null))))) := by
  apply canonical_service_attr_congr
  rw [attrPath_eq, seg_networks, transform_at_networks, transform_at_networks,
    transformServiceNetworks_short_eq_long names hnd, transformServiceNetworks_long_id]

/-- `env_file: x` ≡ `env_file: [x]` ≡ `env_file: [{path: x, required: true}]`, whole documents -/
theorem canonical_envFile_short_eq_long (ign : Bool) (top1 top2 svcs1 svcs2 a b : Val.KVs) (n s : String) :
    canonical ign (docWith top1 top2 svcs1 svcs2 a b n "env_file" (.str s))
      = canonical ign (docWith top1 top2 svcs1 svcs2 a b n "env_file" (.seq [.map [("path", .str s), ("required", .bool true)]]))
    ∧ canonical ign (docWith top1 top2 svcs1 svcs2 a b n "env_file" (.seq [.str s]))
      = canonical ign (docWith top1 top2 svcs1 svcs2 a b n "env_file" (.seq [.map [("path", .str s), ("required", .bool true)]])) := by
  obtain ⟨_, h2, h3⟩ := transformEnvFile_short_eq_long s
  constructor <;> apply canonical_service_attr_congr <;>
    rw [attrPath_eq, seg_env_file, transform_at_envFile, transform_at_envFile]
  · exact h3.symm
  · exact h2.trans h3.symm

/-- `dns: x` ≡ `dns: [x]` (string vs list), whole documents -/
theorem canonical_dns_short_eq_long (ign : Bool) (top1 top2 svcs1 svcs2 a b : Val.KVs) (n s : String) :
    canonical ign (docWith top1 top2 svcs1 svcs2 a b n "dns" (.str s))
      = canonical ign (docWith top1 top2 svcs1 svcs2 a b n "dns" (.seq [.str s])) := by
  apply canonical_service_attr_congr
  rw [attrPath_eq, seg_dns, transform_at_dns, transform_at_dns]
  rfl

/-- one short port spec: the document with the string has the canonical form of the document with the long entries
(in the order of the code's string sort — a permutation of the grammar's `long`) -/
theorem canonical_ports_short_eq_long (ign : Bool) (top1 top2 svcs1 svcs2 a b : Val.KVs) (n : String)
    (sp : PortSpec) (h : sp.wf = true) :
    ∃ l : List PortCfg, l.Perm sp.long ∧
      canonical ign (docWith top1 top2 svcs1 svcs2 a b n "ports" (.seq [.str (String.ofList sp.render)]))
        = canonical ign (docWith top1 top2 svcs1 svcs2 a b n "ports" (.seq (l.map encodePort))) := by
  obtain ⟨l, hl, ht⟩ := transformPorts_short_eq_long ign sp h
  refine ⟨l, hl, ?_⟩
  apply canonical_service_attr_congr
  rw [attrPath_eq, seg_ports, transform_at_ports, transform_at_ports, ht, transformPorts_idem ign _ _ ht]

/-- **lifting, list element**: item `v` of the list attribute `k` (no handler on the list itself) -/
theorem canonical_service_item_congr (ign : Bool) (top1 top2 svcs1 svcs2 a b : Val.KVs) (n k : String)
    (pre post : List Val) (v v' : Val)
    (hk : TPath.firstMatch CV.Gen.transformers ["services", seg n, seg k] = none)
    (h : transform ign ["services", seg n, seg k, "[]"] v = transform ign ["services", seg n, seg k, "[]"] v') :
    canonical ign (docWith top1 top2 svcs1 svcs2 a b n k (.seq (pre ++ v :: post)))
      = canonical ign (docWith top1 top2 svcs1 svcs2 a b n k (.seq (pre ++ v' :: post))) := by
  apply canonical_service_attr_congr
  rw [attrPath_eq]
  exact transform_item_congr ign _ pre post v v' hk (by simp [TPath.root]) h

/-- one short volume spec anywhere in the `volumes` list ≡ its long mapping (target cleaned), whole documents -/
theorem canonical_volume_short_eq_long (ign : Bool) (top1 top2 svcs1 svcs2 a b : Val.KVs) (n : String)
    (pre post : List Val) (sp : VolSpec) (h : sp.wf = true) :
    canonical ign (docWith top1 top2 svcs1 svcs2 a b n "volumes" (.seq (pre ++ .str (String.ofList sp.render) :: post)))
      = canonical ign (docWith top1 top2 svcs1 svcs2 a b n "volumes"
          (.seq (pre ++ encodeVol { sp.long with target := cleanTarget sp.long.target } :: post))) := by
  apply canonical_service_item_congr
  · rw [seg_volumes]; exact no_row_volumes _
  · rw [seg_volumes, transform_at_volume, transform_at_volume, transformVolumeMount_short_eq_long ign sp h]
    rfl

/-- a well-formed device spec `SRC[:DST[:PERM]]` anywhere in `devices` ≡ its long mapping, whole documents -/
theorem canonical_device_short_eq_long (ign : Bool) (top1 top2 svcs1 svcs2 a b : Val.KVs) (n : String)
    (pre post : List Val) (d : DevSpec) (h : d.wf = true) :
    canonical ign (docWith top1 top2 svcs1 svcs2 a b n "devices" (.seq (pre ++ .str (String.ofList d.render) :: post)))
      = canonical ign (docWith top1 top2 svcs1 svcs2 a b n "devices"
          (.seq (pre ++ .map [("source", sv d.long.1), ("target", sv d.long.2.1), ("permissions", sv d.long.2.2)] :: post))) := by
  apply canonical_service_item_congr
  · rw [seg_devices]; exact no_row_devices _
  · rw [seg_devices, transform_at_device, transform_at_device, transformDeviceMapping_short_eq_long ign d h]
    rfl

/-- a secret / config name anywhere in `secrets` / `configs` ≡ `{source: name}`, whole documents -/
theorem canonical_fileMount_short_eq_long (ign : Bool) (top1 top2 svcs1 svcs2 a b : Val.KVs) (n : String)
    (pre post : List Val) (s : String) :
    canonical ign (docWith top1 top2 svcs1 svcs2 a b n "secrets" (.seq (pre ++ .str s :: post)))
      = canonical ign (docWith top1 top2 svcs1 svcs2 a b n "secrets" (.seq (pre ++ .map [("source", .str s)] :: post)))
    ∧ canonical ign (docWith top1 top2 svcs1 svcs2 a b n "configs" (.seq (pre ++ .str s :: post)))
      = canonical ign (docWith top1 top2 svcs1 svcs2 a b n "configs" (.seq (pre ++ .map [("source", .str s)] :: post))) := by
  constructor
  · apply canonical_service_item_congr
    · rw [seg_secrets]; exact no_row_secrets _
    · rw [seg_secrets, transform_at_secret, transform_at_secret]
      rfl
  · apply canonical_service_item_congr
    · rw [seg_configs]; exact no_row_configs _
    · rw [seg_configs, transform_at_config, transform_at_config]
      rfl
/-- `build: ctx` ≡ `build: {context: ctx}` and `extends: svc` ≡ `extends: {service: svc}`, whole documents -/
theorem canonical_build_extends_short_eq_long (ign : Bool) (top1 top2 svcs1 svcs2 a b : Val.KVs) (n s : String) :
    canonical ign (docWith top1 top2 svcs1 svcs2 a b n "build" (.str s))
      = canonical ign (docWith top1 top2 svcs1 svcs2 a b n "build" (.map [("context", .str s)]))
    ∧ canonical ign (docWith top1 top2 svcs1 svcs2 a b n "extends" (.str s))
      = canonical ign (docWith top1 top2 svcs1 svcs2 a b n "extends" (.map [("service", .str s)])) := by
  constructor <;> apply canonical_service_attr_congr <;> rw [attrPath_eq]
  · rw [seg_build, transformBuild_short_eq_long, transformBuild_long_id]
  · rw [seg_extends, transformExtends_short_eq_long, transformExtends_long_id]

/-- `external: {name: N}` ≡ `external: true, name: N` for volumes, networks, secrets and configs, whole documents -/
theorem canonical_external_short_eq_long (ign : Bool) (top1 top2 rs1 rs2 : Val.KVs) (a r : String) (ha : IsResource a) (N : Val) :
    canonical ign (.map (top1 ++ (a, .map (rs1 ++ (r, .map [("external", .map [("name", N)])]) :: rs2)) :: top2))
      = canonical ign (.map (top1 ++ (a, .map (rs1 ++ (r, .map [("external", .bool true), ("name", N)]) :: rs2)) :: top2)) := by
  obtain ⟨h1, h2, _⟩ := resource_path a ha
  unfold canonical
  apply transform_key_congr _ _ _ _ _ _ _ root_recurses
  rw [h1]
  apply transform_key_congr _ _ _ _ _ _ _ h2
  have hne : ([a] : TPath) ≠ TPath.root := by
    rcases ha with h | h | h | h <;> subst h <;> decide
  rw [TPath.nextK_of_ne_root _ _ hne]
  show transform ign [a, seg r] _ = transform ign [a, seg r] _
  obtain ⟨e1, e2⟩ := transformMaybeExternal_short_eq_long N
  rw [transform_resource ign a _ ha, transform_resource ign a _ ha, e1, e2]
/-- an instance: two services (one with a dotted name), a top-level section before and after, attributes around `depends_on` -/
example :
    canonical false (docWith [("name", .str "p")] [("volumes", .map [("v", .null)])] [("db", .map [("image", .str "i")])] []
        [("image", .str "i")] [("ports", .seq [.str "80"])] "web.1" "depends_on" (.seq [.str "db", .str "cache"]))
    = canonical false (docWith [("name", .str "p")] [("volumes", .map [("v", .null)])] [("db", .map [("image", .str "i")])] []
        [("image", .str "i")] [("ports", .seq [.str "80"])] "web.1" "depends_on"
        (.map [("db", startedRequired), ("cache", startedRequired)])) :=
  canonical_dependsOn_short_eq_long false _ _ _ _ _ _ "web.1" ["db", "cache"] (by decide)

end CV.Short
