import ComposeVerif.Props.C07
import ComposeVerif.Lemmas.TemplateSites
import ComposeVerif.Gen.C07Sites
/-!
# C07 — the mapping the loader hands to `Substitute` at each of its call sites

The property is observed at "string values in a project loaded from a document using the template".  Inside a load
`template.Substitute` is reached through `interp.Interpolate` from three places (the model of a compose file, the
project name, the model of an included file); what it sees is `ConfigDetails.LookupEnv` over the project
environment, and for an included file over `environment.Clone().Merge(envFromFile)`.  The grammar's variable
states {set non-empty, set empty, unset} only mean something if this glue keeps them apart.  The theorems say what
mapping each site uses — *the first layer that sets the variable wins, and set-to-empty is set* — and transfer the
refinement theorem to it.  The real glue is tied by the `substSite` oracle (`harness/p/c07/c07_sites.go`), which asks
the Lean model below (`siteSubst` / `layered`) for the expected value of every load.

In order: the lookup of an included file (`include_*`, `site_render`); the values of the env file of an include entry,
which are templates themselves (`envFile_*`, `siteSubstRaw_render`, `envFileValues_render`); several env files in one
entry (`envFile2_*`, `envFiles_never_panic`).
-/
namespace CV.Template.Sites
open CV.Template

/-- the glue the model was written against is the glue in the source now -/
theorem loader_glue_is_modelled :
    CV.Gen.c07_LookupEnv =
      ["v, ok := cd.Environment[key]",
       "if !isCaseInsensitiveEnvVars || ok { return v, ok }",
       "lowerKey := strings.ToLower(key)",
       "for k, v := range cd.Environment { if strings.ToLower(k) == lowerKey { return v, true } }",
       "return \"\", false"] ∧
    CV.Gen.c07_isCaseInsensitiveEnvVars = "(runtime.GOOS == \"windows\")" ∧
    CV.Gen.c07_Mapping_Merge =
      ("Mapping func(o Mapping) Mapping",
       ["for k, v := range o { if _, set := m[k]; !set { m[k] = v } }", "return m"]) ∧
    CV.Gen.c07_GetEnvFromFile_lookup =
      ["v, ok := currentEnv[k]", "if ok { return v, true }", "v, ok = envMap[k]", "return v, ok"] ∧
    CV.Gen.c07_toOptions =
      "opts := &Options{ Interpolate: &interp.Options{ Substitute: template.Substitute, LookupValue: configDetails.LookupEnv, TypeCastMapping: interpolateTypeCastMapping, }, ResolvePaths: true, }" ∧
    CV.Gen.c07_include_env =
      ["loadOptions := options.clone()",
       "envFromFile, err := dotenv.GetEnvFromFile(environment, r.EnvFile)",
       "config := types.ConfigDetails{ WorkingDir: relworkingdir, ConfigFiles: types.ToConfigFiles(r.Path), Environment: environment.Clone().Merge(envFromFile), }",
       "loadOptions.Interpolate = &interp.Options{ Substitute: options.Interpolate.Substitute, LookupValue: config.LookupEnv, TypeCastMapping: options.Interpolate.TypeCastMapping, }",
       "workingDir, environment := config.WorkingDir, config.Environment",
       "loadYamlFile(ctx, file, opts, workingDir, environment, ct, dict, included)",
       "ApplyInclude(ctx, workingDir, environment, cfg, opts, included)"] ∧
    CV.Gen.c07_loader_interpolate_calls =
      ["loader.go: interp.Interpolate(cfg, *opts.Interpolate)",
       "loader.go: interp.Interpolate( map[string]interface{}{\"name\": pjNameFromConfigFile}, *opts.Interpolate, )"] ∧
    CV.Gen.c07_loader_skip_interpolation =
      ["loader.go: if opts.Interpolate != nil && !opts.SkipInterpolation",
       "loader.go: if !opts.SkipInterpolation"] :=
  ⟨rfl, rfl, rfl, rfl, rfl, rfl, rfl, rfl⟩

/-- `Mapping.Merge`: a key set in the receiver keeps its value (also the empty one); the argument only fills keys the
    receiver does not set -/
theorem merge_lookup (m o : GoMap) (k : Str) :
    lookupEnv (merge m o) k = match lookupEnv m k with | some v => some v | none => lookupEnv o k :=
  mlookup_merge m o k

/-- the lookup of an included file (any nesting depth of `include`): the project environment first, then the env file
    of the outermost include entry, … — the first layer that sets the variable decides -/
theorem include_lookup_is_layered (environment : GoMap) (envFiles : List GoMap) :
    lookupEnv (includeChain environment envFiles) = layered (environment :: envFiles) := by
  funext k; exact lookup_includeChain environment envFiles k

/-- a variable the project environment sets — to any value, the empty string included — is seen with that value in
    every included file, whatever the env files say -/
theorem include_parent_wins (environment : GoMap) (envFiles : List GoMap) (k v : Str)
    (h : mlookup environment k = some v) :
    lookupEnv (includeChain environment envFiles) k = some v := by
  rw [include_lookup_is_layered]; exact layered_head h _

theorem include_unset_everywhere (environment : GoMap) (envFiles : List GoMap) (k : Str)
    (h : mlookup environment k = none) (hf : ∀ f ∈ envFiles, mlookup f k = none) :
    lookupEnv (includeChain environment envFiles) k = none := by
  rw [include_lookup_is_layered, layered_skip h]
  induction envFiles with
  | nil => rfl
  | cons f r ih =>
    rw [layered_skip (hf f List.mem_cons_self)]
    exact ih fun g hg => hf g (List.mem_cons_of_mem _ hg)

/-- **refinement at every call site**: a well-formed template in a string value of a compose file (no env files) or of
    an included file (env files of the enclosing include entries, outermost first) evaluates by the grammar in the
    layered environment -/
theorem site_render (environment : GoMap) (envFiles : List GoMap) (t : List Seg) (h : WF t = true) :
    siteSubst environment envFiles (renderL t) = evalOut (layered (environment :: envFiles)) t := by
  rw [siteSubst_eq, subst_render _ t h]

theorem site_never_panics (environment : GoMap) (envFiles : List GoMap) (s : Str) (p : PanicSite) :
    siteSubst environment envFiles s ≠ .panic p :=
  subst_never_panics _ s p

/-- **set-but-empty in the project environment is set inside an included file**, also when the include's env file
    gives the variable a value: `${n-d}` is empty, `${n+r}` is `r`, `${n?e}` is empty (no error), `${n:-d}` is `d` -/
theorem include_set_empty_is_set (environment : GoMap) (envFiles : List GoMap) (n : Str) (arg : List Seg) (d : Str)
    (hn : validName n = true) (harg : wfL true arg = true) (hl : mlookup environment n = some [])
    (hd : evalOut (layered (environment :: envFiles)) arg = .ok d) :
    siteSubst environment envFiles (Seg.op n .dash arg).render = .ok [] ∧
    siteSubst environment envFiles (Seg.op n .plus arg).render = .ok d ∧
    siteSubst environment envFiles (Seg.op n .q arg).render = .ok [] ∧
    siteSubst environment envFiles (Seg.op n .colonDash arg).render = .ok d := by
  have hv := layered_head hl envFiles
  simp only [siteSubst_eq]
  obtain ⟨h1, h2, h3⟩ := subst_op_set _ n arg d [] hn harg hd hv
  exact ⟨h1, h2, h3, (subst_op_table _ n arg d hn harg hd).1 (Or.inr hv)⟩

/-- a variable only the env file of the include entry sets is *set* in the included file (to the file's value, the
    empty one included) and unset in the including file -/
theorem include_env_file_fills_unset (environment f : GoMap) (n v : Str) (arg : List Seg) (d : Str)
    (hn : validName n = true) (harg : wfL true arg = true)
    (hl : mlookup environment n = none) (hf : mlookup f n = some v)
    (hd : evalOut (layered [environment, f]) arg = .ok d) (hd0 : evalOut (layered [environment]) arg = .ok d) :
    siteSubst environment [f] (Seg.op n .dash arg).render = .ok v ∧
    siteSubst environment [f] (Seg.op n .plus arg).render = .ok d ∧
    siteSubst environment [] (Seg.op n .dash arg).render = .ok d ∧
    siteSubst environment [] (Seg.op n .plus arg).render = .ok [] := by
  have hv : layered [environment, f] n = some v := (layered_skip hl _).trans (layered_head hf _)
  have hv0 : layered [environment] n = none := layered_skip hl _
  simp only [siteSubst_eq]
  obtain ⟨h1, h2, _⟩ := subst_op_set _ n arg d v hn harg hd hv
  obtain ⟨g1, g2, _⟩ := subst_op_unset _ n arg d hn harg hd0 hv0
  exact ⟨h1, h2, g1, g2⟩

/-- the lookup closure of `dotenv.GetEnvFromFile` is the same two-layer lookup: a variable of the current environment
    shadows the same variable of an env file read earlier, also when its value is empty -/
theorem envFileLookup_is_layered (currentEnv envMap : GoMap) :
    envFileLookup currentEnv envMap = layered [currentEnv, envMap] := by
  funext k
  simp only [envFileLookup, layered]
  cases mlookup currentEnv k with
  | some v => rfl
  | none => cases mlookup envMap k <;> rfl

/-! non-vacuity: `A` set to the empty string in the project environment, `A=w` in the include's env file -/
example : siteSubst [(['A'], [])] [[(['A'], ['w'])]] (Seg.op ['A'] .dash [.lit ['d']]).render = .ok [] :=
  (include_set_empty_is_set [(['A'], [])] [[(['A'], ['w'])]] ['A'] [.lit ['d']] ['d'] (by decide) (by decide) (by decide)
    (by decide)).1

example : siteSubst [] [[(['A'], ['w'])]] (Seg.op ['A'] .dash [.lit ['d']]).render = .ok ['w'] ∧
    siteSubst [] [] (Seg.op ['A'] .dash [.lit ['d']]).render = .ok ['d'] :=
  have h := include_env_file_fills_unset [] [(['A'], ['w'])] ['A'] ['w'] [.lit ['d']] ['d'] (by decide) (by decide)
    (by decide) (by decide) (by decide) (by decide)
  ⟨h.1, h.2.2.1⟩


/-- one line `KEY="<well-formed template>"` of the env file: its value is the grammar's meaning in the environment
    "project environment first, lines so far second"; an error of the template is the error of the file -/
theorem envFile_line_render (environment : GoMap) (k : Str) (t : List Seg) (r : List (Str × Str)) (acc : GoMap)
    (h : WF t = true) :
    envFileValues environment ((k, renderL t) :: r) acc =
      match evalOut (layered [environment, acc]) t with
      | .ok v => envFileValues environment r ((k, v) :: acc)
      | o => .fail o := by
  simp only [envFileValues, subst_render _ t h]
  cases evalOut (layered [environment, acc]) t <;> rfl

/-- **set-but-empty in the project environment is set inside the env file too**: the line `X="${n-d}"` gives `X` the
    empty value, `X="${n+r}"` gives it `r`, `X="${n?e}"` does not fail — whatever the earlier lines say about `n` -/
theorem envFile_set_empty_is_set (environment acc : GoMap) (x n : Str) (arg : List Seg) (d : Str)
    (rest : List (Str × Str))
    (hn : validName n = true) (harg : wfL true arg = true) (hl : mlookup environment n = some [])
    (hd : evalOut (layered [environment, acc]) arg = .ok d) :
    envFileValues environment ((x, (Seg.op n .dash arg).render) :: rest) acc =
      envFileValues environment rest ((x, []) :: acc) ∧
    envFileValues environment ((x, (Seg.op n .plus arg).render) :: rest) acc =
      envFileValues environment rest ((x, d) :: acc) ∧
    envFileValues environment ((x, (Seg.op n .q arg).render) :: rest) acc =
      envFileValues environment rest ((x, []) :: acc) := by
  have hv : layered [environment, acc] n = some [] := layered_head hl _
  obtain ⟨h1, h2, h3⟩ := subst_op_set _ n arg d [] hn harg hd hv
  simp only [envFileValues, h1, h2, h3, and_self]

theorem envFile_unset_is_unset (environment acc : GoMap) (x n : Str) (arg : List Seg) (d : Str)
    (rest : List (Str × Str))
    (hn : validName n = true) (harg : wfL true arg = true)
    (hl : mlookup environment n = none) (ha : mlookup acc n = none)
    (hd : evalOut (layered [environment, acc]) arg = .ok d) :
    envFileValues environment ((x, (Seg.op n .dash arg).render) :: rest) acc =
      envFileValues environment rest ((x, d) :: acc) ∧
    envFileValues environment ((x, (Seg.op n .q arg).render) :: rest) acc = .fail (.err (.required n d)) := by
  have hv : layered [environment, acc] n = none := (layered_skip hl _).trans (layered_skip ha _)
  obtain ⟨h1, _, h3⟩ := subst_op_unset _ n arg d hn harg hd hv
  simp only [envFileValues, h1, h3, and_self]

/-- the included file then sees the project environment first and the file's (interpolated) values second -/
theorem siteSubstRaw_render (environment : GoMap) (lines : List (Str × Str)) (f : GoMap) (t : List Seg)
    (hf : envFileValues environment lines [] = .ok f) (h : WF t = true) :
    siteSubstRaw environment lines (renderL t) = evalOut (layered [environment, f]) t := by
  unfold siteSubstRaw
  rw [hf]
  exact site_render environment [f] t h

theorem layered_nil_middle (environment acc : GoMap) : layered [environment, [], acc] = layered [environment, acc] := by
  funext k
  simp only [layered, mlookup]

theorem envFileValues2_first_file (environment : GoMap) (lines : List (Str × Str)) (acc : GoMap) :
    envFileValues2 environment [] lines acc = envFileValues environment lines acc := by
  induction lines generalizing acc with
  | nil => rfl
  | cons l r ih =>
    obtain ⟨k, tpl⟩ := l
    simp only [envFileValues2, envFileValues, layered_nil_middle]
    cases subst (layered [environment, acc]) tpl with
    | ok v => exact ih _
    | err e => rfl
    | panic p => rfl

theorem envFileValues2_never_panics (environment envMap : GoMap) (lines : List (Str × Str)) (acc : GoMap)
    (p : PanicSite) : envFileValues2 environment envMap lines acc ≠ .fail (.panic p) := by
  induction lines generalizing acc with
  | nil => exact fun h => by cases h
  | cons l r ih =>
    obtain ⟨k, tpl⟩ := l
    simp only [envFileValues2]
    have hp := subst_never_panics (layered [environment, envMap, acc]) tpl
    cases hs : subst (layered [environment, envMap, acc]) tpl with
    | ok v => exact ih _
    | err e => exact fun h => by cases h
    | panic q => exact absurd hs (hp q)

theorem envFile_never_panics (environment : GoMap) (lines : List (Str × Str)) (acc : GoMap) (p : PanicSite) :
    envFileValues environment lines acc ≠ .fail (.panic p) := by
  rw [← envFileValues2_first_file]; exact envFileValues2_never_panics environment [] lines acc p

/-! non-vacuity: `A` set to the empty string in the project environment; env file `X="${A-d}"`; label `[$X]` -/
example : siteSubstRaw [(['A'], [])] [(['X'], (Seg.op ['A'] .dash [.lit ['d']]).render)] ['[', '$', 'X', ']'] = .ok ['[', ']'] := by
  have h := (envFile_set_empty_is_set [(['A'], [])] [] ['X'] ['A'] [.lit ['d']] ['d'] [] (by decide) (by decide) (by decide) (by decide)).1
  have hf : envFileValues [(['A'], [])] [(['X'], (Seg.op ['A'] .dash [.lit ['d']]).render)] [] = .ok [(['X'], [])] := by
    rw [h]; rfl
  have := siteSubstRaw_render [(['A'], [])] _ _ [.lit ['['], .var ['X'] false, .lit [']']] hf (by decide)
  exact this.trans (by decide)


/-- **refinement for a whole env file**: when every value is (the rendering of) a well-formed template, the values the
    code computes — and the first error, if any — are the grammar's, line by line, each line seeing the project
    environment first and the lines before it second -/
theorem envFileValues_render (environment : GoMap) (lines : List (Str × List Seg)) (acc : GoMap)
    (h : ∀ l ∈ lines, WF l.2 = true) :
    envFileValues environment (lines.map fun l => (l.1, renderL l.2)) acc = specFileValues environment lines acc := by
  induction lines generalizing acc with
  | nil => rfl
  | cons l r ih =>
    obtain ⟨k, t⟩ := l
    simp only [List.map_cons, specFileValues]
    rw [envFile_line_render environment k t _ acc (h (k, t) List.mem_cons_self)]
    cases evalOut (layered [environment, acc]) t with
    | ok v => exact ih _ (fun l hl => h l (List.mem_cons_of_mem _ hl))
    | err e => rfl
    | panic p => rfl


theorem envFilesValues_single (environment : GoMap) (lines : List (Str × Str)) :
    envFilesValues environment [lines] [] =
      match envFileValues environment lines [] with
      | .ok m => .ok (m ++ [])
      | .fail o => .fail o := by
  simp only [envFilesValues, envFileValues2_first_file]
  all_goals (cases envFileValues environment lines [] <;> rfl)

/-- one line of a later env file: a well-formed value is the grammar's meaning under "project environment, then the
    earlier env files, then the lines so far" -/
theorem envFile2_line_render (environment envMap : GoMap) (k : Str) (t : List Seg) (r : List (Str × Str)) (acc : GoMap)
    (h : WF t = true) :
    envFileValues2 environment envMap ((k, renderL t) :: r) acc =
      match evalOut (layered [environment, envMap, acc]) t with
      | .ok v => envFileValues2 environment envMap r ((k, v) :: acc)
      | o => .fail o := by
  simp only [envFileValues2, subst_render _ t h]
  all_goals (cases evalOut (layered [environment, envMap, acc]) t <;> rfl)

/-- **a variable an earlier env file sets to the empty string is set in a later env file** (unless the project
    environment sets it): `X="${n-d}"` gives the empty value, `X="${n+r}"` gives `r`, `${n?e}` does not fail -/
theorem envFile2_earlier_file_set_empty_is_set (environment envMap acc : GoMap) (x n : Str) (arg : List Seg) (d : Str)
    (rest : List (Str × Str))
    (hn : validName n = true) (harg : wfL true arg = true)
    (hl : mlookup environment n = none) (hm : mlookup envMap n = some [])
    (hd : evalOut (layered [environment, envMap, acc]) arg = .ok d) :
    envFileValues2 environment envMap ((x, (Seg.op n .dash arg).render) :: rest) acc =
      envFileValues2 environment envMap rest ((x, []) :: acc) ∧
    envFileValues2 environment envMap ((x, (Seg.op n .plus arg).render) :: rest) acc =
      envFileValues2 environment envMap rest ((x, d) :: acc) ∧
    envFileValues2 environment envMap ((x, (Seg.op n .q arg).render) :: rest) acc =
      envFileValues2 environment envMap rest ((x, []) :: acc) := by
  have hv : layered [environment, envMap, acc] n = some [] := (layered_skip hl _).trans (layered_head hm _)
  obtain ⟨h1, h2, h3⟩ := subst_op_set _ n arg d [] hn harg hd hv
  simp only [envFileValues2, h1, h2, h3, and_self]

theorem envFiles_never_panic (environment : GoMap) (files : List (List (Str × Str))) (envMap : GoMap) (p : PanicSite) :
    envFilesValues environment files envMap ≠ .fail (.panic p) := by
  induction files generalizing envMap with
  | nil => simp [envFilesValues]
  | cons f fs ih =>
    simp only [envFilesValues]
    cases hf : envFileValues2 environment envMap f [] with
    | ok m => exact ih _
    | fail o =>
      intro h
      cases h
      exact envFileValues2_never_panics environment envMap f [] p hf

/-! non-vacuity: first file `A=""`, second file `X="${A-d}"`, label `[$X]` — and with the project environment setting `A` -/
example : siteSubstRawFiles [] [[(['A'], [])], [(['X'], (Seg.op ['A'] .dash [.lit ['d']]).render)]] ['[', '$', 'X', ']'] = .ok ['[', ']'] := by
  decide +kernel
example : siteSubstRawFiles [(['A'], ['v'])] [[(['A'], [])], [(['X'], (Seg.op ['A'] .dash [.lit ['d']]).render)]] ['[', '$', 'X', ']'] = .ok ['[', 'v', ']'] := by
  decide +kernel

end CV.Template.Sites
