import ComposeVerif.Lemmas.C02History
/-!
# C02 — a load does not depend on the loads that ran before it in the process

`Model/C02History.lean`: the default long form of a short-syntax dependency, with the aliasing that decides whether
earlier loads can show.  Tie to the code: the regenerated fact `packageVars_reviewed` (every package-level variable of the
module, `Props/C02.lean`) and the stream `c02.loadSeq` (sequences of real loads in one process against a fresh process).
-/
namespace CV.Det.History.Props
open CV.Det.History

/-- **the class**: if the result of a step does not read the state it is handed, then the result of a load is the same
after *every* history of loads as in a process that has run nothing (`s₀`), whatever the steps do to the state -/
theorem history_independent_of_blind_step {S I P : Type} (step : S → I → S × P)
    (blind : ∀ s s' i, (step s i).2 = (step s' i).2) (s₀ : S) :
    ∀ (hist : List I) (s : S) (i : I), runSeq step s hist i = (step s₀ i).2
  | [], s, i => blind s s₀ i
  | _ :: t, s, i => history_independent_of_blind_step step blind s₀ t _ i

/-- **the code as it is** (`d[name] = map[string]any{…}`: a fresh mapping per entry): a load leaves the package-level
state alone and its result is a function of its input only -/
theorem load_fresh_is_pure (g : KS) (i : In) : load false g i = (g, loadPure i) := by
  have e : (i.short.map fun n => (n, if false = true then Ref.global else Ref.own dfltLit)) = lift (i.short.map fun n => (n, dfltLit)) := by
    simp [lift, List.map_map, Function.comp_def]
  simp only [load, e, mergeAll_lift, readOut_lift, loadPure]

/-- … hence **its result is the same after every sequence of other loads** as in a fresh process -/
theorem load_fresh_history_independent (hist : List In) (g g₀ : KS) (i : In) :
    runSeq (load false) g hist i = (load false g₀ i).2 :=
  history_independent_of_blind_step (load false) (fun s s' j => by rw [load_fresh_is_pure, load_fresh_is_pure]) g₀ hist g i

/-- non-vacuity: the merge does change entries (the result is not the short list with defaults) -/
example : loadPure ⟨["store"], [("store", [("condition", "service_healthy")])]⟩ =
    [("store", [("condition", "service_healthy"), ("required", "true")])] := by decide +kernel

end CV.Det.History.Props
