import ComposeVerif.Gen.ShortFacts
import ComposeVerif.Gen.ShortShellFacts
/-!
# C03 — the modelled Go functions are the ones in the source

`translator/c03.go` prints, on every run, the body of each function the C03 models were written against
(`Gen/ShortFacts.lean`).  The theorems below pin that text: an edit of any of these functions — also one that no
generated input happens to exercise — breaks an obligation, and the check then searches for a failing input with
the full oracle budget.  When a `fix:` commit changes one of them the model and the string here move together.
-/
namespace CV.Short.Src
open CV.Gen.Short

/-- the walk and every transformer of transform/*.go are, statement for statement, the text `Model/ShortTransform.lean` mirrors -/
theorem transformers_source_is_modelled :
    body_transformStringOrList = "{ switch t := data.(type) { case string: return []any{t}, nil default: return data, nil } }" ∧
    body_Canonical = "{ canonical, err := transform(yaml, tree.NewPath(), ignoreParseError) if err != nil { return nil, err } return canonical.(map[string]any), nil }" ∧
    body_transform = "{ for pattern, transformer := range transformers { if p.Matches(pattern) { t, err := transformer(data, p, ignoreParseError) if err != nil { return nil, err } return t, nil } } switch v := data.(type) { case map[string]any: a, err := transformMapping(v, p, ignoreParseError) if err != nil { return a, err } return v, nil case []any: a, err := transformSequence(v, p, ignoreParseError) if err != nil { return a, err } return v, nil default: return data, nil } }" ∧
    body_transformSequence = "{ for i, e := range v { t, err := transform(e, p.Next(\"[]\"), ignoreParseError) if err != nil { return nil, err } v[i] = t } return v, nil }" ∧
    body_transformMapping = "{ for k, e := range v { t, err := transform(e, p.Next(k), ignoreParseError) if err != nil { return nil, err } v[k] = t } return v, nil }" ∧
    body_transformService = "{ switch value := data.(type) { case map[string]any: return transformMapping(value, p, ignoreParseError) default: return value, nil } }" ∧
    body_transformServiceNetworks = "{ if slice, ok := data.([]any); ok { networks := make(map[string]any, len(slice)) for _, net := range slice { name, ok := net.(string) if !ok { return nil, fmt.Errorf(\"%s: invalid type %T for network name\", p, net) } networks[name] = nil } return networks, nil } return data, nil }" ∧
    body_transformBuild = "{ switch v := data.(type) { case map[string]any: return transformMapping(v, p, ignoreParseError) case string: return map[string]any{ \"context\": v, }, nil default: return data, fmt.Errorf(\"%s: invalid type %T for build\", p, v) } }" ∧
    body_transformExtends = "{ switch v := data.(type) { case map[string]any: return transformMapping(v, p, ignoreParseError) case string: return map[string]any{ \"service\": v, }, nil default: return data, fmt.Errorf(\"%s: invalid type %T for extends\", p, v) } }" ∧
    body_transformMaybeExternal = "{ if data == nil { return nil, nil } mapping, ok := data.(map[string]any) if !ok { return nil, fmt.Errorf(\"%s: invalid type %T, expected a mapping\", p, data) } resource, err := transformMapping(mapping, p, ignoreParseError) if err != nil { return nil, err } if ext, ok := resource[\"external\"]; ok { name, named := resource[\"name\"] if external, ok := ext.(map[string]any); ok { resource[\"external\"] = true if extname, extNamed := external[\"name\"]; extNamed { logrus.Warnf(\"%s: external.name is deprecated. Please set name and external: true\", p) if named && !reflect.DeepEqual(extname, name) { return nil, fmt.Errorf(\"%s: name and external.name conflict; only use name\", p) } if !named { resource[\"name\"] = extname return resource, nil } } } } return resource, nil }" ∧
    body_transformFileMount = "{ switch v := data.(type) { case map[string]any: return data, nil case string: return map[string]any{ \"source\": v, }, nil default: return nil, fmt.Errorf(\"%s: unsupported type %T\", p, data) } }" ∧
    body_transformKeyValue = "{ switch v := data.(type) { case map[string]any: return v, nil case []any: mapping := map[string]any{} for _, e := range v { str, ok := e.(string) if !ok { return nil, fmt.Errorf(\"%s: invalid type %T, expected key=value\", p, e) } before, after, found := strings.Cut(str, \"=\") if !found { if ignoreParseError { return data, nil } return nil, fmt.Errorf(\"%s: invalid value %s, expected key=value\", p, e) } mapping[before] = after } return mapping, nil default: return nil, fmt.Errorf(\"%s: invalid type %T\", p, v) } }" ∧
    body_transformDependsOn = "{ switch v := data.(type) { case map[string]any: for i, e := range v { d, ok := e.(map[string]any) if !ok { return nil, fmt.Errorf(\"%s.%s: unsupported value %s\", p, i, v) } if _, ok := d[\"condition\"]; !ok { d[\"condition\"] = \"service_started\" } if _, ok := d[\"required\"]; !ok { d[\"required\"] = true } } return v, nil case []any: d := map[string]any{} for _, k := range v { name, ok := k.(string) if !ok { return nil, fmt.Errorf(\"%s: unsupported value %v, expected a service name\", p, k) } d[name] = map[string]any{ \"condition\": \"service_started\", \"required\": true, } } return d, nil default: return data, fmt.Errorf(\"%s: invalid type %T for depend_on\", p, v) } }" ∧
    body_transformEnvFile = "{ switch v := data.(type) { case string: return []any{ transformEnvFileValue(v), }, nil case []any: for i, e := range v { v[i] = transformEnvFileValue(e) } return v, nil default: return nil, fmt.Errorf(\"%s: invalid type %T for env_file\", p, v) } }" ∧
    body_transformEnvFileValue = "{ switch v := data.(type) { case string: return map[string]any{ \"path\": v, \"required\": true, } case map[string]any: if _, ok := v[\"required\"]; !ok { v[\"required\"] = true } return v } return nil }" ∧
    body_transformVolumeMount = "{ switch v := data.(type) { case map[string]any: return v, nil case string: volume, err := format.ParseVolume(v) if err != nil { if ignoreParseError { return v, nil } return nil, err } volume.Target = cleanTarget(volume.Target) return encode(volume) default: return data, fmt.Errorf(\"%s: invalid type %T for service volume mount\", p, v) } }" ∧
    body_cleanTarget = "{ if target == \"\" { return \"\" } return path.Clean(target) }" ∧
    body_transformDeviceMapping = "{ switch v := data.(type) { case map[string]any: return v, nil case string: src := \"\" dst := \"\" permissions := \"rwm\" arr := strings.Split(v, \":\") switch len(arr) { case 3: permissions = arr[2] fallthrough case 2: dst = arr[1] fallthrough case 1: src = arr[0] default: if !ignoreParseError { return nil, fmt.Errorf(\"confusing device mapping, please use long syntax: %s\", v) } } if dst == \"\" { dst = src } return map[string]any{ \"source\": src, \"target\": dst, \"permissions\": permissions, }, nil default: return data, fmt.Errorf(\"%s: invalid type %T for service volume mount\", p, v) } }" ∧
    body_transformPorts = "{ switch entries := data.(type) { case []any: // We process the list instead of individual items here. // The reason is that one entry might be mapped to multiple ServicePortConfig. // Therefore we take an input of a list and return an output of a list. var ports []any for _, entry := range entries { switch value := entry.(type) { case int: parsed, err := types.ParsePortConfig(fmt.Sprint(value)) if err != nil { return data, err } for _, v := range parsed { m, err := encode(v) if err != nil { return nil, err } ports = append(ports, m) } case string: parsed, err := types.ParsePortConfig(value) if err != nil { if ignoreParseError { return data, nil } return nil, err } if err != nil { return nil, err } for _, v := range parsed { m, err := encode(v) if err != nil { return nil, err } ports = append(ports, m) } case map[string]any: ports = append(ports, value) default: return data, fmt.Errorf(\"%s: invalid type %T for port\", p, value) } } return ports, nil default: return data, fmt.Errorf(\"%s: invalid type %T for port\", p, entries) } }" ∧
    body_encode = "{ m := map[string]any{} decoder, err := mapstructure.NewDecoder(&mapstructure.DecoderConfig{ Result: &m, TagName: \"yaml\", }) if err != nil { return nil, err } err = decoder.Decode(v) return m, err }" ∧
    body_transformSSH = "{ switch v := data.(type) { case map[string]any: return v, nil case []any: result := make(map[string]any, len(v)) for _, e := range v { s, ok := e.(string) if !ok { return nil, fmt.Errorf(\"invalid ssh key type %T\", e) } id, path, ok := strings.Cut(s, \"=\") if !ok { if id != \"default\" { return nil, fmt.Errorf(\"invalid ssh key %q\", s) } result[id] = nil continue } result[id] = path } return result, nil default: return data, fmt.Errorf(\"%s: invalid type %T for ssh\", p, v) } }" ∧
    body_transformUlimits = "{ switch v := data.(type) { case map[string]any: return v, nil case int: return v, nil default: return data, fmt.Errorf(\"%s: invalid type %T for external\", p, v) } }" ∧
    body_transformInclude = "{ switch v := data.(type) { case map[string]any: return v, nil case string: return map[string]any{ \"path\": v, }, nil default: return data, fmt.Errorf(\"%s: invalid type %T for external\", p, v) } }" :=
  ⟨rfl, rfl, rfl, rfl, rfl, rfl, rfl, rfl, rfl, rfl, rfl, rfl, rfl, rfl, rfl, rfl, rfl, rfl, rfl, rfl, rfl, rfl, rfl⟩

/-- format/volume.go is the text `Model/ShortParse.lean` (`parseVolume`, `scan`, `populate`, `applyOption`, `populateType`, `isFilePath`) mirrors -/
theorem volume_parser_source_is_modelled :
    body_ParseVolume = "{ volume := types.ServiceVolumeConfig{} switch len(spec) { case 0: return volume, errors.New(\"invalid empty volume spec\") case 1, 2: volume.Target = spec volume.Type = types.VolumeTypeVolume return volume, nil } var buffer []rune for _, char := range spec + string(endOfSpec) { switch { case isWindowsDrive(buffer, char) && (volume.Source == \"\" || volume.Target == \"\"): buffer = append(buffer, char) case char == ':' || char == endOfSpec: if err := populateFieldFromBuffer(char, buffer, &volume); err != nil { populateType(&volume) return volume, fmt.Errorf(\"invalid spec: %s: %w\", spec, err) } buffer = nil default: buffer = append(buffer, char) } } populateType(&volume) return volume, nil }" ∧
    body_isWindowsDrive = "{ return char == ':' && len(buffer) == 1 && unicode.IsLetter(buffer[0]) }" ∧
    body_populateFieldFromBuffer = "{ strBuffer := string(buffer) switch { case len(buffer) == 0: return errors.New(\"empty section between colons\") case volume.Source == \"\" && char == endOfSpec: volume.Target = strBuffer return nil case volume.Source == \"\": volume.Source = strBuffer return nil case volume.Target == \"\": volume.Target = strBuffer return nil case char == ':': return errors.New(\"too many colons\") } for _, option := range strings.Split(strBuffer, \",\") { switch option { case \"ro\": volume.ReadOnly = true case \"rw\": volume.ReadOnly = false case \"nocopy\": volume.Volume = &types.ServiceVolumeVolume{NoCopy: true} default: if isBindOption(option) { setBindOption(volume, option) } } } return nil }" ∧
    body_isBindOption = "{ _, ok := bindOptions[option] return ok }" ∧
    body_setBindOption = "{ if volume.Bind == nil { volume.Bind = &types.ServiceVolumeBind{} } bindOptions[option](volume.Bind, option) }" ∧
    body_setBindPropagation = "{ bind.Propagation = option }" ∧
    body_setBindSELinux = "{ bind.SELinux = option }" ∧
    body_populateType = "{ if isFilePath(volume.Source) { volume.Type = types.VolumeTypeBind if volume.Bind == nil { volume.Bind = &types.ServiceVolumeBind{} } volume.Bind.CreateHostPath = true } else { volume.Type = types.VolumeTypeVolume if volume.Volume == nil { volume.Volume = &types.ServiceVolumeVolume{} } } }" ∧
    body_isFilePath = "{ if source == \"\" { return false } switch source[0] { case '.', '/', '~': return true } if strings.HasPrefix(source, `\\\\`) { return true } first, nextIndex := utf8.DecodeRuneInString(source) if len(source) <= nextIndex { return false } return isWindowsDrive([]rune{first}, rune(source[nextIndex])) }" ∧
    bindOptionsSrc = "map[string]setBindOptionFunc{ types.PropagationRPrivate: setBindPropagation, types.PropagationPrivate: setBindPropagation, types.PropagationRShared: setBindPropagation, types.PropagationShared: setBindPropagation, types.PropagationRSlave: setBindPropagation, types.PropagationSlave: setBindPropagation, types.SELinuxShared: setBindSELinux, types.SELinuxPrivate: setBindSELinux, }" :=
  ⟨rfl, rfl, rfl, rfl, rfl, rfl, rfl, rfl, rfl, rfl⟩

/-- the compose-go side of the port short syntax (the rest is docker/go-connections, pinned by go.mod) -/
theorem port_path_source_is_modelled :
    body_ParsePortConfig = "{ var portConfigs []ServicePortConfig ports, portBindings, err := nat.ParsePortSpecs([]string{value}) if err != nil { return nil, err } keys := []string{} for port := range ports { keys = append(keys, string(port)) } sort.Strings(keys) for _, key := range keys { port := nat.Port(key) converted, err := convertPortToPortConfig(port, portBindings) if err != nil { return nil, err } portConfigs = append(portConfigs, converted...) } return portConfigs, nil }" ∧
    body_convertPortToPortConfig = "{ var portConfigs []ServicePortConfig for _, binding := range portBindings[port] { portConfigs = append(portConfigs, ServicePortConfig{ HostIP: binding.HostIP, Protocol: strings.ToLower(port.Proto()), Target: uint32(port.Int()), Published: binding.HostPort, Mode: \"ingress\", }) } return portConfigs, nil }" :=
  ⟨rfl, rfl⟩

/-- the list-vs-map and string-vs-list decoders are the text `Model/ShortDecode.lean` mirrors -/
theorem decoders_source_is_modelled :
    body_UlimitsConfig_DecodeMapstructure = "{ switch v := value.(type) { case *UlimitsConfig: return nil case int: u.Single = v u.Soft = 0 u.Hard = 0 case map[string]any: u.Single = 0 if soft, ok := v[\"soft\"]; ok { i, ok := soft.(int) if !ok { return fmt.Errorf(\"unexpected value type %T for ulimit soft limit\", soft) } u.Soft = i } if hard, ok := v[\"hard\"]; ok { i, ok := hard.(int) if !ok { return fmt.Errorf(\"unexpected value type %T for ulimit hard limit\", hard) } u.Hard = i } default: return fmt.Errorf(\"unexpected value type %T for ulimit\", value) } return nil }" ∧
    body_MappingWithEquals_DecodeMapstructure = "{ switch v := value.(type) { case map[string]interface{}: mapping := make(MappingWithEquals, len(v)) for k, e := range v { mapping[k] = mappingValue(e) } *m = mapping case []interface{}: mapping := make(MappingWithEquals, len(v)) for _, s := range v { k, e, ok := strings.Cut(fmt.Sprint(s), \"=\") if !ok { mapping[k] = nil } else { mapping[k] = mappingValue(e) } } *m = mapping default: return fmt.Errorf(\"unexpected value type %T for mapping\", value) } return nil }" ∧
    body_mappingValue = "{ if e == nil { return nil } switch v := e.(type) { case string: return &v default: s := fmt.Sprint(v) return &s } }" ∧
    body_Mapping_DecodeMapstructure = "{ switch v := value.(type) { case map[string]interface{}: mapping := make(Mapping, len(v)) for k, e := range v { if e == nil { e = \"\" } mapping[k] = fmt.Sprint(e) } *m = mapping case []interface{}: *m = decodeMapping(v, \"=\") default: return fmt.Errorf(\"unexpected value type %T for mapping\", value) } return nil }" ∧
    body_decodeMapping = "{ mapping := make(Mapping, len(v)) for _, s := range v { for i, sep := range seps { k, e, ok := strings.Cut(fmt.Sprint(s), sep) if ok { mapping[k] = e break } else if i == len(seps)-1 { mapping[k] = \"\" } } } return mapping }" ∧
    body_labelValue = "{ if e == nil { return \"\" } switch v := e.(type) { case string: return v default: return fmt.Sprint(v) } }" ∧
    body_Labels_DecodeMapstructure = "{ switch v := value.(type) { case map[string]interface{}: labels := make(map[string]string, len(v)) for k, e := range v { labels[k] = labelValue(e) } *l = labels case []interface{}: labels := make(map[string]string, len(v)) for _, s := range v { k, e, _ := strings.Cut(fmt.Sprint(s), \"=\") labels[k] = labelValue(e) } *l = labels default: return fmt.Errorf(\"unexpected value type %T for labels\", value) } return nil }" ∧
    body_Options_DecodeMapstructure = "{ switch v := value.(type) { case map[string]interface{}: m := make(map[string]string) for key, e := range v { if e == nil { m[key] = \"\" } else { m[key] = fmt.Sprint(e) } } *d = m case map[string]string: *d = v default: return fmt.Errorf(\"invalid type %T for options\", value) } return nil }" ∧
    body_NewHostsList = "{ list := HostsList{} for _, s := range hosts { var found bool for _, sep := range hostListSerapators { host, ip, ok := strings.Cut(s, sep) if ok { if ips, ok := list[host]; ok { list[host] = append(ips, strings.Split(ip, \",\")...) } else { list[host] = strings.Split(ip, \",\") } found = true break } } if !found { return nil, fmt.Errorf(\"invalid additional host, missing IP: %s\", s) } } err := list.cleanup() return list, err }" ∧
    body_HostsList_DecodeMapstructure = "{ switch v := value.(type) { case map[string]interface{}: list := make(HostsList, len(v)) for i, e := range v { if e == nil { e = \"\" } switch t := e.(type) { case string: list[i] = []string{t} case []any: hosts := make([]string, len(t)) for j, h := range t { hosts[j] = fmt.Sprint(h) } list[i] = hosts default: return fmt.Errorf(\"unexpected value type %T for extra_hosts entry\", value) } } err := list.cleanup() if err != nil { return err } *h = list return nil case []interface{}: s := make([]string, len(v)) for i, e := range v { s[i] = fmt.Sprint(e) } list, err := NewHostsList(s) if err != nil { return err } *h = list return nil default: return fmt.Errorf(\"unexpected value type %T for extra_hosts\", value) } }" ∧
    body_HostsList_cleanup = "{ for host, ips := range h { if host == \"\" || strings.ContainsAny(host, \":=\") { return fmt.Errorf(\"bad host name '%s'\", host) } for i, ip := range ips { if len(ip) > 2 && ip[0] == '[' && ip[len(ip)-1] == ']' { ips[i] = ip[1 : len(ip)-1] } } h[host] = ips } return nil }" ∧
    body_StringList_DecodeMapstructure = "{ switch v := value.(type) { case string: *l = []string{v} case []interface{}: list := make([]string, len(v)) for i, e := range v { val, ok := e.(string) if !ok { return fmt.Errorf(\"invalid type %T for string list\", value) } list[i] = val } *l = list default: return fmt.Errorf(\"invalid type %T for string list\", value) } return nil }" ∧
    body_StringOrNumberList_DecodeMapstructure = "{ switch v := value.(type) { case string: *l = []string{v} case []interface{}: list := make([]string, len(v)) for i, e := range v { list[i] = fmt.Sprint(e) } *l = list default: return fmt.Errorf(\"invalid type %T for string list\", value) } return nil }" ∧
    body_HealthCheckTest_DecodeMapstructure = "{ switch v := value.(type) { case string: *l = []string{\"CMD-SHELL\", v} case []interface{}: seq := make([]string, len(v)) for i, e := range v { word, ok := e.(string) if !ok { return fmt.Errorf(\"unexpected value type %T for healthcheck.test item\", e) } seq[i] = word } *l = seq default: return fmt.Errorf(\"unexpected value type %T for healthcheck.test\", value) } return nil }" ∧
    body_ShellCommand_DecodeMapstructure = "{ switch v := value.(type) { case string: cmd, err := shellwords.Parse(v) if err != nil { return err } *s = cmd case []interface{}: cmd := make([]string, len(v)) for i, e := range v { word, ok := e.(string) if !ok { return fmt.Errorf(\"invalid type %T for command argument\", e) } cmd[i] = word } *s = cmd } return nil }" ∧
    body_DeviceCount_DecodeMapstructure = "{ switch v := value.(type) { case int: *c = DeviceCount(v) case string: if strings.ToLower(v) == \"all\" { *c = -1 return nil } i, err := strconv.ParseInt(v, 10, 64) if err != nil { return fmt.Errorf(\"invalid value %q, the only value allowed is 'all' or a number\", v) } *c = DeviceCount(i) default: return fmt.Errorf(\"invalid type %T for device count\", v) } return nil }" ∧
    hostListSeparatorsSrc = "[]string{\"=\", \":\"}" :=
  ⟨rfl, rfl, rfl, rfl, rfl, rfl, rfl, rfl, rfl, rfl, rfl, rfl, rfl, rfl, rfl, rfl, rfl⟩

/-- the second expansion site of the short `depends_on` / `networks` / `build` (override/merge.go; `Props/C03Merge.lean`
relates C04's model of it to the transformers) gives every listed name its **own copy** of the default mapping, and the
per-document loop of `loader.loadYamlFile` runs `override.Merge` on the canonical tree and `transform.Canonical` after it -/
theorem merge_sites_source_is_modelled :
    body_convertIntoMapping = "{ switch v := a.(type) { case nil: return map[string]any{}, nil case map[string]any: return v, nil case []any: converted := map[string]any{} for _, s := range v { key, ok := s.(string) if !ok { return nil, fmt.Errorf(\"%s: unexpected type %T\", p, s) } if defaultValue == nil { converted[key] = nil } else { converted[key] = copyMap(defaultValue) } } return converted, nil } return nil, fmt.Errorf(\"cannot override %s\", p) }" ∧
    body_copyMap = "{ c := make(map[string]any) for k, v := range m { c[k] = v } return c }" ∧
    body_mergeDependsOn = "{ right, err := convertIntoMapping(c, map[string]any{ \"condition\": \"service_started\", \"required\": true, }, path) if err != nil { return nil, err } left, err := convertIntoMapping(o, map[string]any{ \"condition\": \"service_started\", \"required\": true, }, path) if err != nil { return nil, err } return mergeMappings(right, left, path) }" ∧
    body_mergeNetworks = "{ right, err := convertIntoMapping(c, nil, path) if err != nil { return nil, err } left, err := convertIntoMapping(o, nil, path) if err != nil { return nil, err } return mergeMappings(right, left, path) }" ∧
    body_mergeBuild = "{ toBuild := func(c any) (map[string]any, error) { switch v := c.(type) { case nil: return map[string]any{}, nil case string: return map[string]any{ \"context\": v, }, nil case map[string]any: return v, nil } return nil, fmt.Errorf(\"cannot override %s\", path) } right, err := toBuild(c) if err != nil { return nil, err } left, err := toBuild(o) if err != nil { return nil, err } return mergeMappings(right, left, path) }" ∧
    mergeThenCanonicalSrc = "dict, err = override.Merge(dict, cfg) ; if err != nil { return err } ; dict, err = override.EnforceUnicity(dict) ; if err != nil { return err } ; if !opts.SkipValidation { if err := schema.Validate(dict); err != nil { return fmt.Errorf(\"validating %s: %w\", file.Filename, err) } if _, ok := dict[\"version\"]; ok { opts.warnObsoleteVersion(file.Filename) delete(dict, \"version\") } } ; dict, err = transform.Canonical(dict, opts.SkipInterpolation) ; if err != nil { return err } ; dict = OmitEmpty(dict) ; dict, err = override.EnforceUnicity(dict) ; return err" :=
  ⟨rfl, rfl, rfl, rfl, rfl, rfl⟩

/-- the shell-words parser behind the string spelling of `ShellCommand` (a dependency: the version go.mod
requires, and the text of `isSpace` / `(*Parser).Parse` / the package defaults in the module cache the build uses) is
the text `Model/ShortShell.lean` mirrors -/
theorem shellwords_source_is_modelled :
    CV.Gen.ShortShell.shellwordsRequire = "github.com/mattn/go-shellwords v1.0.12" ∧
    CV.Gen.ShortShell.parseDefaults = "false false" ∧
    CV.Gen.ShortShell.body_isSpace = "{ switch r { case ' ', '\\t', '\\r', '\\n': return true } return false }" ∧
    CV.Gen.ShortShell.body_Parser_Parse = "{ args := []string{} buf := \"\" var escaped, doubleQuoted, singleQuoted, backQuote, dollarQuote bool backtick := \"\" pos := -1 got := argNo i := -1 loop: for _, r := range line { i++ if escaped { buf += string(r) escaped = false got = argSingle continue } if r == '\\\\' { if singleQuoted { buf += string(r) } else { escaped = true } continue } if isSpace(r) { if singleQuoted || doubleQuoted || backQuote || dollarQuote { buf += string(r) backtick += string(r) } else if got != argNo { if p.ParseEnv { if got == argSingle { parser := &Parser{ParseEnv: false, ParseBacktick: false, Position: 0, Dir: p.Dir} strs, err := parser.Parse(replaceEnv(p.Getenv, buf)) if err != nil { return nil, err } args = append(args, strs...) } else { args = append(args, replaceEnv(p.Getenv, buf)) } } else { args = append(args, buf) } buf = \"\" got = argNo } continue } switch r { case '`': if !singleQuoted && !doubleQuoted && !dollarQuote { if p.ParseBacktick { if backQuote { out, err := shellRun(backtick, p.Dir) if err != nil { return nil, err } buf = buf[:len(buf)-len(backtick)] + out } backtick = \"\" backQuote = !backQuote continue } backtick = \"\" backQuote = !backQuote } case ')': if !singleQuoted && !doubleQuoted && !backQuote { if p.ParseBacktick { if dollarQuote { out, err := shellRun(backtick, p.Dir) if err != nil { return nil, err } buf = buf[:len(buf)-len(backtick)-2] + out } backtick = \"\" dollarQuote = !dollarQuote continue } backtick = \"\" dollarQuote = !dollarQuote } case '(': if !singleQuoted && !doubleQuoted && !backQuote { if !dollarQuote && strings.HasSuffix(buf, \"$\") { dollarQuote = true buf += \"(\" continue } else { return nil, errors.New(\"invalid command line string\") } } case '\"': if !singleQuoted && !dollarQuote { if doubleQuoted { got = argQuoted } doubleQuoted = !doubleQuoted continue } case '\\'': if !doubleQuoted && !dollarQuote { if singleQuoted { got = argQuoted } singleQuoted = !singleQuoted continue } case ';', '&', '|', '<', '>': if !(escaped || singleQuoted || doubleQuoted || backQuote || dollarQuote) { if r == '>' && len(buf) > 0 { if c := buf[0]; '0' <= c && c <= '9' { i -= 1 got = argNo } } pos = i break loop } } got = argSingle buf += string(r) if backQuote || dollarQuote { backtick += string(r) } } if got != argNo { if p.ParseEnv { if got == argSingle { parser := &Parser{ParseEnv: false, ParseBacktick: false, Position: 0, Dir: p.Dir} strs, err := parser.Parse(replaceEnv(p.Getenv, buf)) if err != nil { return nil, err } args = append(args, strs...) } else { args = append(args, replaceEnv(p.Getenv, buf)) } } else { args = append(args, buf) } } if escaped || singleQuoted || doubleQuoted || backQuote || dollarQuote { return nil, errors.New(\"invalid command line string\") } p.Position = pos return args, nil }" :=
  ⟨rfl, rfl, rfl, rfl⟩

/-- the translator prints 55 bodies: as many as the five theorems above pin (23 + 9 + 2 + 16 + 5) -/
theorem all_bodies_listed : all.length = 55 := rfl

end CV.Short.Src
