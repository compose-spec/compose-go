import ComposeVerif.Lemmas.SecretsOrder
/-!
# C20 — Go's iteration order over the keys of one resource object

The section level is `load_section_order_independent` (`Props/C20.lean`).  Here: the raw-tree stages on one object.
Lemmas in `Lemmas/SecretsOrder.lean`.
-/
namespace CV.Secrets
open CV
open CV.Val hiding lookup_insert_self lookup_insert_ne

/-- **the resolution does not depend on the order of the keys of a resource object**: two objects with the same
(distinct) keys and values in a different order are resolved to objects that are permutations of one another
(and the result again has distinct keys, so the statement composes with the next stage) -/
theorem resolve_object_order_independent (c : String) (env : Env) {a b : KVs} (h : a.Perm b) (hn : KeysNodup a) :
    ∃ a' b', resolveObj c env (.map a) = .map a' ∧ resolveObj c env (.map b) = .map b' ∧ a'.Perm b' ∧ KeysNodup a' := by
  have hl : Val.lookup "environment" b = Val.lookup "environment" a := (lookup_perm h hn).symm
  rcases resolveObj_map_cases c env a with ⟨ha, hna⟩ | ⟨e, v, he, hne, hv, ha⟩
  · rcases resolveObj_map_cases c env b with ⟨hb, _⟩ | ⟨e, v, he, hne, hv, _⟩
    · exact ⟨a, b, ha, hb, h, hn⟩
    · exact absurd hv (hna e v (hl ▸ he) hne)
  · exact ⟨_, _, ha, resolveObj_found (hl ▸ he) hne hv, Val.insert_perm c _ h hn, KeysNodup_insert c _ hn⟩

/-- `setNameFromKey` on one resource does not depend on the order of its keys -/
theorem setName_object_order_independent (pname key : String) {a b : KVs} (h : a.Perm b) (hn : KeysNodup a) :
    (setNameKVs pname key a).Perm (setNameKVs pname key b) ∧ KeysNodup (setNameKVs pname key a) := by
  have hnil : nameIsNil a = nameIsNil b := by simp only [nameIsNil, lookup_perm (k := "name") h hn]
  have hext : isExternal a = isExternal b := by simp only [isExternal, lookup_perm (k := "external") h hn]
  unfold setNameKVs
  rw [← hnil, ← hext]
  split
  · exact ⟨insert_perm _ _ h hn, KeysNodup_insert _ _ hn⟩
  · exact ⟨h, hn⟩

/-- **order independence inside one resource object, the raw-tree stages (partial)**: resolution then naming of one
resource give permuted objects with distinct keys for permuted inputs.  The full statement — the *typed* object is the
same up to a permutation of `labels`, `driver_opts` and `extensions` — also needs `processExtensions`, the hook and the
struct decode (they read look-ups only, except `keysInDomain` and the extension / label mappings whose order is
inherited); not proved, see design/C20.md -/
theorem resource_object_order_independent_partial (c : String) (env : Env) (pname key : String) {a b : KVs} (h : a.Perm b) (hn : KeysNodup a) :
    ∃ a' b', resolveObj c env (.map a) = .map a' ∧ resolveObj c env (.map b) = .map b' ∧
      (setNameKVs pname key a').Perm (setNameKVs pname key b') ∧ KeysNodup (setNameKVs pname key a') := by
  obtain ⟨a', b', ha, hb, hp, hn'⟩ := resolve_object_order_independent c env h hn
  exact ⟨a', b', ha, hb, setName_object_order_independent pname key hp hn'⟩

/-- **the typed secret / config does not depend on the order of the keys of the raw object handed to the decode**:
`secretConfigDecoderHook` maps permuted objects (distinct keys) to permuted objects, and the struct decode reads look-ups
only (plus a test over all keys) -/
theorem decode_object_order_independent {a b : KVs} (h : a.Perm b) (hn : KeysNodup a) :
    decodeSecret (.map a) = decodeSecret (.map b) ∧ decodeConfig (.map a) = decodeConfig (.map b) :=
  ⟨decodeFields_perm (hook_perm h hn).1 (hook_perm h hn).2, decodeFields_perm h hn⟩

example : KeysNodup [("environment", Val.str "E"), ("x-a", .int 1), ("labels", .map [])] ∧
    [("environment", Val.str "E"), ("x-a", .int 1), ("labels", .map [])].Perm [("labels", .map []), ("environment", .str "E"), ("x-a", .int 1)] := by
  refine ⟨by simp [KeysNodup], ?_⟩
  exact ((List.Perm.swap _ _ _).trans (List.Perm.cons _ (List.Perm.swap _ _ _))).symm

end CV.Secrets
