import ComposeVerif.Lemmas.EnvLayersHeap
/-!
# C16 — `MappingWithEquals.Resolve` on the heap: refinement of the value model, freshness, no aliasing
-/
namespace CV.EnvLayers.Heap
open CV.EnvLayers

theorem resolveH_valid (look : Look) (m : HMWE) (h : Cells) (hv : Valid h m) :
    Valid (resolveH look m h).2 (resolveH look m h).1 :=
  resolveH_heap look m h ▸ (resolveH_among look m h).valid hv

/-- Following the pointers after `Resolve` gives exactly the value model `resolveMWE` of what the
    pointers said before. -/
theorem resolveH_refines (look : Look) (m : HMWE) (h : Cells) (hv : Valid h m) :
    deref (resolveH look m h).2 (resolveH look m h).1 = resolveMWE look (deref h m) := by
  fun_induction resolveH look m h with
  | case1 h => rfl
  | case2 k a0 r h ih =>
    have hlt := hv k a0 List.mem_cons_self
    have := ih (valid_tail hv)
    simp only [deref, List.map_cons, resolveMWE] at this ⊢
    rw [this, resolveH_heap, List.getElem?_append_left hlt, List.getElem?_eq_getElem hlt]
  | case3 k r h v hl ih =>
    have := ih (valid_ext [v] (valid_tail hv))
    rw [deref_ext h [v] r (valid_tail hv)] at this
    simp only [deref, List.map_cons, resolveMWE] at this ⊢
    rw [this, resolveH_heap, hl]
    simp
  | case4 k r h hl ih =>
    have := ih (valid_tail hv)
    simp only [deref, List.map_cons, resolveMWE] at this ⊢
    rw [this, hl]

/-- `Resolve` never writes a cell that existed before the call: whatever else points
    into the old heap — the project the method was called on — reads the same strings afterwards. -/
theorem resolveH_keeps_old_cells (look : Look) (m : HMWE) (h : Cells) (hv : Valid h m) (a : Nat) (ha : a < h.length) :
    (resolveH look m h).2[a]? = h[a]? := by
  rw [resolveH_heap, List.getElem?_append_left ha]

/-- If no two keys shared a cell before, none do after: every resolved key got a cell of its own. -/
theorem resolveH_no_alias (look : Look) (m : HMWE) (h : Cells) (hv : Valid h m) (hn : NoAlias m) :
    NoAlias (resolveH look m h).1 :=
  (resolveH_among look m h).nodup hn (valid_iff.1 hv)

/-- Following the pointers of `ToMappingWithEquals`'s result gives the value model `toMWE`. -/
theorem toMWEH_refines (m : List (Key × Str)) (h : Cells) : deref (toMWEH m h).2 (toMWEH m h).1 = toMWE m := by
  induction m generalizing h with
  | nil => rfl
  | cons p r ih =>
    have := ih (h ++ [p.2])
    simp only [toMWEH, deref, List.map_cons, toMWE] at this ⊢
    rw [this, toMWEH_heap]
    simp

/-- Every key gets a cell allocated by this call (old cells are not written, nothing that
    existed before is pointed to) and no two keys share one. -/
theorem toMWEH_fresh_no_alias (m : List (Key × Str)) (h : Cells) :
    NoAlias (toMWEH m h).1 ∧ (∀ a ∈ addrs (toMWEH m h).1, h.length ≤ a ∧ a < (toMWEH m h).2.length) ∧
    (∀ a, a < h.length → (toMWEH m h).2[a]? = h[a]?) := by
  simp only [NoAlias, toMWEH_addrs, toMWEH_heap, List.mem_range'_1, List.length_append, List.length_map]
  exact ⟨List.nodup_range', fun _ => id, fun a ha => List.getElem?_append_left ha⟩

theorem loadEnvFilesH_among (penv : List (Key × Str)) (fs : FS) (efs : List EnvFile) (acc : HMWE) (h : Cells)
    (r : HMWE × Cells) (hr : loadEnvFilesH penv fs efs acc h = .ok r) :
    ∃ ext, r.2 = h ++ ext ∧ Among (addrs r.1) (addrs acc) h.length ext.length := by
  induction efs generalizing acc h with
  | nil => cases hr; exact ⟨[], (List.append_nil h).symm, .refl _ _⟩
  | cons f rest ih =>
    simp only [loadEnvFilesH] at hr
    split at hr
    · cases hr
    · rename_i vars _
      obtain ⟨ext, he, ha⟩ := ih _ _ hr
      rw [toMWEH_heap, List.length_append, List.length_map] at ha
      exact ⟨vars.map Prod.snd ++ ext, by rw [he, toMWEH_heap, List.append_assoc],
        by rw [List.length_append, List.length_map]; exact ha.trans (among_override_toMWEH acc vars h)⟩

/-- The whole loop body of `WithServicesEnvironmentResolved` on the heap: if no two keys
    of the service's `environment` shared a cell, no two keys of the resulting `Environment` do — `Resolve` and every
    `ToMappingWithEquals` allocate cells of their own and `OverrideBy` only copies addresses of disjoint allocations —
    and the cells that existed before the call are unchanged. -/
theorem resolveServiceEnvH_no_alias (penv : List (Key × Str)) (fs : FS) (env : HMWE) (efs : List EnvFile) (h : Cells)
    (r : HMWE × Cells) (hv : Valid h env) (hn : NoAlias env) (hr : resolveServiceEnvH penv fs env efs h = .ok r) :
    NoAlias r.1 ∧ ∀ a, a < h.length → r.2[a]? = h[a]? := by
  unfold resolveServiceEnvH at hr
  split at hr
  · cases hr
  · rename_i q hl
    cases hr
    obtain ⟨ext, he, ha⟩ := loadEnvFilesH_among penv fs efs [] _ q hl
    rw [resolveH_heap, List.length_append] at ha
    -- the files' cells lie above those `Resolve` allocated, which lie above the old heap
    refine ⟨((among_overrideBy_fresh ha).trans (resolveH_among _ env h)).nodup hn (valid_iff.1 hv), fun a ha' => ?_⟩
    show q.2[a]? = h[a]?
    rw [he, resolveH_heap, List.append_assoc, List.getElem?_append_left ha']

/-- how a heap-level outcome relates to the value-level outcome -/
def RefinesOut (a : Except Err (HMWE × Cells)) (b : Except Err (List (Key × Option Str))) : Prop :=
  match a, b with
  | .ok r, .ok v => deref r.2 r.1 = v
  | .error e, .error e' => e = e'
  | _, _ => False

theorem loadEnvFilesH_refines (penv : List (Key × Str)) (fs : FS) (efs : List EnvFile) (acc : HMWE) (h : Cells)
    (accV : List (Key × Str)) (hv : Valid h acc) (hd : deref h acc = toMWE accV) :
    RefinesOut (loadEnvFilesH penv fs efs acc h) ((loadEnvFiles penv fs efs accV).map toMWE) := by
  induction efs generalizing acc h accV with
  | nil => exact hd
  | cons f rest ih =>
    have hstr : derefStr h acc = accV := by rw [derefStr, hd, ofMWE_toMWE]
    simp only [loadEnvFilesH, loadEnvFiles, hstr]
    cases loadEnvFile fs f (envChain penv accV) with
    | error e => exact rfl
    | ok vars =>
      have hheap : (toMWEH vars h).2 = h ++ vars.map Prod.snd := toMWEH_heap vars h
      have hv' : Valid (toMWEH vars h).2 (overrideBy acc (toMWEH vars h).1) :=
        hheap ▸ (List.length_map (as := vars) Prod.snd ▸ among_override_toMWEH acc vars h).valid hv
      have hd' : deref (toMWEH vars h).2 (overrideBy acc (toMWEH vars h).1) = toMWE (overrideBy accV vars) := by
        rw [deref_overrideBy, toMWEH_refines, toMWE_overrideBy, hheap, deref_ext h _ acc hv, hd]
      exact ih _ _ _ hv' hd'

/-- The loop body of `WithServicesEnvironmentResolved` run on the heap — pointers stored,
    copied and followed as the code does — fails exactly when the value model `resolveServiceEnv` fails, with the same
    error, and otherwise following the pointers of its result gives the model's `Environment`. -/
theorem resolveServiceEnvH_refines (penv : List (Key × Str)) (fs : FS) (discard : Bool) (s : Service) (env : HMWE) (h : Cells)
    (hv : Valid h env) (hd : deref h env = s.environment) :
    RefinesOut (resolveServiceEnvH penv fs env s.envFiles h) ((resolveServiceEnv penv fs discard s).map (·.environment)) := by
  have hval1 := resolveH_valid (fun k => lookup k penv) env h hv
  have href := resolveH_refines (fun k => lookup k penv) env h hv
  have h1 := loadEnvFilesH_refines penv fs s.envFiles [] (resolveH (fun k => lookup k penv) env h).2 []
    (fun _ _ hm => by cases hm) rfl
  unfold resolveServiceEnvH resolveServiceEnv
  cases hH : loadEnvFilesH penv fs s.envFiles [] (resolveH (fun k => lookup k penv) env h).2 <;>
    cases hV : loadEnvFiles penv fs s.envFiles [] <;> rw [hH, hV] at h1
  · exact h1
  · exact h1.elim
  · exact h1.elim
  · rename_i r accV
    obtain ⟨ext2, he2, _⟩ := loadEnvFilesH_among penv fs s.envFiles [] _ r hH
    show deref r.2 (overrideBy r.1 _) = overrideBy (toMWE accV) (resolveMWE _ s.environment)
    have h1' : deref r.2 r.1 = toMWE accV := h1
    rw [deref_overrideBy, h1', he2, deref_ext _ ext2 _ hval1, href, hd]

namespace Example
/-- two value-less keys with different project-environment values, one key with a value in cell 0 -/
def m0 : HMWE := [(['A'], none), (['K'], some 0), (['B'], none), (['C'], none)]
def h0 : Cells := [['k']]
def look0 : Look := fun k => if k = ['A'] then some ['a'] else if k = ['B'] then some ['b'] else none

example : Valid h0 m0 ∧ NoAlias m0 := by
  refine ⟨fun k a hm => ?_, by show (addrs m0).Nodup; decide⟩
  simp [m0] at hm
  rcases hm with ⟨_, rfl⟩
  decide
example : resolveH look0 m0 h0 = ([(['A'], some 1), (['K'], some 0), (['B'], some 2), (['C'], none)], [['k'], ['a'], ['b']]) := by
  decide +kernel
/-- hypotheses of `resolveServiceEnvH_no_alias` on a concrete service: one env file `e` (two keys), `environment` with a
    value-less key found in the project environment and a key with a value in cell 0; the heap ends with four cells: the old one, one from `Resolve`, two from the file -/
def fsE : FS := { node := fun p => if p = ['e'] then some (.file [.assign ['X'] [.lit ['1']], .assign ['K'] [.lit ['2']]]) else none }
example :
    (resolveServiceEnvH [(['A'], ['a'])] fsE [(['A'], none), (['K'], some 0)] [⟨['e'], true, []⟩] [['k']]).toOption =
      some ([(['X'], some 2), (['K'], some 0), (['A'], some 1)], [['k'], ['a'], ['1'], ['2']]) := by
  decide +kernel
example : toMWEH [(['A'], ['1']), (['B'], ['2'])] [['k']] = ([(['A'], some 1), (['B'], some 2)], [['k'], ['1'], ['2']]) := by decide +kernel
end Example

end CV.EnvLayers.Heap
