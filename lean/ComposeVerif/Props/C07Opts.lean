import ComposeVerif.Props.C07
import ComposeVerif.Lemmas.TemplateOpts
/-!
# C07 — `SubstituteWithOptions`: the options as parameters, the default instantiation is `Substitute`

`Model/TemplateOpts.lean` models `template.SubstituteWithOptions` with `WithPattern`,
`WithSubstitutionFunction` and `WithReplacementFunction` as parameters (`Cfg`), including the two quirks of the
code: the rest of an over-long match is interpolated with the custom pattern but *without* the custom functions,
and the built-in operators interpolate their argument with the *default* configuration.  It is tied to the real
function by the `substOpts` correspondence (seven concrete configurations).
-/
namespace CV.Template

theorem pattern_delimiter_dollar (s : Str) : matchDelim '$' s = matchDollar s := matchDelim_dollar s

theorem scanWith_default (env : Env) (f : Nat) (s acc : Str) (fe : Option Err) :
    scanC defaultCfg f env s acc fe = scan f env s acc fe :=
  (scanC_replC_default env f).1 s acc fe

/-- `DollarHead m`: every text the regexp can hand over (`findDelim` is not anchored, `matchDollar` is) -/
theorem replWith_default (env : Env) (f : Nat) (m : Str) (h : DollarHead m) :
    replC defaultCfg f env m = repl f env m :=
  (scanC_replC_default env f).2 m h

/-- **`SubstituteWithOptions` without options is `Substitute`**; every theorem of `Props/C07` therefore holds of it -/
theorem substWith_default (env : Env) (s : Str) : substWith defaultCfg env s = subst env s :=
  scanWith_default env _ s [] none

theorem substWith_default_render (env : Env) (t : List Seg) (h : WF t = true) :
    substWith defaultCfg env (renderL t) = evalOut env t := by
  rw [substWith_default, subst_render env t h]

/-- a custom replacement function sees every match and nothing else is consulted:
    with `replFunc = some g` the scan never calls `replC` -/
theorem scanWith_replFunc_step (cfg : Cfg) (g : Env → Str → Out) (hg : cfg.replFunc = some g)
    (f : Nat) (env : Env) (c : Char) (cs m rest acc : Str) (fe : Option Err)
    (hm : cfg.matchAt (c :: cs) = some (m, rest)) :
    scanC cfg (f + 1) env (c :: cs) acc fe =
      match g env m with
      | .ok v => scanC cfg f env rest (acc ++ v) fe
      | .err e => scanC cfg f env rest acc (pushErr fe e)
      | .panic p => .panic p := by
  rw [scanC_succ, scanK, hm]; simp only [hg]
  cases g env m <;> rfl

/-- the `panic matchGroups` branch of the model is real: under a caller-supplied pattern whose match contains a
    `}` before its end (`\$\{([a-z]+)\}\}`), the text truncated at the first balanced `}` no longer matches and
    `matchGroups` indexes a nil slice (the real function panics on the same input: corpus
    `opts-custom-pattern-rematch-panics.json`).  For the default pattern this cannot happen: `subst_never_panics`. -/
theorem custom_pattern_can_panic :
    substWith (patCfg matchDblG) (fun _ => none) "${a}}".toList = .panic .matchGroups := by decide +kernel

end CV.Template
