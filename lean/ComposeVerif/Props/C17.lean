import ComposeVerif.Lemmas.NameSplit
import ComposeVerif.Props.C17Loader
import ComposeVerif.Props.C07
/-!
# C17 — project name and project environment follow the documented precedence

Property theorems over the models of `Model/Name.lean` (all inputs, no bounds).  The specification
(`Spec/Name.lean`) states the name precedence as the decision function `Spec.decide` and the environment
precedence as first-match lookup through ordered layers; the other words of the statements are in
`Lemmas/NameSpec.lean`.

The name clauses are proved once, in `Props/C17Loader.lean`, for the loader's own entry (`loadL` / `loadX` / `runX`:
any `(name, imperative)` pair, either position of the interpolation switch).  `loadFiles` / `load` / `run` of
`Model/Name.lean` are that entry with interpolation on and the pair `withNamePrecedenceLoad` computes
(`cli_load_is_loader_entry`, `loadX_interp_is_load`, `runX_interp_is_run`), so the name theorems of this file are the
`skip = false` face of those; `loaderName` is reasoned about only through `loaderName_eq_projectNameL`.  The
environment, file-selection and env-file theorems are proved here.
-/
namespace CV.Name
open CV CV.Name.Spec

/-- the constants of the model are the ones in the source: the regexp and cutset of
    `NormalizeProjectName` and the order of its string operations, the two environment-variable names, and the
    order of the tests of `withNamePrecedenceLoad` (explicit name first, then `COMPOSE_PROJECT_NAME`) -/
theorem source_constants_are_modelled :
    CV.Gen.normalize_regex = "[a-z0-9_-]" ∧
    CV.Gen.normalize_cutset = "_-" ∧
    CV.Gen.normalize_calls = ["regexp.MustCompile", "strings.ToLower", "strings.Join", "r.FindAllString", "strings.TrimLeft"] ∧
    CV.Gen.const_ComposeProjectName = String.ofList cpn ∧
    CV.Gen.const_ComposeDisableDefaultEnvFile = String.ofList disableKey ∧
    CV.Gen.const_ComposeFilePath = String.ofList composeFileKey ∧
    CV.Gen.const_ComposePathSeparator = String.ofList pathSepKey ∧
    CV.Gen.cli_DefaultFileNames = defaultFileNames.map String.ofList ∧
    CV.Gen.cli_DefaultOverrideFileNames = defaultOverrideFileNames.map String.ofList ∧
    CV.Gen.namePrecedence_conds =
      ["options.Name != \"\"",
       "nameFromEnv, ok := options.Environment[consts.ComposeProjectName]; ok && nameFromEnv != \"\""] :=
  ⟨rfl, rfl, rfl, String.ofList_toList.symm, String.ofList_toList.symm, String.ofList_toList.symm,
    String.ofList_toList.symm, (map_ofList_strs _).symm, (map_ofList_strs _).symm, rfl⟩

/-- **the function bodies the model mirrors are the ones in the source now** (printed without comments,
    regenerated on every run): the option functions of `cli/options.go`, `GetWorkingDir`, `withNamePrecedenceLoad`,
    `findFiles`, `absolutePaths`, `loader.projectName`, `NormalizeProjectName`, `dotenv.GetEnvFromFile`,
    `Mapping.Merge`, `utils.GetAsEqualsMap`.  Any edit to one of them breaks this theorem, on top of whatever the
    correspondence finds. -/
theorem modelled_functions_are_source :
    CV.Gen.c17_body_NewProjectOptions =
      "{ options := &ProjectOptions{ ConfigPaths: configs, Environment: map[string]string{}, Listeners: []loader.Listener{}, } for _, o := range opts { err := o(options) if err != nil { return nil, err } } return options, nil }" ∧
    CV.Gen.c17_body_WithName =
      "{ return func(o *ProjectOptions) error { if name != loader.NormalizeProjectName(name) { return loader.InvalidProjectNameErr(name) } o.Name = name return nil } }" ∧
    CV.Gen.c17_body_WithWorkingDirectory =
      "{ return func(o *ProjectOptions) error { if wd == \"\" { return nil } abs, err := filepath.Abs(wd) if err != nil { return err } o.WorkingDir = abs return nil } }" ∧
    CV.Gen.c17_body_WithConfigFileEnv =
      "{ if len(o.ConfigPaths) > 0 { return nil } sep := o.Environment[consts.ComposePathSeparator] if sep == \"\" { sep = string(os.PathListSeparator) } f, ok := o.Environment[consts.ComposeFilePath] if ok { paths, err := absolutePaths(strings.Split(f, sep)) o.ConfigPaths = paths return err } return nil }" ∧
    CV.Gen.c17_body_WithDefaultConfigPath =
      "{ if len(o.ConfigPaths) > 0 { return nil } pwd, err := o.GetWorkingDir() if err != nil { return err } for { candidates := findFiles(DefaultFileNames, pwd) if len(candidates) > 0 { winner := candidates[0] if len(candidates) > 1 { logrus.Warnf(\"Found multiple config files with supported names: %s\", strings.Join(candidates, \", \")) logrus.Warnf(\"Using %s\", winner) } o.ConfigPaths = append(o.ConfigPaths, winner) overrides := findFiles(DefaultOverrideFileNames, pwd) if len(overrides) > 0 { if len(overrides) > 1 { logrus.Warnf(\"Found multiple override files with supported names: %s\", strings.Join(overrides, \", \")) logrus.Warnf(\"Using %s\", overrides[0]) } o.ConfigPaths = append(o.ConfigPaths, overrides[0]) } return nil } parent := filepath.Dir(pwd) if parent == pwd { return nil } pwd = parent } }" ∧
    CV.Gen.c17_body_WithEnv =
      "{ return func(o *ProjectOptions) error { for k, v := range utils.GetAsEqualsMap(env) { o.Environment[k] = v } return nil } }" ∧
    CV.Gen.c17_body_WithOsEnv =
      "{ for k, v := range utils.GetAsEqualsMap(os.Environ()) { if _, set := o.Environment[k]; set { continue } o.Environment[k] = v } return nil }" ∧
    CV.Gen.c17_body_WithEnvFiles =
      "{ return func(o *ProjectOptions) error { if len(file) > 0 { o.EnvFiles = file return nil } if v, ok := os.LookupEnv(consts.ComposeDisableDefaultEnvFile); ok { b, err := strconv.ParseBool(v) if err != nil { return err } if b { return nil } } wd, err := o.GetWorkingDir() if err != nil { return err } defaultDotEnv := filepath.Join(wd, \".env\") s, err := os.Stat(defaultDotEnv) if errors.Is(err, fs.ErrNotExist) || errors.Is(err, syscall.ENOTDIR) { return nil } if err != nil { return err } if !s.IsDir() { o.EnvFiles = []string{defaultDotEnv} } return nil } }" ∧
    CV.Gen.c17_body_WithDotEnv =
      "{ envMap, err := dotenv.GetEnvFromFile(o.Environment, o.EnvFiles) if err != nil { return err } o.Environment.Merge(envMap) return nil }" ∧
    CV.Gen.c17_body_GetWorkingDir =
      "{ if o.WorkingDir != \"\" { return filepath.Abs(o.WorkingDir) } for _, path := range o.ConfigPaths { if path != \"-\" { absPath, err := filepath.Abs(path) if err != nil { return \"\", err } return filepath.Dir(absPath), nil } } return os.Getwd() }" ∧
    CV.Gen.c17_body_withNamePrecedenceLoad =
      "{ return func(opts *loader.Options) { if options.Name != \"\" { opts.SetProjectName(options.Name, true) } else if nameFromEnv, ok := options.Environment[consts.ComposeProjectName]; ok && nameFromEnv != \"\" { opts.SetProjectName(nameFromEnv, true) } else { dirname := filepath.Base(absWorkingDir) symlink, err := filepath.EvalSymlinks(absWorkingDir) if err == nil && filepath.Base(symlink) != dirname { logrus.Warnf(\"project has been loaded without an explicit name from a symlink. Using name %q\", dirname) } opts.SetProjectName( loader.NormalizeProjectName(dirname), false, ) } } }" ∧
    CV.Gen.c17_body_findFiles =
      "{ candidates := []string{} for _, n := range names { f := filepath.Join(pwd, n) if _, err := os.Stat(f); err == nil { candidates = append(candidates, f) } } return candidates }" ∧
    CV.Gen.c17_body_absolutePaths =
      "{ var paths []string for _, f := range p { if f == \"-\" { paths = append(paths, f) continue } abs, err := filepath.Abs(f) if err != nil { return nil, err } f = abs if _, err := os.Stat(f); err != nil { return nil, err } paths = append(paths, f) } return paths, nil }" ∧
    CV.Gen.c17_body_projectName =
      "{ defer func() { if details.Environment == nil { details.Environment = map[string]string{} } details.Environment[consts.ComposeProjectName] = opts.projectName }() if opts.projectNameImperativelySet { if NormalizeProjectName(opts.projectName) != opts.projectName { return InvalidProjectNameErr(opts.projectName) } return nil } type named struct { Name string `yaml:\"name\"` } // if user did NOT provide a name explicitly, then see if one is defined // in any of the config files var pjNameFromConfigFile string for _, configFile := range details.ConfigFiles { content := configFile.Content if content == nil { d, err := os.ReadFile(configFile.Filename) if err != nil { return fmt.Errorf(\"failed to read file %q: %w\", configFile.Filename, err) } content = d configFile.Content = d } var n named r := bytes.NewReader(content) decoder := yaml.NewDecoder(r) for { err := decoder.Decode(&n) if err != nil && errors.Is(err, io.EOF) { break } if err != nil { break } if n.Name != \"\" { pjNameFromConfigFile = n.Name } } } if !opts.SkipInterpolation { interpolated, err := interp.Interpolate( map[string]interface{}{\"name\": pjNameFromConfigFile}, *opts.Interpolate, ) if err != nil { return err } pjNameFromConfigFile = interpolated[\"name\"].(string) } pjNameFromConfigFile = NormalizeProjectName(pjNameFromConfigFile) if pjNameFromConfigFile != \"\" { opts.projectName = pjNameFromConfigFile } else { opts.projectName = NormalizeProjectName(opts.projectName) } return nil }" ∧
    CV.Gen.c17_body_NormalizeProjectName =
      "{ r := regexp.MustCompile(\"[a-z0-9_-]\") s = strings.ToLower(s) s = strings.Join(r.FindAllString(s, -1), \"\") return strings.TrimLeft(s, \"_-\") }" ∧
    CV.Gen.c17_body_GetEnvFromFile =
      "{ envMap := make(map[string]string) for _, dotEnvFile := range filenames { abs, err := filepath.Abs(dotEnvFile) if err != nil { return envMap, err } dotEnvFile = abs s, err := os.Stat(dotEnvFile) if errors.Is(err, fs.ErrNotExist) || errors.Is(err, syscall.ENOTDIR) { return envMap, fmt.Errorf(\"Couldn't find env file: %s\", dotEnvFile) } if err != nil { return envMap, err } if s.IsDir() { if len(filenames) == 0 { return envMap, nil } return envMap, fmt.Errorf(\"%s is a directory\", dotEnvFile) } b, err := os.ReadFile(dotEnvFile) if os.IsNotExist(err) { return nil, fmt.Errorf(\"Couldn't read env file: %s\", dotEnvFile) } if err != nil { return envMap, err } env, err := ParseWithLookup(bytes.NewReader(b), func(k string) (string, bool) { v, ok := currentEnv[k] if ok { return v, true } v, ok = envMap[k] return v, ok }) if err != nil { return envMap, fmt.Errorf(\"failed to read %s: %w\", dotEnvFile, err) } for k, v := range env { envMap[k] = v } } return envMap, nil }" ∧
    CV.Gen.c17_body_MappingMerge =
      "{ for k, v := range o { if _, set := m[k]; !set { m[k] = v } } return m }" ∧
    CV.Gen.c17_body_GetAsEqualsMap =
      "{ m := make(map[string]string) for _, v := range em { key, val, found := strings.Cut(v, \"=\") if found { m[key] = val } } return m }" := by
  exact ⟨rfl, rfl, rfl, rfl, rfl, rfl, rfl, rfl, rfl, rfl, rfl, rfl, rfl, rfl, rfl, rfl, rfl, rfl⟩

/-- the character class and the cutset, read as sets of characters, are the predicates of the model -/
theorem regex_class_is_isNameChar :
    ((List.range 128).all fun n =>
      isNameChar (Char.ofNat n) == "abcdefghijklmnopqrstuvwxyz0123456789_-".toList.contains (Char.ofNat n) &&
      isSep (Char.ofNat n) == CV.Gen.normalize_cutset.toList.contains (Char.ofNat n)) = true := by
  -- membership compared on code points: the kernel is much faster on `Nat` than on `Char`
  simp only [contains_toNat]
  decide +kernel

/-! ## `NormalizeProjectName` -/

theorem normalize_valid (s : Str) : normalize s = [] ∨ validName (normalize s) = true := norm_valid s

theorem normalize_idem (s : Str) : normalize (normalize s) = normalize s := norm_idem s

/-- the fixed points of normalisation are exactly the empty string and the valid names: this is why the test
    `NormalizeProjectName(n) != n` of `WithName` / `loader.projectName` rejects exactly the invalid requests -/
theorem normalize_fixed_iff (s : Str) : normalize s = s ↔ (s = [] ∨ validName s = true) := norm_fixed_iff s

example : normalize "My.App".toList = "myapp".toList := by decide +kernel
example : normalize "_-K8s".toList = "k8s".toList := by decide +kernel
example : normalize "___".toList = [] := by decide +kernel
example : validName "my-app_1".toList = true := by decide +kernel
example : validName "_x".toList = false := by decide +kernel

/-! ## the name decision (`withNamePrecedenceLoad`, `loader.projectName`, `LoadProject`) -/

/-- soundness: the name of a successful load is the one the specification selects -/
theorem name_decision {files : List (List (Option Str))} (w : World) (o : PO) (r : Loaded) (h : loadFiles w o files = .ok r) :
    Spec.decide (sourcesOf w o files) = .name r.name :=
  sourcesOfX_false w o files ▸ loadL_cli_decision w o files false r (cli_load_is_loader_entry w o files ▸ h)

theorem name_decision_complete {files : List (List (Option Str))} (w : World) (o : PO) (n p : Str)
    (hd : Spec.decide (sourcesOf w o files) = .name n)
    (h3 : interpAll ((cpn, n) :: o.env) (allNames files) = .ok ())
    (h4 : Template.subst (Env.get ((cpn, n) :: o.env)) w.probe = .ok p) :
    loadFiles w o files = .ok { name := n, env := (cpn, n) :: o.env, probe := p } := by
  have ha := projectNameL_agrees_cli w o files false
  rw [sourcesOfX_false, hd] at ha
  simp only [cli_load_is_loader_entry, loadL, Option.getD_some, ha.1]
  simp only [loptsOf, pipeline_false, h3, h4, ha.2, if_false]

theorem name_rejected {files : List (List (Option Str))} (w : World) (o : PO) (hd : Spec.decide (sourcesOf w o files) = .rejected) :
    loadFiles w o files = .error .invalidName :=
  (cli_load_is_loader_entry w o files).trans
    (name_rejected_any_interpolation w o files false ((sourcesOfX_false w o files).symm ▸ hd))

theorem name_none {files : List (List (Option Str))} (w : World) (o : PO)
    (hd : Spec.decide (sourcesOf w o files) = .noName ∨ Spec.decide (sourcesOf w o files) = .failed) :
    ∃ e, loadFiles w o files = .error e := by
  cases hl : loadFiles w o files with
  | error e => exact ⟨e, rfl⟩
  | ok r =>
    have := name_decision w o r hl
    rcases hd with hd | hd <;> rw [hd] at this <;> cases this

/-- a successful load has a non-empty name of the form `[a-z0-9][a-z0-9_-]*`,
    whatever the options, the environment, the files and the directory -/
theorem name_valid (w : World) (opts : List Opt) (r : Loaded) (h : run w opts = .ok r) :
    validName r.name = true ∧ r.name ≠ [] :=
  name_valid_any_interpolation w opts [] r ((runX_interp_is_run w opts [] rfl).trans h)

/-- option level: `WithName` refuses a non-empty name that is not already valid -/
theorem withName_invalid_rejected (w : World) (o : PO) (n : Str) (hn : n ≠ []) (hv : validName n = false) :
    applyOpt w o (.withName n) = .error .invalidName := by
  simp [applyOpt, normalize_ne n hn (by simp [hv])]

/-- whole run: if any `WithName` of the sequence requests an invalid name, no
    project is loaded -/
theorem imperative_invalid_rejected (w : World) (opts : List Opt) (n : Str) (hmem : Opt.withName n ∈ opts)
    (hn : n ≠ []) (hv : validName n = false) : ∃ e, run w opts = .error e := by
  obtain ⟨pre, post, rfl⟩ := List.append_of_mem hmem
  rw [run, runOpts_append]
  cases runOpts w pre { configs := w.given } with
  | error e => exact ⟨e, rfl⟩
  | ok o => exact ⟨.invalidName, by simp only [runOpts, withName_invalid_rejected w o n hn hv]⟩

/-- environment: an invalid non-empty `COMPOSE_PROJECT_NAME` in the project
    environment, with no explicit name, is rejected by the load -/
theorem env_name_invalid_rejected {files : List (List (Option Str))} (w : World) (o : PO) (n : Str) (hname : o.name = [])
    (henv : o.env.get cpn = some n) (hn : n ≠ []) (hv : validName n = false) :
    loadFiles w o files = .error .invalidName := by
  apply name_rejected
  simp [Spec.decide, sourcesOf, hname, henv, Option.filter, hn, hv]

/-- whatever else is configured (environment, files, directory, option order), a successful
    load with an explicitly requested name has exactly that name -/
theorem explicit_name_wins (w : World) (opts : List Opt) (r : Loaded) (h : run w opts = .ok r)
    (hreq : requestedName opts [] ≠ []) : r.name = requestedName opts [] :=
  explicit_name_wins_any_interpolation w opts [] r ((runX_interp_is_run w opts [] rfl).trans h) hreq

/-- after a successful load the project environment maps
    `COMPOSE_PROJECT_NAME` to the project name, `${COMPOSE_PROJECT_NAME}` interpolates to it, and the strings of the
    model were interpolated against that same environment -/
theorem name_visible_to_interpolation {files : List (List (Option Str))} (w : World) (o : PO) (r : Loaded) (h : loadFiles w o files = .ok r) :
    r.env.get cpn = some r.name ∧
    Template.subst r.env.get "${COMPOSE_PROJECT_NAME}".toList = .ok r.name ∧
    Template.subst r.env.get w.probe = .ok r.probe := by
  obtain ⟨_, hg, _, hp, _⟩ := loader_entry_name_exported _ _ _ _ r (cli_load_is_loader_entry w o files ▸ h)
  have := subst_cpn r.env.get
  rw [hg] at this
  exact ⟨hg, this, hp rfl⟩

/-- the decision at the level of `LoadProject`: the config paths selected by the options are the files whose
    `name:` keys take part in it -/
theorem load_name_decision (w : World) (o : PO) (r : Loaded) (h : load w o = .ok r) :
    ∃ files, o.configs ≠ [] ∧ readConfigs w o.configs = .ok files ∧
      Spec.decide (sourcesOf w o files) = .name r.name := by
  simpa only [sourcesOfX_false] using name_decision_any_interpolation w o false r ((loadX_interp_is_load w o).trans h)

/-! ## which compose files are loaded (`WithConfigFileEnv`, `WithDefaultConfigPath`, `WithWorkingDirectory`) -/


/-- config paths that are already there win: neither `COMPOSE_FILE` nor the default-name search is consulted -/
theorem given_configs_win (w : World) (o : PO) (h : o.configs ≠ []) :
    applyOpt w o .withConfigFileEnv = .ok o ∧ applyOpt w o .withDefaultConfigPath = .ok o := by
  cases hc : o.configs with
  | nil => exact absurd hc h
  | cons c cs => simp [applyOpt, withConfigFileEnv, withDefaultConfigPath, hc]

/-- `WithConfigFileEnv` with no config path yet: `COMPOSE_FILE` *of the project environment at that point* is split
    and every entry must exist; the result replaces the config paths -/
theorem configFileEnv_selects (w : World) (o : PO) (h : o.configs = []) (f : Str)
    (hf : o.env.get composeFileKey = some f) :
    applyOpt w o .withConfigFileEnv =
      match resolvePaths w (splitOn (pathSep o) f) with
      | .ok rs => .ok { o with configs := rs }
      | .error e => .error e := by
  simp only [applyOpt, withConfigFileEnv, h, hf, pathSep]
  generalize resolvePaths w _ = r
  cases r <;> rfl

theorem configFileEnv_unset (w : World) (o : PO) (h : o.configs = []) (hf : o.env.get composeFileKey = none) :
    applyOpt w o .withConfigFileEnv = .ok o := by
  simp only [applyOpt, withConfigFileEnv, h, hf]

/-- a `COMPOSE_FILE` entry that does not exist (and is not `-`) is an error, whatever the other entries are -/
theorem resolvePaths_missing (w : World) (pre post : List Str) (p : Str) (hp : pathRef w p = none)
    (hpre : ∀ q ∈ pre, (pathRef w q).isSome) :
    resolvePaths w (pre ++ p :: post) = .error .configNotFound := by
  induction pre with
  | nil => simp [resolvePaths, hp]
  | cons q qs ih =>
    have hq := hpre q List.mem_cons_self
    cases hl : pathRef w q with
    | none => rw [hl] at hq; cases hq
    | some r =>
      simp only [List.cons_append, resolvePaths, hl, ih (fun x hx => hpre x (List.mem_cons_of_mem _ hx))]

/-- the entry `-` always resolves (to standard input), without looking at the file system -/
theorem stdin_path_resolves (w : World) : pathRef w ['-'] = some { dir := 0, file := none, stdin := true } := by
  simp [pathRef]

/-- `GetWorkingDir` skips `-`: with standard input first, the project directory is decided by the remaining paths -/
theorem stdin_skipped_for_project_dir (w : World) (o : PO) (c : CfgRef) (cs : List CfgRef) (hs : c.stdin = true)
    (hc : o.configs = c :: cs) : projDirId w o = projDirId w { o with configs := cs } := by
  simp [projDirId, hc, firstFileDir, hs]

/-- `ReadConfigFiles` reads a `-` entry from standard input -/
theorem stdin_is_read (w : World) (c : CfgRef) (cs : List CfgRef) (hs : c.stdin = true) :
    readConfigs w (c :: cs) =
      match readConfigs w cs with
      | .ok r => .ok (w.stdinDocs :: r)
      | .error e => .error e := by
  simp only [readConfigs, hs, if_true]
  cases readConfigs w cs <;> rfl

/-- the default-name search, one step: a directory that holds a default file name answers with the first such
    name in order of preference, plus the first override name present in the SAME directory -/
theorem searchUp_here (w : World) (fuel d : Nat) (winner : Str) (rest : List Str)
    (h : defaultFileNames.filter (present (dirNode w d)) = winner :: rest) :
    searchUp w (fuel + 1) d =
      { dir := d, file := some winner } ::
        (match defaultOverrideFileNames.filter (present (dirNode w d)) with
         | ov :: _ => [{ dir := d, file := some ov }]
         | [] => []) := by
  simp only [searchUp, h]
  cases defaultOverrideFileNames.filter (present (dirNode w d)) <;> rfl

/-- … and a directory without any goes to its parent; at the top nothing is found (not an error by itself) -/
theorem searchUp_up (w : World) (fuel d : Nat) (h : defaultFileNames.filter (present (dirNode w d)) = []) :
    searchUp w (fuel + 1) d =
      match (dirNode w d).parent with
      | some p => searchUp w fuel p
      | none => [] := by
  simp only [searchUp, h]
  cases (dirNode w d).parent <;> rfl

/-- whatever the search returns lives in ONE directory, consists of default (override) names that exist there,
    main file first -/
theorem searchUp_sound (w : World) (fuel d : Nat) (c : CfgRef) (hc : c ∈ searchUp w fuel d) :
    ∃ f, c.file = some f ∧ present (dirNode w c.dir) f = true ∧
      (f ∈ defaultFileNames ∨ f ∈ defaultOverrideFileNames) ∧
      (searchUp w fuel d).head?.map (·.dir) = some c.dir := by
  induction fuel generalizing d with
  | zero => simp [searchUp] at hc
  | succ n ih =>
    cases hf : defaultFileNames.filter (present (dirNode w d)) with
    | nil =>
      rw [searchUp_up w n d hf] at hc ⊢
      cases hp : (dirNode w d).parent with
      | none => rw [hp] at hc; cases hc
      | some p => rw [hp] at hc; exact ih p hc
    | cons winner rest =>
      rw [searchUp_here w n d winner rest hf] at hc ⊢
      have hw := List.mem_filter.mp (hf ▸ List.mem_cons_self : winner ∈ defaultFileNames.filter _)
      rcases List.mem_cons.mp hc with rfl | e
      · exact ⟨winner, rfl, hw.2, Or.inl hw.1, rfl⟩
      · cases ho : defaultOverrideFileNames.filter (present (dirNode w d)) with
        | nil => rw [ho] at e; cases e
        | cons ov r2 =>
          rw [ho, List.mem_singleton] at e
          subst e
          have hov := List.mem_filter.mp (ho ▸ List.mem_cons_self : ov ∈ defaultOverrideFileNames.filter _)
          exact ⟨ov, rfl, hov.2, Or.inr hov.1, rfl⟩

/-- `WithDefaultConfigPath` with no config path yet starts the search at the project directory as it is then -/
theorem defaultConfigPath_selects (w : World) (o : PO) (h : o.configs = []) :
    applyOpt w o .withDefaultConfigPath =
      .ok { o with configs := searchUp w (w.dirs.length + 1) (projDirId w o) } := by
  simp only [applyOpt, withDefaultConfigPath, h]

theorem no_config_no_project (w : World) (o : PO) (h : o.configs = []) : load w o = .error .noConfig := by
  simp [load, h]

/-- without `WithWorkingDirectory` the project directory is the directory of the FIRST config path, so the file
    selection also decides the name fallback and the default `.env` -/
theorem project_dir_follows_first_config (w : World) (o : PO) (c : CfgRef) (cs : List CfgRef)
    (hw : o.workDir = none) (hc : o.configs = c :: cs) (hs : c.stdin = false) :
    projDir w o = (dirNode w c.dir).name := by
  simp [projDir, projDirId, hw, hc, firstFileDir, hs]

theorem project_dir_is_workdir (w : World) (o : PO) (d : Nat) (hw : o.workDir = some d) :
    projDir w o = (dirNode w d).name := by
  simp [projDir, projDirId, hw]

/-! ## `strings.Split` on `COMPOSE_FILE`, `strings.Cut` on `KEY=VALUE` entries -/

/-- `strings.Split` loses nothing: joining the pieces with the separator gives the string back — for ANY
    separator (multi-character `COMPOSE_PATH_SEPARATOR` included) and any value (empty entries included) -/
theorem splitOn_join_inv (sep s : Str) : SplitLemmas.joinSep sep (splitOn sep s) = s :=
  SplitLemmas.splitOnFuel_join_inv sep _ s

theorem indexOf_some_spec (pat s : Str) (i : Nat) (h : indexOf pat s = some i) :
    i + pat.length ≤ s.length ∧ s = s.take i ++ pat ++ s.drop (i + pat.length) :=
  Scan.indexOf_some_spec pat s i h

/-- leftmost-first, non-overlapping: the first piece ends at the FIRST occurrence of the separator and the rest
    of the value is split the same way (this is what makes `a:::b` with separator `::` give `a`, `:b`) -/
theorem splitOn_first (sep : Str) (hsep : sep ≠ []) (s : Str) (i : Nat) (h : indexOf sep s = some i) :
    splitOn sep s = s.take i :: splitOn sep (s.drop (i + sep.length)) := by
  have hl := (indexOf_some_spec sep s i h).1
  have hpos : 0 < sep.length := List.length_pos_iff.mpr hsep
  unfold splitOn
  cases hs : s.length with
  | zero => omega
  | succ n =>
    rw [splitOnFuel, h]
    simp only [List.cons.injEq, true_and]
    -- the rest is shorter than `n`: the surplus fuel changes nothing
    exact SplitLemmas.splitOnFuel_enough sep hsep _ _ _ (by simp only [List.length_drop]; omega) (Nat.le_refl _)

theorem splitOn_no_sep (sep s : Str) (h : indexOf sep s = none) : splitOn sep s = [s] := by
  unfold splitOn
  cases s.length with
  | zero => rfl
  | succ n => simp [splitOnFuel, h]

/-- `COMPOSE_FILE=a:b:c` (entries without the separator) is split back into `a`, `b`, `c` -/
theorem splitOn_join (c : Char) (parts : List Str) (hne : parts ≠ []) (h : ∀ p ∈ parts, c ∉ p) :
    splitOn [c] (joinWith c parts) = parts := by
  induction parts with
  | nil => exact absurd rfl hne
  | cons p ps ih =>
    have hp : ∀ x ∈ p, x ≠ c := fun x hx e => h p List.mem_cons_self (e ▸ hx)
    cases ps with
    | nil => exact splitOn_no_sep _ _ (Scan.indexOf_none c [] p hp)
    | cons q qs =>
      show splitOn [c] (p ++ c :: joinWith c (q :: qs)) = _
      rw [splitOn_first [c] (by simp) _ _ (Scan.indexOf_char c p _ hp), List.take_left' rfl]
      exact congrArg _ ((congrArg _ (Scan.drop_succ_append p c _)).trans
        (ih (List.cons_ne_nil _ _) fun x hx => h x (List.mem_cons_of_mem _ hx)))

-- empty entries and multi-character separators, as `strings.Split` has them
example : splitOn ":".toList "a::b".toList = strs ["a", "", "b"] := by decide +kernel
example : splitOn ":".toList "x:".toList = strs ["x", ""] := by decide +kernel
example : splitOn ":".toList "".toList = strs [""] := by decide +kernel
example : splitOn "::".toList "a:::b".toList = strs ["a", ":b"] := by decide +kernel
example : splitOn "ab".toList "xabab".toList = strs ["x", "", ""] := by decide +kernel

/-- `strings.Cut(s, "=")` not found: exactly the entries without `=` -/
theorem splitEq_none_iff (s : Str) : splitEq s = none ↔ '=' ∉ s := by
  induction s with
  | nil => simp [splitEq]
  | cons c cs ih =>
    by_cases h : c = '='
    · simp [splitEq, h]
    · simp only [splitEq, h, if_false, List.mem_cons, Ne.symm h, false_or, ← ih]
      cases splitEq cs <;> simp

/-- the cut is at the FIRST `=`: the key has none, the value is everything after it (further `=` included) -/
theorem splitEq_some_iff (s k v : Str) : splitEq s = some (k, v) ↔ s = k ++ '=' :: v ∧ '=' ∉ k := by
  constructor
  · intro h
    induction s generalizing k with
    | nil => cases h
    | cons c cs ih =>
      simp only [splitEq] at h
      split at h
      · rename_i hc; cases h; simp [hc]
      · rename_i hc
        split at h
        · rename_i p hp
          cases h
          obtain ⟨h1, h2⟩ := ih p.1 hp
          exact ⟨by rw [List.cons_append, ← h1], by simp [h2, Ne.symm hc]⟩
        · cases h
  · rintro ⟨rfl, hk⟩
    induction k with
    | nil => simp [splitEq]
    | cons d ds ih =>
      simp only [List.mem_cons, not_or] at hk
      simp [splitEq, Ne.symm hk.1, ih hk.2]

/-- `utils.GetAsEqualsMap`, duplicate rule: the LAST entry for a key wins; an entry without `=` changes nothing -/
theorem asEqualsMap_last_wins (l : List Str) (s : Str) (k : Str) :
    (asEqualsMap (l ++ [s])).get k =
      match splitEq s with
      | some (k', v) => if k = k' then some v else (asEqualsMap l).get k
      | none => (asEqualsMap l).get k := by
  rw [SplitLemmas.asEqualsMap_snoc]
  cases splitEq s with
  | none => rfl
  | some p =>
    obtain ⟨k', v⟩ := p
    by_cases h : k = k'
    · simp [h, get_cons_self]
    · simp [h, get_cons_ne _ _ _ _ h]

/-- a final `K=V` entry binds `K` to `V` whatever came before (`V` may contain `=`, `K` may be empty) -/
theorem asEqualsMap_entry (l : List Str) (k v : Str) (hk : '=' ∉ k) :
    (asEqualsMap (l ++ [k ++ '=' :: v])).get k = some v := by
  rw [asEqualsMap_last_wins, (splitEq_some_iff _ k v).mpr ⟨rfl, hk⟩]
  simp

theorem asEqualsMap_no_eq_dropped (l : List Str) (s : Str) (hs : '=' ∉ s) :
    asEqualsMap (l ++ [s]) = asEqualsMap l := by
  rw [SplitLemmas.asEqualsMap_snoc, (splitEq_none_iff s).mpr hs]

example : (asEqualsMap (strs ["K=a", "novalue", "K=b=c", "=x"])).get "K".toList = some "b=c".toList := by decide +kernel
example : (asEqualsMap (strs ["K=a", "novalue", "K=b=c", "=x"])).get [] = some "x".toList := by decide +kernel

/-! ## the project environment (`WithEnv`, `WithOsEnv`, `WithDotEnv` in any order) -/

/-- after ANY sequence of option calls the project environment is, as an ordered list of
    layers, the explicit variables (latest `WithEnv` first), then the initial environment, then what `WithOsEnv` /
    `WithDotEnv` added, in call order.  Lookup is first-match, so this is the precedence for every order. -/
theorem env_any_option_order (w : World) (opts : List Opt) (o o' : PO) (h : runOpts w opts o = .ok o') :
    o'.env = explicitLayer opts ++ o.env ++ underOf w opts o := by
  induction opts generalizing o with
  | nil => cases h; simp [explicitLayer, underOf]
  | cons x xs ih =>
    obtain ⟨o1, h1, h2⟩ := runOpts_cons_ok h
    rw [ih o1 h2, explicitLayer_cons, (applyOpt_frame w o o1 x h1).1]
    simp only [underOf, h1, List.append_assoc]

theorem explicit_over_all (w : World) (opts : List Opt) (o o' : PO) (h : runOpts w opts o = .ok o')
    (k v : Str) (hk : (explicitLayer opts).get k = some v) : o'.env.get k = some v := by
  rw [env_any_option_order w opts o o' h, List.append_assoc, get_append, hk, Option.some_or]

theorem env_precedence_documented_order (w : World) (pre : List Opt)
    (hpre : ∀ x ∈ pre, x ≠ .withDotEnv) (o0 o' : PO) (h0 : o0.env = [])
    (h : runOpts w (pre ++ [.withDotEnv]) o0 = .ok o') :
    ∃ o1 m, runOpts w pre o0 = .ok o1 ∧
      (∀ k, o1.env.get k = lookupLayers [explicitLayer pre, osLayer w pre] k) ∧
      getEnvFromFile w o1.env o1.envFiles [] = .ok m ∧
      ∀ k, o'.env.get k = lookupLayers [explicitLayer pre, osLayer w pre, m] k := by
  obtain ⟨o1, h1, h⟩ := runOpts_append_ok h
  obtain ⟨o2, h2, h⟩ := runOpts_cons_ok h
  cases h
  obtain ⟨m, hm, rfl⟩ := withDotEnv_ok h2
  have hs := env_any_option_order w pre o0 o1 h1
  have hk1 : ∀ k, o1.env.get k = lookupLayers [explicitLayer pre, osLayer w pre] k := by
    intro k
    simp only [hs, h0, lookupLayers_flatten, List.flatten_cons, List.flatten_nil, List.append_nil, get_append,
      underOf_noDot w pre o0 o1 hpre h1 k]
  refine ⟨o1, m, h1, hk1, hm, ?_⟩
  intro k
  simp only [get_append, hk1 k, lookupLayers_flatten, List.flatten_cons, List.flatten_nil, List.append_nil,
    Option.or_assoc]

/-- the rest of the project environment is untouched by the load: every other variable keeps the value the
    options gave it -/
theorem load_env_frame {files : List (List (Option Str))} (w : World) (o : PO) (r : Loaded) (h : loadFiles w o files = .ok r) (k : Str) (hk : k ≠ cpn) :
    r.env.get k = o.env.get k :=
  (loader_entry_name_exported files (some o.env) _ _ r (cli_load_is_loader_entry w o files ▸ h)).2.2.1 k hk

/-- the documented call sequence end to end: with the options in the documented order, a successful load has
    the name `Spec.decide` selects from (last `WithName`, `COMPOSE_PROJECT_NAME` read through the layers
    explicit > OS > .env, the compose files, the project directory) -/
theorem name_decision_documented_order (w : World) (pre : List Opt)
    (hpre : ∀ x ∈ pre, x ≠ .withDotEnv) (r : Loaded)
    (h : run w (pre ++ [.withDotEnv]) = .ok r) :
    ∃ o' m files, runOpts w (pre ++ [.withDotEnv]) { configs := w.given } = .ok o' ∧
      readConfigs w o'.configs = .ok files ∧
      o'.name = requestedName pre [] ∧
      o'.env.get cpn = lookupLayers [explicitLayer pre, osLayer w pre, m] cpn ∧
      Spec.decide (sourcesOf w o' files) = .name r.name := by
  obtain ⟨o', ho, hl⟩ := runX_ok_inv w _ [] r ((runX_interp_is_run w _ [] rfl).trans h)
  obtain ⟨files, _, hf, hd⟩ := name_decision_any_interpolation w o' _ r hl
  obtain ⟨o1, m, _, _, _, hk⟩ := env_precedence_documented_order w pre hpre _ o' rfl ho
  refine ⟨o', m, files, ho, hf, ?_, hk cpn, sourcesOfX_false w o' files ▸ hd⟩
  rw [runOpts_name w _ _ o' ho]
  simp [requestedName]


/-- in the documented order (`… WithDotEnv, WithConfigFileEnv`) with no config path given, the `COMPOSE_FILE`
    (and separator) consulted are the ones of the layered project environment explicit > OS > .env -/
theorem compose_file_documented_order (w : World) (pre : List Opt) (hpre : ∀ x ∈ pre, x ≠ .withDotEnv)
    (o0 o1 : PO) (h0 : o0.env = []) (h : runOpts w (pre ++ [.withDotEnv]) o0 = .ok o1) (hc : o1.configs = []) :
    ∃ m, (∀ k, o1.env.get k = lookupLayers [explicitLayer pre, osLayer w pre, m] k) ∧
      applyOpt w o1 .withConfigFileEnv =
        match lookupLayers [explicitLayer pre, osLayer w pre, m] composeFileKey with
        | none => .ok o1
        | some f =>
          match resolvePaths w (splitOn (pathSep o1) f) with
          | .ok rs => .ok { o1 with configs := rs }
          | .error e => .error e := by
  obtain ⟨_, m, _, _, _, hk⟩ := env_precedence_documented_order w pre hpre o0 o1 h0 h
  refine ⟨m, hk, ?_⟩
  rw [← hk composeFileKey]
  cases hf : o1.env.get composeFileKey with
  | none => exact configFileEnv_unset w o1 hc hf
  | some f => exact configFileEnv_selects w o1 hc f hf

/-! ## the env files (`WithEnvFiles`, `dotenv.GetEnvFromFile`) -/


/-- an explicit selection replaces whatever was selected before and touches nothing else -/
theorem withEnvFiles_explicit (w : World) (o : PO) (f : Str) (fs : List Str) :
    applyOpt w o (.withEnvFiles (f :: fs)) = .ok { o with envFiles := (f :: fs).map .named } := rfl

/-- `WithEnvFiles()`: junk in `COMPOSE_DISABLE_ENV_FILE` is an error -/
theorem withEnvFiles_junk_rejected (w : World) (o : PO) (v : Str) (hv : disableVar w = some v)
    (hp : parseBool v = none) : applyOpt w o (.withEnvFiles []) = .error .disableParse := by
  simp only [applyOpt, withEnvFiles_nil, hv, hp]

/-- `WithEnvFiles()`: a true `COMPOSE_DISABLE_ENV_FILE` leaves the options untouched -/
theorem withEnvFiles_disabled (w : World) (o : PO) (v : Str) (hv : disableVar w = some v)
    (hp : parseBool v = some true) : applyOpt w o (.withEnvFiles []) = .ok o := by
  simp only [applyOpt, withEnvFiles_nil, hv, hp]

/-- `WithEnvFiles()` not disabled: the `.env` of the project directory *as it is when the option runs*
    (`WorkingDir`, else the directory of the first config path, else the process directory) becomes the selection
    if it is a regular file; otherwise (absent, or a directory) the previous selection is kept -/
theorem withEnvFiles_default (w : World) (o : PO)
    (hv : disableVar w = none ∨ ∃ v, disableVar w = some v ∧ parseBool v = some false) :
    applyOpt w o (.withEnvFiles []) = .ok
      (match (dirNode w (projDirId w o)).dotEnv with
       | some (.file _) => { o with envFiles := [.default (projDirId w o)] }
       | _ => o) := by
  simp only [applyOpt, withEnvFiles_nil]
  rcases hv with hv | ⟨v, hv, hp⟩
  · rw [hv]; rfl
  · simp only [hv, hp]; rfl

/-- `WithDotEnv` with nothing selected changes nothing (the README sequence `WithOsEnv, WithDotEnv` loads no file) -/
theorem withDotEnv_no_files (w : World) (o : PO) (h : o.envFiles = []) : applyOpt w o .withDotEnv = .ok o := by
  cases o with
  | mk n e ef wd cf =>
    simp only at h
    subst h
    simp [applyOpt, getEnvFromFile]


/-- **the simple-line evaluator of the specification is the restriction of the env-file parser** (C18's model,
    `Dotenv.parse_render`) to files made of accepted `KEY=VALUE` lines -/
theorem simple_lines_are_parser_restriction (above earlier : Env) (ls : List (Str × Str))
    (h : ls.all simpleOk = true) :
    SameResult (Dotenv.parse (Dotenv.stripBOM (renderSimple ls)) (Dotenv.envOf above.get earlier))
      (fileLayer above earlier ls []) := by
  rw [renderSimple, stripBOM_render _ (simple_wf ls h), Dotenv.parse_render_lemma _ _ (simple_wf ls h)]
  exact evalFrom_simple above earlier ls [] [] (fun _ => rfl)

/-- on env files made of accepted `KEY=VALUE` lines, `GetEnvFromFile` (through the parser
    model) and the specification's layers succeed together and agree on every key -/
theorem dotenv_refines_spec (w : World) (cur : Env) (refs : List FileRef) (contents : List (List (Str × Str)))
    (hfiles : refs.map (lookupFile w) = contents.map (fun ls => some (.file (renderSimple ls))))
    (hok : ∀ ls ∈ contents, ls.all simpleOk = true)
    (m : Env) (acc : List Env) (hm : ∀ k, m.get k = Env.get acc.flatten k) :
    SameLayers (getEnvFromFile w cur refs m) (dotenvLayers cur contents acc) := by
  induction refs generalizing contents m acc with
  | nil =>
    cases contents with
    | nil => simpa [getEnvFromFile, dotenvLayers, SameLayers] using hm
    | cons c cs => cases hfiles
  | cons f fs ih =>
    cases contents with
    | nil => cases hfiles
    | cons c cs =>
      simp only [List.map_cons, List.cons.injEq] at hfiles
      have hc : c.all simpleOk = true := hok c List.mem_cons_self
      simp only [getEnvFromFile, hfiles.1, dotenvLayers]
      rw [envOf_congr cur m acc.flatten hm]
      have hp := simple_lines_are_parser_restriction cur acc.flatten c hc
      unfold parseFile
      cases h1 : Dotenv.parse (Dotenv.stripBOM (renderSimple c)) (Dotenv.envOf cur.get acc.flatten) with
      | ok out =>
        rw [h1] at hp
        cases h2 : fileLayer cur acc.flatten c [] with
        | error e => rw [h2] at hp; exact hp.elim
        | ok out2 =>
          rw [h2] at hp
          simp only
          apply ih cs hfiles.2 (fun ls hl => hok ls (List.mem_cons_of_mem _ hl))
          intro k
          rw [get_mergeInto m out (Dotenv.parse_keys_nodup_lemma _ _ _ h1) k, List.flatten_cons, get_append,
            ← dget_eq, hp k, hm k]
      | err e p | panic s =>
        rw [h1] at hp
        cases h2 : fileLayer cur acc.flatten c [] with
        | error e => simp [SameLayers]
        | ok out2 => rw [h2] at hp; exact hp.elim

/-- the first selected env file that is missing (or is a directory) decides the error -/
theorem getEnvFromFile_first_bad (w : World) (cur : Env) (pre post : List FileRef) (f : FileRef) (acc m0 : Env)
    (hpre : getEnvFromFile w cur pre acc = .ok m0) :
    (lookupFile w f = none → getEnvFromFile w cur (pre ++ f :: post) acc = .error .envNotFound) ∧
    (lookupFile w f = some .dir → getEnvFromFile w cur (pre ++ f :: post) acc = .error .envIsDir) := by
  constructor <;> intro hf <;> rw [getEnvFromFile_append, hpre] <;> simp [getEnvFromFile, hf]

theorem dotenv_later_over_earlier (w : World) (cur : Env) (fs : List FileRef) (f : FileRef) (acc m : Env)
    (h : getEnvFromFile w cur (fs ++ [f]) acc = .ok m) :
    ∃ m0 c out, getEnvFromFile w cur fs acc = .ok m0 ∧ lookupFile w f = some (.file c) ∧
      parseFile (Dotenv.envOf cur.get m0) c = .ok out ∧
      ∀ k, m.get k = match out.get k with | some v => some v | none => m0.get k := by
  rw [getEnvFromFile_append] at h
  cases h0 : getEnvFromFile w cur fs acc with
  | error e => rw [h0] at h; cases h
  | ok m0 =>
    simp only [h0, getEnvFromFile] at h
    split at h
    · cases h
    · cases h
    · rename_i c hl
      split at h
      · rename_i out ho
        cases h
        refine ⟨m0, c, out, rfl, hl, ho, fun k => ?_⟩
        rw [get_mergeInto m0 out (parseFile_nodup _ _ _ ho) k]
        cases out.get k <;> rfl
      · cases h

/-- `getEnvFromFile` on files that exist is C18's `Dotenv.fromFiles` on their contents -/
theorem dotenv_is_fromFiles (w : World) (cur : Env) (refs : List FileRef) (contents : List Str)
    (hfiles : refs.map (lookupFile w) = contents.map (fun c => some (.file c))) (acc : Env) :
    getEnvFromFile w cur refs acc = toErr (Dotenv.fromFiles cur.get contents acc) := by
  induction refs generalizing contents acc with
  | nil =>
    cases contents with
    | nil => rfl
    | cons c cs => cases hfiles
  | cons f fs ih =>
    cases contents with
    | nil => cases hfiles
    | cons c cs =>
      simp only [List.map_cons, List.cons.injEq] at hfiles
      simp only [getEnvFromFile, hfiles.1, Dotenv.fromFiles, parseFile]
      cases Dotenv.parse (Dotenv.stripBOM c) (Dotenv.envOf cur.get acc) with
      | ok env => exact ih cs hfiles.2 _
      | err e p => rfl
      | panic s => rfl

/-- on any file written in the env-file grammar the parser computes the grammar's meaning, with the lookup
    chain project environment → earlier files (→ earlier lines, inside `evalLines`) -/
theorem dotenv_grammar_semantics (cur envMap : Env) (L : List Dotenv.Line) (hwf : Dotenv.WF L = true)
    (hbom : Dotenv.stripBOM (Dotenv.render L) = Dotenv.render L) :
    parseFile (Dotenv.envOf cur.get envMap) (Dotenv.render L) =
      toErr (Dotenv.evalLines (Dotenv.envOf cur.get envMap) L) := by
  have _ := hbom  -- not needed: it follows from `hwf` (`stripBOM_render`)
  exact parseFile_render _ L hwf

/-- reference semantics of the *specification's* evaluator `Spec.fileLayer`: the value it gives a line whose text is
    ANY well-formed template (`${R}`, `${R:-d}`, `${R:?m}`, nested, escaped `$$` …) is what the interpolation grammar
    says (C07's `subst_render`), evaluated against the variables above the env files first, then the earlier files,
    then the earlier lines of the same file.  The model (`getEnvFromFile`, through the parser) is tied to `fileLayer`
    by `dotenv_refines_spec`, on files of `simpleOk` lines -/
theorem dotenv_refs_above (above earlier out : Env) (k : Str) (t : List Template.Seg) (ls : List (Str × Str))
    (h : Template.WF t = true) :
    fileLayer above earlier ((k, Template.renderL t) :: ls) out =
      match Template.evalOut (lookupLayers [above, earlier, out]) t with
      | .ok v => fileLayer above earlier ls ((k, v) :: out)
      | _ => .error () := by
  rw [fileLayer, Template.subst_render _ t h]
  cases Template.evalOut (lookupLayers [above, earlier, out]) t <;> rfl

theorem dotenv_ref_var (above earlier out : Env) (k r : Str) (b : Bool) (ls : List (Str × Str))
    (hr : Template.validName r = true) :
    fileLayer above earlier ((k, Template.renderL [Template.Seg.var r b]) :: ls) out =
      fileLayer above earlier ls ((k, (lookupLayers [above, earlier, out] r).getD []) :: out) := by
  have hwf : Template.WF [Template.Seg.var r b] = true := by
    cases b <;> simp [Template.WF, Template.wfL, Template.Seg.wf, hr, Template.renderL, Template.noNameHead]
  rw [dotenv_refs_above above earlier out k _ ls hwf]
  simp [Template.evalOut, Template.evalL, Template.Seg.eval]

theorem dotenv_ref_default (above earlier out : Env) (k r d : Str) (ls : List (Str × Str))
    (hr : Template.validName r = true) (hd : Template.litOkArg d = true) :
    fileLayer above earlier ((k, Template.renderL [Template.Seg.op r .colonDash [Template.Seg.lit d]]) :: ls) out =
      fileLayer above earlier ls
        ((k, match lookupLayers [above, earlier, out] r with
             | some v => if v = [] then d else v
             | none => d) :: out) := by
  have hwf : Template.WF [Template.Seg.op r .colonDash [Template.Seg.lit d]] = true := by
    simp [Template.WF, Template.wfL, Template.Seg.wf, hr, hd]
  rw [dotenv_refs_above above earlier out k _ ls hwf]
  cases hl : lookupLayers [above, earlier, out] r with
  | none => simp [Template.evalOut, Template.evalL, Template.Seg.eval, Template.opSpec, hl]
  | some v =>
    by_cases hv : v = [] <;> simp [Template.evalOut, Template.evalL, Template.Seg.eval, Template.opSpec, hl, hv]

/-! ## non-vacuity: concrete worlds on which the hypotheses of the theorems hold -/

-- the env-file scanner and the grammar evaluator on a one-line file: the same map
example : (parseFile (fun _ => none) (renderSimple [("A".toList, "b".toList)])).toOption = some [("A".toList, "b".toList)] := by decide +kernel
example : (toErr (Dotenv.evalLines (fun _ => none) ([("A".toList, "b".toList)].map simpleLine))).toOption = some [("A".toList, "b".toList)] := by decide +kernel
-- explicit name over COMPOSE_PROJECT_NAME over file over directory
example : nameOf (run exW (.withName "ex".toList :: exDoc)) = some "ex" := by decide +kernel
example : nameOf (run exW exDoc) = some "os" := by rw [run_exW_exDoc]; decide +kernel
example : nameOf (run (mkW ["V=o"] g12 "f1".toList "F.2".toList "My.Dir".toList) exDoc) = some "f2" := by decide +kernel
example : nameOf (run (mkW [] g12 [] [] "My.Dir".toList) exDoc) = some "mydir" := by decide +kernel
-- a file name that normalises to empty falls through to the directory, not to the earlier file
example : nameOf (run (mkW [] g12 "f1".toList "_.".toList "My.Dir".toList) exDoc) = some "mydir" := by decide +kernel
-- invalid requests are rejected; nothing yields a name
example : errOf (run exW (exDoc ++ [.withName "Ex".toList])) = some .invalidName := by rw [run, runOpts_append, exDoc_exW]; decide +kernel
example : errOf (run (mkW ["COMPOSE_PROJECT_NAME=a.b"] g12 [] [] "d".toList) exDoc) = some .invalidName := by decide +kernel
example : errOf (run (mkW [] g12 [] [] "日本".toList) exDoc) = some .emptyName := by decide +kernel
-- environment: explicit over OS over later file over earlier file; references see the variables above
example : varOf "V" (run exW (.withEnv (strs ["V=e"]) :: exDoc)) = some "e" := by decide +kernel
example : varOf "V" (run exW (exDoc ++ [.withEnv (strs ["V=e"])])) = some "e" := by rw [run, runOpts_append, exDoc_exW]; decide +kernel
example : varOf "V" (run exW exDoc) = some "o" := by rw [run_exW_exDoc]; decide +kernel
example : varOf "X" (run exW exDoc) = some "2" := by rw [run_exW_exDoc]; decide +kernel
example : varOf "R" (run exW exDoc) = some "o" := by rw [run_exW_exDoc]; decide +kernel     -- `$V` in file a: the OS value, not the file's own
example : varOf "S" (run exW exDoc) = some "1o" := by rw [run_exW_exDoc]; decide +kernel    -- `$X`: the EARLIER FILE's value, `$R`: file a's
example : varOf "COMPOSE_PROJECT_NAME" (run exW exDoc) = some "os" := by rw [run_exW_exDoc]; decide +kernel
example : (run exW exDoc).toOption.map (fun l => String.ofList l.probe) = some "o2" := by rw [run_exW_exDoc]; decide +kernel
-- which files are loaded: nothing given → COMPOSE_FILE of the project environment, else the default names upward
example : errOf (run (mkW [] [] [] [] []) exDoc) = some .noConfig := by decide +kernel
example : nameOf (run (mkW [] [] [] [] []) [.withDefaultConfigPath]) = some "top" := by decide +kernel
example : (runOpts (mkW [] [] [] [] []) [.withDefaultConfigPath] {}).toOption.map (·.configs) =
    some [{ dir := 1, file := some "compose.yaml".toList }, { dir := 1, file := some "compose.override.yml".toList }] := by
  decide +kernel
example : nameOf (run (mkW ["COMPOSE_FILE=x.yaml"] [] [] [] []) [.withOsEnv, .withConfigFileEnv]) = some "top" := by decide +kernel
example : errOf (run (mkW ["COMPOSE_FILE=x.yaml:nope.yaml"] [] [] [] []) [.withOsEnv, .withConfigFileEnv]) = some .configNotFound := by
  decide +kernel
-- COMPOSE_FILE is read when the option runs: before WithOsEnv it is not there yet
example : errOf (run (mkW ["COMPOSE_FILE=x.yaml"] [] [] [] []) [.withConfigFileEnv, .withOsEnv]) = some .noConfig := by decide +kernel
-- given files win over both
example : nameOf (run (mkW ["COMPOSE_FILE=x.yaml"] g12 "f1".toList [] "d".toList) [.withOsEnv, .withConfigFileEnv, .withDefaultConfigPath]) = some "f1" := by
  decide +kernel
-- the default `.env` is the one of the project directory the selection implies (directory 1 here)
example : varOf "D" (run (mkW [] [] [] [] []) [.withDefaultConfigPath, .withEnvFiles [], .withDotEnv]) = some "top" := by decide +kernel
-- the hypotheses of `env_precedence_documented_order` / `dotenv_later_over_earlier` / `dotenv_refines_spec` are satisfiable
example : (∀ x ∈ exDoc.dropLast, x ≠ Opt.withDotEnv) ∧ exDoc = exDoc.dropLast ++ [.withDotEnv] := by decide +kernel
example : (run exW exDoc).toOption.isSome = true := by rw [run_exW_exDoc]; rfl
example : [fa, fb].all (fun ls => ls.all simpleOk) = true := by decide +kernel
example : (dotenvLayers (strs ["V=o"] |> asEqualsMap) [fa, fb] []).toOption.map (fun ls => (Env.get ls.flatten "S".toList)) = some (some "1o".toList) := by decide +kernel
-- an undocumented order: `WithDotEnv` before `WithOsEnv` lets the file value win (covered by `env_any_option_order`)
example : varOf "V" (run exW [.withEnvFiles (strs ["a"]), .withDotEnv, .withOsEnv]) = some "a" := by decide +kernel

end CV.Name
