import ComposeVerif.Model.Merge
import ComposeVerif.Lemmas.C11KV
import ComposeVerif.Gen.C11Facts
/-!
# C11 — a short spelling taking part in a merge leaves every default implicit

`build: <dir>` says nothing about `dockerfile`: the default `Dockerfile` is written by `Normalize`, after every
layer (config files, YAML documents, extended bases) has been merged.  `override.mergeBuild` expands the short
syntax of either side with its local helper `toBuild`; if that helper completed the mapping with a default, an
override written `build: ./other` would replace the `dockerfile: Dockerfile.dev` of the base, while the long
spelling `build: {context: ./other}` keeps it.

The whole-load oracle runs the same statement on the real loader (`meta-exh-cross-layer:build/form3`).
-/
namespace CV.C11
open CV CV.Val CV.Merge

theorem merge_build_is_source :
    CV.Gen.c11_body_mergeBuild =
      "{ toBuild := func(c any) (map[string]any, error) { switch v := c.(type) { case nil: return map[string]any{}, nil case string: return map[string]any{ \"context\": v, }, nil case map[string]any: return v, nil } return nil, fmt.Errorf(\"cannot override %s\", path) } right, err := toBuild(c) if err != nil { return nil, err } left, err := toBuild(o) if err != nil { return nil, err } return mergeMappings(right, left, path) }" := by
  rfl

theorem toBuild_short_is_context_only (dir : String) :
    Merge.toBuild (.str dir) = .ok [("context", .str dir)] := rfl

/-- the merged build section is the base with (only) `context` rewritten -/
theorem mergeBuild_short_override_shape (f : Val → Val → TPath → Merge.Out Val) (base : KVs) (dir : String) (p : TPath)
    (m : Val) (h : Merge.specialStep (mergeKVsWith f) .build (.map base) (.str dir) p = .ok m) :
    ∃ c, m = .map (Val.insert "context" c base) := by
  simp only [Merge.specialStep, Merge.convMerge, Merge.toBuild, Merge.Out.bind, mergeKVsWith] at h
  cases hl : lookup "context" base with
  | none =>
    simp only [hl] at h
    cases h
    exact ⟨_, rfl⟩
  | some e =>
    have hx : hasXPrefix "context" = false := by decide +kernel
    simp only [hl, hx] at h
    cases hf : f e (.str dir) (next p "context") with
    | ok c =>
      simp only [hf] at h
      cases h
      exact ⟨_, rfl⟩
    | err e' => simp [hf] at h
    | panic s => simp [hf] at h

theorem mergeBuild_short_override_keeps_base (f : Val → Val → TPath → Merge.Out Val) (base : KVs) (dir : String) (p : TPath)
    (m : KVs) (h : Merge.specialStep (mergeKVsWith f) .build (.map base) (.str dir) p = .ok (.map m))
    (k : String) (hk : k ≠ "context") :
    lookup k m = lookup k base := by
  obtain ⟨c, hc⟩ := mergeBuild_short_override_shape f base dir p _ h
  cases hc
  exact lookup_insert_ne hk c base

theorem mergeBuild_short_override_absent_stays_absent (f : Val → Val → TPath → Merge.Out Val) (base : KVs) (dir : String)
    (p : TPath) (m : KVs) (h : Merge.specialStep (mergeKVsWith f) .build (.map base) (.str dir) p = .ok (.map m))
    (hb : lookup "dockerfile" base = none) :
    lookup "dockerfile" m = none := by
  rw [mergeBuild_short_override_keeps_base f base dir p m h "dockerfile" (by simp)]; exact hb

theorem mergeBuild_short_eq_long_override (mk : KVs → KVs → TPath → Merge.Out KVs) (x : Val) (dir : String) (p : TPath) :
    Merge.specialStep mk .build x (.str dir) p = Merge.specialStep mk .build x (.map [("context", .str dir)]) p := by
  simp [Merge.specialStep, Merge.convMerge, Merge.toBuild]

/-- non-vacuity: a short-syntax override of a base with its own `dockerfile`, on the model -/
example :
    Merge.specialStep (mergeKVsWith fun _ o _ => .ok o) .build
      (.map [("context", .str "./app"), ("dockerfile", .str "Dockerfile.dev")]) (.str "./other") []
      = .ok (.map [("context", .str "./other"), ("dockerfile", .str "Dockerfile.dev")]) := by
  rfl

end CV.C11
