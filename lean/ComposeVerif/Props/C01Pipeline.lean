import ComposeVerif.Lemmas.C01Pipeline
import ComposeVerif.Lemmas.C01ShortOut
import ComposeVerif.Model.C01Pipeline
import ComposeVerif.Lemmas.C01PipeConv
import ComposeVerif.Props.C01
import ComposeVerif.Lemmas.MergeFuel
import ComposeVerif.Lemmas.Unicity
import ComposeVerif.Props.C11
import ComposeVerif.Props.C12
/-!
# C01 — the stage models of the whole pipeline have no panic outcome

`loadYamlFile` / `loadYamlModel` / `load` run, on the raw tree,

    convert → Interpolate → fixEmpty → ApplyExtends → reset.Apply → ApplyInclude → Merge → EnforceUnicity
      → [schema.Validate] → Canonical → OmitEmpty → EnforceUnicity → SetDefaultValues → [validation.Validate]
      → ResolveRelativePaths → ResolveEnvironment → Normalize

(the order of the Go code; the composed model below applies `fixEmpty` before `Interpolate`, which only rewrites strings —
`Model/C01Pipeline.lean` says why).

Each stage has an executable model whose outcome type has a `panic site` constructor for every unchecked assertion of
the Go body; the models are tied to the code by their owners' correspondence streams.  This module states, stage by
stage, that the panic constructor is unreachable — importing the owners' theorems where they exist, proving the missing
ones here — and says exactly what is left to the site review.

| stage | model (owner) | theorem | strength |
|---|---|---|---|
| convert / top-level test | `C01.convert`, `convertTop`, `parseYAMLTop` (C01) | `convertTop_total`, `parseYAML_total` | every tree |
| alias expansion + tree check | `C01.Reset.run` (C01) | `alias_resolution_total`, `decode_input_acyclic` | every arena (no panic constructor; never loops) |
| Interpolate | `Interp.interpolate` (C08) | `interpolate_never_panics` (here, from C07 `subst_never_panics`) | every tree, table, environment |
| fixEmpty | `C01.fixEmpty` (C01) | total function; `walkers_establish_schema_input` | every tree |
| ApplyExtends | `C01.Ext.resolve` (C01) | `extends_never_panics`, `extends_terminates` (Props/C01) | every services map / file system; the merge inside is the next row |
| ExtendService / Merge | `Merge.extendService`, `Merge.merge` (C04) | `extendService_never_panics`, `merge_never_panics` | every pair of trees |
| ApplyInclude | `C01.Inc.loadModel` (C01) | `include_terminates`, no panic constructor reachable (`Inc.loadModel_ne_panic`) | every file system |
| EnforceUnicity (both runs) | `Unicity.enforceTop` (C04) | `enforceTop_never_panics` | every tree |
| Canonical | `Short.canonical` (C03) | `canonical_never_panics` (here) | every tree |
| OmitEmpty | `C01.omitEmptyTop` (C01) | `omitEmpty_total`, `omitEmpty_leaves_no_nil` | every tree |
| SetDefaultValues | `C11.setDefaultValues` (C11) | `setDefaultValues_never_panics` (here) | every tree, every table |
| validation.Validate | `Validate.validate` (C10) | `validate_only_panic_sites` (here) | every tree: ok, err, or one of THREE sites, each `schema`-guarded — see below |
| ResolveRelativePaths | `Paths.resolve` (C12) | `resolve_never_panics` | every tree |
| Normalize (+ normalizeNetworks, setNameFromKey) | `C11.normalize` (C11) | `normalize_never_panics` | every tree |

Left to the site review (`Props/C01Sites.lean`) and the oracle, not to a theorem:
* `checkFileObject` / `checkPath` / `checkDeviceRequest`: reachable on trees that did not pass the schema; in the pipeline
  `validation.Validate` runs under the same `!SkipValidation` test as `schema.Validate`, after it, and the schema allows
  only the asserted kind at the three patterns — rows marked `schema`, `Sites.schema_guards_hold`, `kindsAt_sound`.
* stages without a stage model in this file: `ResolveEnvironment` (C20's `Secrets` model has its own totality facts),
  the typed decode `Transform` (C03 `ShortDecode`, C09), `checkConsistency` (C10: a pure function on the typed project;
  its nil dereferences are listed by `Gen/NilDerefs.lean`, `Sites.nil_derefs_guarded`).
-/
namespace CV.C01.Pipeline
open CV

/-- **Interpolate**: no input makes the interpolation stage panic (the only candidate, `template.Substitute`, has no
panic: C07 `subst_never_panics`) -/
theorem interpolate_never_panics (c : Interp.Cfg) (kvs : List (String × Val)) (site : String) :
    Interp.interpolate c kvs ≠ .panic site :=
  interpKVs_never_panics c kvs TPath.root site

theorem setDefaultValues_never_panics (tbl : List (List String × String)) (d : Val.KVs) (site : String) :
    C11.setDefaultValues tbl d ≠ .panic site :=
  setDefaults_never_panics tbl (.map d) TPath.root site

theorem canonical_never_panics (ign : Bool) (v : Val) (site : String) : Short.canonical ign v ≠ .panic site :=
  fun h => transform_onlyKV ign v TPath.root site h

/-- a non-string item under the `transformKeyValue` pattern, in a service of a mapping and in an element of a
`services:` LIST (the shape `EnforceUnicity` never looks into): errors -/
example : Short.canonical false (.map [("services", .map [("a", .map [("build", .map [("additional_contexts", .seq [.int 1])])])])])
    = .err "type" := Short.Out.eq_err_of_beq (by decide +kernel)
example : Short.canonical false (.map [("services", .seq [.map [("build", .map [("additional_contexts", .seq [.int 1])])]])])
    = .err "type" := Short.Out.eq_err_of_beq (by decide +kernel)
example : ∃ r, Short.canonical false (.map [("services", .map [("a", .map [("build", .map [("additional_contexts", .seq [.str "c=./d"])])])])])
    = .ok r := Short.Out.exists_ok_of (by decide +kernel)

/-- **validation.Validate**: on every tree the outcome is ok, err, or a panic at one of the three assertion sites that
the site review marks `schema` -/
theorem validate_only_panic_sites (t : Val) (site : String) (h : Validate.validate t = .panic site) :
    site ∈ ["validation.init.checkFileObject", "validation.checkPath", "validation.checkDeviceRequest"] := by
  rcases Validate.validate_eq t with hok | hmem
  · rw [hok] at h; cases h
  · obtain ⟨c, w, ho⟩ := Validate.failuresAt_sub _ t _ hmem
    exact runL_panic_site c w site (h ▸ ho)

/-- **the composition**: every stage that has a model is free of panics on EVERY tree — unconditionally for twelve
stages, and up to three named (schema-guarded) sites for `validation.Validate` -/
theorem pipeline_stages_never_panic :
    (∀ raw s, convertTop raw ≠ .panic s) ∧
    (∀ c kvs s, Interp.interpolate c kvs ≠ .panic s) ∧
    (∀ base over s, Merge.extendService base over ≠ .panic s) ∧
    (∀ base over s, Merge.merge base over ≠ .panic s) ∧
    (∀ v s, Unicity.enforceTop v ≠ .panic s) ∧
    (∀ ign v s, Short.canonical ign v ≠ .panic s) ∧
    (∀ pats m s, omitEmptyTop pats m ≠ .panic s) ∧
    (∀ tbl d s, C11.setDefaultValues tbl d ≠ .panic s) ∧
    (∀ t s, Validate.validate t = .panic s →
      s ∈ ["validation.init.checkFileObject", "validation.checkPath", "validation.checkDeviceRequest"]) ∧
    (∀ cfg v s, Paths.resolve cfg v ≠ .panic s) ∧
    (∀ clean env d s, C11.normalize clean env d ≠ .panic s) ∧
    (∀ fs fuel main svcs name tr s, (Ext.resolve fs main fuel svcs name tr).1 ≠ .panic s) ∧
    (∀ fs fuel files inc s, Inc.loadModel fs fuel files inc ≠ .panic s) :=
  ⟨convertTop_total, interpolate_never_panics, Merge.extendService_never_panics, Merge.merge_never_panics,
   Unicity.enforceTop_never_panics, canonical_never_panics, omitEmpty_total, setDefaultValues_never_panics,
   validate_only_panic_sites, Paths.resolve_never_panics, C11.normalize_never_panics,
   fun fs fuel main svcs name tr s => extends_never_panics fs fuel main svcs name tr s,
   fun fs fuel files inc s => Inc.loadModel_ne_panic fs fuel files inc s⟩

end CV.C01.Pipeline

/-!
# the stages composed: `Model/C01Pipeline.lean`

`Pipe.loadModel` chains the stage models in the order and under the option tests of `processRawYaml` /
`loadYamlModel` / `load`.  The conjunction above becomes a statement about ONE function, for every option set, every
parameter (tables, environment, working directory, schema verdict), every list of documents:
a panic outcome of the composition can only be one of the three sites of `validation.Validate` — and with
`SkipValidation` there is none at all.
`ApplyExtends` / processors / `ApplyInclude` enter as a parameter with the hypothesis that they do not panic (their own
theorems: `extends_never_panics`, `Inc.loadModel_ne_panic`, `alias_resolution_total`).

`Pipe.loadModel` is the composition that stream `c01pipe` runs against `loader.LoadModelWithContext`; the composition the other
properties build on is `Pipeline.load` (`Model/Pipeline.lean`; its theorems of this kind are in `Props/C01Whole.lean`, with
`Pipeline.PanicsIn` where this file has `PS`: the two outcome types are different types).
-/
namespace CV.C01.Pipe
open CV

def validateSites : List String :=
  ["validation.init.checkFileObject", "validation.checkPath", "validation.checkDeviceRequest"]

theorem ps_ofValidate (v : Val) : PS validateSites (ofValidate v (Validate.validate v)) := by
  intro s e
  cases hv : Validate.validate v with
  | ok => rw [hv] at e; cases e
  | err c => rw [hv] at e; cases e
  | panic t => rw [hv] at e; simp only [ofValidate] at e; cases e; exact Pipeline.validate_only_panic_sites v _ hv

/-- **the glue is lossless**: the `GoVal` ↔ `Val` conversions between the walkers' models and the other owners' models are
inverse to each other on everything the composition passes through them — every `Val`, and every tree that `convert` +
`fixEmpty` produce (no nil slice, no `map[interface{}]interface{}`) -/
theorem conversions_lossless :
    (∀ v : Val, toVal (ofVal v) = v) ∧
    (∀ raw g : GoVal, convert raw = .ok g → ofVal (toVal (fixEmpty g)) = fixEmpty g) :=
  ⟨toVal_ofVal, fun raw g h =>
    have hw := walkers_establish_schema_input raw g h
    ofVal_toVal _ hw.2 hw.1⟩

/-- **one document**: `processRawYaml` — convert, interpolate, fixEmpty, extends / include, merge, unicity, schema,
canonical, omitEmpty, unicity — has no panic outcome, for every option set, parameter set, accumulated `dict` and raw
document, provided the extends / include stage has none -/
theorem processRawYaml_never_panics (o : Opts) (P : Params) (hExt : ∀ v s, P.extInc v ≠ .panic s)
    (dict : Val) (raw : GoVal) (s : String) : processRawYaml o P dict raw ≠ .panic s := by
  have key : PS [] (processRawYaml o P dict raw) := by
    unfold processRawYaml
    refine ps_bind (ps_ofWalker _ _ (convertTop_total raw)) fun kvs0 => ?_
    refine ps_bind (by split; exact ps_ok _ _; exact ps_ofInterp _ (Pipeline.interpolate_never_panics _ _)) fun cfg1 => ?_
    refine ps_bind (fun t e => absurd e (hExt _ t)) fun cfg2 => ?_
    refine ps_bind (ps_ofMerge _ _ (Merge.merge_never_panics _ _)) fun d1 => ?_
    refine ps_bind (ps_ofMerge _ _ (Unicity.enforceTop_never_panics _)) fun d2 => ?_
    refine ps_bind (by split; exact ps_ok _ _; split; exact ps_ok _ _; exact ps_err _ _) fun d3 => ?_
    refine ps_bind (ps_ofShort _ (Pipeline.canonical_never_panics _ _)) fun d4 => ?_
    refine ps_bind (ps_ofWalker _ _ (omitEmpty_total _ _)) fun d5 => ?_
    exact ps_ofMerge _ _ (Unicity.enforceTop_never_panics _)
  exact fun e => absurd (key s e) (by simp)

theorem loadFiles_never_panics (o : Opts) (P : Params) (hExt : ∀ v s, P.extInc v ≠ .panic s) :
    ∀ (raws : List GoVal) (dict : Val) (s : String), loadFiles o P dict raws ≠ .panic s
  | [], dict, s => by simp [loadFiles]
  | raw :: rest, dict, s => by
    unfold loadFiles
    intro e
    cases h : processRawYaml o P dict raw with
    | ok d => rw [h] at e; exact loadFiles_never_panics o P hExt rest d s e
    | err x => rw [h] at e; cases e
    | panic t => exact processRawYaml_never_panics o P hExt dict raw t h

/-- `S`: the three sites of `validation.Validate` when validation is on, anything (`[]`) when it is off -/
theorem loadModel_panic_sites (o : Opts) (P : Params) (hExt : ∀ v s, P.extInc v ≠ .panic s) (raws : List GoVal)
    {S : List String} (hS : o.skipValidation = false → S = validateSites) : PS S (loadModel o P raws) := by
  unfold loadModel
  refine ps_bind (ps_nil_mono fun t e => absurd e (loadFiles_never_panics o P hExt raws _ t)) fun d0 => ?_
  refine ps_bind (by split; exact ps_ok _ _; exact ps_nil_mono (ps_ofC11 _ _ (Pipeline.setDefaultValues_never_panics _ _))) fun d1 => ?_
  refine ps_bind (by split; exact ps_ok _ _; next hv => rw [hS (by simpa using hv)]; exact ps_ofValidate d1) fun d2 => ?_
  refine ps_bind (by split; exact ps_nil_mono (ps_ofPaths _ (Paths.resolve_never_panics _ _)); exact ps_ok _ _) fun d3 => ?_
  simp only
  split
  · exact ps_err _ _
  · split
    · exact ps_err _ _
    · split
      · exact ps_ok _ _
      · exact ps_bind (ps_nil_mono (ps_ofC11 _ _ (C11.normalize_never_panics _ _ _))) fun kvs => ps_ok _ _

/-- **the whole model load, full statement**: for every option set, parameter set and list of documents the composition
answers ok, err, or a panic at one of the three assertion sites of `validation.Validate` (each `schema`-guarded in the
site review) -/
theorem loadModel_panics_only_at_validate_sites (o : Opts) (P : Params) (hExt : ∀ v s, P.extInc v ≠ .panic s)
    (raws : List GoVal) (s : String) (h : loadModel o P raws = .panic s) : s ∈ validateSites :=
  loadModel_panic_sites o P hExt raws (fun _ => rfl) s h

/-- **with `SkipValidation`** (schema and `validation.Validate` both off — every tree reaches every other stage
unchecked): the composition never panics -/
theorem loadModel_never_panics_skipValidation (o : Opts) (P : Params) (hExt : ∀ v s, P.extInc v ≠ .panic s)
    (hskip : o.skipValidation = true) (raws : List GoVal) (s : String) : loadModel o P raws ≠ .panic s := by
  intro h
  cases loadModel_panic_sites o P hExt raws (S := []) (fun hv => by rw [hskip] at hv; cases hv) s h

/-! non-vacuity: the hypothesis on the parameter is satisfiable (the identity stage), and the exception of the full
statement is real IN THE COMPOSITION when the schema verdict is not tied to the tree: with a `schemaOK` that accepts
everything, `gpus: [1]` travels through convert, merge, unicity, canonical, omitEmpty, unicity and reaches
`checkDeviceRequest`'s `.(map[string]any)` (`configs: {a: 1}` does not get that far: `transformMaybeExternal` rejects it).  (What rules it out in the loader is gojsonschema — `schema_guards_hold`,
`kindsAt_sound` — plus the fact, not proved, that the stages in between keep the kind at the three patterns.) -/
example : ∀ (v : Val) (s : String), (fun v => Out.ok v : Val → Out Val) v ≠ .panic s := by intro v s h; cases h

example (c : Interp.Cfg) (pc : Paths.Cfg) :
    loadModel ⟨true, false, true, true, false⟩
      { interp := c, omitPats := [], defaults := [], paths := pc, clean := id, env := [], projectName := "p",
        schemaOK := fun _ => true, extInc := fun v => .ok v, resolveEnv := id }
      [.map [("services", .map [("s", .map [("gpus", .seq [.int 1])])])]]
    = .panic "validation.checkDeviceRequest" := by rfl

example (c : Interp.Cfg) (pc : Paths.Cfg) :
    loadModel ⟨true, true, true, true, false⟩
      { interp := c, omitPats := [], defaults := [], paths := pc, clean := id, env := [], projectName := "p",
        schemaOK := fun _ => true, extInc := fun v => .ok v, resolveEnv := id }
      [.map [("configs", .map [("a", .map [("file", .str "f")])])], .map [("services", .map [("s", .map [("image", .str "i")])])]]
    = .ok (.map [("configs", .map [("a", .map [("file", .str "f")])]), ("services", .map [("s", .map [("image", .str "i")])])]) := by rfl

end CV.C01.Pipe
