import ComposeVerif.Props.C05
/-!
# C05 — "a missing base or file is an error": and it is *that* error

`stuckClass` (Spec/Extends.lean) follows the links of a service without merging anything and names the class of the
first link that cannot be followed.  Resolving such a service reports exactly that class — the tracker does not
intervene (it would mean a cycle, and a chain that gets stuck has none) and the recursion does not run out of fuel.
-/
namespace CV.Extends
open CV CV.Val

theorem stuck_service_error_class {E : Env} (hE : FuelFree E) (hC : NoCircularEnv E)
    (hmain : fileServices E.fs E.mainFile = none) {S : KVs} {n c : String} {f : Nat}
    (h : stuckClass E f S n = some c) :
    applySvc E (fuelFor E S) E.mainFile n S [] = .err c := by
  rcases applySvc_stuck E f (fuelFor E S) E.mainFile n S [] S (Inv.refl E S) h with r | r | r
  · exact r
  · exfalso
    have hc := applySvc_circular_sound E hC hmain S _ E.mainFile n S [] S (Inv.refl E S)
      (Or.inl ⟨rfl, rfl⟩) (TrOK.nil E S (S, n)) r
    rw [hc.stuckClass_none f S n] at h; cases h
  · exfalso
    exact applySvc_main_no_fuel hE (KeysSub.self E S) n r

/-- a document whose first visited service gets stuck with class `c` makes `ApplyExtends` fail with `c` -/
theorem first_visited_stuck_is_error {E : Env} (hE : FuelFree E) (hC : NoCircularEnv E)
    (hmain : fileServices E.fs E.mainFile = none) {dict S : KVs} {n c : String} {rest : List String} {f : Nat}
    (hS : lookup "services" dict = some (.map S)) (h : stuckClass E f S n = some c) :
    applyExtendsOrd E (n :: rest) dict = .err c := by
  have := stuck_service_error_class hE hC hmain h
  rw [applyExtendsOrd_eq hS]
  simp only [applyAll, this]

/-- = `applySvc_stuck`, the per-service form, at any depth: whatever has been memoised and whatever the tracker holds, the
outcome on a stuck chain is the class, a tracker rejection, or the fuel marker — never a result, never another class -/
theorem stuck_service_outcomes (E : Env) {c : String} (f fuel : Nat) (cf n : String) (cur orig : KVs) (tr : List Key)
    (hi : Inv E orig cur) (h : stuckClass E f orig n = some c) :
    applySvc E fuel cf n cur tr = .err c ∨ applySvc E fuel cf n cur tr = .err "circular" ∨
      applySvc E fuel cf n cur tr = .panic fuelMark :=
  applySvc_stuck E f fuel cf n cur tr orig hi h

theorem stuck_excludes_flat_and_cycle {E : Env} {S : KVs} {n c : String} {f : Nat}
    (h : stuckClass E f S n = some c) : (∀ v, ¬ Flat E S n v) ∧ ¬ Cyclic E (S, n) := by
  constructor
  · intro v hf
    rw [hf.stuckClass_none f] at h; cases h
  · intro hc
    rw [hc.stuckClass_none f S n] at h; cases h

/-! ### non-vacuity: the three usual classes, computed -/

example : stuckClass Neg.env 3 [("a", .map [("extends", .str "zz")])] "a" = some "notFound" := by decide +kernel
example : stuckClass Neg.env 3 [("a", .map [("extends", .map [("service", .str "b"), ("file", .str "nope.yaml")])])] "a"
    = some "noFile" := by decide +kernel
example : stuckClass Neg.env 3 [("a", .map [("extends", .map [("service", .str "zz"), ("file", .str "o.yaml")])])] "a"
    = some "notFoundInFile" := by decide +kernel

end CV.Extends
