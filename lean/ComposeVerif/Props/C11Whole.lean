import ComposeVerif.Lemmas.C11Load
import ComposeVerif.Props.C11
/-!
# C11 — the defaults clause for the composed loader (`Pipeline.load` / `Pipeline.loadY`)

`Props/C11.lean` proves the clauses of the property for the stage functions (`Normalize`, `SetDefaultValues`,
`Canonical`).  The property speaks about what the *loader* returns.  `Model/Pipeline.lean` composes the stages the
way `loader/loader.go` does; the part of that glue that belongs to this property is the tail of `load`:

    if !opts.SkipNormalization { dict["name"] = opts.projectName; dict, err = Normalize(dict, environment) }

(`Pipeline.finishLoad`) and the defaults stage of `loadYamlModel` (`Pipeline.defaultsStage`).  The statements here are
about those composed functions — for every configuration, option combination and list of documents:

the `<project>` of every implicit resource name is the ONE resolved project name, never the `name:` a file wrote; `default`
is among the networks iff declared or used; the loaded model handed to the tail again comes back unchanged.
-/
namespace CV.C11.Whole
open CV CV.Val CV.C11 CV.C11.Spec CV.Pipeline

/-- the glue statement of `loader.load` that `Pipeline.finishLoad` models (regenerated from loader/loader.go on every
run): `name` is overwritten *unconditionally* with the resolved project name before `Normalize` -/
theorem load_tail_is_source :
    CV.Gen.c11_stmt_load_normalize =
      "if !opts.SkipNormalization { dict[\"name\"] = opts.projectName dict, err = Normalize(dict, configDetails.Environment) if err != nil { return nil, err } }" := by
  rfl

/-- `finishLoad` with normalisation on returns `e` exactly when `Normalize` returns `e` on the model with the name
forced (and the two error tests passed) -/
theorem finishLoad_ok_iff (c : Cfg) (hn : c.opts.skipNormalization = false) (dict e : KVs) :
    finishLoad c dict = .ok e ↔
      (dict ≠ [] ∧ c.projectName ≠ "" ∧ normalize c.clean c.env (named c dict) = .ok e) := by
  constructor
  · intro h
    obtain ⟨hd, hp⟩ := finishLoad_ok_ne c h
    rw [finishLoad_eq c hd, if_neg hp, hn, if_neg Bool.false_ne_true, ofC11_eq_ok] at h
    exact ⟨hd, hp, h⟩
  · rintro ⟨hd, hp, h⟩
    rw [finishLoad_eq c hd, if_neg hp, hn, if_neg Bool.false_ne_true, ofC11_eq_ok]
    exact h

/-- **the `name:` the files wrote has no influence on what `load` returns**: whatever value `v` the merged model
carries under `name` (or none at all), the tail of `load` returns the same outcome — the project name is the resolved
one. -/
theorem finishLoad_file_name_irrelevant (c : Cfg) (hn : c.opts.skipNormalization = false) (dict : KVs) (hd : dict ≠ [])
    (v : Val) : finishLoad c (insert "name" v dict) = finishLoad c dict := by
  rw [finishLoad_eq c (insert_ne_nil _ _ _), finishLoad_eq c hd, hn]
  simp only [Bool.false_eq_true, if_false, named, insert_insert]

/-- a configuration for the examples: project name `cli` (set imperatively, say), no variables -/
def exampleCfg : Cfg where
  opts := { skipValidation := true }
  interp := ⟨[], ⟨fun _ => none, fun _ => none⟩, fun _ => none⟩
  paths := { wd := "/w".toList, home := none }
  env := []
  projectName := "cli"
  clean := id
  omitPats := []

example : finishLoad exampleCfg [("name", .str "fromfile"), ("volumes", .map [("v", .null)])] =
    .ok [("name", .str "cli"), ("volumes", .map [("v", .map [("name", .str "cli_v")])])] := by rfl

/-- the loaded model is named by the resolved project name -/
theorem finishLoad_name (c : Cfg) (hn : c.opts.skipNormalization = false) (dict e : KVs)
    (h : finishLoad c dict = .ok e) : lookup "name" e = some (.str c.projectName) := by
  obtain ⟨_, _, hz⟩ := (finishLoad_ok_iff c hn dict e).mp h
  rw [(normalize_ok_pure hz).2, lookup_name_normalizePure]
  exact lookup_insert_self _ _ _

/-- **volumes, configs, secrets of the loaded model**: the section the merged model carries, every resource named by
`setNameFromKey` with the *resolved* project name (`<project>_<key>`; `<key>` when external; an explicit name kept:
`resource_name_default`, `resource_default_name_spec`, `resource_name_explicit_preserved`) -/
theorem finishLoad_resource_names (c : Cfg) (hn : c.opts.skipNormalization = false) (dict e : KVs)
    (h : finishLoad c dict = .ok e) (r : String) (hr : r = "volumes" ∨ r = "configs" ∨ r = "secrets") :
    lookup r e = (lookup r dict).map (nameSectionV (some (.str c.projectName))) := by
  obtain ⟨_, _, hz⟩ := (finishLoad_ok_iff c hn dict e).mp h
  rw [(normalize_ok_pure hz).2, normalized_resources c.clean c.env _ r hr]
  have hne : r ≠ "name" := by rcases hr with rfl | rfl | rfl <;> simp
  unfold named
  rw [lookup_insert_self, lookup_insert_ne hne]

/-- **the clause of the property, per resource, for the tail of `load`**: a volume / config / secret `key` of the merged
model comes out with every attribute it had, and `name` filled — when absent or null — with `<project>_<key>`
(`<key>` when external), `<project>` being the resolved project name whatever `name:` the files carried; an
explicit name survives (`filledNil`) -/
theorem finishLoad_resource (c : Cfg) (hn : c.opts.skipNormalization = false) (dict e : KVs)
    (h : finishLoad c dict = .ok e) (r : String) (hr : r = "volumes" ∨ r = "configs" ∨ r = "secrets")
    (top : KVs) (hsec : lookup r dict = some (.map top)) (key : String) (res : KVs)
    (hres : lookup key top = some (.map res)) :
    ∃ top' res', lookup r e = some (.map top') ∧ lookup key top' = some (.map res') ∧
      look res' = filledNil "name"
        (.str (resourceName c.projectName key (match lookup "external" res with | some x => isTrue x | none => false) none))
        (look res) := by
  refine ⟨mapAt (nameResource (some (.str c.projectName))) top, nameResourceKVs (some (.str c.projectName)) key res, ?_, ?_, ?_⟩
  · rw [finishLoad_resource_names c hn dict e h r hr, hsec]; rfl
  · rw [lookup_mapAt, hres]; rfl
  · rw [resource_name_default, resource_default_name_spec]; rfl

/-- a resource written without attributes (`key:`) gets the mapping `{name: <project>_<key>}` -/
theorem finishLoad_null_resource (c : Cfg) (hn : c.opts.skipNormalization = false) (dict e : KVs)
    (h : finishLoad c dict = .ok e) (r : String) (hr : r = "volumes" ∨ r = "configs" ∨ r = "secrets")
    (top : KVs) (hsec : lookup r dict = some (.map top)) (key : String) (hres : lookup key top = some .null) :
    ∃ top', lookup r e = some (.map top') ∧
      lookup key top' = some (.map [("name", .str (c.projectName ++ "_" ++ key))]) := by
  refine ⟨mapAt (nameResource (some (.str c.projectName))) top, ?_, ?_⟩
  · rw [finishLoad_resource_names c hn dict e h r hr, hsec]; rfl
  · rw [lookup_mapAt, hres]; rfl

theorem declaredNetworks_named (c : Cfg) (dict : KVs) : declaredNetworks (named c dict) = declaredNetworks dict := by
  unfold declaredNetworks named
  rw [lookup_insert_ne (by simp)]

theorem usesDefaultNetwork_named (c : Cfg) (dict : KVs) : usesDefaultNetwork (named c dict) = usesDefaultNetwork dict := by
  unfold usesDefaultNetwork named
  rw [lookup_insert_ne (by simp)]

theorem nnNetworks_named (c : Cfg) (dict : KVs) : nnNetworks (named c dict) = nnNetworks dict := by
  unfold nnNetworks
  rw [declaredNetworks_named, usesDefaultNetwork_named]

/-- **networks of the loaded model**: the declared networks plus `default` when a service uses it (`nnNetworks`), each
named with the resolved project name — the implicit `default` network is `<project>_default` -/
theorem finishLoad_network_names (c : Cfg) (hn : c.opts.skipNormalization = false) (dict e : KVs)
    (h : finishLoad c dict = .ok e) (hne : nnNetworks dict ≠ []) :
    lookup "networks" e = some (.map (mapAt (nameResource (some (.str c.projectName))) (nnNetworks dict))) := by
  obtain ⟨_, _, hz⟩ := (finishLoad_ok_iff c hn dict e).mp h
  rw [(normalize_ok_pure hz).2, lookup_networks_normalizePure, nnNetworks_named]
  have hname : lookup "name" (named c dict) = some (.str c.projectName) := lookup_insert_self _ _ _
  cases hnn : nnNetworks dict with
  | nil => exact absurd hnn hne
  | cons x t => simp only [hname]

/-- **`default` is a network of the loaded model iff it was declared or some service (without network_mode) is
attached to it** — stated for the tail of `load`, whatever `name:` the files carried -/
theorem finishLoad_default_network_iff (c : Cfg) (hn : c.opts.skipNormalization = false) (dict e : KVs)
    (h : finishLoad c dict = .ok e) :
    (∃ nets, lookup "networks" e = some (.map nets) ∧ (lookup "default" nets).isSome = true) ↔
      ((lookup "default" (declaredNetworks dict)).isSome = true ∨ usesDefaultNetwork dict = true) := by
  obtain ⟨_, _, hz⟩ := (finishLoad_ok_iff c hn dict e).mp h
  rw [(normalize_ok_pure hz).2, default_network_iff_normalized, declaredNetworks_named, usesDefaultNetwork_named]


/-- `SkipNormalization`: the tail of `load` adds no default and does not touch `name` -/
theorem finishLoad_skip (c : Cfg) (hn : c.opts.skipNormalization = true) (dict : KVs) (hd : dict ≠ [])
    (hp : c.projectName ≠ "") : finishLoad c dict = .ok dict := by
  rw [finishLoad_eq c hd, if_neg hp, hn]; rfl

/-- **the loaded model is a fixed point of the tail of `load`** (normalisation on or off): every default it could add
is written, the name it would force is there -/
theorem finishLoad_fixed_point (c : Cfg) (hclean : ∀ s, c.clean (c.clean s) = c.clean s)
    (henv : envLookup c.env "" = none) (dict e : KVs) (h : finishLoad c dict = .ok e) :
    finishLoad c e = .ok e := by
  cases hn : c.opts.skipNormalization with
  | true =>
    obtain ⟨hd, hp⟩ := finishLoad_ok_ne c h
    rw [finishLoad_skip c hn dict hd hp] at h
    cases h
    exact finishLoad_skip c hn dict hd hp
  | false =>
    have hname := finishLoad_name c hn dict e h
    obtain ⟨_, hp, hz⟩ := (finishLoad_ok_iff c hn dict e).mp h
    refine (finishLoad_ok_iff c hn e e).mpr ⟨?_, hp, ?_⟩
    · intro he; rw [he] at hname; simp [lookup] at hname
    · unfold named
      rw [insert_of_lookup hname]
      exact normalize_fixed_point c.clean hclean c.env henv _ e hz

/-- **implicit ≡ explicit (tail of `load`)**: the model with every default of `Normalize` written out loads to what
the implicit one loads to -/
theorem finishLoad_implicit_eq_explicit (c : Cfg) (hclean : ∀ s, c.clean (c.clean s) = c.clean s)
    (henv : envLookup c.env "" = none) (dict e : KVs) (h : finishLoad c dict = .ok e) :
    finishLoad c e = finishLoad c dict := by
  rw [h]; exact finishLoad_fixed_point c hclean henv dict e h

/-- `SkipDefaultValues`: the defaults stage is the identity on a mapping -/
theorem defaultsStage_skip (c : Cfg) (hs : c.opts.skipDefaultValues = true) (kvs : KVs) :
    defaultsStage c (.map kvs) = .ok (.map kvs) := by
  simp [defaultsStage, hs]

/-- without the option it is `SetDefaultValues` with the regenerated table -/
theorem defaultsStage_runs (c : Cfg) (hs : c.opts.skipDefaultValues = false) (kvs : KVs) :
    defaultsStage c (.map kvs) = ofC11 "defaults" (C11.setDefaultValues Gen.defaultValues kvs) := by
  simp [defaultsStage, hs]

/-- **the defaults stage** (`if !opts.SkipDefaultValues { SetDefaultValues }`, regenerated table): its result is a
fixed point of the stage, with the option set or not (skipped: the stage is the identity; run: `setDefaultValues_idempotent`,
and the walker cannot return anything but a mapping for a mapping, since its result `Extends` its argument) -/
theorem defaultsStage_fixed_point (c : Cfg) (d e : Val) (h : defaultsStage c d = .ok e) : defaultsStage c e = .ok e := by
  cases d with
  | map kvs =>
    cases hs : c.opts.skipDefaultValues with
    | true => rw [defaultsStage_skip c hs] at h; cases h; exact defaultsStage_skip c hs kvs
    | false =>
      rw [defaultsStage_runs c hs, ofC11_eq_ok] at h
      obtain ⟨kvs', rfl⟩ := setDefaultValues_ok_map h
      rw [defaultsStage_runs c hs, ofC11_eq_ok]
      exact setDefaultValues_idempotent kvs kvs' h
  | _ => cases h

/-- **whatever the documents say under `name`, the loaded model carries the resolved project name** -/
theorem load_name_is_project_name (c : Cfg) (hn : c.opts.skipNormalization = false) (docs : List KVs) (e : KVs)
    (h : load c docs = .ok e) : lookup "name" e = some (.str c.projectName) := by
  obtain ⟨m, _, hf⟩ := load_ok c docs e h
  exact finishLoad_name c hn m e hf

theorem loadY_name_is_project_name (c : Cfg) (hn : c.opts.skipNormalization = false) (files : List (List Reset.YNode))
    (e : KVs) (h : loadY c files = .ok e) : lookup "name" e = some (.str c.projectName) := by
  obtain ⟨m, _, hf⟩ := loadY_ok c files e h
  exact finishLoad_name c hn m e hf

/-- **every volume, config and secret of the loaded model is named from the resolved project name**: the section is
the one of the model before `Normalize` (`m`), each resource through `setNameFromKey` with `c.projectName` -/
theorem load_resource_names (c : Cfg) (hn : c.opts.skipNormalization = false) (docs : List KVs) (e : KVs)
    (h : load c docs = .ok e) (r : String) (hr : r = "volumes" ∨ r = "configs" ∨ r = "secrets") :
    ∃ m, loadYamlModel c docs = .ok m ∧
      lookup r e = (lookup r m).map (nameSectionV (some (.str c.projectName))) := by
  obtain ⟨m, hm, hf⟩ := load_ok c docs e h
  exact ⟨m, hm, finishLoad_resource_names c hn m e hf r hr⟩

/-- **networks of the loaded model** (the implicit `default` included) are named from the resolved project name -/
theorem load_network_names (c : Cfg) (hn : c.opts.skipNormalization = false) (docs : List KVs) (e : KVs)
    (h : load c docs = .ok e) :
    ∃ m, loadYamlModel c docs = .ok m ∧
      (nnNetworks m ≠ [] →
        lookup "networks" e = some (.map (mapAt (nameResource (some (.str c.projectName))) (nnNetworks m)))) := by
  obtain ⟨m, hm, hf⟩ := load_ok c docs e h
  exact ⟨m, hm, finishLoad_network_names c hn m e hf⟩

/-- **`default` network iff declared or used**, for the whole load -/
theorem load_default_network_iff (c : Cfg) (hn : c.opts.skipNormalization = false) (docs : List KVs) (e : KVs)
    (h : load c docs = .ok e) :
    ∃ m, loadYamlModel c docs = .ok m ∧
      ((∃ nets, lookup "networks" e = some (.map nets) ∧ (lookup "default" nets).isSome = true) ↔
        ((lookup "default" (declaredNetworks m)).isSome = true ∨ usesDefaultNetwork m = true)) := by
  obtain ⟨m, hm, hf⟩ := load_ok c docs e h
  exact ⟨m, hm, finishLoad_default_network_iff c hn m e hf⟩

/-- the same three statements for files given as YAML text (`loadY`: several documents per file, `!reset` / `!override`) -/
theorem loadY_resource_names (c : Cfg) (hn : c.opts.skipNormalization = false) (files : List (List Reset.YNode)) (e : KVs)
    (h : loadY c files = .ok e) (r : String) (hr : r = "volumes" ∨ r = "configs" ∨ r = "secrets") :
    ∃ m, loadYamlModelY c files = .ok m ∧
      lookup r e = (lookup r m).map (nameSectionV (some (.str c.projectName))) := by
  obtain ⟨m, hm, hf⟩ := loadY_ok c files e h
  exact ⟨m, hm, finishLoad_resource_names c hn m e hf r hr⟩

theorem loadY_network_names (c : Cfg) (hn : c.opts.skipNormalization = false) (files : List (List Reset.YNode)) (e : KVs)
    (h : loadY c files = .ok e) :
    ∃ m, loadYamlModelY c files = .ok m ∧
      (nnNetworks m ≠ [] →
        lookup "networks" e = some (.map (mapAt (nameResource (some (.str c.projectName))) (nnNetworks m)))) := by
  obtain ⟨m, hm, hf⟩ := loadY_ok c files e h
  exact ⟨m, hm, finishLoad_network_names c hn m e hf⟩

theorem loadY_default_network_iff (c : Cfg) (hn : c.opts.skipNormalization = false) (files : List (List Reset.YNode))
    (e : KVs) (h : loadY c files = .ok e) :
    ∃ m, loadYamlModelY c files = .ok m ∧
      ((∃ nets, lookup "networks" e = some (.map nets) ∧ (lookup "default" nets).isSome = true) ↔
        ((lookup "default" (declaredNetworks m)).isSome = true ∨ usesDefaultNetwork m = true)) := by
  obtain ⟨m, hm, hf⟩ := loadY_ok c files e h
  exact ⟨m, hm, finishLoad_default_network_iff c hn m e hf⟩

/-- **what `load` returns is a fixed point of its own defaulting tail**: handing the loaded model (all defaults
explicit) to `dict["name"] = …; Normalize` again returns it unchanged -/
theorem load_result_is_fixed_point (c : Cfg) (hclean : ∀ s, c.clean (c.clean s) = c.clean s)
    (henv : envLookup c.env "" = none) (docs : List KVs) (e : KVs) (h : load c docs = .ok e) :
    finishLoad c e = .ok e := by
  obtain ⟨m, _, hf⟩ := load_ok c docs e h
  exact finishLoad_fixed_point c hclean henv m e hf

theorem loadY_result_is_fixed_point (c : Cfg) (hclean : ∀ s, c.clean (c.clean s) = c.clean s)
    (henv : envLookup c.env "" = none) (files : List (List Reset.YNode)) (e : KVs) (h : loadY c files = .ok e) :
    finishLoad c e = .ok e := by
  obtain ⟨m, _, hf⟩ := loadY_ok c files e h
  exact finishLoad_fixed_point c hclean henv m e hf

/-- non-vacuity: the example configuration satisfies the hypotheses, and the tail of `load` succeeds on a model that
carries another `name:` (the whole `load` on a small project is evaluated by `#guard`: the kernel does not unfold the
well-founded recursions of two stage models) -/
example : (∀ s, exampleCfg.clean (exampleCfg.clean s) = exampleCfg.clean s) ∧ envLookup exampleCfg.env "" = none ∧
    exampleCfg.opts.skipNormalization = false := ⟨fun _ => rfl, rfl, rfl⟩
#guard (load exampleCfg [[("name", .str "fromfile"), ("services", .map [("a", .map [("image", .str "i")])]),
    ("volumes", .map [("v", .null)])]]).stage == "ok"

end CV.C11.Whole
