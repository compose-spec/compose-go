import ComposeVerif.Lemmas.ShortVolume
import ComposeVerif.Lemmas.ShortPort
import ComposeVerif.Lemmas.ShortTransform
/-!
# C03 — short and long syntaxes of an attribute denote the same model

Property theorems only.  Models: `Model/ShortParse.lean` (format.ParseVolume, types.ParsePortConfig),
`Model/ShortTransform.lean` (transform.Canonical), `Model/ShortDecode.lean` (DecodeMapstructure of the
mapping / list types).  Specification: `Spec/Short.lean` (one AST per grammar with `render` and `long`).
-/
namespace CV.Short
open CV CV.Short.Spec

/-- `format.ParseVolume` on every well-formed `[SOURCE:]TARGET[:FLAG,…]`: exactly its long form -/
theorem volume_short_eq_long (a : VolSpec) (h : a.wf = true) : parseVolume a.render = some a.long := by
  obtain ⟨src, tgt, fl⟩ := a
  simp only [VolSpec.wf, Bool.and_eq_true] at h
  obtain ⟨⟨⟨ht, hs⟩, hfl⟩, hne⟩ := h
  have htne := Seg.render_ne_nil tgt ht
  cases src with
  | none =>
    -- `TGT` alone: at most two bytes is the shortcut, otherwise one section ended by the end mark
    simp only [decide_eq_true_eq] at hs
    subst hs
    simp only [VolSpec.render, VolSpec.long, List.foldl_nil, parseVolume, isPath]
    have hlen : byteLen tgt.render ≠ 0 := by
      have := byteLen_ge_length tgt.render
      have : tgt.render.length ≠ 0 := by simpa using htne
      omega
    simp only [hlen, if_false]
    by_cases h2 : byteLen tgt.render ≤ 2
    · simp [h2]
    · simp only [h2, if_false, true_and]
      rw [scan_seg_end tgt ht {} (Or.inl rfl), populate_target_only tgt ht]
      simp [populateType, isFilePath]
  | some s =>
    have hsne := Seg.render_ne_nil s hs
    rw [parseVolume_of_long _ (by
      have h1 := Seg.render_length_pos s hs
      have h2 := Seg.render_length_pos tgt ht
      simp only [VolSpec.render, List.length_append, List.length_cons]
      omega)]
    by_cases hfe : fl = []
    · -- `SRC:TGT`
      subst hfe
      simp only [VolSpec.render, if_true, List.append_nil, List.cons_append, List.append_assoc]
      rw [scan_source s hs, scan_seg_end tgt ht { source := s.render } (Or.inr rfl), populate_target true _ hsne tgt ht]
      simp only [Option.map_some, VolSpec.long, List.foldl_nil, populateType, isFilePath_render s hs]
      simp
    · -- `SRC:TGT:flags`: the third section is split at the commas and folded with `applyOption`
      have hfl' : ∀ f ∈ fl, f.wf = true := by simpa [List.all_eq_true] using hfl
      have hrne : renderFlags fl ≠ [] := by simpa [hfe] using hne
      simp only [VolSpec.render, hfe, if_false, List.append_assoc, List.cons_append]
      rw [scan_source_target s tgt hs ht, scan_section [] _ (renderFlags_clean fl hfl') NUL (.inr rfl) [] _ (.inr ⟨hsne, htne⟩),
        List.nil_append, populate_options _ _ _ hrne hsne htne]
      simp only [decide_true, if_true, splitOn_renderFlags fl hfe hfl', foldl_applyOption fl hfl', scan]
      simp only [Option.map_some, VolSpec.long, populateType]
      have hsrc := foldl_applyFlag_source fl { source := s.render, target := tgt.render }
      rw [hsrc.1]
      simp [isFilePath_render s hs]

/-- non-vacuity: `./d:/v:ro,z` is a well-formed spec and a bind mount -/
example : (VolSpec.mk (some (.plain ['.', '/', 'd'])) (.plain ['/', 'v']) [.ro, .z]).wf = true
    ∧ (VolSpec.mk (some (.plain ['.', '/', 'd'])) (.plain ['/', 'v']) [.ro, .z]).long.type = ['b', 'i', 'n', 'd'] := by decide +kernel

/-- a short spec is a bind mount iff its source is a host path (starts with `.`, `/`, `~`, `\\\\`, or is a drive path) -/
theorem volume_bind_iff (a : VolSpec) : a.long.type = ['b', 'i', 'n', 'd'] ↔ isPath a.source = true := by
  unfold VolSpec.long
  by_cases h1 : a.source = none ∧ byteLen a.target.render ≤ 2
  · simp only [h1, and_self, if_true]
    simp [isPath]
  · simp only [h1, if_false]
    by_cases h2 : isPath a.source = true
    · simp [h2]
    · simp [h2]

/-- the same fact on the model of `format.ParseVolume`, for every input string -/
theorem parseVolume_bind_iff (s : Str) (v : Vol) (h : parseVolume s = some v) :
    v.type = ['b', 'i', 'n', 'd'] ↔ isFilePath v.source = true := by
  unfold parseVolume at h
  split at h
  · cases h
  · split at h
    · cases h; simp [isFilePath]
    · cases hs : scan (s ++ [NUL]) [] {} with
      | none => simp [hs] at h
      | some v' =>
        simp only [hs, Option.map_some, Option.some.injEq] at h
        subst h
        unfold populateType
        by_cases hp : isFilePath v'.source = true
        · simp [hp]
        · simp [hp]

theorem volume_reject_empty : parseVolume [] = none := by decide +kernel

/-- an empty section between colons is rejected (`SRC::…`) -/
theorem volume_reject_empty_section (g : Seg) (hg : g.wf = true) (rest : Str) :
    parseVolume (g.render ++ ':' :: ':' :: rest) = none := by
  rw [parseVolume_of_long _ (by have := Seg.render_length_pos g hg; simp only [List.length_append, List.length_cons]; omega)]
  simp only [List.append_assoc, List.cons_append]
  rw [scan_source g hg, scan_empty_section ':' (Or.inl rfl)]
  rfl

/-- a trailing colon is rejected (`SRC:TGT:`) -/
theorem volume_reject_trailing_colon (s t : Seg) (hs : s.wf = true) (ht : t.wf = true) :
    parseVolume (s.render ++ ':' :: t.render ++ [':']) = none := by
  rw [parseVolume_of_long _ (by
    have := Seg.render_length_pos s hs
    simp only [List.length_append, List.length_cons, List.length_nil]
    omega)]
  simp only [List.append_assoc, List.cons_append, List.nil_append]
  rw [scan_source_target s t hs ht, scan_empty_section NUL (Or.inr rfl)]
  rfl

/-- more than three sections are rejected (`SRC:TGT:X:…`) for every non-empty colon-free `X` — a single letter
included: the drive-letter rule applies only while source or target is being read — whatever follows -/
theorem volume_reject_too_many_colons (s t : Seg) (hs : s.wf = true) (ht : t.wf = true)
    (x : Str) (hxne : x ≠ []) (hx : clean x = true) (rest : Str) :
    parseVolume (s.render ++ ':' :: t.render ++ ':' :: x ++ ':' :: rest) = none := by
  have hsne := Seg.render_ne_nil s hs
  have htne := Seg.render_ne_nil t ht
  rw [parseVolume_of_long _ (by
    have := Seg.render_length_pos s hs
    simp only [List.length_append, List.length_cons]
    omega)]
  simp only [List.append_assoc, List.cons_append]
  rw [scan_source_target s t hs ht, scan_section [] x ((clean_iff x).1 hx) ':' (.inl rfl) _ _ (.inr ⟨hsne, htne⟩),
    List.nil_append, populate_options _ _ _ hxne hsne htne]
  simp [show ¬ ((':' : Char) = NUL) from by decide]

/-- `vol:/b:z:ro` (finding nearmiss-accepted:volumes:letter-section; the loop that accepted it is `Neg.scanPre`) is rejected -/
theorem volume_letter_section_rejected : parseVolume "vol:/b:z:ro".toList = none := by decide +kernel

/-- non-vacuity of the rejection theorems -/
example : parseVolume "vol::/b".toList = none ∧ parseVolume "vol:/b:".toList = none ∧ parseVolume "vol:/b:ro:rw".toList = none := by decide +kernel


/-- every well-formed short port spec parses to its long form: one entry per container port, host ports paired
index-wise (a host range for a single container port kept as a range); the order of the entries (the code sorts
by the string "port/proto") is not part of the property -/
theorem port_short_eq_long (a : PortSpec) (h : a.wf = true) :
    ∃ l, parsePort a.render = some l ∧ l.Perm a.long := by
  have hip : ∀ i, a.ip = some i → i.wf = true := by
    intro i hi
    simp only [PortSpec.wf, Bool.and_eq_true] at h
    simpa [hi] using h.1.2
  refine ⟨_, by rw [parsePort, parsePortSpec_render a (protoSyn_of_wf a h) hip, portCore_wf a h]; rfl, ?_⟩
  exact ((sortByKey_perm _).map _).trans (by rw [cfg_portMappings a h])

/-- a container port range expands to one entry per port -/
theorem port_len (a : PortSpec) (h : a.wf = true) :
    ∃ l, parsePort a.render = some l ∧ l.length = a.cont.size := by
  obtain ⟨l, hl, hp⟩ := port_short_eq_long a h
  exact ⟨l, hl, by rw [hp.length_eq]; simp [PortSpec.long]⟩

/-- with a host section and more than one container port, entry `i` of the long form publishes `host.lo + i` for target
`cont.lo + i` (a fact about `PortSpec.long`; `port_short_eq_long` ties it to the parser) -/
theorem port_pairing (a : PortSpec) (r : Range) (hr : a.host = some r) (hsz : a.cont.size ≠ 1) (i : Nat) (hi : i < a.cont.size) :
    a.long[i]? = some { hostIP := (match a.ip with | none => [] | some i => i.addr), target := a.cont.lo.val + i,
                        published := natToDec (r.lo.val + i), protocol := protoOf a.proto } := by
  simp only [PortSpec.long, List.getElem?_map, List.getElem?_range hi, Option.map_some, published, hr, hsz, false_and, if_false]
  cases a.ip <;> rfl



/-- non-vacuity: `127.0.0.1:8000-8001:9-10/udp` is well-formed, has two entries, and its long form pairs 8000↦9, 8001↦10 -/
example :
    let a : PortSpec := ⟨some ⟨false, "127.0.0.1".toList⟩, some ⟨⟨0, 8000⟩, some ⟨0, 8001⟩⟩, ⟨⟨0, 9⟩, some ⟨0, 10⟩⟩, some "udp".toList⟩
    a.wf = true ∧ a.cont.size = 2 := by decide +kernel

/-- non-vacuity: a host range for a single container port is well-formed (`[::1]:1-3:5`) -/
example : (PortSpec.mk (some ⟨true, "::1".toList⟩) (some ⟨⟨0, 1⟩, some ⟨0, 3⟩⟩) ⟨⟨0, 5⟩, none⟩ none).wf = true := by decide +kernel

/-- an empty container section (`…:`) is rejected, whatever precedes it -/
theorem port_nearmiss_empty_container (s : Str) : parsePort (s ++ [':']) = none := by
  have h1 : splitOn ':' (s ++ [':']) = splitOn ':' s ++ [[]] := by
    rw [splitOn_append_sep]; rfl
  have h2 := splitParts_snoc_nil (splitOn ':' s) (splitOn_ne_nil _ _)
  simp only [parsePort, parsePortSpec, h1, h2]
  have h3 : splitProtoPort [] = ([], []) := by decide
  simp only [h3, portCore_eq_none _ _ _ _ (.inl rfl)]
  cases splitHostColon (splitParts (splitOn ':' s ++ [[]])).1 <;> rfl

/-- a container range that is reversed or exceeds 65535 is rejected -/
theorem port_nearmiss_bad_container_range (a : PortSpec) (hsyn : protoSyn a = true)
    (hip : ∀ i, a.ip = some i → i.wf = true) (hbad : a.cont.wf = false) : parsePort a.render = none := by
  have : parsePortRange a.cont.render = none := by simp [parsePortRange_render, hbad]
  simp [parsePort, parsePortSpec_render a hsyn hip, portCore_eq_none _ _ _ _ (.inr (.inl this))]

/-- a host range that is reversed or exceeds 65535 is rejected -/
theorem port_nearmiss_bad_host_range (a : PortSpec) (hsyn : protoSyn a = true)
    (hip : ∀ i, a.ip = some i → i.wf = true) (r : Range) (hr : a.host = some r) (hbad : r.wf = false) :
    parsePort a.render = none := by
  have : parsePortRange r.render = none := by simp [parsePortRange_render, hbad]
  have hh : hostSection a = r.render := by simp [hostSection, hr]
  simp [parsePort, parsePortSpec_render a hsyn hip, hh, portCore_eq_none _ _ _ _ (.inr (.inr (.inl ⟨Range.render_ne_nil r, this⟩)))]

/-- a protocol other than tcp / udp / sctp (any letter case) is rejected -/
theorem port_nearmiss_bad_proto (a : PortSpec) (hsyn : protoSyn a = true)
    (hip : ∀ i, a.ip = some i → i.wf = true) (hbad : validProto (protoOf a.proto) = false) : parsePort a.render = none := by
  have : validProto (lower (protoRaw a)) = false := by rw [lower_protoRaw]; exact hbad
  simp [parsePort, parsePortSpec_render a hsyn hip, portCore_eq_none _ _ _ _ (.inr (.inr (.inr this)))]

/-- host and container ranges of different lengths are rejected (unless the container side is a single port) -/
theorem port_nearmiss_unequal_ranges (a : PortSpec) (hsyn : protoSyn a = true)
    (hip : ∀ i, a.ip = some i → i.wf = true) (hc : a.cont.wf = true) (r : Range) (hr : a.host = some r) (hrw : r.wf = true)
    (h1 : r.size ≠ a.cont.size) (h2 : a.cont.size ≠ 1) : parsePort a.render = none := by
  have hh : hostSection a = r.render := by simp [hostSection, hr]
  simp only [parsePort, parsePortSpec_render a hsyn hip, hh, portCore, Range.render_ne_nil, parsePortRange_render, hc, hrw,
    if_true, if_false]
  simp only [Range.wf, Bool.and_eq_true, decide_eq_true_eq] at hc hrw
  simp only [Range.size] at h1 h2
  have e1 : ¬ (a.cont.last - a.cont.lo.val = r.last - r.lo.val) := by omega
  have e2 : ¬ (a.cont.last = a.cont.lo.val) := by omega
  simp [e1, e2, Range.render_ne_nil]


/-- non-vacuity of the near-miss hypotheses: `8000-8002:80-81`, `90-80`, `65536`, `80/http` -/
example : (Range.mk ⟨0, 8000⟩ (some ⟨0, 8002⟩)).size ≠ (Range.mk ⟨0, 80⟩ (some ⟨0, 81⟩)).size
    ∧ (Range.mk ⟨0, 90⟩ (some ⟨0, 80⟩)).wf = false ∧ (Range.mk ⟨0, 65536⟩ none).wf = false
    ∧ validProto (protoOf (some "http".toList)) = false := by decide +kernel

/-- the ports transformer on a well-formed short spec: the long-form entries (up to order), each encoded as a mapping -/
theorem transformPorts_short_eq_long (ign : Bool) (a : PortSpec) (h : a.wf = true) :
    ∃ l : List PortCfg, l.Perm a.long ∧ transformPorts ign (.seq [.str (String.ofList a.render)]) = .ok (.seq (l.map encodePort)) := by
  obtain ⟨l, hl, hp⟩ := port_short_eq_long a h
  exact ⟨l, hp, by simp [transformPorts, portEntries, hl]⟩

/-- a port string that does not parse is an error (the whole list is rejected, nothing is loaded partially) -/
theorem transformPorts_reject (s : String) (pre : List Val.KVs) (post : List Val) (h : parsePort s.toList = none) :
    transformPorts false (.seq (pre.map Val.map ++ .str s :: post)) = .err "parse" := by
  have : ∀ acc, portEntries false (pre.map Val.map ++ .str s :: post) acc = some (.err "parse") := by
    induction pre with
    | nil => intro acc; simp [portEntries, h]
    | cons m r ih => intro acc; simp [portEntries, ih]
  simp [transformPorts, this]

/-- `MappingWithEquals` (environment, build args): the list form and the mapping form decode to the same value;
a bare `KEY` is the mapping entry `KEY: null` -/
theorem kv_list_eq_map_MappingWithEquals (m : List (Str × Val))
    (hk : ∀ p ∈ m, ∀ x ∈ p.1, x ≠ '=') (hnd : (m.map Prod.fst).Nodup) :
    decodeMWE (.seq (m.map listEntry)) = decodeMWE (.map (m.map mapEntry)) := by
  simp only [decodeMWE, mweOfList, kvOfList_entries .null m [] hk hnd (by simp), List.nil_append, List.map_map]
  congr 2
  apply List.map_congr_left
  intro p _
  obtain ⟨k, e⟩ := p
  cases e <;> simp [mapEntry, entryValue, mappingValue, sprint_str]

/-- `Mapping` (sysctls, annotations, …): a bare `KEY` and `KEY: null` both give the empty string -/
theorem kv_list_eq_map_Mapping (m : List (Str × Val))
    (hk : ∀ p ∈ m, ∀ x ∈ p.1, x ≠ '=') (hnd : (m.map Prod.fst).Nodup) :
    decodeMapping (.seq (m.map listEntry)) = decodeMapping (.map (m.map mapEntry)) := by
  simp only [decodeMapping, mappingOfList, mappingOfMap, kvOfList_entries (.str "") m [] hk hnd (by simp), List.nil_append, List.map_map]
  congr 2

theorem kv_list_eq_map_Labels (m : List (Str × Val))
    (hk : ∀ p ∈ m, ∀ x ∈ p.1, x ≠ '=') (hnd : (m.map Prod.fst).Nodup) :
    decodeLabels (.seq (m.map listEntry)) = decodeLabels (.map (m.map mapEntry)) := by
  rw [decodeLabels_eq_decodeMapping, decodeLabels_eq_decodeMapping]
  exact kv_list_eq_map_Mapping m hk hnd

/-- `extra_hosts` with either separator: a list whose entries are `host=ip,…` or the legacy `host:ip,…` (IPv6 addresses
included: only the first colon separates) decodes to the same `HostsList` as the mapping `{host: [ip, …]}` -/
theorem kv_list_eq_map_HostsList_legacy (es : List (Bool × Str × List Str))
    (hok : ∀ e ∈ es, HostEntryOK e) (hnd : (es.map fun e => e.2.1).Nodup) :
    decodeHosts (.seq (es.map hostEntrySep)) = decodeHosts (.map (es.map fun e => hostMapEntry e.2)) := by
  have h2 : hostsOfMap (es.map fun e => hostMapEntry e.2) = some (es.map fun e => (String.ofList e.2.1, e.2.2)) := by
    simpa [List.map_map, Function.comp_def] using hostsOfMap_entries (es.map fun e => e.2)
  simp [decodeHosts, hostsOfList_entriesSep es [] hok hnd (by simp), h2]

/-- `extra_hosts`: the list form `["host=ip1,ip2", …]` and the mapping form `{host: [ip1, ip2], …}` decode to the same
`HostsList` (or are rejected alike), for distinct `=`-free host names and comma-free addresses -/
theorem kv_list_eq_map_HostsList (es : List (Str × List Str))
    (hk : ∀ e ∈ es, ∀ x ∈ e.1, x ≠ '=')
    (hips : ∀ e ∈ es, e.2 ≠ [] ∧ ∀ ip ∈ e.2, ∀ ch ∈ ip, ch ≠ ',')
    (hnd : (es.map Prod.fst).Nodup) :
    decodeHosts (.seq (es.map hostEntry)) = decodeHosts (.map (es.map hostMapEntry)) := by
  have h := kv_list_eq_map_HostsList_legacy (es.map fun e => (false, e))
    (by
      intro e he
      obtain ⟨e0, he0, rfl⟩ := List.mem_map.1 he
      exact ⟨hk e0 he0, (hips e0 he0).1, (hips e0 he0).2, fun h => by cases h⟩)
    (by simpa [List.map_map, Function.comp_def] using hnd)
  have e1 : (es.map fun e => (false, e)).map hostEntrySep = es.map hostEntry := by rw [List.map_map]; rfl
  have e2 : (es.map fun e => (false, e)).map (fun e => hostMapEntry e.2) = es.map hostMapEntry := by rw [List.map_map]; rfl
  rwa [e1, e2] at h

/-- non-vacuity: `["a:1.2.3.4", "b:::1", "c=10.0.0.1"]` -/
example : decodeHosts (.seq [hostEntrySep (true, "a".toList, ["1.2.3.4".toList]), hostEntrySep (true, "b".toList, ["::1".toList]),
      hostEntrySep (false, "c".toList, ["10.0.0.1".toList])])
    = some (.map [("a", .seq [.str "1.2.3.4"]), ("b", .seq [.str "::1"]), ("c", .seq [.str "10.0.0.1"])]) := by decide +kernel


/-- `extra_hosts`, list syntax ≡ mapping syntax **whatever the bracket spelling of each address on either side**: the list
`["host=a1,a2", …]` in which every address is written bare or as `[a]` (flags `.1`) and the mapping `{host: [a1, a2], …}`
in which every address is again written bare or as `[a]` (flags `.2.1`, chosen independently) decode to the same
`HostsList` — the one with the bare addresses — or are rejected alike (bad host name). -/
theorem hostsList_list_eq_mapping (es : List (Str × List (Bool × Bool × Str)))
    (hk : ∀ e ∈ es, ∀ x ∈ e.1, x ≠ '=')
    (hips : ∀ e ∈ es, e.2 ≠ [] ∧ ∀ a ∈ e.2, BareAddr a.2.2)
    (hnd : (es.map Prod.fst).Nodup) :
    decodeHosts (.seq (es.map fun e => hostEntry (e.1, e.2.map fun a => addrSpelling a.1 a.2.2))) =
      decodeHosts (.map (es.map fun e => hostMapEntry (e.1, e.2.map fun a => addrSpelling a.2.1 a.2.2))) ∧
    decodeHosts (.map (es.map fun e => hostMapEntry (e.1, e.2.map fun a => addrSpelling a.2.1 a.2.2))) =
      hostsCleanup (es.map fun e => (String.ofList e.1, e.2.map fun a => a.2.2)) := by
  have key : ∀ (f : Bool × Bool × Str → Bool),
      decodeHosts (.map (es.map fun e => hostMapEntry (e.1, e.2.map fun a => addrSpelling (f a) a.2.2))) =
        hostsCleanup (es.map fun e => (String.ofList e.1, e.2.map fun a => a.2.2)) := by
    intro f
    have h2 := hostsOfMap_entries (es.map fun e => (e.1, e.2.map fun a => addrSpelling (f a) a.2.2))
    simp only [List.map_map, Function.comp_def] at h2
    simp only [decodeHosts, h2, Option.bind_some, hostsCleanup, List.any_map, Function.comp_def, List.map_map]
    -- both sides differ only in the address lists, which agree once the brackets are stripped
    have hm : ∀ e ∈ es, List.map (fun a => Val.str (String.ofList (stripBrackets (addrSpelling (f a) a.2.2)))) e.2
        = List.map (fun a : Bool × Bool × Str => Val.str (String.ofList (stripBrackets a.2.2))) e.2 := by
      intro e he
      apply List.map_congr_left
      intro a ha
      obtain ⟨hne, hb, _⟩ := (hips e he).2 a ha
      rw [stripBrackets_spelling _ _ hne hb, hb]
    rw [List.map_congr_left (fun e he => by rw [hm e he])]
  refine ⟨?_, key (fun a => a.2.1)⟩
  have hl := kv_list_eq_map_HostsList (es.map fun e => (e.1, e.2.map fun a => addrSpelling a.1 a.2.2))
    (by
      intro e he
      obtain ⟨e0, he0, rfl⟩ := List.mem_map.1 he
      exact hk e0 he0)
    (by
      intro e he
      obtain ⟨e0, he0, rfl⟩ := List.mem_map.1 he
      refine ⟨by simpa using (hips e0 he0).1, ?_⟩
      intro ip hip
      obtain ⟨a, ha, rfl⟩ := List.mem_map.1 hip
      exact bracketed_comma_free _ _ ((hips e0 he0).2 a ha).2.2)
    (by simpa [List.map_map, Function.comp_def] using hnd)
  simp only [List.map_map, Function.comp_def] at hl
  rw [hl, key (fun a => a.1), key (fun a => a.2.1)]

/-- non-vacuity: `["h=[::1],fe80::1"]` and `{h: ["::1", "[fe80::1]"]}` are the same `HostsList` `h ↦ [::1, fe80::1]` -/
example : decodeHosts (.seq [hostEntry ("h".toList, ["[::1]".toList, "fe80::1".toList])])
    = decodeHosts (.map [hostMapEntry ("h".toList, ["::1".toList, "[fe80::1]".toList])]) := by decide +kernel

example : BareAddr "::1".toList := by refine ⟨by decide +kernel, by decide +kernel, by decide +kernel⟩


/-- non-vacuity: `["h=1.2.3.4,[::1]"]` and `{h: ["1.2.3.4", "[::1]"]}` both decode to `h ↦ [1.2.3.4, ::1]` -/
example : decodeHosts (.seq [hostEntry ("h".toList, ["1.2.3.4".toList, "[::1]".toList])])
    = some (.map [("h", .seq [.str "1.2.3.4", .str "::1"])]) := by decide +kernel

/-- non-vacuity: `["A=1", "B", "C="]` and `{A: 1, B: null, C: ""}` -/
example : decodeMWE (.seq ([("A".toList, Val.int 1), ("B".toList, .null), ("C".toList, .str "")].map listEntry))
    = some (.map [("A", .str "1"), ("B", .null), ("C", .str "")]) := by decide +kernel

theorem string_eq_singleton_StringList (s : String) : decodeStringList (.str s) = decodeStringList (.seq [.str s]) := rfl
theorem string_eq_singleton_StringOrNumberList (s : String) :
    decodeStringOrNumberList (.str s) = decodeStringOrNumberList (.seq [.str s]) := by
  simp [decodeStringOrNumberList, sprint_str]
/-- `dns: x` ≡ `dns: [x]` -/
theorem transformStringOrList_short_eq_long (s : String) : transformStringOrList (.str s) = .ok (.seq [.str s]) := rfl
theorem transformStringOrList_long_id (l : List Val) : transformStringOrList (.seq l) = .ok (.seq l) := rfl
/-- `env_file: x` ≡ `env_file: [x]` ≡ `env_file: [{path: x, required: true}]` -/
theorem transformEnvFile_short_eq_long (s : String) :
    transformEnvFile (.str s) = .ok (.seq [.map [("path", .str s), ("required", .bool true)]])
    ∧ transformEnvFile (.seq [.str s]) = transformEnvFile (.str s)
    ∧ transformEnvFile (.seq [.map [("path", .str s), ("required", .bool true)]]) = transformEnvFile (.str s) := by
  refine ⟨rfl, rfl, ?_⟩
  simp [transformEnvFile, envFileValue, hasKey, Val.lookup]
/-- healthcheck `test: cmd` ≡ `test: ["CMD-SHELL", cmd]` -/
theorem healthcheck_test_short_eq_long (s : String) :
    decodeHealthTest (.str s) = decodeHealthTest (.seq [.str "CMD-SHELL", .str s]) := rfl

/-! ## the transformers: short form ↦ long form, long form unchanged -/

theorem transformFileMount_short_eq_long (s : String) : transformFileMount (.str s) = .ok (.map [("source", .str s)]) := rfl
theorem transformFileMount_long_id (m : Val.KVs) : transformFileMount (.map m) = .ok (.map m) := rfl
theorem transformInclude_short_eq_long (s : String) : transformInclude (.str s) = .ok (.map [("path", .str s)]) := rfl
theorem transformInclude_long_id (m : Val.KVs) : transformInclude (.map m) = .ok (.map m) := rfl
theorem transformUlimits_id (m : Val.KVs) (i : Int) :
    transformUlimits (.map m) = .ok (.map m) ∧ transformUlimits (.int i) = .ok (.int i) := ⟨rfl, rfl⟩
theorem transformVolumeMount_long_id (ign : Bool) (m : Val.KVs) : transformVolumeMount ign (.map m) = .ok (.map m) := rfl
theorem transformDeviceMapping_long_id (ign : Bool) (m : Val.KVs) : transformDeviceMapping ign (.map m) = .ok (.map m) := rfl
theorem transformSSH_long_id (m : Val.KVs) : transformSSH (.map m) = .ok (.map m) := rfl
theorem transformKeyValue_long_id (ign : Bool) (m : Val.KVs) : transformKeyValue ign (.map m) = .ok (.map m) := rfl
theorem transformServiceNetworks_long_id (m : Val.KVs) : transformServiceNetworks (.map m) = .ok (.map m) := rfl

/-- the volume transformer on a well-formed short spec: the long form with a cleaned target, encoded with `omitempty` -/
theorem transformVolumeMount_short_eq_long (ign : Bool) (a : VolSpec) (h : a.wf = true) :
    transformVolumeMount ign (.str (String.ofList a.render))
      = .ok (encodeVol { a.long with target := cleanTarget a.long.target }) := by
  simp [transformVolumeMount, volume_short_eq_long a h]

/-- and a spec that does not parse is an error, never a partial value -/
theorem transformVolumeMount_reject (s : String) (h : parseVolume s.toList = none) :
    transformVolumeMount false (.str s) = .err "parse" := by
  simp [transformVolumeMount, h]

/-- devices `SRC[:DST[:PERM]]` -/
theorem transformDeviceMapping_short_eq_long (ign : Bool) (a : DevSpec) (h : a.wf = true) :
    transformDeviceMapping ign (.str (String.ofList a.render))
      = .ok (.map [("source", sv a.long.1), ("target", sv a.long.2.1), ("permissions", sv a.long.2.2)]) := by
  obtain ⟨src, dst, perm⟩ := a
  cases dst with
  | none =>
    simp only [DevSpec.wf, Bool.and_eq_true, Bool.not_eq_true'] at h
    have c1 := (contains_false_iff _ _).1 h.1.1
    simp [transformDeviceMapping, DevSpec.render, DevSpec.long, splitOn_clean _ _ c1]
  | some d =>
    cases perm with
    | none =>
      simp only [DevSpec.wf, Bool.and_eq_true, Bool.not_eq_true'] at h
      have c1 := (contains_false_iff _ _).1 h.1.1
      have c2 := (contains_false_iff _ _).1 h.1.2
      simp [transformDeviceMapping, DevSpec.render, DevSpec.long, splitOn_append _ _ _ c1, splitOn_clean _ _ c2]
    | some p =>
      simp only [DevSpec.wf, Bool.and_eq_true, Bool.not_eq_true'] at h
      have c1 := (contains_false_iff _ _).1 h.1.1
      have c2 := (contains_false_iff _ _).1 h.1.2
      have c3 := (contains_false_iff _ _).1 h.2
      simp [transformDeviceMapping, DevSpec.render, DevSpec.long, splitOn_append _ _ _ c1, splitOn_append _ _ _ c2, splitOn_clean _ _ c3]

/-- a device spec with four or more sections is rejected -/
theorem transformDeviceMapping_reject (a b c d : Str) (rest : Str)
    (ha : ∀ x ∈ a, x ≠ ':') (hb : ∀ x ∈ b, x ≠ ':') (hc : ∀ x ∈ c, x ≠ ':') :
    transformDeviceMapping false (.str (String.ofList (a ++ ':' :: b ++ ':' :: c ++ ':' :: rest))) = .err "parse" := by
  have h4 : ∃ x y, splitOn ':' rest = x :: y := by
    cases hr : splitOn ':' rest with
    | nil => exact absurd hr (splitOn_ne_nil _ _)
    | cons x y => exact ⟨x, y, rfl⟩
  obtain ⟨x, y, hxy⟩ := h4
  simp [transformDeviceMapping, List.append_assoc, splitOn_append _ _ _ ha, splitOn_append _ _ _ hb, splitOn_append _ _ _ hc, hxy]

/-- service `networks`: a list of distinct names ≡ the mapping of each name to null -/
theorem transformServiceNetworks_short_eq_long (names : List String) (hnd : names.Nodup) :
    transformServiceNetworks (.seq (names.map Val.str)) = .ok (.map (names.map (fun n => (n, Val.null)))) := by
  simp [transformServiceNetworks, networksList_distinct names [] hnd (by simp)]

/-- `depends_on`: a list of distinct names ≡ the mapping of each name to `{condition: service_started, required: true}`,
and that mapping is left unchanged -/
theorem transformDependsOn_short_eq_long (names : List String) (hnd : names.Nodup) :
    transformDependsOn (.seq (names.map Val.str)) = .ok (.map (names.map (fun n => (n, startedRequired))))
    ∧ transformDependsOn (.map (names.map (fun n => (n, startedRequired)))) = .ok (.map (names.map (fun n => (n, startedRequired)))) := by
  have h : transformDependsOn (.seq (names.map Val.str)) = .ok (.map (names.map (fun n => (n, startedRequired)))) := by
    simp [transformDependsOn, dependsList_distinct names [] hnd (by simp)]
  exact ⟨h, transformDependsOn_idem _ _ h⟩

example : transformDependsOn (.seq [.str "db", .str "cache"])
    = .ok (.map [("db", startedRequired), ("cache", startedRequired)]) :=
  (transformDependsOn_short_eq_long ["db", "cache"] (by decide)).1

/-- build ssh: `["default", "id=path"]` ≡ `{default: null, id: path}` -/
theorem transformSSH_short_eq_long (id path : Str) (hid : ∀ x ∈ id, x ≠ '=') (hd : String.ofList id ≠ "default") :
    transformSSH (.seq [.str "default", .str (String.ofList (id ++ '=' :: path))])
      = .ok (.map [("default", .null), (String.ofList id, sv path)]) := by
  have h1 : cutAt '=' ['d', 'e', 'f', 'a', 'u', 'l', 't'] = none := by decide
  simp [transformSSH, sshList, h1, cutAt_append _ _ _ hid, Val.insert, hd]

/-- a key without `=` other than `default` is rejected -/
theorem transformSSH_reject (k : Str) (hk : ∀ x ∈ k, x ≠ '=') (hd : String.ofList k ≠ "default") :
    transformSSH (.seq [.str (String.ofList k)]) = .err "parse" := by
  simp [transformSSH, sshList, cutAt_clean _ _ hk, hd]

/-- a one-entry `KEY=VALUE` list ≡ the one-entry mapping (build `additional_contexts`) -/
theorem transformKeyValue_short_eq_long (k v : Str) (hk : ∀ x ∈ k, x ≠ '=') (ign : Bool) :
    transformKeyValue ign (.seq [.str (String.ofList (k ++ '=' :: v))]) = .ok (.map [(String.ofList k, sv v)]) := by
  simp [transformKeyValue, kvList, cutAt_append _ _ _ hk, Val.insert]

theorem transformKeyValue_reject (k : Str) (hk : ∀ x ∈ k, x ≠ '=') :
    transformKeyValue false (.seq [.str (String.ofList k)]) = .err "parse" := by
  simp [transformKeyValue, kvList, cutAt_clean _ _ hk]

/-- external: `external: {name: N}` ≡ `external: true, name: N`, at the step of `transformMaybeExternal` that follows the
walk into the entry (`externalFix`); at its place in a document: `canonical_external_short_eq_long` -/
theorem transformMaybeExternal_short_eq_long (n : Val) :
    externalFix [("external", .map [("name", n)])] = .ok [("external", .bool true), ("name", n)]
    ∧ externalFix [("external", .bool true), ("name", n)] = .ok [("external", .bool true), ("name", n)] := by
  simp [externalFix, Val.lookup, Val.insert]


theorem transformers_exclusive : TPath.PairwiseExclusive CV.Gen.transformers := CV.Gen.tables_exclusive.2.2.1

theorem dispatch (n i : String) :
    TPath.firstMatch CV.Gen.transformers ["services", n, "ports"] = some "transformPorts"
    ∧ TPath.firstMatch CV.Gen.transformers ["services", n, "volumes", i] = some "transformVolumeMount"
    ∧ TPath.firstMatch CV.Gen.transformers ["services", n, "devices", i] = some "transformDeviceMapping"
    ∧ TPath.firstMatch CV.Gen.transformers ["services", n, "secrets", i] = some "transformFileMount"
    ∧ TPath.firstMatch CV.Gen.transformers ["services", n, "configs", i] = some "transformFileMount"
    ∧ TPath.firstMatch CV.Gen.transformers ["services", n, "build", "secrets", i] = some "transformFileMount"
    ∧ TPath.firstMatch CV.Gen.transformers ["services", n, "build"] = some "transformBuild"
    ∧ TPath.firstMatch CV.Gen.transformers ["services", n, "build", "ssh"] = some "transformSSH"
    ∧ TPath.firstMatch CV.Gen.transformers ["services", n, "build", "additional_contexts"] = some "transformKeyValue"
    ∧ TPath.firstMatch CV.Gen.transformers ["services", n, "env_file"] = some "transformEnvFile"
    ∧ TPath.firstMatch CV.Gen.transformers ["services", n, "depends_on"] = some "transformDependsOn"
    ∧ TPath.firstMatch CV.Gen.transformers ["services", n, "networks"] = some "transformServiceNetworks"
    ∧ TPath.firstMatch CV.Gen.transformers ["services", n, "extends"] = some "transformExtends"
    ∧ TPath.firstMatch CV.Gen.transformers ["services", n, "dns"] = some "transformStringOrList"
    ∧ TPath.firstMatch CV.Gen.transformers ["services", n, "ulimits", i] = some "transformUlimits"
    ∧ TPath.firstMatch CV.Gen.transformers ["volumes", n] = some "transformMaybeExternal"
    ∧ TPath.firstMatch CV.Gen.transformers ["networks", n] = some "transformMaybeExternal"
    ∧ TPath.firstMatch CV.Gen.transformers ["secrets", n] = some "transformMaybeExternal"
    ∧ TPath.firstMatch CV.Gen.transformers ["configs", n] = some "transformMaybeExternal" :=
  ⟨dispatch_ports n, dispatch_volume n i, dispatch_device n i, dispatch_secret n i, dispatch_config n i,
    dispatch_buildSecret n i, dispatch_build n, dispatch_buildSSH n, dispatch_additionalContexts n, dispatch_envFile n,
    dispatch_dependsOn n, dispatch_networks n, dispatch_extends n, dispatch_dns n, dispatch_ulimit n i,
    (resource_path _ (.inl rfl)).2.2 n, (resource_path _ (.inr (.inl rfl))).2.2 n,
    (resource_path _ (.inr (.inr (.inl rfl)))).2.2 n, (resource_path _ (.inr (.inr (.inr rfl)))).2.2 n⟩

/-- build: `build: ctx` ≡ `build: {context: ctx}` at its position in the tree -/
theorem transformBuild_short_eq_long (ign : Bool) (n s : String) :
    transform ign ["services", n, "build"] (.str s) = .ok (.map [("context", .str s)]) := by
  simp [transform, dispatch_build n, leaf]

/-- extends: `extends: svc` ≡ `extends: {service: svc}` -/
theorem transformExtends_short_eq_long (ign : Bool) (n s : String) :
    transform ign ["services", n, "extends"] (.str s) = .ok (.map [("service", .str s)]) := by
  simp [transform, dispatch_extends n, leaf]

/-- the volume transformer is the one that runs on every element of a service's `volumes` list -/
theorem transform_volume_entry (ign : Bool) (n i s : String) :
    transform ign ["services", n, "volumes", i] (.str s) = transformVolumeMount ign (.str s) :=
  transform_at_volume ign n i _

theorem transform_ports (ign : Bool) (n : String) (l : List Val) :
    transform ign ["services", n, "ports"] (.seq l) = transformPorts ign (.seq l) :=
  transform_at_ports ign n _

end CV.Short
