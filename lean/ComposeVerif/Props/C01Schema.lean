import ComposeVerif.Lemmas.Schema
import ComposeVerif.Lemmas.C01SchemaEval
/-!
# C01 (extension) — what the post-schema stages can be handed

`kindsAt_sound`: in any document accepted by the (regenerated) compose schema, every value found at an
attribute path has one of the JSON types `kindsAt` computes from the schema.  The instances below are
re-decided on every run against `schema/compose-spec.json` as it is now: the kinds the schema leaves at the attributes
`loader.Normalize` reads as strings (it tests the kind with `, ok` and reports an error otherwise) — and the one place where the
schema leaves two (`pid` may be null).
-/
namespace CV.Schema
open CV CV.Gen

/-- for ALL documents and ALL paths: schema acceptance bounds the node kinds at the path -/
theorem kindsAt_sound (s : S) (v : Val) (path : List String) (c : Val)
    (hconf : conforms s v = true) (hc : c ∈ descendants [v] (path.map stepOfPart)) :
    ∃ t ∈ kindsAt s path, tyOk t c = true := by
  obtain ⟨s', hm, hc'⟩ := schemasAtPath_sound (path.map stepOfPart) [s] [v]
    (by intro v' hv'; simp only [List.mem_singleton] at hv'; subst hv'; exact ⟨s, List.mem_singleton.mpr rfl, hconf⟩) c hc
  obtain ⟨t, ht, hok⟩ := tysOf_sound s' c hc'
  refine ⟨t, ?_, hok⟩
  simp only [kindsAt, List.mem_eraseDups, List.mem_flatMap]
  exact ⟨s', hm, ht⟩

/-- non-vacuity: a small document that the regenerated schema accepts, with a value at the path -/
example : conforms composeSchema (.map [("services", .map [("a", .map [("image", .str "x"), ("pid", .null)])])]) = true
    ∧ (descendants [Val.map [("services", .map [("a", .map [("image", .str "x"), ("pid", .null)])])]]
        (["services", "*", "pid"].map stepOfPart)).length = 1 :=
  ⟨composeSchema_evaluated.2.2.2.2.2, by decide⟩

/-- the root of the regenerated schema is a node the translator could express (an `.unknown` root has no kind) -/
theorem schema_fully_translated : kindsAt composeSchema [] ≠ [] := by decide

/-- `Normalize` reads these attributes as strings; the schema guarantees the kind for four of the five (`pid` is the fifth) … -/
theorem namespace_attrs_are_strings :
    kindsAt composeSchema ["services", "*", "network_mode"] = [.string] ∧
    kindsAt composeSchema ["services", "*", "ipc"] = [.string] ∧
    kindsAt composeSchema ["services", "*", "uts"] = [.string] ∧
    kindsAt composeSchema ["services", "*", "cgroup"] = [.string] :=
  composeSchema_evaluated.1

/-- … and for the list items it reads as strings -/
theorem link_items_are_strings :
    kindsAt composeSchema ["services", "*", "links", "[]"] = [.string] ∧
    kindsAt composeSchema ["services", "*", "volumes_from", "[]"] = [.string] ∧
    kindsAt composeSchema ["services", "*", "links"] = [.array] ∧
    kindsAt composeSchema ["services", "*", "volumes_from"] = [.array] :=
  composeSchema_evaluated.2.1

end CV.Schema
