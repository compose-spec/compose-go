import ComposeVerif.Props.C05
/-!
# C05 — the result is stable: nothing but `services` changes, resolving again changes nothing, declaration order is irrelevant

"…and carries no `extends` attribute afterwards": the output of `ApplyExtends` is a fixed point of `ApplyExtends`
(every service is then a chain of length 0), in every visit order, and all other sections of the document are
returned as they were.
-/
namespace CV.Extends
open CV CV.Val

/-- **frame**: `ApplyExtends` rewrites the `services` entry only — every other top-level section is unchanged -/
theorem applyExtends_other_sections_untouched {E : Env} {order : List String} {dict out : KVs}
    (h : applyExtendsOrd E order dict = .ok out) (k : String) (hk : k ≠ "services") :
    lookup k out = lookup k dict := by
  unfold applyExtendsOrd at h
  split at h
  · simp only [Out.ok.injEq] at h; subst h; rfl
  · split at h <;> try cases h
    exact lookup_insert_ne _ _ hk
  · cases h

theorem applyExtends_no_services {E : Env} {order : List String} {dict : KVs}
    (h : lookup "services" dict = none) : applyExtendsOrd E order dict = .ok dict := by
  simp [applyExtendsOrd, h]

/-- **fixed point**: running `ApplyExtends` on its own result succeeds — for every visit order, in every environment,
no hypothesis on what the files contain beyond `NoNullFS` — and leaves every service as it is -/
theorem applyExtends_idempotent {E : Env} {order order' : List String} {dict out S : KVs}
    (hS : lookup "services" dict = some (.map S)) (hnn : NoNull S) (hfs : NoNullFS E)
    (hord : Visits order S) (h : applyExtendsOrd E order dict = .ok out) :
    ∃ R, lookup "services" out = some (.map R) ∧
      ∀ (_ : Visits order' R), ∃ out' R', applyExtendsOrd E order' out = .ok out' ∧
        lookup "services" out' = some (.map R') ∧ ∀ n, lookup n R' = lookup n R := by
  obtain ⟨R, rfl, hall⟩ := applyExtendsOrd_flat hS hnn hfs hord h
  have hR := lookup_insert_self "services" (.map R) dict
  refine ⟨R, hR, fun hord' => ?_⟩
  -- every service of the result is a chain of length 0
  have hleaf : ∀ n, lookup n R ≠ none → ∃ m, lookup n R = some (.map m) ∧ lookup "extends" m = none := fun n hn => by
    cases hv : lookup n R with
    | none => exact absurd hv hn
    | some v => obtain ⟨m, rfl, hne⟩ := hall.shape hv; exact ⟨m, rfl, hne⟩
  have hself : FlatServices E R R := fun n =>
    ⟨id, fun hn => let ⟨_, hm, hne⟩ := hleaf n hn; ⟨_, hm, Flat.leaf hm hne⟩⟩
  obtain ⟨out', hout'⟩ := acyclic_ok_partial hR hord' fun n hn =>
    let ⟨_, hm, hne⟩ := hleaf n hn; ⟨[], _, FlatK.leaf hm hne, List.nodup_nil⟩
  have hnnR : NoNull R := fun n hn => by obtain ⟨m, hm, _⟩ := hall.shape hn; cases hm
  obtain ⟨R', rfl, hall'⟩ := applyExtendsOrd_flat hR hnnR hfs hord' hout'
  exact ⟨_, R', hout', lookup_insert_self _ _ _, hall'.agree hself fun _ => rfl⟩

/-! ## declaration order

The services mapping is an association list; two documents that declare the same services in a different order have
lookup-equal mappings.  Nothing in the result depends on more than that. -/

/-- **declaration order independence**: two documents whose services mappings hold the same services (in any
declaration order), each resolved in any visit order — if the first is accepted so is the second, and every service
resolves to the same value -/
theorem applyExtends_declaration_order {E : Env} {order₁ order₂ : List String} {dict₁ dict₂ out₁ S₁ S₂ : KVs}
    (hS₁ : lookup "services" dict₁ = some (.map S₁)) (hS₂ : lookup "services" dict₂ = some (.map S₂))
    (heq : ∀ k, lookup k S₂ = lookup k S₁)
    (hnn : NoNull S₁) (hfs : NoNullFS E) (hmain : fileServices E.fs E.mainFile = none)
    (h₁ : Visits order₁ S₁) (h₂ : Visits order₂ S₂)
    (r₁ : applyExtendsOrd E order₁ dict₁ = .ok out₁) :
    ∃ out₂ R₁ R₂, applyExtendsOrd E order₂ dict₂ = .ok out₂ ∧
      lookup "services" out₁ = some (.map R₁) ∧ lookup "services" out₂ = some (.map R₂) ∧
      ∀ n, lookup n R₁ = lookup n R₂ := by
  obtain ⟨R₁, rfl, a₁⟩ := applyExtendsOrd_flat hS₁ hnn hfs h₁ r₁
  have hflat : ∀ n, lookup n S₂ ≠ none → ∃ v, Flat E S₂ n v := fun n hn => by
    obtain ⟨v, _, hf⟩ := (a₁ n).2 (by rw [← heq]; exact hn)
    exact ⟨v, hf.congr S₂ heq⟩
  obtain ⟨out₂, r₂⟩ := acyclic_ok hS₂ h₂ hmain hflat
  obtain ⟨R₂, rfl, a₂⟩ := applyExtendsOrd_flat hS₂ (fun n => by rw [heq]; exact hnn n) hfs h₂ r₂
  exact ⟨_, R₁, R₂, r₂, lookup_insert_self _ _ _, lookup_insert_self _ _ _, a₁.agree a₂ heq⟩

/-- non-vacuity: the same two services declared in either order are lookup-equal -/
example : ∀ k, lookup k [("b", Val.str "y"), ("a", Val.str "x")] = lookup k [("a", Val.str "x"), ("b", Val.str "y")] := by
  intro k
  by_cases ha : k = "a"
  · subst ha; simp [Val.lookup]
  · by_cases hb : k = "b"
    · subst hb; simp [Val.lookup]
    · simp [Val.lookup, ha, hb]

end CV.Extends
