import ComposeVerif.Model.InterpFloat
import ComposeVerif.Lemmas.InterpCustom
/-!
# C08 — the float casters: which reading applies is proved, only `strconv.ParseFloat` stays opaque

The theorems hold for every `RawFloat` (the opaque `strconv.ParseFloat` and integer→float conversions), the last one for
every parser and rendering function.
-/
namespace CV.Interp

/-- **the float casters extend the integer casters**: a text `toInt` / `toInt64` read as `i` is read by `toFloat` as
    `float64(i)` (and by `toFloat32` as `float32(float64(i))`) — never through `strconv.ParseFloat` -/
theorem float_caster_extends_int_caster (rf : RawFloat) (s : String) (i : Int) (h : parseInt s = some i) :
    Caster.toFloat.apply rf.parser s = some (.float (rf.ofInt64 i)) ∧
    Caster.toFloat32.apply rf.parser s = some (.float (rf.ofInt32 i)) := by
  simp only [Caster.apply, RawFloat.parser, parseYAMLFloat, h, Option.map_some, and_self]

/-- **type transparency at float attributes, integer spellings** (`Neg/C08.lean:
    float_casters_literal_eq_variable_false_before_repair` has the witness `0b+1` against the reading that `fix:` 016771b
    replaced): every text yaml.v3 resolves as a plain `!!int`
    literal `i` — which the decoder turns into `float64(i)` at a float attribute — is cast to `float64(i)` when it arrives
    through a variable (`cpu_percent`, `cpus`, `max_failure_ratio`; `deploy.resources.*.cpus` via `decodeNanoCPUs`) -/
theorem literal_eq_variable_float (rf : RawFloat) (s : String) (i : Int) (h : yamlInt s = some i) :
    Caster.toFloat.apply rf.parser s = some (.float (rf.ofInt64 i)) ∧
    Caster.toFloat32.apply rf.parser s = some (.float (rf.ofInt32 i)) ∧
    decodeNanoCPUs rf.parser s = some (rf.ofInt64 i) := by
  have hp := parseInt_of_yamlInt h
  refine ⟨(float_caster_extends_int_caster rf s i hp).1, (float_caster_extends_int_caster rf s i hp).2, ?_⟩
  simp only [decodeNanoCPUs, RawFloat.parser, parseYAMLFloat, hp]

/-- unsigned 64-bit integers beyond int64 (`ParseUint(plain, 0, 64)`) are the float of that integer -/
theorem float_caster_uint (rf : RawFloat) (s : String) (u : Nat) (hi : parseInt s = none)
    (hu : parseUint0 (stripUnderscores s.toList) = some u) :
    Caster.toFloat.apply rf.parser s = some (.float (rf.ofInt64 u)) := by
  simp only [Caster.apply, RawFloat.parser, parseYAMLFloat, hi, hu, Option.map_some]

/-- every other text is read by `strconv.ParseFloat`: first without its underscores, then as it is; rejected by both ⇒
    the caster fails (and the walk reports a cast error naming the path, `cast_failure_is_error`) -/
theorem float_caster_else (rf : RawFloat) (s : String) (hi : parseInt s = none)
    (hu : parseUint0 (stripUnderscores s.toList) = none) :
    Caster.toFloat.apply rf.parser s =
      ((rf.parse64 (String.ofList (stripUnderscores s.toList))).orElse (fun _ => rf.parse64 s)).map Val.float := by
  simp only [Caster.apply, RawFloat.parser, parseYAMLFloat, hi, hu]
  cases rf.parse64 (String.ofList (stripUnderscores s.toList)) <;> rfl

/-- the reading before `fix:` 016771b (`parseYAMLFloatOld`, kept for the witness in `Neg/C08.lean`) and the present one differ
    only where `ParseYAMLInt` reads more than `ParseInt(_, 0, 64)`: on every text the latter reads they agree -/
theorem float_caster_repair_conservative (parse : String → Option String) (ofInt : Int → String) (s : String) (i : Int)
    (h : parseInt0 (stripUnderscores s.toList) = some i) :
    parseYAMLFloat parse ofInt s = parseYAMLFloatOld parse ofInt s := by
  have hp : parseInt s = some i := by
    unfold parseInt yamlIntCore
    simp only [h]
  simp only [parseYAMLFloat, parseYAMLFloatOld, hp, h]

private def rf0 : RawFloat :=
  { parse64 := fun s => if s = "0.5" then some "0.5" else none, parse32 := fun s => if s = "0.5" then some "0.5" else none,
    ofInt64 := fun i => ToString.toString i, ofInt32 := fun i => ToString.toString i }

/-- `literal_eq_variable_float`: `0440`, `0x10`, `1_000` and yaml.v3's `0b+1` are YAML integers; `float_caster_else`: `0.5` -/
example : yamlInt "0440" = some 288 ∧ yamlInt "0b+1" = some 1 ∧ parseInt "0.5" = none ∧
    parseUint0 (stripUnderscores "0.5".toList) = none := by decide +kernel
example : Caster.toFloat.apply rf0.parser "0.5" = some (.float "0.5") := by
  rw [float_caster_else rf0 "0.5" (by decide +kernel) (by decide +kernel)]; rfl
/-- `float_caster_uint`: 2^63 -/
example : parseInt "9223372036854775808" = none ∧
    parseUint0 (stripUnderscores "9223372036854775808".toList) = some 9223372036854775808 := by decide +kernel

end CV.Interp
