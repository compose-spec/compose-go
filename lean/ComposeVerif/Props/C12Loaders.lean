import ComposeVerif.Lemmas.PathsLoaders
import ComposeVerif.Gen.PathsConsts
/-!
# C12 — nested loads do not disturb one another's resource loaders

The per-origin clause of the property ("the base is the project directory for the main files, the included project
directory for included files and the extended file's directory for inherited attributes") is proved in
`Props/C12Origin.lean` for a *functional* reading of the loader state: the working directory of the referring model's
local loader (`Level.lw`) is whatever the chain above it says.  On the Go heap that state is the last element of the
slice `Options.ResourceLoaders`, and every include entry / `extends.file` reference derives a new list from it with
`append(opts.RemoteResourceLoaders(), localResourceLoader{dir})`.  The theorems below justify the functional reading for
every heap, every list and any number of nested loads: deriving a child's list changes no existing array, so the parent
(and every earlier child) still reads exactly what it read before.  `Neg.subslice_child_clobbers_parent` shows the
statement is sharp: with a `RemoteResourceLoaders` that returns a sub-slice the parent's local loader is overwritten.
-/
namespace CV.Paths.Loaders

/-- the source the heap model was written against: the body of `Options.RemoteResourceLoaders` and *every* assignment
to a `ResourceLoaders` field in package loader (the two child derivations, `clone`'s header copy, the two appends of the
project's local loader) -/
theorem loader_lists_are_source :
    CV.Gen.paths_body_RemoteResourceLoaders =
      "{ var loaders []ResourceLoader for i, loader := range o.ResourceLoaders { if _, ok := loader.(localResourceLoader); ok { if i != len(o.ResourceLoaders)-1 { logrus.Warning(\"misconfiguration of ResourceLoaders: localResourceLoader should be last\") } continue } loaders = append(loaders, loader) } return loaders }" ∧
    CV.Gen.paths_loaderAssignments =
      [("loader/extends.go", "getExtendsBaseFromFile", "extendsOpts.ResourceLoaders = append(opts.RemoteResourceLoaders(), localResourceLoader{ WorkingDir: localdir, })"),
       ("loader/include.go", "ApplyInclude", "loadOptions.ResourceLoaders = append(loadOptions.RemoteResourceLoaders(), localResourceLoader{ WorkingDir: r.ProjectDirectory, })"),
       ("loader/loader.go", "clone", "ResourceLoaders: o.ResourceLoaders"),
       ("loader/loader.go", "LoadConfigFiles", "opts.ResourceLoaders = append(opts.ResourceLoaders, localResourceLoader{})"),
       ("loader/loader.go", "toOptions", "opts.ResourceLoaders = append(opts.ResourceLoaders, localResourceLoader{configDetails.WorkingDir})")] :=
  ⟨rfl, rfl⟩

/-- **what a load hands to its nested loads**: the fields of `loader.Options`, the body of `Options.clone`
and the body of `getExtendsBaseFromFile`.  The per-origin theorems read a nested load as a function of (file, directory
of the referring file, the loader list derived above): that is sound only while `Options` carries nothing else that one
nested load writes and another reads.  A new state-carrying field (a per-load cache of extended files keyed by path, a
memo of included files) copied by `clone` makes the result of the second `extends.file` of one file depend on the
directory of the first one; this obligation goes red on any such change, and `c12.multi` (one file reached several
times in one load along different routes) shows the wrong directory on the real code. -/
theorem nested_load_state_is_source :
    CV.Gen.paths_optionsFields =
      ["SkipValidation bool", "SkipInterpolation bool", "SkipNormalization bool", "ResolvePaths bool", "ConvertWindowsPaths bool", "SkipConsistencyCheck bool", "SkipExtends bool", "SkipInclude bool", "SkipResolveEnvironment bool", "SkipDefaultValues bool", "Interpolate *interp.Options", "discardEnvFiles bool", "projectName string", "projectNameImperativelySet bool", "Profiles []string", "ResourceLoaders []ResourceLoader", "KnownExtensions map[string]any", "Listeners []Listener"] ∧
    CV.Gen.paths_body_clone =
      "{ return &Options{ SkipValidation: o.SkipValidation, SkipInterpolation: o.SkipInterpolation, SkipNormalization: o.SkipNormalization, ResolvePaths: o.ResolvePaths, ConvertWindowsPaths: o.ConvertWindowsPaths, SkipConsistencyCheck: o.SkipConsistencyCheck, SkipExtends: o.SkipExtends, SkipInclude: o.SkipInclude, SkipResolveEnvironment: o.SkipResolveEnvironment, SkipDefaultValues: o.SkipDefaultValues, Interpolate: o.Interpolate, discardEnvFiles: o.discardEnvFiles, projectName: o.projectName, projectNameImperativelySet: o.projectNameImperativelySet, Profiles: o.Profiles, ResourceLoaders: o.ResourceLoaders, KnownExtensions: o.KnownExtensions, Listeners: o.Listeners, } }" ∧
    CV.Gen.paths_body_getExtendsBaseFromFile =
      "{ for _, loader := range opts.ResourceLoaders { if !loader.Accept(refPath) { continue } local, err := loader.Load(ctx, refPath) if err != nil { return nil, nil, err } localdir := filepath.Dir(local) relworkingdir := loader.Dir(refPath) extendsOpts := opts.clone() extendsOpts.ResourceLoaders = append(opts.RemoteResourceLoaders(), localResourceLoader{ WorkingDir: localdir, }) extendsOpts.ResolvePaths = false extendsOpts.SkipNormalization = true extendsOpts.SkipConsistencyCheck = true extendsOpts.SkipInclude = true extendsOpts.SkipExtends = true extendsOpts.SkipValidation = true extendsOpts.SkipDefaultValues = true source, processor, err := loadYamlFile(ctx, types.ConfigFile{Filename: local}, extendsOpts, relworkingdir, nil, ct, map[string]any{}, nil) if err != nil { return nil, nil, err } m, ok := source[\"services\"] if !ok { return nil, nil, fmt.Errorf(\"cannot extend service %q in %s: no services section\", name, local) } services, ok := m.(map[string]any) if !ok { return nil, nil, fmt.Errorf(\"cannot extend service %q in %s: services must be a mapping\", name, local) } _, ok = services[ref] if !ok { return nil, nil, fmt.Errorf( \"cannot extend service %q in %s: service %q not found in %s\", name, path, ref, refPath, ) } var remotes []paths.RemoteResource for _, loader := range opts.RemoteResourceLoaders() { remotes = append(remotes, loader.Accept) } err = paths.ResolveRelativePaths(source, relworkingdir, remotes) if err != nil { return nil, nil, err } return services, processor, nil } return nil, nil, fmt.Errorf(\"cannot read %s\", refPath) }" :=
  ⟨rfl, rfl, rfl⟩

/-- **`RemoteResourceLoaders` returns a fresh list**: no existing array is written, the result lives in arrays allocated
by the call (or is nil) and reads the non-local loaders in order -/
theorem remote_loaders_fresh (h : Heap) (s : GoSlice) :
    Keeps h.next h (remoteLoaders h s).1 ∧ Fresh h.next (remoteLoaders h s).2 ∧
      read (remoteLoaders h s).1 (remoteLoaders h s).2 = (read h s).filter (fun x => !isLocal x) :=
  let i := remoteLoaders_inv h s
  ⟨i.keeps, i.fresh, i.value⟩

/-- **the child's list**: the parent's remote loaders followed by the child's own local loader -/
theorem child_value (h : Heap) (s : GoSlice) (dir : Str) :
    read (childLoaders h s dir).1 (childLoaders h s dir).2 =
      (read h s).filter (fun x => !isLocal x) ++ [some (.loc dir)] :=
  (childLoaders_spec h s dir).2.2.2

/-- **deriving a child's list changes nothing that existed**: every valid slice `t` — the parent's list, the caller's
own slice, any earlier child's — reads the same afterwards, over its whole capacity -/
theorem child_keeps_every_slice (h : Heap) (s : GoSlice) (dir : Str) (t : GoSlice) (hv : Valid h t) :
    read (childLoaders h s dir).1 t = read h t ∧ full (childLoaders h s dir).1 t = full h t :=
  let r := read_keeps h _ t hv (childLoaders_spec h s dir).1
  ⟨r.1, r.2.1⟩

/-- the child's local loader is anchored at the child's directory, the parent's where it was -/
theorem child_local_dirs (h : Heap) (s : GoSlice) (dir : Str) (hv : Valid h s) :
    localDir (read (childLoaders h s dir).1 (childLoaders h s dir).2) = some dir ∧
      localDir (read (childLoaders h s dir).1 s) = localDir (read h s) := by
  rw [child_value, (child_keeps_every_slice h s dir s hv).1]
  exact ⟨localDir_snoc _ _, rfl⟩

/-- **any number of nested loads out of one parent** (the include entries of a file, the `extends.file` references of
its services, in any order): afterwards no array that existed has changed, and every child reads the parent's remote
loaders followed by *its own* directory — later siblings did not touch it -/
theorem siblings_independent (h : Heap) (s : GoSlice) (dirs : List Str) (hv : Valid h s) :
    Keeps h.next h (siblings h s dirs).1 ∧
      EachReads (siblings h s dirs).1 ((read h s).filter (fun x => !isLocal x)) (siblings h s dirs).2 dirs := by
  induction dirs generalizing h with
  | nil => exact ⟨Keeps.refl _ _, trivial⟩
  | cons d rest ih =>
    obtain ⟨k, cv, _, cr⟩ := childLoaders_spec h s d
    obtain ⟨rs, _, sv⟩ := read_keeps h _ s hv k
    obtain ⟨k2, f2⟩ := ih (childLoaders h s d).1 sv
    have kw : Keeps h.next (childLoaders h s d).1 (siblings (childLoaders h s d).1 s rest).1 := k2.weaken k.next
    refine ⟨k.trans kw, ?_⟩
    simp only [siblings, EachReads]
    refine ⟨?_, ?_⟩
    · rw [(read_keeps _ _ _ cv k2).1, cr]
    · rw [rs] at f2
      exact f2

theorem siblings_keep_parent (h : Heap) (s : GoSlice) (dirs : List Str) (hv : Valid h s) (t : GoSlice) (ht : Valid h t) :
    read (siblings h s dirs).1 t = read h t ∧ full (siblings h s dirs).1 t = full h t :=
  let r := read_keeps h _ t ht (siblings_independent h s dirs hv).1
  ⟨r.1, r.2.1⟩

/-- **what the functional origin model assumes**: after any number of nested loads the working directory of the
referring model's local loader — `Level.lw` of `Model/PathsOrigin.lean`, read by `loader.Load` / `loader.Dir` and by the
`baseDir` loop of `ApplyInclude` for the NEXT include entry / `extends.file` reference — is what it was, and every
child is anchored at its own directory -/
theorem siblings_see_parent_dir (h : Heap) (s : GoSlice) (dirs : List Str) (hv : Valid h s) :
    localDir (read (siblings h s dirs).1 s) = localDir (read h s) ∧
      ∀ c ∈ (siblings h s dirs).2, ∃ d ∈ dirs, localDir (read (siblings h s dirs).1 c) = some d := by
  refine ⟨by rw [(siblings_keep_parent h s dirs hv s hv).1], ?_⟩
  have key : ∀ (H : Heap) (base : List (Option Loader)) (cs : List GoSlice) (ds : List Str), EachReads H base cs ds →
      ∀ c ∈ cs, ∃ d ∈ ds, localDir (read H c) = some d := by
    intro H base cs
    induction cs with
    | nil => intro ds _ c hc; cases hc
    | cons c0 cs ih =>
      intro ds he c hc
      cases ds with
      | nil => exact absurd he (by simp [EachReads])
      | cons d0 ds =>
        obtain ⟨h0, hr⟩ := he
        rcases List.mem_cons.mp hc with rfl | hc
        · exact ⟨d0, by simp, by rw [h0]; exact localDir_snoc _ _⟩
        · obtain ⟨d, hd, hl⟩ := ih ds hr c hc
          exact ⟨d, by simp [hd], hl⟩
  exact key _ _ _ _ (siblings_independent h s dirs hv).2

/-- **the heap refines the functional origin model**: run any sequence of nested loads — includes (± `project_directory`)
out of any model loaded so far, `extends.file` references in between, in any order — on the heap, reading the
referring model's directory off its loader list each time; the `Level`s (local-loader directory, working directory) of
the models created are exactly those of the functional model `runInclF`, where a model's level is fixed when it is
created; at the end every model's list is still anchored where its level says and no earlier array was written -/
theorem heap_levels_are_functional_levels (isDir : Str → Bool) (h : Heap) (models : List (GoSlice × Level))
    (script : List NStep) (hok : LevelsOK h models) :
    (runIncl isDir h models script).2.map Prod.snd = runInclF isDir (models.map Prod.snd) script ∧
      LevelsOK (runIncl isDir h models script).1 (runIncl isDir h models script).2 ∧
      Keeps h.next h (runIncl isDir h models script).1 := by
  induction script generalizing h models with
  | nil => exact ⟨rfl, hok, Keeps.refl _ _⟩
  | cons st rest ih =>
    cases st with
    | incl i p pd =>
      have hlw := heapDir_eq h models hok i
      simp only [runIncl, runInclF]
      rw [hlw, getD_map_snd]
      generalize (includeLevel isDir ⟨(models.getD i (none, ⟨[], []⟩)).2.lw, (models.getD i (none, ⟨[], []⟩)).2.cw⟩ p pd).2 = st'
      obtain ⟨k, cv, _, cr⟩ := childLoaders_spec h (models.getD i (none, ⟨[], []⟩)).1 st'.lw
      -- the new model reads its own directory last; the old ones are kept
      have hok' : LevelsOK (childLoaders h (models.getD i (none, ⟨[], []⟩)).1 st'.lw).1
          (models ++ [((childLoaders h (models.getD i (none, ⟨[], []⟩)).1 st'.lw).2, st')]) := by
        intro m hm
        rcases List.mem_append.mp hm with hm | hm
        · exact levelsOK_keeps hok k m hm
        · rw [List.mem_singleton.mp hm]
          exact ⟨cv, by rw [cr]; exact localDir_snoc _ _⟩
      obtain ⟨e, o, k2⟩ := ih _ _ hok'
      refine ⟨?_, o, k.trans (k2.weaken k.next)⟩
      rw [e]; simp
    | ext i ref =>
      simp only [runIncl, runInclF]
      generalize (dir (absIn ((localDir (read h (models.getD i (none, ⟨[], []⟩)).1)).getD []) ref)) = d
      obtain ⟨k, _, _, _⟩ := childLoaders_spec h (models.getD i (none, ⟨[], []⟩)).1 d
      obtain ⟨e, o, k2⟩ := ih _ _ (levelsOK_keeps hok k)
      exact ⟨e, o, k.trans (k2.weaken k.next)⟩

/-- the hypothesis is satisfiable by what `toOptions` builds: the project's options, anchored at the project directory -/
example :
    let m := alloc Heap.empty [some (.remote 1)] 1
    let o := toOptions m.1 m.2 ['/', 'w']
    LevelsOK o.1 [(o.2, ⟨['/', 'w'], ['/', 'w']⟩)] := by
  intro m o x hx
  simp only [List.mem_singleton] at hx
  subst hx
  exact ⟨by decide, by decide⟩

/-- **any interleaving of nested loads** (siblings, children of children — `runScript`): no array that existed before
is changed, every list created on the way is still valid at the end, and the lists the script started with are still
the first ones -/
theorem script_keeps_everything (h : Heap) (opts : List GoSlice) (script : List (Nat × Str)) (hv : ∀ s ∈ opts, Valid h s)
    (t : GoSlice) (ht : Valid h t) :
    read (runScript h opts script).1 t = read h t ∧ full (runScript h opts script).1 t = full h t ∧
      ∃ more, (runScript h opts script).2 = opts ++ more :=
  let r := runScript_keeps script h opts hv
  let k := read_keeps h _ t ht r.1
  ⟨k.1, k.2.1, r.2.2⟩

/-- `toOptions` appends the project's local loader to the caller's slice — possibly *into the caller's array* when it
has spare capacity — but what the caller's slice reads (its `len` elements) is unchanged -/
theorem toOptions_keeps_callers_view (h : Heap) (mine : GoSlice) (wd : Str) (hv : Valid h mine) :
    read (toOptions h mine wd).1 mine = read h mine := by
  cases mine with
  | none => simp [read]
  | some t =>
    by_cases hc : t.len < t.cap
    · simp only [toOptions, append, hc, if_true, read]
      exact List.take_set_of_le (Nat.le_refl _)
    · simp only [toOptions, append, hc, if_false, read]
      have he : t.arr ≠ h.next := Nat.ne_of_lt hv.1
      simp [he]

/-- non-vacuity: a caller's slice with one remote loader and a spare slot, the project's local loader appended in
place, two nested loads — the options still read `[remote 1, local /w]`, the children `[remote 1, local /w/a]`, `[remote 1, local /b]` -/
example :
    let m := alloc Heap.empty [some (.remote 1)] 1
    let o := toOptions m.1 m.2 ['/', 'w']
    let r := siblings o.1 o.2 [['/', 'w', '/', 'a'], ['/', 'b']]
    read r.1 o.2 = [some (.remote 1), some (.loc ['/', 'w'])] ∧
    r.2.map (read r.1) = [[some (.remote 1), some (.loc ['/', 'w', '/', 'a'])], [some (.remote 1), some (.loc ['/', 'b'])]] ∧
    full r.1 m.2 = [some (.remote 1), some (.loc ['/', 'w'])] := by decide +kernel

end CV.Paths.Loaders
