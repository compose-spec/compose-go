import ComposeVerif.Lemmas.HeapCarry
import ComposeVerif.Props.C14Visit
/-!
# C14 — "returns a project that carries every field of the original not affected by the operation"

* for the deep copy and for the services handed to visitors the clause is proved outright (`copy_carries_every_field`,
  `visited_carries_every_field`): deep equality is field-wise;
* for a derivation = copy, then writes `ws` (`DerivStep` of `Spec/Heap.lean`) it is proved **under the visible hypothesis**
  `Keeps a0 g ws ks` — the writes keep field `g` of the copy (`carry_partial`).  That the nine programs satisfy `Keeps` for
  every field outside their declared frame is not proved for all inputs (it needs a second invariant over the statement
  language); it is *checked on every `c14.deriv` case*: the driver evaluates `Keeps` on the program's own write log for
  every field of the copy and the harness compares the fields found affected with the operation's frame.
-/
namespace CV.Heap
open CV.Heap.Deriv CV.Heap.Visit

theorem DeepEq.field {v w : GoVal} (h : DeepEq v w) (f : Nat) : DeepEq (getFld f v) (getFld f w) := by
  unfold DeepEq at *
  rw [erase_getFld, erase_getFld, h]

theorem copy_carries_every_field (t : Ty) (p : Plan) (v : GoVal) (n : Nat)
    (ht : hasTy t v = true) (hc : covers t p = true) (f : Nat) :
    DeepEq (getFld f (exec p v n).1) (getFld f v) :=
  DeepEq.field (exec_erase v p t n ht hc) f

theorem visited_carries_every_field (t : Ty) (plan : Plan) (hd : deep t plan = true) (hc : covers t plan = true)
    (p : GoVal) (policy : String) (names : List String) (n : Nat) (hb : Below n p) :
    ∀ e ∈ (forEachService t plan p policy false names n).out, ∀ f,
      ∃ s a, kidOf (.str e.1) (kidsOf (getFld fServices p)) = some s ∧ DeepEq (getFld f e.2) (getFld f (.ptr a s)) := by
  intro e he f
  obtain ⟨s, a, hs, heq⟩ := (((forEachService_sound t plan hd hc p policy names n hb).2.1 e he).2.2.2.1)
  exact ⟨s, a, hs, DeepEq.field heq f⟩

/-- **carry, partial**: a derivation = deep copy by a covering plan, then writes that keep field `g` of the copy: the
result's field `g` is deep-equal to the receiver's.  (Full statement: the same without `hk`, for the write log of each of
the nine programs and every `g` outside the operation's frame — oracle `frame:` and the per-case `Keeps` check of `c14.deriv`.) -/
theorem carry_partial (t : Ty) (p : Plan) (v : GoVal) (n : Nat) (ws : List (Nat × Cell)) (a0 g : Nat) (ks : List (Key × GoVal))
    (ht : hasTy t v = true) (hc : covers t p = true)
    (hcopy : (exec p v n).1 = .ptr a0 (.struct ks)) (hk : Keeps a0 g ws ks) :
    DeepEq (getFld g (writes ws (exec p v n).1)) (getFld g v) := by
  rw [hcopy, hk.carries, ← hcopy]
  exact copy_carries_every_field t p v n ht hc g

/-- non-vacuity: a project struct at address 6 with a map of maps in field 0 (addresses 7, 8) and a scalar in field 1; the
writes "empty the inner map, then replace the project struct by one with the same field 1" keep field 1 -/
example : Keeps 6 1 [(8, .kids []), (6, .pointee (.struct [(.fld 1, .scalar "s:x")]))]
    [(.fld 0, .map 7 [(.str "n", .map 8 [(.str "k", .scalar "s:v")])]), (.fld 1, .scalar "s:x")] :=
  Keeps.other (by decide) (by decide) (Keeps.root rfl (Keeps.nil _))

end CV.Heap
