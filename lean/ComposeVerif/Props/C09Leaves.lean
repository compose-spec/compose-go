import ComposeVerif.Props.C09GenericF
import ComposeVerif.Props.C09
/-!
# C09 — every hand-written codec of the model types packaged as a leaf of the generic round trip

`Props/C09GenericF.lean` composes two proved custom round trips (byte sizes, durations) into the generic theorem.  Here the
remaining ones are packaged: device counts, cpus, commands, health-check tests, string lists, the mapping family, extra
hosts, ulimits.
Two kinds of leaf:

* a type with a hand-written **marshaller** (`Encode.custom`): the model's rendering does not look at the descriptors;
* a type that only has a hand-written **decoder** and is rendered by the default encoders through its underlying type
  expression (`DeviceCount = int64`, `StringList = []string`, `Mapping = map[string]string`, `MappingWithEquals =
  map[string]*string`): the rendering walks `env.named`, so the leaf needs (a) that the environment really declares the
  type that way (`leafEnvB`, decided for the regenerated descriptors), (b) enough nesting depth (`Leaves.depth = 3`).
-/
namespace CV.C09
open CV CV.TypeDesc CV.Marshal CV.Encode CV.Decode CV.Generic CV.GenericF

theorem leafEnv_lookup (env : Env) (h : leafEnvB env = true) (n : String) (e : TyExpr) (hm : (n, e) ∈ defaultLeafTypes) :
    findStruct env.structs n = none ∧ findNamed env.named n = some e := by
  simp only [leafEnvB, List.all_eq_true, Bool.and_eq_true, Option.isNone_iff_eq_none, beq_iff_eq] at h
  exact h (n, e) hm

def IsInt64 (v : Val) : Prop := ∃ i : Int, v = .int i ∧ inInt64 i
def IsInt (v : Val) : Prop := ∃ i : Int, v = .int i
def IsStrList (v : Val) : Prop := ∃ xs, v = .seq xs ∧ allStr xs = true
def IsStrStrMap (v : Val) : Prop := ∃ kvs, v = .map kvs ∧ allStrVals kvs = true
def IsStrPtrStrMap (v : Val) : Prop := ∃ kvs, v = .map kvs ∧ allStrOrNullVals kvs = true
/-- a host list in the marshaller's order (a Go map has no order: this is the representative the reload produces) -/
def IsHostsList (v : Val) : Prop :=
  ∃ es : List HEnt, v = .map (es.map entVal) ∧ (∀ e ∈ es, entOK e) ∧ (es.map Prod.fst).Nodup ∧ sortH es = es

/-- cpus: a number; its text is opaque to the model (the float rendering is trusted, tied by `c09.struct` / `c09.load`) -/
def IsNumber (v : Val) : Prop := (∃ i : Int, v = .int i) ∨ (∃ r, v = .float r)
/-- a ulimit as `DecodeMapstructure` produces them: a single limit, or a soft/hard pair (never both) -/
def IsUlimit (v : Val) : Prop := ∃ single soft hard : Int, v = mkUlimitT single soft hard ∧ (single ≠ 0 → soft = 0 ∧ hard = 0)

def leafOK (n : String) (v : Val) : Prop :=
  if n = "UnitBytes" ∨ n = "Duration" then IsInt64 v
  else if n = "DeviceCount" then IsInt v
  else if n = "ShellCommand" ∨ n = "HealthCheckTest" ∨ n = "StringList" ∨ n = "StringOrNumberList" then IsStrList v
  else if n = "Mapping" ∨ n = "Labels" ∨ n = "Options" then IsStrStrMap v
  else if n = "MappingWithEquals" then IsStrPtrStrMap v
  else if n = "HostsList" then IsHostsList v
  else if n = "NanoCPUs" then IsNumber v
  else if n = "UlimitsConfig" then IsUlimit v
  else False

/-- all fourteen hand-written codecs whose round trip through `loader.Transform` alone is the identity -/
def allLeaves : Leaves := { names := allLeafNames, ok := leafOK, depth := 3 }

theorem leaf_alias {env : Env} (henv : leafEnvB env = true) {fmt : Fmt} {n : String} {e : TyExpr} {v t : Val} {d : Val → Out}
    (f : Nat) (hm : (n, e) ∈ defaultLeafTypes) (hc : custom fmt n v = none) (he : encode env fmt f e v = .ok t)
    (hd : customDecode n = some d) (hdt : d t = .ok v) (hn : v ≠ .null → t ≠ .null) : RT env fmt (f + 1) (.named n) v := by
  obtain ⟨hs, hn'⟩ := leafEnv_lookup env henv n e hm
  exact ⟨t, by rw [encode_alias f hc hs hn']; exact he, by simp only [decode, hd, hdt], hn⟩

theorem leaf_UnitBytes (env : Env) (fmt : Fmt) (f : Nat) (v : Val) (h : IsInt64 v) : RT env fmt (f + 1) (.named "UnitBytes") v :=
  sizeAndDuration_sound env fmt "UnitBytes" (by decide) f v (Nat.zero_le _) h (by obtain ⟨i, hv, _⟩ := h; subst hv; simp)

theorem leaf_Duration (env : Env) (fmt : Fmt) (f : Nat) (v : Val) (h : IsInt64 v) : RT env fmt (f + 1) (.named "Duration") v :=
  sizeAndDuration_sound env fmt "Duration" (by decide) f v (Nat.zero_le _) h (by obtain ⟨i, hv, _⟩ := h; subst hv; simp)

theorem leaf_DeviceCount (env : Env) (henv : leafEnvB env = true) (fmt : Fmt) (f : Nat) (v : Val) (h : IsInt v) :
    RT env fmt (f + 2) (.named "DeviceCount") v := by
  obtain ⟨i, rfl⟩ := h
  exact leaf_alias henv (f + 1) (e := .prim "int64") (by simp [defaultLeafTypes]) (by cases fmt <;> rfl) (by simp only [encode])
    (d := decode_DeviceCount) rfl rfl fun h => h

/-- the four `[]string` types decoded by hand; `dec` is the type's `DecodeMapstructure` -/
theorem leaf_strList (env : Env) (henv : leafEnvB env = true) (fmt : Fmt) (f : Nat) (n : String) (dec : Val → Out)
    (hm : (n, TyExpr.slice (.prim "string")) ∈ defaultLeafTypes)
    (hc : ∀ v, custom fmt n v = none ∨ custom fmt n v = some (.inl (marshal_StrSlice v)))
    (hd : customDecode n = some dec) (hdec : ∀ xs, allStr xs = true → dec (.seq xs) = .ok (.seq xs))
    (v : Val) (h : IsStrList v) : RT env fmt (f + 3) (.named n) v := by
  obtain ⟨xs, rfl, hxs⟩ := h
  rcases hc (.seq xs) with h | h
  · exact leaf_alias henv (f + 2) hm h (encode_strSlice env fmt f xs) hd (hdec xs hxs) fun h => h
  · exact leaf_custom (f + 2) (by rw [h, marshal_StrSlice, if_pos hxs]) hd (hdec xs hxs) fun h => h

theorem leaf_strMap (env : Env) (henv : leafEnvB env = true) (fmt : Fmt) (f : Nat) (n : String) (dec : Val → Out)
    (hm : (n, TyExpr.map (.prim "string")) ∈ defaultLeafTypes)
    (hc : ∀ v, custom fmt n v = none)
    (hd : customDecode n = some dec) (hdec : ∀ kvs, allStrVals kvs = true → dec (.map kvs) = .ok (.map kvs))
    (v : Val) (h : IsStrStrMap v) : RT env fmt (f + 3) (.named n) v := by
  obtain ⟨kvs, rfl, hk⟩ := h
  exact leaf_alias henv (f + 2) hm (hc _) (encode_strMap env fmt f kvs) hd (hdec kvs hk) fun h => h

theorem leaf_MappingWithEquals (env : Env) (henv : leafEnvB env = true) (fmt : Fmt) (f : Nat) (v : Val) (h : IsStrPtrStrMap v) :
    RT env fmt (f + 4) (.named "MappingWithEquals") v := by
  obtain ⟨kvs, rfl, hk⟩ := h
  exact leaf_alias henv (f + 3) (e := .map (.ptr (.prim "string"))) (by simp [defaultLeafTypes]) (by cases fmt <;> rfl)
    (encode_strPtrMap env fmt f kvs) (d := decode_MappingWithEquals) rfl (decode_MappingWithEquals_id kvs hk) fun h => h

theorem leaf_HostsList (env : Env) (fmt : Fmt) (f : Nat) (v : Val) (h : IsHostsList v) : RT env fmt (f + 1) (.named "HostsList") v := by
  obtain ⟨es, rfl, hok, hnd, hsorted⟩ := h
  have hrt := (custom_roundtrip_HostsList es hok hnd).1
  rw [hsorted, marshal_HostsList, Out.bind] at hrt
  exact leaf_custom f (t := .seq ((hostLines (sortEntries (es.map entVal))).map .str)) (by cases fmt <;> rfl)
    (d := decode_HostsList) rfl hrt fun _ => by simp

theorem leaf_NanoCPUs (env : Env) (henv : leafEnvB env = true) (fmt : Fmt) (f : Nat) (v : Val) (h : IsNumber v) :
    RT env fmt (f + 2) (.named "NanoCPUs") v := by
  refine leaf_alias henv (f + 1) (e := .prim "float32") (t := v) (by simp [defaultLeafTypes]) (by cases fmt <;> rfl)
    (by simp only [encode]) rfl ?_ fun h => h
  rcases h with ⟨i, rfl⟩ | ⟨r, rfl⟩ <;> rfl

/-- `DecodeMapstructure` alone agrees with the full attribute pipeline (schema + `transformUlimits` + decoding) wherever
    that one succeeds: the generic decoder may use the former -/
theorem decodeDM_of_decode_Ulimits (t : Val) (a b c : Int) (h : decode_Ulimits t = .ok (mkUlimit a b c)) :
    decodeDM_Ulimits t = .ok (mkUlimitT a b c) := by
  unfold decode_Ulimits at h
  split at h
  · cases h
  · cases t with
    | int i =>
      simp [mkUlimit] at h
      obtain ⟨h1, h2, h3⟩ := h
      subst h1 h2 h3; rfl
    | map kvs =>
      simp only at h
      split at h
      · rename_i s h' hs hh
        simp [mkUlimit] at h
        obtain ⟨h1, h2, h3⟩ := h
        subst h1 h2 h3
        simp only [decodeDM_Ulimits, ulimitKey, hs, hh]
      · cases h
    | _ => simp at h

theorem leaf_Ulimits (env : Env) (fmt : Fmt) (f : Nat) (v : Val) (h : IsUlimit v) : RT env fmt (f + 1) (.named "UlimitsConfig") v := by
  obtain ⟨single, soft, hard, rfl, canon⟩ := h
  by_cases hs : single = 0
  · subst hs
    exact leaf_custom f (t := .map [("soft", .int soft), ("hard", .int hard)])
      (by cases fmt <;> simp [custom, marshalY_Ulimits, marshalJ_Ulimits, mkUlimitT, getInt, Val.lookup])
      (d := decodeDM_Ulimits) rfl (by simp [decodeDM_Ulimits, ulimitKey, Val.lookup]) fun _ => by simp
  · obtain ⟨rfl, rfl⟩ := canon hs
    exact leaf_custom f (t := .int single)
      (by cases fmt <;> simp [custom, marshalY_Ulimits, marshalJ_Ulimits, mkUlimitT, getInt, Val.lookup, hs])
      (d := decodeDM_Ulimits) rfl rfl fun _ => by simp

example : IsUlimit (mkUlimitT 0 1024 2048) := ⟨0, 1024, 2048, rfl, by decide⟩
example : IsUlimit (mkUlimitT (-1) 0 0) := ⟨-1, 0, 0, rfl, by decide⟩

/-- **all hand-written codecs as leaves**: for an environment that declares the default-encoded ones as the source does,
    each of the fourteen types round-trips on its `leafOK` values, in both renderings, at every depth ≥ 3 -/
theorem allLeaves_sound (env : Env) (henv : leafEnvB env = true) (fmt : Fmt) : LeafSound env fmt allLeaves := by
  intro n hn f v hf hok hnn
  obtain ⟨g, rfl⟩ : ∃ g, f = g + 3 := ⟨f - 3, by simp only [allLeaves] at hf; omega⟩
  simp only [allLeaves, allLeafNames, List.contains_cons, List.contains_nil, Bool.or_false, Bool.or_eq_true, beq_iff_eq] at hn
  simp only [allLeaves] at hok
  rcases hn with h | h | h | h | h | h | h | h | h | h | h | h | h | h <;> subst h
  · exact leaf_UnitBytes env fmt _ v (by simpa [leafOK] using hok)
  · exact leaf_Duration env fmt _ v (by simpa [leafOK] using hok)
  · exact leaf_DeviceCount env henv fmt _ v (by simpa [leafOK] using hok)
  · exact leaf_strList env henv fmt (g + 1) "ShellCommand" decode_ShellCommand (by simp [defaultLeafTypes])
      (fun v => by cases fmt <;> simp [custom]) rfl
      decode_ShellCommand_id v (by simpa [leafOK] using hok)
  · exact leaf_strList env henv fmt (g + 1) "HealthCheckTest" decode_HealthCheckTest (by simp [defaultLeafTypes])
      (fun v => by cases fmt <;> simp [custom]) rfl
      decode_HealthCheckTest_id v (by simpa [leafOK] using hok)
  · exact leaf_strList env henv fmt (g + 1) "StringList" decode_StringList (by simp [defaultLeafTypes])
      (fun v => by cases fmt <;> simp [custom]) rfl
      decode_StringList_id v (by simpa [leafOK] using hok)
  · exact leaf_strList env henv fmt (g + 1) "StringOrNumberList" decode_StringOrNumberList (by simp [defaultLeafTypes])
      (fun v => by cases fmt <;> simp [custom]) rfl
      decode_StringOrNumberList_id v (by simpa [leafOK] using hok)
  · exact leaf_strMap env henv fmt (g + 1) "Mapping" decode_Mapping (by simp [defaultLeafTypes])
      (fun v => by cases fmt <;> simp [custom]) rfl decode_Mapping_id v (by simpa [leafOK] using hok)
  · exact leaf_strMap env henv fmt (g + 1) "Labels" decode_Labels (by simp [defaultLeafTypes])
      (fun v => by cases fmt <;> simp [custom]) rfl decode_Mapping_id v (by simpa [leafOK] using hok)
  · exact leaf_strMap env henv fmt (g + 1) "Options" decode_Options (by simp [defaultLeafTypes])
      (fun v => by cases fmt <;> simp [custom]) rfl decode_Options_id v (by simpa [leafOK] using hok)
  · exact leaf_MappingWithEquals env henv fmt _ v (by simpa [leafOK] using hok)
  · exact leaf_HostsList env fmt _ v (by simpa [leafOK] using hok)
  · exact leaf_NanoCPUs env henv fmt _ v (by simpa [leafOK] using hok)
  · exact leaf_Ulimits env fmt _ v (by simpa [leafOK] using hok)

/-- **the generic round trip with every identity codec composed in** (YAML and JSON): a type built from scalars,
    pointers, slices, maps, tag-driven structs and the fourteen hand-written types, a stable value of it ⇒ the rendering
    succeeds and decoding it gives the value back -/
theorem generic_roundtrip_all_leaves (env : Env) (henv : leafEnvB env = true) (fmt : Fmt) (f : Nat) (ty : TyExpr) (v : Val)
    (hp : GenericF.plainB env fmt allLeaves.names f ty = true) (hs : GenericF.Stable env fmt allLeaves f ty v) :
    ∃ t, encode env fmt f ty v = .ok t ∧ decode env f ty t = .ok v :=
  generic_roundtrip_fmt env fmt allLeaves (allLeaves_sound env henv fmt) f ty v hp hs

theorem leafEnv_gen : leafEnvB genEnv = true := leaves_tables.1

theorem plain_model_types_all_leaves :
    (coveredModelTypes.all fun n =>
      GenericF.plainB genEnv .yaml allLeafNames 14 (.named n) && GenericF.plainB genEnv .json allLeafNames 14 (.named n)) = true := by
  simp only [plainB_gen]
  exact leaves_tables.2.1

theorem covered_plain {n : String} (hn : n ∈ coveredModelTypes) (fmt : Fmt) :
    GenericF.plainB genEnv fmt allLeaves.names 14 (.named n) = true := by
  have h := List.all_eq_true.mp plain_model_types_all_leaves n hn
  rw [Bool.and_eq_true] at h
  cases fmt
  · exact h.1
  · exact h.2

/-- **per type descriptor, all at once**: every one of the 55 covered model types of the current source (the list is
re-decided over the regenerated descriptors by `plain_model_types_all_leaves`, and `covered_uncovered_partition` shows
that it and the 12 uncovered types are all model types) round-trips in both renderings, for every stable value -/
theorem roundtrip_every_covered_type (n : String) (hn : n ∈ coveredModelTypes) (fmt : Fmt) (v : Val)
    (hs : GenericF.Stable genEnv fmt allLeaves 14 (.named n) v) :
    ∃ t, encode genEnv fmt 14 (.named n) v = .ok t ∧ decode genEnv 14 (.named n) t = .ok v :=
  generic_roundtrip_all_leaves genEnv leafEnv_gen fmt 14 _ v (covered_plain hn fmt) hs

/-- the two lists partition the model types: nothing is silently left out -/
theorem covered_uncovered_partition :
    ((RoundTrip.modelTypes Gen.structs Gen.namedTypes).all fun n => coveredModelTypes.contains n != uncoveredModelTypes.contains n) = true
    ∧ ((coveredModelTypes ++ uncoveredModelTypes).all fun n => (RoundTrip.modelTypes Gen.structs Gen.namedTypes).contains n) = true :=
  leaves_tables.2.2.1

/-- the uncovered types are outside the scope of the YAML theorem (so `uncoveredModelTypes` is not a stale under-claim) -/
theorem uncovered_not_plain :
    (uncoveredModelTypes.all fun n => !GenericF.plainB genEnv .yaml allLeafNames 14 (.named n)) = true := by
  simp only [plainB_gen]
  exact leaves_tables.2.2.2.1

/-- instance: **`DeployConfig`** (resources with cpus and byte sizes, update / rollback configs with durations, restart
    policy, placement, labels) — a type reaching six hand-written codecs — round-trips in both renderings -/
theorem roundtrip_DeployConfig (fmt : Fmt) (v : Val) (hs : GenericF.Stable genEnv fmt allLeaves 14 (.named "DeployConfig") v) :
    ∃ t, encode genEnv fmt 14 (.named "DeployConfig") v = .ok t ∧ decode genEnv 14 (.named "DeployConfig") t = .ok v :=
  roundtrip_every_covered_type _ (by simp [coveredModelTypes]) fmt v hs

def lcVals (fd : FieldDesc) : Val :=
  if fd.goName = "Driver" then .str "json-file"
  else if fd.goName = "Options" then .map [("max-size", .str "10m")]
  else .null

/-- non-vacuity: a logging configuration with driver options (a default-encoded leaf, `Options`) is a stable value -/
theorem logging_stable (fmt : Fmt) : GenericF.Stable genEnv fmt allLeaves 6 (.named "LoggingConfig")
    (.map [("Driver", .str "json-file"), ("Options", .map [("max-size", .str "10m")]), ("Extensions", .null)]) := by
  refine (stable_struct_iff (s := Gen.struct_LoggingConfig) (by simp [allLeaves, allLeafNames]) rfl).mpr
    ⟨Or.inl (by cases fmt <;> rfl), lcVals, rfl, fun fd hm hr => ?_⟩
  simp only [Gen.struct_LoggingConfig, List.mem_cons, List.mem_nil_iff, or_false] at hm
  rcases hm with rfl | rfl | rfl
  · refine ⟨nofun, fun _ h => ?_, fun _ _ => by simp [GenericF.Stable, lcVals, isScalar]⟩
    cases fmt <;> simp [omittedF, skipOf, omitOf, zeroOf, isZeroY, isEmptyJ, primZero, lcVals] at h
  · refine ⟨nofun, fun _ h => ?_, fun _ _ => ?_⟩
    · cases fmt <;> exact absurd h (by decide +kernel)
    · exact (stable_leaf_iff (by simp [allLeaves, allLeafNames])).mpr
        ⟨by decide, by simp [allLeaves, leafOK, IsStrStrMap, lcVals, allStrVals], by simp [lcVals]⟩
  · exact ⟨fun _ => rfl, nofun, nofun⟩

example (fmt : Fmt) : ∃ t, encode genEnv fmt 6 (.named "LoggingConfig")
      (.map [("Driver", .str "json-file"), ("Options", .map [("max-size", .str "10m")]), ("Extensions", .null)]) = .ok t ∧
    decode genEnv 6 (.named "LoggingConfig") t =
      .ok (.map [("Driver", .str "json-file"), ("Options", .map [("max-size", .str "10m")]), ("Extensions", .null)]) :=
  generic_roundtrip_all_leaves genEnv leafEnv_gen fmt 6 _ _ (by
    have h := Bool.and_eq_true_iff.mp leaves_tables.2.2.2.2
    rw [plainB_gen]
    cases fmt
    · exact h.1
    · exact h.2) (logging_stable fmt)
end CV.C09
