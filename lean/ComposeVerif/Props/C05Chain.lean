import ComposeVerif.Props.C05
/-!
# C05 — chains of arbitrary length

"…equals the base service's fully resolved definition with the extending service's own attributes applied on top …;
chains are followed transitively": for a chain of *any* length, through any mixture of same-file and cross-file links,
the result of `ApplyExtends` is the **base-first fold** of the merge step along the chain (`foldChain`): start from
the last base, apply each extending service's own attributes on top, innermost first, dropping `extends` each time.
This is the closed form the hand-flattening oracle `c05.flat` computes with the real `override.ExtendService`.
-/
namespace CV.Extends
open CV CV.Val

theorem flat_iff_chain_fold (E : Env) (cf : String) (S : KVs) (n : String) (v : Val) :
    Flat E S n v ↔
      ∃ links leaf m, Chain E cf S n links leaf ∧ foldChain E leaf.2.2 links = .ok m ∧ v = .map m :=
  ⟨fun h => h.chain cf, fun ⟨_, _, m, hc, hf, hv⟩ => hv ▸ hc.flat m hf⟩

/-- **extends = base-first fold, any chain length, any visit order.**  Whenever `ApplyExtends` succeeds, every service
`n` has a finite chain `n = l₀ → l₁ → … → l_k → leaf` (k arbitrary) and its resolved value is
`erase extends (extend (… erase extends (extend leaf l_k) …) l₀)`. -/
theorem extends_eq_chain_fold {E : Env} {order : List String} {dict out S : KVs}
    (hS : lookup "services" dict = some (.map S)) (hnn : NoNull S) (hfs : NoNullFS E)
    (hord : Visits order S) (h : applyExtendsOrd E order dict = .ok out) :
    ∃ R, lookup "services" out = some (.map R) ∧
      ∀ n, lookup n S ≠ none → ∃ links leaf m, Chain E E.mainFile S n links leaf ∧
        foldChain E leaf.2.2 links = .ok m ∧ lookup n R = some (.map m) := by
  obtain ⟨R, hR, hall⟩ := extends_eq_flatten hS hnn hfs hord h
  refine ⟨R, hR, fun n hn => ?_⟩
  obtain ⟨v, hv, hf⟩ := (hall n).2 hn
  obtain ⟨links, leaf, m, hc, hfold, hvm⟩ := hf.chain E.mainFile
  exact ⟨links, leaf, m, hc, hfold, hvm ▸ hv⟩

/-- **every chain whose fold succeeds is accepted**, whatever its length and the visit order, with the fold as the
value of the service (`hmain` as in `acyclic_ok`) -/
theorem chain_fold_accepted {E : Env} {order : List String} {dict S : KVs}
    (hS : lookup "services" dict = some (.map S)) (hnn : NoNull S) (hfs : NoNullFS E) (hord : Visits order S)
    (hmain : fileServices E.fs E.mainFile = none)
    (hch : ∀ n, lookup n S ≠ none → ∃ links leaf m, Chain E E.mainFile S n links leaf ∧
      foldChain E leaf.2.2 links = .ok m) :
    ∃ out R, applyExtendsOrd E order dict = .ok out ∧ lookup "services" out = some (.map R) ∧
      ∀ n links leaf m, Chain E E.mainFile S n links leaf → foldChain E leaf.2.2 links = .ok m →
        lookup n R = some (.map m) := by
  have hflat : ∀ n, lookup n S ≠ none → ∃ v, Flat E S n v := fun n hn => by
    obtain ⟨links, leaf, m, hc, hf⟩ := hch n hn
    exact ⟨_, hc.flat m hf⟩
  obtain ⟨out, hout⟩ := acyclic_ok hS hord hmain hflat
  obtain ⟨R, hR, hall⟩ := extends_eq_flatten hS hnn hfs hord hout
  refine ⟨out, R, hout, hR, fun n links leaf m hc hf => ?_⟩
  have hfl := hc.flat m hf
  obtain ⟨svc, hs⟩ := hfl.has_key
  obtain ⟨v, hv, hf'⟩ := (hall n).2 (by rw [hs]; simp)
  rw [hv, hf'.functional hfl]

/-- = `Chain.functional`: which bases are folded, and in which order, is determined by the document -/
theorem chain_unique {E : Env} {cf : String} {S : KVs} {n : String} {l l' : List ChainElt} {f f' : ChainElt}
    (h : Chain E cf S n l f) (h' : Chain E cf S n l' f') : l = l' ∧ f = f' := h.functional h'

/-- the keys the cycle tracker records for a chain are the `(file, name)` pairs of its extending services, outermost first -/
theorem chain_keys {E : Env} {cf : String} {S : KVs} {n : String} {ks : List Key} {v : Val}
    (h : FlatK E cf S n ks v) : ∃ links leaf, Chain E cf S n links leaf ∧
      links.map (fun x => (x.1, x.2.1)) = ks := by
  induction h with
  | leaf h1 h2 => exact ⟨[], _, Chain.leaf h1 h2, rfl⟩
  | step h1 h2 h3 h4 h5 h6 ih =>
    obtain ⟨links, leaf, hc, hm⟩ := ih
    exact ⟨_ :: links, leaf, Chain.step h1 h2 h3 h4 hc, by simp [hm]⟩

/-- = `Chain.elt_source`: every element of a chain is a service of the mapping the chain started in, or of the file-system entry of the file
it is attributed to (the document *as loaded from that file*, i.e. resolved against that file's directory) -/
theorem chain_elements_located {E : Env} {cf : String} {S : KVs} {n : String} {links : List ChainElt} {leaf : ChainElt}
    (h : Chain E cf S n links leaf) :
    ∀ x ∈ links ++ [leaf], (x.1 = cf ∧ lookup x.2.1 S = some (.map x.2.2)) ∨
      (∃ S', fileServices E.fs x.1 = some S' ∧ lookup x.2.1 S' = some (.map x.2.2)) := h.elt_source

/-! ### non-vacuity: a chain of three links through two files, folded with a merge that appends -/

def exEnv : Env :=
  { mainFile := "main.yaml"
    fs := [("o.yaml", .ok [("services", .map [("b", .map [("extends", .str "d"), ("cap_add", .str "B")]),
                                               ("d", .map [("image", .str "id")])])] false)]
    extend := fun b s => .ok (s ++ b) }

def exMain : KVs :=
  [("t", .map [("extends", .str "u"), ("x", .str "T")]),
   ("u", .map [("extends", .map [("service", .str "b"), ("file", .str "o.yaml")]), ("y", .str "U")])]

example : ∃ links leaf m, Chain exEnv "main.yaml" exMain "t" links leaf ∧ links.length = 3 ∧
    foldChain exEnv leaf.2.2 links = .ok m ∧
    m = [("x", .str "T"), ("y", .str "U"), ("cap_add", .str "B"), ("image", .str "id")] := by
  refine ⟨_, _, _, Chain.step (file := none) (ref := "u") (e := .str "u") (by simp [exMain, Val.lookup]; rfl)
    (by simp [Val.lookup]) rfl (by simp [baseMap, exMain, Val.lookup]; rfl)
    (Chain.step (file := some "o.yaml") (ref := "b") (e := .map [("service", .str "b"), ("file", .str "o.yaml")])
      (by simp [Val.lookup]; rfl) (by simp [Val.lookup]) rfl
      (by simp [baseMap, fileServices, fsLookup, exEnv, Val.lookup]; rfl)
      (Chain.step (file := none) (ref := "d") (e := .str "d") (by simp [Val.lookup]; rfl) (by simp [Val.lookup]) rfl
        (by simp [baseMap, Val.lookup]; rfl)
        (Chain.leaf (by simp [Val.lookup]; rfl) (by simp [Val.lookup])))), rfl, ?_, rfl⟩
  simp [foldChain, exEnv, Val.erase]

end CV.Extends
