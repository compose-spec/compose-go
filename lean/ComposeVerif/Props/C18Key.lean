import ComposeVerif.Lemmas.Dotenv
import ComposeVerif.Neg.C18
/-!
# C18 — "an invalid key is an error": the `_partial` statement completed

`Neg/C18.lean` refutes `InvalidKeyIsError` with the empty key.  This module shows that the empty key is the ONLY
counterexample: the same statement with `k ≠ []` added is a theorem, with the error class and the (empty) partial map
spelled out.  So `invalid_key_err_partial` is partial exactly by the recorded finding `invalid-key:empty-accepted`.
-/
namespace CV.Dotenv
open CV CV.Template

theorem split_first_nonKey : ∀ k : Str, k.all isKeyRune = false →
    ∃ pre c suf, k = pre ++ c :: suf ∧ pre.all isKeyRune = true ∧ isKeyRune c = false
  | [], h => by simp at h
  | d :: r, h => by
    by_cases hd : isKeyRune d = true
    · have hr : r.all isKeyRune = false := by
        simp only [List.all_cons, hd, Bool.true_and] at h; exact h
      obtain ⟨pre, c, suf, he, hp, hc⟩ := split_first_nonKey r hr
      exact ⟨d :: pre, c, suf, by rw [he]; rfl, by simp only [List.all_cons, hd, hp, Bool.and_self], hc⟩
    · exact ⟨[], d, r, rfl, rfl, by simpa using hd⟩

/-- **`InvalidKeyIsError` for every non-empty key text** (the hypotheses are those of `Neg/C18.lean:InvalidKeyIsError`
    plus `k ≠ []`): a one-word key text — no delimiter, line feed, `#` or white space inside — that contains a
    character outside the key alphabet is the error "unexpected character", whatever follows the `=` and whatever
    the lookup; nothing has been defined. -/
theorem invalid_key_is_error_nonempty (k rest : Str) (lookup : Env) (hne : k ≠ [])
    (hinv : (!k.isEmpty && k.all isKeyRune) = false)
    (hword : k.all (fun c => c != '=' && c != ':' && c != '\n' && c != '#' && !isSpaceU c) = true) :
    parse (k ++ '=' :: rest) lookup = .err .unexpectedChar [] := by
  have hall : k.all isKeyRune = false := by
    cases k with
    | nil => exact absurd rfl hne
    | cons d r => simpa using hinv
  obtain ⟨pre, c, suf, he, hpre, hc⟩ := split_first_nonKey k hall
  subst he
  rw [List.all_eq_true] at hword
  have hw : ∀ x ∈ pre ++ c :: suf, x ≠ '=' ∧ x ≠ ':' ∧ x ≠ '\n' ∧ x ≠ '#' ∧ isSpaceU x = false := by
    intro x hx
    have := hword x hx
    simp only [Bool.and_eq_true, bne_iff_ne, ne_eq, Bool.not_eq_true'] at this
    exact ⟨this.1.1.1.1, this.1.1.1.2, this.1.1.2, this.1.2, this.2⟩
  have nbOf : ∀ x, isSpaceU x = false → isSpaceNB x = false := fun x hx => by
    rw [isSpaceU_eq, Bool.or_eq_false_iff] at hx; exact hx.1
  have hcw := hw c (by simp)
  have hbad : badChar c = true := by
    simp only [badChar, hc, nbOf c hcw.2.2.2.2, Bool.not_false, Bool.true_and, Bool.and_eq_true, bne_iff_ne, ne_eq]
    exact ⟨⟨hcw.1, hcw.2.1⟩, hcw.2.2.1⟩
  have hok : pre.all okChar = true := by
    rw [List.all_eq_true] at hpre ⊢
    intro x hx
    simp only [okChar, hpre x hx, Bool.true_or]
  have hlead : pre.dropWhile isSpaceNB = pre := by
    cases pre with
    | nil => rfl
    | cons d r =>
      have := nbOf d (hw d (by simp)).2.2.2.2
      rw [List.dropWhile_cons_of_neg (by simp [this])]
  have h := stepL_badkey [] none pre c (suf ++ '=' :: rest) [] lookup rfl rfl hok hlead hbad (Or.inr hcw.2.2.2.1)
  simp only [renderExp, List.nil_append] at h
  rw [parse_eq_run, parseRun_step, List.append_assoc, List.cons_append, h]

/-- the refuted statement and the proved one side by side: the empty key is the only counterexample -/
theorem invalid_key_only_empty_accepted :
    ¬ InvalidKeyIsError ∧
    ∀ (k rest : Str) (lookup : Env), k ≠ [] →
      (!k.isEmpty && k.all isKeyRune) = false →
      k.all (fun c => c != '=' && c != ':' && c != '\n' && c != '#' && !isSpaceU c) = true →
      ∃ e m, parse (k ++ '=' :: rest) lookup = .err e m :=
  ⟨invalid_key_is_error_false, fun k rest lookup hne hinv hword =>
    ⟨_, _, invalid_key_is_error_nonempty k rest lookup hne hinv hword⟩⟩

/-- non-vacuity: a quote, a dollar sign, a generic code point inside or in front of a key -/
example : parse ['A', '$', 'B', '=', '"'] (fun _ => none) = .err .unexpectedChar [] :=
  invalid_key_is_error_nonempty ['A', '$', 'B'] ['"'] _ (by decide) (by decide) (by decide)
example : parse ['\'', '=', 'x'] (fun _ => none) = .err .unexpectedChar [] :=
  invalid_key_is_error_nonempty ['\''] ['x'] _ (by decide) (by decide) (by decide)
example : parse ['€', '=', 'x'] (fun _ => none) = .err .unexpectedChar [] :=
  invalid_key_is_error_nonempty ['€'] ['x'] _ (by decide) (by decide) (by decide)

end CV.Dotenv
