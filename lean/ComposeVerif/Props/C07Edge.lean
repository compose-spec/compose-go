import ComposeVerif.Props.C07
/-!
# C07 — what `Substitute` does on the two shapes that are outside `WF`

`WF` excludes (a) an unbraced `$NAME` directly followed by a name character and (b) operator arguments whose
literal braces are not balanced, because there the *concrete syntax* does not denote the AST one might have meant.
These theorems state what the code does instead (for all inputs of the shape, after any well-formed prefix).
-/
namespace CV.Template

/-- (a) **the unbraced name is greedy**: `$` followed by a name `n` and further name characters `n'` is the
    variable `n ++ n'` — never the variable `n` followed by the text `n'` -/
theorem subst_unbraced_takes_longest_name (env : Env) (t : List Seg) (n n' X : Str) (h : WF t = true)
    (hn : validName n = true) (hn' : ∀ c ∈ n', isNameChar c = true) (hX : noNameHead X = true) :
    subst env (renderL t ++ '$' :: (n ++ n' ++ X)) =
      seq (evalOut env t) (seq (.ok ((env (n ++ n')).getD [])) (subst env X)) := by
  have hv : validName (n ++ n') = true := by
    obtain ⟨c, cs, rfl, hc, hall⟩ := validName_cases hn
    simp only [List.cons_append, validName, hc, Bool.true_and, List.all_eq_true]
    exact List.forall_mem_append.2 ⟨fun x hx => hall x (List.mem_cons_of_mem _ hx), hn'⟩
  rw [subst_render_append env t _ h rfl, subst_eq_run, subst_eq_run,
    run_named env (n ++ n') X hv hX]

/-- the matched name is the longest run of name characters, on any text at all -/
theorem unbraced_match_is_longest_run (c : Char) (r : Str) (hc : isNameStart c = true) :
    ∃ name rest, matchDollar ('$' :: c :: r) = some (.named name, '$' :: name, rest) ∧
      name ++ rest = c :: r ∧ (∀ x ∈ name, isNameChar x = true) ∧ noNameHead rest = true :=
  ⟨_, _, matchDollar_start c r hc, spanName_append _, spanName_fst_all _, spanName_snd_head _⟩

/-- (b) **closed case**: in `${n op a}Y` (one line, `Y` empty or ending with the last `}` of the line) the
    argument is `a` — whatever braces `a` contains — when the brace counter of
    `getFirstBraceClosingIndex` on that text returns to zero at the `}` after `a` -/
theorem subst_op_unbalanced_closed (env : Env) (t : List Seg) (n : Str) (o : Op) (a Y Z : Str) (h : WF t = true)
    (hn : validName n = true) (ha : noNL a) (hY : noNL Y) (hYe : EndsClose Y) (hZ : ¬ closesOnLine Z)
    (hfc : firstClose ('$' :: '{' :: (n ++ (o.str ++ (a ++ '}' :: Y)))) = some (2 + n.length + o.str.length + a.length)) :
    subst env (renderL t ++ '$' :: '{' :: (n ++ (o.str ++ (a ++ '}' :: (Y ++ Z))))) =
      seq (evalOut env t) (seq (opOut env n o (subst env a)) (subst env (Y ++ Z))) := by
  rw [subst_render_append env t _ h rfl]
  simp only [subst_eq_run]
  rw [run_op_closed env n o a Y Z hn ha hY hYe ((lastCloseLen_none_iff Z).2 hZ)
    (by rw [hfc]; simp only [List.length_cons, List.length_append]; congr 1; omega)]

/-- (b) **open case**: when the braces of `${n op body}` (up to the last `}` of the line) never balance, nothing is
    cut off: the whole `body` — including any `}` and any `${…}` inside it — is interpolated as the argument -/
theorem subst_op_unbalanced_open (env : Env) (t : List Seg) (n : Str) (o : Op) (body Z : Str) (h : WF t = true)
    (hn : validName n = true) (hb : noNL body) (hZ : ¬ closesOnLine Z)
    (hfc : firstClose ('$' :: '{' :: (n ++ (o.str ++ (body ++ ['}'])))) = none) :
    subst env (renderL t ++ '$' :: '{' :: (n ++ (o.str ++ (body ++ '}' :: Z)))) =
      seq (evalOut env t) (seq (opOut env n o (subst env body)) (subst env Z)) := by
  rw [subst_render_append env t _ h rfl]
  simp only [subst_eq_run]
  rw [run_op_open env n o body Z hn hb ((lastCloseLen_none_iff Z).2 hZ) hfc]

/-! Instances: `${A:-{} ${B}` — the unbalanced `{` makes `{} ${B` the default, whose `${B` is malformed;
    on `${A:-a}b}` the brace counter stops at the first `}` (index 6). -/

example : firstClose "${A:-{} ${B}".toList = none := by decide +kernel

theorem unbalanced_open_instance : subst (fun _ => none) "${A:-{} ${B}".toList = .err .invalid := by
  have h := subst_op_unbalanced_open (fun _ => none) [] ['A'] .colonDash "{} ${B".toList [] rfl rfl
    (by unfold noNL; decide +kernel) (by rintro ⟨c, hc, _⟩; cases hc) (by decide +kernel)
  rw [show subst (fun _ => none) "{} ${B".toList = .err .invalid by decide +kernel] at h
  rw [show "${A:-{} ${B}".toList = renderL [] ++ '$' :: '{' :: (['A'] ++ (Op.colonDash.str ++ ("{} ${B".toList ++ ['}'])))
    by decide +kernel, h]
  rfl

example : subst (fun _ => none) "${A:-{} ${B}".toList = .err .invalid := unbalanced_open_instance

example : firstClose "${A:-a}b}".toList = some 6 := by decide +kernel


/-- Outside `WF` the concrete syntax does not determine the AST: an argument literal with an unbalanced `{`
    followed by a literal `}` renders to the same text as the balanced literal `{}` — and the two ASTs mean
    different things when the variable is set.  No function of the text can be `evalOut` on both. -/
theorem unbalanced_literal_is_ambiguous :
    let t1 : List Seg := [.op ['A'] .colonDash [.lit ['{']], .lit ['}']]
    let t2 : List Seg := [.op ['A'] .colonDash [.lit ['{', '}']]]
    let env : Env := fun n => if n = ['A'] then some ['v'] else none
    renderL t1 = renderL t2 ∧ WF t2 = true ∧ WF t1 = false ∧
    evalOut env t1 = .ok ['v', '}'] ∧ evalOut env t2 = .ok ['v'] := by
  decide +kernel

/-- consequently `Substitute` follows the balanced reading and differs from the meaning of the unbalanced AST -/
theorem unbalanced_literal_follows_balanced_reading :
    let t1 : List Seg := [.op ['A'] .colonDash [.lit ['{']], .lit ['}']]
    let env : Env := fun n => if n = ['A'] then some ['v'] else none
    subst env (renderL t1) = .ok ['v'] ∧ subst env (renderL t1) ≠ evalOut env t1 := by
  intro t1 env
  have h2 := subst_render env [.op ['A'] .colonDash [.lit ['{', '}']]] (by decide)
  have hr : renderL t1 = renderL [.op ['A'] .colonDash [.lit ['{', '}']]] := by decide
  have he : evalOut env [.op ['A'] .colonDash [.lit ['{', '}']]] = .ok ['v'] := by decide
  have h1 : evalOut env t1 = .ok ['v', '}'] := by decide
  rw [hr, h2, he, h1]
  exact ⟨rfl, by decide⟩


/-- … and there is no per-segment meaning either: the same segment `${A:-{}` (unbalanced `{` in the default)
    means `{` at the end of the text but swallows a later `${B}` on the same line — what an unbalanced argument
    contributes depends on the text that follows it, so no closed form in terms of the AST exists -/
theorem unbalanced_argument_not_compositional :
    let seg : Seg := .op ['A'] .colonDash [.lit ['{']]
    let env : Env := fun _ => none
    subst env (seg.render ++ []) = seq (toOut (seg.eval env)) (subst env []) ∧
    subst env (seg.render ++ " ${B}".toList) ≠ seq (toOut (seg.eval env)) (subst env " ${B}".toList) := by
  decide +kernel

/-! The tail of the greedy match (seed C08-8).

The regexp's `.*` runs to the **last** `}` of the line, `DefaultReplacementAppliedFunc` cuts the match at the first
balanced one and must give the rest (`rest`) a substitution pass of its own — whatever it holds, also when it holds no
further `${` (an escape `$$` or an unbraced `$NAME` before a later `}`). -/

/-- after an operator substitution the remaining text (any text that does not start with a name character, in
    particular text with `$$` / `$NAME` and later closing braces on the same line) is interpolated by a pass of its
    own and appended: nothing of it is copied verbatim, nothing is glued to the value and expanded again -/
theorem subst_op_then_tail (env : Env) (n : Str) (o : Op) (arg : List Seg) (X : Str)
    (hn : validName n = true) (harg : wfL true arg = true) (hX : noNameHead X = true) :
    subst env ((Seg.op n o arg).render ++ X) = seq (subst env (Seg.op n o arg).render) (subst env X) := by
  have hwf : WF [Seg.op n o arg] = true := by simp [WF, wfL, Seg.wf, hn, harg]
  have h1 := subst_render_append env [Seg.op n o arg] X hwf hX
  have h2 := subst_render env [Seg.op n o arg] hwf
  rw [renderL, renderL, List.append_nil] at h1 h2
  rw [h1, h2]

/-- `${A:-x} $$ }` with `A` unset is `x $ }`: the escape in the tail is unescaped although no `${` follows -/
theorem tail_escape_is_unescaped : subst (fun _ => none) "${A:-x} $$ }".toList = .ok "x $ }".toList := by
  decide +kernel

/-- `${A:-x} $B }` with `B = b`: the unbraced variable in the tail is substituted -/
theorem tail_variable_is_substituted :
    subst (fun k => if k = ['B'] then some ['b'] else none) "${A:-x} $B }".toList = .ok "x b }".toList := by
  decide +kernel

end CV.Template
