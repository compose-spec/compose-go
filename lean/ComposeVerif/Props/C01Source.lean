import ComposeVerif.Gen.C01Source
/-!
# C01 — the source the models were written against

`Gen/C01Source.lean` is regenerated on every run from loader/loader.go (`cycleTracker.Add`,
`convertToStringKeysRecursive`), loader/fix.go, loader/omitEmpty.go and loader/reset.go: the bodies of the functions
that `Model/C01Stages.lean`, `Model/C01Cycles.lean` (`Tracker`) and `Model/C01Reset.lean` mirror, printed without comments.
The theorem pins them to the texts the models were last compared with: any edit to one of these functions breaks it —
on top of whatever the correspondence streams find — until somebody has re-read the model and updated the text here.
(`applyServiceExtends`, `ApplyInclude`, `searchCycle` are pinned by their owners' modules: C05, C06, C10.)
-/
namespace CV.C01.Source

theorem modelled_functions_are_source :
    CV.Gen.c01_body_cycleTrackerAdd =
      "{ toAdd := serviceRef{filename: filename, service: service} for _, loaded := range ct.loaded { if toAdd == loaded { errLines := []string{ \"Circular reference:\", fmt.Sprintf(\" %s in %s\", ct.loaded[0].service, ct.loaded[0].filename), } for _, service := range append(ct.loaded[1:], toAdd) { errLines = append(errLines, fmt.Sprintf(\" extends %s in %s\", service.service, service.filename)) } return nil, errors.New(strings.Join(errLines, \"\\n\")) } } var branch []serviceRef branch = append(branch, ct.loaded...) branch = append(branch, toAdd) return &cycleTracker{ loaded: branch, }, nil }" ∧
    CV.Gen.c01_body_convertToStringKeysRecursive =
      "{ if mapping, ok := value.(map[string]interface{}); ok { for key, entry := range mapping { var newKeyPrefix string if keyPrefix == \"\" { newKeyPrefix = key } else { newKeyPrefix = fmt.Sprintf(\"%s.%s\", keyPrefix, key) } convertedEntry, err := convertToStringKeysRecursive(entry, newKeyPrefix) if err != nil { return nil, err } mapping[key] = convertedEntry } return mapping, nil } if mapping, ok := value.(map[interface{}]interface{}); ok { dict := make(map[string]interface{}) for key, entry := range mapping { str, ok := key.(string) if !ok { return nil, formatInvalidKeyError(keyPrefix, key) } var newKeyPrefix string if keyPrefix == \"\" { newKeyPrefix = str } else { newKeyPrefix = fmt.Sprintf(\"%s.%s\", keyPrefix, str) } convertedEntry, err := convertToStringKeysRecursive(entry, newKeyPrefix) if err != nil { return nil, err } dict[str] = convertedEntry } return dict, nil } if list, ok := value.([]interface{}); ok { var convertedList []interface{} for index, entry := range list { newKeyPrefix := fmt.Sprintf(\"%s[%d]\", keyPrefix, index) convertedEntry, err := convertToStringKeysRecursive(entry, newKeyPrefix) if err != nil { return nil, err } convertedList = append(convertedList, convertedEntry) } return convertedList, nil } return value, nil }" ∧
    CV.Gen.c01_body_fixEmptyNotNull =
      "{ switch v := value.(type) { case []any: if v == nil { return []any{} } for i, e := range v { v[i] = fixEmptyNotNull(e) } case map[string]any: for k, e := range v { v[k] = fixEmptyNotNull(e) } } return value }" ∧
    CV.Gen.c01_body_OmitEmpty =
      "{ cleaned := omitEmpty(yaml, tree.NewPath()) return cleaned.(map[string]any) }" ∧
    CV.Gen.c01_body_omitEmpty =
      "{ switch v := data.(type) { case map[string]any: for k, e := range v { if isEmpty(e) && mustOmit(p) { delete(v, k) continue } v[k] = omitEmpty(e, p.Next(k)) } return v case []any: c := make([]any, 0, len(v)) for _, e := range v { if isEmpty(e) && mustOmit(p) { continue } c = append(c, omitEmpty(e, p.Next(\"[]\"))) } return c default: return data } }" ∧
    CV.Gen.c01_body_mustOmit =
      "{ for _, pattern := range omitempty { if p.Matches(pattern) { return true } } return false }" ∧
    CV.Gen.c01_body_isEmpty =
      "{ if e == nil { return true } if v, ok := e.(string); ok && v == \"\" { return true } return false }" ∧
    CV.Gen.c01_body_UnmarshalYAML =
      "{ p.visitedNodes = make(map[*yaml.Node][]string) p.active = make(map[*yaml.Node]int) resolved, err := p.resolveReset(value, tree.NewPath()) p.visitedNodes = nil p.active = nil if err != nil { return err } if resolved == nil { return nil } if err := checkAcyclic(resolved, map[*yaml.Node]bool{}); err != nil { return err } return resolved.Decode(p.target) }" ∧
    CV.Gen.c01_body_resolveReset =
      "{ pathStr := path.String() if strings.Contains(pathStr, \".<<\") { path = tree.NewPath(strings.Replace(pathStr, \".<<\", \"\", 1)) } if p.active == nil { p.active = make(map[*yaml.Node]int) } if p.active[node] >= 2 { return nil, fmt.Errorf(\"cycle detected: node at path %s is nested inside itself\", path.String()) } p.active[node]++ defer func() { p.active[node]-- }() if node.Kind == yaml.AliasNode { if err := p.checkForCycle(node.Alias, path); err != nil { return nil, err } return p.resolveReset(node.Alias, path) } if node.Tag == \"!reset\" { p.paths = append(p.paths, path) return nil, nil } if node.Tag == \"!override\" { p.paths = append(p.paths, path) return node, nil } switch node.Kind { case yaml.SequenceNode: var nodes []*yaml.Node for idx, v := range node.Content { next := path.Next(strconv.Itoa(idx)) resolved, err := p.resolveReset(v, next) if err != nil { return nil, err } if resolved != nil { nodes = append(nodes, resolved) } } node.Content = nodes case yaml.MappingNode: var key string var nodes []*yaml.Node for idx, v := range node.Content { if idx%2 == 0 { key = v.Value } else { resolved, err := p.resolveReset(v, path.Next(key)) if err != nil { return nil, err } if resolved != nil { nodes = append(nodes, node.Content[idx-1], resolved) } } } node.Content = nodes } return node, nil }" ∧
    CV.Gen.c01_body_checkForCycle =
      "{ paths := p.visitedNodes[node] pathStr := path.String() for _, prevPath := range paths { if pathStr == prevPath { continue } if strings.Contains(prevPath, \"<<\") || strings.Contains(pathStr, \"<<\") { continue } if (strings.HasPrefix(pathStr, prevPath+\".\") || strings.HasPrefix(prevPath, pathStr+\".\")) && !areInDifferentServices(pathStr, prevPath) { return fmt.Errorf(\"cycle detected: node at path %s references node at path %s\", pathStr, prevPath) } } p.visitedNodes[node] = append(paths, pathStr) return nil }" ∧
    CV.Gen.c01_body_areInDifferentServices =
      "{ parts1 := strings.Split(path1, \".\") parts2 := strings.Split(path2, \".\") for i := 0; i < len(parts1) && i < len(parts2); i++ { if parts1[i] == \"services\" && i+1 < len(parts1) && parts2[i] == \"services\" && i+1 < len(parts2) { return parts1[i+1] != parts2[i+1] } } return false }" ∧
    CV.Gen.c01_body_checkAcyclic =
      "{ if node == nil { return nil } if onPath[node] { return fmt.Errorf(\"cycle detected: node at line %d contains itself\", node.Line) } onPath[node] = true defer delete(onPath, node) if node.Kind == yaml.AliasNode { return checkAcyclic(node.Alias, onPath) } for _, child := range node.Content { if err := checkAcyclic(child, onPath); err != nil { return err } } return nil }" :=
  ⟨rfl, rfl, rfl, rfl, rfl, rfl, rfl, rfl, rfl, rfl, rfl, rfl⟩

/-- `getExtendsBaseFromFile` — the function `Model/C01PipelineFS.lean` composes with the per-document pipeline:
the cloned option set (`ResolvePaths = false`, `SkipNormalization`, `SkipConsistencyCheck`, `SkipInclude`, `SkipExtends`,
`SkipValidation`, `SkipDefaultValues`), `loadYamlFile` into an empty model, the `services` / base-present checks, then
`ResolveRelativePaths` at the file's directory.  Dropping or adding one assignment to `extendsOpts` breaks this. -/
theorem extends_base_load_is_source :
    CV.Gen.c01_body_getExtendsBaseFromFile =
      "{ for _, loader := range opts.ResourceLoaders { if !loader.Accept(refPath) { continue } local, err := loader.Load(ctx, refPath) if err != nil { return nil, nil, err } localdir := filepath.Dir(local) relworkingdir := loader.Dir(refPath) extendsOpts := opts.clone() extendsOpts.ResourceLoaders = append(opts.RemoteResourceLoaders(), localResourceLoader{ WorkingDir: localdir, }) extendsOpts.ResolvePaths = false extendsOpts.SkipNormalization = true extendsOpts.SkipConsistencyCheck = true extendsOpts.SkipInclude = true extendsOpts.SkipExtends = true extendsOpts.SkipValidation = true extendsOpts.SkipDefaultValues = true source, processor, err := loadYamlFile(ctx, types.ConfigFile{Filename: local}, extendsOpts, relworkingdir, nil, ct, map[string]any{}, nil) if err != nil { return nil, nil, err } m, ok := source[\"services\"] if !ok { return nil, nil, fmt.Errorf(\"cannot extend service %q in %s: no services section\", name, local) } services, ok := m.(map[string]any) if !ok { return nil, nil, fmt.Errorf(\"cannot extend service %q in %s: services must be a mapping\", name, local) } _, ok = services[ref] if !ok { return nil, nil, fmt.Errorf( \"cannot extend service %q in %s: service %q not found in %s\", name, path, ref, refPath, ) } var remotes []paths.RemoteResource for _, loader := range opts.RemoteResourceLoaders() { remotes = append(remotes, loader.Accept) } err = paths.ResolveRelativePaths(source, relworkingdir, remotes) if err != nil { return nil, nil, err } return services, processor, nil } return nil, nil, fmt.Errorf(\"cannot read %s\", refPath) }" := rfl

/-- the readers of a service's `env_file` / `label_file` that `Model/C01Files.lean` mirrors (types/project.go):
the two loops, `loadEnvFile` (missing ∧ required → error naming the file; missing ∧ optional → skipped), `loadLabelFile`,
`loadMappingFile`, `fileIsMissing` (ErrNotExist or ENOTDIR).  A cache, a reordered test or a swallowed error in any of
them (seeded change C01-8: an "absent" cache shared by the references) breaks this obligation. -/
theorem service_file_readers_are_source :
    CV.Gen.c01_body_WithServicesEnvironmentResolved =
      "{ newProject := p.deepCopy() for i, service := range newProject.Services { service.Environment = service.Environment.Resolve(newProject.Environment.Resolve) environment := MappingWithEquals{} var resolve dotenv.LookupFn = func(s string) (string, bool) { v, ok := environment[s] if ok && v != nil { return *v, ok } return newProject.Environment.Resolve(s) } for _, envFile := range service.EnvFiles { vars, err := loadEnvFile(envFile, resolve) if err != nil { return nil, err } environment.OverrideBy(vars.ToMappingWithEquals()) } service.Environment = environment.OverrideBy(service.Environment) if discardEnvFiles { service.EnvFiles = nil } newProject.Services[i] = service } return newProject, nil }" ∧
    CV.Gen.c01_body_WithServicesLabelsResolved =
      "{ newProject := p.deepCopy() for i, service := range newProject.Services { labels := MappingWithEquals{} var resolve dotenv.LookupFn = func(s string) (string, bool) { v, ok := labels[s] if ok && v != nil { return *v, ok } return \"\", false } for _, labelFile := range service.LabelFiles { vars, err := loadLabelFile(labelFile, resolve) if err != nil { return nil, err } labels.OverrideBy(vars.ToMappingWithEquals()) } labels = labels.OverrideBy(service.Labels.ToMappingWithEquals()) if len(labels) == 0 { labels = nil } else { service.Labels = NewLabelsFromMappingWithEquals(labels) } if discardLabelFiles { service.LabelFiles = nil } newProject.Services[i] = service } return newProject, nil }" ∧
    CV.Gen.c01_body_loadEnvFile =
      "{ if _, err := os.Stat(envFile.Path); fileIsMissing(err) { if envFile.Required { return nil, fmt.Errorf(\"env file %s not found: %w\", envFile.Path, err) } return nil, nil } return loadMappingFile(envFile.Path, envFile.Format, resolve) }" ∧
    CV.Gen.c01_body_loadLabelFile =
      "{ if _, err := os.Stat(labelFile); fileIsMissing(err) { return nil, fmt.Errorf(\"label file %s not found: %w\", labelFile, err) } return loadMappingFile(labelFile, \"\", resolve) }" ∧
    CV.Gen.c01_body_loadMappingFile =
      "{ file, err := os.Open(path) if err != nil { return nil, err } defer file.Close() var fileVars map[string]string if format != \"\" { fileVars, err = dotenv.ParseWithFormat(file, path, resolve, format) } else { fileVars, err = dotenv.ParseWithLookup(file, resolve) } if err != nil { return nil, err } return fileVars, nil }" ∧
    CV.Gen.c01_body_fileIsMissing =
      "{ return errors.Is(err, fs.ErrNotExist) || errors.Is(err, syscall.ENOTDIR) }" :=
  ⟨rfl, rfl, rfl, rfl, rfl, rfl⟩

end CV.C01.Source
