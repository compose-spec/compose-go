import ComposeVerif.Lemmas.Interp
import ComposeVerif.Lemmas.Path
import ComposeVerif.Lemmas.TablesExclusive
import ComposeVerif.Gen.Schema
import ComposeVerif.Model.SchemaPaths
import ComposeVerif.Model.InterpTyped
import ComposeVerif.Gen.Types
import ComposeVerif.Gen.C08Facts
/-!
# C08 — obligations on the regenerated tables (`loader/interpolate.go`, package `types`, the schema; re-checked on every run)

Every typed attribute is reachable by a variable: it has a cast row, or a decode-time conversion.  The file also holds the
definitions that say what that means — `schemaCompatible`, `projectLeaves`, `TypedLeaf.rowPath`, and `notInSchema`, the five
struct fields exempted by hand from `typed_paths_covered`.

The statements about `Gen.castTable`, `Gen.structs` and `Gen.composeSchema` are finite facts about
regenerated tables, and evaluation by the kernel is their proof.  Nearly all of that evaluation is comparison of strings
(struct and field names, schema keys, path parts), and the kernel remembers what it has evaluated only within one
declaration: so the tables are walked once, in `tables_checked`; `rows_known`, `rows_expected`,
`cast_rows_schema_compatible`, `typed_paths_covered`, `short_forms_covered`, `cast_hook_agrees_with_table` and the two counts
of the leaves are its clauses (`castTable_exclusive` is a clause of `Gen.tables_exclusive`, shared with the other rule tables; in
`typed_paths_covered` and `cast_hook_agrees_with_table` with the disjuncts in another order: the kernel's `||` stops
at the first that holds, so the cheap one comes first). -/
namespace CV.Interp
open CV CV.TPath

/-- cast rows sit where the schema admits a string (so that `${V}` passes validation after the cast made it typed)
    *and* the caster's result type (so that the cast value passes validation) -/
def schemaCompatible (c : Caster) (tys : List CV.Schema.Ty) : Bool :=
  tys.contains .string &&
  match c.kind with
  | some .int => tys.contains .integer || tys.contains .number
  | some .float => tys.contains .number || tys.contains .integer
  | some .bool => tys.contains .boolean
  | none => false

/-- the typed leaves (bool / int / uint / float, Duration, UnitBytes, NanoCPUs, DeviceCount) of `types.Project`, from the
    regenerated struct descriptors -/
def projectLeaves : List TypedLeaf := typedLeaves CV.Gen.structs CV.Gen.namedTypes CV.Gen.customMethods "Project"

/-- the scalar short form of a self-decoding struct is stored in a pseudo field (`UlimitsConfig.Single`): its row is the
    row of the struct's own path -/
def TypedLeaf.rowPath (l : TypedLeaf) : List String :=
  if l.path.getLast? = some "single" then l.path.dropLast else l.path

/-- struct fields that are not attributes of the Compose schema at all (the plain literal is rejected there:
    "Additional property … is not allowed"; the oracle `c08typed` asserts exactly that on the real loader for these
    paths).  At the two `single` pseudo fields the kernel cannot evaluate `Schema.kindsAt` (`String.startsWith` on the
    undeclared key), hence the explicit list; at the other three it evaluates to `[]`. -/
def notInSchema : List (List String) := [
  ["services", "*", "build", "ulimits", "*", "single"],
  ["services", "*", "ulimits", "*", "single"],
  ["services", "*", "deploy", "resources", "limits", "devices", "[]", "count"],
  ["services", "*", "deploy", "resources", "limits", "generic_resources", "[]", "discrete_resource_spec", "value"],
  ["services", "*", "deploy", "resources", "reservations", "pids"]]

theorem tables_checked :
    ((∀ row ∈ CV.Gen.castTable, (Caster.ofName row.2).known = true) ∧
      (∀ row ∈ expectedRows, (row.1, row.2) ∈ CV.Gen.castTable.map (fun r => (r.1, Caster.ofName r.2))) ∧
      ∀ row ∈ CV.Gen.castTable,
        schemaCompatible (Caster.ofName row.2) (CV.Schema.kindsAt CV.Gen.composeSchema row.1) = true) ∧
    (projectLeaves.length = 93 ∧ (projectLeaves.filter (fun l => !notInSchema.contains l.path)).length = 88) ∧
    (projectLeaves.filter (fun l => !notInSchema.contains l.path)).all (fun l =>
      l.decodeConverts CV.Gen.c08_castHook || CV.Gen.castTable.any (fun r => r.1 == l.rowPath) ||
      !(CV.Schema.kindsAt CV.Gen.composeSchema l.path).contains .string) = true ∧
    (projectLeaves.filter (fun l => l.path.getLast? = some "single")).all (fun l =>
      CV.Gen.castTable.any (fun r => r.1 == l.rowPath)) = true ∧
    projectLeaves.all (fun l => match l.conv with
      | .hook k => CV.Gen.castTable.all (fun r =>
          (match CV.Gen.c08_castHook.find? (fun h => h.1 == k) with
           | some h => (Caster.ofName h.2).kind == (Caster.ofName r.2).kind
           | none => true) || r.1 != l.path)
      | _ => true) = true := by
  decide +kernel

/-- every caster named in the table is one of the five modelled functions -/
theorem rows_known : ∀ row ∈ CV.Gen.castTable, (Caster.ofName row.2).known = true := tables_checked.1.1

theorem castTable_exclusive : PairwiseExclusive CV.Gen.castTable := CV.Gen.tables_exclusive.2.2.2.2.2.2

/-- hence Go's random iteration order over the table cannot change which caster applies -/
theorem cast_lookup_perm (t' : Table) (hp : t'.Perm CV.Gen.castTable) (p : TPath) :
    firstMatch t' p = firstMatch CV.Gen.castTable p :=
  firstMatch_perm castTable_exclusive hp p

/-- every expected typed path (`Spec.expectedRows`, the list `pinnedCastRows` of the harness) has its row, with a caster of the
    expected kind -/
theorem rows_expected : ∀ row ∈ expectedRows,
    (row.1, row.2) ∈ CV.Gen.castTable.map (fun r => (r.1, Caster.ofName r.2)) := tables_checked.1.2.1

theorem cast_rows_schema_compatible : ∀ row ∈ CV.Gen.castTable,
    schemaCompatible (Caster.ofName row.2) (CV.Schema.kindsAt CV.Gen.composeSchema row.1) = true := tables_checked.1.2.2

/-- **no typed path is missing from both mechanisms** (the five struct fields of `notInSchema` set aside): wherever the
    regenerated schema admits a string at a typed leaf, the string is converted — by a row of the cast table, by the `cast` hook (its regenerated kind list), or by the
    type's own `DecodeMapstructure`; fields of a self-decoding struct (ulimits) need a row -/
theorem typed_paths_covered :
    (projectLeaves.filter (fun l => !notInSchema.contains l.path)).all (fun l =>
      !(CV.Schema.kindsAt CV.Gen.composeSchema l.path).contains .string ||
      CV.Gen.castTable.any (fun r => r.1 == l.rowPath) || l.decodeConverts CV.Gen.c08_castHook) = true := by
  -- with the disjuncts cheapest first the walk through the schema is needed only at the few leaves that neither the
  -- hook nor a row converts
  refine List.all_eq_true.2 fun l hl => ?_
  have h := List.all_eq_true.1 tables_checked.2.2.1 l hl
  rwa [Bool.or_comm, Bool.or_comm (l.decodeConverts _), ← Bool.or_assoc] at h

/-- the short forms: `ulimits.<name>: <scalar>` has a row wherever the struct is self-decoding -/
theorem short_forms_covered :
    (projectLeaves.filter (fun l => l.path.getLast? = some "single")).all (fun l =>
      CV.Gen.castTable.any (fun r => r.1 == l.rowPath)) = true := tables_checked.2.2.2.1

/-- every entry of the decode-time hook names a caster of the kind of its target (Bool; Int, Int64; Float32, Float64), and an
    entry for any other target would have to name an unknown caster -/
theorem cast_hook_known : ∀ r ∈ CV.Gen.c08_castHook,
    (Caster.ofName r.2).kind = (match r.1 with
      | "Bool" => some NumKind.bool | "Int" => some .int | "Int64" => some .int
      | "Float32" => some .float | "Float64" => some .float | _ => none) := by decide +kernel

/-- the two mechanisms never convert the same attribute to different kinds: where a cast row sits on a primitive leaf
    the hook also handles, both casters produce the same kind of value (and the integer / boolean casters are the very
    same functions, `toInt_eq_toInt64`) -/
theorem cast_hook_agrees_with_table :
    projectLeaves.all (fun l => match l.conv with
      | .hook k => CV.Gen.castTable.all (fun r => r.1 != l.path ||
          (match CV.Gen.c08_castHook.find? (fun h => h.1 == k) with
           | some h => (Caster.ofName h.2).kind == (Caster.ofName r.2).kind
           | none => true))
      | _ => true) = true := by
  -- in `tables_checked` the comparison of the two kinds comes before the comparison of the two paths
  refine List.all_eq_true.2 fun l hl => ?_
  have h := List.all_eq_true.1 tables_checked.2.2.2.2 l hl
  split at h
  · simpa only [Bool.or_comm] using h
  · rfl

/-- the hook, as a function: a string at a target kind it knows is converted by the row-independent caster; any other
    kind (e.g. `Uint32`) is left to mapstructure, which rejects a string for a numeric target -/
theorem decodeCast_spec (fp : FloatParser) (s : String) :
    decodeCast CV.Gen.c08_castHook fp "Bool" s = some ((parseBool s).map Val.bool) ∧
    decodeCast CV.Gen.c08_castHook fp "Int" s = some ((parseInt s).map Val.int) ∧
    decodeCast CV.Gen.c08_castHook fp "Int64" s = some ((parseInt s).map Val.int) ∧
    decodeCast CV.Gen.c08_castHook fp "Uint16" s = none ∧ decodeCast CV.Gen.c08_castHook fp "Uint32" s = none ∧
    decodeCast CV.Gen.c08_castHook fp "Uint64" s = none ∧ decodeCast CV.Gen.c08_castHook fp "String" s = none := by
  refine ⟨rfl, rfl, rfl, rfl, rfl, rfl, rfl⟩

/-- interpolation off ≡ interpolation on at a cast row whose leaf the hook also converts with the same caster: the
    decode-time value of a string is `castOnly` of it -/
theorem decode_time_is_castOnly (c : Cfg) (p : TPath) (name kind : String) (s : String) (v : Val)
    (hrow : firstMatch c.table p = some name) (hhook : (kind, name) ∈ CV.Gen.c08_castHook)
    (hd : decodeCast CV.Gen.c08_castHook c.fp kind s = some (some v)) : castOnly c p s = .ok v := by
  have hk : decodeCast CV.Gen.c08_castHook c.fp kind s = some ((Caster.ofName name).apply c.fp s) := by
    simp only [CV.Gen.c08_castHook, List.mem_cons, Prod.mk.injEq, List.mem_nil_iff, or_false] at hhook
    rcases hhook with ⟨rfl, rfl⟩ | ⟨rfl, rfl⟩ | ⟨rfl, rfl⟩ | ⟨rfl, rfl⟩ | ⟨rfl, rfl⟩ <;> rfl
  rw [hk] at hd
  simp only [Option.some.injEq] at hd
  rw [castOnly_some hrow, hd]

/-- `typed_paths_covered` is about 93 leaves, 88 of them in the schema -/
example : projectLeaves.length = 93 ∧ (projectLeaves.filter (fun l => !notInSchema.contains l.path)).length = 88 := tables_checked.2.1

/-- `cast_lookup_perm`: the reversed table is a permutation -/
example : (CV.Gen.castTable.reverse).Perm CV.Gen.castTable := List.reverse_perm _

end CV.Interp
