import ComposeVerif.Model.DotenvGlue
import ComposeVerif.Lemmas.DotenvFiles
import ComposeVerif.Gen.Dotenv
/-!
# C18 — the glue around the parser: entry points and the format registry

Tied to the code by the `dotenvGlue` stream (every entry point must give the outcome of `UnmarshalWithLookup`; an
unregistered format is an error with a nil map) and by the regenerated bodies below.
-/
namespace CV.Dotenv
open CV CV.Template

/-- the printed bodies of the six glue functions, regenerated on every run, are the ones the model mirrors -/
theorem glue_functions_are_source :
    CV.Gen.dotenv_body_Parse = "{ return ParseWithLookup(r, nil) }" ∧
    CV.Gen.dotenv_body_UnmarshalBytesWithLookup = "{ return UnmarshalWithLookup(string(src), lookupFn) }" ∧
    CV.Gen.dotenv_body_ReadFile = "{ file, err := os.Open(filename) if err != nil { return nil, err } defer file.Close() return ParseWithLookup(file, lookupFn) }" ∧
    CV.Gen.dotenv_body_Read = "{ return ReadWithLookup(nil, filenames...) }" ∧
    CV.Gen.dotenv_body_RegisterFormat = "{ formats[format] = p }" ∧
    CV.Gen.dotenv_body_ParseWithFormat = "{ parser, ok := formats[format] if !ok { return nil, fmt.Errorf(\"unsupported env_file format %q\", format) } return parser(r, filename, resolve) }" :=
  ⟨rfl, rfl, rfl, rfl, rfl, rfl⟩

/-- every entry point is the parser on the contents without one leading BOM: no entry point panics -/
theorem parseWithLookup_never_panics (src : Str) (lookup : Env) (s : Site) : parseWithLookup src lookup ≠ .panic s :=
  parse_ne_panic _ lookup s

/-- a file without BOM: `ParseWithLookup` is `UnmarshalWithLookup` -/
theorem parseWithLookup_noBOM (src : Str) (lookup : Env) (h : src.head? ≠ some '\uFEFF') :
    parseWithLookup src lookup = parse src lookup := by
  rw [parseWithLookup, stripBOM_of_head src h]

/-- a leading BOM is removed -/
theorem parseWithLookup_BOM (src : Str) (lookup : Env) : parseWithLookup ('\uFEFF' :: src) lookup = parse src lookup := rfl

/-- `ParseWithFormat` after `RegisterFormat`: the registered parser is called with the contents and the lookup unchanged -/
theorem parseWithFormat_registered (fs : Formats) (f : String) (p : FormatParser) (src : Str) (lookup : Env) :
    parseWithFormat (registerFormat fs f p) f src lookup = some (p src lookup) := by
  simp [parseWithFormat, registerFormat, List.lookup]

/-- registering one format leaves every other format as it was -/
theorem parseWithFormat_other (fs : Formats) (f g : String) (p : FormatParser) (src : Str) (lookup : Env) (h : g ≠ f) :
    parseWithFormat (registerFormat fs f p) g src lookup = parseWithFormat fs g src lookup := by
  have hl : ∀ l : Formats, (l.filter (fun e => e.1 != f)).lookup g = l.lookup g := by
    intro l
    induction l with
    | nil => rfl
    | cons e r ih =>
      obtain ⟨a, q⟩ := e
      by_cases he : a = f
      · subst he
        have hg : (g == a) = false := by simp [h]
        simp only [List.filter, bne_self_eq_false, List.lookup, hg, ih]
      · have : (a != f) = true := by simp [he]
        simp only [List.filter, this, List.lookup, ih]
  have hgf : (g == f) = false := by simp [h]
  simp only [parseWithFormat, registerFormat, List.lookup, hgf, hl]

/-- with an empty registry every format is the "unsupported env_file format" error, whatever the contents -/
theorem parseWithFormat_unregistered (src : Str) (lookup : Env) (f : String) : parseWithFormat [] f src lookup = none := rfl

/-- the dotenv parser behind the registry never panics either -/
theorem parseWithFormat_dotenv_never_panics (fs : Formats) (f : String) (src : Str) (lookup : Env) (s : Site) :
    parseWithFormat (registerFormat fs f parseWithLookup) f src lookup ≠ some (.panic s) := by
  rw [parseWithFormat_registered]
  intro h
  exact parseWithLookup_never_panics src lookup s (Option.some.inj h)

example : parseWithFormat (registerFormat (registerFormat [] "a" (fun _ _ => .ok [])) "a" parseWithLookup) "a" ['K', '=', 'v'] (fun _ => none) =
    some (.ok [(['K'], ['v'])]) := by decide +kernel

end CV.Dotenv
