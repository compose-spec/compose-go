import ComposeVerif.Model.RenderHistory
import ComposeVerif.Props.C20
/-!
# C09 — which renderings were made before does not matter

Model: `Model/RenderHistory.lean` over `Secrets.applyHeap` / `Secrets.render`.
The property speaks about "rendering a loaded project"; a project value is rendered many times by its consumers, with
different options.  Proved for every history of calls (any length, any mix of YAML / JSON, with / without
`WithSecretContent`) on any heap: the caller's project holds afterwards what it held before, and every rendering of
the history is the rendering the same call gives on a freshly loaded project.  The oracle stream `c09.history`
decides the same three statements on the real code (deep comparison of the project before / after each call, bytes
against a freshly loaded project's, reload of each plain rendering).
-/
namespace CV.History
open CV CV.Secrets

/-- `marshallOptions.apply`, `applyMarshallOptions` and the first statements of both project marshallers are the ones
the model mirrors (bodies regenerated from types/project.go on every run): `apply` flags the secrets of `p.deepCopy()`,
both marshallers encode what `applyMarshallOptions` returns.  An edit of how the options reach the encoder breaks this. -/
theorem history_model_is_source :
    CV.Gen.Secrets.body_marshallOptions_apply =
      "{ if opt.secretsContent { p = p.deepCopy() for name, config := range p.Secrets { config.marshallContent = true p.Secrets[name] = config } } return p }" ∧
    CV.Gen.Secrets.body_applyMarshallOptions =
      "{ opts := &marshallOptions{} for _, option := range options { option(opts) } p = opts.apply(p) return p }" ∧
    CV.Gen.Secrets.body_Project_MarshalYAML =
      "{ buf := bytes.NewBuffer([]byte{}) encoder := yaml.NewEncoder(buf) encoder.SetIndent(2) src := applyMarshallOptions(p, options...) err := encoder.Encode(src) if err != nil { return nil, err } return buf.Bytes(), nil }" ∧
    CV.Gen.Secrets.project_MarshalJSON_secrets_configs.head? = some "src := applyMarshallOptions(p, options...)" ∧
    CV.Gen.Secrets.project_MarshalJSON_receiver_uses = [] :=
  -- the same pins as C20's, which speaks about what one rendering shows
  ⟨renderers_are_modelled.2.2.2.2.2.1, renderers_are_modelled.2.2.2.2.2.2.2, project_renderers_are_modelled.1,
    congrArg List.head? project_renderers_are_modelled.2.1, project_renderers_are_modelled.2.2⟩

/-- `apply` never frees an address: the caller's map stays allocated -/
theorem apply_next_le (b : Bool) (h : Heap) (p : Nat) : h.next ≤ (applyHeap b h p).1.next := by
  unfold applyHeap
  split
  · simp [Heap.copyMap, Heap.set]
  · exact Nat.le_refl _

/-- one `apply` leaves the caller's `Secrets` map as it was (the heap clause of `marshallOptions.apply`) -/
theorem apply_keeps_caller (b : Bool) (h : Heap) (p : Nat) (hp : p < h.next) : (applyHeap b h p).1.get p = h.get p :=
  render_pure b h p hp

/-- the map the encoder sees: the caller's own without the option, a flagged copy with it -/
theorem apply_encoded (b : Bool) (h : Heap) (p : Nat) :
    (applyHeap b h p).1.get (applyHeap b h p).2 = if b then setFlags (h.get p) else h.get p := by
  cases b
  · rfl
  · rw [(apply_result h p).1]; exact (apply_result h p).2.1

/-- one call renders what a fresh project renders -/
theorem call_is_fresh (cfgs : List (String × FileObj)) (c : Call) (h : Heap) (p : Nat) :
    (callWith applyHeap cfgs c h p).2 = fresh cfgs (h.get p) c := by
  simp only [callWith, fresh, encode, apply_encoded]
  cases c.content <;> rfl

/-- **the caller's project is not written to by any history of renderings** -/
theorem history_keeps_project (cfgs : List (String × FileObj)) (cs : List Call) (h : Heap) (p : Nat) (hp : p < h.next) :
    (run cfgs cs h p).1.get p = h.get p ∧ h.next ≤ (run cfgs cs h p).1.next := by
  induction cs generalizing h with
  | nil => exact ⟨rfl, Nat.le_refl _⟩
  | cons c cs ih =>
    have hle := apply_next_le c.content h p
    have := ih (applyHeap c.content h p).1 (Nat.lt_of_lt_of_le hp hle)
    simp only [run, runWith, callWith] at this ⊢
    exact ⟨this.1.trans (apply_keeps_caller c.content h p hp), Nat.le_trans hle this.2⟩

/-- **every rendering of a history equals the rendering of a freshly loaded project under the same options** -/
theorem history_renderings_fresh (cfgs : List (String × FileObj)) (cs : List Call) (h : Heap) (p : Nat) (hp : p < h.next) :
    (run cfgs cs h p).2 = cs.map (fresh cfgs (h.get p)) := by
  induction cs generalizing h with
  | nil => rfl
  | cons c cs ih =>
    have hle := apply_next_le c.content h p
    have hi := ih (applyHeap c.content h p).1 (Nat.lt_of_lt_of_le hp hle)
    have hc := call_is_fresh cfgs c h p
    simp only [run, runWith, List.map_cons] at hi ⊢
    rw [hc]
    simp only [callWith]
    rw [hi, apply_keeps_caller c.content h p hp]

/-- in particular a plain rendering made after any history is the plain rendering made before it: "rendering it again
gives identical bytes" holds across calls with other options in between -/
theorem plain_rendering_after_history (cfgs : List (String × FileObj)) (cs : List Call) (r : Renderer) (h : Heap) (p : Nat)
    (hp : p < h.next) :
    (callWith applyHeap cfgs ⟨r, false⟩ (run cfgs cs h p).1 p).2 = (callWith applyHeap cfgs ⟨r, false⟩ h p).2 := by
  rw [call_is_fresh, call_is_fresh, (history_keeps_project cfgs cs h p hp).1]

/-- non-vacuity: a heap with one project whose secret carries content; a history with both options -/
example :
    let s : FileObj := { name := "t", environment := "TOKEN", content := "s3cr3t" }
    let h : Heap := { maps := [(0, [("token", s)])], next := 1 }
    (run [] [⟨.yaml, true⟩, ⟨.json, false⟩, ⟨.yaml, false⟩] h 0).1.get 0 = [("token", s)] := by
  intro s h
  exact (history_keeps_project [] _ h 0 (by decide)).1

end CV.History
