import ComposeVerif.Lemmas.C02ExtendsX
import ComposeVerif.Lemmas.C02Fixtures
/-!
# C02 — `loader.ApplyExtends` with references into other files is independent of the visit order

`Model/C02ExtendsX.lean`: a main-file service that extends a service of another file is resolved from a *fresh load* of
that file every time it is reached, and — because `services[name] = merged` then writes into the other file's map — it
is **not memoised in the main map** when reached through a sibling.  The theorems say that this makes no difference:
the run is simulated step by step by the same-file algorithm (`CV.Det.applyOne / applyAll`: `applyExtends_perm` of
`Props/C02.lean`) on the map whose cross-file references are resolved up front, so every two complete visit orders fail
or succeed alike and give every service the same definition.  The closest wrong program (seeds C02-3 / C02-6) is refuted in `Neg/C02ExtendsX.lean`.
-/
namespace CV.Det.ExtX.Props
open CV CV.Det CV.Det.ExtX

variable {β : Type}

/-- **refinement**: resolving one service on the main map = resolving it with the same-file algorithm on the
pre-resolved map (same value, related maps); `bad` is any name that is not a service (what a failing cross-file
reference is turned into) -/
theorem applyServiceExtendsX_refines (mrg : β → β → β) (files : AL (AL (XSvc β))) (bad : String) (n : Nat)
    (m : AL (XS β)) (name : String) (hb : find bad m = none) :
    Sim mrg files bad (applyOneX mrg files n m name) (applyOne mrg n (preMap mrg files bad m) name) :=
  applyOneX_sim mrg files bad n m name hb

/-- the whole loop refines the same-file loop, for every visit order -/
theorem applyExtendsX_refines (mrg : β → β → β) (files : AL (AL (XSvc β))) (bad : String) (n : Nat) (order : List String)
    (m : AL (XS β)) (hb : find bad m = none) :
    (applyAllX mrg files n order m).map (preMap mrg files bad) = applyAll mrg n order (preMap mrg files bad m) :=
  applyAllX_sim mrg files bad n order m hb

/-- a service that has been resolved stays resolved (no later step puts a reference back) -/
theorem applyExtendsX_resolves_all (mrg : β → β → β) (files : AL (AL (XSvc β))) (n : Nat) (order : List String)
    (m mf : AL (XS β)) (h : applyAllX mrg files n order m = some mf) (x : String) (hx : x ∈ order) :
    ∃ b, find x mf = some (.none, b) := applyAllX_tagged mrg files n order m mf h x (.inr hx)

/-- **`ApplyExtends` with cross-file references does not depend on the order in which Go ranges over the services
map**: two complete visit orders fail or succeed alike and, on success, give every service the same definition -/
theorem applyExtendsX_order_independent (mrg : β → β → β) (files : AL (AL (XSvc β))) (bad : String) (m0 : AL (XS β))
    (hb : find bad m0 = none) {order order' : List String} (hp : order'.Perm order)
    (hall : ∀ x, (find x m0).isSome = true → x ∈ order) :
    (applyAllX mrg files (m0.length + 1) order' m0).isSome = (applyAllX mrg files (m0.length + 1) order m0).isSome ∧
    ∀ mf mf', applyAllX mrg files (m0.length + 1) order m0 = some mf →
      applyAllX mrg files (m0.length + 1) order' m0 = some mf' → ∀ x ∈ order, find x mf' = find x mf := by
  have hlen : (preMap mrg files bad m0).length = m0.length := by simp [preMap]
  have hall' : ∀ x, (find x (preMap mrg files bad m0)).isSome = true → x ∈ order := by
    intro x hx; rw [find_preMap, Option.isSome_map] at hx; exact hall x hx
  have hf : FuelEnough mrg (m0.length + 1) (preMap mrg files bad m0) := by
    rw [← hlen]; exact fuelEnough_length mrg _ 1
  have key := applyAll_perm mrg (m0.length + 1) (preMap mrg files bad m0) hf hp hall'
  have s1 := applyAllX_sim mrg files bad (m0.length + 1) order m0 hb
  have s2 := applyAllX_sim mrg files bad (m0.length + 1) order' m0 hb
  refine ⟨?_, ?_⟩
  · have := key.1
    rw [← s1, ← s2, Option.isSome_map, Option.isSome_map] at this
    exact this
  · intro mf mf' h h' x hx
    rw [h] at s1; rw [h'] at s2
    have hk := key.2 _ _ s1.symm s2.symm x
    rw [find_preMap, find_preMap] at hk
    obtain ⟨b, hbx⟩ := applyAllX_tagged mrg files _ order m0 mf h x (.inr hx)
    obtain ⟨b', hbx'⟩ := applyAllX_tagged mrg files _ order' m0 mf' h' x (.inr (hp.mem_iff.mpr hx))
    rw [hbx, hbx'] at hk ⊢
    simp only [Option.map_some, pre, Option.some.injEq, Prod.mk.injEq, true_and] at hk
    rw [hk]

/-- non-vacuity: the hypotheses hold for the witness of `Neg/C02ExtendsX.lean`, and the two orders do agree -/
example : find "⊥" CV.Det.Neg.ExtX.main = none ∧
    (∀ x, (find x CV.Det.Neg.ExtX.main).isSome = true → x ∈ ["a", "b"]) ∧
    applyAllX CV.Det.Neg.ExtX.mrg CV.Det.Neg.ExtX.files 3 ["a", "b"] CV.Det.Neg.ExtX.main =
      applyAllX CV.Det.Neg.ExtX.mrg CV.Det.Neg.ExtX.files 3 ["b", "a"] CV.Det.Neg.ExtX.main := by
  refine ⟨by decide, ?_, by decide⟩
  intro x hx
  simp only [CV.Det.Neg.ExtX.main, find] at hx
  by_cases ha : x = "a"
  · simp [ha]
  · by_cases hb : x = "b"
    · simp [hb]
    · simp [ha, hb] at hx

end CV.Det.ExtX.Props
