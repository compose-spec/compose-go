import ComposeVerif.Props.C04Rows
/-!
# C04 — `services.*.ulimits.*`: the closed form for a `{soft, hard}` mapping

`mergeUlimit` merges the later file's mapping *with itself* (`mergeMappings(o, o, p)`).  For a mapping whose keys are
distinct and whose values are scalars — every valid ulimit — that self-merge is the identity: **the later file's ulimit
replaces the earlier one as a whole** (`ulimit_mapping_replaces`).  With a nested list the self-merge doubles it
(`Neg.ulimit_list_doubled`), which is why the scalar hypothesis is needed.
-/
namespace CV.C04.Rows
open CV CV.Val CV.Merge CV.C04

def isScalar : Val → Bool
  | .seq _ => false
  | .map _ => false
  | _ => true

theorem scalar_self_merge (n : Nat) (v : Val) (p : TPath) (hp : ruleAt p = none) (hv : isScalar v = true) :
    mergeYaml (n + 1) v v p = .ok v := by
  cases v with
  | null => exact merge_null_keeps_base n _ p hp
  | seq _ | map _ => cases hv
  | _ => exact merge_scalar n _ _ p hp nofun ⟨nofun, nofun⟩

/-- the loop of `mergeMappings(a, r, p)` when every entry of `r` is already in `a` with the same scalar value -/
theorem mergeKVs_sub_self (n : Nat) (p : TPath) (hp : ∀ k, ruleAt (next p k) = none) (a : KVs) : ∀ r : KVs,
    (∀ k v, (k, v) ∈ r → lookup k a = some v ∧ isScalar v = true) → mergeKVs (n + 1) a r p = .ok a
  | [], _ => by simp [mergeKVs, mergeKVsWith]
  | (k, v) :: r, h => by
    obtain ⟨hl, hs⟩ := h k v (by simp)
    have ih := mergeKVs_sub_self n p hp a r (fun k' v' hm => h k' v' (by simp [hm]))
    simp only [mergeKVs] at ih ⊢
    simp only [mergeKVsWith, hl]
    split
    · rw [insert_of_lookup hl]; exact ih
    · rw [scalar_self_merge n v _ (hp k) hs]
      simp only [Out.bind]
      rw [insert_of_lookup hl]; exact ih

/-- **a `{soft, hard}` ulimit of the later file replaces the earlier one as a whole** — any service, any ulimit name,
whatever the earlier files held (a number, another mapping, nothing) -/
theorem ulimit_mapping_replaces (s u : String) (n : Nat) (e : Val) (kvs : KVs) (hnd : (keys kvs).Nodup)
    (hsc : ∀ k v, (k, v) ∈ kvs → isScalar v = true) :
    mergeYaml (n + 2) e (.map kvs) ["services", s, "ulimits", u] = .ok (.map kvs) := by
  have hlong : ∀ k, ruleAt (next ["services", s, "ulimits", u] k) = none := by
    intro k
    apply ruleAt_long
    simp [next, TPath.root]
  have := mergeKVs_sub_self n ["services", s, "ulimits", u] hlong kvs kvs
    (fun k v hm => ⟨lookup_of_mem hnd hm, hsc k v hm⟩)
  simp only [mergeYaml_succ_special (ulimit_rule s u), specialStep, this, Out.bind]

example : mergeYaml 2 (.int 5) (.map [("soft", .int 10), ("hard", .int 20)]) ["services", "web", "ulimits", "nofile"]
    = .ok (.map [("soft", .int 10), ("hard", .int 20)]) :=
  ulimit_mapping_replaces "web" "nofile" 0 _ _ (by decide) (by intro k v h; simp at h; rcases h with ⟨_, rfl⟩ | ⟨_, rfl⟩ <;> rfl)

end CV.C04.Rows
