import ComposeVerif.Model.IncludePipe
import ComposeVerif.Props.C06
/-!
# C06 — the executable world of the driver: more fuel never changes an answer

`loadYaml D n` is the sub-load used by the correspondence driver; `n` bounds the nesting depth.  A successful load
with fuel `n` is the same load with any larger fuel, so the fuel the driver passes (number of files + 2) is not
part of the semantics being compared with the real loader.  Second part: that sub-load ends with the included branch of
`loadYamlModel` (`resolveModelEnv true`), the same files loaded on their own with the other branch.
-/
namespace CV.Include
open CV CV.Val

theorem worldOf_withLoad (D : FSData) (lm lm' : LoadFn) : (worldOf D lm).withLoad lm' = worldOf D lm' := by
  simp only [World.withLoad, worldOf]

theorem applyInclude_worldOf_mono (D : FSData) {lm lm' : LoadFn} (hle : LoadLe lm lm') (wd L : String) (env : Env)
    (chain : List String) (model : KVs) :
    OkLe (applyInclude (worldOf D lm) wd L env chain model) (applyInclude (worldOf D lm') wd L env chain model) :=
  worldOf_withLoad D lm lm' ▸ include_nested_mono (worldOf D lm) lm' hle wd L env chain model

theorem loadDocs_mono (D : FSData) {lm lm' : LoadFn} (hle : LoadLe lm lm') (wd L : String) (env : Env) (chain : List String) :
    ∀ (docs : List Val) (dict : KVs),
      OkLe (loadDocs (worldOf D lm) wd L env chain docs dict) (loadDocs (worldOf D lm') wd L env chain docs dict)
  | [], _ => .refl
  | v :: rest, _ => by
    cases v with
    | map _ =>
      exact .bind .refl fun _ => .bind (applyInclude_worldOf_mono D hle _ _ _ _ _) fun _ =>
        loadDocs_mono D hle wd L env chain rest _
    | _ => exact .refl

theorem loadFiles_mono (D : FSData) {lm lm' : LoadFn} (hle : LoadLe lm lm') (wd L : String) (env : Env) (chain : List String) :
    ∀ (files : List String) (dict : KVs),
      OkLe (loadFiles D (worldOf D lm) wd L env chain files dict) (loadFiles D (worldOf D lm') wd L env chain files dict)
  | [], _ => .refl
  | f :: rest, dict => by
    simp only [loadFiles]
    split
    · exact .refl
    · split
      · exact .refl
      · exact .bind (loadDocs_mono D hle _ _ _ _ _ _) fun _ => loadFiles_mono D hle wd L env chain rest _

theorem loadYaml_fuel_succ (D : FSData) : ∀ n, LoadLe (loadYaml D n) (loadYaml D (n + 1))
  | 0 => fun _ _ _ _ _ => .of_bad nofun
  | n + 1 => fun _ _ _ _ _ => .bind (loadFiles_mono D (loadYaml_fuel_succ D n) _ _ _ _ _ _) fun _ => .refl

theorem loadYaml_fuel_mono (D : FSData) (n m : Nat) (hnm : n ≤ m) : LoadLe (loadYaml D n) (loadYaml D m) :=
  fun a b c d e => .of_succ (run := fun n => loadYaml D n a b c d e) (fun n => loadYaml_fuel_succ D n a b c d e) hnm

/-- the driver's top-level call: `applyInclude` in the world with fuel `n` agrees with any larger fuel -/
theorem applyInclude_fuel_mono (D : FSData) (n m : Nat) (hnm : n ≤ m) (wd L : String) (env : Env) (chain : List String)
    (model r : KVs) (h : applyInclude (world D n) wd L env chain model = .ok r) :
    applyInclude (world D m) wd L env chain model = .ok r :=
  (applyInclude_worldOf_mono D (loadYaml_fuel_mono D n m hnm) wd L env chain model).ok h

/-! ## the sub-load *is* the included branch of `loadYamlModel` -/

theorem loadYaml_is_included_branch (D : FSData) (n : Nat) (wd L : String) (files : List String) (env : Env) (chain : List String) :
    loadYaml D (n + 1) wd L files env chain =
      ((loadFiles D (worldOf D (loadYaml D n)) wd L env chain files []).bind fun dict =>
        (resolvePaths D.home wd dict).bind fun r => .ok (sortKVs' (resolveModelEnv true env r))) := rfl

/-- the sub-load of an include entry and the same files loaded on their own come from one model `r` (merged,
interpolated, paths resolved) and differ only in the last statement: `included_branch_*` relate the two -/
theorem loadYaml_included_vs_own (D : FSData) (n : Nat) (wd L : String) (files : List String) (env : Env) (a b : KVs)
    (hi : loadYaml D (n + 1) wd L files env [] = .ok a) (ho : loadYamlOwn D n wd L files env = .ok b) :
    ∃ r, a = sortKVs' (resolveModelEnv true env r) ∧ b = sortKVs' (resolveModelEnv false env r) := by
  rw [loadYaml_is_included_branch] at hi
  unfold loadYamlOwn at ho
  obtain ⟨dict, h1, hi⟩ := bind_eq_ok hi
  obtain ⟨r, h2, hi⟩ := bind_eq_ok hi
  simp only [h1] at ho
  obtain ⟨dict', h1', ho⟩ := bind_eq_ok ho
  cases h1'
  simp only [h2] at ho
  obtain ⟨r', h2', ho⟩ := bind_eq_ok ho
  cases h2'
  cases hi
  cases ho
  exact ⟨r, rfl, rfl⟩

end CV.Include
