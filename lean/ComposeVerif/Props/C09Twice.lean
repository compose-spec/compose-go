import ComposeVerif.Props.C11Keys
/-!
# C09 — an entity spelled twice: the reload of the rendering collapses nothing more

Models: `Model/C11Keys.lean` (`portIndexer`, `mountIndexer`, `envFileIndexer`, the sequence
branch of `enforceUnicity`) and the defaults of `Model/C11Defaults.lean` — tied to override/uncity.go and
transform/*.go by C11's regenerated bodies and streams; this module states the clause **C09** needs from them.

A loaded project holds, for `ports` / `secrets` / `env_file`, the list `ys` that `EnforceUnicity` left, with the
defaults written out (`ys.map f`).  The rendering spells every entry in long syntax with its defaults, and the reload
runs `EnforceUnicity` and the defaults on that list again.  The round trip needs the reload to be a **fixed point**:
no entry collapses into another one and no entry changes.  This holds because the unicity key does not depend on the
spelling (`key (f x) = key x`, C11) — and fails as soon as the key of the long form leaves a default out
(witness: `Neg/C09Twice.lean`, a `portIndexer` whose long-form key leaves `protocol` out).
-/
namespace CV.C11
open CV CV.Val

/-- `portIndexer` is the function `portKey` mirrors: `host_ip` defaults to 0.0.0.0 and `protocol` to tcp inside the key -/
theorem port_indexer_is_source :
    CV.Gen.c11_body_portIndexer =
      "{ switch value := y.(type) { case int: return strconv.Itoa(value), nil case map[string]any: target, ok := value[\"target\"] if !ok { return \"\", fmt.Errorf(\"service ports %s is missing a target port\", p) } published, ok := value[\"published\"] if !ok { if pub, ok := value[\"published\"]; ok { published = fmt.Sprintf(\"%d\", pub) } } host, ok := value[\"host_ip\"] if !ok { host = \"0.0.0.0\" } protocol, ok := value[\"protocol\"] if !ok { protocol = \"tcp\" } return fmt.Sprintf(\"%s:%v:%v/%s\", host, published, target, protocol), nil case string: return value, nil } return \"\", nil }" := indexers_are_source.1

/-- **a list whose entries have pairwise distinct keys passes `EnforceUnicity` unchanged** -/
theorem enforceSeq_distinct_id (key : Val → Out String) (ys : List Val) (ks : List String)
    (hk : ys.map key = ks.map Out.ok) (hnd : ks.Nodup) : enforceSeq key ys = .ok ys := by
  have hl : ks.length = ys.length := by simpa using (congrArg List.length hk).symm
  have hz : Assoc.keys (ks.zip ys) = ks := List.map_fst_zip (Nat.le_of_eq hl)
  rw [enforceSeq, uniqAcc_eq key ys ks [] hk, Assoc.insertAll_append (hz.symm ▸ hnd) (fun _ _ h => by cases h)]
  simp [Out.map, List.map_snd_zip (Nat.le_of_eq hl.symm)]

/-- what `EnforceUnicity` returns is a fixed point of `EnforceUnicity` -/
theorem enforceSeq_idem (key : Val → Out String) (xs ys : List Val) (h : enforceSeq key xs = .ok ys) :
    enforceSeq key ys = .ok ys :=
  let ⟨ks, hk, hnd⟩ := enforceSeq_ok_keys key xs ys h
  enforceSeq_distinct_id key ys ks hk hnd

/-- **reload fixed point**, for any key and any rewriting `f` of entries (the defaults written out) that leaves keys
alone and is idempotent: the list the project holds (`ys.map f`, `ys` what `EnforceUnicity` left of the merged files)
goes through `EnforceUnicity` and `f` unchanged — the reload of the rendering neither collapses nor alters an entry. -/
theorem reload_fixed_point (key : Val → Out String) (f : Val → Val) (hk : ∀ x, key (f x) = key x) (hf : ∀ x, f (f x) = f x)
    (xs ys : List Val) (h : enforceSeq key xs = .ok ys) :
    (enforceSeq key (ys.map f)).map (List.map f) = .ok (ys.map f) := by
  rw [enforceSeq_commutes key f hk, enforceSeq_idem key xs ys h]
  simp [Out.map, hf]

theorem portDefaultsV_idem (x : Val) : portDefaultsV (portDefaultsV x) = portDefaultsV x := by
  cases x with
  | map m =>
    simp only [portDefaultsV]
    congr 1
    have h1 : lookup "protocol" (setIfAbsent "mode" (.str "ingress") (setIfAbsent "protocol" (.str "tcp") m)) =
        some ((lookup "protocol" m).getD (.str "tcp")) := by
      rw [lookup_setIfAbsent_ne (by decide), lookup_setIfAbsent_self]
    have h2 : lookup "mode" (setIfAbsent "mode" (.str "ingress") (setIfAbsent "protocol" (.str "tcp") m)) =
        some ((lookup "mode" (setIfAbsent "protocol" (.str "tcp") m)).getD (.str "ingress")) := lookup_setIfAbsent_self _ _ _
    rw [setIfAbsent_of_some h1, setIfAbsent_of_some h2]
  | _ => rfl

/-- **ports**: one port spelled twice (short and long syntax, with and without `protocol` / `mode`, in one list or in
merged files) is collapsed by the first load; the rendering of the result reloads to itself -/
theorem ports_reload_fixed_point (xs ys : List Val) (h : enforceSeq portKey xs = .ok ys) :
    (enforceSeq portKey (ys.map portDefaultsV)).map (List.map portDefaultsV) = .ok (ys.map portDefaultsV) :=
  reload_fixed_point portKey portDefaultsV port_key_defaults_invariant portDefaultsV_idem xs ys h

/-- non-vacuity, and the input class of the oracle stream `twice:entries:ports`: `"8080:80"` as `transformPorts`
canonicalises it, and the same port in long syntax without `protocol`, are one port; its rendering is a fixed point -/
example :
    let short : Val := .map [("mode", .str "ingress"), ("target", .int 80), ("published", .str "8080"), ("protocol", .str "tcp")]
    let long : Val := .map [("target", .int 80), ("published", .str "8080")]
    enforceSeq portKey [short, long] = .ok [long] ∧
    (enforceSeq portKey ([long].map portDefaultsV)).map (List.map portDefaultsV) = .ok ([long].map portDefaultsV) := by
  intro short long
  have h : enforceSeq portKey [short, long] = .ok [long] :=
    restated_entry_is_one portKey short long "0.0.0.0:8080:80/tcp" (by rfl) (by rfl)
  exact ⟨h, ports_reload_fixed_point _ _ h⟩

theorem secretDefaultsV_idem (x : Val) : secretDefaultsV (secretDefaultsV x) = secretDefaultsV x := by
  cases x with
  | map m =>
    simp only [secretDefaultsV]
    congr 1
    exact setIfAbsent_of_some (lookup_setIfAbsent_self "target" (.str ("/run/secrets/" ++ fmtS (lookup "source" m))) m)
  | _ => rfl

theorem envFileValue_idem (x : Val) : envFileValue (envFileValue x) = envFileValue x := by
  cases x with
  | map m =>
    simp only [envFileValue]
    congr 1
    exact setIfAbsent_of_some (lookup_setIfAbsent_self "required" (.bool true) m)
  | str s => simp [envFileValue, setIfAbsent, lookup]
  | _ => rfl

/-- **service secrets**: `- s1` and `{source: s1}` / `{source: s1, target: /run/secrets/s1}` are one reference; the
rendering of what the first load kept reloads to itself -/
theorem secrets_reload_fixed_point (xs ys : List Val) (h : enforceSeq (mountKey "/run/secrets") xs = .ok ys) :
    (enforceSeq (mountKey "/run/secrets") (ys.map secretDefaultsV)).map (List.map secretDefaultsV) = .ok (ys.map secretDefaultsV) :=
  reload_fixed_point _ secretDefaultsV secret_key_defaults_invariant secretDefaultsV_idem xs ys h

/-- **env_file**: `./a.env` and `{path: ./a.env}` / `{path: ./a.env, required: true}` are one entry; likewise -/
theorem env_file_reload_fixed_point (xs ys : List Val) (h : enforceSeq envFileKey xs = .ok ys) :
    (enforceSeq envFileKey (ys.map envFileValue)).map (List.map envFileValue) = .ok (ys.map envFileValue) :=
  reload_fixed_point _ envFileValue env_file_key_defaults_invariant envFileValue_idem xs ys h

end CV.C11
