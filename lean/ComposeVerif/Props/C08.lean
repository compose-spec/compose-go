import ComposeVerif.Props.C08Tree
import ComposeVerif.Gen.Tables
import ComposeVerif.Gen.C08Facts
import ComposeVerif.Lemmas.InterpCustom
import ComposeVerif.Lemmas.ShortDecodeMore
/-!
# C08 — interpolation touches only string values and is type-transparent

The traversal and the casters (definitions: `Model/Interp.lean`, `Spec/Interp.lean`; helper lemmas: `Lemmas/Interp.lean`,
`Lemmas/C08Template.lean`, `Lemmas/InterpCustom.lean`); whole documents are in `Props/C08Tree.lean`, which this file imports,
the regenerated tables in `Props/C08Tables.lean`, the pins of the source text in `Props/C08Source.lean`.
All theorems hold for every tree (any depth / width), every environment, every path, every float parser
(`FloatParser` is the opaque `strconv.ParseFloat`), and — unless they name `CV.Gen.castTable` — every cast table.
-/
namespace CV.Interp
open CV CV.TPath

/-! ## 1. only string scalar values change -/

/-- keys (in order), list lengths, and every non-string scalar are preserved; a string becomes a scalar -/
theorem interp_keys_shape (c : Cfg) (p : TPath) (v v' : Val) (h : interp c p v = .ok v') : SameShape v v' :=
  interp_shape c v p v' h

/-- the top-level entry point `Interpolate`: same keys in the same order -/
theorem interpolate_keys (c : Cfg) (kvs kvs' : List (String × Val)) (h : interpolate c kvs = .ok kvs') :
    kvs'.map Prod.fst = kvs.map Prod.fst :=
  sameShapeKVs_keys _ _ (interpKVs_shape c kvs root kvs' h)

theorem interp_map_keys (c : Cfg) (p : TPath) (kvs : List (String × Val)) (v' : Val) (h : interp c p (.map kvs) = .ok v') :
    ∃ kvs', v' = .map kvs' ∧ kvs'.map Prod.fst = kvs.map Prod.fst := by
  have hs := interp_shape c _ p v' h
  simp only [SameShape] at hs
  obtain ⟨kvs', rfl, hk⟩ := hs
  exact ⟨kvs', rfl, sameShapeKVs_keys _ _ hk⟩

theorem interp_seq_length (c : Cfg) (p : TPath) (xs : List Val) (v' : Val) (h : interp c p (.seq xs) = .ok v') :
    ∃ xs', v' = .seq xs' ∧ xs'.length = xs.length := by
  have hs := interp_shape c _ p v' h
  simp only [SameShape] at hs
  obtain ⟨xs', rfl, hk⟩ := hs
  exact ⟨xs', rfl, sameShapeList_length _ _ hk⟩

/-- a non-string scalar is returned as it is, at every path, whatever the table says -/
theorem interp_nonstring_id (c : Cfg) (p : TPath) :
    interp c p .null = .ok .null ∧ (∀ b, interp c p (.bool b) = .ok (.bool b)) ∧
    (∀ i, interp c p (.int i) = .ok (.int i)) ∧ (∀ f, interp c p (.float f) = .ok (.float f)) :=
  ⟨by simp only [interp], fun _ => by simp only [interp], fun _ => by simp only [interp], fun _ => by simp only [interp]⟩

/-- a string value becomes exactly: its substitution, cast if (and only if) its path is on a row of the table -/
theorem interp_string_only_subst (c : Cfg) (p : TPath) (s : String) (v' : Val) (h : interp c p (.str s) = .ok v') :
    ∃ s', CV.Template.subst c.env s.toList = .ok s' ∧
      ((firstMatch c.table p = none ∧ v' = .str (String.ofList s')) ∨
       (∃ name, firstMatch c.table p = some name ∧ (Caster.ofName name).apply c.fp (String.ofList s') = some v')) := by
  simp only [interp] at h
  obtain ⟨s', hs, hc⟩ := leaf_ok_inv h
  exact ⟨s', hs, castOnly_ok_iff.1 hc⟩

/-- pointwise through a mapping: the entry under `k` is the interpolation of the old entry at `path.Next(k)` -/
theorem interp_map_lookup (c : Cfg) (p : TPath) (kvs kvs' : List (String × Val)) (h : interpKVs c p kvs = .ok kvs') (k : String) :
    match Val.lookup k kvs with
    | some v => ∃ v', Val.lookup k kvs' = some v' ∧ interp c (next p k) v = .ok v'
    | none => Val.lookup k kvs' = none := by
  have := walkKVs_lookup (leaf c) p kvs kvs' (interpKVs_eq_walk c kvs p ▸ h) k
  simp only [← interp_eq_walk] at this
  exact this

/-- pointwise through a sequence: item `i` is the interpolation of the old item at `path.Next("[]")` -/
theorem interp_seq_get (c : Cfg) (p : TPath) (xs xs' : List Val) (h : interpList c p xs = .ok xs') (i : Nat) :
    match xs[i]? with
    | some v => ∃ v', xs'[i]? = some v' ∧ interp c (next p "[]") v = .ok v'
    | none => xs'[i]? = none := by
  have := walkList_get (leaf c) p xs xs' (interpList_eq_walk c xs p ▸ h) i
  simp only [← interp_eq_walk] at this
  exact this

/-! ## 2. escaping: `$` ↦ `$$` with interpolation on gives back the original -/

/-- whole trees: writing every `$` of every value as `$$` and interpolating gives back the original tree,
    whatever the environment, when no string leaf lies on a cast row -/
theorem interp_escape_roundtrip (c : Cfg) (p : TPath) (v : Val) (h : NoCast c.table p v) :
    interp c p (escapeAll v) = .ok v :=
  -- the escaped tree is the tree with nothing substituted, and no string of it lies on a cast row
  (escape_document_typed c p v).trans (castTree_noCast c p v h)

/-- a `$`-free, cast-free tree is a fixed point of interpolation (interpolation on ≡ off) -/
theorem interp_dollar_free (c : Cfg) (p : TPath) (v : Val) (h : NoCast c.table p v)
    (hd : ∀ q s, (q, s) ∈ leaves p v → '$' ∉ s.toList) : interp c p v = .ok v :=
  (dollar_free_document_typed c p v hd).trans (castTree_noCast c p v h)

/-! ## 3. type transparency in the model: a variable is the literal -/

/-- **every form of the grammar at once**: a well-formed template (any nesting of `$V`, `${V}`, `${V:-…}`, `${V:+…}`,
    `${V:?…}`, `$$`, literal text) that the grammar evaluates to the text `t` denotes, at every path, exactly what
    the literal `t` denotes with nothing to substitute: same typed value, same cast error (by C07's refinement theorem `run_render`) -/
theorem template_is_literal (c : Cfg) (p : TPath) (tm : List CV.Template.Seg) (t : Str)
    (hwf : CV.Template.WF tm = true) (he : CV.Template.evalL c.env tm = .ok t) :
    leaf c p (String.ofList (CV.Template.renderL tm)) = castOnly c p (String.ofList t) :=
  leaf_isTemplateOf c p _ _ ⟨tm, hwf, rfl, by rw [String.toList_ofList]; exact he⟩

/-- `${NAME}` with NAME set to `t` -/
theorem var_is_literal (c : Cfg) (p : TPath) (n : Str) (t : String) (hn : CV.Template.validName n = true)
    (he : c.env n = some t.toList) :
    leaf c p (String.ofList ('$' :: '{' :: (n ++ ['}']))) = castOnly c p t :=
  leaf_isTemplateOf c p _ t (isTemplateOf_var c.env n t hn he)

/-- `pre${NAME}post`: the value is spliced between literal text (`pre`, `post` without `$`) -/
theorem split_is_literal (c : Cfg) (p : TPath) (n pre post v : Str) (hn : CV.Template.validName n = true)
    (hpre : CV.Template.litOkTop pre = true) (hpost : CV.Template.litOkTop post = true) (he : c.env n = some v) :
    leaf c p (String.ofList (pre ++ '$' :: '{' :: (n ++ ['}']) ++ post)) = castOnly c p (String.ofList (pre ++ v ++ post)) := by
  have := template_is_literal c p [.lit pre, .var n true, .lit post] (pre ++ v ++ post)
    (by simp [CV.Template.WF, CV.Template.wfL, CV.Template.Seg.wf, hn, hpre, hpost])
    (by simp [CV.Template.evalL, CV.Template.Seg.eval, he])
  simpa [CV.Template.renderL, CV.Template.Seg.render] using this

/-- `${UNSET:-literal}` (and `${EMPTY:-literal}`): the default is the value -/
theorem default_is_literal (c : Cfg) (p : TPath) (n d : Str) (hn : CV.Template.validName n = true)
    (hd : CV.Template.litOkArg d = true) (he : c.env n = none ∨ c.env n = some []) :
    leaf c p (String.ofList ('$' :: '{' :: (n ++ [':', '-'] ++ d ++ ['}']))) = castOnly c p (String.ofList d) := by
  have := template_is_literal c p [.op n .colonDash [.lit d]] d
    (by simp [CV.Template.WF, CV.Template.wfL, CV.Template.Seg.wf, hn, hd])
    (by rcases he with he | he <;> simp [CV.Template.evalL, CV.Template.Seg.eval, CV.Template.opSpec, he])
  simpa [CV.Template.renderL, CV.Template.Seg.render, CV.Template.Op.str] using this

/-- … and so does the literal `t` itself when it contains no `$`: same typed value, same error -/
theorem var_transparent (c : Cfg) (p : TPath) (n : Str) (t : String) (hn : CV.Template.validName n = true)
    (he : c.env n = some t.toList) (hd : '$' ∉ t.toList) :
    leaf c p (String.ofList ('$' :: '{' :: (n ++ ['}']))) = leaf c p t := by
  rw [var_is_literal c p n t hn he, leaf_dollar_free c p t hd]

/-- the two integer casters are the same function (both are `utils.ParseYAMLInt`, 64 bit) -/
theorem toInt_eq_toInt64 (fp : FloatParser) (s : String) : Caster.toInt.apply fp s = Caster.toInt64.apply fp s := rfl

/-- the YAML-1.1 boolean spellings — lower case, Capitalised, UPPER CASE — are accepted, near misses are not -/
theorem parseBool_yaml11 :
    (∀ w ∈ ["true", "True", "TRUE", "y", "Y", "yes", "Yes", "YES", "on", "On", "ON"], parseBool w = some true) ∧
    (∀ w ∈ ["false", "False", "FALSE", "n", "N", "no", "No", "NO", "off", "Off", "OFF"], parseBool w = some false) ∧
    (∀ w ∈ ["", "1", "0", "t", "f", "maybe", "truee", " true", "~", "null"], parseBool w = none) := by
  decide +kernel

/-- every text yaml.v3 resolves as a plain `!!int` literal (underscores, `0x`/`0o`/`0b`, leading-zero octal, signs) is read
    as the same integer by the casters, which is what a variable holding that text goes through (`Neg/C08.lean` has the
    witness `0440` against the decimal casters that `fix:` 3a17a23 replaced) -/
theorem literal_eq_variable_int (s : String) (i : Int) (h : yamlInt s = some i) : parseInt s = some i :=
  parseInt_of_yamlInt h

/-- the casters accept strictly more than YAML's integers only in one way: a text that is not valid octal is decimal -/
theorem parseInt_cases (s : String) (i : Int) (h : parseInt s = some i) :
    yamlIntCore (stripUnderscores s.toList) = some i ∨
    (yamlIntCore (stripUnderscores s.toList) = none ∧ parseIntDecimal (stripUnderscores s.toList) = some i) := by
  unfold parseInt at h
  split at h
  · rename_i j hj; cases h; exact .inl hj
  · rename_i hj; exact .inr ⟨hj, h⟩

/-- the spellings of the recorded findings, read as YAML reads them -/
theorem parseInt_yaml_spellings :
    parseInt "0440" = some 288 ∧ parseInt "0x10" = some 16 ∧ parseInt "0o17" = some 15 ∧ parseInt "0b11" = some 3 ∧
    parseInt "1_000" = some 1000 ∧ parseInt "-0x1F" = some (-31) ∧ parseInt "08" = some 8 ∧ parseInt "+7" = some 7 ∧
    parseInt "0" = some 0 ∧ parseInt "0x" = none ∧ parseInt "1e3" = none ∧ parseInt "" = none ∧ parseInt "_" = none ∧
    parseInt "9223372036854775808" = none ∧ parseInt "-9223372036854775808" = some (-9223372036854775808) := by
  decide +kernel

/-! ## 4. errors name the attribute path -/

/-- an error of the walk is the error of one string leaf, and carries that leaf's path -/
theorem cast_error_names_path (c : Cfg) (p : TPath) (v : Val) (e : Err) (h : interp c p v = .err e) :
    ∃ q s, (q, s) ∈ leaves p v ∧ leaf c q s = .err e ∧ e.path = pathString q := by
  obtain ⟨q, s, hm, hl⟩ := interp_err_leaf c v p e h
  exact ⟨q, s, hm, hl, leaf_err_path hl⟩

/-- a substituted text its caster rejects is a `cast` error at that path (never a silently kept string) -/
theorem cast_failure_is_error (c : Cfg) (p : TPath) (s : String) (s' : Str) (name : String)
    (hs : CV.Template.subst c.env s.toList = .ok s') (hm : firstMatch c.table p = some name)
    (hc : (Caster.ofName name).apply c.fp (String.ofList s') = none) :
    interp c p (.str s) = .err (.cast (pathString p)) := by
  rw [interp, leaf_of_subst hs, castOnly_some hm, hc]

/-- collect mode is sound: the error of the list-order walk is among the errors reachable under some map order -/
theorem interp_err_in_errs (c : Cfg) (p : TPath) (v : Val) (e : Err) (h : interp c p v = .err e) : e ∈ errs c p v :=
  ((errs_sound₃ c).1 v p).2 e h

theorem interp_ok_no_errs (c : Cfg) (p : TPath) (v v' : Val) (h : interp c p v = .ok v') : errs c p v = [] :=
  ((errs_sound₃ c).1 v p).1 v' h

/-! ## 5. the self-decoding numeric types (no cast row, no hook: `DeviceCount`, `NanoCPUs`, `UnitBytes`) -/

/-- on a canonical decimal numeral (digits, no leading zero) the casters read what the decimal readers read -/
theorem casters_decimal_on_canonical (ds : List Char) (h : CanonicalDecimal ds) :
    parseInt (String.ofList ds) = parseIntDecimal ds := by
  unfold parseInt
  rw [String.toList_ofList, strip_digits ds h.1, yamlIntCore_canonical ds h]
  cases parseIntDecimal ds <;> rfl

/-- on canonical decimal numerals `DeviceCount`'s own decoder reads a text as the casters — hence
    (`literal_eq_variable_int`) as yaml.v3 — read it; on other spellings it does not (`Neg/C08.lean:
    devicecount_literal_eq_variable_false`, witness `0440`; findings `typed:yaml-number-syntax:*:devicecount`) -/
theorem devicecount_literal_eq_variable_partial (ds : List Char) (h : CanonicalDecimal ds) :
    decodeDeviceCount (String.ofList ds) = parseInt (String.ofList ds) := by
  rw [casters_decimal_on_canonical ds h, decodeDeviceCount, String.toList_ofList, if_neg]
  intro he
  have hl := CV.Short.digits_ne_all ds (by simpa [allDigits] using h.1)
  exact hl (by simpa [CV.Short.lower] using congrArg String.toList he)

/-- `count: all` is -1 (`strings.ToLower(v) == "all"`), in the three casings tried -/
theorem devicecount_all : decodeDeviceCount "all" = some (-1) ∧ decodeDeviceCount "ALL" = some (-1) ∧ decodeDeviceCount "aLl" = some (-1) := by
  decide +kernel

/-- the self-decoding `NanoCPUs` reads a string as the `toFloat` caster reads it: in the source both call
    `utils.ParseYAMLFloat(_, 64)` (since `fix:` ab22b04; `modelled_functions_are_source` holds the two bodies to the source), and the model of the
    decoder is that call — so `deploy.resources.*.cpus` through a variable is what a cast row would give -/
theorem nanocpus_reads_like_toFloat (fp : FloatParser) (s : String) :
    (decodeNanoCPUs fp s).map Val.float = Caster.toFloat.apply fp s := rfl

private def cfg0 : Cfg :=
  { table := CV.Gen.castTable, fp := { f64 := fun _ => none, f32 := fun _ => none },
    env := fun k => if k = ['V'] then some ['y', 'e', 's'] else none }

private theorem cfg0_V : CV.Template.subst cfg0.env "${V}".toList = .ok "yes".toList := by decide +kernel

private theorem cfg0_init : firstMatch cfg0.table ["services", "a", "init"] = some "toBoolean" := by decide +kernel

/-- `interp_keys_shape`, `interp_string_only_subst`: successful runs that substitute + cast, and unescape -/
example : interp cfg0 ["services", "a", "init"] (.str "${V}") = .ok (.bool true) := by
  rw [interp, leaf_of_subst cfg0_V, castOnly, cfg0_init, String.ofList_toList]
  simp only [Caster.ofName, Caster.apply, show parseBool "yes" = some true by decide +kernel, Option.map_some]
example : interp cfg0 ["services", "a", "image"] (.str "x$$y") = .ok (.str "x$y") := by
  rw [interp, leaf_of_subst (s' := "x$y".toList) (by decide +kernel), castOnly,
    show firstMatch cfg0.table ["services", "a", "image"] = none by decide +kernel, String.ofList_toList]
/-- whole trees: `interp_dollar_free` / `interp_escape_roundtrip` produce successful runs on any cast-free tree (next example) -/
example : interp cfg0 ["x"] (escapeAll (.map [("a", .str "${V}$"), ("b", .seq [.str "$$", .int 1])])) =
    .ok (.map [("a", .str "${V}$"), ("b", .seq [.str "$$", .int 1])]) := by
  apply interp_escape_roundtrip
  intro q s hm
  simp only [leaves, leavesKVs, leavesList, List.append_nil, List.mem_append, List.mem_singleton, Prod.mk.injEq] at hm
  rcases hm with ⟨rfl, _⟩ | ⟨rfl, _⟩ <;> decide +kernel

/-- `interp_escape_roundtrip`: a tree with `$` in values and no cast path satisfies `NoCast` -/
example : NoCast CV.Gen.castTable ["x"] (.map [("a", .str "${V}$"), ("b", .seq [.str "$$", .int 1])]) := by
  intro q s hm
  simp only [leaves, leavesKVs, leavesList, List.append_nil, List.mem_append, List.mem_singleton, Prod.mk.injEq] at hm
  rcases hm with ⟨rfl, _⟩ | ⟨rfl, _⟩ <;> decide +kernel

/-- `var_is_literal` / `var_transparent`: `V` is a valid name, and `cfg0` sets it -/
example : CV.Template.validName ['V'] = true ∧ cfg0.env ['V'] = some "yes".toList ∧ '$' ∉ "yes".toList := by
  refine ⟨by decide, by decide, by decide⟩

/-- `template_is_literal`: a nested template that is well formed and evaluates -/
example : CV.Template.WF [.lit ['a'], .op ['U'] .colonDash [.var ['V'] true, .lit ['!']]] = true ∧
    CV.Template.evalL cfg0.env [.lit ['a'], .op ['U'] .colonDash [.var ['V'] true, .lit ['!']]] = .ok "ayes!".toList := by
  refine ⟨by decide, by rfl⟩

/-- `literal_eq_variable_int`: YAML reads `0440` as 288, and so does the caster -/
example : yamlInt "0440" = some 288 ∧ yamlInt "-0b11" = some (-3) ∧ yamlInt "1_0" = some 10 := by decide +kernel

/-- `cast_error_names_path`, `cast_failure_is_error`: an error run whose error carries the concrete path -/
example : interp cfg0 ["services", "a", "scale"] (.str "${V}") = .err (.cast (pathString ["services", "a", "scale"])) :=
  cast_failure_is_error cfg0 _ _ "yes".toList "toInt" cfg0_V (by decide +kernel)
    (congrArg (Option.map Val.int) (show parseInt (String.ofList "yes".toList) = none by decide +kernel))

/-- `decode_time_is_castOnly` has instances -/
example : ("Bool", "toBoolean") ∈ CV.Gen.c08_castHook ∧ firstMatch cfg0.table ["services", "a", "init"] = some "toBoolean" :=
  ⟨by decide +kernel, cfg0_init⟩

/-- `casters_decimal_on_canonical`, `devicecount_literal_eq_variable_partial`: `4096` is canonical, `0440` is not -/
example : CanonicalDecimal "4096".toList := ⟨by decide, '4', "096".toList, rfl, by decide⟩
example : ¬ CanonicalDecimal "0440".toList := by
  rintro ⟨_, c, cs, h, h0⟩
  have hc : c = '0' := by have := congrArg List.head? h; simpa using this.symm
  have := h0 hc
  subst this; subst hc
  revert h; decide

end CV.Interp
