import ComposeVerif.Lemmas.Pipeline
import ComposeVerif.Lemmas.Merge
import ComposeVerif.Lemmas.MergeRules
import ComposeVerif.Props.C03Rows
/-!
# C03 — short ≡ long through the composed pipeline (`Pipeline.load`)

`Model/Pipeline.lean` is `loader.LoadModelWithContext` on parsed documents (tied to the real function by the streams
`pipeline.load` / `pipeline.loadY`).  The C03 stage inside it is `transform.Canonical`, called once per document after
`override.Merge`, `EnforceUnicity` and the schema.  This module states the property's clause about the **whole
function**: two spellings of a document that are the same tree after `Canonical` load to the same dictionary (or fail
at the same stage) — as the first document, whatever the other documents and all option flags are (the statement for a
later position, `load_short_eq_long_at`, has a hypothesis no pair of documents meets) — and instantiates it with the `canonical_*_short_eq_long` theorems of
`Props/C03Doc.lean`.
-/
namespace CV.C03.Whole
open CV CV.Pipeline CV.Val

/-- `processRawYaml` from `override.Merge` up to (not including) `transform.Canonical` -/
def preCanonical (c : Cfg) (dict : Val) (cfg : Val.KVs) : Out Val :=
  (ofMerge "merge" (Merge.merge dict (.map cfg))).bind fun dict =>
  (ofMerge "unicity" (Unicity.enforceTop dict)).bind fun dict => schemaStage c.opts dict

/-- … and after it: `OmitEmpty`, `EnforceUnicity` -/
def postCanonical (c : Cfg) (dict : Val) : Out Val :=
  (omitEmpty c.omitPats dict).bind fun dict => ofMerge "unicity2" (Unicity.enforceTop dict)

/-- `mergeStages` is `preCanonical`, then `Canonical` (with `ignoreParseError = SkipInterpolation`), then `postCanonical` -/
theorem mergeStages_factor (c : Cfg) (dict : Val) (cfg : Val.KVs) :
    mergeStages c dict cfg =
      (preCanonical c dict cfg).bind fun d => (ofShort (Short.canonical c.opts.skipInterpolation d)).bind (postCanonical c) := by
  simp only [mergeStages, preCanonical, bind_assoc]
  rfl

/-- the stages in front of the merge: interpolation and `extends` -/
def front (c : Cfg) (cfg : Val.KVs) : Out Val.KVs := (interpStage c cfg).bind (extendsStage c)

theorem processDoc_eq (c : Cfg) (dict : Val) (cfg : Val.KVs) : processDoc c dict cfg = (front c cfg).bind (mergeStages c dict) := by
  simp only [processDoc, front, bind_assoc]

/-- two documents are **the same tree from `Canonical` on** when merged into `dict`: both pass the earlier stages and
their trees have the same canonical form (the conclusion of every `canonical_*_short_eq_long` theorem) -/
def SameCanonical (c : Cfg) (dict : Val) (a b : Val.KVs) : Prop :=
  ∃ a' b' da db, front c a = .ok a' ∧ front c b = .ok b' ∧
    preCanonical c dict a' = .ok da ∧ preCanonical c dict b' = .ok db ∧
    Short.canonical c.opts.skipInterpolation da = Short.canonical c.opts.skipInterpolation db

theorem processDoc_short_eq_long (c : Cfg) (dict : Val) (a b : Val.KVs) (h : SameCanonical c dict a b) :
    processDoc c dict a = processDoc c dict b := by
  obtain ⟨a', b', da, db, ha, hb, hda, hdb, hc⟩ := h
  simp only [processDoc_eq, ha, hb, Out.bind, mergeStages_factor, hda, hdb, hc]

/-- **the whole load, first document**: if the short and the long spelling of the first file are the same tree from
`Canonical` on, `Pipeline.load` returns the same dictionary (or the same failure) for them — with any further files,
for every value of the option flags, environment, project name, working directory -/
theorem load_short_eq_long_first (c : Cfg) (a b : Val.KVs) (rest : List Val.KVs) (h : SameCanonical c (.map []) a b) :
    load c (a :: rest) = load c (b :: rest) := by
  simp only [load, List.isEmpty_cons, loadYamlModel, processDocs, processDoc_short_eq_long c _ a b h]

/-- the same for a file in the middle of a multi-file load, when the two spellings agree from `Canonical` on merged into
EVERY `dict`.  The hypothesis ranges over all values, not over the models `processDocs` can reach, and no pair of
documents meets it: merged into a `dict` that is not a mapping, `override.Merge` fails for both (`err "top-level"`). -/
theorem load_short_eq_long_at (c : Cfg) (pre : List Val.KVs) (a b : Val.KVs) (rest : List Val.KVs)
    (h : ∀ dict, SameCanonical c dict a b) : load c (pre ++ a :: rest) = load c (pre ++ b :: rest) := by
  have e1 : (pre ++ a :: rest).isEmpty = false := by cases pre <;> rfl
  have e2 : (pre ++ b :: rest).isEmpty = false := by cases pre <;> rfl
  simp only [load, e1, e2, loadYamlModel, loop_append (fun _ => rfl) (processDocs_cons c), processDocs_cons,
    processDoc_short_eq_long c _ a b (h _)]

theorem front_skip (c : Cfg) (cfg : Val.KVs) (hi : c.opts.skipInterpolation = true) (he : c.opts.skipExtends = true) :
    front c cfg = .ok cfg := by
  simp [front, interpStage, extendsStage, hi, he, Out.bind]

/-- **instance, `depends_on`** (list of names ≡ mapping with the default condition): two single-service-attribute
spellings that reach `Canonical` unchanged load alike.  The hypotheses `hs` / `hl` say the earlier stages leave the two
documents as they are (merge into the model so far, unicity, schema); `preCanonical_first_valid` below discharges them for
a first document, and `load_first_service_attr` is the statement without them. -/
theorem load_dependsOn_short_eq_long (c : Cfg) (top1 top2 svcs1 svcs2 a b : Val.KVs) (n : String)
    (names : List String) (hnd : names.Nodup) (rest : List Val.KVs) (short long : Val.KVs)
    (hi : c.opts.skipInterpolation = true) (he : c.opts.skipExtends = true)
    (hs : preCanonical c (.map []) short = .ok (Short.docWith top1 top2 svcs1 svcs2 a b n "depends_on" (.seq (names.map Val.str))))
    (hl : preCanonical c (.map []) long = .ok (Short.docWith top1 top2 svcs1 svcs2 a b n "depends_on"
      (.map (names.map (fun x => (x, Short.startedRequired)))))) :
    load c (short :: rest) = load c (long :: rest) :=
  load_short_eq_long_first c short long rest
    ⟨short, long, _, _, front_skip c short hi he, front_skip c long hi he, hs, hl,
      Short.canonical_dependsOn_short_eq_long _ top1 top2 svcs1 svcs2 a b n names hnd⟩

/-- the stages in front of `Canonical` on a first document **with validation**: a schema-valid document without a
`version` key (the key `processRawYaml` deletes after validation) reaches `Canonical` as `EnforceUnicity` leaves it -/
theorem preCanonical_first_valid (c : Cfg) (cfg : KVs) (h : (cfg.map Prod.fst).Nodup)
    (hu : Unicity.enforceTop (.map cfg) = .ok (.map cfg))
    (hs : c.opts.skipValidation = true ∨ (Schema.conforms Gen.composeSchema (.map cfg) = true ∧ "version" ∉ cfg.map Prod.fst)) :
    preCanonical c (.map []) cfg = .ok (.map cfg) := by
  simp only [preCanonical, Merge.merge_into_empty cfg h, ofMerge, Out.bind, hu]
  rcases hs with hv | ⟨hc, hver⟩
  · simp [schemaStage, hv]
  · simp [schemaStage, hc, Val.erase_of_not_mem hver]

/-- a first document with distinct top-level keys in which `EnforceUnicity` finds nothing to fold, and which is either not
validated or schema-valid without a `version` key: it reaches `Canonical` as it is (`preCanonical_first_valid`) -/
def FirstOK (c : Cfg) (d : KVs) : Prop :=
  (d.map Prod.fst).Nodup ∧ Unicity.enforceTop (.map d) = .ok (.map d) ∧
    (c.opts.skipValidation = true ∨ (Schema.conforms Gen.composeSchema (.map d) = true ∧ "version" ∉ d.map Prod.fst))

/-- **first file, any two spellings of a whole document** (a service attribute, `include`, top-level resources, several
attributes at once): same canonical tree ⇒ same load, with any further files -/
theorem load_first (c : Cfg) (d d' : KVs) (rest : List KVs)
    (hi : c.opts.skipInterpolation = true) (he : c.opts.skipExtends = true) (hd : FirstOK c d) (hd' : FirstOK c d')
    (hc : Short.canonical true (.map d) = Short.canonical true (.map d')) :
    load c (d :: rest) = load c (d' :: rest) :=
  load_short_eq_long_first c d d' rest
    ⟨d, d', .map d, .map d', front_skip c d hi he, front_skip c d' hi he,
      preCanonical_first_valid c d hd.1 hd.2.1 hd.2.2, preCanonical_first_valid c d' hd'.1 hd'.2.1 hd'.2.2, by rw [hi]; exact hc⟩

/-- **instance, first file, any attribute of a service, no hypothesis about the pipeline's own stages**: the document
`top1 ++ services: {…, n: {…, k: v, …}, …} ++ top2` with distinct top-level keys, in which `EnforceUnicity` finds nothing to
fold (true of every document whose `ports` / `volumes` / … entries are already distinct), loads — with any further files —
exactly like the same document with `v'` for `v`, whenever `v` and `v'` have the same transform at `services.n.k` -/
theorem load_first_service_attr (c : Cfg) (top1 top2 svcs1 svcs2 a b : KVs) (n k : String) (v v' : Val) (rest : List KVs)
    (hi : c.opts.skipInterpolation = true) (he : c.opts.skipExtends = true) (hv : c.opts.skipValidation = true)
    (hk : ((top1 ++ ("services", Val.null) :: top2).map Prod.fst).Nodup)
    (hu : Unicity.enforceTop (Short.docWith top1 top2 svcs1 svcs2 a b n k v) = .ok (Short.docWith top1 top2 svcs1 svcs2 a b n k v))
    (hu' : Unicity.enforceTop (Short.docWith top1 top2 svcs1 svcs2 a b n k v') = .ok (Short.docWith top1 top2 svcs1 svcs2 a b n k v'))
    (ht : Short.transform true (Short.attrPath n k) v = Short.transform true (Short.attrPath n k) v') :
    load c ((top1 ++ ("services", .map (svcs1 ++ (n, .map (a ++ (k, v) :: b)) :: svcs2)) :: top2) :: rest)
      = load c ((top1 ++ ("services", .map (svcs1 ++ (n, .map (a ++ (k, v') :: b)) :: svcs2)) :: top2) :: rest) :=
  load_first c _ _ rest hi he ⟨by simpa using hk, hu, .inl hv⟩ ⟨by simpa using hk, hu', .inl hv⟩
    (Short.canonical_service_attr_congr true top1 top2 svcs1 svcs2 a b n k v v' ht)

/-- **first file, with schema validation on**: two schema-valid spellings (no `version` key) of a document with
distinct top-level keys and nothing for `EnforceUnicity` to fold, with the same canonical tree, load alike — any further
files; only `SkipInterpolation` and `SkipExtends` are still assumed -/
theorem load_first_same_canonical_valid (c : Cfg) (d d' : KVs) (rest : List KVs)
    (hi : c.opts.skipInterpolation = true) (he : c.opts.skipExtends = true)
    (hk : (d.map Prod.fst).Nodup) (hk' : (d'.map Prod.fst).Nodup)
    (hu : Unicity.enforceTop (.map d) = .ok (.map d)) (hu' : Unicity.enforceTop (.map d') = .ok (.map d'))
    (hs : Schema.conforms Gen.composeSchema (.map d) = true ∧ "version" ∉ d.map Prod.fst)
    (hs' : Schema.conforms Gen.composeSchema (.map d') = true ∧ "version" ∉ d'.map Prod.fst)
    (hc : Short.canonical true (.map d) = Short.canonical true (.map d')) :
    load c (d :: rest) = load c (d' :: rest) :=
  load_first c d d' rest hi he ⟨hk, hu, .inr hs⟩ ⟨hk', hu', .inr hs'⟩ hc

/-- **instance, `include`**: `include: [path]` ≡ `include: [{path: path}]` through the whole load (the include list is
canonicalised before `ApplyInclude` reads it; the composed model runs with `SkipInclude`) -/
theorem load_first_include (c : Cfg) (top1 top2 : KVs) (pre post : List Val) (s : String) (rest : List KVs)
    (hi : c.opts.skipInterpolation = true) (he : c.opts.skipExtends = true) (hv : c.opts.skipValidation = true)
    (hk : ((top1 ++ ("include", Val.null) :: top2).map Prod.fst).Nodup)
    (hu : Unicity.enforceTop (.map (top1 ++ ("include", .seq (pre ++ .str s :: post)) :: top2))
      = .ok (.map (top1 ++ ("include", .seq (pre ++ .str s :: post)) :: top2)))
    (hu' : Unicity.enforceTop (.map (top1 ++ ("include", .seq (pre ++ .map [("path", .str s)] :: post)) :: top2))
      = .ok (.map (top1 ++ ("include", .seq (pre ++ .map [("path", .str s)] :: post)) :: top2))) :
    load c ((top1 ++ ("include", .seq (pre ++ .str s :: post)) :: top2) :: rest)
      = load c ((top1 ++ ("include", .seq (pre ++ .map [("path", .str s)] :: post)) :: top2) :: rest) :=
  load_first c _ _ rest hi he ⟨by simpa using hk, hu, .inl hv⟩ ⟨by simpa using hk, hu', .inl hv⟩
    (Short.canonical_include_short_eq_long true top1 top2 pre post s)

/-- non-vacuity: `depends_on: [db]` vs `depends_on: {db: {condition: service_started, required: true}}` in a two-service file -/
example (c : Cfg) (rest : List KVs) (hi : c.opts.skipInterpolation = true) (he : c.opts.skipExtends = true)
    (hv : c.opts.skipValidation = true) :
    load c ([("services", .map [("web", .map [("image", .str "i"), ("depends_on", .seq [.str "db"])]), ("db", .map [("image", .str "d")])])] :: rest)
      = load c ([("services", .map [("web", .map [("image", .str "i"), ("depends_on", .map [("db", Short.startedRequired)])]), ("db", .map [("image", .str "d")])])] :: rest) := by
  have ht := Short.transformDependsOn_short_eq_long ["db"] (by simp)
  exact load_first_service_attr c [] [] [] [("db", .map [("image", .str "d")])] [("image", .str "i")] [] "web" "depends_on"
    (.seq [.str "db"]) (.map [("db", Short.startedRequired)]) rest hi he hv (by decide +kernel) (by decide +kernel)
    (by decide +kernel) (by
      rw [Short.attrPath_eq, Short.seg_depends_on, Short.transform_at_dependsOn, Short.transform_at_dependsOn]
      simpa using ht.1.trans ht.2.symm)

end CV.C03.Whole
