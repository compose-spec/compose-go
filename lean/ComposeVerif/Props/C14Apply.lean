import ComposeVerif.Model.DerivApply
import ComposeVerif.Lemmas.SpelledString
import ComposeVerif.Props.C14Deriv
import ComposeVerif.Gen.C14Progs
/-!
# C14 — every function that returns a `*Project` is covered; the marshaller option path is a derivation

The census `Gen.C14Progs.projectReturning` (regenerated: every function / method of package `types` with a result of type
`*Project`) is exactly the list `Deriv.coverage` speaks about: the nine derivations (heap programs, `derivations_confined`),
`deepCopy` (`deepCopy_roots_sound`), `marshallOptions.apply` (heap program `applyProg`, below) and `applyMarshallOptions`
(returns what `apply` returns: `marshal_sources_unchanged`).  A new function that hands out a project breaks `project_returning_covered`
until it has a program and a stream.
-/
namespace CV.Heap
open CV.Gen.CopyPlan

/-- **census**: the functions of package `types` that return a `*Project` in the tree now are exactly the ones `coverage` lists -/
theorem project_returning_covered : CV.Gen.C14Progs.projectReturning.map (·.1) = Deriv.coverage.map (·.1) := rfl

/-- every `prog` entry names a program of `programsAll`, every `delegate` entry names a covered function (`Deriv.coverage`
and `programsAll` are hand-written in `Model/DerivApply.lean`, not regenerated) -/
theorem coverage_closed : ∀ c ∈ Deriv.coverage, Deriv.Cover.closed c.2 = true := by decide +kernel

/-- the methods of `Project` in the census are the derivations of `Gen.Derivations` plus `deepCopy` (two independent
extractors agree) -/
theorem census_agrees_with_derivations :
    (CV.Gen.C14Progs.projectReturning.filter (fun r => r.2 == "Project")).map (·.1) =
      (CV.Gen.Derivations.derivations.map fun d => "Project." ++ d.1) ++ ["Project.deepCopy"] := by decide +kernel

/-- the *views*: the methods of `Project` that hand out model state which is not a project are exactly these six.  They
are readers — what they return shares the receiver's maps by design (a `ServiceConfig` value holds the receiver's
`Environment`, `DependsOn`, … maps; `AllServices` / `GetServices` build a fresh outer map of such values) — so the
property's isolation clause does not speak about them; its "receiver deeply equal to what it was" clause does, and the
oracle's `Accessors` step (`c14.history`) calls every one of them (`dependentsForService` through
`GetDependentsForService`, `getServicesByNames` through `GetServices`) and compares the receiver cell by cell.  A new
view breaks this theorem until the step calls it. -/
theorem project_views_listed : CV.Gen.C14Progs.projectViews = [
  ("Project.AllServices", "Services"),
  ("Project.GetDisabledService", "ServiceConfig, error"),
  ("Project.GetService", "ServiceConfig, error"),
  ("Project.GetServices", "Services, error"),
  ("Project.dependentsForService", "map[string]ServiceDependency"),
  ("Project.getServicesByNames", "Services, []string")] := rfl

/-- **`apply` is the source**: the skeleton of the hand-written program is the skeleton regenerated from `types/project.go` -/
theorem apply_is_source : Deriv.renderL Deriv.applyProg = CV.Gen.C14Progs.applySkeleton := by
  simp only [Deriv.applyProg, Deriv.applySecrets, Deriv.applyPlain, Deriv.fieldIds]
  exact StringLit.eq_of_spelled (by rfl) (by decide +kernel)

/-- the glue: `applyMarshallOptions` returns what `apply` returns on the options it folded; `WithSecretContent` only sets the flag -/
theorem marshal_sources_unchanged : CV.Gen.C14Progs.marshalSources = [
  ("applyMarshallOptions", "func applyMarshallOptions(p *Project, options ...func(*marshallOptions)) *Project { opts := &marshallOptions{} for _, option := range options { option(opts) } p = opts.apply(p) return p }"),
  ("WithSecretContent", "func WithSecretContent(o *marshallOptions) { o.secretsContent = true }")] := rfl

/-- `MarshalYAML` / `MarshalJSON` mention their receiver in one statement only: the call of `applyMarshallOptions`;
everything they encode is read from its result -/
theorem marshal_reads_only_applied : CV.Gen.C14Progs.marshalReceiverUses = [
  ("MarshalYAML", ["src := applyMarshallOptions(p, options...)"]),
  ("MarshalJSON", ["src := applyMarshallOptions(p, options...)"])] := rfl

/-- `Deriv.applySecrets` is written by hand; `apply_is_source` ties it to the text of `apply` -/
theorem applySecrets_receiver_free : rfL Deriv.applySecrets = true := by decide +kernel

/-- **rendering with secret content never writes into the receiver**: with the copy plan in the tree, every write (the
`marshallContent` flags) goes through and stores only memory allocated since the call, and the project handed to the encoder
shares no address with the receiver -/
theorem apply_secrets_confined (p : GoVal) (args : List (String × PData)) (n : Nat) (hb : Below n p)
    (hopt : getP "secretsContent" args = some ["1"]) :
    let st := runProg projTy projPlan Deriv.applyProg p args n
    getVar "p" st.vars = p ∧ (∀ u, Below n u → writes st.log u = u) ∧ Confined n st.next st.log ∧
      Isolated (getVar "result" st.vars) p := by
  have hrun : runProg projTy projPlan Deriv.applyProg p args n = runProg projTy projPlan Deriv.applySecrets p args n := by
    simp [runProg, Deriv.applyProg, execL, execS, St.plist, hopt]
  rw [hrun]
  exact body_confined applySecrets_receiver_free p args n hb

theorem bodies_receiver_free {pg : List Stmt} (h : pg ∈ Deriv.applySecrets :: Deriv.programs.map (·.2)) : rfL pg = true := by
  rcases List.mem_cons.mp h with rfl | hm
  · exact applySecrets_receiver_free
  · obtain ⟨pr, hpr, rfl⟩ := List.mem_map.mp hm
    exact derivations_receiver_free pr hpr

/-- the bodies that make a project out of a project, all of them: the nine derivations and the secret-content branch of `apply` -/
def derivationBodies : List (String × List Stmt) :=
  Deriv.programs ++ [("marshallOptions.apply[WithSecretContent]", Deriv.applySecrets)]

/-- one statement for all ten bodies: `derivations_confined` and the secret-content branch of `apply` together -/
theorem all_derivations_confined (pr : String × List Stmt) (hpr : pr ∈ derivationBodies)
    (p : GoVal) (args : List (String × PData)) (n : Nat) (hb : Below n p) :
    let st := runProg projTy projPlan pr.2 p args n
    getVar "p" st.vars = p ∧ (∀ u, Below n u → writes st.log u = u) ∧ Confined n st.next st.log ∧
      Isolated (getVar "result" st.vars) p := by
  refine body_confined ?_ p args n hb
  rcases List.mem_append.mp hpr with hm | hm
  · exact derivations_receiver_free pr hm
  · rw [List.mem_singleton.mp hm]; exact applySecrets_receiver_free

/-- **plain rendering is the identity**: without the option nothing is allocated, nothing is written, and the project
handed to the encoder is the receiver itself (it never leaves `MarshalYAML` / `MarshalJSON`: `marshal_reads_only_applied`) -/
theorem apply_plain_identity (p : GoVal) (args : List (String × PData)) (n : Nat)
    (hopt : getP "secretsContent" args ≠ some ["1"]) :
    let st := runProg projTy projPlan Deriv.applyProg p args n
    getVar "result" st.vars = p ∧ getVar "p" st.vars = p ∧ st.log = [] ∧ st.next = n ∧ st.err = none := by
  have hc : (({ vars := [("p", p)], pvars := args, next := n } : St).plist "secretsContent" == ["1"]) = false := by
    simp only [St.plist]
    cases h : getP "secretsContent" args with
    | none => decide
    | some l =>
      simp only [Option.getD_some, beq_eq_false_iff_ne, ne_eq]
      intro hl; exact hopt (by rw [h, hl])
  simp [runProg, Deriv.applyProg, Deriv.applyPlain, execL, execS, hc, getVar, setVar, Expr.eval]

/-- **histories that render in between**: a history of any length whose steps are any of the nine derivations or the
secret-content branch of `apply`, with any arguments — all projects, the original included, are pairwise isolated -/
theorem history_with_marshal_isolated (h : List (List Stmt × List (String × PData))) (v : GoVal) (n : Nat)
    (hmem : ∀ e ∈ h, e.1 ∈ Deriv.applySecrets :: Deriv.programs.map (·.2)) (hb : Below n v) :
    List.Pairwise Isolated (v :: runHistory projTy projPlan h v n) :=
  prog_history_isolated projTy projPlan projPlan_deep.1 h v n (fun e he => bodies_receiver_free (hmem e he)) hb

/-- a project with two secrets whose flag is unset -/
def exSecrets : GoVal := .ptr 1 (.struct [
  (.fld Deriv.fSecrets, .map 2 [(.str "a", .struct [(.fld Deriv.fMarshallContent, .scalar "")]),
                                 (.str "b", .struct [(.fld Deriv.fMarshallContent, .scalar "")])])])
def exSecretsTy : Ty := .ptr (.struct [(Deriv.fSecrets, .map (.struct [(Deriv.fMarshallContent, .scalar)]))])
def exSecretsPlan : Plan := .newPtr (.fields [(Deriv.fSecrets, .newMap (.fields [(Deriv.fMarshallContent, .assign)]))])

def secretFlag (proj : GoVal) (name : String) : String :=
  scalarStr (getFld Deriv.fMarshallContent (getIdx name (getFld Deriv.fSecrets proj)))

/-- with the option the program copies (addresses 3, 4), writes the two flags through the copy's map (address 4), the
result carries the flags and the receiver keeps its unset ones; without it the result is the receiver (addresses 1, 2) -/
example :
    let st := runProg exSecretsTy exSecretsPlan Deriv.applyProg exSecrets [("secretsContent", some ["1"])] 3
    st.err = none ∧ st.log.map (·.1) = [4, 4] ∧ addrs (getVar "result" st.vars) = [3, 4] ∧
    secretFlag (getVar "result" st.vars) "a" = "b:true" ∧ secretFlag (getVar "result" st.vars) "b" = "b:true" ∧
    secretFlag (getVar "p" st.vars) "a" = "" ∧ secretFlag (getVar "p" st.vars) "b" = "" := by
  simp only [exSecrets, exSecretsTy, exSecretsPlan, secretFlag, Deriv.applyProg, Deriv.applySecrets, Deriv.fieldIds]
  decide +kernel

example :
    let st := runProg exSecretsTy exSecretsPlan Deriv.applyProg exSecrets [] 3
    addrs (getVar "result" st.vars) = [1, 2] ∧ st.log.length = 0 := by
  decide +kernel

end CV.Heap
