import ComposeVerif.Lemmas.MarshalSSH
import ComposeVerif.Lemmas.MarshalHosts
import ComposeVerif.Lemmas.Duration
import ComposeVerif.Props.C09Tables
/-!
# C09 — a marshalled project reloads to the same project (YAML and JSON)

Four groups:

* **descriptor facts** over the regenerated `Gen.Types` (projections of `tables`, `Props/C09Tables.lean`): the YAML and
  the JSON rendering name every field of every model type identically, keys are unambiguous, `omitempty` agrees, and the set of types with
  hand-written marshallers is exactly the set modelled in `Model/Marshal.lean`;
* **custom round trips**: for each hand-written marshaller/decoder pair, `decode (marshal v) = v` on the stated domain of values
  (witnesses of what falls outside it, and of the behaviour before the repairs, are in `Neg/C09.lean`);
* **struct rendering**: the tag-driven encoding renders every field under its own key, or leaves it out exactly when
  `omitempty` meets a zero value (`struct_fields_rendered`);
* **omitempty**: a value of a scalar, pointer, slice or map type that an encoder leaves out is zero, nil or empty
  (`ZeroLike`; nothing is said about named types there), `IsZero` types are left out only when nil, a struct never by JSON.
-/
namespace CV.C09
open CV CV.Marshal CV.RoundTrip CV.TypeDesc

theorem facts_iff (ss : List StructDesc) (ns : List (String × TyExpr)) (cm : List (String × List String)) (mt : List String) :
    Facts ss ns cm mt = true ↔ TagsConsistent ss mt = true ∧ Closed ss ns mt = true ∧ KeysDistinct ss mt = true ∧
      OmitAgrees ss cm mt = true ∧ customTypes cm mt = modelledCustoms := by
  simp only [Facts, Bool.and_eq_true, beq_iff_eq, and_assoc]

theorem descriptor_facts :
    Facts Gen.structs Gen.namedTypes Gen.customMethods (modelTypes Gen.structs Gen.namedTypes) = true := by
  have c := descriptor_tables.2
  simp only [Bool.and_eq_true, beq_iff_eq] at c
  refine (facts_iff ..).mpr ⟨c.1.1.1, c.1.1.2, List.all_eq_true.mpr fun s hs => ?_, c.1.2, c.2⟩
  have h := structs_nodup s hs
  simp only [(Encode.nodupB_iff _).mpr h.2.1, (Encode.nodupB_iff _).mpr h.2.2, Bool.and_self, Bool.or_true]

/-- every field of every type a `Project` can contain has the same key in the YAML and in the JSON rendering
    (or is left out of both; extension attributes are inlined in YAML and omitted from JSON by design) -/
theorem tags_consistent : TagsConsistent Gen.structs (modelTypes Gen.structs Gen.namedTypes) = true :=
  ((facts_iff ..).mp descriptor_facts).1

/-- the reachability closure that defines the model types has reached its fixed point (enough fuel) -/
theorem modelTypes_closed : Closed Gen.structs Gen.namedTypes (modelTypes Gen.structs Gen.namedTypes) = true :=
  ((facts_iff ..).mp descriptor_facts).2.1

/-- within one model type no two rendered fields share a key (so decoding by key is unambiguous) -/
theorem keys_distinct : KeysDistinct Gen.structs (modelTypes Gen.structs Gen.namedTypes) = true :=
  ((facts_iff ..).mp descriptor_facts).2.2.1

/-- `omitempty` is declared alike for both renderings (JSON keeps `null` for `ShellCommand` on purpose) -/
theorem omitempty_agrees : OmitAgrees Gen.structs Gen.customMethods (modelTypes Gen.structs Gen.namedTypes) = true :=
  ((facts_iff ..).mp descriptor_facts).2.2.2.1

/-- the types whose rendering or decoding is hand-written in the source are exactly the ones the model covers:
    a new custom marshaller must come with a model (and its round-trip theorem) -/
theorem customs_are_modelled :
    customTypes Gen.customMethods (modelTypes Gen.structs Gen.namedTypes) = modelledCustoms :=
  ((facts_iff ..).mp descriptor_facts).2.2.2.2

/-- byte sizes: **every** int64 size survives both renderings — also -1 (unlimited swap) and sizes above 2^53
    (the decoder before its repair: `Neg.C09.unitbytes_negative`) -/
theorem custom_roundtrip_UnitBytes (i : Int) (h : -(two63 : Int) ≤ i ∧ i < (two63 : Int)) :
    (marshalY_UnitBytes (.int i)).bind decode_UnitBytes = .ok (.int i) ∧
    (marshalJ_UnitBytes (.int i)).bind decode_UnitBytes = .ok (.int i) := by
  -- `marshalJ_UnitBytes` is `marshalY_UnitBytes` by definition: one proof serves both conjuncts
  exact ⟨decode_UnitBytes_fmtInt i h, decode_UnitBytes_fmtInt i h⟩

example : -(two63 : Int) ≤ (-1 : Int) ∧ (-1 : Int) < (two63 : Int) := by decide

/-- durations: `time.ParseDuration(d.String()) = d` for **every** `time.Duration` (all of int64), both renderings
    (the text has at most three `h`/`m`/`s` segments or one sub-second segment; the fraction digits printed by `fmtFrac`
    always divide the unit, so `ParseDuration`'s float64 step is exact) -/
theorem custom_roundtrip_Duration (d : Int) (h : -(two63 : Int) ≤ d ∧ d < (two63 : Int)) :
    (marshal_Duration (.int d)).bind decode_Duration = .ok (.int d) := by
  simp only [marshal_Duration, Out.bind, decode_Duration, sprint, Val.fmtV]
  exact parseDuration_durString d h

example : -(two63 : Int) ≤ (90500000000 : Int) ∧ (90500000000 : Int) < (two63 : Int) := by decide

theorem custom_roundtrip_DeviceCount (i : Int) :
    (marshal_DeviceCount (.int i)).bind decode_DeviceCount = .ok (.int i) := rfl

def IsStrSlice : Val → Prop
  | .null => True
  | .seq xs => allStr xs = true
  | _ => False

/-- a `[]string` type whose marshaller is `marshal_StrSlice`: any decoder that keeps nil and lists of strings -/
theorem roundtrip_strSlice (dec : Val → Out) (hnil : dec .null = .ok .null)
    (hid : ∀ xs, allStr xs = true → dec (.seq xs) = .ok (.seq xs)) (v : Val) (h : IsStrSlice v) :
    (marshal_StrSlice v).bind dec = .ok v := by
  cases v with
  | null => exact hnil
  | seq xs => simp only [marshal_StrSlice, show allStr xs = true from h, if_true, Out.bind, hid xs h]
  | _ => exact h.elim

/-- commands (`ShellCommand`): nil stays nil, a list (even an empty one) stays that list -/
theorem custom_roundtrip_ShellCommand (v : Val) (h : IsStrSlice v) :
    (marshal_StrSlice v).bind decode_ShellCommand = .ok v :=
  roundtrip_strSlice decode_ShellCommand rfl decode_ShellCommand_id v h

theorem custom_roundtrip_HealthCheckTest (v : Val) (h : IsStrSlice v) :
    (marshal_StrSlice v).bind decode_HealthCheckTest = .ok v :=
  roundtrip_strSlice decode_HealthCheckTest rfl decode_HealthCheckTest_id v h

theorem custom_roundtrip_StringList (v : Val) (h : IsStrSlice v) :
    (marshal_StrSlice v).bind decode_StringList = .ok v :=
  roundtrip_strSlice decode_StringList rfl decode_StringList_id v h

theorem custom_roundtrip_StringOrNumberList (v : Val) (h : IsStrSlice v) :
    (marshal_StrSlice v).bind decode_StringOrNumberList = .ok v :=
  roundtrip_strSlice decode_StringOrNumberList rfl decode_StringOrNumberList_id v h

example : IsStrSlice (.seq [.str "sh", .str "-c", .str "echo hi"]) := by simp [IsStrSlice, allStr]
example : IsStrSlice (.seq []) := by simp [IsStrSlice, allStr]

def IsStrMap : Val → Prop
  | .null => True
  | .map kvs => allStrVals kvs = true
  | _ => False

def IsStrPtrMap : Val → Prop
  | .null => True
  | .map kvs => allStrOrNullVals kvs = true
  | _ => False

/-- a `map[string]string` type rendered by the default encoders: any decoder that keeps nil and maps of strings -/
theorem roundtrip_strMap (dec : Val → Out) (hnil : dec .null = .ok .null)
    (hid : ∀ kvs, allStrVals kvs = true → dec (.map kvs) = .ok (.map kvs)) (v : Val) (h : IsStrMap v) :
    (marshal_StrMap v).bind dec = .ok v := by
  cases v with
  | null => exact hnil
  | map kvs => simp only [marshal_StrMap, show allStrVals kvs = true from h, if_true, Out.bind, hid kvs h]
  | _ => exact h.elim

theorem custom_roundtrip_Mapping (v : Val) (h : IsStrMap v) :
    (marshal_StrMap v).bind decode_Mapping = .ok v :=
  roundtrip_strMap decode_Mapping rfl decode_Mapping_id v h

theorem custom_roundtrip_Labels (v : Val) (h : IsStrMap v) :
    (marshal_StrMap v).bind decode_Labels = .ok v := custom_roundtrip_Mapping v h   -- `decode_Labels` is `decode_Mapping` by definition

theorem custom_roundtrip_Options (v : Val) (h : IsStrMap v) :
    (marshal_StrMap v).bind decode_Options = .ok v :=
  roundtrip_strMap decode_Options rfl decode_Options_id v h

/-- environment-like mappings: a key without value (nil) stays without value -/
theorem custom_roundtrip_MappingWithEquals (v : Val) (h : IsStrPtrMap v) :
    (marshal_StrPtrMap v).bind decode_MappingWithEquals = .ok v := by
  cases v with
  | null => rfl
  | map kvs =>
    simp only [marshal_StrPtrMap, show allStrOrNullVals kvs = true from h, if_true, Out.bind, decode_MappingWithEquals_id kvs h]
  | _ => exact h.elim

example : IsStrPtrMap (.map [("A", .str "b"), ("FROM_ENV", .null)]) := by simp [IsStrPtrMap, allStrOrNullVals]

/-- ulimits, YAML: every value the decoder can produce (a single limit, or a soft/hard pair) survives -/
theorem custom_roundtrip_Ulimits_yaml (single soft hard : Int) (canon : single ≠ 0 → soft = 0 ∧ hard = 0) :
    (marshalY_Ulimits (mkUlimit single soft hard)).bind decode_Ulimits = .ok (mkUlimit single soft hard) := by
  by_cases hs : single = 0
  · subst hs
    simp [marshalY_Ulimits, mkUlimit, getInt, Val.lookup, Out.bind, decode_Ulimits, schemaOk_Ulimits]
  · obtain ⟨h1, h2⟩ := canon hs
    subst h1 h2
    simp [marshalY_Ulimits, mkUlimit, getInt, Val.lookup, Out.bind, decode_Ulimits, schemaOk_Ulimits, hs]

/-- ulimits, JSON: same statement and, `marshalJ_Ulimits` being `marshalY_Ulimits` by definition, same proof (the marshaller before its repair: `Neg.C09.ulimits_json_zero`) -/
theorem custom_roundtrip_Ulimits_json (single soft hard : Int) (canon : single ≠ 0 → soft = 0 ∧ hard = 0) :
    (marshalJ_Ulimits (mkUlimit single soft hard)).bind decode_Ulimits = .ok (mkUlimit single soft hard) :=
  custom_roundtrip_Ulimits_yaml single soft hard canon

example : ∃ single soft hard : Int, (single ≠ 0 → soft = 0 ∧ hard = 0) := ⟨0, 0, 2048, by decide⟩

/-- env_file, YAML: every path, required or not, with or without a format
    (the marshaller before its repair: `Neg.C09.envfile_format_lost_yaml`) -/
theorem custom_roundtrip_EnvFile_yaml (path format : String) (required : Bool) :
    (marshalY_EnvFile (mkEnvFile path required format)).bind decode_EnvFile = .ok (mkEnvFile path required format) := by
  cases required <;> by_cases hf : format = "" <;>
    simp [marshalY_EnvFile, mkEnvFile, getBool, getStr, Val.lookup, Out.bind, decode_EnvFile, optStr, hf]

/-- env_file, JSON: every path, required or not, with or without a format
    (the marshaller before its repair: `Neg.C09.envfile_format_lost_json`) -/
theorem custom_roundtrip_EnvFile_json (path format : String) (required : Bool) :
    (marshalJ_EnvFile (mkEnvFile path required format)).bind decode_EnvFile = .ok (mkEnvFile path required format) := by
  cases required <;> by_cases hp : path = "" <;> by_cases hf : format = "" <;>
    simp [marshalJ_EnvFile, mkEnvFile, getBool, getStr, Val.lookup, Out.bind, decode_EnvFile, optStr, hp, hf]

/-- ssh keys: every list of keys with distinct ids free of `=` survives both renderings — keys with a path, the
    default agent and other agent keys (the marshallers before their repair:
    `Neg.C09.sshkey_path_yaml`, `sshkey_path_json`, `sshkey_named_agent`; an id containing `=`: `Neg.C09.sshkey_id_with_equals`) -/
theorem custom_roundtrip_SSHConfig (ks : List (String × String)) (hnd : (ks.map Prod.fst).Nodup)
    (heq : ∀ k ∈ ks, '=' ∉ k.1.toList) :
    (marshalY_SSHConfig (.seq (ks.map sshVal))).bind decode_SSHConfig = .ok (.seq (ks.map sshVal)) ∧
    (marshalJ_SSHConfig (.seq (ks.map sshVal))).bind decode_SSHConfig = .ok (.seq (ks.map sshVal)) :=
  -- `marshalJ_SSHKey` is `marshalY_SSHKey` by definition, so `marshalJ_SSHConfig` unfolds to `marshalY_SSHConfig`
  ⟨roundtrip_SSHConfig ks hnd heq, roundtrip_SSHConfig ks hnd heq⟩

example : (([("default", ""), ("mykey", "./id_rsa"), ("agent2", "")] : List (String × String)).map Prod.fst).Nodup := by decide

/-- extra_hosts: every mapping of distinct well-formed hosts (non-empty, no `:` or `=`) to non-empty lists of
    well-formed addresses (no comma, no enclosing brackets) reloads to the same mapping: the result lists the entries in
    the marshaller's order (a permutation — a Go map has no order) and keeps each host's addresses in their own order
    (the marshaller before its repair: `Neg.C09.hosts_reordered`) -/
theorem custom_roundtrip_HostsList (es : List HEnt) (hok : ∀ e ∈ es, entOK e) (hnd : (es.map Prod.fst).Nodup) :
    (marshal_HostsList (.map (es.map entVal))).bind decode_HostsList = .ok (.map ((sortH es).map entVal)) ∧
    (sortH es).Perm es :=
  ⟨roundtrip_HostsList es hok hnd, sortH_perm es⟩

theorem render_idem_of_roundtrip (marshal decode : Val → Out) (v : Val) (h : (marshal v).bind decode = .ok v) :
    ((marshal v).bind decode).bind marshal = marshal v := by
  rw [h]; rfl

open CV.Encode

/-- **Struct rendering is faithful** (both encoders, any descriptor list with distinct keys): in a successful rendering
    every keyed field is either present under its own key with the rendering of its value, or absent — and absent
    exactly when its tag says `omitempty` and the value is zero.  So decoding by key recovers each field or its zero. -/
theorem struct_fields_rendered (fmt : Fmt) (enc : TyExpr → Val → Out) (zero : TyExpr → Val → Bool)
    (fds : List FieldDesc) (fs out : List (String × Val))
    (hni : NoInline fmt fds fs) (hnd : ((fds.filter (keyed fmt)).map (keyOf fmt)).Nodup)
    (h : encodeFieldsWith fmt enc zero fds fs = .ok (.map out)) :
    ∀ fd ∈ fds, keyed fmt fd = true →
      (omitted fmt zero fs fd = true ∧ Val.lookup (keyOf fmt fd) out = none) ∨
      (omitted fmt zero fs fd = false ∧ ∃ t, enc fd.ty (field fs fd.goName) = .ok t ∧ Val.lookup (keyOf fmt fd) out = some t) :=
  encodeFields_field fmt enc zero fds fs out hni hnd h

/-- the hypothesis of `struct_fields_rendered` holds for every model type of the regenerated descriptors -/
theorem model_struct_keys_nodup (s : StructDesc) (hs : s ∈ Gen.structs)
    (hm : (modelTypes Gen.structs Gen.namedTypes).contains s.name = true) (fmt : Fmt) :
    ((s.fields.filter (keyed fmt)).map (keyOf fmt)).Nodup := by
  have h := keys_distinct
  simp only [KeysDistinct, List.all_eq_true] at h
  have h1 := h s hs
  simp only [hm, Bool.not_true, Bool.false_or, Bool.and_eq_true] at h1
  cases fmt with
  | yaml => rw [← renderedYamlKeys_eq]; exact (nodupB_iff _).mp h1.1
  | json => rw [← renderedJsonKeys_eq]; exact (nodupB_iff _).mp h1.2

/-- what a missing key decodes to, with nil and empty identified -/
def ZeroLike : TyExpr → Val → Prop
  | .prim _, v => primZero v = true
  | .other _, v => primZero v = true
  | .ptr _, v => v = .null
  | .slice _, v => v = .null ∨ v = .seq []
  | .map _, v => v = .null ∨ v = .map []
  | .named _, _ => True

/-- **omitempty, YAML**: a value of a scalar, pointer, slice or map type that the encoder leaves out is zero, nil or
    empty (`ZeroLike`); for a named type `ZeroLike` holds of every value, so nothing is said there -/
theorem omitempty_lossless_yaml (env : Env) (f : Nat) (ty : TyExpr) (v : Val) (h : isZeroY env f ty v = true) :
    ZeroLike ty v := by
  cases f with
  | zero => simp [isZeroY] at h
  | succ f =>
    cases ty with
    | prim p => simpa [isZeroY, ZeroLike] using h
    | other p => simpa [isZeroY, ZeroLike] using h
    | ptr e => cases v <;> simp_all [isZeroY, ZeroLike]
    | slice e =>
      cases v with
      | seq xs => cases xs <;> simp_all [isZeroY, ZeroLike]
      | _ => simp_all [isZeroY, ZeroLike]
    | map e =>
      cases v with
      | map xs => cases xs <;> simp_all [isZeroY, ZeroLike]
      | _ => simp_all [isZeroY, ZeroLike]
    | named n => trivial

/-- the two encoders' zero tests coincide on every type expression that is not a named type -/
theorem isEmptyJ_eq_isZeroY (env : Env) (f : Nat) {ty : TyExpr} (v : Val) (h : ∀ n, ty ≠ .named n) :
    isEmptyJ env (f + 1) ty v = isZeroY env (f + 1) ty v := by
  cases ty <;> first | rfl | exact absurd rfl (h _)

theorem omitempty_lossless_json (env : Env) (f : Nat) (ty : TyExpr) (v : Val) (h : isEmptyJ env f ty v = true) :
    ZeroLike ty v := by
  cases f with
  | zero => simp [isEmptyJ] at h
  | succ f =>
    by_cases hn : ∃ n, ty = .named n
    · obtain ⟨n, rfl⟩ := hn; trivial
    · rw [isEmptyJ_eq_isZeroY env f v fun n e => hn ⟨n, e⟩] at h
      exact omitempty_lossless_yaml env (f + 1) ty v h

/-- a type with `IsZero` (ShellCommand) is left out only when nil: an explicitly empty command is kept -/
theorem omitempty_keeps_empty_command (env : Env) (f : Nat) (n : String) (v : Val)
    (hz : hasMethod env n "IsZero" = true) : isZeroY env (f + 1) (.named n) v = true ↔ v = .null := by
  cases v <;> simp [isZeroY, hz]

example : hasMethod { structs := Gen.structs, named := Gen.namedTypes, customs := Gen.customMethods } "ShellCommand" "IsZero" = true := by decide +kernel

/-- a struct-valued field is never left out of the JSON rendering, and out of the YAML one only when all its
    exported fields are zero -/
theorem struct_omission (env : Env) (f : Nat) (n : String) (s : StructDesc) (fs : List (String × Val))
    (hs : findStruct env.structs n = some s) (hz : hasMethod env n "IsZero" = false) :
    isEmptyJ env (f + 1) (.named n) (.map fs) = false ∧
    (isZeroY env (f + 1) (.named n) (.map fs) = true ↔
      ∀ fd ∈ s.fields, fd.exported = true → isZeroY env f fd.ty (field fs fd.goName) = true) := by
  constructor
  · simp [isEmptyJ, hs]
  · simp only [isZeroY, hz, hs, Bool.false_eq_true, if_false, List.all_eq_true, Bool.or_eq_true, Bool.not_eq_true']
    constructor
    · intro h fd hm he
      rcases h fd hm with h1 | h1
      · rw [he] at h1; cases h1
      · exact h1
    · intro h fd hm
      cases he : fd.exported with
      | false => exact Or.inl rfl
      | true => exact Or.inr (h fd hm he)

end CV.C09
