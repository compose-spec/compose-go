import ComposeVerif.Spec.Override
import ComposeVerif.Lemmas.TablesExclusive
import ComposeVerif.Lemmas.Reset
import ComposeVerif.Lemmas.MergeFuel
import ComposeVerif.Lemmas.Spelling
/-!
# C04 — multiple files and documents merge by the Compose override rules

Property theorems about the models `CV.Merge` (override/merge.go), `CV.Unicity` (override/uncity.go) and
`CV.Reset` (loader/reset.go + the per-document fold of loader/loader.go).  They hold for **every** tree, path,
fuel and iteration order; the rule tables they mention are the ones regenerated from the Go source.
-/
namespace CV.C04
open CV CV.Val CV.Merge CV.Unicity CV.Reset CV.Override

/-! ## the two rule tables -/

/-- every row of both tables names a Go function the model knows (an added / renamed merger or indexer breaks this) -/
theorem rows_known :
    (∀ r ∈ CV.Gen.mergeSpecials, ruleOfName r.2 ≠ none) ∧ (∀ r ∈ CV.Gen.unique, indexerOfName r.2 ≠ none) := by
  decide +kernel

theorem mergeSpecials_exclusive : TPath.PairwiseExclusive CV.Gen.mergeSpecials := CV.Gen.tables_exclusive.1

theorem unique_exclusive : TPath.PairwiseExclusive CV.Gen.unique := CV.Gen.tables_exclusive.2.1

/-- Go ranges over the `mergeSpecials` map in random order: the rule found at a path is the same for every order -/
theorem ruleAt_order_independent (t : List (List String × String)) (h : t.Perm CV.Gen.mergeSpecials) (p : TPath) :
    ruleAtIn t p = ruleAt p := by
  unfold ruleAt ruleAtIn
  rw [TPath.firstMatch_perm mergeSpecials_exclusive h]

theorem indexerAt_order_independent (t : List (List String × String)) (h : t.Perm CV.Gen.unique) (p : TPath) :
    indexerAtIn t p = indexerAt p := by
  unfold indexerAt indexerAtIn
  rw [TPath.firstMatch_perm unique_exclusive h]

/-- **the Go tables give every attribute the rule the property states** (54 attribute paths; dropping a row of
`mergeSpecials` or an indexer of `unique` breaks this).  `Neg/C04.lean` has the table for which it fails. -/
theorem rule_table_matches_spec : ∀ r ∈ expected, actual r.1 = r.2 := by decide +kernel

example : expected.length = 54 := by decide +kernel

theorem wholesale_paths (s : String) :
    ruleAt ["services", s, "command"] = some .override ∧ ruleAt ["services", s, "entrypoint"] = some .override ∧
    ruleAt ["services", s, "healthcheck", "test"] = some .override := by
  simp only [ruleAt_name_irrelevant _ s "s"]
  decide +kernel

theorem kv_paths (s : String) :
    ruleAt ["services", s, "environment"] = some .toSeq ∧ indexerAt ["services", s, "environment"] = some .keyValue ∧
    ruleAt ["services", s, "labels"] = some .toSeq ∧ indexerAt ["services", s, "labels"] = some .keyValue := by
  simp only [ruleAt_name_irrelevant _ s "s", indexerAt_name_irrelevant _ s "s"]
  decide +kernel

theorem keyed_paths (s : String) :
    indexerAt ["services", s, "ports"] = some .port ∧ indexerAt ["services", s, "volumes"] = some .volume ∧
    indexerAt ["services", s, "secrets"] = some (.mount "/run/secrets") ∧ indexerAt ["services", s, "configs"] = some (.mount "") ∧
    indexerAt ["services", s, "devices"] = some .deviceMapping := by
  simp only [indexerAt_name_irrelevant _ s "s"]
  decide +kernel

/-! ## the default rules: scalars, sequences, mappings key by key -/

/-- scalars are replaced -/
theorem merge_scalar (n : Nat) (e o : Val) (p : TPath) (hp : ruleAt p = none) (ho : o ≠ .null)
    (he : (∀ a, e ≠ .map a) ∧ (∀ a, e ≠ .seq a)) : mergeYaml (n + 1) e o p = .ok o := by
  simp only [mergeYaml_succ_default hp, defaultStep]
  split
  · exact absurd rfl (he.1 _)
  · exact absurd rfl (he.1 _)
  · exact absurd rfl (he.2 _)
  · exact absurd rfl (he.2 _)
  · rfl

example : mergeYaml 1 (.str "nginx") (.str "busybox") ["services", "s", "image"] = .ok (.str "busybox") := by decide +kernel

/-- an attribute the later file sets to null (or leaves empty) keeps the base value -/
theorem merge_null_keeps_base (n : Nat) (e : Val) (p : TPath) (hp : ruleAt p = none) :
    mergeYaml (n + 1) e .null p = .ok e :=
  mergeYaml_succ_default hp n e .null

/-- sequences are appended -/
theorem merge_seq_append (n : Nat) (a b : List Val) (p : TPath) (hp : ruleAt p = none) :
    mergeYaml (n + 1) (.seq a) (.seq b) p = .ok (.seq (a ++ b)) :=
  mergeYaml_succ_default hp n _ _

theorem merge_map_unfold (n : Nat) (a b : KVs) (p : TPath) (hp : ruleAt p = none) :
    mergeYaml (n + 1) (.map a) (.map b) p = (mergeKVs n a b p).bind fun m => .ok (.map m) :=
  mergeYaml_maps n a b p hp

/-- **mappings merge key by key, recursively**: at every key the merged mapping holds the base value (key only in
the base), the override value (key only in the override, or an `x-` extension), or the recursive merge of the two -/
theorem merge_map_pointwise (n : Nat) (a b m : KVs) (p : TPath) (hb : (keys b).Nodup)
    (h : mergeKVs n a b p = .ok m) (k : String) :
    PointwiseAt (mergeYaml n) p k (lookup k a) (lookup k b) (lookup k m) :=
  mergeKVsWith_pointwise (mergeYaml n) p b a m hb h k

/-- **anything a later file does not mention is preserved unchanged** (frame) -/
theorem merge_absent_preserved (n : Nat) (a b m : KVs) (p : TPath) (hb : (keys b).Nodup)
    (h : mergeKVs n a b p = .ok m) (k : String) (hk : lookup k b = none) : lookup k m = lookup k a := by
  have := merge_map_pointwise n a b m p hb h k
  rw [hk] at this
  exact pointwiseAt_none_right.mp this

theorem merge_new_key_added (n : Nat) (a b m : KVs) (p : TPath) (hb : (keys b).Nodup)
    (h : mergeKVs n a b p = .ok m) (k : String) (y : Val) (hka : lookup k a = none) (hkb : lookup k b = some y) :
    lookup k m = some y := by
  have := merge_map_pointwise n a b m p hb h k
  rw [hka, hkb] at this
  exact this

theorem merge_common_key_recursive (n : Nat) (a b m : KVs) (p : TPath) (hb : (keys b).Nodup)
    (h : mergeKVs n a b p = .ok m) (k : String) (x y : Val) (hka : lookup k a = some x) (hkb : lookup k b = some y)
    (hx : hasXPrefix k = false) : ∃ z, mergeYaml n x y (next p k) = .ok z ∧ lookup k m = some z := by
  have := merge_map_pointwise n a b m p hb h k
  rw [hka, hkb] at this
  simpa [PointwiseAt, hx] using this

theorem merge_no_new_keys (n : Nat) (a b m : KVs) (p : TPath) (hb : (keys b).Nodup)
    (h : mergeKVs n a b p = .ok m) (k : String) (hka : lookup k a = none) (hkb : lookup k b = none) :
    lookup k m = none := by
  have := merge_map_pointwise n a b m p hb h k
  rw [hka, hkb] at this
  exact this

/-- Go ranges over the override mapping in random order: every order that succeeds yields the same mapping -/
theorem merge_map_order_independent (n : Nat) (a b b' m m' : KVs) (p : TPath) (hb : (keys b).Nodup) (hp : b'.Perm b)
    (h : mergeKVs n a b p = .ok m) (h' : mergeKVs n a b' p = .ok m') (k : String) : lookup k m' = lookup k m := by
  have hb' : (keys b').Nodup := (hp.map Prod.fst).nodup_iff.mpr hb
  have h1 := merge_map_pointwise n a b m p hb h k
  have h2 := merge_map_pointwise n a b' m' p hb' h' k
  rw [Val.lookup_perm hp hb'] at h2
  exact pointwiseAt_unique h2 h1

example : mergeKVs 3 [("image", .str "a"), ("deploy", .map [("replicas", .int 1)])]
    [("deploy", .map [("mode", .str "global")]), ("hostname", .str "h")] ["services", "s"]
    = .ok [("image", .str "a"), ("deploy", .map [("replicas", .int 1), ("mode", .str "global")]), ("hostname", .str "h")] := by decide +kernel

theorem merge_map_keys_nodup (f : Val → Val → TPath → Out Val) (p : TPath) :
    ∀ (b a m : KVs), (keys a).Nodup → mergeKVsWith f a b p = .ok m → (keys m).Nodup := by
  intro b
  induction b with
  | nil => intro a m ha h; cases h; exact ha
  | cons hd tl ih =>
    intro a m ha h
    obtain ⟨w, h, _⟩ := mergeKVsWith_cons_ok h
    exact ih _ _ (nodup_insert ha) h

/-! ## the special mergers -/

/-- command / entrypoint / healthcheck.test: **replaced wholesale**, whatever the two values are -/
theorem wholesale_replace (n : Nat) (e o : Val) (p : TPath) (hp : ruleAt p = some .override) :
    mergeYaml (n + 1) e o p = .ok o :=
  mergeYaml_succ_special hp n e o

theorem command_replaced (n : Nat) (e o : Val) (s : String) :
    mergeYaml (n + 1) e o ["services", s, "command"] = .ok o :=
  wholesale_replace n e o _ (wholesale_paths s).1

/-- KEY=VALUE style attributes: both sides are first converted to sequences (a mapping becomes its sorted
`KEY=VALUE` strings, a string a one-element list) and appended, **whichever spelling either side uses** -/
theorem toSeq_append (n : Nat) (e o : Val) (p : TPath) (hp : ruleAt p = some .toSeq) :
    mergeYaml (n + 1) e o p = .ok (.seq (seqOf e ++ seqOf o)) :=
  mergeYaml_succ_special hp n e o

example : mergeYaml 1 (.map [("B", .int 2), ("A", .null)]) (.seq [.str "B=3"]) ["services", "s", "environment"]
    = .ok (.seq [.str "A", .str "B=2", .str "B=3"]) := by decide +kernel

/-- **the list spelling of depends_on / networks is the mapping spelling with the default value**: `[a, b]` converts to
the mapping that holds the default (`{condition: service_started, required: true}`, resp. null) at exactly `a` and `b` -/
theorem list_spelling_is_default_mapping (dflt : Val) (names : List String) :
    ∃ m, intoMap dflt (.seq (names.map Val.str)) = .ok m ∧ ∀ k, lookup k m = if k ∈ names then some dflt else none := by
  refine ⟨names.foldl (fun m s => Val.insert s dflt m) [], ?_, ?_⟩
  · simp only [intoMap, listIntoMap_names]
  · intro k; rw [lookup_foldl_insert]; simp [lookup]

/-- depends_on / networks / build: both sides are converted to mappings, then merged like mappings -/
theorem convMerge_pointwise (n : Nat) (conv : Val → Out KVs) (e o : Val) (p : TPath) (a b m : KVs)
    (ha : conv e = .ok a) (hb : conv o = .ok b) (hnd : (keys b).Nodup)
    (h : convMerge (mergeKVs n) conv e o p = .ok (.map m)) (k : String) :
    PointwiseAt (mergeYaml n) p k (lookup k a) (lookup k b) (lookup k m) := by
  simp only [convMerge, ha, hb, Out.bind] at h
  obtain ⟨m', hm, h⟩ := bind_eq_ok h
  cases h
  exact merge_map_pointwise n a b m p hnd hm k

/-- **depends_on merges per dependency, per field, whichever spelling either side uses** (pointwise law on the
converted mappings; a dependency only the base has is preserved, one only the override has is added) -/
theorem dependsOn_pointwise (n : Nat) (e o : Val) (p : TPath) (a b m : KVs) (hp : ruleAt p = some .dependsOn)
    (ha : intoMap dependsOnDefault e = .ok a) (hb : intoMap dependsOnDefault o = .ok b) (hnd : (keys b).Nodup)
    (h : mergeYaml (n + 1) e o p = .ok (.map m)) (k : String) :
    PointwiseAt (mergeYaml n) p k (lookup k a) (lookup k b) (lookup k m) :=
  convMerge_pointwise n _ e o p a b m ha hb hnd ((mergeYaml_succ_special hp n e o).symm.trans h) k

theorem serviceNetworks_pointwise (n : Nat) (e o : Val) (p : TPath) (a b m : KVs) (hp : ruleAt p = some .networks)
    (ha : intoMap .null e = .ok a) (hb : intoMap .null o = .ok b) (hnd : (keys b).Nodup)
    (h : mergeYaml (n + 1) e o p = .ok (.map m)) (k : String) :
    PointwiseAt (mergeYaml n) p k (lookup k a) (lookup k b) (lookup k m) :=
  convMerge_pointwise n _ e o p a b m ha hb hnd ((mergeYaml_succ_special hp n e o).symm.trans h) k

/-- **build: a string is the context of a mapping**, then the two mappings merge key by key -/
theorem build_pointwise (n : Nat) (e o : Val) (p : TPath) (a b m : KVs) (hp : ruleAt p = some .build)
    (ha : toBuild e = .ok a) (hb : toBuild o = .ok b) (hnd : (keys b).Nodup)
    (h : mergeYaml (n + 1) e o p = .ok (.map m)) (k : String) :
    PointwiseAt (mergeYaml n) p k (lookup k a) (lookup k b) (lookup k m) :=
  convMerge_pointwise n _ e o p a b m ha hb hnd ((mergeYaml_succ_special hp n e o).symm.trans h) k

theorem build_string_is_context (s : String) : toBuild (.str s) = .ok [("context", .str s)] := rfl

example : mergeYaml 2 (.str "./dir") (.map [("dockerfile", .str "D")]) ["services", "s", "build"]
    = .ok (.map [("context", .str "./dir"), ("dockerfile", .str "D")]) := by decide +kernel

example : mergeYaml 3 (.seq [.str "db"]) (.map [("db", .map [("condition", .str "service_healthy")]), ("mq", .map [("condition", .str "service_started")])])
      ["services", "s", "depends_on"]
    = .ok (.map [("db", .map [("condition", .str "service_healthy"), ("required", .bool true)]), ("mq", .map [("condition", .str "service_started")])]) := by decide +kernel

/-- logging: with the same driver on both sides (or a side that names none) the two sections merge key by key -/
theorem logging_same_driver_merges (n : Nat) (config other : KVs) (p : TPath) (hp : ruleAt p = some .logging)
    (h : sameScalar ((lookup "driver" other).getD .null) ((lookup "driver" config).getD .null) = true ∨
         lookup "driver" other = none ∨ lookup "driver" config = none) :
    mergeYaml (n + 1) (.map config) (.map other) p = (mergeKVs n config other p).bind fun m => .ok (.map m) := by
  simp only [mergeYaml_succ_special hp, specialStep, loggingStep]
  rcases h with h | h | h <;> simp [h]

/-- logging: an override that names another driver replaces the section -/
theorem logging_other_driver_replaces (n : Nat) (config other : KVs) (p : TPath) (d c : Val) (hp : ruleAt p = some .logging)
    (hd : lookup "driver" other = some d) (hc : lookup "driver" config = some c) (hne : sameScalar d c = false) :
    mergeYaml (n + 1) (.map config) (.map other) p = .ok (.map other) := by
  simp [mergeYaml_succ_special hp, specialStep, loggingStep, hd, hc, hne]

/-- a malformed logging section is an error, never a panic -/
theorem logging_wrong_kind_is_error (n : Nat) (e o : Val) (p : TPath) (hp : ruleAt p = some .logging)
    (he : e ≠ .null) (ho : o ≠ .null) (h : (∀ a, e ≠ .map a) ∨ (∀ b, o ≠ .map b)) :
    mergeYaml (n + 1) e o p = .err "cannotOverride" := by
  simp only [mergeYaml_succ_special hp, specialStep, loggingStep]
  split
  · exact absurd rfl he
  · exact absurd rfl ho
  · rcases h with h | h <;> exact absurd rfl (h _)
  · rfl

/-- **extra_hosts: the override's entries that the base does not already have are appended** — the base entries
stay in front unchanged, nothing is invented, nothing the base has is repeated -/
theorem extraHosts_appends_new (n : Nat) (e o : Val) (p : TPath) (hp : ruleAt p = some .extraHosts) :
    mergeYaml (n + 1) e o p = .ok (.seq (seqOf e ++ keepNew (seqOf e) (seqOf o))) ∧
    ∀ v, v ∈ keepNew (seqOf e) (seqOf o) ↔ v ∈ seqOf o ∧ (seqOf e).any (fun x => sameScalar x v) = false := by
  refine ⟨mergeYaml_succ_special hp n e o, fun v => ?_⟩
  rw [keepNew_eq_filter, List.mem_filter, Bool.not_eq_true']

example : mergeYaml 1 (.map [("h1", .str "10.0.0.1")]) (.seq [.str "h1=10.0.0.1", .str "h2=10.0.0.2"]) ["services", "s", "extra_hosts"]
    = .ok (.seq [.str "h1=10.0.0.1", .str "h2=10.0.0.2"]) := by decide +kernel

/-! ## ipam pools, by subnet -/

theorem ipam_no_pool_dropped (mk : KVs → KVs → TPath → Out KVs) (p : TPath) : ∀ (lefts cfgs r : List KVs),
    ipamFold mk cfgs lefts p = .ok r → cfgs.length ≤ r.length := by
  intro lefts
  induction lefts with
  | nil => intro cfgs r h; simp only [ipamFold, Out.ok.injEq] at h; subst h; exact Nat.le_refl _
  | cons left rest ih =>
    intro cfgs r h
    simp only [ipamFold] at h
    cases hi : ipamIndex (subnetOf left) cfgs 0 with
    | none =>
      simp only [hi] at h
      have := ih _ _ h
      simp only [List.length_append, List.length_singleton] at this; omega
    | some i =>
      simp only [hi] at h
      obtain ⟨m, _, h⟩ := bind_eq_ok h
      have := ih _ _ h
      rw [listSet_eq_set, List.length_set] at this; exact this

/-- **a pool whose subnet the override does not mention is preserved unchanged, at its position** (`Neg/C04.lean` has a
merger for which this fails: base `[A]` + override `[B]` = `[B]`) -/
theorem ipam_unmentioned_pool_preserved (mk : KVs → KVs → TPath → Out KVs) (p : TPath) (i : Nat) (c : KVs) :
    ∀ (lefts cfgs r : List KVs), cfgs[i]? = some c →
      (∀ l ∈ lefts, sameScalar (subnetOf c) (subnetOf l) = false) →
      ipamFold mk cfgs lefts p = .ok r → r[i]? = some c := by
  intro lefts
  induction lefts with
  | nil => intro cfgs r hc _ h; simp only [ipamFold, Out.ok.injEq] at h; subst h; exact hc
  | cons left rest ih =>
    intro cfgs r hc hno h
    have hrest : ∀ l ∈ rest, sameScalar (subnetOf c) (subnetOf l) = false := fun l hl => hno l (by simp [hl])
    simp only [ipamFold] at h
    cases hi : ipamIndex (subnetOf left) cfgs 0 with
    | none =>
      simp only [hi] at h
      refine ih _ _ ?_ hrest h
      rw [List.getElem?_append_left]
      · exact hc
      · exact (List.getElem?_eq_some_iff.mp hc).1
    | some j =>
      simp only [hi] at h
      obtain ⟨m, _, h⟩ := bind_eq_ok h
      refine ih _ _ ?_ hrest h
      have hji : j ≠ i := by
        intro hji; subst hji
        obtain ⟨m', h1, _, h3⟩ := ipamIndex_spec _ _ _ _ hi
        simp only [Nat.sub_zero] at h1
        rw [hc] at h1; cases h1
        rw [hno left (by simp)] at h3; cases h3
      rw [listSet_eq_set, List.getElem?_set_ne hji]; exact hc

/-- a pool with a new subnet is appended -/
theorem ipam_new_pool_appended (mk : KVs → KVs → TPath → Out KVs) (p : TPath) (cfgs : List KVs) (left : KVs)
    (h : ipamIndex (subnetOf left) cfgs 0 = none) : ipamFold mk cfgs [left] p = .ok (cfgs ++ [left]) := by
  simp [ipamFold, h]

/-- a pool with the subnet of an existing pool is merged into that pool, in place -/
theorem ipam_same_subnet_merged (mk : KVs → KVs → TPath → Out KVs) (p : TPath) (cfgs : List KVs) (left m : KVs) (i : Nat)
    (h : ipamIndex (subnetOf left) cfgs 0 = some i) (hm : mk (cfgs[i]?.getD []) left p = .ok m) :
    ipamFold mk cfgs [left] p = .ok (listSet cfgs i m) := by
  simp [ipamFold, h, hm, Out.bind]

/-! ## totality: no panic, and the fuel does not matter -/

/-- any fuel above the bound avoids the fuel panic, so the choice of `fuelFor` is immaterial -/
theorem fuelFor_enough (over : Val) : depth over + 2 ≤ fuelFor over := by unfold fuelFor; omega

/-- **`override.Merge` never panics** (the model has no panic outcome but the fuel, and the fuel `fuelFor` is enough);
`Neg/C04.lean` keeps a merger that did (`PreFix.ipam_panicked`) -/
theorem merge_never_panics (base over : Val) (s : String) : merge base over ≠ .panic s :=
  Merge.merge_never_panics base over s

theorem extendService_never_panics (base over : Val) (s : String) : extendService base over ≠ .panic s :=
  Merge.extendService_never_panics base over s

/-- **the fuel is irrelevant above the bound**: every fuel `≥ depth o + 2` computes the same result, so the value chosen
by `fuelFor` (and the fuel parameter of every theorem above) does not matter -/
theorem mergeYaml_fuel_irrelevant (n n' : Nat) (e o : Val) (p : TPath) (h : depth o + 2 ≤ n) (h' : n ≤ n') :
    mergeYaml n' e o p = mergeYaml n e o p := by
  exact Fuel.Le.of_succ (run := fun n => mergeYaml n e o p) (fun n => mergeYaml_succ_le n e o p) h'
    fun ⟨s, hs⟩ => mergeYaml_fuel_sufficient n e o p h s hs

/-- **`override.EnforceUnicity` never panics**, on any tree (the walk over the entries of a mapping; `enforceTop_never_panics` is the entry point) -/
theorem enforceKVs_never_panics : ∀ (kvs : KVs) (p : TPath) (s : String), enforceKVs kvs p ≠ .panic s :=
  Unicity.enforceKVs_never_panics

theorem enforceTop_never_panics (v : Val) (s : String) : enforceTop v ≠ .panic s := Unicity.enforceTop_never_panics v s

/-! ## unicity: one entry per key, the later one wins -/

/-- after unicity no two entries share a key -/
theorem unicity_nodup_keys (l : List (String × Val)) : (keys (dedupKVs l)).Nodup :=
  nodup_foldl_step l [] (by simp [keys])

/-- **the later entry wins**: the entry kept for a key is the last one carrying that key -/
theorem unicity_last_wins (l : List (String × Val)) (k : String) : lookup k (dedupKVs l) = lastVal k l := by
  rw [dedupKVs_eq, lookup_foldl_step]
  cases lastVal k l <;> simp [lookup]

/-- **first position kept**: scanning the entries, a key takes its place the first time it is seen -/
theorem unicity_keeps_first_position (l : List (String × Val)) :
    keys (dedupKVs l) = (l.map Prod.fst).foldl addKey [] := by
  rw [dedupKVs_eq, keys_foldl_step]; rfl

theorem unicity_keeps_every_key (l : List (String × Val)) (k : String) :
    k ∈ keys (dedupKVs l) ↔ k ∈ l.map Prod.fst := by
  rw [← lookup_isSome, unicity_last_wins, Option.isSome_iff_ne_none, Ne, lastVal_eq_none_iff, Classical.not_not]

/-- unicity is idempotent (the loader applies it after the merge and again after canonicalisation) -/
theorem unicity_idem (l : List (String × Val)) : dedupKVs (dedupKVs l) = dedupKVs l := by
  have h := unicity_nodup_keys l
  rw [dedupKVs_eq (dedupKVs l), foldl_step_of_nodup _ [] (by simpa using h)]
  rfl

theorem unicity_noop_of_nodup (l : List (String × Val)) (h : (keys l).Nodup) : dedupKVs l = l := by
  rw [dedupKVs_eq, foldl_step_of_nodup _ [] (by simpa using h)]; rfl

theorem indexAll_length (ix : Indexer) : ∀ (xs : List Val) (ks : List String), indexAll ix xs = .ok ks → ks.length = xs.length :=
  Unicity.indexAll_length ix

theorem indexAll_append (ix : Indexer) : ∀ (xs ys : List Val) (ka kb : List String),
    indexAll ix xs = .ok ka → indexAll ix ys = .ok kb → indexAll ix (xs ++ ys) = .ok (ka ++ kb) :=
  Unicity.indexAll_append ix

theorem enforce_indexed_seq (p : TPath) (ix : Indexer) (xs : List Val) (ks : List String)
    (hp : indexerAt p = some ix) (hk : indexAll ix xs = .ok ks) : enforce (.seq xs) p = .ok (.seq (dedup ks xs)) := by
  simp only [enforce, hp, hk, Out.bind]

theorem enforce_plain_seq (p : TPath) (xs : List Val) (hp : indexerAt p = none) : enforce (.seq xs) p = .ok (.seq xs) := by
  simp only [enforce, hp]

/-- **keyed lists keep a single entry per key with the later file winning** — base entries `xa` (keys `ka`) followed
by override entries `xb` (keys `kb`): the entry kept for `k` is the override's last one if it has any, else the base's -/
theorem append_later_wins (p : TPath) (ix : Indexer) (xa xb : List Val) (ka kb : List String) (hi : indexerAt p = some ix)
    (ha : indexAll ix xa = .ok ka) (hb : indexAll ix xb = .ok kb) :
    ∃ r : KVs, enforce (.seq (xa ++ xb)) p = .ok (.seq (r.map Prod.snd)) ∧ (keys r).Nodup ∧
      ∀ k, lookup k r = match lastVal k (kb.zip xb) with
                        | some w => some w
                        | none => lastVal k (ka.zip xa) := by
  refine ⟨dedupKVs ((ka ++ kb).zip (xa ++ xb)), enforce_indexed_seq p ix _ _ hi (indexAll_append ix _ _ _ _ ha hb),
    unicity_nodup_keys _, fun k => ?_⟩
  rw [unicity_last_wins, List.zip_append (indexAll_length ix _ _ ha), lastVal_append]
  cases lastVal k (kb.zip xb) <;> rfl

/-- **KEY=VALUE attributes merge by key whichever spelling either side uses**: merge-to-sequence followed by
unicity keeps, for every key, the later file's entry if it mentions the key and the earlier file's otherwise -/
theorem kv_later_wins (n : Nat) (e o : Val) (p : TPath) (ix : Indexer) (ka kb : List String)
    (hr : ruleAt p = some .toSeq) (hi : indexerAt p = some ix)
    (ha : indexAll ix (seqOf e) = .ok ka) (hb : indexAll ix (seqOf o) = .ok kb) :
    ∃ r : KVs, (mergeYaml (n + 1) e o p).bind (fun m => enforce m p) = .ok (.seq (r.map Prod.snd)) ∧ (keys r).Nodup ∧
      ∀ k, lookup k r = match lastVal k (kb.zip (seqOf o)) with
                        | some w => some w
                        | none => lastVal k (ka.zip (seqOf e)) := by
  rw [toSeq_append n e o p hr]
  exact append_later_wins p ix _ _ ka kb hi ha hb

example : (mergeYaml 1 (.map [("B", .int 2), ("A", .null)]) (.seq [.str "B=3", .str "C"]) ["services", "s", "environment"]).bind
    (fun m => enforce m ["services", "s", "environment"]) = .ok (.seq [.str "A", .str "B=3", .str "C"]) := by decide +kernel

/-- the same for the lists that are appended by the default rule (ports, volumes, secrets, configs, devices, cap_add, …) -/
theorem keyed_list_later_wins (n : Nat) (xa xb : List Val) (p : TPath) (ix : Indexer) (ka kb : List String)
    (hr : ruleAt p = none) (hi : indexerAt p = some ix)
    (ha : indexAll ix xa = .ok ka) (hb : indexAll ix xb = .ok kb) :
    ∃ r : KVs, (mergeYaml (n + 1) (.seq xa) (.seq xb) p).bind (fun m => enforce m p) = .ok (.seq (r.map Prod.snd)) ∧
      (keys r).Nodup ∧
      ∀ k, lookup k r = match lastVal k (kb.zip xb) with
                        | some w => some w
                        | none => lastVal k (ka.zip xa) := by
  rw [merge_seq_append n xa xb p hr]
  exact append_later_wins p ix xa xb ka kb hi ha hb

example : (mergeYaml 1 (.seq [.str "vol:/data", .str "/cache"]) (.seq [.str "./src:/data:ro"]) ["services", "s", "volumes"]).bind
    (fun m => enforce m ["services", "s", "volumes"]) = .ok (.seq [.str "./src:/data:ro", .str "/cache"]) := by decide +kernel

/-! ## the mapping spelling of a KEY=VALUE attribute -/

theorem entryStrs_key (k : String) (v : Val) (hk : ∀ c ∈ k.toList, c ≠ '=') : ∀ s ∈ entryStrs k v, kvKey s = k := by
  intro s hs
  cases v with
  | null => rw [List.mem_singleton.mp hs]; exact kvKey_bare k hk
  | seq xs =>
    obtain ⟨x, _, rfl⟩ := List.mem_map.mp hs
    exact kvKey_entry k _ hk
  | _ => rw [List.mem_singleton.mp hs]; exact kvKey_entry k _ hk

/-- **the mapping spelling `K: V` is indexed under `K`, exactly like the list spelling `K=V`** -/
theorem mapStrs_keys : ∀ (m : KVs), (∀ k ∈ keys m, ∀ c ∈ k.toList, c ≠ '=') → ∀ s ∈ mapStrs m, kvKey s ∈ keys m := by
  intro m
  induction m with
  | nil => intro _ s hs; simp [mapStrs] at hs
  | cons hd tl ih =>
    obtain ⟨k, v⟩ := hd
    intro hk s hs
    simp only [mapStrs, List.mem_append] at hs
    simp only [keys, List.map_cons, List.mem_cons]
    rcases hs with hs | hs
    · exact .inl (entryStrs_key k v (hk k (by simp [keys])) s hs)
    · exact .inr (ih (fun k' hk' => hk k' (by simp only [keys, List.map_cons, List.mem_cons]; exact .inr hk')) s hs)

/-- a sequence of strings is always indexable by key (so `kv_later_wins` applies to every list / mapping of scalars) -/
theorem indexAll_keyValue_strs : ∀ l : List String, indexAll .keyValue (l.map Val.str) = .ok (l.map kvKey) := by
  intro l
  induction l with
  | nil => rfl
  | cons s r ih => simp only [List.map_cons, indexAll, index, Out.bind, ih]

theorem indexAll_keyValue_mapping (m : KVs) :
    indexAll .keyValue (seqOf (.map m)) = .ok ((sortStrs (mapStrs m)).map kvKey) := by
  simp only [seqOf, intoSeq, Option.getD_some]
  exact indexAll_keyValue_strs _

/-- **the mapping spelling is indexed like the list spelling** (through the sort of `convertIntoSequence`): in the
sequence made of a mapping with distinct `=`-free keys and non-sequence values, the entry found under index key `k` is
`k=V` (or `k` for a null value) for the mapping's own value at `k`; together with `kv_later_wins` this is "KEY=VALUE
attributes merge by key whichever spelling either side uses" down to the individual entry -/
theorem kv_mapping_spelling (m : KVs) (hnd : (keys m).Nodup) (hk : ∀ k ∈ keys m, ∀ c ∈ k.toList, c ≠ '=')
    (hv : ∀ kv ∈ m, ∀ xs, kv.2 ≠ .seq xs) (k : String) :
    lastVal k (((sortStrs (mapStrs m)).map kvKey).zip (seqOf (.map m))) = (lookup k m).map fun v => Val.str (entryStr k v) := by
  have hseq : seqOf (.map m) = (sortStrs (mapStrs m)).map Val.str := by simp [seqOf, intoSeq]
  rw [hseq, zip_eq_pairs]
  have hperm := sortStrs_perm (mapStrs m)
  have hpairs : (pairs (sortStrs (mapStrs m))).Perm (pairs (mapStrs m)) := hperm.map _
  have hkeys : (keys (pairs (mapStrs m))).Nodup := by
    rw [mapStrs_of_scalars m hv, pairs_entries m hk, keys, List.map_map]; exact hnd
  have hkeys' : (keys (pairs (sortStrs (mapStrs m)))).Nodup := (hpairs.map Prod.fst).nodup_iff.mpr hkeys
  rw [lastVal_eq_lookup _ hkeys', Val.lookup_perm hpairs hkeys', mapStrs_of_scalars m hv, pairs_entries m hk]
  exact lookup_map_val fun k v => Val.str (entryStr k v)

example : lastVal "B" (((sortStrs (mapStrs [("B", .int 2), ("A", .null)])).map kvKey).zip (seqOf (.map [("B", .int 2), ("A", .null)])))
    = some (.str "B=2") := by decide +kernel

/-! ## files and `---` documents -/

theorem loadDocs_append (post : Val → Out Val) : ∀ (ds ds' : List YNode) (dict : Val),
    loadDocs post dict (ds ++ ds') = (loadDocs post dict ds).bind fun d => loadDocs post d ds' := by
  intro ds
  induction ds with
  | nil => intro ds' dict; rfl
  | cons d r ih =>
    intro ds' dict
    simp only [List.cons_append, loadDocs, Merge.bind_assoc, ih]

/-- a list of files is loaded exactly like the concatenation of their documents -/
theorem files_eq_documents (post : Val → Out Val) : ∀ (fs : List (List YNode)) (dict : Val),
    loadFiles post dict fs = loadDocs post dict fs.flatten := by
  intro fs
  induction fs with
  | nil => intro dict; rfl
  | cons g r ih =>
    intro dict
    simp only [loadFiles, List.flatten_cons, loadDocs_append, ih]

/-- loading the files `fs` and then `f` = applying `f` onto the result of loading `fs` -/
theorem fold_files (post : Val → Out Val) : ∀ (fs : List (List YNode)) (f : List YNode) (dict : Val),
    loadFiles post dict (fs ++ [f]) = (loadFiles post dict fs).bind fun d => loadDocs post d f := by
  intro fs f dict
  simp only [files_eq_documents, List.flatten_append, List.flatten_cons, List.flatten_nil, List.append_nil, loadDocs_append]

/-- **several `---` documents in one file = the same documents as separate files** -/
theorem multiDoc_eq_multiFile (post : Val → Out Val) (docs : List YNode) (dict : Val) :
    loadFiles post dict [docs] = loadFiles post dict (docs.map fun d => [d]) := by
  simp only [files_eq_documents, List.flatten_cons, List.flatten_nil, List.append_nil, ← List.flatMap_def,
    List.flatMap_singleton']

/-! ## `!reset` and `!override` -/

/-- **`!reset` removes the attribute**: a mapping entry tagged `!reset` is dropped from the document, its path is
recorded, `Apply` deletes that key from the model merged so far, and the merge cannot bring it back — whatever the
base held there, at any depth `p` -/
theorem reset_removes (n : Nat) (p : TPath) (k : String) (x : YNode) (ht : x.tag = .reset)
    (es : List (String × YNode)) (hnd : (es.map Prod.fst).Nodup) (hmem : (k, x) ∈ es)
    (paths : List TPath) (hsub : ∀ q ∈ (resolveMap es p).2, q ∈ paths) (a m : KVs)
    (h : mergeKVs n (applyKVs paths a p) (decodeKV (resolveMap es p).1) p = .ok m) : lookup k m = none := by
  -- the tagged entry is dropped from the document and its path `next p k` is recorded
  obtain ⟨hgone, hrec⟩ := resolveMap_entry p k x es hnd hmem
  rw [resolve_reset x _ ht] at hgone hrec
  have hdel : lookup k (applyKVs paths a p) = none := by
    rw [lookup_applyKVs, if_pos (matchesAny_of_mem (hsub _ (hrec _ (List.mem_singleton_self _))))]
  exact merge_no_new_keys n _ _ m p (resolveMap_keys_nodup p es hnd) h k hdel hgone

/-- **`!override` replaces without merging**: the entry stays in the document as written, the base's value at that
key is deleted first, so the result is the override's value itself — no append, no key-wise merge -/
theorem override_replaces (n : Nat) (p : TPath) (k : String) (x : YNode) (ht : x.tag = .override)
    (es : List (String × YNode)) (hnd : (es.map Prod.fst).Nodup) (hmem : (k, x) ∈ es)
    (paths : List TPath) (hsub : ∀ q ∈ (resolveMap es p).2, q ∈ paths) (a m : KVs)
    (h : mergeKVs n (applyKVs paths a p) (decodeKV (resolveMap es p).1) p = .ok m) : lookup k m = some (decode x) := by
  -- the tagged entry stays in the document as written and its path `next p k` is recorded
  obtain ⟨hkept, hrec⟩ := resolveMap_entry p k x es hnd hmem
  rw [resolve_override x _ ht] at hkept hrec
  have hdel : lookup k (applyKVs paths a p) = none := by
    rw [lookup_applyKVs, if_pos (matchesAny_of_mem (hsub _ (hrec _ (List.mem_singleton_self _))))]
  exact merge_new_key_added n _ _ m p (resolveMap_keys_nodup p es hnd) h k _ hdel hkept

/-- keys whose path matches no recorded path survive `Apply` (frame of `!reset` / `!override`) -/
theorem reset_frame (paths : List TPath) (p : TPath) (k : String) (h : matchesAny paths (next p k) = false) (a : KVs) :
    lookup k (applyKVs paths a p) = (lookup k a).map fun e => applyNull paths e (next p k) := by
  rw [lookup_applyKVs, h]; rfl

theorem apply_no_paths (p : TPath) : ∀ a : KVs, (∀ k v, (k, v) ∈ a → applyNull [] v (next p k) = v) → applyKVs [] a p = a := by
  intro a
  induction a with
  | nil => intro _; rfl
  | cons hd tl ih =>
    obtain ⟨k, v⟩ := hd
    intro h
    simp only [applyKVs, matchesAny, List.any_nil, Bool.false_eq_true, if_false]
    rw [h k v (by simp), ih (fun k' v' hm => h k' v' (by simp [hm]))]

-- non-vacuity: a two-document stream where the second document resets `ports` and overrides `dns`
example :
    loadDocs .ok (.map [("services", .map [("web", .map [("image", .str "nginx"), ("ports", .seq [.str "80"]), ("dns", .seq [.str "1.1.1.1"])])])])
      [.map .none [("services", .map .none [("web", .map .none [("ports", .scalar .reset .null), ("dns", .seq .override [.scalar .none (.str "9.9.9.9")])])])]]
    = .ok (.map [("services", .map [("web", .map [("image", .str "nginx"), ("dns", .seq [.str "9.9.9.9"])])])]) := by decide +kernel

/-! ## the document root: one whole `docStep` -/

theorem enforceKVs_keys : ∀ (kvs r : KVs) (p : TPath), enforceKVs kvs p = .ok r → keys r = keys kvs :=
  Unicity.enforceKVs_keys

theorem root_has_no_rule : ruleAt TPath.root = none := ruleAt_short _ (by decide)

/-- what one document does to the model at the document root: `Apply`, `mergeMappings`, unicity -/
theorem docStep_root (a : KVs) (es : List (String × YNode)) (r : Val)
    (h : docStep .ok (.map a) (.map .none es) = .ok r) :
    ∃ m r', mergeKVs (depth (.map (decodeKV (resolveMap es TPath.root).1)) + 7)
                (applyKVs (resolveMap es TPath.root).2 a TPath.root) (decodeKV (resolveMap es TPath.root).1) TPath.root = .ok m ∧
            enforceKVs m TPath.root = .ok r' ∧ r = .map r' := by
  simp only [docStep_eq, bind_ok_right] at h
  obtain ⟨d, hd, h⟩ := bind_eq_ok h
  simp only [readDoc, resolve, decode, applyNull, merge_maps] at hd
  obtain ⟨m, hm, hd⟩ := bind_eq_ok hd
  cases hd
  obtain ⟨_, r', e, hr, rfl⟩ := enforceTop_ok h
  cases e
  exact ⟨m, r', hm, hr, rfl⟩

/-- **`!reset` at the top level of a document removes the attribute from the loaded model** (whole document step:
tag resolution, `Apply`, merge, unicity) -/
theorem docStep_reset_removes (a : KVs) (es : List (String × YNode)) (k : String) (x : YNode) (r : KVs)
    (ht : x.tag = .reset) (hnd : (es.map Prod.fst).Nodup) (hmem : (k, x) ∈ es)
    (h : docStep .ok (.map a) (.map .none es) = .ok (.map r)) : lookup k r = none := by
  obtain ⟨m, r', hm, hr, heq⟩ := docStep_root a es _ h
  cases heq
  have := reset_removes _ TPath.root k x ht es hnd hmem _ (fun q hq => hq) a m hm
  rw [lookup_eq_none] at this ⊢
  rw [enforceKVs_keys _ _ _ hr]; exact this

/-- **`!override` at the top level of a document**: the key is in the model the step returns (`override_replaces` says what
the merge leaves there: the document's value) -/
theorem docStep_override_replaces (a : KVs) (es : List (String × YNode)) (k : String) (x : YNode) (r : KVs)
    (ht : x.tag = .override) (hnd : (es.map Prod.fst).Nodup) (hmem : (k, x) ∈ es)
    (h : docStep .ok (.map a) (.map .none es) = .ok (.map r)) : k ∈ keys r := by
  obtain ⟨m, r', hm, hr, heq⟩ := docStep_root a es _ h
  cases heq
  have := override_replaces _ TPath.root k x ht es hnd hmem _ (fun q hq => hq) a m hm
  rw [enforceKVs_keys _ _ _ hr, ← lookup_isSome, this]; rfl

/-! ## index keys -/

/-- the key of a long-syntax port: `host_ip:published:target/protocol` with the defaults `0.0.0.0` and `tcp` -/
theorem port_key (kvs : KVs) (t : Val) (ht : lookup "target" kvs = some t) :
    index .port (.map kvs) = .ok (sprintArg 's' true ((lookup "host_ip" kvs).getD (.str "0.0.0.0")) ++ ":" ++
      Merge.fmtV ((lookup "published" kvs).getD .null) ++ ":" ++ Merge.fmtV t ++ "/" ++
      sprintArg 's' true ((lookup "protocol" kvs).getD (.str "tcp"))) := by
  simp [index, ht]

/-- **the port key does not depend on how `published` / `target` are spelled**: an integer and the string of its
decimal digits give the same key (`Neg/C04.lean` has an indexer for which they do not) -/
theorem port_key_spelling_independent (kvs kvs' : KVs) (n t : Int)
    (hp : lookup "published" kvs = some (.int n)) (hp' : lookup "published" kvs' = some (.str (toString n)))
    (ht : lookup "target" kvs = some (.int t)) (ht' : lookup "target" kvs' = some (.str (toString t)))
    (hh : lookup "host_ip" kvs = lookup "host_ip" kvs') (hpr : lookup "protocol" kvs = lookup "protocol" kvs') :
    index .port (.map kvs) = index .port (.map kvs') := by
  rw [port_key kvs _ ht, port_key kvs' _ ht', hp, hp', hh, hpr]
  simp [Merge.fmtV]

example : index .port (.map [("target", .int 80), ("published", .int 8080)]) = index .port (.map [("target", .str "80"), ("published", .str "8080")]) := by decide +kernel

/-- the key of a long-syntax volume is its target (so is the key of a short-syntax one: the `example` below) -/
theorem volume_key_long (kvs : KVs) (t : String) (ht : lookup "target" kvs = some (.str t)) :
    index .volume (.map kvs) = .ok t := by
  simp [index, ht]

example : index .volume (.str "./src:/data:ro") = .ok "/data" ∧ index .volume (.map [("type", .str "volume"), ("target", .str "/data")]) = .ok "/data" := by
  decide +kernel

end CV.C04
