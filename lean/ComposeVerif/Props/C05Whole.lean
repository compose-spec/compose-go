import ComposeVerif.Lemmas.Pipeline
import ComposeVerif.Props.C05Cycle
/-!
# C05 — the property's clause about the **composed pipeline**

`Model/Pipeline.lean` (the composition of the stage models in the order of `loader/loader.go`, run against
`loader.LoadModelWithContext` by the `pipeline.load` stream) calls `ApplyExtends` per document, after interpolation and
before the merge, when `SkipExtends` is off (`extendsStage`: C05's model with the real merge step; in the composed model
no other file is reachable, so every `file:` reference is a missing file).  The stage theorems of `Props/C05*.lean`
are lifted to the whole function here.
-/
namespace CV.Extends.Whole
open CV CV.Val CV.Extends CV.Pipeline

/-- the environment of the composed model: real merge step, no other file reachable -/
abbrev pipeEnv (c : Cfg) : Env := realEnv c.mainFile []

theorem visits_keys (S : KVs) : Visits (keys S) S := fun _ => mem_keys_iff

theorem pipeEnv_fs (c : Cfg) (f : String) : fileServices (pipeEnv c).fs f = none := rfl

theorem pipeEnv_noNullFS (c : Cfg) : NoNullFS (pipeEnv c) := by
  intro f S h
  simp [pipeEnv_fs] at h

theorem pipeEnv_panicFree (c : Cfg) : PanicFree (pipeEnv c) :=
  realEnv_panicFree c.mainFile [] (fun f s ⟨r, h, _⟩ => by simp [fsLookup] at h)

theorem applyExtends_eq_ord {E : Env} {dict S : KVs} (hS : lookup "services" dict = some (.map S)) :
    applyExtends E dict = applyExtendsOrd E (keys S) dict := by
  simp [applyExtends, hS]

theorem extendsStage_on {c : Cfg} (hx : c.opts.skipExtends = false) (cfg : KVs) :
    extendsStage c cfg = ofExtends (applyExtends (pipeEnv c) cfg) := by
  simp [extendsStage, hx]

/-- a document is *flattened*: `flat` is `cfg` with its services mapping replaced by one in which every service is its
`Flat` form (resolved base, own attributes on top, `extends` removed), nothing added, nothing `extends`-bearing left (the
last clause follows from the one before it: `FlatServices.shape`) -/
def Flattened (E : Env) (cfg flat : KVs) : Prop :=
  (lookup "services" cfg = none ∧ flat = cfg) ∨
  ∃ S R, lookup "services" cfg = some (.map S) ∧ flat = insert "services" (.map R) cfg ∧
    (∀ n, lookup n S = none → lookup n R = none) ∧
    (∀ n, lookup n S ≠ none → ∃ v, lookup n R = some v ∧ Flat E S n v) ∧
    (∀ n v, lookup n R = some v → ∃ m, v = .map m ∧ lookup "extends" m = none)

theorem applyExtends_ok {E : Env} {dict out : KVs} (h : applyExtends E dict = .ok out) :
    (lookup "services" dict = none ∧ out = dict) ∨
    ∃ S, lookup "services" dict = some (.map S) ∧ applyExtendsOrd E (keys S) dict = .ok out := by
  unfold applyExtends at h
  split at h
  · exact .inr ⟨_, ‹_›, h⟩
  · rename_i hnm
    unfold applyExtendsOrd at h
    split at h
    · cases h; exact .inl ⟨‹_›, rfl⟩
    · exact (hnm _ ‹_›).elim
    · cases h

/-- **what the extends stage hands to the merge**: a flattened document -/
theorem extendsStage_ok_flattened {c : Cfg} (hx : c.opts.skipExtends = false) {cfg out : KVs}
    (hnn : ∀ S, lookup "services" cfg = some (.map S) → NoNull S)
    (h : extendsStage c cfg = .ok out) : Flattened (pipeEnv c) cfg out := by
  rw [extendsStage_on hx] at h
  rcases applyExtends_ok (ofExtends_ok h) with ⟨hs, rfl⟩ | ⟨S, hs, hr⟩
  · exact .inl ⟨hs, rfl⟩
  · obtain ⟨R, rfl, hall⟩ := applyExtendsOrd_flat hs (hnn S hs) (pipeEnv_noNullFS c) (visits_keys S) hr
    exact .inr ⟨S, R, hs, rfl, fun n => (hall n).1, fun n => (hall n).2, fun _ _ => hall.shape⟩

/-- the merge pipeline over already flattened documents: the fold of `mergeStages` (merge into the model so far,
unicity, schema, canonical form, omitEmpty, unicity) — `processDocs` without interpolation and without extends -/
def mergeDocs (c : Cfg) : Val → List KVs → Pipeline.Out Val
  | dict, [] => .ok dict
  | dict, d :: r =>
    match mergeStages c dict d with
    | .ok dict' => mergeDocs c dict' r
    | .err e => .err e
    | .panic s => .panic s

/-- two lists related elementwise (core Lean has no `Forall₂`) -/
inductive All₂ {α β : Type} (R : α → β → Prop) : List α → List β → Prop where
  | nil : All₂ R [] []
  | cons {a b as bs} : R a b → All₂ R as bs → All₂ R (a :: as) (b :: bs)

def StageOk (c : Cfg) (d flat : KVs) : Prop :=
  ∃ d', interpStage c d = .ok d' ∧ extendsStage c d' = .ok flat

theorem processDoc_of_stageOk {c : Cfg} {dict : Val} {d flat : KVs} (h : StageOk c d flat) :
    processDoc c dict d = mergeStages c dict flat := by
  obtain ⟨d', h1, h2⟩ := h
  simp [processDoc, h1, h2, Pipeline.Out.bind]

theorem processDocs_of_stageOk {c : Cfg} : ∀ {docs flats : List KVs} (dict : Val),
    All₂ (StageOk c) docs flats → processDocs c dict docs = mergeDocs c dict flats
  | [], [], _, _ => rfl
  | d :: ds, f :: fs, dict, .cons h hs => by
    simp only [processDocs, mergeDocs, processDoc_of_stageOk h]
    cases mergeStages c dict f with
    | ok dict' => exact processDocs_of_stageOk dict' hs
    | err e => rfl
    | panic s => rfl

theorem load_of_ne_nil (c : Cfg) {docs : List KVs} (hne : docs ≠ []) :
    load c docs = ((processDocs c (.map []) docs).bind (finishModel c)).bind (finishLoad c) := by
  cases docs with
  | nil => exact absurd rfl hne
  | cons _ _ => rfl

/-- **`Pipeline.load` with extends = the merge pipeline over the flattened documents.**  For every configuration with
`SkipExtends` off and every list of documents that interpolate and pass their extends stage: each document reaches the
merge *flattened* (every service = resolved base with its own attributes applied on top by the override rules, `extends`
removed, nothing else changed), and the whole load is the rest of the pipeline run over those flattened documents -/
theorem load_with_extends_eq_merge_of_flattened {c : Cfg} (hx : c.opts.skipExtends = false)
    {docs flats : List KVs} (hne : docs ≠ [])
    (hst : All₂ (StageOk c) docs flats)
    (hnn : ∀ d d' S, d ∈ docs → interpStage c d = .ok d' → lookup "services" d' = some (.map S) → NoNull S) :
    load c docs = ((mergeDocs c (.map []) flats).bind (finishModel c)).bind (finishLoad c) ∧
    All₂ (fun d flat => ∃ d', interpStage c d = .ok d' ∧ Flattened (pipeEnv c) d' flat) docs flats := by
  constructor
  · rw [load_of_ne_nil c hne, processDocs_of_stageOk _ hst]
  · clear hne
    induction hst with
    | nil => exact .nil
    | @cons d flat ds fs h _ ih =>
      refine .cons ?_ (ih (fun d₁ d' S hm => hnn d₁ d' S (List.mem_cons_of_mem _ hm)))
      obtain ⟨d', h1, h2⟩ := h
      exact ⟨d', h1, extendsStage_ok_flattened hx (fun S hS => hnn d d' S (List.mem_cons_self ..) h1 hS) h2⟩

/-- the hypothesis "its extends stage accepts" holds for every document whose services all have finite chains with
existing bases and succeeding merges: **acyclic ⇒ the stage accepts** (list order is one of the visit orders) -/
theorem load_acyclic_extends_stage_accepts {c : Cfg} (hx : c.opts.skipExtends = false) {d d' S : KVs}
    (hi : interpStage c d = .ok d') (hS : lookup "services" d' = some (.map S))
    (hflat : ∀ n, lookup n S ≠ none → ∃ v, Flat (pipeEnv c) S n v) :
    ∃ flat, StageOk c d flat := by
  obtain ⟨out, h⟩ := acyclic_ok (E := pipeEnv c) hS (visits_keys S) rfl hflat
  exact ⟨out, d', hi, by rw [extendsStage_on hx, applyExtends_eq_ord hS, h]; rfl⟩

/-- a document whose extends stage rejects makes the **whole load** fail at the stage `extends`, wherever it stands in
the list of files (the earlier ones having loaded), whatever follows it and whatever the other option flags are -/
theorem load_extends_error_is_load_error {c : Cfg} (hx : c.opts.skipExtends = false)
    {pre rest : List KVs} {d d' : KVs} {dict' : Val} {cls : String}
    (hpre : processDocs c (.map []) pre = .ok dict') (hi : interpStage c d = .ok d')
    (he : applyExtends (pipeEnv c) d' = .err cls) :
    load c (pre ++ d :: rest) = .err "extends" := by
  have hd : processDoc c dict' d = .err "extends" := by
    simp [processDoc, hi, extendsStage_on hx, he, ofExtends, Pipeline.Out.bind]
  -- the document loop runs through `pre` and stops at `d`
  rw [load_of_ne_nil c (by cases pre <;> nofun), loop_append (fun _ => rfl) (processDocs_cons c), hpre]
  simp only [Pipeline.Out.bind, processDocs_cons, hd]

/-- **a cyclic chain is an error of the whole load**: a document in which every service flattens or runs into a cycle,
one of them cyclic — the load fails at `extends` (the class inside the stage is `circular`: `cycle_is_circular`) -/
theorem load_cyclic_is_extends_error {c : Cfg} (hx : c.opts.skipExtends = false)
    {pre rest : List KVs} {d d' S : KVs} {dict' : Val}
    (hpre : processDocs c (.map []) pre = .ok dict') (hi : interpStage c d = .ok d')
    (hS : lookup "services" d' = some (.map S))
    (hall : ∀ n, lookup n S ≠ none → (∃ v, Flat (pipeEnv c) S n v) ∨ Cyclic (pipeEnv c) (S, n))
    (hc : ∃ n, lookup n S ≠ none ∧ Cyclic (pipeEnv c) (S, n)) :
    load c (pre ++ d :: rest) = .err "extends" := by
  have h := cycle_is_circular (E := pipeEnv c) (pipeEnv_panicFree c).fuelFree hS rfl (visits_keys S) hall hc
  exact load_extends_error_is_load_error hx hpre hi (by rw [applyExtends_eq_ord hS]; exact h)

/-- … also when the document has other defects: any cyclic chain ⇒ the load fails at `extends` -/
theorem load_any_cycle_is_extends_error {c : Cfg} (hx : c.opts.skipExtends = false)
    {pre rest : List KVs} {d d' S : KVs} {dict' : Val} {n : String}
    (hpre : processDocs c (.map []) pre = .ok dict') (hi : interpStage c d = .ok d')
    (hS : lookup "services" d' = some (.map S)) (hnn : NoNull S)
    (hn : lookup n S ≠ none) (hc : Cyclic (pipeEnv c) (S, n)) :
    load c (pre ++ d :: rest) = .err "extends" := by
  obtain ⟨cls, h⟩ := cycle_is_error (pipeEnv_panicFree c) hS hnn (pipeEnv_noNullFS c) (visits_keys S) hn hc
  exact load_extends_error_is_load_error hx hpre hi (by rw [applyExtends_eq_ord hS]; exact h)

theorem load_missing_base_is_extends_error {c : Cfg} (hx : c.opts.skipExtends = false)
    {pre rest : List KVs} {d d' S svc : KVs} {dict' : Val} {n ref : String} {e : Val}
    (hpre : processDocs c (.map []) pre = .ok dict') (hi : interpStage c d = .ok d')
    (hS : lookup "services" d' = some (.map S)) (hnn : NoNull S)
    (h1 : lookup n S = some (.map svc)) (h2 : lookup "extends" svc = some e)
    (h3 : parseExtends e = .ok (ref, none)) (h4 : lookup ref S = none) :
    load c (pre ++ d :: rest) = .err "extends" := by
  obtain ⟨cls, h⟩ := missing_base_is_error (pipeEnv_panicFree c) hS hnn (pipeEnv_noNullFS c) (visits_keys S) h1 h2 h3 h4
  exact load_extends_error_is_load_error hx hpre hi (by rw [applyExtends_eq_ord hS]; exact h)

/-- **a missing file is an error of the whole load**: in the composed model no other file is reachable, so every
`extends: {file: …}` fails the load at `extends` (cross-file chains: `Props/C05Load.lean` over a virtual file system) -/
theorem load_file_reference_is_extends_error {c : Cfg} (hx : c.opts.skipExtends = false)
    {pre rest : List KVs} {d d' S svc : KVs} {dict' : Val} {n ref f : String} {e : Val}
    (hpre : processDocs c (.map []) pre = .ok dict') (hi : interpStage c d = .ok d')
    (hS : lookup "services" d' = some (.map S)) (hnn : NoNull S)
    (h1 : lookup n S = some (.map svc)) (h2 : lookup "extends" svc = some e)
    (h3 : parseExtends e = .ok (ref, some f)) :
    load c (pre ++ d :: rest) = .err "extends" := by
  obtain ⟨cls, h⟩ := missing_file_is_error (pipeEnv_panicFree c) hS hnn (pipeEnv_noNullFS c) (visits_keys S) h1 h2 h3
    (Or.inl rfl)
  exact load_extends_error_is_load_error hx hpre hi (by rw [applyExtends_eq_ord hS]; exact h)

/-- **the extends stage of the composed pipeline does not depend on Go's map order**: the model runs the loop in list
order; had the loop visited the services in any other order, it would have accepted as well, with the same value for
every service -/
theorem extendsStage_any_order {c : Cfg} (hx : c.opts.skipExtends = false) {cfg out S : KVs} {order : List String}
    (hS : lookup "services" cfg = some (.map S)) (hnn : NoNull S) (hord : Visits order S)
    (h : extendsStage c cfg = .ok out) :
    ∃ out' R R', applyExtendsOrd (pipeEnv c) order cfg = .ok out' ∧
      lookup "services" out = some (.map R) ∧ lookup "services" out' = some (.map R') ∧
      ∀ n, lookup n R = lookup n R' := by
  rw [extendsStage_on hx, applyExtends_eq_ord hS] at h
  exact applyExtends_perm (E := pipeEnv c) hS hnn (pipeEnv_noNullFS c) rfl (visits_keys S) hord (ofExtends_ok h)

/-- with `SkipExtends` the stage is the identity: `extends` attributes reach the merge untouched -/
theorem extendsStage_off {c : Cfg} (hx : c.opts.skipExtends = true) (cfg : KVs) : extendsStage c cfg = .ok cfg := by
  simp [extendsStage, hx]

/-- the hypotheses about the stage are satisfiable: with interpolation skipped, `{services: {a: {image: i}, b: {extends: a}}}`
passes the extends stage (checked by evaluation of the model) -/
def exCfg : Cfg :=
  { opts := { skipInterpolation := true, skipExtends := false },
    interp := { table := [], fp := ⟨fun _ => none, fun _ => none⟩, env := fun _ => none },
    paths := { wd := [], home := none }, env := [], projectName := "p", clean := id, omitPats := [] }

def exDoc : KVs := [("services", .map [("a", .map [("image", .str "i")]), ("b", .map [("extends", .str "a")])])]

example : interpStage exCfg exDoc = .ok exDoc := rfl

example : exCfg.opts.skipExtends = false := rfl

/-- … and the extends stage of the composed model accepts it (evaluation of C05's model with C04's merge model) -/
example : (extendsStage exCfg exDoc).stage = "ok" := by decide +kernel

example : lookup "services" exDoc = some (.map [("a", .map [("image", .str "i")]), ("b", .map [("extends", .str "a")])]) := rfl

end CV.Extends.Whole
