import ComposeVerif.Props.C10
/-!
# C10 — every error of `checkConsistency` is truthful: no false rejection *reason*, not only no false rejection
-/
namespace CV.Consistency

/-- **every rejection is for a reason that is true of the project**: the class returned by `checkConsistency` is the
class of a rule some enabled service breaks, or `secretSource` with a secret that has no source, or the class of a
required dependency that is not an enabled service, or `cycle` on a project whose dependency graph has a cycle -/
theorem checkConsistency_error_truthful (p : Proj) (hnd : p.enabled.Nodup) (e : Err) (h : checkConsistency p = some e) :
    (∃ x ∈ p.services, ∃ r, ruleCheck p x.2 r = some e ∧ ¬ Holds p x.2 r) ∨
    (e = .secretSource ∧ ¬ SecretsSourced p) ∨
    (∃ x ∈ p.services, ∃ d ∈ x.2.dependsOn, d.1 ∉ p.enabled ∧ d.2 = true ∧ e = missingClass p.disabled d.1) ∨
    (e = .cycle ∧ DepsBuildable p ∧ ¬ Acyclic p) := by
  unfold checkConsistency at h
  rcases orE_some.mp h with h1 | ⟨-, h2⟩
  · obtain ⟨x, hx, hf⟩ := List.exists_of_findSome?_eq_some h1
    obtain ⟨r, hr, hn⟩ := checkSvc_error_truthful p x.2 e hf
    exact .inl ⟨x, hx, r, hr, hn⟩
  · rcases orE_some.mp h2 with h3 | ⟨-, h4⟩
    · obtain ⟨s, hs, hf⟩ := List.exists_of_findSome?_eq_some h3
      refine .inr (.inl ⟨checkSecret_some s.2 e hf, fun hall => ?_⟩)
      rw [(checkSecret_iff s.2).mpr (hall s hs)] at hf
      cases hf
    · right; right
      rcases checkCycleProj_cases p with ⟨e', he', heq⟩ | ⟨hb, heq⟩
      · cases heq.symm.trans h4
        exact .inl ((mem_graphErrs p e).mp he')
      · refine .inr ⟨(guard_some.mp (heq ▸ h4)).2.symm, hb, fun hac => ?_⟩
        rw [(checkCycleProj_iff p hnd hb).mpr hac] at h4
        cases h4

/-- non-vacuity: each of the four alternatives occurs -/
example : checkConsistency danglingProj = some .undefinedNetwork := checkConsistency_danglingProj
example : checkConsistency { services := [("a", { image := "i" })], secrets := [("s", {})] } = some .secretSource := by decide
example : checkConsistency { services := [("a", { image := "i", dependsOn := [("a", true), ("x", true)] })] }
    = some .undefinedDependency := by decide
example : checkCycleProj { services := [("a", { image := "i", dependsOn := [("x", true)] })] } = some .unknownService := by decide
example : checkConsistency cyclicProj = some .cycle := checkConsistency_cyclicProj

end CV.Consistency
