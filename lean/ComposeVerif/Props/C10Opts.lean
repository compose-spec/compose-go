import ComposeVerif.Props.C10Validate
import ComposeVerif.Model.ValidateCast
import ComposeVerif.Gen.C10Facts
/-!
# C10 — the structural checks under loader options that change the shape they see

`validation.Validate` runs on the merged tree *after* interpolation — unless `SkipInterpolation` is set: then the cast
table has not run and `external` can still be a string (`yes`, `On`, `"true"`, …).  The helper `asBoolean`
(validation/external.go) reads such a string; this module pins its body and its table of spellings as regenerated source
facts, proves that it reads a not-yet-cast string **exactly as the cast (`toBoolean`, C08's `Interp.parseBool`) would**,
and lifts that to every checker and to `Validate` on the whole tree: the verdict of the structural stage does not depend on
whether interpolation ran (`validate_cast_invariant`).  Hence the clause "an external volume together with creation
parameters fails to load" for *every* spelling of `external` (`validate_rejects_external_volume_any_spelling`).
-/
namespace CV.Validate
open CV CV.TPath

/-- tie: the printed body of `asBoolean` and its `case` lists (type switch, then the two rows of spellings) are the ones the
model is written against; the three `external` leaves are cast by `toBoolean` in the regenerated cast table -/
theorem asBoolean_is_source :
    CV.Gen.c10_body_asBoolean =
      "{ switch b := v.(type) { case bool: return b, nil case string: switch strings.ToLower(b) { case \"true\", \"y\", \"yes\", \"on\": return true, nil case \"false\", \"n\", \"no\", \"off\": return false, nil } return false, fmt.Errorf(\"invalid boolean: %s\", b) default: return false, fmt.Errorf(\"invalid boolean: %v\", v) } }" ∧
    CV.Gen.c10_asBooleanCases = [["<bool>"], ["<string>"], trueSpellings, falseSpellings] ∧
    (["volumes", "*", "external"], "toBoolean") ∈ CV.Gen.castTable ∧
    (["secrets", "*", "external"], "toBoolean") ∈ CV.Gen.castTable ∧
    (["configs", "*", "external"], "toBoolean") ∈ CV.Gen.castTable := by
  refine ⟨rfl, rfl, ?_, ?_, ?_⟩ <;> decide +kernel

theorem asBoolean_table (s : String) :
    asBoolean (.str s) =
      if lower s ∈ trueSpellings then some true else if lower s ∈ falseSpellings then some false else none := by
  simp only [asBoolean, lower, trueSpellings, falseSpellings, List.mem_cons, List.not_mem_nil, or_false,
    Bool.or_eq_true, decide_eq_true_eq, or_assoc]

/-- the cast (`toBoolean`, C08's `Interp.parseBool`) is the same look-up: it tests `true`, `false`, then the other spellings
of each row, and the two rows are disjoint -/
theorem parseBool_table (s : String) :
    Interp.parseBool s =
      if lower s ∈ trueSpellings then some true else if lower s ∈ falseSpellings then some false else none := by
  simp only [Interp.parseBool, lower, trueSpellings, falseSpellings, List.mem_cons, List.not_mem_nil, or_false,
    Bool.or_eq_true, decide_eq_true_eq]
  generalize String.ofList (s.toList.map Char.toLower) = l
  by_cases h1 : l = "true"
  · simp [h1]
  by_cases h2 : l = "false"
  · subst h2; decide
  simp [h1, h2, or_assoc]

/-- **a not-yet-cast `external` is read exactly as the cast would read it**: same spellings, same value, and a text the
cast rejects is rejected here too -/
theorem asBoolean_str_eq_cast (s : String) : asBoolean (.str s) = Interp.parseBool s := by
  rw [asBoolean_table, parseBool_table]

theorem asBoolean_castLeaf (v : Val) : asBoolean (castLeaf v) = asBoolean v := by
  cases v with
  | str s =>
    simp only [castLeaf]
    cases h : Interp.parseBool s with
    | none => rfl
    | some b => rw [asBoolean_str_eq_cast, h]; rfl
  | _ => rfl

theorem castExternalKVs_eq : ∀ kvs : Val.KVs,
    castExternalKVs kvs = kvs.map fun e => (e.1, if e.1 = "external" then castLeaf e.2 else e.2)
  | [] => rfl
  | (k, v) :: r => by
    rw [castExternalKVs, castExternalKVs_eq r, List.map_cons]
    split <;> rfl

theorem lookup_cast (k : String) (kvs : Val.KVs) :
    Val.lookup k (castExternalKVs kvs) = (Val.lookup k kvs).map fun v => if k = "external" then castLeaf v else v := by
  rw [castExternalKVs_eq]
  exact Val.lookup_map_val fun k v => if k = "external" then castLeaf v else v

theorem has_cast (k : String) (kvs : Val.KVs) : has k (castExternalKVs kvs) = has k kvs := by
  rw [has, lookup_cast, Option.isSome_map, has]

/-- **every checker of the table decides a node the same way before and after the cast** (`SkipInterpolation` changes the
shape of the node, not the verdict): the cast keeps the keys, and `asBoolean` reads the cast leaf as it read the text -/
theorem run_cast_invariant (c : Checker) (v : Val) : run c (castResource v) = run c v := by
  cases v with
  | map kvs =>
    exact run_map_congr c (fun k => has_cast k kvs)
      (by simp only [lookup_cast, Option.map_map, Function.comp_def, if_true, asBoolean_castLeaf])
  | _ => rfl

theorem checkExternal_cast_invariant (kvs : Val.KVs) : checkExternal (castExternalKVs kvs) = checkExternal kvs :=
  run_cast_invariant .volume (.map kvs)

theorem failuresKVs_resources {sec : String} {c : Checker}
    (hm : ∀ n : String, firstMatch table [sec, n] = some c) (hne : ([sec] : TPath) ≠ TPath.root) (rs : Val.KVs) :
    failuresKVs [sec] (rs.map fun e => (e.1, castResource e.2)) = failuresKVs [sec] rs := by
  simp only [failuresKVs_eq, List.flatMap_map, next_nonroot _ hne, List.singleton_append, failuresAt_matched (hm _), runL,
    run_cast_invariant]

theorem failuresAt_section {sec : String} (hs : sec ∈ ["volumes", "secrets", "configs"]) (v : Val) :
    failuresAt [sec] (castSection v) = failuresAt [sec] v := by
  obtain ⟨-, hn, hne, c, hm⟩ := resource_section hs
  cases v with
  | map rs => simp only [castSection, failuresAt, hn, failuresKVs_resources hm hne rs]
  | _ => rfl

theorem failuresKVs_top (top : Val.KVs) :
    failuresKVs TPath.root (top.map fun e => if isResourceSection e.1 then (e.1, castSection e.2) else e) =
      failuresKVs TPath.root top := by
  rw [failuresKVs_eq, failuresKVs_eq, List.flatMap_map]
  refine congrArg (List.flatMap · top) (funext fun ⟨k, v⟩ => ?_)
  by_cases h : isResourceSection k = true
  · have hs : k ∈ ["volumes", "secrets", "configs"] := by
      simpa [isResourceSection, or_assoc] using h
    simp only [h, if_true, (resource_section hs).1, failuresAt_section hs]
  · simp only [h]
    rfl

/-- **the structural stage does not depend on whether interpolation ran**: `validation.Validate` returns the same outcome
(the same first failure, even) on the merged tree with its `external` leaves cast and not cast — every tree, well shaped
or not -/
theorem validate_cast_invariant (t : Val) : validate (castTop t) = validate t := by
  cases t with
  | map top =>
    have : failures (castTop (.map top)) = failures (.map top) := by
      simp only [failures, castTop, failuresAt]
      have hroot : firstMatch table TPath.root = none := by decide
      simp only [hroot, failuresKVs_top]
    simp only [validate, this]
  | _ => rfl

theorem validate_seen_invariant (skip : Bool) (t : Val) : validate (seenByValidate skip t) = validate t := by
  cases skip
  · exact validate_cast_invariant t
  · rfl

/-- **an external volume with a creation parameter is rejected however `external` is spelled as a text**: any text the cast
would turn into `true` (`yes`, `On`, `"true"`, `Y`, …) — with `SkipInterpolation` the load still fails.  The boolean is
`validate_rejects_external_volume_with_parameters`; both are `validate_rejects_external_volume`. -/
theorem validate_rejects_external_volume_any_spelling (top vols kvs : Val.KVs) (name k s : String) (x : Val)
    (h1 : ("volumes", Val.map vols) ∈ top) (h2 : (name, Val.map kvs) ∈ vols)
    (hext : Val.lookup "external" kvs = some (.str s)) (hs : Interp.parseBool s = some true)
    (hk : (k, x) ∈ kvs) (hbad : externalAllowed k = false) :
    validate (.map top) ≠ .ok :=
  validate_rejects_external_volume h1 h2 hext ((asBoolean_str_eq_cast s).trans hs) hk hbad

/-- non-vacuity: `external: yes` next to `driver` is rejected as it stands and after the cast -/
example : validate (.map [("volumes", .map [("data", .map [("external", .str "yes"), ("driver", .str "nfs")])])])
    = .err .conflictingExternal := by decide +kernel
example : castTop (.map [("volumes", .map [("data", .map [("external", .str "yes"), ("driver", .str "nfs")])])])
    = .map [("volumes", .map [("data", .map [("external", .bool true), ("driver", .str "nfs")])])] := by rfl
example : asBoolean (.str "On") = some true ∧ asBoolean (.str "N") = some false ∧ asBoolean (.str "1") = none := by decide +kernel

end CV.Validate
