import ComposeVerif.Props.C05Anchor
import ComposeVerif.Props.C05Chain
import ComposeVerif.Props.C01Whole
import ComposeVerif.Model.ExtendsLoad
/-!
# C05 — extends through files: the nested load inside the model

`Model/ExtendsLoad.lean` computes the file-system parameter of the extends model from a **virtual file system of raw
documents**: an entry is `loadFile c relDir raw` = the composed per-document pipeline (`Pipeline.processDoc`, the model of
`loadYamlFile` / `processRawYaml`) under the option block `getExtendsBaseFromFile` clones (`nestedOpts`: no extends, no
validation, no defaults, no path resolution, no normalisation) on the empty model, followed by C12's
`Paths.resolve` at the file's own directory.  Tied to the real code by the streams `c05.load` and `c05.applyv`.

The clauses of the property follow for **every** configuration `c`, every virtual file system `vfs`, every main document and
visit order, with no `FuelFree` / `PanicFree` hypothesis left; of `NoCircularEnv` the merge half is discharged and the
file-system half remains as `hbad` (`circular_sound_loaded`): a file that cannot be read is not reported with the class
`circular`.
-/
namespace CV.Extends
open CV CV.Val

/-- the option block of `getExtendsBaseFromFile`, flag by flag: the clone keeps the interpolation switch only -/
theorem nestedOpts_flags (o : Pipeline.Opts) :
    (nestedOpts o).skipInterpolation = o.skipInterpolation ∧ (nestedOpts o).skipExtends = true ∧
    (nestedOpts o).skipValidation = true ∧ (nestedOpts o).skipDefaultValues = true ∧
    (nestedOpts o).resolvePaths = false ∧ (nestedOpts o).skipNormalization = true :=
  ⟨rfl, rfl, rfl, rfl, rfl, rfl⟩

/-- **what the nested load is**: the document is interpolated (under the outer switch) and goes through the merge
stages into the empty model — no `ApplyExtends` in between: the base file's own `extends` stay in the tree for the
recursion of `applyServiceExtends` -/
theorem nestedLoad_eq (c : Pipeline.Cfg) (raw : KVs) :
    nestedLoad c raw = (Pipeline.interpStage c raw).bind (Pipeline.mergeStages (nestedCfg c) (.map [])) := by
  unfold nestedLoad Pipeline.processDoc
  have h1 : Pipeline.interpStage (nestedCfg c) raw = Pipeline.interpStage c raw := rfl
  rw [h1]
  cases Pipeline.interpStage c raw with
  | ok cfg => simp [Pipeline.Out.bind, Pipeline.extendsStage, nestedCfg, nestedOpts]
  | err e => rfl
  | panic s => rfl

/-- … and the schema is not consulted by it (`SkipValidation`): the merged result is validated, not the base file -/
theorem nestedLoad_keeps_extends_stage_out (c : Pipeline.Cfg) (cfg : KVs) (d : Val) :
    Pipeline.extendsStage (nestedCfg c) cfg = .ok cfg ∧ Pipeline.schemaStage (nestedCfg c).opts d = .ok d := by
  constructor
  · simp [Pipeline.extendsStage, nestedCfg, nestedOpts]
  · simp [Pipeline.schemaStage, nestedCfg, nestedOpts]

/-- the nested load never panics (C01 `processDoc_only_panic_sites`: interpolation, merge, unicity, canonical form,
omitEmpty are all panic-free) -/
theorem nestedLoad_never_panics (c : Pipeline.Cfg) (raw : KVs) (s : String) : nestedLoad c raw ≠ .panic s :=
  fun h => CV.C01.Whole.processDoc_only_panic_sites _ _ _ _ h

/-- the file-system entry of a raw file: its read error, `loadErr`, or the loaded document resolved at the file's directory -/
theorem loadFile_cases (c : Pipeline.Cfg) (vf : VFile) :
    (∃ cls, vf = .bad cls ∧ loadVFile c vf = .err cls) ∨ loadVFile c vf = .err "loadErr" ∨
    ∃ relDir raw d d' e, vf = .doc relDir raw ∧ nestedLoad c raw = .ok (.map d) ∧ loadVFile c vf = .ok d' e ∧
      (e = false → CV.Paths.resolve { c.paths with wd := relDir.toList } (.map d) = .ok (.map d')) := by
  cases vf with
  | bad cls => exact .inl ⟨cls, rfl, rfl⟩
  | doc relDir raw =>
    simp only [loadVFile, loadFile]
    split
    · rename_i d hd
      obtain ⟨d', e, he, hres⟩ := anchoredFileAt_cases { c.paths with wd := relDir.toList } d
      exact .inr (.inr ⟨relDir, raw, d, d', e, rfl, hd, he, hres⟩)
    · exact .inr (.inl rfl)
    · exact .inr (.inl rfl)
    · exact absurd ‹_› (nestedLoad_never_panics c raw _)

theorem fsLookup_loadedFS {c : Pipeline.Cfg} {vfs : VFS} {f : String} {r : FileRes}
    (h : fsLookup f (loadedFS c vfs) = some r) : ∃ vf, (f, vf) ∈ vfs ∧ r = loadVFile c vf :=
  fsLookup_map (loadVFile c) h

theorem loadedFS_never_panics (c : Pipeline.Cfg) (vfs : VFS) (f s : String) : ¬ fsPanics (loadedFS c vfs) f s := by
  intro ⟨r, h1, h2⟩
  obtain ⟨vf, _, rfl⟩ := fsLookup_loadedFS h1
  rcases loadFile_cases c vf with ⟨_, _, h⟩ | h | ⟨_, _, _, _, _, _, _, h, _⟩ <;> rw [h] at h2 <;> cases h2

/-- **`PanicFree` (hence `FuelFree`) discharged** for the real merge step over any virtual file system of raw files -/
theorem loadedEnv_panicFree (c : Pipeline.Cfg) (vfs : VFS) : PanicFree (loadedEnv c vfs) :=
  realEnv_panicFree c.mainFile _ (loadedFS_never_panics c vfs)

theorem extends_terminates_loaded (c : Pipeline.Cfg) (vfs : VFS) {order : List String} {dict : KVs}
    (hord : ∀ S, lookup "services" dict = some (.map S) → Visits order S) :
    applyExtendsV c vfs order dict ≠ .panic fuelMark :=
  extends_terminates (loadedEnv_panicFree c vfs).fuelFree hord

theorem applyExtendsV_ok_or_err (c : Pipeline.Cfg) (vfs : VFS) {order : List String} {dict : KVs}
    (hord : ∀ S, lookup "services" dict = some (.map S) → Visits order S) :
    (∃ out, applyExtendsV c vfs order dict = .ok out) ∨ ∃ cls, applyExtendsV c vfs order dict = .err cls :=
  applyExtends_ok_or_err (loadedEnv_panicFree c vfs) hord

theorem extends_eq_flatten_loaded (c : Pipeline.Cfg) (vfs : VFS) {order : List String} {dict out S : KVs}
    (hS : lookup "services" dict = some (.map S)) (hnn : NoNull S) (hfs : NoNullFS (loadedEnv c vfs))
    (hord : Visits order S) (h : applyExtendsV c vfs order dict = .ok out) :
    ∃ R, lookup "services" out = some (.map R) ∧
      ∀ n, (lookup n S = none → lookup n R = none) ∧
           (lookup n S ≠ none → ∃ v, lookup n R = some v ∧ Flat (loadedEnv c vfs) S n v) :=
  extends_eq_flatten hS hnn hfs hord h

/-- **chains of any depth `k`** through raw files: the value of every service is the base-first fold along its chain
(`foldChain`: induction over the chain, `Lemmas/ExtendsGraph.lean`) — no bound on `k`, no fuel in the statement -/
theorem extends_eq_chain_fold_loaded (c : Pipeline.Cfg) (vfs : VFS) {order : List String} {dict out S : KVs}
    (hS : lookup "services" dict = some (.map S)) (hnn : NoNull S) (hfs : NoNullFS (loadedEnv c vfs))
    (hord : Visits order S) (h : applyExtendsV c vfs order dict = .ok out) :
    ∃ R, lookup "services" out = some (.map R) ∧
      ∀ n, lookup n S ≠ none → ∃ links leaf m, Chain (loadedEnv c vfs) c.mainFile S n links leaf ∧
        foldChain (loadedEnv c vfs) leaf.2.2 links = .ok m ∧ lookup n R = some (.map m) :=
  extends_eq_chain_fold (E := loadedEnv c vfs) hS hnn hfs hord h

theorem acyclic_ok_loaded (c : Pipeline.Cfg) (vfs : VFS) {order : List String} {dict S : KVs}
    (hS : lookup "services" dict = some (.map S)) (hord : Visits order S)
    (hmain : fileServices (loadedFS c vfs) c.mainFile = none)
    (hflat : ∀ n, lookup n S ≠ none → ∃ v, Flat (loadedEnv c vfs) S n v) :
    ∃ out, applyExtendsV c vfs order dict = .ok out :=
  acyclic_ok (E := loadedEnv c vfs) hS hord hmain hflat

theorem applyExtends_perm_loaded (c : Pipeline.Cfg) (vfs : VFS) {order₁ order₂ : List String} {dict out₁ S : KVs}
    (hS : lookup "services" dict = some (.map S)) (hnn : NoNull S) (hfs : NoNullFS (loadedEnv c vfs))
    (hmain : fileServices (loadedFS c vfs) c.mainFile = none)
    (h₁ : Visits order₁ S) (h₂ : Visits order₂ S) (r₁ : applyExtendsV c vfs order₁ dict = .ok out₁) :
    ∃ out₂ R₁ R₂, applyExtendsV c vfs order₂ dict = .ok out₂ ∧
      lookup "services" out₁ = some (.map R₁) ∧ lookup "services" out₂ = some (.map R₂) ∧
      ∀ n, lookup n R₁ = lookup n R₂ :=
  applyExtends_perm (E := loadedEnv c vfs) hS hnn hfs hmain h₁ h₂ r₁

theorem cycle_is_circular_loaded (c : Pipeline.Cfg) (vfs : VFS) {order : List String} {dict S : KVs}
    (hS : lookup "services" dict = some (.map S))
    (hmain : fileServices (loadedFS c vfs) c.mainFile = none) (hord : Visits order S)
    (hall : ∀ n, lookup n S ≠ none → (∃ v, Flat (loadedEnv c vfs) S n v) ∨ Cyclic (loadedEnv c vfs) (S, n))
    (hc : ∃ n, lookup n S ≠ none ∧ Cyclic (loadedEnv c vfs) (S, n)) :
    applyExtendsV c vfs order dict = .err "circular" :=
  cycle_is_circular (loadedEnv_panicFree c vfs).fuelFree hS hmain hord hall hc

/-- a raw file never yields the class `circular`: its entry is a document or the class `loadErr` / the read error -/
theorem loadedFS_not_circular (c : Pipeline.Cfg) (vfs : VFS)
    (hbad : ∀ f cls, (f, VFile.bad cls) ∈ vfs → cls ≠ "circular") (f : String) :
    fsLookup f (loadedFS c vfs) ≠ some (.err "circular") := by
  intro h
  obtain ⟨vf, hm, hr⟩ := fsLookup_loadedFS h
  rcases loadFile_cases c vf with ⟨cls, rfl, h'⟩ | h' | ⟨_, _, _, _, _, _, _, h', _⟩ <;> rw [h'] at hr
  · cases hr; exact hbad f _ hm rfl
  · simp at hr
  · cases hr

/-- **cycle detection is sound** through raw files: `Circular reference` ⇒ some service's chain really runs into a
cycle — in every visit order, also in documents with other defects; no hypothesis on the merge step or the loading left
(`hbad`: a file that cannot be read is not reported with the tracker's class) -/
theorem circular_sound_loaded (c : Pipeline.Cfg) (vfs : VFS) {order : List String} {dict S : KVs}
    (hbad : ∀ f cls, (f, VFile.bad cls) ∈ vfs → cls ≠ "circular")
    (hS : lookup "services" dict = some (.map S)) (hnn : NoNull S) (hfs : NoNullFS (loadedEnv c vfs))
    (hmain : fileServices (loadedFS c vfs) c.mainFile = none) (hord : Visits order S)
    (h : applyExtendsV c vfs order dict = .err "circular") :
    ∃ n, n ∈ order ∧ Cyclic (loadedEnv c vfs) (S, n) :=
  circular_sound (E := loadedEnv c vfs) (realEnv_noCircular _ _ (loadedFS_not_circular c vfs hbad)) hS hnn hfs hmain hord h

theorem circular_iff_cyclic_loaded (c : Pipeline.Cfg) (vfs : VFS) {order : List String} {dict S : KVs}
    (hS : lookup "services" dict = some (.map S))
    (hmain : fileServices (loadedFS c vfs) c.mainFile = none) (hord : Visits order S)
    (hall : ∀ n, lookup n S ≠ none → (∃ v, Flat (loadedEnv c vfs) S n v) ∨ Cyclic (loadedEnv c vfs) (S, n)) :
    applyExtendsV c vfs order dict = .err "circular" ↔ ∃ n, lookup n S ≠ none ∧ Cyclic (loadedEnv c vfs) (S, n) :=
  circular_iff_cyclic (E := loadedEnv c vfs) (loadedEnv_panicFree c vfs).fuelFree hS hmain hord hall

theorem fuel_irrelevant_loaded (c : Pipeline.Cfg) (vfs : VFS) {order : List String} {S : KVs} (hord : Visits order S)
    (fuel : Nat) (hf : fuelFor (loadedEnv c vfs) S ≤ fuel) :
    applyAll (loadedEnv c vfs) fuel order S = applyAll (loadedEnv c vfs) (fuelFor (loadedEnv c vfs) S) order S :=
  fuel_irrelevant (loadedEnv_panicFree c vfs).fuelFree hord fuel hf

theorem fileServices_loaded {c : Pipeline.Cfg} {vfs : VFS} {f : String} {S' : KVs}
    (h : fileServices (loadedFS c vfs) f = some S') :
    ∃ relDir raw d d', (f, VFile.doc relDir raw) ∈ vfs ∧ nestedLoad c raw = .ok (.map d) ∧
      CV.Paths.resolve { c.paths with wd := relDir.toList } (.map d) = .ok (.map d') ∧
      lookup "services" d' = some (.map S') := by
  obtain ⟨d', hd, hs⟩ := fileServices_inv h
  obtain ⟨vf, hm, hr⟩ := fsLookup_loadedFS hd
  rcases loadFile_cases c vf with ⟨_, _, h'⟩ | h' | ⟨relDir, raw, d, d'', e, rfl, hl, h', hres⟩ <;> rw [h'] at hr <;>
    cases hr
  exact ⟨relDir, raw, d, d', hm, hl, hres rfl, hs⟩

/-- **anchoring along a chain of any length through raw files**: every chain element attributed to file `f` is a
service of the starting mapping, or a service of `f`'s raw document *after the nested load* (interpolated, canonical)
resolved against **`f`'s own directory** — never the referring file's directory, never the project directory -/
theorem chain_elements_loaded {c : Pipeline.Cfg} {vfs : VFS}
    {cf : String} {S : KVs} {n : String} {links : List ChainElt} {leaf : ChainElt}
    (h : Chain (loadedEnv c vfs) cf S n links leaf) :
    ∀ x ∈ links ++ [leaf], (x.1 = cf ∧ lookup x.2.1 S = some (.map x.2.2)) ∨
      (∃ relDir raw d d' S', (x.1, VFile.doc relDir raw) ∈ vfs ∧ nestedLoad c raw = .ok (.map d) ∧
        CV.Paths.resolve { c.paths with wd := relDir.toList } (.map d) = .ok (.map d') ∧
        lookup "services" d' = some (.map S') ∧ lookup x.2.1 S' = some (.map x.2.2)) := by
  intro x hx
  rcases h.elt_source x hx with hl | ⟨S', hfs, hl⟩
  · exact Or.inl hl
  · obtain ⟨relDir, raw, d, d', hm, hld, hres, hs⟩ := fileServices_loaded hfs
    exact Or.inr ⟨relDir, raw, d, d', S', hm, hld, hres, hs, hl⟩

/-! ### non-vacuity: a two-file system (the base file in `sub/`), hypotheses of the theorems above are satisfiable -/

def exVFS : VFS :=
  [("sub/base.yaml", .doc "sub" [("services", .map [("b", .map [("image", .str "i")])])]),
   ("gone.yaml", .bad "noFile")]

example : ∀ f cls, (f, VFile.bad cls) ∈ exVFS → cls ≠ "circular" := by
  intro f cls h
  simp [exVFS] at h
  rcases h with ⟨_, h⟩
  subst h; decide

example (c : Pipeline.Cfg) : (loadedFS c exVFS).map Prod.fst = ["sub/base.yaml", "gone.yaml"] := rfl

example (c : Pipeline.Cfg) : fileServices (loadedFS c exVFS) "gone.yaml" = none := by
  simp [fileServices, loadedFS, exVFS, fsLookup, loadVFile]

/-- `hmain` is satisfiable: this file system offers no services under the main file's name -/
example (c : Pipeline.Cfg) : fileServices (loadedFS c exVFS) "compose.yaml" = none := by
  simp [fileServices, loadedFS, exVFS, fsLookup, loadVFile]

end CV.Extends
