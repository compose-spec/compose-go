import ComposeVerif.Lemmas.ShortDecodeMore
import ComposeVerif.Lemmas.ValDecEq
/-!
# C03 — the scalar-or-mapping decoders

`DeviceCount` (`count: all | "3" | 3`), `UlimitsConfig` (`nofile: N | {soft, hard}`), `ShellCommand` (list form),
`Options`.
-/
namespace CV.Short
open CV

/-- `count: all` in any letter case is the integer -1 -/
theorem deviceCount_all (s : String) (h : lower s.toList = ['a', 'l', 'l']) :
    decodeDeviceCount (.str s) = some (.int (-1)) ∧ decodeDeviceCount (.int (-1)) = some (.int (-1)) := by
  simp [decodeDeviceCount, h]

example : decodeDeviceCount (.str "aLL") = some (.int (-1)) := (deviceCount_all "aLL" (by decide)).1

/-- a count written as a decimal string is the same typed value as the integer (every n < 2^63) -/
theorem deviceCount_string_eq_int (n : Nat) (h : n ≤ 9223372036854775807) :
    decodeDeviceCount (.str (String.ofList (natToDec n))) = decodeDeviceCount (.int n) := by
  have hd := natToDec_digits n
  have hall := digits_ne_all _ hd
  cases hs : natToDec n with
  | nil => exact absurd hs (natToDec_ne_nil n)
  | cons c r =>
    have hc : c.isDigit = true := hd c (by simp [hs])
    have hp : parseDecAux 0 (c :: r) = some n := by rw [← hs]; exact parseDecAux_natToDec n
    rw [hs] at hall
    rw [decodeDeviceCount_digit_head _ c r (by simp) hc hall, hp]
    simp [h, decodeDeviceCount]

/-- … with an explicit `+`, and with leading zeros -/
theorem deviceCount_plus_zeros (k n : Nat) (h : n ≤ 9223372036854775807) :
    decodeDeviceCount (.str (String.ofList ('+' :: (List.replicate k '0' ++ natToDec n)))) = decodeDeviceCount (.int n) := by
  rw [decodeDeviceCount_plus _ (List.replicate k '0' ++ natToDec n) (by simp), parseDecAux_zeros, parseDecAux_natToDec]
  simp [natToDec_ne_nil n, h, decodeDeviceCount]

/-- a negative count: `-n` as a string is the integer -n (n ≤ 2^63) -/
theorem deviceCount_negative (n : Nat) (h : n ≤ 9223372036854775808) :
    decodeDeviceCount (.str (String.ofList ('-' :: natToDec n))) = some (.int (-(n : Int))) := by
  rw [decodeDeviceCount_minus _ (natToDec n) (by simp), parseDecAux_natToDec]
  simp [natToDec_ne_nil n, h]

/-- near misses are rejected, never read partially: empty, a bare sign, `1e3`, a leading blank, ±2^63 out of range -/
theorem deviceCount_reject_empty : decodeDeviceCount (.str "") = none ∧ decodeDeviceCount (.str "-") = none
    ∧ decodeDeviceCount (.str "+") = none ∧ decodeDeviceCount (.str "1e3") = none ∧ decodeDeviceCount (.str " 1") = none
    ∧ decodeDeviceCount (.str "9223372036854775808") = none ∧ decodeDeviceCount (.str "-9223372036854775809") = none :=
  by decide +kernel

example : decodeDeviceCount (.str "42") = some (.int 42) := by decide +kernel
example : decodeDeviceCount (.str (String.ofList (natToDec 42))) = decodeDeviceCount (.int (42 : Nat)) :=
  deviceCount_string_eq_int 42 (by decide)

/-- a single integer sets `Single` only -/
theorem ulimit_single (i : Int) :
    decodeUlimit (.int i) = some (.map [("single", .int i), ("soft", .int 0), ("hard", .int 0)]) := rfl

/-- the mapping form reads `soft` and `hard` wherever they stand (key order and further keys are irrelevant) -/
theorem ulimit_soft_hard (m : Val.KVs) (s h : Int)
    (hs : Val.lookup "soft" m = some (.int s)) (hh : Val.lookup "hard" m = some (.int h)) :
    decodeUlimit (.map m) = some (.map [("single", .int 0), ("soft", .int s), ("hard", .int h)]) := by
  rw [decodeUlimit_map]
  simp [ulimitField, hs, hh]

/-- so two mappings that agree on `soft` and `hard` decode alike (in particular every permutation) -/
theorem ulimit_order_irrelevant (m m' : Val.KVs)
    (hs : Val.lookup "soft" m = Val.lookup "soft" m') (hh : Val.lookup "hard" m = Val.lookup "hard" m') :
    decodeUlimit (.map m) = decodeUlimit (.map m') := by
  rw [decodeUlimit_map, decodeUlimit_map]
  simp only [ulimitField, hs, hh]

/-- a soft / hard value that is not an integer is rejected (never read as 0) -/
theorem ulimit_reject (m : Val.KVs) (v : Val) (k : String) (hk : k = "soft" ∨ k = "hard")
    (hv : Val.lookup k m = some v) (hni : ∀ i, v ≠ .int i) : decodeUlimit (.map m) = none := by
  rw [decodeUlimit_map]
  have hf : ulimitField k m = none := by
    cases v <;> simp_all [ulimitField]
  rcases hk with rfl | rfl
  · simp only [hf]
  · cases hsf : ulimitField "soft" m <;> simp only [hf]

example : decodeUlimit (.map [("hard", .int 2), ("soft", .int 1)])
    = some (.map [("single", .int 0), ("soft", .int 1), ("hard", .int 2)]) :=
  ulimit_soft_hard _ 1 2 rfl rfl
example : decodeUlimit (.map [("soft", .str "1")]) = none :=
  ulimit_reject _ (.str "1") "soft" (.inl rfl) rfl (by intro i h; cases h)

/-- `nofile: N` and `nofile: {soft: N, hard: N}` are **different** typed values (`Single` vs `Soft`/`Hard`): the two
spellings are not a short / long pair of one model, which is why the check states each spelling on its own -/
theorem ulimit_single_ne_pair (n : Int) (hn : n ≠ 0) :
    decodeUlimit (.int n) ≠ decodeUlimit (.map [("soft", .int n), ("hard", .int n)]) := by
  rw [ulimit_single, ulimit_soft_hard _ n n rfl rfl]
  intro h
  simp only [Option.some.injEq, Val.map.injEq, List.cons.injEq, Prod.mk.injEq, Val.int.injEq, true_and] at h
  exact hn h.1

/-- a list of strings is the command itself — the same value `StringList` gives -/
theorem shellCommand_list_id (l : List String) :
    decodeShellCommandList (.seq (l.map Val.str)) = some (.seq (l.map Val.str))
    ∧ decodeShellCommandList (.seq (l.map Val.str)) = decodeStringList (.seq (l.map Val.str)) := by
  simp [decodeShellCommandList, decodeStringList, allStrs_map_str]

/-- a non-string item anywhere in the list is an error, not a partial command -/
theorem shellCommand_reject (a b : List String) (v : Val) (hv : ∀ s, v ≠ .str s) :
    decodeShellCommandList (.seq (a.map Val.str ++ v :: b.map Val.str)) = none := by
  have h : allStrs (a.map Val.str ++ v :: b.map Val.str) = none := by
    induction a with
    | nil => cases v <;> simp_all [allStrs]
    | cons s r ih => simp [allStrs, ih]
  simp [decodeShellCommandList, h]

/-- `Options` has one spelling only: a mapping, decoded like `Mapping`'s mapping form; a list is rejected -/
theorem options_mapping_only (m : Val.KVs) (l : List Val) :
    decodeOptions (.map m) = decodeMapping (.map m) ∧ decodeOptions (.seq l) = none := ⟨rfl, rfl⟩

end CV.Short
