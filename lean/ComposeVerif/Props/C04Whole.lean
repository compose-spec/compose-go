import ComposeVerif.Lemmas.Pipeline
import ComposeVerif.Props.C04Stage
import ComposeVerif.Lemmas.C02WholeOmit
import ComposeVerif.Lemmas.C02StageCanonical
/-!
# C04 — files and `---` documents through the composed pipeline

About `Model/Pipeline.lean` (the glue of `loadYamlFile` / `loadYamlModel`, tied to `loader.LoadModelWithContext` by the
correspondence streams `pipeline.load` and `pipeline.loadY`): files are their documents, the load is a left fold of the
per-document step (the bracketing matters: `Neg/C04Whole.lean`, `merge_not_associative`), the accumulated model is a
fixed point of `EnforceUnicity` after every document with the *modelled* stages in between, `Apply` depends only on the
set of recorded paths, and the top-level `!reset` / `!override` laws hold for the model the composed step returns
(interpolation and extends off).
-/
namespace CV.C04.Whole
open CV CV.Pipeline

/-! ## the load is a left fold over files and documents -/

theorem processNodes_append (c : Cfg) (a b : List Reset.YNode) (dict : Val) :
    processNodes c dict (a ++ b) = (processNodes c dict a).bind fun d => processNodes c d b :=
  loop_append (fun _ => rfl) (processNodes_cons c) a b dict

/-- **files are documents**: the loop over files, each a list of documents, is the loop over all the documents -/
theorem files_are_documents (c : Cfg) : ∀ (files : List (List Reset.YNode)) (dict : Val),
    processFiles c dict files = processNodes c dict files.flatten
  | [], dict => rfl
  | f :: r, dict => by
    rw [processFiles_cons, List.flatten_cons, processNodes_append]
    congr; funext d; exact files_are_documents c r d

/-- for the whole load: any split of the same documents into files gives the same model or the same failure -/
theorem loadY_flatten (c : Cfg) (files : List (List Reset.YNode)) (h : files ≠ []) :
    loadY c files = loadY c [files.flatten] := by
  have e : files.isEmpty = false := by cases files <;> simp_all
  simp only [loadY, e, loadYamlModelY, files_are_documents, List.isEmpty_cons, List.flatten_cons, List.flatten_nil,
    List.append_nil]

theorem untagged_document_is_its_tree (c : Cfg) (dict : Val) (n : Reset.YNode) (cfg : Val.KVs)
    (h : untagged n = true) (hd : Reset.decode n = .map cfg) : processNode c dict n = processDoc c dict cfg :=
  processNode_untagged c dict n cfg h hd

/-- trees written out as YAML documents (`nodeOf`) and read back by the loader go through the pipeline exactly as the
trees themselves -/
theorem untagged_documents_are_trees (c : Cfg) : ∀ (docs : List Val.KVs) (dict : Val),
    processNodes c dict (docs.map fun d => nodeOf (.map d)) = processDocs c dict docs
  | [], dict => rfl
  | d :: ds, dict => by
    have h := nodeOf_spec (.map d)
    rw [List.map_cons, processNodes_cons, processDocs_cons, processNode_untagged c dict _ d h.1 h.2]
    congr; funext d'; exact untagged_documents_are_trees c ds d'

/-- the two entry points of the composed model agree: YAML text without tags, one document per file, loads exactly
like the parsed trees -/
theorem loadY_untagged_eq_load (c : Cfg) (docs : List Val.KVs) :
    loadY c (docs.map fun d => [nodeOf (.map d)]) = load c docs := by
  have e : (docs.map fun d => [nodeOf (.map d)]).isEmpty = docs.isEmpty := by cases docs <;> rfl
  have f : (docs.map fun d => [nodeOf (.map d)]).flatten = docs.map fun d => nodeOf (.map d) := by
    induction docs with
    | nil => rfl
    | cons d r ih => simp [ih]
  simp only [loadY, load, e, loadYamlModelY, loadYamlModel, files_are_documents, f, untagged_documents_are_trees]

/-- non-vacuity: a tagged document is *not* its tree — `!reset` removes what the earlier document gave -/
example : (Reset.readDoc (.map .none [("services", .map .none [("a", .map .none [("image", .scalar .reset (.str "x"))])])])).2
    = [["services", "a", "image"]] := by decide +kernel
example : untagged (.map .none [("services", .map .none [("a", .map .none [("image", .scalar .none (.str "x"))])])]) = true := by decide +kernel

/-- **documents: "apply each later one onto the result so far"** -/
theorem processNodes_foldl (c : Cfg) : ∀ (ns : List Reset.YNode) (dict : Val),
    processNodes c dict ns = ns.foldl (fun (acc : Out Val) n => acc.bind fun d => processNode c d n) (.ok dict) :=
  loop_eq_foldl (fun _ => rfl) (processNodes_cons c)

/-- **files: the same, a file being the fold of its documents** -/
theorem processFiles_foldl (c : Cfg) : ∀ (files : List (List Reset.YNode)) (dict : Val),
    processFiles c dict files = files.foldl (fun (acc : Out Val) f => acc.bind fun d => processNodes c d f) (.ok dict) :=
  loop_eq_foldl (fun _ => rfl) (processFiles_cons c)

/-- the same for files handed over as parsed trees -/
theorem processDocs_foldl (c : Cfg) : ∀ (docs : List Val.KVs) (dict : Val),
    processDocs c dict docs = docs.foldl (fun (acc : Out Val) d => acc.bind fun m => processDoc c m d) (.ok dict) :=
  loop_eq_foldl (fun _ => rfl) (processDocs_cons c)

/-- **the whole load of `f1..fn`**: the left fold of the per-file step from the empty model, then the stages that run
once (`finishModel`, `finishLoad`) -/
theorem loadY_is_left_fold (c : Cfg) (files : List (List Reset.YNode)) (h : files ≠ []) :
    loadY c files =
      ((files.foldl (fun (acc : Out Val) f => acc.bind fun d => processNodes c d f) (.ok (.map []))).bind (finishModel c)).bind
        (finishLoad c) := by
  have e : files.isEmpty = false := by cases files <;> simp_all
  simp only [loadY, e, loadYamlModelY, processFiles_foldl]
  rfl

theorem processNodes_snoc (c : Cfg) (ns : List Reset.YNode) (n : Reset.YNode) (dict : Val) :
    processNodes c dict (ns ++ [n]) = (processNodes c dict ns).bind fun d => processNode c d n := by
  rw [processNodes_append]
  congr; funext d; rw [processNodes_cons]; exact bind_ok_right _

theorem processDocs_snoc (c : Cfg) (docs : List Val.KVs) (d : Val.KVs) (dict : Val) :
    processDocs c dict (docs ++ [d]) = (processDocs c dict docs).bind fun m => processDoc c m d := by
  rw [loop_append (fun _ => rfl) (processDocs_cons c)]
  congr; funext m; rw [processDocs_cons]; exact bind_ok_right _

/-! ## a single entry per key after every document -/

/-- `processRawYaml` ends with `EnforceUnicity`: whatever it is given, what it returns is a fixed point -/
theorem mergeStages_deduplicated (c : Cfg) (dict : Val) (cfg : Val.KVs) (r : Val)
    (h : mergeStages c dict cfg = .ok r) : Unicity.enforceTop r = .ok r := by
  unfold mergeStages at h
  obtain ⟨_merged, _, h⟩ := bind_eq_ok.1 h
  obtain ⟨_unique, _, h⟩ := bind_eq_ok.1 h
  obtain ⟨_validated, _, h⟩ := bind_eq_ok.1 h
  obtain ⟨_canonical, _, h⟩ := bind_eq_ok.1 h
  obtain ⟨pruned, _, h⟩ := bind_eq_ok.1 h
  -- what is left of `h` is the last stage: `r` is `EnforceUnicity` of the omit-empty result
  exact CV.C04.enforceTop_idem pruned r (ofMerge_ok h)

theorem processDoc_deduplicated (c : Cfg) (dict : Val) (cfg : Val.KVs) (r : Val)
    (h : processDoc c dict cfg = .ok r) : Unicity.enforceTop r = .ok r := by
  unfold processDoc at h
  obtain ⟨_, _, h⟩ := bind_eq_ok.1 h
  obtain ⟨_, _, h⟩ := bind_eq_ok.1 h
  exact mergeStages_deduplicated c _ _ r h

theorem processNode_deduplicated (c : Cfg) (dict : Val) (n : Reset.YNode) (r : Val)
    (h : processNode c dict n = .ok r) : Unicity.enforceTop r = .ok r := by
  unfold processNode at h
  split at h
  · obtain ⟨_, _, h⟩ := bind_eq_ok.1 h
    obtain ⟨_, _, h⟩ := bind_eq_ok.1 h
    exact mergeStages_deduplicated c _ _ r h
  · cases h

theorem processNodes_deduplicated (c : Cfg) (ns : List Reset.YNode) (dict r : Val)
    (hd : Unicity.enforceTop dict = .ok dict) (h : processNodes c dict ns = .ok r) : Unicity.enforceTop r = .ok r :=
  loop_preserves (fun _ => rfl) (processNodes_cons c) (fun v => Unicity.enforceTop v = .ok v)
    (fun d n d' _ => processNode_deduplicated c d n d') ns dict r hd h

/-- **the model `loadYamlModel` has accumulated when the loop over the files ends holds a single entry per key in
every keyed list** — any number of files and documents, any option flags, with the modelled interpolation, extends,
schema, canonicalisation and omit-empty stages in between -/
theorem accumulated_model_deduplicated (c : Cfg) (files : List (List Reset.YNode)) (r : Val)
    (h : processFiles c (.map []) files = .ok r) : Unicity.enforceTop r = .ok r :=
  processNodes_deduplicated c files.flatten _ r rfl (files_are_documents c files _ ▸ h)

/-! ## tagged documents; `Apply` depends on the set of recorded paths only, and is idempotent -/

/-- **a tagged document** goes through the pipeline as its stripped tree (the `!reset` nodes dropped, the `!override`
nodes kept) applied to the model so far *from which the recorded paths were deleted first* -/
theorem tagged_document_is_stripped_tree_after_apply (c : Cfg) (dict : Val) (n : Reset.YNode) (cfg : Val.KVs)
    (paths : List TPath) (h : Reset.readDoc n = (.map cfg, paths)) :
    processNode c dict n = processDoc c (Reset.applyNull paths dict TPath.root) cfg := by
  simp only [processNode, h, processDoc]

open CV.Reset in
mutual
/-- `Apply` looks at the recorded paths only through "does some recorded path match this position" -/
theorem applyNull_congr (ps qs : List TPath) (h : ∀ q, matchesAny ps q = matchesAny qs q) :
    ∀ (v : Val) (p : TPath), applyNull ps v p = applyNull qs v p
  | .null, _ | .bool _, _ | .int _, _ | .float _, _ | .str _, _ => rfl
  | .seq xs, p => by simp only [applyNull, applySeq_congr ps qs h xs p 0]
  | .map kvs, p => by simp only [applyNull, applyKVs_congr ps qs h kvs p]
theorem applyKVs_congr (ps qs : List TPath) (h : ∀ q, matchesAny ps q = matchesAny qs q) :
    ∀ (kvs : Val.KVs) (p : TPath), applyKVs ps kvs p = applyKVs qs kvs p
  | [], _ => rfl
  | (k, e) :: r, p => by simp only [applyKVs, h, applyNull_congr ps qs h e _, applyKVs_congr ps qs h r p]
theorem applySeq_congr (ps qs : List TPath) (h : ∀ q, matchesAny ps q = matchesAny qs q) :
    ∀ (xs : List Val) (p : TPath) (i : Nat), applySeq ps xs p i = applySeq qs xs p i
  | [], _, _ => rfl
  | e :: r, p, i => by simp only [applySeq, h, applyNull_congr ps qs h e _, applySeq_congr ps qs h r p (i + 1)]
end

/-- the order in which the tags were met in the document is irrelevant -/
theorem applyNull_perm (ps qs : List TPath) (h : ps.Perm qs) (v : Val) (p : TPath) :
    Reset.applyNull ps v p = Reset.applyNull qs v p :=
  applyNull_congr ps qs (fun q => by simp only [Reset.matchesAny]; exact h.any_eq) v p

/-- a path recorded twice (an anchor used at two places resolving to one path, a processor that saw the document
twice) deletes nothing more -/
theorem applyNull_dup (ps : List TPath) (v : Val) (p : TPath) :
    Reset.applyNull (ps ++ ps) v p = Reset.applyNull ps v p :=
  applyNull_congr _ _ (fun q => by simp [Reset.matchesAny, List.any_append]) v p

open CV.Reset in
mutual
/-- `Apply` is idempotent: what it leaves matches no recorded path any more -/
theorem applyNull_idem (ps : List TPath) : ∀ (v : Val) (p : TPath), applyNull ps (applyNull ps v p) p = applyNull ps v p
  | .null, _ | .bool _, _ | .int _, _ | .float _, _ | .str _, _ => rfl
  | .seq xs, p => by simp only [applyNull, applySeq_idem ps xs p 0]
  | .map kvs, p => by simp only [applyNull, applyKVs_idem ps kvs p]
theorem applyKVs_idem (ps : List TPath) : ∀ (kvs : Val.KVs) (p : TPath), applyKVs ps (applyKVs ps kvs p) p = applyKVs ps kvs p
  | [], _ => rfl
  | (k, e) :: r, p => by
    by_cases hm : matchesAny ps (Merge.next p k) = true
    · simp [applyKVs, hm, applyKVs_idem ps r p]
    · simp [applyKVs, hm, applyNull_idem ps e _, applyKVs_idem ps r p]
theorem applySeq_idem (ps : List TPath) : ∀ (xs : List Val) (p : TPath) (i : Nat),
    applySeq ps (applySeq ps xs p i) p i = applySeq ps xs p i
  | [], _, _ => rfl
  | e :: r, p, i => by
    by_cases hm : matchesAny ps (Merge.next p ("[" ++ i.repr ++ "]")) = true
    · simp [applySeq, hm, applySeq_idem ps r p (i + 1)]
    · simp [applySeq, hm, applyNull_idem ps e _, applySeq_idem ps r p (i + 1)]
end

/-- **tags in the first document only strip**: with nothing loaded yet a `!reset` node is simply absent and an
`!override` node is its plain value — the first file of a load (and a file loaded alone) goes through the pipeline as
its stripped tree -/
theorem first_document_tags_only_strip (c : Cfg) (n : Reset.YNode) (cfg : Val.KVs) (paths : List TPath)
    (h : Reset.readDoc n = (.map cfg, paths)) : processNode c (.map []) n = processDoc c (.map []) cfg :=
  -- `Apply` on the empty model deletes nothing
  tagged_document_is_stripped_tree_after_apply c _ n cfg paths h

/-! ## the composed step refines `Reset.docStep`; the later stages keep the top-level keys -/

/-- the stages of `processRawYaml` after the first `EnforceUnicity` -/
def restStages (c : Cfg) (u : Val) : Out Val :=
  (schemaStage c.opts u).bind fun d =>
  (ofShort (Short.canonical c.opts.skipInterpolation d)).bind fun d =>
  (omitEmpty c.omitPats d).bind fun d =>
  ofMerge "unicity2" (Unicity.enforceTop d)

/-- **the composed step refines C04's `docStep`**: with interpolation and extends switched off, a document succeeds
through `processNode` exactly when C04's reset → merge → unicity step succeeds and the remaining stages accept its
result -/
theorem processNode_refines_docStep (c : Cfg) (hi : c.opts.skipInterpolation = true) (he : c.opts.skipExtends = true)
    (dict : Val) (es : List (String × Reset.YNode)) (r : Val) :
    processNode c dict (.map .none es) = .ok r ↔
      ∃ u, Reset.docStep .ok dict (.map .none es) = .ok u ∧ restStages c u = .ok r := by
  -- with both flags set `interpStage` and `extendsStage` return the document as it is; what remains of `processNode` is
  -- `Apply`, `Merge`, `EnforceUnicity` (the three calls of `docStep .ok`) followed by the four stages of `restStages`
  simp only [processNode, Reset.readDoc, Reset.resolve, Reset.decode, interpStage, hi, extendsStage, he, if_true,
    Out.bind, mergeStages, Reset.docStep, restStages]
  -- both sides now case on the same two outcomes, `merge` and the first `enforceTop`
  cases Merge.merge (Reset.applyNull (Reset.resolveMap es TPath.root).2 dict TPath.root)
      (.map (Reset.decodeKV (Reset.resolveMap es TPath.root).1)) with
  | ok m =>
    simp only [ofMerge, Merge.Out.bind]
    cases Unicity.enforceTop m <;> simp
  | err e => simp [ofMerge, Merge.Out.bind]
  | panic s => simp [ofMerge, Merge.Out.bind]

/-- on a mapping model the intermediate result is a mapping -/
theorem processNode_split (c : Cfg) (hi : c.opts.skipInterpolation = true) (he : c.opts.skipExtends = true)
    (a : Val.KVs) (es : List (String × Reset.YNode)) (r : Val) (h : processNode c (.map a) (.map .none es) = .ok r) :
    ∃ u, Reset.docStep .ok (.map a) (.map .none es) = .ok (.map u) ∧ restStages c (.map u) = .ok r := by
  obtain ⟨u, hu, hr⟩ := (processNode_refines_docStep c hi he _ es r).1 h
  obtain ⟨_, r', _, _, rfl⟩ := CV.C04.docStep_root a es u hu
  exact ⟨r', hu, hr⟩

/-- schema validation adds no top-level key and drops none but `version` -/
theorem schemaStage_keys (o : Opts) (u : Val.KVs) (d : Val) (h : schemaStage o (.map u) = .ok d) :
    ∃ kvs, d = .map kvs ∧ ∀ k, (k ∈ Val.keys kvs → k ∈ Val.keys u) ∧ (k ≠ "version" → k ∈ Val.keys u → k ∈ Val.keys kvs) := by
  unfold schemaStage at h
  split at h
  · cases h; exact ⟨u, rfl, fun _ => ⟨id, fun _ => id⟩⟩
  · split at h
    · cases h
      exact ⟨_, rfl, fun k => ⟨fun hk => (Val.mem_keys_erase.1 hk).2, fun hne hk => Val.mem_keys_erase.2 ⟨hne, hk⟩⟩⟩
    · cases h

/-- the loop of `transform` over the entries of a mapping is C02's `travOpt`, which keeps the keys -/
theorem transformKVs_keys (ign : Bool) (p : TPath) (m r : Val.KVs) (h : Short.transformKVs ign p m = .ok r) :
    Val.keys r = Val.keys m :=
  (Det.Stage.travOpt_some _ ((Det.Stage.transformKVs_trav ign p m).symm.trans (Det.Stage.optS_some.mpr h))).1

theorem transformers_root : TPath.firstMatch CV.Gen.transformers TPath.root = none := by decide +kernel

theorem canonical_top_keys (ign : Bool) (kvs : Val.KVs) (d : Val) (h : Short.canonical ign (.map kvs) = .ok d) :
    ∃ r, d = .map r ∧ Val.keys r = Val.keys kvs := by
  -- no transformer sits at the root: `Canonical` of a mapping is the loop over its entries
  have hc : Short.canonical ign (.map kvs) =
      Short.bindOut (Short.transformKVs ign TPath.root kvs) fun r => .ok (.map r) := by
    simp only [Short.canonical, Short.transform, transformers_root, Short.recursesOnMap, Bool.or_eq_true, decide_eq_true_eq,
      true_or, if_true]
    rfl
  rw [hc] at h
  cases ht : Short.transformKVs ign TPath.root kvs with
  | ok r => rw [ht] at h; cases h; exact ⟨r, rfl, transformKVs_keys ign _ kvs r ht⟩
  | err e => rw [ht] at h; cases h
  | panic s => rw [ht] at h; cases h

/-- every pattern of the omit-empty table has at least two parts (`services.*.…`): nothing is omitted at the top level
(the root path is the one-part path `""`, which a one-part pattern `*` would match) -/
theorem mustOmit_root (pats : List (List String)) (h : ∀ pat ∈ pats, 2 ≤ pat.length) : C01.mustOmit pats TPath.root = false := by
  simp only [C01.mustOmit, List.any_eq_false]
  intro pat hp
  have := h pat hp
  match pat, this with
  | a :: b :: r, _ => simp [TPath.root, TPath.pmatch]

theorem omitEmpty_top_keys (pats : List (List String)) (kvs : Val.KVs) (d : Val) (h : omitEmpty pats (.map kvs) = .ok d) :
    ∃ r, d = .map r ∧ (∀ k, k ∈ Val.keys r → k ∈ Val.keys kvs) ∧
      ((∀ pat ∈ pats, 2 ≤ pat.length) → Val.keys r = Val.keys kvs) := by
  rw [CV.Det.Whole.omitEmpty_eq, CV.Det.Whole.omitKVsV_fm] at h
  cases h
  exact ⟨_, rfl, CV.Det.Whole.keys_fm_sub _ _ kvs, fun hp =>
    CV.Det.Whole.keys_fm_keep _ _ (fun _ => by rw [mustOmit_root pats hp, Bool.and_false]) kvs⟩

/-- **schema validation, canonicalisation, omit-empty and the second unicity pass add no top-level key**, and — when
no pattern of the omit-empty table is shorter than two parts — drop none but `version` -/
theorem restStages_keys (c : Cfg) (u : Val.KVs) (r : Val) (h : restStages c (.map u) = .ok r) :
    ∃ kvs, r = .map kvs ∧ (∀ k, k ∈ Val.keys kvs → k ∈ Val.keys u) ∧
      ((∀ pat ∈ c.omitPats, 2 ≤ pat.length) → ∀ k, k ≠ "version" → k ∈ Val.keys u → k ∈ Val.keys kvs) := by
  unfold restStages at h
  obtain ⟨d1, h1, h⟩ := bind_eq_ok.1 h
  obtain ⟨d2, h2, h⟩ := bind_eq_ok.1 h
  obtain ⟨d3, h3, h⟩ := bind_eq_ok.1 h
  obtain ⟨k1, rfl, s1⟩ := schemaStage_keys c.opts u d1 h1
  obtain ⟨k2, rfl, s2⟩ := canonical_top_keys _ k1 d2 (ofShort_ok h2)
  obtain ⟨k3, rfl, s3, s3'⟩ := omitEmpty_top_keys _ k2 d3 h3
  obtain ⟨_, m, e, hm, rfl⟩ := Unicity.enforceTop_ok (ofMerge_ok h)
  cases e
  have hk := CV.C04.enforceKVs_keys _ _ _ hm
  refine ⟨m, rfl, fun k hin => (s1 k).1 (s2 ▸ s3 k (hk ▸ hin)), fun hp k hne hin => ?_⟩
  rw [hk, s3' hp, s2]
  exact (s1 k).2 hne hin

theorem restStages_keeps_top_key (c : Cfg) (hp : ∀ pat ∈ c.omitPats, 2 ≤ pat.length) (u : Val.KVs) (r : Val) (k : String)
    (hk : k ≠ "version") (hin : k ∈ Val.keys u) (h : restStages c (.map u) = .ok r) :
    ∃ kvs, r = .map kvs ∧ k ∈ Val.keys kvs := by
  obtain ⟨kvs, rfl, _, hkeep⟩ := restStages_keys c u r h
  exact ⟨kvs, rfl, hkeep hp k hk hin⟩

/-! ## top-level `!reset` / `!override` through all stages -/

/-- **`!reset` on a top-level entry removes it from the model the composed step returns** — tag resolution, `Apply`,
merge, unicity, schema validation, canonicalisation, omit-empty, unicity: whatever the earlier files held at `k`,
the returned model has no `k` (interpolation and extends off) -/
theorem processNode_reset_removes (c : Cfg) (hi : c.opts.skipInterpolation = true) (he : c.opts.skipExtends = true)
    (a : Val.KVs) (es : List (String × Reset.YNode)) (k : String) (x : Reset.YNode) (r : Val)
    (ht : x.tag = .reset) (hnd : (es.map Prod.fst).Nodup) (hmem : (k, x) ∈ es)
    (h : processNode c (.map a) (.map .none es) = .ok r) : ∃ kvs, r = .map kvs ∧ Val.lookup k kvs = none := by
  obtain ⟨u, hu, hr⟩ := processNode_split c hi he a es r h
  have hk := CV.C04.docStep_reset_removes a es k x u ht hnd hmem hu
  obtain ⟨kvs, rfl, hs, _⟩ := restStages_keys c u _ hr
  rw [CV.Val.lookup_eq_none] at hk
  exact ⟨kvs, rfl, CV.Val.lookup_eq_none.mpr fun hin => hk (hs k hin)⟩

/-- **`!override` on a top-level entry, through all stages of the composed step**: the key is in the returned model
(it came from the later document alone: `override_replaces`).  Hypotheses: the key is not `version`
(schema validation deletes it) and every pattern of the omit-empty table has at least two parts (true of
`loader.omitempty`: all start with `services.*.`). -/
theorem processNode_override_replaces (c : Cfg) (hi : c.opts.skipInterpolation = true) (he : c.opts.skipExtends = true)
    (hp : ∀ pat ∈ c.omitPats, 2 ≤ pat.length)
    (a : Val.KVs) (es : List (String × Reset.YNode)) (k : String) (x : Reset.YNode) (r : Val) (hk : k ≠ "version")
    (ht : x.tag = .override) (hnd : (es.map Prod.fst).Nodup) (hmem : (k, x) ∈ es)
    (h : processNode c (.map a) (.map .none es) = .ok r) : ∃ kvs, r = .map kvs ∧ k ∈ Val.keys kvs := by
  obtain ⟨u, hu, hr⟩ := processNode_split c hi he a es r h
  exact restStages_keeps_top_key c hp u r k hk (CV.C04.docStep_override_replaces a es k x u ht hnd hmem hu) hr

/-- non-vacuity of the hypotheses of `processNode_reset_removes` / `processNode_refines_docStep`: a configuration with
interpolation, extends and validation off, a base model with `services` and `volumes`, a document that resets
`volumes` — the composed step succeeds and the returned model has no `volumes` -/
def exCfg : Cfg :=
  { opts := { skipInterpolation := true, skipValidation := true, skipExtends := true }
    interp := { table := [], fp := { f64 := fun _ => none, f32 := fun _ => none }, env := fun _ => none }
    paths := { wd := [], home := none }
    env := [], projectName := "p", clean := id, omitPats := [["services", "*", "dns"]] }

example : ∀ pat ∈ exCfg.omitPats, 2 ≤ pat.length := by decide

example : processNode exCfg
    (.map [("services", .map [("web", .map [("image", .str "nginx")])]), ("volumes", .map [("data", .map [])])])
    (.map .none [("volumes", .scalar .reset .null), ("services", .map .none [("web", .map .none [("command", .seq .override [.scalar .none (.str "run")])])])])
    = .ok (.map [("services", .map [("web", .map [("image", .str "nginx"), ("command", .seq [.str "run"])])])]) := by decide +kernel

end CV.C04.Whole
