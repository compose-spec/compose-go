import ComposeVerif.Lemmas.Pipeline
import ComposeVerif.Props.C02Deep   -- `wf_labels`, for the first `example` at the end
import ComposeVerif.Lemmas.C02StageCompose
import ComposeVerif.Lemmas.C02WholeOmit
import ComposeVerif.Lemmas.C02StageEnv
/-!
# C02 — the composed pipeline (`Model/Pipeline.lean`: `Pipeline.load`) and the order of map entries

The property speaks about a whole load.  `Pipeline.load c docs` composes the stage models in the order of
`loader.loadYamlModel` / `load` (per document: Interpolate → ApplyExtends → Merge → EnforceUnicity → schema →
Canonical → OmitEmpty → EnforceUnicity; then SetDefaultValues → Validate → ResolveRelativePaths → ResolveEnvironment;
then the name and Normalize) and is tied to `loader.LoadModelWithContext` by the streams `pipeline.load / loadY`.

**The full statement** is `LoadOrderIndependent`: two lists of documents that differ only in the order of the entries of
their mappings (at any depth; `Eqv`), given with two spellings of one environment, load alike — both fail, or both
succeed with models that again differ only in those orders.  It is *not* proved as a whole: `EnforceUnicity`, the
schema stage, `Canonical` and `Normalize` have no whole-tree theorem in `EW` form, and `ApplyExtends` is outside the
composed model (see `design/C02.md` §2.5).  What is proved:

* `load_order_independent_partial` — **the composition**: the statement for the configurations with `SkipExtends`, from
  the per-stage theorems that exist (`Interpolate`, `override.Merge`, `Validate`, `SetDefaultValues`,
  `ResolveRelativePaths`, all whole-tree, all nesting levels) and a record `Residual c c'` with five fields that names,
  one field per stage, exactly what is still assumed (each of the stages is observed on the real functions by
  `c02.stageRepeat`, and on the whole load by `c02.loadN` / `pipeline.load`).  The field `canonical` asks the statement of
  `transform.Canonical` at the root, i.e. also at `volumes.* / networks.* / secrets.* / configs.*`, where C03's model
  compares two `Val`s with the derived, opaque `BEq` (`CanonicalStagePerm` in `Props/C02Stages.lean`): for that model
  the field can be neither proved nor refuted, so the theorem describes how the stages compose and cannot be
  instantiated as it stands;
* the glue in between is proved, not assumed: the error plumbing (`Same.bind`), the document loop (`processDocs_same`:
  an induction over the list of files that threads the model built so far), the empty-model test, the `name` entry,
  the option tests of every stage (a skipped stage is the identity);
* `Interpolate` and `Merge` are discharged *including* the preservation of distinct keys, so nothing is assumed about
  the intermediate trees between them.
-/
namespace CV.Det.Whole
open CV CV.Deep CV.Pipeline CV.Det.Stage
open CV.Val (lookup insert keys KVs)

/-- what is compared of an outcome: the result of a success; every failure is one observation (error texts, *which*
stage reports first, and error-versus-panic of a failing input may depend on the order; whether the load fails must not) -/
def optO {α : Type} : Pipeline.Out α → Option α
  | .ok a => some a
  | _ => none

def Same {α : Type} (R : α → α → Prop) (x y : Pipeline.Out α) : Prop := ORel R (optO x) (optO y)

theorem Same.ok {α : Type} {R : α → α → Prop} {a b : α} (h : R a b) : Same R (.ok a) (.ok b) := h

/-- the error plumbing of the glue (`if err != nil { return nil, err }` after every stage) respects the observation -/
theorem Same.bind {α β : Type} {R : α → α → Prop} {S : β → β → Prop} {x y : Pipeline.Out α}
    {f g : α → Pipeline.Out β} (h : Same R x y) (hf : ∀ a b, R a b → Same S (f a) (g b)) :
    Same S (x.bind f) (y.bind g) := by
  cases x <;> cases y <;> simp only [Same, optO, ORel, Pipeline.Out.bind] at h ⊢ <;>
    first | exact hf _ _ h | exact h.elim | trivial

theorem Same.err {α : Type} {R : α → α → Prop} {e e' : String} : Same R (.err e) (.err e') := trivial

theorem Same.ite {α : Type} {R : α → α → Prop} {c : Prop} [Decidable c] {x x' y y' : Pipeline.Out α}
    (h1 : Same R x x') (h2 : Same R y y') : Same R (if c then x else y) (if c then x' else y') := by
  split <;> assumption

def RespectsV (f : Val → Pipeline.Out Val) : Prop := ∀ v w, EW v w → Same EW (f v) (f w)

theorem respectsV_iff_resp (f : Val → Pipeline.Out Val) : RespectsV f ↔ Resp EW optO f := Iff.rfl

/-! ## the stages with a whole-tree theorem -/

/-- `Interpolate` as run by the pipeline (option test included), distinct keys preserved -/
theorem interpStage_same (c : Cfg) {a b : KVs} (h : MRel a b) : Same MRel (Pipeline.interpStage c a) (Pipeline.interpStage c b) := by
  refine Same.ite h ?_
  have e := interp_ew c.interp TPath.root (EW.map_iff.mpr h)
  simp only [Interp.interp] at e
  simp only [Interp.interpolate]
  cases ha : Interp.interpKVs c.interp TPath.root a <;> cases hb : Interp.interpKVs c.interp TPath.root b <;>
    simp only [ha, hb, optI, ORel, Same, ofInterp, optO] at e ⊢
  · exact EW.map_iff.mp e

theorem same_ofMerge {α : Type} {R : α → α → Prop} (s : String) {x y : Merge.Out α} :
    Same R (ofMerge s x) (ofMerge s y) ↔ OutEqv R x y := by cases x <;> cases y <;> exact Iff.rfl

theorem same_ofC11 {α : Type} {R : α → α → Prop} (s : String) {x y : C11.Out α} :
    Same R (ofC11 s x) (ofC11 s y) ↔ ORel R (optD x) (optD y) := by cases x <;> cases y <;> exact Iff.rfl

theorem same_ofPaths {α : Type} {R : α → α → Prop} {x y : Paths.Out α} :
    Same R (ofPaths x) (ofPaths y) ↔ ORel R (optP x) (optP y) := by cases x <;> cases y <;> exact Iff.rfl

/-- `override.Merge(dict, cfg)` as run by the pipeline -/
theorem mergeStage_same {d d' : Val} {a b : KVs} (hd : EW d d') (h : MRel a b) :
    Same EW (ofMerge "merge" (Merge.merge d (.map a))) (ofMerge "merge" (Merge.merge d' (.map b))) :=
  (same_ofMerge _).mpr (merge_ew hd (EW.map_iff.mpr h))

/-- `validation.Validate` as run by the pipeline -/
theorem validateStage_same (c : Cfg) : RespectsV (Pipeline.validateStage c) := by
  intro v w h
  refine Same.ite h ?_
  have e := validate_eqv h.1 h.2.1 h.2.2
  cases hv : Validate.validate v <;> cases hw : Validate.validate w <;>
    simp only [hv, hw, ofValidate, Same, optO, ORel, reduceCtorEq, iff_false, false_iff, not_true_eq_false] at e ⊢
  · exact h

/-- what is still assumed of the stages without a whole-tree order-independence theorem.  One field per stage; each is the
statement "two spellings of one tree are treated alike, and keys stay distinct" for that stage as the pipeline runs it.
Nothing is assumed of `SetDefaultValues` and `ResolveRelativePaths`: order independence (`setDefaultValues_stage_perm`,
`resolve_stage_perm`) and preservation of distinct keys (`setDefaultValues_preserves_wf`, `resolvePaths_preserves_wf`) are
proved. -/
structure Residual (c c' : Cfg) : Prop where
  /-- `ApplyExtends` is outside (C05 owns it; `applyExtends_order_independent` is about C02's own model of it) -/
  extendsOff : c.opts.skipExtends = true
  unicity : ∀ s, RespectsV (fun d => ofMerge s (Unicity.enforceTop d))
  /-- only asked when validation is on (`schemaStage_off` discharges it otherwise); assumed, not proved -/
  schema : c.opts.skipValidation = false → RespectsV (schemaStage c.opts)
  canonical : RespectsV (fun d => ofShort (Short.canonical c.opts.skipInterpolation d))
  /-- `Normalize` with the two spellings of the environment (`normalize_stage_perm` covers the two mappings it ranges) -/
  normalize : ∀ a b, MRel a b →
    Same MEqv (ofC11 "normalize" (C11.normalize c.clean c.env a)) (ofC11 "normalize" (C11.normalize c'.clean c'.env b))

def SameButEnv (c c' : Cfg) : Prop :=
  c'.opts = c.opts ∧ c'.interp = c.interp ∧ c'.paths = c.paths ∧ c'.projectName = c.projectName ∧
  c'.omitPats = c.omitPats ∧ c'.mainFile = c.mainFile

/-- **`SetDefaultValues` keeps the keys of every mapping distinct** (whole tree walk, the four handlers) -/
theorem setDefaultValues_preserves_wf (tbl : List (List String × String)) {kvs : KVs} {r : Val} (w : MWF kvs)
    (h : C11.setDefaultValues tbl kvs = .ok r) : WF r := by
  have := setDefaults_ew tbl TPath.root (EW.refl (WF.map_iff.mpr w))
  rw [show C11.setDefaults tbl TPath.root (.map kvs) = .ok r from h] at this; exact this.2.1

/-- **`ResolveRelativePaths` keeps the keys of every mapping distinct** (whole tree walk, the seven resolvers) -/
theorem resolvePaths_preserves_wf (cfg : Paths.Cfg) {v r : Val} (w : WF v) (h : Paths.resolve cfg v = .ok r) : WF r := by
  have := pathsWalk_ew Gen.resolvers cfg TPath.root (EW.refl w)
  rw [show Paths.walk Gen.resolvers cfg TPath.root v = .ok r from h] at this; exact this.2.1

/-- `SetDefaultValues` as run by the pipeline -/
theorem defaultsStage_same (c : Cfg) : RespectsV (Pipeline.defaultsStage c) := by
  intro v w h
  cases h.1 with
  | map _ _ =>
    exact Same.ite h ((same_ofC11 _).mpr (setDefaults_ew Gen.defaultValues TPath.root h))
  | _ => trivial

/-- `ResolveRelativePaths` as run by the pipeline -/
theorem pathsStage_same (c : Cfg) : RespectsV (Pipeline.pathsStage c) := by
  intro v w h
  exact Same.ite (same_ofPaths.mpr (pathsWalk_ew Gen.resolvers c.paths TPath.root h)) h

/-- with validation off the schema stage is the identity -/
theorem schemaStage_off (o : Opts) (h : o.skipValidation = true) : RespectsV (schemaStage o) := by
  intro v w hvw
  simp only [schemaStage, h, if_true]
  exact hvw

theorem schemaStage_same {c c' : Cfg} (R : Residual c c') : RespectsV (schemaStage c.opts) := by
  cases h : c.opts.skipValidation with
  | true => exact schemaStage_off _ h
  | false => exact R.schema h

/-- **`loader.OmitEmpty` as run by the pipeline** (a whole tree walk that drops empty values at the `omitempty` paths):
proved through the embedding into C01's `GoVal` model (`omit_ofVal`, `omitEmpty_eq`) and the loop lemma `fm_mrel` -/
theorem omitEmpty_same (pats : List (List String)) : RespectsV (Pipeline.omitEmpty pats) := by
  intro v w h
  cases h.1 with
  | map _ _ =>
    rw [omitEmpty_eq, omitEmpty_eq]
    exact Same.ok (by simpa only [omitV] using omitV_ew pats h TPath.root)
  | _ => simp only [Pipeline.omitEmpty, Same, optO, ORel]

/-- `processRawYaml` from the merge on: six stages, error plumbing in between -/
theorem mergeStages_same {c c' : Cfg} (R : Residual c c') {d d' : Val} {a b : KVs} (hd : EW d d') (h : MRel a b) :
    Same EW (mergeStages c d a) (mergeStages c d' b) := by
  unfold mergeStages
  refine Same.bind (mergeStage_same hd h) fun x y hxy => ?_
  refine Same.bind (R.unicity "unicity" x y hxy) fun x y hxy => ?_
  refine Same.bind (schemaStage_same R x y hxy) fun x y hxy => ?_
  refine Same.bind (R.canonical x y hxy) fun x y hxy => ?_
  refine Same.bind (omitEmpty_same c.omitPats x y hxy) fun x y hxy => ?_
  exact R.unicity "unicity2" x y hxy

/-- one document merged into the model built so far -/
theorem processDoc_same {c c' : Cfg} (R : Residual c c') {d d' : Val} {a b : KVs} (hd : EW d d') (h : MRel a b) :
    Same EW (processDoc c d a) (processDoc c d' b) := by
  unfold processDoc
  refine Same.bind (interpStage_same c h) fun x y hxy => ?_
  have ex : ∀ z, extendsStage c z = .ok z := fun z => by simp only [extendsStage, R.extendsOff, if_true]
  simp only [ex, Pipeline.Out.bind]
  exact mergeStages_same R hd hxy

/-- the documents handed to the two loads: the same number of files, pairwise the same tree up to the order of the
entries of every mapping, keys distinct (what decoding a YAML document gives) -/
inductive DocsEqv : List KVs → List KVs → Prop
  | nil : DocsEqv [] []
  | cons {a b : KVs} {r r' : List KVs} : MRel a b → DocsEqv r r' → DocsEqv (a :: r) (b :: r')

/-- **the loop over `config.ConfigFiles`**: documents that pairwise differ only in the order of mapping entries, merged
into models that differ only so, give such models — or both loops fail (at whichever file) -/
theorem processDocs_same {c c' : Cfg} (R : Residual c c') : ∀ {docs docs' : List KVs}, DocsEqv docs docs' →
    ∀ {d d' : Val}, EW d d' → Same EW (processDocs c d docs) (processDocs c d' docs') := by
  intro docs docs' h
  induction h with
  | nil => intro d d' hd; exact hd
  | cons hab _ ih =>
    intro d d' hd
    rw [processDocs_cons, processDocs_cons]
    exact Same.bind (processDoc_same R hd hab) fun _ _ h1 => ih h1

/-- `loadYamlModel` after the loop -/
theorem finishModel_same {c c' : Cfg} (hc : SameButEnv c c') (hl : LookupSame c.env c'.env)
    {d d' : Val} (hd : EW d d') :
    Same MRel (finishModel c d) (finishModel c' d') := by
  obtain ⟨ho, hi, hp, hn, hm, hf⟩ := hc
  have e1 : Pipeline.defaultsStage c' = Pipeline.defaultsStage c := by funext z; simp only [Pipeline.defaultsStage, ho]
  have e2 : Pipeline.validateStage c' = Pipeline.validateStage c := by funext z; simp only [Pipeline.validateStage, ho]
  have e3 : Pipeline.pathsStage c' = Pipeline.pathsStage c := by funext z; simp only [Pipeline.pathsStage, ho, hp]
  unfold finishModel
  rw [e1, e2, e3]
  refine Same.bind (defaultsStage_same c d d' hd) fun x y hxy => ?_
  refine Same.bind (validateStage_same c x y hxy) fun x y hxy => ?_
  refine Same.bind (pathsStage_same c x y hxy) fun x y hxy => ?_
  obtain ⟨he, wx, wy⟩ := hxy
  cases he with
  | map h1 h2 =>
    simp only [envStage]
    exact resolveEnvironment_mrel hl ⟨⟨h1, h2⟩, WF.map_iff.mp wx, WF.map_iff.mp wy⟩
  | _ => simp only [envStage, Same, optO, ORel]

/-- the tail of `load`: empty-model test, project name, `dict["name"] = …`, `Normalize` -/
theorem finishLoad_same {c c' : Cfg} (R : Residual c c') (hc : SameButEnv c c') {a b : KVs} (h : MRel a b) :
    Same MEqv (finishLoad c a) (finishLoad c' b) := by
  obtain ⟨ho, hi, hp, hn, hm, hf⟩ := hc
  unfold finishLoad
  rw [ho, hn, h.1.isEmpty_eq]
  exact Same.ite Same.err <| Same.ite Same.err <| Same.ite h.1 <|
    R.normalize _ _ (h.insert "name" (EW.refl (.str _)))

/-- **the full statement** (not proved as a whole — see the module comment): a load does not depend on the order of
the entries of any mapping of its documents, nor on the order in which the environment is spelled -/
def LoadOrderIndependent : Prop :=
  ∀ (c c' : Cfg) (docs docs' : List KVs), SameButEnv c c' → c'.clean = c.clean → c'.env.Perm c.env →
    (c.env.map Prod.fst).Nodup → DocsEqv docs docs' → Same MEqv (load c docs) (load c' docs')

/-- nothing before the environment stages reads the environment -/
theorem processDoc_congr {c c' : Cfg} (hc : SameButEnv c c') : processDoc c' = processDoc c := by
  obtain ⟨ho, hi, hp, hn, hm, hf⟩ := hc
  have hms : mergeStages c' = mergeStages c := by funext d a; simp only [mergeStages, ho, hm]
  funext d a
  simp only [processDoc, Pipeline.interpStage, extendsStage, hms, ho, hi, hf]

/-- **`Pipeline.load` composed from its stages**: for configurations with `SkipExtends`, any documents and spellings of
the environment — with what is still assumed of the stages named in `Residual` (five fields) -/
theorem load_order_independent_partial {c c' : Cfg} (hc : SameButEnv c c') (hl : LookupSame c.env c'.env)
    (R : Residual c c') {docs docs' : List KVs} (h : DocsEqv docs docs') : Same MEqv (load c docs) (load c' docs') := by
  have hlen : docs.isEmpty = docs'.isEmpty := by cases h <;> rfl
  unfold load
  rw [hlen]
  refine Same.ite Same.err ?_
  unfold loadYamlModel
  rw [loop_congr (fun _ => rfl) (processDocs_cons c') (fun _ => rfl) (processDocs_cons c) (by rw [processDoc_congr hc])]
  exact Same.bind (Same.bind (processDocs_same R h (EW.map_iff.mpr MRel.nil)) fun x y hxy => finishModel_same hc hl hxy)
    fun a b hab => finishLoad_same R hc hab

/-- the same with the environment given as a permutation (Go: `types.Mapping`, a map ranged in any order) -/
theorem load_perm_partial {c c' : Cfg} (hc : SameButEnv c c') (hp : c'.env.Perm c.env) (hn : (c.env.map Prod.fst).Nodup)
    (R : Residual c c') {docs docs' : List KVs} (h : DocsEqv docs docs') : Same MEqv (load c docs) (load c' docs') :=
  load_order_independent_partial hc (lookupSame_of_perm hp hn) R h

/-- a permutation of the entries of a document with distinct keys is a `DocsEqv` spelling of it (non-vacuity of the
hypothesis: this is what `for k, v := range` in another order is) -/
theorem docsEqv_of_perm {a b : KVs} (wa : MWF a) (wb : MWF b) (hp : b.Perm a) : DocsEqv [a] [b] :=
  .cons ⟨Eqv.map_iff.mp (Eqv.of_perm hp wa).symm, wa, wb⟩ .nil

example : DocsEqv [[("a", Val.str "1"), ("b", Val.null)]] [[("b", Val.null), ("a", Val.str "1")]] :=
  docsEqv_of_perm CV.Deep.Props.wf_labels
    (WF.map_iff.mp (WF.of_perm (List.Perm.swap _ _ _) CV.Deep.Props.wf_labels)) (List.Perm.swap _ _ _)

/-- non-vacuity of `LookupSame`: a permuted environment -/
example : LookupSame [("A", "1"), ("B", "2")] [("B", "2"), ("A", "1")] :=
  lookupSame_of_perm (List.Perm.swap _ _ _) (by decide)

end CV.Det.Whole
