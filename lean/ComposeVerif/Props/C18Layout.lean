import ComposeVerif.Spec.DotenvStmts
import ComposeVerif.Lemmas.Dotenv
/-!
# C18 — layout is irrelevant

What a well-formed file denotes depends only on the sequence of its statements — `KEY` (inherited) or `KEY` with a
value — not on blank lines, comment lines, indentation, `export`, the separator (`=` or `:`), white space around the
separator, trailing white space or inline comments.  Stated for the real scanner model through `parse_render`.
-/
namespace CV.Dotenv
open CV CV.Template

theorem evalFrom_stmts (lookup : Env) : ∀ (ls : List Line) (m : Map), evalFrom lookup ls m = evalStmts lookup (stmtSeq ls) m
  | [], m => rfl
  | .blank _ :: ls, m => by rw [evalFrom, stmtSeq]; exact evalFrom_stmts lookup ls m
  | .comment _ _ :: ls, m => by rw [evalFrom, stmtSeq]; exact evalFrom_stmts lookup ls m
  | .bare _ _ key _ :: ls, m => by
    rw [evalFrom, stmtSeq, evalStmts]
    cases lookup key with
    | some v => exact evalFrom_stmts lookup ls _
    | none => exact evalFrom_stmts lookup ls m
  | .assign _ _ key _ _ _ v _ _ :: ls, m => by
    rw [evalFrom, stmtSeq, evalStmts]
    cases v.eval (envOf lookup m) with
    | ok s => exact evalFrom_stmts lookup ls _
    | err e => rfl
    | panic p => rfl

theorem parse_render_stmts (lookup : Env) (ls : List Line) (hwf : WF ls = true) :
    parse (render ls) lookup = evalStmts lookup (stmtSeq ls) [] := by
  rw [parse_render_lemma lookup ls hwf, evalLines, evalFrom_stmts]

/-- **layout is irrelevant**: two well-formed files with the same statements parse to the same result under every
    lookup — blank lines, comments, indentation, `export`, `=` / `:`, surrounding white space, inline comments and
    the quoting style's layout do not matter -/
theorem parse_layout_irrelevant (lookup : Env) (ls ls' : List Line) (h : WF ls = true) (h' : WF ls' = true)
    (hs : stmtSeq ls = stmtSeq ls') : parse (render ls) lookup = parse (render ls') lookup := by
  rw [parse_render_stmts lookup ls h, parse_render_stmts lookup ls' h', hs]

theorem evalStmts_append (lookup : Env) : ∀ (a b : List (Str × Option Value)) (m : Map),
    evalStmts lookup (a ++ b) m = (evalStmts lookup a m).andThen (fun m' => evalStmts lookup b m')
  | [], b, m => rfl
  | (key, none) :: a, b, m => by
    rw [List.cons_append, evalStmts, evalStmts]
    cases lookup key with
    | some v => exact evalStmts_append lookup a b _
    | none => exact evalStmts_append lookup a b m
  | (key, some v) :: a, b, m => by
    rw [List.cons_append, evalStmts, evalStmts]
    cases v.eval (envOf lookup m) with
    | ok s => exact evalStmts_append lookup a b _
    | err e => rfl
    | panic p => rfl

/-- **later assignments win** in the specification's meaning `evalStmts` of a statement sequence (the parser comes in through
    `parse_render_stmts`): if the statements before the last one evaluate to `m'` and the last one assigns `k` a value that
    evaluates (in "lookup first, earlier lines second") to `s`, then the sequence defines `k` as `s` — whatever was assigned to
    `k` before — and every other name is what it was -/
theorem last_assignment_wins (lookup : Env) (r : List (Str × Option Value)) (k : Str) (v : Value) (m m' : Map) (s : Str)
    (hr : evalStmts lookup r m = .ok m') (hv : v.eval (envOf lookup m') = .ok s) :
    ∃ res, evalStmts lookup (r ++ [(k, some v)]) m = .ok res ∧ get res k = some s ∧ ∀ k', k' ≠ k → get res k' = get m' k' := by
  refine ⟨put m' k s, ?_, get_put_same_lemma m' k s, fun k' h => get_put_other_lemma m' k k' s h⟩
  rw [evalStmts_append, hr]
  simp only [POut.andThen, evalStmts, hv]

/-- in `evalStmts`, a bare key at the end takes the lookup's value over any earlier assignment, and leaves the map alone when the lookup has none -/
theorem last_bare_key (lookup : Env) (r : List (Str × Option Value)) (k : Str) (m m' : Map)
    (hr : evalStmts lookup r m = .ok m') :
    evalStmts lookup (r ++ [(k, none)]) m = .ok (match lookup k with | some v => put m' k v | none => m') := by
  rw [evalStmts_append, hr]
  simp only [POut.andThen, evalStmts]
  cases lookup k <;> rfl


/-- non-vacuity: `export A = 1 # c`, a comment, a blank line, `  B` vs `A:1`, `B` -/
example :
    let ls := [Line.assign [] (some [' ']) ['A'] [' '] .eq [' '] (.unq ['1']) [' '] (some [' ', 'c']),
               Line.comment [] ['x'], Line.blank [' '], Line.bare [' ', ' '] none ['B'] []]
    let ls' := [Line.assign [] none ['A'] [] .colon [] (.unq ['1']) [] none, Line.bare [] none ['B'] []]
    WF ls = true ∧ WF ls' = true ∧ stmtSeq ls = stmtSeq ls' ∧ render ls ≠ render ls' := by decide +kernel

end CV.Dotenv
