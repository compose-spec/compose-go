import ComposeVerif.Props.C13
import ComposeVerif.Lemmas.TravProj
/-!
# C13 — the whole of `CollectInDependencyOrder`: project → `newGraph` → `checkCycle` → options → `walk`

`TravProj.plan p inverse maxc after` (`Model/TravProj.lean`) is what `graph.CollectInDependencyOrder(ctx, project, fn,
options…)` does with a project: refuse it (`newGraph` error / cycle: no visit), return at once (no enabled service), or
run the transition system `Trav.step? g lim` on the graph `graphOf` with the direction (`InReverseOrder`), the root
selection (`WithRootNodesAndDown`) and the limit (`WithMaxConcurrency`) folded in.

The theorems below compose the stage theorems of `Props/C13.lean` into statements **about the project's `depends_on`
relation** (`depAdj p`: each service's dependencies that are enabled services) — for every project whose service names
are distinct (they are the keys of a Go map), every option combination, every schedule.
-/
namespace CV.TravProj
open CV.DepGraph CV.Trav

/-- **what is done with a project**: one of — refused with the class `newGraph`/`checkCycle` report (never
"ok"); nothing to do; `walk` on `graphOf` of the adjacency `newGraph` built, under the limit `limitOf maxc`. -/
theorem collect_plan (p : Proj) (inverse : Bool) (maxc : Int) (after : List Name) :
    (∃ cls, plan p inverse maxc after = .refused cls ∧ (run p).cls = cls ∧ cls ≠ "ok") ∨
    (plan p inverse maxc after = .empty ∧ (run p).cls = "ok" ∧ p.services = []) ∨
    (plan p inverse maxc after = .walk (graphOf (names p) (adjP p) inverse after) (limitOf maxc) ∧
      (run p).cls = "ok" ∧ names p ≠ [] ∧ checkCycle (names p) (depAdj p) = false) := by
  unfold plan run
  cases hb : build (names p) p.disabled p.services [] with
  | mk e adj =>
    cases e with
    | some e =>
      left
      refine ⟨errCls e, ?_⟩
      cases e <;> simp [hb, errCls]
    | none =>
      have hadj := build_eq p hb
      subst hadj
      have hch : adjOf (adjP p) = depAdj p := children_adjP p
      simp only [hb, hch]
      cases hc : checkCycle (names p) (depAdj p) with
      | true => left; exact ⟨"cycle", by simp, by simp, by decide⟩
      | false =>
        right
        by_cases hs : p.services = []
        · left; simp [hs]
        · right
          have hne : names p ≠ [] := by simpa [names] using hs
          have hemp : (names p).isEmpty = false := by simpa [names] using hs
          simp only [names] at hemp hne
          simp [hemp, hne]

/-- **a cyclic project is refused before any visit**, whatever the options: the plan is `refused` — no transition system
is started, no visitor can be entered. -/
theorem collect_refuses_cycle (p : Proj) (v : Name) (hv : v ∈ names p) (n : Nat) (h : Reaches (depAdj p) n v v)
    (inverse : Bool) (maxc : Int) (after : List Name) : ∃ cls, plan p inverse maxc after = .refused cls := by
  have hno := cyclic_project_refused p v hv n h
  rcases collect_plan p inverse maxc after with ⟨cls, hp, _, _⟩ | ⟨_, hok, _⟩ | ⟨_, hok, _⟩
  · exact ⟨cls, hp⟩
  · exact absurd hok hno
  · exact absurd hok hno

/-- **the graph handed to `walk` is the project's dependency graph and satisfies the hypothesis of all traversal
theorems**: vertices = the enabled services; prerequisites = dependencies (forward) / dependents (reverse), in both
directions of the equivalence; the visitor is wanted exactly for the roots and whatever transitively depends on one; a
positive `maxc` is the limit and it is ≥ 1. -/
theorem collect_walk_graph (p : Proj) (hnd : (names p).Nodup) (inverse : Bool) (maxc : Int) (after : List Name)
    {g : Graph} {lim : Option Nat} (h : plan p inverse maxc after = .walk g lim) :
    GraphOK g ∧ g.verts = names p ∧
    (∀ v d, d ∈ g.pre v ↔ if inverse then v ∈ depAdj p d else d ∈ depAdj p v) ∧
    (∀ v d, d ∈ g.post v ↔ if inverse then d ∈ depAdj p v else v ∈ depAdj p d) ∧
    (∀ v ∈ names p, g.skip v = false ↔ after = [] ∨ v ∈ after ∨ ∃ r ∈ after, ∃ n, Reaches (depAdj p) n v r) ∧
    lim = limitOf maxc ∧ (∀ n, lim = some n → 1 ≤ n ∧ (n : Int) = maxc) := by
  rcases collect_plan p inverse maxc after with ⟨cls, hp, _, _⟩ | ⟨hp, _, _⟩ | ⟨hp, _, hne, hc⟩
  · rw [hp] at h; cases h
  · rw [hp] at h; cases h
  · rw [hp] at h
    injection h with hg hl
    subst hg; subst hl
    refine ⟨graphOf_ok p hnd hne hc inverse after, rfl, ?_, ?_, ?_, rfl, ?_⟩
    · intro v d
      cases inverse with
      | false => simp [graphOf, children_adjP]
      | true => simp only [graphOf, if_true]; exact mem_parents_iff p hnd v d
    · intro v d
      cases inverse with
      | false => simp only [graphOf, Bool.false_eq_true, if_false]; exact mem_parents_iff p hnd v d
      | true => simp [graphOf, children_adjP]
    · intro v hv
      simp only [graphOf, children_adjP]
      exact roots_select_dependents (depAdj p) (names p) after v (depAdj_closed p)
        ((checkCycle_false_iff _ _ (depAdj_closed p)).mp hc) hv
    · intro n hn
      unfold limitOf at hn
      split at hn
      · injection hn with hn
        subst hn
        omega
      · cases hn

/-- **forward walk: after dependencies.**  Whenever the visitor of service `v` is entered, the visitor of every service
`d` that `v` depends on (and that is visited at all) has already returned. -/
theorem collect_forward_after_dependencies (p : Proj) (hnd : (names p).Nodup) (maxc : Int) (after : List Name)
    {g : Graph} {lim : Option Nat} (h : plan p false maxc after = .walk g lim) {s : St} (hr : Reach g lim s)
    (l1 l2 : List Ev) (v : V) (hlog : s.log = l1 ++ Ev.start v :: l2) :
    ∀ d ∈ depAdj p v, g.skip d = false → d ∈ finishes l2 := by
  have ⟨hg, _, hpre, _⟩ := collect_walk_graph p hnd false maxc after h
  intro d hd
  exact after_deps hg hr l1 l2 v hlog d ((hpre v d).mpr (by simpa using hd))

/-- **reverse walk: after dependents.**  Whenever the visitor of service `v` is entered in reverse mode, the visitor of
every service `d` that depends on `v` (and that is visited at all) has already returned. -/
theorem collect_reverse_after_dependents (p : Proj) (hnd : (names p).Nodup) (maxc : Int) (after : List Name)
    {g : Graph} {lim : Option Nat} (h : plan p true maxc after = .walk g lim) {s : St} (hr : Reach g lim s)
    (l1 l2 : List Ev) (v : V) (hlog : s.log = l1 ++ Ev.start v :: l2) :
    ∀ d, v ∈ depAdj p d → g.skip d = false → d ∈ finishes l2 := by
  have ⟨hg, _, hpre, _⟩ := collect_walk_graph p hnd true maxc after h
  intro d hd
  exact after_deps hg hr l1 l2 v hlog d ((hpre v d).mpr (by simpa using hd))

/-- **once each, on success**: when the walk of the project has returned nil (caller did not cancel), the visitor was
entered exactly once for each enabled service when no roots were given, otherwise exactly once for each root and each
service that transitively depends on one — and for no other service. -/
theorem collect_success_visits_selected (p : Proj) (hnd : (names p).Nodup) (inverse : Bool) (maxc : Int)
    (after : List Name) {g : Graph} {lim : Option Nat} (h : plan p inverse maxc after = .walk g lim) {s : St}
    (hr : Reach g lim s) (ht : terminal s) (hok : s.firstErr = none) (hext : s.extCancelled = false) :
    ∀ v ∈ names p,
      ((after = [] ∨ v ∈ after ∨ ∃ r ∈ after, ∃ n, Reaches (depAdj p) n v r) → (starts s.log).count v = 1) ∧
      (¬ (after = [] ∨ v ∈ after ∨ ∃ r ∈ after, ∃ n, Reaches (depAdj p) n v r) → (starts s.log).count v = 0) := by
  have ⟨hg, hverts, _, _, hskip, _⟩ := collect_walk_graph p hnd inverse maxc after h
  intro v hv
  have hc := (exact_counts_on_success hg hr ht hok hext v (hverts ▸ hv)).1
  have hiff := hskip v hv
  constructor
  · intro hx
    rw [hc, hiff.mpr hx]; rfl
  · intro hx
    cases hk : g.skip v with
    | true => rw [hc, hk]; rfl
    | false => exact absurd (hiff.mp hk) hx

/-- **bounded**: under `WithMaxConcurrency(maxc)`, `maxc > 0`, never more than `maxc` visitors run at once. -/
theorem collect_bounded (p : Proj) (hnd : (names p).Nodup) (inverse : Bool) (maxc : Int) (hpos : maxc > 0)
    (after : List Name) {g : Graph} {lim : Option Nat} (h : plan p inverse maxc after = .walk g lim) {s : St}
    (hr : Reach g lim s) : (running s : Int) ≤ maxc := by
  have ⟨hg, _, _, _, _, hlim, _⟩ := collect_walk_graph p hnd inverse maxc after h
  have hl : lim = some maxc.toNat := by rw [hlim]; simp [limitOf, hpos]
  subst hl
  have := bounded hg hr
  omega

/-- **live**: the walk of an accepted project never waits for anything but a visitor, every schedule is finite, and
from every reachable state it can be completed — for every option combination (the side condition "limit ≥ 1" of the
LTS theorems is discharged by `limitOf`). -/
theorem collect_live (p : Proj) (hnd : (names p).Nodup) (inverse : Bool) (maxc : Int) (after : List Name)
    {g : Graph} {lim : Option Nat} (h : plan p inverse maxc after = .walk g lim) {s : St} (hr : Reach g lim s) :
    (terminal s ∨ (∃ l s', internal l = true ∧ step? g lim s l = some s') ∨
      (∃ v, wpc s.workers v = some .running ∧ ∀ e, ∃ s', step? g lim s (.wReturn v e) = some s')) ∧
    (∀ ls s', runL g lim s ls = some s' → ls.length + mu g s' ≤ mu g s) ∧
    (∃ ls s', runL g lim s ls = some s' ∧ terminal s' ∧ ls.length ≤ mu g s ∧ ls.all calm = true) := by
  have ⟨hg, _, _, _, _, _, hl⟩ := collect_walk_graph p hnd inverse maxc after h
  have hl' : ∀ n, lim = some n → 1 ≤ n := fun n hn => (hl n hn).1
  exact ⟨progress_internal hg hl' hr, fun ls s' hrun => terminates hg hr ls hrun, every_state_can_finish hg hl' hr⟩

/-- **result**: when the walk of the project has returned, every entered visitor has returned, and the result is nil
iff no visitor failed (otherwise the first failing visit handed to the errgroup). -/
theorem collect_result (p : Proj) (hnd : (names p).Nodup) (inverse : Bool) (maxc : Int) (after : List Name)
    {g : Graph} {lim : Option Nat} (h : plan p inverse maxc after = .walk g lim) {s : St} (hr : Reach g lim s)
    (ht : terminal s) :
    (∀ v ∈ starts s.log, v ∈ finishes s.log) ∧ (s.firstErr = none ↔ ∀ v, Ev.finish v true ∉ s.log) ∧
    s.firstErr = s.errExits.getLast? := by
  have ⟨hg, _⟩ := collect_walk_graph p hnd inverse maxc after h
  exact ⟨returns_after_all_visits hg hr ht, (outcome_on_return hg hr ht).2, (result_first_error hg hr).1⟩

/-- **acceptance, without reference to any iteration order**: a project is accepted (`newGraph` and `checkCycle` return
nil, `walk` is reached) iff every *required* dependency names an enabled service and the dependency graph has no closed
walk.  Both sides of the right-hand statement are about membership only, so every iteration order of `project.Services`
and of each `depends_on` map gives the same answer. -/
theorem project_accepted_iff (p : Proj) :
    (run p).cls = "ok" ↔
      (∀ s ∈ p.services, ∀ d ∈ s.deps, d.required = true → d.name ∈ names p) ∧
      (∀ v ∈ names p, ∀ n, ¬ Reaches (depAdj p) n v v) :=
  accepted_iff p

/-- **the dependency graph, without reference to any iteration order**: `c` is a dependency of `v` in the graph handed
to `walk` iff some service named `v` lists `c` in its `depends_on` and `c` is an enabled service (required or not). -/
theorem dependency_graph_order_free (p : Proj) (hnd : (names p).Nodup) (v c : Name) :
    c ∈ depAdj p v ↔ ∃ s ∈ p.services, s.name = v ∧ (∃ d ∈ s.deps, d.name = c) ∧ c ∈ names p :=
  mem_depAdj_iff p hnd v c

/-- **every iteration order of the Go maps gives the same verdict and the same graph**: two renderings of the same
project (`SameMaps`: same services by name, same `depends_on` entries, any order) are accepted or refused together, and
`c` is a dependency of `v` in the one graph iff it is in the other.  With `collect_walk_graph` (which describes `pre`,
`post`, `skip` through `depAdj` only) the whole traversal plan is independent of map iteration order. -/
theorem collect_order_independent (p q : Proj) (hp : (names p).Nodup) (hq : (names q).Nodup) (h : SameMaps p q) :
    ((run p).cls = "ok" ↔ (run q).cls = "ok") ∧ (∀ v c, c ∈ depAdj p v ↔ c ∈ depAdj q v) :=
  ⟨⟨accepted_sub hp h, accepted_sub hq h.symm⟩,
   fun v c => ⟨h.depAdj_sub hq v c, h.symm.depAdj_sub hp v c⟩⟩

/-- non-vacuity: the chain written in another order (services reversed, a `depends_on` permuted) is the same project -/
example : SameMaps ⟨[⟨0, []⟩, ⟨1, [⟨0, true⟩, ⟨9, false⟩]⟩], []⟩ ⟨[⟨1, [⟨9, false⟩, ⟨0, true⟩]⟩, ⟨0, []⟩], []⟩ := by
  refine ⟨?_, ?_⟩ <;> simp <;> (intro d; exact Or.comm)

/-- web(2) → api(1) → db(0), plus an optional dependency of db on a service that is not enabled -/
def chain3 : Proj := ⟨[⟨0, [⟨9, false⟩]⟩, ⟨1, [⟨0, true⟩]⟩, ⟨2, [⟨1, true⟩]⟩], []⟩

/-- the hypotheses are satisfiable: distinct names, plan = walk, in both directions, with roots and a limit -/
example : (names chain3).Nodup ∧
    (match plan chain3 false 2 [1] with
     | .walk g lim => (g.verts, g.verts.map g.pre, g.verts.map g.post, g.verts.map g.skip, extremities g, lim)
         == ([0, 1, 2], [[], [0], [1]], [[1], [2], []], [true, false, false], [0], some 2)
     | _ => false) = true ∧
    (match plan chain3 true (-3) [] with
     | .walk g lim => (g.verts.map g.pre, g.verts.map g.post, g.verts.map g.skip, extremities g, lim)
         == ([[1], [2], []], [[], [0], [1]], [false, false, false], [2], none)
     | _ => false) = true := by decide +kernel

/-- refused / empty plans exist as well: a cycle behind a service that sorts first, a required dependency on a disabled
service, an unknown one, a project without services -/
example : (match plan ⟨[⟨0, [⟨1, true⟩]⟩, ⟨1, [⟨2, true⟩]⟩, ⟨2, [⟨1, true⟩]⟩], []⟩ false 0 [] with
           | .refused c => c | _ => "") = "cycle" ∧
          (match plan ⟨[⟨0, [⟨7, true⟩]⟩], [7]⟩ true 1 [] with | .refused c => c | _ => "") = "disabled" ∧
          (match plan ⟨[⟨0, [⟨7, true⟩]⟩], []⟩ true 1 [0] with | .refused c => c | _ => "") = "unknown" ∧
          (match plan ⟨[], [3]⟩ false 1 [5] with | .empty => true | _ => false) = true := by decide +kernel

end CV.TravProj
