import ComposeVerif.Lemmas.PathsSymStr
/-!
# C12 — develop.watch paths through symbolic links: `ResolveSymbolicLink` is a projection

`Model/PathsSymlink.lean`: a path is its list of components, the file system a link table (`Lstat` says link +
what `EvalSymlinks` answers).  The model is tied to `utils.ResolveSymbolicLink` on real link trees by the check
`c12.symlink` (the table is read off the temp directory).  `Physical fs` is the one fact about the OS the theorems use:
`EvalSymlinks` returns a path none of whose prefixes is a symbolic link.
-/
namespace CV.Paths.Sym

/-- the result of the loop contains no symbolic link (every component was looked at: the bound
"once per component of the original path" is enough) -/
theorem resolve_symlinks_linkfree (fs : FS) (hph : Physical fs) (p r : P) (h : resolveSym fs p = .ok r) :
    LinkFree fs r :=
  resolveSym_linkFree fs hph p r h

/-- the loop is a projection on component lists (`idemOK_linktable` carries this to the `IdemOK.sym` of `resolve_idem`) -/
theorem resolve_symlinks_idem (fs : FS) (hph : Physical fs) (p r : P) (h : resolveSym fs p = .ok r) :
    resolveSym fs r = .ok r :=
  loop_of_linkFree fs r (resolve_symlinks_linkfree fs hph p r h) r.length

theorem resolve_symlinks_frame (fs : FS) (p : P) (h : LinkFree fs p) : resolveSym fs p = .ok p :=
  loop_of_linkFree fs p h p.length

/-- non-vacuity and the nested case: `a → b`, `b/c → d`; `a/c/x` becomes `d/x` in one call -/
example : resolveSym (ofTable [([['a']], some [['b']]), ([['b'], ['c']], some [['d']])]) [['a'], ['c'], ['x']]
    = .ok [['d'], ['x']] := by decide +kernel

/-- a link whose evaluation fails is an error, not a path -/
example : resolveSym (ofTable [([['l']], none)]) [['l'], ['x']] = .err := by decide +kernel

/-! ## the link-table model *inside* the resolver model — trees with symbolic links

`Sym.resolveStr fs` is `utils.ResolveSymbolicLink` on strings: a relative path is returned as it is (looking the
components of a relative first-stage result up from the working directory of the process is
`Neg.compose_failed_cwd_symlink`), an absolute path is resolved on its components by the loop.
`cfgOf fs W home` is the resolver configuration with `sym := resolveStr fs`. -/

/-- a relative path — what the first resolution stage of an included / extended file produces — is not looked up -/
theorem symlink_relative_untouched (fs : FS) (s : Str) (h : isAbs s = false) : resolveStr fs s = some s := by
  simp [resolveStr, h]

/-- on an absolute path the answer is absolute and a fixpoint (string level; `Physical`: `EvalSymlinks` answers physical
paths, `ProperFS`: its answers consist of proper components) -/
theorem symlink_abs_fixpoint (fs : FS) (hph : Physical fs) (hp : ProperFS fs) (s r : Str) (ha : isAbs s = true)
    (h : resolveStr fs s = some r) : isAbs r = true ∧ resolveStr fs r = some r :=
  (resolveStr_symOK fs hph hp).abs s r ha h

/-- **two-stage = one-stage for every tree, with symbolic links**, for any resolution `sym` that leaves relative paths
alone and sends an absolute path to an absolute fixpoint: resolving against the relative directory `R` and then against
`W` is resolving against `Join(W, R)` — same tree, same error (`resolve_compose_tree` is the case `sym = some`) -/
theorem resolve_compose_tree_sym (home : Option Str) (sym : Str → Option Str) (hs : SymOK sym) (W R : Str)
    (hW : W ≠ []) (hR : R ≠ []) (hRr : isAbs R = false) (hhome : ∀ h, home = some h → h ≠ []) (v v1 : Val)
    (h : resolve ⟨R, home, fun _ => false, sym⟩ v = .ok v1) :
    resolve ⟨W, home, fun _ => false, sym⟩ v1 = resolve ⟨join W R, home, fun _ => false, sym⟩ v :=
  walk_compose_of_stageOK (stageOK_join home _ sym W R hW hR hRr hs (fun _ => rfl)) _ _ v v1 h

/-- … in particular for the link-table model of `ResolveSymbolicLink`, any physical, proper link table -/
theorem resolve_compose_tree_symlinks (fs : FS) (hph : Physical fs) (hp : ProperFS fs) (home : Option Str) (W R : Str)
    (hW : W ≠ []) (hR : R ≠ []) (hRr : isAbs R = false) (hhome : ∀ h, home = some h → h ≠ []) (v v1 : Val)
    (h : resolve (cfgOf fs R home) v = .ok v1) :
    resolve (cfgOf fs W home) v1 = resolve (cfgOf fs (join W R) home) v :=
  resolve_compose_tree_sym home (resolveStr fs) (resolveStr_symOK fs hph hp) W R hW hR hRr hhome v v1 h

/-- the hypothesis `IdemOK` of `resolve_idem` holds for the link-table model: no assumption about `sym` is left -/
theorem idemOK_linktable (fs : FS) (hph : Physical fs) (hp : ProperFS fs) (W : Str) (home : Option Str)
    (hW : isAbs W = true) : IdemOK (cfgOf fs W home) :=
  idemOK_of_symOK W home _ _ (resolveStr_symOK fs hph hp) hW

/-- **resolving an already resolved model changes nothing — symbolic links included** (absolute base, any physical, proper link table) -/
theorem resolve_idem_symlinks (fs : FS) (hph : Physical fs) (hp : ProperFS fs) (W : Str) (home : Option Str)
    (hW : isAbs W = true) (v v' : Val) (h : resolve (cfgOf fs W home) v = .ok v') :
    resolve (cfgOf fs W home) v' = .ok v' :=
  walk_idem _ _ (idemOK_linktable fs hph hp W home hW) _ v v' h

/-- non-vacuity: the one-link table `/l → /t` (`oneLink`) is physical and proper -/
example : Physical oneLink ∧ ProperFS oneLink := by
  refine ⟨fun p t h => ?_, fun p t h c hc => ?_⟩
  · obtain ⟨_, rfl⟩ := oneLink_cases p t h
    intro k h1 h2
    have : k = 1 := by simp at h2; omega
    subst this
    decide
  · obtain ⟨_, rfl⟩ := oneLink_cases p t h
    simp only [List.mem_singleton] at hc
    subst hc
    exact ⟨⟨by decide, by decide, by decide⟩, by decide⟩

/-- `/l/x` is `/t/x`; the relative `l/x` (a first-stage result) is not touched -/
example : resolveStr oneLink ['/', 'l', '/', 'x'] = some ['/', 't', '/', 'x'] ∧
    resolveStr oneLink ['l', '/', 'x'] = some ['l', '/', 'x'] := by decide +kernel

end CV.Paths.Sym
