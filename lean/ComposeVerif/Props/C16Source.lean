import ComposeVerif.Gen.C16Source
import ComposeVerif.Gen.Dotenv
import ComposeVerif.Gen.Tables
/-!
# C16 — the modelled functions are the source (regenerated source facts)

`translator/c16.go` prints, on every run, the body (white space normalised) of every Go function that
`Model/EnvLayers.lean` and `Model/EnvLayersHeap.lean` mirror, every call site of the two Project methods and of the file
loaders outside tests (with the printed arguments: which option value reaches them), the statement of `Normalize` that
resolves `environment`, and the initial value of the env_file format registry.  The theorems below pin those texts:
**any edit to a modelled function breaks an obligation here**, whether or not a generated input tells the two versions
apart (e.g. hoisting the looked-up value of `MappingWithEquals.Resolve` out of its loop — every resolved key then
stores the address of one shared variable — or hoisting the accumulator of `WithServicesEnvironmentResolved` out of
the services loop).
-/
namespace CV.C16Src
open CV.Gen

/-- types/mapping.go: `OverrideBy` ↦ `overrideBy` (a `range` over the argument, `m[k] = v`), `Resolve` ↦ `resolveMWE` / `Heap.resolveH` (the looked-up value is declared **inside** the loop body: one fresh cell per key), `DecodeMapstructure` + `mappingValue` ↦ `decodeEnv`, `NewMappingWithEquals` ↦ `Item.pair`, `Mapping.ToMappingWithEquals` ↦ `toMWE` (`v := v`: one fresh cell per key), `Mapping.Resolve` ↦ `lookup · penv` -/
theorem mapping_go_is_modelled_source :

    c16_body_MWE_OverrideBy =
      "{ for k, v := range other { m[k] = v } return m }" ∧
    c16_body_MWE_Resolve =
      "{ for k, v := range m { if v == nil { if value, ok := lookupFn(k); ok { m[k] = &value } } } return m }" ∧
    c16_body_MWE_DecodeMapstructure =
      "{ switch v := value.(type) { case map[string]interface{}: mapping := make(MappingWithEquals, len(v)) for k, e := range v { mapping[k] = mappingValue(e) } *m = mapping case []interface{}: mapping := make(MappingWithEquals, len(v)) for _, s := range v { k, e, ok := strings.Cut(fmt.Sprint(s), \"=\") if !ok { mapping[k] = nil } else { mapping[k] = mappingValue(e) } } *m = mapping default: return fmt.Errorf(\"unexpected value type %T for mapping\", value) } return nil }" ∧
    c16_body_mappingValue =
      "{ if e == nil { return nil } switch v := e.(type) { case string: return &v default: s := fmt.Sprint(v) return &s } }" ∧
    c16_body_NewMappingWithEquals =
      "{ mapping := MappingWithEquals{} for _, env := range values { tokens := strings.SplitN(env, \"=\", 2) if len(tokens) > 1 { mapping[tokens[0]] = &tokens[1] } else { mapping[env] = nil } } return mapping }" ∧
    c16_body_Mapping_ToMappingWithEquals =
      "{ mapping := MappingWithEquals{} for k, v := range m { v := v mapping[k] = &v } return mapping }" ∧
    c16_body_Mapping_Resolve =
      "{ v, ok := m[s] return v, ok }" := by
  exact ⟨rfl, rfl, rfl, rfl, rfl, rfl, rfl⟩

/-- types/labels.go: `NewLabelsFromMappingWithEquals` ↦ `ofMWE`, `Labels.ToMappingWithEquals` ↦ `toMWE`, `Labels.DecodeMapstructure` + `labelValue` ↦ `decodeLabels` -/
theorem labels_go_is_modelled_source :

    c16_body_NewLabelsFromMappingWithEquals =
      "{ labels := Labels{} for k, v := range mapping { if v != nil { labels[k] = *v } } return labels }" ∧
    c16_body_Labels_ToMappingWithEquals =
      "{ mapping := MappingWithEquals{} for k, v := range l { v := v mapping[k] = &v } return mapping }" ∧
    c16_body_Labels_DecodeMapstructure =
      "{ switch v := value.(type) { case map[string]interface{}: labels := make(map[string]string, len(v)) for k, e := range v { labels[k] = labelValue(e) } *l = labels case []interface{}: labels := make(map[string]string, len(v)) for _, s := range v { k, e, _ := strings.Cut(fmt.Sprint(s), \"=\") labels[k] = labelValue(e) } *l = labels default: return fmt.Errorf(\"unexpected value type %T for labels\", value) } return nil }" ∧
    c16_body_labelValue =
      "{ if e == nil { return \"\" } switch v := e.(type) { case string: return v default: return fmt.Sprint(v) } }" := by
  exact ⟨rfl, rfl, rfl, rfl⟩

/-- types/project.go: the two Project methods ↦ `resolveServiceEnv` / `resolveServiceLabels` inside `mapServices` (accumulator and `resolve` closure declared **inside** the services loop; lookup order of the closure ↦ `envChain` / `labelChain`), `fileIsMissing` ↦ `Missing`, `loadEnvFile`, `loadLabelFile`, `loadMappingFile` ↦ the functions of the same name; and the only callers of the three loaders -/
theorem project_go_is_modelled_source :

    c16_body_WithServicesEnvironmentResolved =
      "{ newProject := p.deepCopy() for i, service := range newProject.Services { service.Environment = service.Environment.Resolve(newProject.Environment.Resolve) environment := MappingWithEquals{} // resolve variables based on other files we already parsed, + project's environment var resolve dotenv.LookupFn = func(s string) (string, bool) { v, ok := environment[s] if ok && v != nil { return *v, ok } return newProject.Environment.Resolve(s) } for _, envFile := range service.EnvFiles { vars, err := loadEnvFile(envFile, resolve) if err != nil { return nil, err } environment.OverrideBy(vars.ToMappingWithEquals()) } service.Environment = environment.OverrideBy(service.Environment) if discardEnvFiles { service.EnvFiles = nil } newProject.Services[i] = service } return newProject, nil }" ∧
    c16_body_WithServicesLabelsResolved =
      "{ newProject := p.deepCopy() for i, service := range newProject.Services { labels := MappingWithEquals{} // resolve variables based on other files we already parsed var resolve dotenv.LookupFn = func(s string) (string, bool) { v, ok := labels[s] if ok && v != nil { return *v, ok } return \"\", false } for _, labelFile := range service.LabelFiles { vars, err := loadLabelFile(labelFile, resolve) if err != nil { return nil, err } labels.OverrideBy(vars.ToMappingWithEquals()) } labels = labels.OverrideBy(service.Labels.ToMappingWithEquals()) if len(labels) == 0 { labels = nil } else { service.Labels = NewLabelsFromMappingWithEquals(labels) } if discardLabelFiles { service.LabelFiles = nil } newProject.Services[i] = service } return newProject, nil }" ∧
    c16_body_fileIsMissing =
      "{ return errors.Is(err, fs.ErrNotExist) || errors.Is(err, syscall.ENOTDIR) }" ∧
    c16_body_loadEnvFile =
      "{ if _, err := os.Stat(envFile.Path); fileIsMissing(err) { if envFile.Required { return nil, fmt.Errorf(\"env file %s not found: %w\", envFile.Path, err) } return nil, nil } return loadMappingFile(envFile.Path, envFile.Format, resolve) }" ∧
    c16_body_loadLabelFile =
      "{ if _, err := os.Stat(labelFile); fileIsMissing(err) { return nil, fmt.Errorf(\"label file %s not found: %w\", labelFile, err) } return loadMappingFile(labelFile, \"\", resolve) }" ∧
    c16_body_loadMappingFile =
      "{ file, err := os.Open(path) if err != nil { return nil, err } defer file.Close() var fileVars map[string]string if format != \"\" { fileVars, err = dotenv.ParseWithFormat(file, path, resolve, format) } else { fileVars, err = dotenv.ParseWithLookup(file, resolve) } if err != nil { return nil, err } return fileVars, nil }" ∧
    c16_calls_loadFile =
      ["types/project.go:WithServicesEnvironmentResolved:loadEnvFile(envFile, resolve)", "types/project.go:WithServicesLabelsResolved:loadLabelFile(labelFile, resolve)", "types/project.go:loadEnvFile:loadMappingFile(envFile.Path, envFile.Format, resolve)", "types/project.go:loadLabelFile:loadMappingFile(labelFile, \"\", resolve)"] := by
  exact ⟨rfl, rfl, rfl, rfl, rfl, rfl, rfl⟩

/-- every call of the two Project methods outside tests and the option value that reaches it: `modelToProject` ↦ `loadProject` (`cfg.discard` for both, environment first and only without `SkipResolveEnvironment`), `WithServicesEnabled` ↦ `withServicesEnabled` (constant `true`; nothing when no name is given); `WithDiscardEnvFiles` is the only writer of the option and `Options.clone` (include / extends) copies it -/
theorem call_sites_are_modelled :

    c16_calls_envResolved =
      ["loader/loader.go:modelToProject:project.WithServicesEnvironmentResolved(opts.discardEnvFiles)", "types/project.go:WithServicesEnabled:newProject.WithServicesEnvironmentResolved(true)"] ∧
    c16_calls_labelsResolved =
      ["loader/loader.go:modelToProject:project.WithServicesLabelsResolved(opts.discardEnvFiles)"] ∧
    c16_body_WithServicesEnabled =
      "{ newProject := p.deepCopy() if len(names) == 0 { return newProject, nil } profiles := append([]string{}, p.Profiles...) for _, name := range names { if _, ok := newProject.Services[name]; ok { continue } service := p.DisabledServices[name] profiles = append(profiles, service.Profiles...) } newProject, err := newProject.WithProfiles(profiles) if err != nil { return newProject, err } return newProject.WithServicesEnvironmentResolved(true) }" ∧
    c16_modelToProject_env =
      "if !opts.SkipResolveEnvironment { project, err = project.WithServicesEnvironmentResolved(opts.discardEnvFiles) if err != nil { return nil, err } }" ∧
    c16_modelToProject_calls =
      ["delete", "processExtensions", "tree.NewPath", "Transform", "convertVolumePath", "project.WithProfiles", "checkConsistency", "project.WithServicesEnvironmentResolved", "project.WithServicesLabelsResolved"] ∧
    c16_body_WithDiscardEnvFiles =
      "{ opts.discardEnvFiles = true }" ∧
    c16_calls_optionsClone =
      ["loader/extends.go:getExtendsBaseFromFile:opts.clone()", "loader/include.go:ApplyInclude:options.clone()"] := by
  exact ⟨rfl, rfl, rfl, rfl, rfl, rfl, rfl⟩

/-- loader/environment.go `resolveServicesEnvironment` ↦ `resolveSeqItem` / `resolveSeqEnv` (the whole element text is looked up), loader/normalize.go `resolve` ↦ `normalizeItem` / `normalizePair` / `normalizeEnv`, called with `keepEmpty = true` for `environment`; and the callers of the stage -/
theorem loader_env_stage_is_modelled_source :

    c16_body_ResolveEnvironment =
      "{ resolveServicesEnvironment(dict, environment) resolveSecretsEnvironment(dict, environment) resolveConfigsEnvironment(dict, environment) }" ∧
    c16_body_resolveServicesEnvironment =
      "{ services, ok := dict[\"services\"].(map[string]any) if !ok { return } for service, cfg := range services { serviceConfig, ok := cfg.(map[string]any) if !ok { continue } serviceEnv, ok := serviceConfig[\"environment\"].([]any) if !ok { continue } envs := []any{} for _, env := range serviceEnv { varEnv, ok := env.(string) if !ok { continue } if found, ok := environment[varEnv]; ok { envs = append(envs, fmt.Sprintf(\"%s=%s\", varEnv, found)) } else { envs = append(envs, varEnv) } } serviceConfig[\"environment\"] = envs services[service] = serviceConfig } dict[\"services\"] = services }" ∧
    c16_body_normalize_resolve =
      "{ switch v := a.(type) { case []any: var resolved []any for _, val := range v { if r, ok := resolve(val, fn, keepEmpty); ok { resolved = append(resolved, r) } } return resolved, true case map[string]any: resolved := map[string]any{} for key, val := range v { if val != nil { resolved[key] = val continue } if s, ok := fn(key); ok { resolved[key] = s } else if keepEmpty { resolved[key] = nil } } return resolved, true case string: if !strings.Contains(v, \"=\") { if val, ok := fn(v); ok { return fmt.Sprintf(\"%s=%s\", v, val), true } if keepEmpty { return v, true } return \"\", false } return v, true default: return v, false } }" ∧
    c16_normalize_environment =
      "if e, ok := service[\"environment\"]; ok { service[\"environment\"], _ = resolve(e, fn, true) }" ∧
    c16_calls_resolveEnvironment =
      ["loader/loader.go:loadYamlModel:ResolveEnvironment(dict, config.Environment)", "loader/environment.go:ResolveEnvironment:resolveServicesEnvironment(dict, environment)", "loader/loader.go:loadYamlModel:resolveServicesEnvironment(dict, config.Environment)"] := by
  exact ⟨rfl, rfl, rfl, rfl, rfl⟩

/-- dotenv/format.go `ParseWithFormat` ↦ `parseWithFormat`, the registry starts empty (`DefaultFormats`); dotenv/parser.go `expandVariables` ↦ `withFile` (caller's lookup first, then the lines parsed so far), `ParseWithLookup` ↦ `parseLines` (through C18's model) -/
theorem dotenv_lookup_chain_is_modelled_source :

    c16_body_ParseWithFormat =
      "{ parser, ok := formats[format] if !ok { return nil, fmt.Errorf(\"unsupported env_file format %q\", format) } return parser(r, filename, resolve) }" ∧
    c16_body_RegisterFormat =
      "{ formats[format] = p }" ∧
    c16_formats_init =
      "map[string]Parser{}" ∧
    dotenv_body_expandVariables =
      "{ retVal, err := template.Substitute(value, func(k string) (string, bool) { if v, ok := lookupFn(k); ok { return v, true } v, ok := envMap[k] return v, ok }) if err != nil { return value, err } return retVal, nil }" ∧
    dotenv_body_ParseWithLookup =
      "{ data, err := io.ReadAll(r) if err != nil { return nil, err } data = bytes.TrimPrefix(data, utf8BOM) return UnmarshalBytesWithLookup(data, lookupFn) }" ∧
    dotenv_body_UnmarshalWithLookup =
      "{ out := make(map[string]string) err := newParser().parse(src, out, lookupFn) return out, err }" := by
  exact ⟨rfl, rfl, rfl, rfl, rfl, rfl⟩

/-- The **second call site**: cli/options.go `WithoutEnvironmentResolution` only sets `SkipResolveEnvironment`
(the caller resolves later with `project.WithServicesEnvironmentResolved`: `loadThenResolve`); **layers written in two
places** (override file, `extends` base + own entries): override/merge.go `mergeToSequence` appends the overriding list
*after* the base list for `services.*.env_file` and `services.*.label_file` (so "env_file entries in order" continues
across the two places — what the `extends-split` layout of `c16.load` / the oracle measures), and both kinds of
reference are made absolute against the directory of the file they are written in (`relocation_env/labels`). -/
theorem second_site_and_layouts_are_modelled_source :
    c16_body_WithoutEnvironmentResolution =
      "{ o.loadOptions = append(o.loadOptions, func(options *loader.Options) { options.SkipResolveEnvironment = true }) return nil }" ∧
    c16_body_mergeToSequence =
      "{ right := convertIntoSequence(c) left := convertIntoSequence(o) return append(right, left...), nil }" ∧
    (["services", "*", "env_file"], "mergeToSequence") ∈ CV.Gen.mergeSpecials ∧
    (["services", "*", "label_file"], "mergeToSequence") ∈ CV.Gen.mergeSpecials ∧
    (["services", "*", "env_file", "*", "path"], "absPath") ∈ CV.Gen.resolvers ∧
    (["services", "*", "label_file", "*"], "absPath") ∈ CV.Gen.resolvers := by
  refine ⟨rfl, rfl, ?_⟩
  decide +kernel

/-- **the rows of `override.unique` that concern this property** (`Gen.unique`: the effective table after
`init()`).  `services.*.env_file` is de-duplicated with `envFileIndexer` (what `uniqBy` / `enforceUnicityFiles` of
`Model/EnvLayersUnicity.lean` model: first position, last entry — the recorded finding
`repeated-path-first-position:env_file`), `services.*.environment` and `services.*.labels` with `keyValueIndexer`
(`decodeLabels`), and **no row at all speaks about `label_file`**: a label_file list reaches `WithServicesLabelsResolved`
in its written order, repeated paths included. -/
theorem unicity_rows_are_modelled_source :
    (CV.Gen.unique.filter fun r => r.1 == ["services", "*", "env_file"] || r.1 == ["services", "*", "environment"] ||
        r.1 == ["services", "*", "labels"] || r.1.contains "label_file" || r.1.contains "env_file") =
      [(["services", "*", "environment"], "keyValueIndexer"), (["services", "*", "env_file"], "envFileIndexer"),
       (["services", "*", "labels"], "keyValueIndexer")] := by
  decide +kernel

end CV.C16Src
