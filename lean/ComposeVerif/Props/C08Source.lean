import ComposeVerif.Gen.C08Facts
/-!
# C08 — the functions the models were written against are the ones in the source now

Printed bodies (comments dropped, white space normalised) of every Go function `Model/Interp.lean`,
`Model/InterpTyped.lean` and `Model/InterpCustom.lean` mirror, regenerated by `translator/c08.go` on every run.  An edit
to any of them breaks this theorem — in addition to whatever the correspondence and the oracle find — and sends the
reader back to the model.
-/
namespace CV.Interp

theorem modelled_functions_are_source :
    CV.Gen.c08_body_Interpolate =
      "{ if opts.LookupValue == nil { opts.LookupValue = os.LookupEnv } if opts.TypeCastMapping == nil { opts.TypeCastMapping = make(map[tree.Path]Cast) } if opts.Substitute == nil { opts.Substitute = template.Substitute } out := map[string]interface{}{} for key, value := range config { interpolatedValue, err := recursiveInterpolate(value, tree.NewPath(key), opts) if err != nil { return out, err } out[key] = interpolatedValue } return out, nil }" ∧
    CV.Gen.c08_body_recursiveInterpolate =
      "{ switch value := value.(type) { case string: newValue, err := opts.Substitute(value, template.Mapping(opts.LookupValue)) if err != nil { return value, newPathError(path, err) } caster, ok := opts.getCasterForPath(path) if !ok { return newValue, nil } casted, err := caster(newValue) if err != nil { return casted, newPathError(path, fmt.Errorf(\"failed to cast to expected type: %w\", err)) } return casted, nil case map[string]interface{}: out := map[string]interface{}{} for key, elem := range value { interpolatedElem, err := recursiveInterpolate(elem, path.Next(key), opts) if err != nil { return nil, err } out[key] = interpolatedElem } return out, nil case []interface{}: out := make([]interface{}, len(value)) for i, elem := range value { interpolatedElem, err := recursiveInterpolate(elem, path.Next(tree.PathMatchList), opts) if err != nil { return nil, err } out[i] = interpolatedElem } return out, nil default: return value, nil } }" ∧
    CV.Gen.c08_body_newPathError =
      "{ var ite *template.InvalidTemplateError switch { case err == nil: return nil case errors.As(err, &ite): return fmt.Errorf( \"invalid interpolation format for %s.\\nYou may need to escape any $ with another $.\\n%s\", path, ite.Template) default: return fmt.Errorf(\"error while interpolating %s: %w\", path, err) } }" ∧
    CV.Gen.c08_body_getCasterForPath =
      "{ for pattern, caster := range o.TypeCastMapping { if path.Matches(pattern) { return caster, true } } return nil, false }" ∧
    CV.Gen.c08_body_parseYAMLInt =
      "{ plain := strings.ReplaceAll(value, \"_\", \"\") if i, err := strconv.ParseInt(plain, 0, 64); err == nil { return i, true } switch { case strings.HasPrefix(plain, \"0b\"): if i, err := strconv.ParseInt(plain[2:], 2, 64); err == nil { return i, true } case strings.HasPrefix(plain, \"-0b\"): if i, err := strconv.ParseInt(\"-\"+plain[3:], 2, 64); err == nil { return i, true } case strings.HasPrefix(plain, \"0o\"): if i, err := strconv.ParseInt(plain[2:], 8, 64); err == nil { return i, true } case strings.HasPrefix(plain, \"-0o\"): if i, err := strconv.ParseInt(\"-\"+plain[3:], 8, 64); err == nil { return i, true } } if i, err := strconv.ParseInt(plain, 10, 64); err == nil { return i, true } return 0, false }" ∧
    CV.Gen.c08_body_parseYAMLFloat =
      "{ if i, ok := ParseYAMLInt(value); ok { return float64(i), nil } plain := strings.ReplaceAll(value, \"_\", \"\") if u, err := strconv.ParseUint(plain, 0, 64); err == nil { return float64(u), nil } if f, err := strconv.ParseFloat(plain, bitSize); err == nil { return f, nil } return strconv.ParseFloat(value, bitSize) }" ∧
    CV.Gen.c08_body_toInt =
      "{ if i, ok := utils.ParseYAMLInt(value); ok && int64(int(i)) == i { return int(i), nil } return strconv.Atoi(value) }" ∧
    CV.Gen.c08_body_toInt64 =
      "{ if i, ok := utils.ParseYAMLInt(value); ok { return i, nil } return strconv.ParseInt(value, 10, 64) }" ∧
    CV.Gen.c08_body_toFloat =
      "{ return utils.ParseYAMLFloat(value, 64) }" ∧
    CV.Gen.c08_body_toFloat32 =
      "{ f, err := utils.ParseYAMLFloat(value, 32) if err != nil { return nil, err } return float32(f), nil }" ∧
    CV.Gen.c08_body_toBoolean =
      "{ switch strings.ToLower(value) { case \"true\": return true, nil case \"false\": return false, nil case \"y\", \"yes\", \"on\": logrus.Warnf(\"%q for boolean is not supported by YAML 1.2, please use `true`\", value) return true, nil case \"n\", \"no\", \"off\": logrus.Warnf(\"%q for boolean is not supported by YAML 1.2, please use `false`\", value) return false, nil default: return nil, fmt.Errorf(\"invalid boolean: %s\", value) } }" ∧
    CV.Gen.c08_body_cast =
      "{ switch from.Type().Kind() { case reflect.String: switch to.Kind() { case reflect.Bool: return toBoolean(from.String()) case reflect.Int: return toInt(from.String()) case reflect.Int64: return toInt64(from.String()) case reflect.Float32: return toFloat32(from.String()) case reflect.Float64: return toFloat(from.String()) } case reflect.Int: if to.Kind() == reflect.String { return strconv.FormatInt(from.Int(), 10), nil } } return from.Interface(), nil }" ∧
    CV.Gen.c08_body_DeviceCount_DecodeMapstructure =
      "{ switch v := value.(type) { case int: *c = DeviceCount(v) case string: if strings.ToLower(v) == \"all\" { *c = -1 return nil } i, err := strconv.ParseInt(v, 10, 64) if err != nil { return fmt.Errorf(\"invalid value %q, the only value allowed is 'all' or a number\", v) } *c = DeviceCount(i) default: return fmt.Errorf(\"invalid type %T for device count\", v) } return nil }" ∧
    CV.Gen.c08_body_NanoCPUs_DecodeMapstructure =
      "{ switch v := a.(type) { case string: f, err := utils.ParseYAMLFloat(v, 64) if err != nil { return err } *n = NanoCPUs(f) case int: *n = NanoCPUs(v) case float32: *n = NanoCPUs(v) case float64: *n = NanoCPUs(v) default: return fmt.Errorf(\"unexpected value type %T for cpus\", v) } return nil }" ∧
    CV.Gen.c08_body_UnitBytes_DecodeMapstructure =
      "{ switch v := value.(type) { case int: *u = UnitBytes(v) case string: if i, err := strconv.ParseInt(v, 10, 64); err == nil { *u = UnitBytes(i) return nil } b, err := units.RAMInBytes(fmt.Sprint(value)) *u = UnitBytes(b) return err } return nil }" :=
  ⟨rfl, rfl, rfl, rfl, rfl, rfl, rfl, rfl, rfl, rfl, rfl, rfl, rfl, rfl, rfl⟩

/-- **where the loader builds interpolation options and where it interpolates** (regenerated from
    loader/loader.go, loader/include.go, loader/extends.go): the only two `interp.Options{…}` literals — the default of
    `toOptions` and the per-file set `ApplyInclude` builds for an included file — both carry `Substitute`, `LookupValue`
    *and* `TypeCastMapping` (an included file is interpolated with the cast table of the including load); the only calls of
    `interp.Interpolate` are the document step of `loadYamlFile` (`Spec/InterpTree.lean: interpolateStage`) and the
    project-name step, both under `!opts.SkipInterpolation`, and no call is outside such a guard -/
theorem interpolation_option_sites :
    CV.Gen.c08_optionLiterals = ["loader/loader.go:toOptions: Substitute=template.Substitute, LookupValue=configDetails.LookupEnv, TypeCastMapping=interpolateTypeCastMapping", "loader/include.go:ApplyInclude: Substitute=options.Interpolate.Substitute, LookupValue=config.LookupEnv, TypeCastMapping=options.Interpolate.TypeCastMapping"] ∧
    CV.Gen.c08_interpolateGuards = ["loader/loader.go:loadYamlFile: opts.Interpolate != nil && !opts.SkipInterpolation", "loader/loader.go:projectName: !opts.SkipInterpolation"] ∧
    CV.Gen.c08_unguardedInterpolate = [] := ⟨rfl, rfl, rfl⟩

/-- **where the flag `SkipInterpolation` enters** (regenerated from every non-test file of loader/ and cli/): it is
    set by the CLI option, copied by `Options.clone()`, and *read* in exactly three places — the guard of the document step
    of `loadYamlFile` (`Pipeline.interpStage`), the `ignoreParseError` argument of `transform.Canonical` in the same
    function (`Pipeline.mergeStages`; `Props/C08Whole.load_eq_loadG` makes this second use a parameter) and the guard of the
    project-name step.  A further reader (a stage that starts to depend on the flag) breaks this pin. -/
theorem skipInterpolation_uses :
    CV.Gen.c08_skipInterpolationUses = ["cli/options.go:WithInterpolation: options.SkipInterpolation = !interpolation", "loader/loader.go:clone: SkipInterpolation: o.SkipInterpolation", "loader/loader.go:loadYamlFile: if opts.Interpolate != nil && !opts.SkipInterpolation", "loader/loader.go:loadYamlFile: transform.Canonical(dict, opts.SkipInterpolation)", "loader/loader.go:projectName: if !opts.SkipInterpolation"] := rfl

/-- the casters go through the modelled parsers (`utils.ParseYAMLInt` / `utils.ParseYAMLFloat`, utils/stringutils.go) -/
theorem casters_are_modelled :
    CV.Gen.c08_casterCalls = [
      ("toInt", ["int", "int64", "strconv.Atoi", "utils.ParseYAMLInt"]),
      ("toInt64", ["strconv.ParseInt", "utils.ParseYAMLInt"]),
      ("toFloat", ["utils.ParseYAMLFloat"]),
      ("toFloat32", ["float32", "utils.ParseYAMLFloat"]),
      ("toBoolean", ["fmt.Errorf", "logrus.Warnf", "strings.ToLower"])] := rfl

/-- the per-file option sets (files reached through `extends` / `include`) inherit the interpolation switch and the
    interpolation options -/
theorem clone_keeps_interpolation :
    "SkipInterpolation=o.SkipInterpolation" ∈ CV.Gen.c08_cloneCopies ∧ "Interpolate=o.Interpolate" ∈ CV.Gen.c08_cloneCopies := by
  simp [CV.Gen.c08_cloneCopies]

end CV.Interp
