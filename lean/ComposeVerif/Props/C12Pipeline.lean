import ComposeVerif.Lemmas.Pipeline
import ComposeVerif.Props.C12Whole
/-!
# C12 — the clause about the composed pipeline (`Model/Pipeline.lean`: `Pipeline.load`, `Pipeline.loadY`)

The composed model runs the stage models in the loader's order; C12 owns `pathsStage`
(`if opts.ResolvePaths { paths.ResolveRelativePaths(dict, config.WorkingDir, remotes) }`), which sits between
`validateStage` and `ResolveEnvironment`.  `PathsClause c r`, proved of every successful `Pipeline.load` / `Pipeline.loadY`,
speaks about the model `m` that is handed to `ResolveEnvironment` and `Normalize`: with resolution on, `m` is the
resolution of some model `d`, differs from it only below nodes of the resolver table and is a fixpoint of the resolution.
The proof takes for `d` the model that leaves `validateStage` (`model_ok`); the statement binds `d` existentially and does
not say so. -/
namespace CV.Pipeline
open CV CV.Paths

theorem pathsStage_is_resolve (c : Cfg) (d r : Val) (h : pathsStage c d = .ok r) :
    (c.opts.resolvePaths = true ∧ Paths.resolve c.paths d = .ok r) ∨ (c.opts.resolvePaths = false ∧ r = d) := by
  unfold pathsStage at h
  cases hp : c.opts.resolvePaths with
  | true =>
    simp only [hp, if_true] at h
    cases hr : Paths.resolve c.paths d with
    | ok a => simp only [hr, ofPaths, Out.ok.injEq] at h; exact .inl ⟨rfl, by rw [h]⟩
    | err e => simp [hr, ofPaths] at h
    | panic s => simp [hr, ofPaths] at h
  | false =>
    simp only [hp, Bool.false_eq_true, if_false, Out.ok.injEq] at h
    exact .inr ⟨rfl, h.symm⟩

theorem pathsStage_never_panics (c : Cfg) (d : Val) (s : String) : pathsStage c d ≠ .panic s := by
  unfold pathsStage
  split
  · exact PanicsIn.ofPaths (S := fun _ => False) (Paths.resolve_never_panics _ _) s
  · nofun

/-- the conclusion of the C12 clause about a successful load that produced `r` -/
def PathsClause (c : Cfg) (r : Val.KVs) : Prop :=
  ∃ (d : Val) (m : Val.KVs),
    -- `m` leaves the path stage and `r` is the rest of the pipeline on it
    finishLoad c (resolveEnvironment c.env m) = .ok r ∧
    (c.opts.resolvePaths = true →
      Paths.resolve c.paths d = .ok (.map m) ∧
      Frame CV.Gen.resolvers TPath.root d (.map m) ∧
      (IdemOK c.paths → Paths.resolve c.paths (.map m) = .ok (.map m))) ∧
    (c.opts.resolvePaths = false → d = .map m)

theorem clause_of_finishModel (c : Cfg) {x : Out Val} (k r : Val.KVs) (h : x.bind (finishModel c) = .ok k)
    (hf : finishLoad c k = .ok r) : PathsClause c r := by
  obtain ⟨_, d0, d, m, _, _, _, hp, rfl⟩ := model_ok h
  refine ⟨d, m, hf, ?_, ?_⟩
  · intro hon
    rcases pathsStage_is_resolve c d _ hp with ⟨_, hr⟩ | ⟨hoff, _⟩
    · exact ⟨hr, Paths.frame c.paths d _ hr, fun hok => Paths.resolve_idem c.paths hok d _ hr⟩
    · rw [hon] at hoff; cases hoff
  · intro hoff
    rcases pathsStage_is_resolve c d _ hp with ⟨hon, _⟩ | ⟨_, he⟩
    · rw [hoff] at hon; cases hon
    · exact he.symm

/-- **C12 about `Pipeline.load`** (documents) -/
theorem load_paths_clause (c : Cfg) (docs : List Val.KVs) (r : Val.KVs) (h : load c docs = .ok r) : PathsClause c r := by
  obtain ⟨k, hk, hf⟩ := load_ok c docs r h
  exact clause_of_finishModel c k r hk hf

/-- **C12 about `Pipeline.loadY`** (files given as YAML text, `!reset` / `!override` included) -/
theorem loadY_paths_clause (c : Cfg) (files : List (List Reset.YNode)) (r : Val.KVs) (h : loadY c files = .ok r) :
    PathsClause c r := by
  obtain ⟨k, hk, hf⟩ := loadY_ok c files r h
  exact clause_of_finishModel c k r hk hf

/-- **C12's first sentence about `Pipeline.load`**: a successful load with path resolution and an absolute project
directory hands on a model in which every string at a row of `absPath` / `absContextPath` / `maybeUnixPath` is absolute
or exempt (`PathOK`), and every row node is an output of its resolver -/
theorem load_rows_abs_or_exempt (c : Cfg) (docs : List Val.KVs) (r : Val.KVs) (h : load c docs = .ok r)
    (hon : c.opts.resolvePaths = true) (hwd : isAbs c.paths.wd = true) :
    ∃ m, finishLoad c (resolveEnvironment c.env m) = .ok r ∧
      RowsAre CV.Gen.resolvers (ImageOf c.paths) TPath.root (.map m) ∧
      RowsAre CV.Gen.resolvers PathOK TPath.root (.map m) := by
  obtain ⟨d, m, hf, hon', _⟩ := load_paths_clause c docs r h
  exact ⟨m, hf, Paths.resolve_rows_are_resolved c.paths d _ (hon' hon).1,
    Paths.resolve_rows_abs_or_exempt c.paths hwd d _ (hon' hon).1⟩

/-- with `SkipNormalization` the loaded model itself is (environment resolution of) the fixpoint: read off `PathsClause` -/
theorem load_result_is_resolved (c : Cfg) (docs : List Val.KVs) (r : Val.KVs) (h : load c docs = .ok r)
    (hn : c.opts.skipNormalization = true) (hon : c.opts.resolvePaths = true) (hok : IdemOK c.paths) :
    ∃ m, r = resolveEnvironment c.env m ∧ Paths.resolve c.paths (.map m) = .ok (.map m) := by
  obtain ⟨d, m, hf, hon', _⟩ := load_paths_clause c docs r h
  have h2 := (finishLoad_ok c _ r hf).2
  rw [if_pos hn] at h2
  exact ⟨m, h2, (hon' hon).2.2 hok⟩

end CV.Pipeline
