import ComposeVerif.Props.C05
/-!
# C05 — cycle detection: soundness and completeness of the error `Circular reference`

"a cyclic chain is an error" — and only a cyclic one is *that* error.  Both directions, for chains of any length within
and across files, for every visit order (the tracker is a list of `(file, service)` keys threaded through the
recursion; memoisation rewrites the services map while the loop runs).
-/
namespace CV.Extends
open CV CV.Val

/-- **soundness**: if `ApplyExtends` reports `circular`, some service's chain really runs into a cycle — the tracker
never reports a cycle that is not there, even in documents that have other defects, in every visit order.
(`NoCircularEnv`: the class `circular` is the tracker's own — the merge step and the nested loads have no such error;
`hmain` as in `acyclic_ok`.) -/
theorem circular_sound {E : Env} (hE : NoCircularEnv E) {order : List String} {dict S : KVs}
    (hS : lookup "services" dict = some (.map S)) (hnn : NoNull S) (hfs : NoNullFS E)
    (hmain : fileServices E.fs E.mainFile = none) (hord : Visits order S)
    (h : applyExtendsOrd E order dict = .err "circular") :
    ∃ n, n ∈ order ∧ Cyclic E (S, n) := by
  rw [applyExtendsOrd_eq hS] at h
  split at h <;> cases h
  exact applyAll_circular_sound E hE hfs hmain _ order S hnn (fun m hm => (hord m).mp hm) ‹_›

/-- **completeness, with the class**: in a document whose services each either flatten or run into a cycle (no missing
base, no unreadable file, no failing merge), the presence of one cyclic chain makes `ApplyExtends` fail with exactly
`circular`, in every visit order — whichever service the loop happens to visit first. -/
theorem cycle_is_circular {E : Env} (hE : FuelFree E) {order : List String} {dict S : KVs}
    (hS : lookup "services" dict = some (.map S))
    (hmain : fileServices E.fs E.mainFile = none) (hord : Visits order S)
    (hall : ∀ n, lookup n S ≠ none → (∃ v, Flat E S n v) ∨ Cyclic E (S, n))
    (hc : ∃ n, lookup n S ≠ none ∧ Cyclic E (S, n)) :
    applyExtendsOrd E order dict = .err "circular" := by
  obtain ⟨n, hn, hcn⟩ := hc
  have := applyAll_cyclic E hE hmain S order S (Inv.refl E S)
    (fun m hm => hall m ((hord m).mp hm)) ⟨n, (hord n).mpr hn, hcn⟩
  rw [applyExtendsOrd_eq hS, this]

/-- **`circular` ⇔ cyclic**, for documents whose only possible defect is a cycle: the error is reported exactly when a
cyclic chain exists, independently of the visit order -/
theorem circular_iff_cyclic {E : Env} (hE : FuelFree E) {order : List String} {dict S : KVs}
    (hS : lookup "services" dict = some (.map S))
    (hmain : fileServices E.fs E.mainFile = none) (hord : Visits order S)
    (hall : ∀ n, lookup n S ≠ none → (∃ v, Flat E S n v) ∨ Cyclic E (S, n)) :
    applyExtendsOrd E order dict = .err "circular" ↔ ∃ n, lookup n S ≠ none ∧ Cyclic E (S, n) := by
  constructor
  · intro h
    apply Classical.byContradiction
    intro hno
    have hflat : ∀ n, lookup n S ≠ none → ∃ v, Flat E S n v := fun n hn => by
      rcases hall n hn with hf | hc
      · exact hf
      · exact absurd ⟨n, hn, hc⟩ hno
    obtain ⟨out, hout⟩ := acyclic_ok hS hord hmain hflat
    rw [hout] at h; cases h
  · exact cycle_is_circular hE hS hmain hord hall

/-- = `applySvc_cyclic`, the per-service form: resolving a service whose chain runs into a cycle reports `circular` — at any
depth of the recursion, whatever the tracker already holds and whatever has been memoised so far — unless the fuel runs out -/
theorem cyclic_service_circular (E : Env) (fuel : Nat) (cf n : String) (cur orig : KVs) (tr : List Key)
    (hi : Inv E orig cur) (hc : Cyclic E (orig, n)) :
    applySvc E fuel cf n cur tr = .err "circular" ∨ applySvc E fuel cf n cur tr = .panic fuelMark :=
  applySvc_cyclic E fuel cf n cur tr orig hi hc

/-- the specification side of the cycle oracle: on a cyclic service the executable flatten specification answers
`chain-too-long` for every bound, and never a value — so the services the `c05.apply` oracle counts as cyclic include
every cyclic one, and the ones it counts as flattening are exactly the `Flat` ones (`flattenF_iff_flat`) -/
theorem cyclic_flattenF_too_long (E : Env) (fuel : Nat) (S : KVs) (n : String) (hc : Cyclic E (S, n)) :
    flattenF E fuel S n = .err "flatten:chain-too-long" := by
  induction fuel generalizing S n with
  | zero => simp [flattenF]
  | succ fuel ih =>
    obtain ⟨⟨S', ref⟩, l, hcb⟩ := hc.link
    obtain ⟨svc, file, hx⟩ := l.ext
    rw [flattenF_of_ext hx, ih S' ref hcb]

/-- **`Cyclic` is decidable by following the links**: with more fuel than there are tracker keys, the link walk
`walkChain` (no merge, no tracker, no memo) is still going exactly when the chain runs into a cycle — the tracker's
pigeonhole over the keys of the nodes passed (`hmain`: a key met again is a node met again).  The driver evaluates
`walkChain` for every service of every `c05.apply` case; this is the classification the cycle oracle compares the real
outcome with. -/
theorem walkChain_long_iff_cyclic (E : Env) (hmain : fileServices E.fs E.mainFile = none) (S : KVs) (n : String)
    (fuel : Nat) (hfuel : (keyUniverse E S).length + 1 ≤ fuel) :
    walkChain E fuel S n = .long ↔ Cyclic E (S, n) :=
  ⟨walkChain_long_keys E hmain S fuel E.mainFile S n [] (.inl ⟨rfl, rfl⟩) (List.mem_cons_self ..) (KeysSub.self E S)
      (.nil hfuel) (TrOK.nil E S (S, n)),
    walkChain_cyclic E fuel S n⟩

/-- **the three outcomes of the link walk**, for a service of the main mapping and fuel beyond the number of tracker
keys: `leaf` ⇔ the service has a (finite) chain to a base without `extends`; `long` ⇔ its chain runs into a cycle;
`stuck` ⇔ neither — some link cannot be followed (missing base, missing / unreadable file, malformed reference, a
service that is not a mapping).  A chain, a cycle and a broken link exclude one another. -/
theorem walkChain_trichotomy (E : Env) (hmain : fileServices E.fs E.mainFile = none) (S : KVs) (n : String)
    (fuel : Nat) (hfuel : (keyUniverse E S).length + 1 ≤ fuel) :
    (walkChain E fuel S n = .leaf ↔ ∃ links leaf, Chain E E.mainFile S n links leaf) ∧
    (walkChain E fuel S n = .long ↔ Cyclic E (S, n)) ∧
    (walkChain E fuel S n = .stuck ↔ (¬ ∃ links leaf, Chain E E.mainFile S n links leaf) ∧ ¬ Cyclic E (S, n)) := by
  have hlong := walkChain_long_iff_cyclic E hmain S n fuel hfuel
  have hleaf : walkChain E fuel S n = .leaf ↔ ∃ links leaf, Chain E E.mainFile S n links leaf := by
    constructor
    · intro h
      obtain ⟨links, leaf, hc, _⟩ := walkChain_leaf_chain E fuel E.mainFile S n h
      exact ⟨links, leaf, hc⟩
    · intro ⟨links, leaf, hc⟩
      have hw := hc.walk fuel
      split at hw
      · exact hw
      · exact absurd (hlong.mp hw) hc.not_cyclic
  refine ⟨hleaf, hlong, ?_⟩
  rw [← hleaf, ← hlong]
  cases walkChain E fuel S n <;> decide

/-- **the outcome of `ApplyExtends`, read off the link walk** (every visit order; `hfold`: the merges along every chain
succeed — otherwise the outcome is the merge's error, C04's concern):
1. every service's walk ends at a leaf ⇒ accepted;
2. no walk is stuck and one is `long` ⇒ exactly `err circular`;
3. some walk is stuck (missing base, missing file, malformed reference, …) ⇒ not accepted. -/
theorem applyExtends_outcome_by_walk {E : Env} (hE : FuelFree E) {order : List String} {dict S : KVs}
    (hS : lookup "services" dict = some (.map S)) (hnn : NoNull S) (hfs : NoNullFS E)
    (hmain : fileServices E.fs E.mainFile = none) (hord : Visits order S)
    (fuel : Nat) (hfuel : (keyUniverse E S).length + 1 ≤ fuel)
    (hfold : ∀ n links leaf, Chain E E.mainFile S n links leaf → ∃ m, foldChain E leaf.2.2 links = .ok m) :
    ((∀ n, lookup n S ≠ none → walkChain E fuel S n = .leaf) → ∃ out, applyExtendsOrd E order dict = .ok out) ∧
    ((∀ n, lookup n S ≠ none → walkChain E fuel S n ≠ .stuck) →
      (∃ n, lookup n S ≠ none ∧ walkChain E fuel S n = .long) → applyExtendsOrd E order dict = .err "circular") ∧
    ((∃ n, lookup n S ≠ none ∧ walkChain E fuel S n = .stuck) → ∀ out, applyExtendsOrd E order dict ≠ .ok out) := by
  have hflat_of_leaf : ∀ n, walkChain E fuel S n = .leaf → ∃ v, Flat E S n v := by
    intro n hw
    obtain ⟨links, leaf, hc⟩ := ((walkChain_trichotomy E hmain S n fuel hfuel).1).mp hw
    obtain ⟨m, hm⟩ := hfold n links leaf hc
    exact ⟨_, hc.flat m hm⟩
  refine ⟨fun hall => acyclic_ok hS hord hmain (fun n hn => hflat_of_leaf n (hall n hn)), ?_, ?_⟩
  · intro hns ⟨n, hn, hl⟩
    refine cycle_is_circular hE hS hmain hord (fun k hk => ?_)
      ⟨n, hn, ((walkChain_trichotomy E hmain S n fuel hfuel).2.1).mp hl⟩
    cases hw : walkChain E fuel S k with
    | leaf => exact Or.inl (hflat_of_leaf k hw)
    | long => exact Or.inr (((walkChain_trichotomy E hmain S k fuel hfuel).2.1).mp hw)
    | stuck => exact absurd hw (hns k hk)
  · intro ⟨n, hn, hst⟩ out
    refine not_flat_not_ok hS hnn hfs hord hn (fun v hf => ?_) out
    obtain ⟨links, leaf, _, hc, _, _⟩ := hf.chain E.mainFile
    exact (((walkChain_trichotomy E hmain S n fuel hfuel).2.2).mp hst).1 ⟨links, leaf, hc⟩

/-- the oracle's reading of a real `circular`: if the walk of no service is `long`, `ApplyExtends` does not report
`circular` (contrapositive of `circular_sound` through the decision procedure) -/
theorem no_long_walk_no_circular {E : Env} (hE : NoCircularEnv E) {order : List String} {dict S : KVs}
    (hS : lookup "services" dict = some (.map S)) (hnn : NoNull S) (hfs : NoNullFS E)
    (hmain : fileServices E.fs E.mainFile = none) (hord : Visits order S)
    (hwalk : ∀ n, lookup n S ≠ none → walkChain E ((keyUniverse E S).length + 2) S n ≠ .long) :
    applyExtendsOrd E order dict ≠ .err "circular" := by
  intro h
  obtain ⟨n, hn, hc⟩ := circular_sound hE hS hnn hfs hmain hord h
  exact hwalk n ((hord n).mp hn) (walkChain_cyclic E _ S n hc)

/-- `NoCircularEnv` holds of the two-file example environment -/
example : NoCircularEnv Neg.env := by
  constructor
  · intro b s h; cases h
  · intro f h
    simp only [Neg.env, fsLookup] at h
    split at h <;> cases h

/-- a document with one flat and one cyclic service satisfies the hypotheses of `cycle_is_circular` … -/
def exCyc : KVs := [("a", .map [("extends", .str "a")]), ("p", .map [("image", .str "i")])]

example : ∀ n, lookup n exCyc ≠ none → (∃ v, Flat Neg.env exCyc n v) ∨ Cyclic Neg.env (exCyc, n) := by
  intro n hn
  by_cases ha : n = "a"
  · subst ha
    exact Or.inr (Or.inl (Reach.one ⟨[("extends", .str "a")], .str "a", none, by simp [exCyc, Val.lookup],
      by simp [Val.lookup], rfl, by simp [baseMap, exCyc, Val.lookup]⟩))
  · by_cases hp : n = "p"
    · subst hp
      exact Or.inl ⟨_, Flat.leaf (svc := [("image", .str "i")]) (by simp [exCyc, Val.lookup]) (by simp [Val.lookup])⟩
    · simp [exCyc, Val.lookup, ha, hp] at hn

example : walkChain Neg.env 5 exCyc "a" = .long ∧ walkChain Neg.env 5 exCyc "p" = .leaf := by
  decide +kernel

/-- … and both visit orders report `circular` (computed) -/
example : applyExtendsOrd Neg.env ["a", "p"] [("services", .map exCyc)] = .err "circular" ∧
    applyExtendsOrd Neg.env ["p", "a"] [("services", .map exCyc)] = .err "circular" :=
  ⟨Neg.isErr_iff.mp (by decide +kernel), Neg.isErr_iff.mp (by decide +kernel)⟩

end CV.Extends
