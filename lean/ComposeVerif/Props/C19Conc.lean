import ComposeVerif.Lemmas.LockedLive
import ComposeVerif.Lemmas.Runs
import ComposeVerif.Props.C19Locks
import ComposeVerif.Gen.ConcWrites
/-!
# C19 — what the goroutines of the library's own parallel operations may write

`Gen/ConcWrites.lean` (translator/c19writes.go) is regenerated on every run: for `graph.walk` and
`types.(*Project).WithServicesTransform` the *parallel region* (the function from its first `eg.Go` on, its closures, and
every function of the package reachable by name from there, plus the closures with which the public entry points wrap the
supplied function) and EVERY store in it that is not a store to a variable local to the executing function (literal).

The obligations below (`namespace CV.Gen`) pin these facts: a new unsynchronised store — a lazily filled memo field of a
vertex, a counter moved out of its goroutine, a result stored next to the collector — is a new row and breaks them.

After them (`namespace CV.Locked`), theorems about `Model/Locked.lean` that continue `Props/C19Locks.lean`: a memo filled
under the mutex is filled with one value whatever the interleaving (the negations in `Neg/C19Conc.lean` show the race and
the double fill without it); liveness of the locked system (`locked_measure_decreases`, `locked_terminates`,
`locked_can_finish`); `t.results` as guarded state (`traversal_results_sound / _complete / _schedule_independent`).
-/
namespace CV.Gen

/-- the traversal's parallel region is the set of functions the model covers: `walk` (collector closure,
    start loop), `visit` (worker closure), the three lock-guarded sections, and the pure helpers
    `skip / descendents / adjacentNodes / extremityNodes / roots / leaves` -/
theorem traversal_parallel_region_is_the_sources :
    travParallelFuncs =
    ["graph.walk (from its first spawn statement)", "graph.graph.roots", "graph.graph.leaves", "graph.vertex.descendents",
     "graph.traversal.visit", "graph.traversal.extremityNodes", "graph.traversal.adjacentNodes", "graph.traversal.ready",
     "graph.traversal.enter", "graph.traversal.done", "graph.traversal.skip",
     "graph.InDependencyOrder (caller: its closures are what the workers call)",
     "graph.CollectInDependencyOrder (caller: its closures are what the workers call)"] :=
  rfl

/-- **every store of the traversal's parallel region**: the collector's counter and the three stores of the
    sections `enter` / `done` -/
theorem traversal_parallel_writes_are_the_sources :
    travParallelWrites =
    [("graph.walk", "expect", "captured", [], true),
     ("graph.traversal.enter", "t.status[v.key]", "elem", ["t.mu"], false),
     ("graph.traversal.done", "t.status[v.key]", "elem", ["t.mu"], false),
     ("graph.traversal.done", "t.results[v.key]", "elem", ["t.mu"], false)] :=
  rfl

/-- **no unsynchronised shared store in the traversal**: every store to a struct field, a map / slice element, through a
    pointer, by a mutating helper or to a package-level variable anywhere in the parallel region holds `t.mu`; the only
    other store is to the captured local `expect`; the graph (`vertex`, `graph`) is never written there, so the helpers
    `skip / descendents / adjacentNodes / …` run by concurrent workers only read it -/
theorem traversal_parallel_stores_hold_the_mutex :
    (travParallelWrites.filter (fun (_, _, k, _, _) => k != "captured")).all (fun (_, _, _, held, _) => held == ["t.mu"]) = true ∧
    (travParallelWrites.filter (fun (_, _, k, _, _) => k == "captured")).map (fun (f, x, _, _, _) => (f, x)) = [("graph.walk", "expect")] ∧
    (travParallelWrites.filter (fun (_, x, _, _, _) => !(["t.status[v.key]", "t.results[v.key]", "expect"].contains x))) = [] := by
  decide +kernel

/-- **the counter belongs to the collector**: `expect` is the only variable of `walk` that a closure stores to; every
    occurrence of it is before the first `eg.Go` (no other goroutine exists yet) or inside closure #0 — the collector,
    the first function literal of `walk` — so no two goroutines ever touch it -/
theorem traversal_counter_is_confined_to_the_collector :
    travCapturedVarAccesses ≠ [] ∧
    travCapturedVarAccesses.all (fun (v, f, _, place) => v == "expect" && f == "graph.walk" &&
      (place == "before-first-go" || place == "closure#0")) = true ∧
    (travCapturedVarAccesses.filter (fun (_, _, k, place) => k == "write" && place != "before-first-go")).length = 1 := by
  decide +kernel

/-- **every store of the fan-out's parallel region**: the collector's local map, its counter, its final
    assignment of `newProject.Services`; the image resolver's closure stores into its own by-value parameter -/
theorem fanout_parallel_writes_are_the_sources :
    fanoutParallelFuncs =
      ["types.Project.WithServicesTransform (from its first spawn statement)",
       "types.Project.WithImagesResolved (caller: its closures are what the workers call)"] ∧
    fanoutParallelWrites =
      [("types.Project.WithServicesTransform", "s[r.name]", "elem-of-local", [], true),
       ("types.Project.WithServicesTransform", "expect", "captured", [], true),
       ("types.Project.WithServicesTransform", "newProject.Services", "field", [], true),
       ("types.Project.WithImagesResolved", "service.Image", "field-of-value-param", [], true)] :=
  ⟨rfl, rfl⟩

/-- the fan-out's counter is touched before the first `eg.Go` or inside closure #0 (the collector) only; the single store
    to a shared field in the region is `newProject.Services` (the access `fanout_no_field_race` is about) -/
theorem fanout_counter_is_confined_to_the_collector :
    fanoutCapturedVarAccesses.all (fun (v, _, _, place) => v == "expect" && (place == "before-first-go" || place == "closure#0")) = true ∧
    (fanoutParallelWrites.filter (fun (_, _, k, _, _) => k == "field" || k == "elem" || k == "deref" || k == "global")).map
      (fun (_, x, _, _, _) => x) = ["newProject.Services"] := by
  decide +kernel


/-- **no method is called on a shared struct field in the parallel regions except the mutex's own**: a method with a pointer
    receiver may mutate the field it is called on (a `strings.Builder`, a counter type, a cache); the only such calls of the
    traversal are `t.mu.Lock` / `t.mu.Unlock` in the three sections, and the fan-out has none -/
theorem parallel_field_method_calls_are_the_mutex :
    travParallelFieldMethodCalls.map (fun (f, c, _) => (f, c)) =
      [("graph.traversal.ready", "t.mu.Lock"), ("graph.traversal.ready", "t.mu.Unlock"),
       ("graph.traversal.enter", "t.mu.Lock"), ("graph.traversal.enter", "t.mu.Unlock"),
       ("graph.traversal.done", "t.mu.Lock"), ("graph.traversal.done", "t.mu.Unlock")] ∧
    fanoutParallelFieldMethodCalls = [] := by
  decide +kernel

/-! ### what the workers only READ is frozen before the first goroutine exists -/

/-- **the options are frozen before `walk`**: the fields of `Options` (`inverse`, `maxConcurrency`, `after` — read without a
    lock by `skip`, `adjacentNodes`, `extremityNodes`, `walk`, and under `t.mu` by `ready`) are stored to only by the three
    option constructors, whose closures `CollectInDependencyOrder` applies in a loop that precedes the call of `walk`;
    no function of the parallel region stores to them -/
theorem traversal_options_frozen_before_walk :
    travOptionFields = ["inverse", "maxConcurrency", "after"] ∧
    (travOptionFieldAccesses.filter (fun (_, _, k, _) => k == "write")).map (fun (e, f, _, _) => (e, f)) =
      [("o.maxConcurrency", "graph.WithMaxConcurrency"), ("o.inverse", "graph.InReverseOrder"),
       ("o.after", "graph.WithRootNodesAndDown")] ∧
    travOptionsAppliedBeforeWalk = true ∧
    (travOptionFieldAccesses.filter (fun (_, f, k, _) => k == "write" && travParallelFuncs.any (fun g => g == f))) = [] ∧
    (travOptionFieldAccesses.filter (fun (_, _, k, _) => k == "read")).map (fun (e, f, _, _) => (e, f)) =
      [("t.maxConcurrency", "graph.walk"), ("t.maxConcurrency", "graph.walk"),
       ("t.inverse", "graph.traversal.extremityNodes"), ("t.inverse", "graph.traversal.adjacentNodes"),
       ("t.inverse", "graph.traversal.ready"), ("t.after", "graph.traversal.skip"), ("t.after", "graph.traversal.skip"),
       ("t.after", "graph.traversal.skip")] :=
  ⟨rfl, by decide +kernel⟩

/-- **the dependency graph is frozen before `walk`**: the fields of `vertex` / `graph` (`key, service, children, parents,
    vertices` — what `skip / descendents / ready / adjacentNodes / roots / leaves` read from concurrent workers) are stored
    to only by `addVertex`, `addEdge`, `newGraph`; `CollectInDependencyOrder` calls `newGraph` in a statement before the
    one that calls `walk`; none of the three is in the parallel region.  A memo field added to `vertex` and filled on
    first use is a new field AND a new store here -/
theorem traversal_graph_frozen_before_walk :
    graphStructFields = ["key", "service", "children", "parents", "vertices"] ∧
    graphStructFieldWrites =
      [("g.vertices", "graph.graph.addVertex"), ("g.vertices[src].children", "graph.graph.addEdge"),
       ("g.vertices[dest].parents", "graph.graph.addEdge"), ("src.children", "graph.newGraph"),
       ("dest.parents", "graph.newGraph")] ∧
    graphBuiltBeforeWalk = true ∧
    (graphStructFieldWrites.filter (fun (_, f) => travParallelFuncs.any (fun g => g == f))) = [] :=
  ⟨rfl, rfl, rfl, by decide +kernel⟩

/-- one access of the parallel region: location, is-write, mutexes held, where it runs (`worker` = any goroutine of the
    region, `collector` = closure #0 of `walk`, `before-spawn` = before the first `eg.Go`, `after-join` = after `walk` returned) -/
abbrev Acc := String × Bool × List String × String

/-- every access of the locations that are written in the region: the guarded fields (`travGuardedFieldAccesses`, reads
    included) and the captured counter (`travCapturedVarAccesses`) -/
def travAccessTable : List Acc :=
  travGuardedFieldAccesses.map (fun (e, f, k, held) =>
    (e, k == "write", held, if f == "graph.CollectInDependencyOrder" then "after-join" else "worker")) ++
  travCapturedVarAccesses.map (fun (v, _, k, place) =>
    (v, k == "write", [], if place == "before-first-go" then "before-spawn" else if place == "closure#0" then "collector" else "worker"))

/-- two accesses cannot race: different locations, two reads, a common mutex, one of them ordered against everything by
    spawn / join, or both inside the one collector goroutine -/
def compatible (a b : Acc) : Bool :=
  a.1 != b.1 || (!a.2.1 && !b.2.1) || a.2.2.1.any (fun m => b.2.2.1.contains m) ||
  a.2.2.2 == "before-spawn" || b.2.2.2 == "before-spawn" || a.2.2.2 == "after-join" || b.2.2.2 == "after-join" ||
  (a.2.2.2 == "collector" && b.2.2.2 == "collector")

/-- **lockset discipline of the dependency-ordered traversal** (Eraser-style, decided on the regenerated tables): every
    location stored to in the parallel region is `t.status`, `t.results` or `expect`; every two accesses of one of them
    (reads included), at least one a store, hold the common mutex `t.mu`, or are both in the collector goroutine, or one
    of them is ordered against all goroutines by the spawn (`before-first-go`) or by the join (`CollectInDependencyOrder`
    reads `t.results` after `walk` — `eg.Wait` — returned) -/
theorem traversal_lockset_discipline :
    travAccessTable.all (fun a => travAccessTable.all (fun b => compatible a b)) = true ∧
    travResultsReadAfterWalk = true ∧
    travParallelWrites.all (fun (_, x, _, _, _) =>
      travAccessTable.any (fun a => a.2.1 && (a.1 == x || a.1 ++ "[v.key]" == x))) = true := by
  decide +kernel

/-- the discipline is not vacuous: the table has the 6 + 5 accesses, 4 of them stores outside `before-spawn` -/
example : travAccessTable.length = 11 ∧
    (travAccessTable.filter (fun a => a.2.1 && a.2.2.2 != "before-spawn")).length = 4 := by decide +kernel

/-- … and it does reject an unprotected store next to the workers' reads -/
example : compatible ("t.status", true, [], "worker") ("t.status", false, ["t.mu"], "worker") = false := by decide +kernel

end CV.Gen

namespace CV.Locked

variable {Tid : Type} [DecidableEq Tid]

/-- **a memo filled under the mutex has one value**: any number of workers, each running any number of fill sections
    `memoF c` with the same `c` (the graph is immutable, so every worker computes the same list), under every
    interleaving: the memo is empty or holds `c` — never a partial or a different value -/
theorem guarded_memo_single_value (c : List String) (n : Tid → Nat) {s : St (Option (List String)) Tid}
    (hR : Reach true (fun t => List.replicate (n t) (memoF c)) none s) : s.mem = none ∨ s.mem = some c := by
  refine locked_preserves (fun m => m = none ∨ m = some c) ?_ (Or.inl rfl) hR
  intro t f hf m hm
  have : f = memoF c := List.eq_of_mem_replicate hf
  subst this
  rcases hm with h | h <;> simp [memoF, h]

/-- … and such a fill never races (instance of `locked_no_race`) -/
theorem guarded_memo_no_race (c : List String) (n : Tid → Nat) {s : St (Option (List String)) Tid}
    (hR : Reach true (fun t => List.replicate (n t) (memoF c)) none s) : ¬ RaceAt true s :=
  locked_no_race hR


section live
variable {σ : Type} {prog : Tid → List (σ → σ)} {m0 : σ}

/-- **every primitive step is progress**: with the goroutines that have sections listed in `threads`, each step of a
    reachable state lowers the number of steps still to be taken by exactly one (with or without the mutex) -/
theorem locked_measure_decreases {locked : Bool} (threads : List Tid) (hN : threads.Nodup)
    (hT : ∀ t, t ∉ threads → prog t = []) {s s' : St σ Tid} {l : Label Tid}
    (hR : Reach locked prog m0 s) (h : step? locked s l = some s') : mu threads s' + 1 = mu threads s := by
  -- a goroutine without sections stays outside with nothing to run, so it is not the one that steps
  have hmem : tidOf l ∈ threads :=
    Classical.byContradiction fun hn => (step_of_step? h).busy (idle_stays hR (hT _ hn))
  obtain ⟨h1, h2⟩ := cost_step h
  have := sum_map_update hN hmem h2
  unfold mu; omega

/-- **termination**: no schedule of the sections is longer than four steps per section: `lock, read, write, unlock` -/
theorem locked_terminates {locked : Bool} (threads : List Tid) (hN : threads.Nodup)
    (hT : ∀ t, t ∉ threads → prog t = []) (ls : List (Label Tid)) (s' : St σ Tid)
    (hr : run locked (init prog m0) ls = some s') : ls.length ≤ 4 * (threads.map fun t => (prog t).length).sum := by
  have h0 : mu threads (init prog m0) = 4 * (threads.map fun t => (prog t).length).sum := by
    unfold mu
    clear hN hT
    induction threads with
    | nil => rfl
    | cons a r ih => simp only [List.map_cons, List.sum_cons, ih, Nat.mul_add]; rfl
  have := Runs.length_le ⟨fun _ => rfl, fun _ _ _ => rfl⟩ .step
    (fun hs h => Nat.lt_of_succ_le (Nat.le_of_eq (locked_measure_decreases threads hN hT hs h))) (.init (m0 := m0)) hr
  omega

/-- **every schedule can be completed**: from every reachable state of the locked system some continuation brings every
    goroutine through all its sections (with `locked_terminates`: every maximal schedule is finite and ends quiescent —
    nobody waits for the mutex forever, whatever the scheduler does) -/
theorem locked_can_finish (threads : List Tid) (hN : threads.Nodup) (hT : ∀ t, t ∉ threads → prog t = [])
    {s : St σ Tid} (hR : Reach true prog m0 s) : ∃ ls s', run true s ls = some s' ∧ quiescent s' :=
  Runs.can_finish ⟨fun _ => rfl, fun _ _ _ => rfl⟩ .step
    (fun hs h => Nat.lt_of_succ_le (Nat.le_of_eq (locked_measure_decreases threads hN hT hs h))) locked_deadlock_free hR

end live


section results
variable {ρ : Type}

/-- **nothing but the function's results, under every interleaving**: in every reachable state an entry of `t.results` is
    the value the supplied function returned for that very service, the service is marked visited, and some worker has
    `done` for it in its program (no entry for a service nobody visits) -/
theorem traversal_results_sound (val : Nat → ρ) {prog : Tid → List (RS ρ → RS ρ)} (hP : WalkSections val prog)
    {s : St (RS ρ) Tid} (hR : Reach true prog (fun _ => .absent, fun _ => none) s) {v : Nat} {r : ρ}
    (h : s.mem.2 v = some r) : r = val v ∧ s.mem.1 v = .visited ∧ ∃ t, doneR v (val v) ∈ prog t := by
  refine locked_preserves (prog := prog)
    (fun m : RS ρ => ∀ v r, m.2 v = some r → r = val v ∧ m.1 v = .visited ∧ ∃ t, doneR v (val v) ∈ prog t) ?_ (fun _ _ h => by cases h) hR v r h
  intro t f hf ⟨st, res⟩ hm v r hv
  obtain ⟨u, rfl | rfl | rfl⟩ := hP t f hf
  · obtain ⟨h1, h2, h3⟩ := hm v r hv
    exact ⟨h1, enterF_visited h2, h3⟩
  · exact hm v r hv
  · by_cases e : v = u
    · subst e
      exact ⟨(Option.some.inj ((if_pos rfl).symm.trans hv)).symm, doneF_self v st, t, hf⟩
    · obtain ⟨h1, h2, h3⟩ := hm v r ((if_neg e).symm.trans hv)
      exact ⟨h1, doneF_visited h2, h3⟩

/-- **every result is there**: when every goroutine is through, each service whose `done` is in somebody's program has
    its entry, and it is the value the supplied function returned for it — whatever the interleaving (no lost store) -/
theorem traversal_results_complete (val : Nat → ρ) {prog : Tid → List (RS ρ → RS ρ)} (hP : WalkSections val prog)
    {s : St (RS ρ) Tid} (hR : Reach true prog (fun _ => .absent, fun _ => none) s) (hq : quiescent s)
    {t : Tid} {v : Nat} (hd : doneR v (val v) ∈ prog t) : s.mem.2 v = some (val v) ∧ s.mem.1 v = .visited := by
  refine locked_establishes (fun m : RS ρ => m.2 v = some (val v) ∧ m.1 v = .visited) ?_ hd
    (fun ⟨st, _⟩ => ⟨if_pos rfl, doneF_self v st⟩) hR (restAbs_of_quiescent hq t)
  intro t' f hf ⟨st, res⟩ ⟨h1, h2⟩
  obtain ⟨u, rfl | rfl | rfl⟩ := hP t' f hf
  · exact ⟨h1, enterF_visited h2⟩
  · exact ⟨h1, h2⟩
  · refine ⟨?_, doneF_visited h2⟩
    by_cases e : v = u
    · subst e; exact if_pos rfl
    · exact (if_neg e).trans h1

/-- **the results do not depend on the schedule**: two quiescent states of the same walk, reached by ANY two
    interleavings, have the same `t.results` (entry by entry, absent entries included) — what a sequential walk returns -/
theorem traversal_results_schedule_independent (val : Nat → ρ) {prog : Tid → List (RS ρ → RS ρ)} (hP : WalkSections val prog)
    {s₁ s₂ : St (RS ρ) Tid} (h₁ : Reach true prog (fun _ => .absent, fun _ => none) s₁) (q₁ : quiescent s₁)
    (h₂ : Reach true prog (fun _ => .absent, fun _ => none) s₂) (q₂ : quiescent s₂) (v : Nat) :
    s₁.mem.2 v = s₂.mem.2 v := by
  cases e₁ : s₁.mem.2 v with
  | some r =>
    obtain ⟨hr, _, t, hd⟩ := traversal_results_sound val hP h₁ e₁
    rw [(traversal_results_complete val hP h₂ q₂ hd).1, hr]
  | none =>
    cases e₂ : s₂.mem.2 v with
    | none => rfl
    | some r =>
      obtain ⟨_, _, t, hd⟩ := traversal_results_sound val hP h₂ e₂
      rw [(traversal_results_complete val hP h₁ q₁ hd).1] at e₁
      cases e₁

/-- the program of the non-vacuity examples: the coordinator enters two vertices, two workers store their results -/
def exWalk : Fin 3 → List (RS String → RS String) :=
  fun t => if t = 0 then [enterR 0, enterR 1] else if t = 1 then [doneR 0 "a"] else [doneR 1 "b"]

/-- non-vacuity: the run ends quiescent with both results stored (the second worker finishes first) -/
example : ((run true (init exWalk (fun _ => Status.absent, fun _ => none))
    [.lock 0, .read 0, .write 0, .unlock 0, .lock 0, .read 0, .write 0, .unlock 0, .lock 2, .read 2, .write 2,
     .unlock 2, .lock 1, .read 1, .write 1, .unlock 1]).map fun s =>
      (s.mem.2 0, s.mem.2 1, s.mem.1 0, s.hist, (s.rest 0).length + (s.rest 1).length + (s.rest 2).length)) =
    some (some "a", some "b", .visited, [0, 0, 2, 1], 0) := by decide +kernel

/-- … and a worker that asks for the mutex while the coordinator holds it is refused -/
example : (run true (init exWalk (fun _ => Status.absent, fun _ => none)) [.lock 0, .read 0, .lock 2]).isNone = true := by
  decide +kernel

end results

/-- non-vacuity of the bound: the two-load example of `Props/C19Locks.lean` (1 + 2 sections) runs 12 = 4·3 steps -/
example : exRun.length = 4 * ([false, true].map fun t => (warnProg (exFiles t)).length).sum := by decide +kernel

/-- non-vacuity: a reachable state of two workers in which the memo is filled -/
example : ((run true (init (fun _ : Bool => List.replicate 1 (memoF ["base"])) none)
    [.lock true, .read true, .write true, .unlock true, .lock false, .read false, .write false]).map fun s => (s.mem, s.hist)) =
    some (some ["base"], [true, false]) := by decide +kernel

end CV.Locked
