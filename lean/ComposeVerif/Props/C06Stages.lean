import ComposeVerif.Model.Include
import ComposeVerif.Lemmas.PathsCompose
import ComposeVerif.Lemmas.C11Walk
import ComposeVerif.Lemmas.ShortIdem
/-!
# C06 — the imported resources under the *parent's* later stages

`ApplyInclude` hands the parent the resources of the included projects as their own load produced them — defaults
written out, canonical, paths resolved against the working directory `relwd` the plan chose — and the parent runs its own
stages over the merged document.  With the C11 (`setDefaults`), C03 (`transform`) and C12 (`Paths.walk`, `join`) models:
defaults and canonical form run again are the identity; the parent's path resolution against its directory `W` gives
exactly the one-stage resolution against `Join(W, relwd)`, the included project's directory, for **every** tree (with
the guarded join every resolver composes); two levels of include resolve like one against the twice-joined directory.

Not proved here: that `SetDefaultValues` and `Canonical` leave a *resolved* resource alone (the parent runs them on the
value after stage-1 path resolution, i.e. on `v`, while their idempotence is about `d`/`c`; one needs that path
resolution preserves being a fixed point of both — it only rewrites strings at path attributes, C12 `frame`).  That
commutation is covered by the paste oracle on the real loader.
-/
namespace CV.Include
open CV CV.Val CV.Paths

/-- the configuration of one `ResolveRelativePaths` run of the default loader (no remote resource loaders, no symbolic
links): working directory `w`, home directory `home` -/
def cfgAt (home : Option Paths.Str) (w : String) : Paths.Cfg :=
  ⟨w.toList, home, fun _ => false, some⟩

theorem toList_ne_nil (w : String) (h : w ≠ "") : w.toList ≠ [] := by
  intro e; apply h; exact String.ext (by simpa using e)

/-- C11's `setDefaults_idem`, read for include: if `d` is what the included load's `SetDefaultValues` made of a resource,
the parent's run over it changes nothing (the statement is about any table, path and tree) -/
theorem imported_defaults_stable (tbl : List (List String × String)) (p : TPath) (u d : Val)
    (h : CV.C11.setDefaults tbl p u = .ok d) : CV.C11.setDefaults tbl p d = .ok d :=
  CV.C11.setDefaults_idem tbl p u d h

/-- C03's `idem_T`, read for include: if `c` is what the included load's `transform.Canonical` made of a resource at
its path `p`, the parent's run over it changes nothing (the statement is about any path and tree) -/
theorem imported_canonical_stable (p : TPath) (u c : Val)
    (h : CV.Short.transform false p u = .ok c) : CV.Short.transform false p c = .ok c :=
  CV.Short.idem_T u p c h

/-- `resolve_compose` for include, full strength: `d` is an included resource — any
tree at any path `p` — before path resolution, `v` what the included load made of it against the plan's working
directory `relwd` (relative, non-empty).  The parent's `ResolveRelativePaths` against its own directory `wd` turns `v`
into exactly what a single resolution of `d` against `Join(wd, relwd)` gives: same value, same error.  No hypothesis on
the tree -/
theorem imported_paths_two_stage (home : Option Paths.Str)
    (wd relwd : String) (hwd : wd ≠ "") (hrel : relwd ≠ "") (hrelr : Include.isAbs relwd = false)
    (p : TPath) (d v : Val)
    (h1 : Paths.walk CV.Gen.resolvers (cfgAt home relwd) p d = .ok v) :
    Paths.walk CV.Gen.resolvers (cfgAt home wd) p v =
      Paths.walk CV.Gen.resolvers (cfgAt home (Include.join wd relwd)) p d := by
  -- the directory of the one-stage resolution is `filepath.Join(wd, relwd)` of the C12 model
  simp only [cfgAt, Include.join, String.toList_ofList]
  exact walk_compose_of_stageOK (stageOK_join home _ some wd.toList relwd.toList (toList_ne_nil wd hwd)
    (toList_ne_nil relwd hrel) hrelr symOK_some (fun _ => rfl)) _ p d v h1

/-- nested includes compose: a resource of a project included at depth 2 is resolved
against `r2` (its own load), then `r1` (the load of the project that includes it), then the root directory `w`.
The result is the one-stage resolution against `Join(Join(w, r1), r2)` — the directory the depth-2 project has
when it is loaded on its own — for every tree -/
theorem imported_paths_nested (home : Option Paths.Str) (hhome : ∀ h, home = some h → h ≠ [])
    (w r1 r2 : String) (p : TPath) (d v2 v1 : Val)
    (hw : w ≠ "") (hr1 : r1 ≠ "") (hr1rel : Include.isAbs r1 = false) (hr2 : r2 ≠ "") (hr2rel : Include.isAbs r2 = false)
    (h2 : Paths.walk CV.Gen.resolvers (cfgAt home r2) p d = .ok v2)
    (h1 : Paths.walk CV.Gen.resolvers (cfgAt home r1) p v2 = .ok v1) :
    Paths.walk CV.Gen.resolvers (cfgAt home w) p v1 =
      Paths.walk CV.Gen.resolvers (cfgAt home (Include.join (Include.join w r1) r2)) p d := by
  have hw' := toList_ne_nil w hw
  have hr1' := toList_ne_nil r1 hr1
  have e1 : Paths.walk CV.Gen.resolvers (cfgAt home (Include.join r1 r2)) p d = .ok v1 := by
    rw [← imported_paths_two_stage home r1 r2 hr1 hr2 hr2rel p d v2 h2]; exact h1
  have hj12 : Include.join r1 r2 ≠ "" := by
    intro e
    have : (Include.join r1 r2).toList = [] := by rw [e]; rfl
    simp only [Include.join, String.toList_ofList] at this
    exact join_ne_nil _ _ hr1' this
  have hj12r : Include.isAbs (Include.join r1 r2) = false := by
    simp only [Include.isAbs, Include.join, String.toList_ofList]
    exact isAbs_join_rel _ _ hr1' hr1rel
  rw [imported_paths_two_stage home w (Include.join r1 r2) hw hj12 hj12r p d v1 e1]
  have hj : Include.join (Include.join w r1) r2 = Include.join w (Include.join r1 r2) := by
    simp only [Include.join, String.toList_ofList]
    rw [join_assoc w.toList r1.toList r2.toList hw' hr1' hr1rel]
  rw [hj]

/-- the hypotheses are satisfiable: parent directory `/w`, included project in `sub`, no home directory -/
example : ("/w" : String) ≠ "" ∧ ("sub" : String) ≠ "" ∧ Include.isAbs "sub" = false ∧
    (∀ h, (none : Option Paths.Str) = some h → h ≠ []) := by
  refine ⟨by simp, by simp, by decide +kernel, ?_⟩
  intro h e; cases e

end CV.Include
