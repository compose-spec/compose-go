import ComposeVerif.Props.C11
/-!
# C11 — the defaulting stages of a load, composed: the explicit model is a fixed point of all three

Model: `Model/C11Pipeline.lean` (`svcPipeline`, `pipeline` = Canonical ; SetDefaultValues ;
Normalize in loader order).  `Props/C11.lean` proves that each stage is idempotent on its own; the property speaks
about the whole load, where a later stage must not undo what an earlier one made explicit (the oracle observes this as
EXP = IMP on whole loads).  Here: what each stage leaves of the fixed points of the other two, and from that the
statement for the attributes of one service through all three stages — the service with every default written out
loads to itself, hence to what the implicit spelling loads to.

Visible hypothesis `EscFacts`: `tree.Path.Next` escapes dots in a key (`strings.ReplaceAll(part, ".", "👻")`); for the
seven dot-free attribute names the stages touch the escaped key is the key itself.  These are closed facts about
`String.replace` on literals; Lean's kernel cannot evaluate `String.replace` (well-founded recursion): they are evaluated by
the `#guard`s at the end of `Props/C11Lift.lean`, and `c11.next` compares `TPath.next` with Go's `tree.Path.Next` on these keys.  The
whole-model theorems of `Props/C11Lift.lean` need the like facts at the root (`RootFacts`: `String.splitOn`).  Both are visible because the
model of the walker uses `TPath.next`; `Model/PathK.lean` has a kernel-evaluable `nextK` (C03 walks with it).
-/
namespace CV.C11
open CV CV.Val

/-- the attribute names the stages read or write are their own escaped form -/
def EscFacts : Prop :=
  ∀ k ∈ ["build", "networks", "depends_on", "pull_policy", "environment", "volumes", "env_file"],
    k.replace "." TPath.ghost = k

/-- closed facts about `tree.Path.Next` at the root (it splits instead of escaping): the five section names `Normalize`
rewrites have no dot.  `String.splitOn` is not evaluable by the kernel; `c11.next` compares exactly these with Go. -/
def RootFacts : Prop :=
  ∀ k ∈ ["services", "networks", "volumes", "configs", "secrets"], TPath.root.next k = [k]

/-- `Canonical` leaves every attribute of the service alone -/
def SvcCanon (s : KVs) : Prop := ∀ kv ∈ s, canonAttr kv.1 kv.2 = .ok kv.2

/-- `SetDefaultValues`, started at the path `p` of the service, leaves every attribute alone -/
def SvcDefaulted (tbl : List (List String × String)) (p : TPath) (s : KVs) : Prop :=
  ∀ kv ∈ s, setDefaults tbl (p.next kv.1) kv.2 = .ok kv.2

theorem svcCanon_iff (s : KVs) : canonSvcAttrs s = .ok s ↔ SvcCanon s := by
  rw [canonSvcAttrs_eq_mapM]; exact mapMKVs_fixed_iff

theorem svcDefaulted_iff (tbl : List (List String × String)) (p : TPath) (s : KVs) :
    setDefaultsKVs tbl p s = .ok s ↔ SvcDefaulted tbl p s := setDefaultsKVs_fixed_iff tbl p s


/-- **the walker changes nothing at or below a path no row can match** (any document, any table) -/
theorem setDefaults_identity_off_table (tbl : List (List String × String)) (q : TPath) (hq : Quiet tbl q) (v : Val) :
    setDefaults tbl q v = .ok v := setDefaults_quiet tbl v q hq

/-- the attributes of a service that `Canonical` (depends_on, env_file) and `Normalize` (networks, depends_on, pull_policy,
environment, volumes) write and the table does not reach; `build`, which `Normalize` writes too, is on the table (`service_build_row`) -/
def stageAttrs : List String := ["networks", "depends_on", "pull_policy", "environment", "volumes", "env_file"]

/-- no row of the regenerated table matches at or below these attributes of a service, whatever its name:
`SetDefaultValues` cannot touch what the other two stages write there (the table is checked against `services.*.<a>`) -/
theorem service_attributes_off_table (x : String) {a : String} (ha : a ∈ stageAttrs) :
    Quiet CV.Gen.defaultValues ["services", x, a] := by
  have check : ∀ a ∈ stageAttrs,
      (CV.Gen.defaultValues.all fun row => !overlapBelow row.1 ["services", "*", a]) = true := by decide +kernel
  exact quiet_of_no_overlap _ (check a ha) (by simp [TPath.pmatch]) (by simp)

/-- the build section of a service is the first row's -/
theorem service_build_row (x : String) :
    TPath.firstMatch CV.Gen.defaultValues ["services", x, "build"] = some "defaultBuildContext" := by
  simp [TPath.firstMatch, CV.Gen.defaultValues, TPath.pmatch]

/-- below a service, the path of one of these attributes is the path of the service with the attribute's name appended -/
theorem next_attr (hesc : EscFacts) (x : String) {k : String} (hk : k ∈ "build" :: stageAttrs) :
    TPath.next ["services", x] k = ["services", x, k] := by
  rw [next_of_ne_root (by simp [TPath.root]), hesc k hk]; rfl

example : Quiet CV.Gen.defaultValues ["services", "a", "depends_on", "b"] :=
  quiet_of_no_overlap ["services", "a", "depends_on", "b"] (by decide +kernel) (by decide +kernel) (by simp)


/-- **Normalize → Canonical (depends_on)**: the implied entries `Normalize` adds to a canonical `depends_on` are canonical -/
theorem normalize_keeps_depends_on_canonical (s : KVs) (h : CanonDeps (mapOf (lookup "depends_on" s))) :
    transformDependsOn (.map (impliedDeps s)) = .ok (.map (impliedDeps s)) :=
  (transformDependsOn_fixed_iff _).mpr (canonDeps_addDeps _ _ (impliedList_vals s) h)

/-- **Normalize → SetDefaultValues (build)**: the handler of the `services.*.build` row finds the context written -/
theorem normalize_keeps_build_defaulted (clean : String → String) (env : Env) (v : Val) :
    applyHandler "defaultBuildContext" (svcAttr clean env "build" v) = .ok (svcAttr clean env "build" v) := by
  simp only [applyHandler, if_true, svcAttr_build]
  cases v with
  | map b =>
    obtain ⟨y, hy, _⟩ := lookup_setIfNil_self_nonnull "context" (.str ".") nofun b
    have : lookup "context" (normBuild env b) = some y := by
      unfold normBuild
      rw [lookup_normBuildArgs_ne env (by simp), lookup_dockerfileDefault_ne (by simp), hy]
    simp only [onMap, defaultBuildContext, setIfAbsent_of_some this]
  | _ => rfl

/-- the loop body of `Normalize` rewrites neither `depends_on` (in place) nor `env_file` -/
theorem canonAttr_svcAttr (clean : String → String) (env : Env) {k : String} {v : Val} (h : canonAttr k v = .ok v) :
    canonAttr k (svcAttr clean env k v) = .ok (svcAttr clean env k v) := by
  by_cases h1 : k = "depends_on"
  · subst h1; rwa [svcAttr_other clean env (by simp) (by simp) (by simp) (by simp)]
  by_cases h2 : k = "env_file"
  · subst h2; rwa [svcAttr_other clean env (by simp) (by simp) (by simp) (by simp)]
  · exact canonAttr_other h1 h2 _

/-- **Normalize after Canonical**: a service `Canonical` leaves alone is still one after `Normalize` -/
theorem svcCanon_normSvc (clean : String → String) (env : Env) (s : KVs) (h : SvcCanon s) :
    SvcCanon (normSvc clean env s) := by
  intro x hx
  rcases mem_normService clean env hx with rfl | ⟨kv, hkv, rfl⟩
  · show canonAttr "depends_on" _ = _
    rw [canonAttr, if_pos rfl]
    apply normalize_keeps_depends_on_canonical
    rw [lookup_nnService_ne (by simp)]
    have nil : CanonDeps [] := nofun
    cases hl : lookup "depends_on" s with
    | none => exact nil
    | some dv =>
      cases dv with
      | map deps =>
        have := h _ (mem_of_lookup hl)
        rw [canonAttr, if_pos rfl] at this
        exact (transformDependsOn_fixed_iff deps).mp this
      | _ => exact nil
  · refine canonAttr_svcAttr clean env ?_
    rcases mem_nnService hkv with rfl | hkv
    · exact canonAttr_other (by simp) (by simp) _
    · exact h kv hkv

/-- **SetDefaultValues after Canonical**: the walker cannot reach `depends_on` / `env_file`, so a service `Canonical` leaves
alone is still one after `SetDefaultValues` -/
theorem svcCanon_setDefaults (hesc : EscFacts) (x : String) (c s : KVs) (h : SvcCanon c)
    (hw : setDefaultsKVs CV.Gen.defaultValues ["services", x] c = .ok s) : SvcCanon s := by
  intro b hb
  rw [setDefaultsKVs_eq_mapM] at hw
  obtain ⟨a, ha, hk, hv⟩ := mapMKVs_mem hw b hb
  -- the walker leaves `depends_on` and `env_file` as they are
  have hsame : b.1 ∈ stageAttrs → b.2 = a.2 := by
    intro hb'
    rw [hk, next_attr hesc x (List.mem_cons_of_mem _ hb'),
      setDefaults_quiet _ _ _ (service_attributes_off_table x hb')] at hv
    exact (Out.ok.inj hv).symm
  have hc := h a ha
  rw [hk] at hc
  by_cases h1 : b.1 = "depends_on"
  · rw [hsame (by simp [h1, stageAttrs])]; exact hc
  by_cases h2 : b.1 = "env_file"
  · rw [hsame (by simp [h2, stageAttrs])]; exact hc
  · exact canonAttr_other h1 h2 _

/-- **Normalize after SetDefaultValues**: a service whose defaults are all written is still one after `Normalize` — the
attributes `Normalize` rewrites are off the table, except `build`, whose `context` `Normalize` writes itself -/
theorem svcDefaulted_normSvc (hesc : EscFacts) (x : String) (clean : String → String) (env : Env) (s : KVs)
    (h : SvcDefaulted CV.Gen.defaultValues ["services", x] s) :
    SvcDefaulted CV.Gen.defaultValues ["services", x] (normSvc clean env s) := by
  -- at an attribute the table does not reach, any value is left alone
  have off : ∀ k ∈ stageAttrs, ∀ v, setDefaults CV.Gen.defaultValues (TPath.next ["services", x] k) v = .ok v := by
    intro k hk v
    rw [next_attr hesc x (List.mem_cons_of_mem _ hk)]
    exact setDefaults_quiet _ _ _ (service_attributes_off_table x hk)
  intro y hy
  rcases mem_normService clean env hy with rfl | ⟨kv, hkv, rfl⟩
  · exact off "depends_on" (by simp [stageAttrs]) _
  · show setDefaults _ (TPath.next _ kv.1) (svcAttr clean env kv.1 kv.2) = _
    by_cases hs : kv.1 ∈ stageAttrs
    · exact off _ hs _
    by_cases hb : kv.1 = "build"
    · rw [hb, next_attr hesc x List.mem_cons_self, setDefaults_eq, service_build_row]
      exact normalize_keeps_build_defaulted clean env kv.2
    · simp only [stageAttrs, List.mem_cons, List.not_mem_nil, or_false, not_or] at hs
      rw [svcAttr_other clean env hs.2.2.1 hb hs.2.2.2.1 hs.2.2.2.2.1]
      rcases mem_nnService hkv with rfl | hkv
      · exact absurd rfl hs.1
      · exact h kv hkv

example : CanonDeps [("b", depEntry true), ("c", .map [("condition", .str "service_healthy"), ("required", .bool false)])] :=
  (transformDependsOn_fixed_iff _).mp (by decide +kernel)

example : SvcCanon [("image", .str "i"), ("depends_on", .map [("b", depEntry true)]),
    ("env_file", .seq [.map [("path", .str "e.env"), ("required", .bool true)]])] :=
  (svcCanon_iff _).mp (by decide +kernel)

/-- the hypotheses of `service_pipeline_fixed_point` other than `EscFacts` are satisfiable: Go's `path.Clean` model, empty environment -/
example : (∀ s, pathClean (pathClean s) = pathClean s) ∧ envLookup [] "" = none := ⟨pathClean_idempotent, rfl⟩

/-- **the service with every default written out is a fixed point of the whole pipeline**: if Canonical ;
SetDefaultValues ; Normalize accept the attributes `s` of service `x` and return `e`, they accept `e` and return `e` -/
theorem service_pipeline_fixed_point (hesc : EscFacts) (x : String) (clean : String → String)
    (hclean : ∀ s, clean (clean s) = clean s) (env : Env) (henv : envLookup env "" = none) (s e : KVs)
    (h : svcPipeline CV.Gen.defaultValues ["services", x] clean env s = .ok e) :
    svcPipeline CV.Gen.defaultValues ["services", x] clean env e = .ok e := by
  unfold svcPipeline at h
  split at h
  · rename_i c hc
    split at h
    · rename_i d hd
      cases h
      have c3 : SvcCanon (normSvc clean env d) := svcCanon_normSvc clean env d
        (svcCanon_setDefaults hesc x c d ((svcCanon_iff c).mp (canonSvcAttrs_idem s c hc)) hd)
      have d3 : SvcDefaulted CV.Gen.defaultValues ["services", x] (normSvc clean env d) :=
        svcDefaulted_normSvc hesc x clean env d ((svcDefaulted_iff _ _ d).mp (setDefaultsKVs_idem _ _ c d hd))
      simp only [svcPipeline, (svcCanon_iff _).mpr c3, (svcDefaulted_iff _ _ _).mpr d3,
        normSvc_idempotent clean hclean env henv d]
    all_goals cases h
  all_goals cases h

/-- **implicit ≡ explicit through all three stages** (one service): the explicit spelling `e` of `s` loads to what `s` loads to -/
theorem service_implicit_eq_explicit (hesc : EscFacts) (x : String) (clean : String → String)
    (hclean : ∀ s, clean (clean s) = clean s) (env : Env) (henv : envLookup env "" = none) (s e : KVs)
    (h : svcPipeline CV.Gen.defaultValues ["services", x] clean env s = .ok e) :
    svcPipeline CV.Gen.defaultValues ["services", x] clean env e = svcPipeline CV.Gen.defaultValues ["services", x] clean env s := by
  rw [h]; exact service_pipeline_fixed_point hesc x clean hclean env henv s e h

/-- the stages of the whole-model pipeline, one after the other (what `pipeline` is made of) -/
theorem pipeline_stages (tbl : List (List String × String)) (clean : String → String) (env : Env) (d e : KVs)
    (h : pipeline tbl clean env d = .ok e) :
    ∃ c s, canonicalLite d = .ok (.map c) ∧ setDefaultValues tbl c = .ok (.map s) ∧ normalize clean env s = .ok e := by
  unfold pipeline at h
  split at h
  · rename_i c hc
    split at h
    · rename_i s hs; exact ⟨c, s, hc, hs, h⟩
    all_goals cases h
  all_goals cases h

/-- whole model: the result `e` of the load is a fixed point of `Normalize`, outcome included, and is `Normalize` of some `s`
that `SetDefaultValues` leaves alone; some `c` is left alone by `Canonical` (the statement does not tie `c` to `d` or `s`:
the stage results themselves are `pipeline_stages`).  That `e` is a fixed point of all three stages is `pipeline_fixed_point`
(`Props/C11Lift.lean`). -/
theorem pipeline_stage_fixed_points (clean : String → String) (hclean : ∀ s, clean (clean s) = clean s)
    (env : Env) (henv : envLookup env "" = none) (d e : KVs)
    (h : pipeline CV.Gen.defaultValues clean env d = .ok e) :
    ∃ c s, canonicalLite c = .ok (.map c) ∧ setDefaultValues CV.Gen.defaultValues s = .ok (.map s) ∧
      normalize clean env e = .ok e ∧ normalize clean env s = .ok e := by
  obtain ⟨c, s, h1, h2, h3⟩ := pipeline_stages _ clean env d e h
  obtain ⟨c', hc', hcc⟩ := canonicalLite_idem d _ h1
  cases hc'
  exact ⟨c, s, hcc, setDefaultValues_idempotent c s h2, normalize_fixed_point clean hclean env henv s e h3, h3⟩

end CV.C11
