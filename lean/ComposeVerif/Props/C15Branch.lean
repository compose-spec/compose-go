import ComposeVerif.Props.C15Load
import ComposeVerif.Props.C15Comp
/-!
# C15 — branching histories

`run` is a linear history: every operation goes to the newest project.  Callers of the library do not work like that: they
keep a loaded project and derive several selections from the SAME receiver.  `tree` is that usage in the model: every value
ever produced is kept, each step names the EARLIER value it is applied to.

The model's operations are functions `Proj → Op → Out` on values: there is no shared state they could communicate through.
That is what the theorems below say, and it is exactly what the real operations promise by starting with `deepCopy`: a value,
once produced, is never changed by a later step, and every value of a branching history is the result of a LINEAR history from
the root (so `partition_inv`, `history_conserved`, `load_then_history` speak about branching histories as well).

The real heap is where this can fail (a "deep" copy that shares a map): stream `c15branch` runs `tree` on the real methods,
keeps all values, and after every step compares every value with the observation taken when it was produced.
-/
namespace CV.Sel

/-- one step of a branching history: apply `op` to the value number `on` (modulo the number of values so far) -/
structure BStep where
  on : Nat
  op : Op
deriving Repr, Inhabited

/-- a branching history: a successful step appends its result, a failing one ("no such service") appends nothing -/
def tree (vals : List Proj) : List BStep → List Proj
  | [] => vals
  | s :: ss =>
    match vals[s.on % vals.length]? with
    | some p =>
      match applyOp p s.op with
      | .ok q => tree (vals ++ [q]) ss
      | _ => tree vals ss
    | none => tree vals ss

/-- **no step changes a value that exists already** (receiver, its ancestors, its other descendants) -/
theorem tree_keeps_values (steps : List BStep) (vals : List Proj) {i : Nat} (h : i < vals.length) :
    (tree vals steps)[i]? = vals[i]? := by
  induction steps generalizing vals with
  | nil => rfl
  | cons s ss ih =>
    unfold tree
    split
    · split
      · rw [ih (vals ++ [_]) (by simp; omega), List.getElem?_append_left h]
      · exact ih vals h
    · exact ih vals h

theorem tree_inv (Q : Proj → Prop) (step : ∀ p o q, Q p → applyOp p o = .ok q → Q q) (steps : List BStep) (vals : List Proj)
    (h : ∀ v ∈ vals, Q v) : ∀ v ∈ tree vals steps, Q v := by
  induction steps generalizing vals with
  | nil => exact h
  | cons s ss ih =>
    unfold tree
    split
    · rename_i p hp
      split
      · rename_i q hq
        refine ih _ fun v hv => ?_
        rcases List.mem_append.1 hv with hv | hv
        · exact h v hv
        · rw [List.mem_singleton.1 hv]; exact step p s.op q (h p (List.mem_of_getElem? hp)) hq
      · exact ih vals h
    · exact ih vals h

/-- **branching adds nothing**: every value of a branching history from `p` is `run p ops` for a linear history `ops` -/
theorem tree_is_paths (p : Proj) (steps : List BStep) : ∀ v ∈ tree [p] steps, ∃ ops, v = run p ops :=
  tree_inv (fun v => ∃ ops, v = run p ops)
    (fun r o q ⟨ops, e⟩ hq => ⟨ops ++ [o], (run_snoc_ok ops o (e ▸ hq)).symm⟩) steps [p]
    (fun v hv => ⟨[], by rw [List.mem_singleton.1 hv]; rfl⟩)

/-- the partition invariant on every value of every branching history -/
theorem tree_good {p : Proj} (g : Good p) (steps : List BStep) : ∀ v ∈ tree [p] steps, Good v := fun v hv => by
  obtain ⟨ops, e⟩ := tree_is_paths p steps v hv
  exact e ▸ (partition_inv g ops).1

/-- `Services` and `DisabledServices` partition exactly the root's services in every value of every branching history -/
theorem tree_conserved {p : Proj} (g : Good p) (steps : List BStep) : ∀ v ∈ tree [p] steps, Conserved p v := fun v hv => by
  obtain ⟨ops, e⟩ := tree_is_paths p steps v hv
  exact e ▸ history_conserved g ops

/-- the loader first, then any branching history: every value partitions exactly the declared services -/
theorem load_then_tree {p0 : Proj} (l : Loadable p0) (P : List String) (sc sr : Bool) {q : Proj}
    (hq : loadApply p0 P sc sr = .ok q) (steps : List BStep) :
    ∀ v ∈ tree [q] steps, Partition v ∧ SameSet (known v) (keys p0.services) ∧ ProfilesOK v ∧ Conserved p0 v := fun v hv => by
  obtain ⟨ops, e⟩ := tree_is_paths q steps v hv
  exact e ▸ load_then_history l P sc sr hq ops

/-- non-vacuity: a fork — two different operations on the same receiver give two further values, the receiver stays first -/
example : (tree [fastPathProj] [⟨0, .disable ["a"]⟩, ⟨0, .profiles ["*"]⟩]).length = 3 ∧
    (tree [fastPathProj] [⟨0, .disable ["a"]⟩, ⟨0, .profiles ["*"]⟩])[0]? = some fastPathProj := by decide +kernel

end CV.Sel
