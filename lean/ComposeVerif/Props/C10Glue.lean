import ComposeVerif.Props.C10
import ComposeVerif.Props.C10Validate
import ComposeVerif.Lemmas.ConsistencyGlue
/-!
# C10 — the glue around the two checks: option guards, option copies of `include` / `extends`, composition

`Props/C10Validate.lean` and `Props/C10.lean` prove what `validation.Validate` and `checkConsistency` decide.  The property speaks about a *load*
("whenever loading succeeds with consistency checks on …, conversely a model that breaks a rule fails to load"): this
module composes the two stage theorems through the code that decides **whether** each check runs
(Model/ConsistencyGlue.lean), and pins that code to the source.
-/
namespace CV.Consistency.Glue
open CV CV.Consistency CV.Validate

/-! ## tie to the source: the guards, the call sites and the option copies are the modelled ones -/

/-- each check is called exactly once in the load pipeline, each under exactly the modelled option, and in the
modelled function (`validation.Validate` at the end of `loadYamlModel`, i.e. on the merge result of all files;
`checkConsistency` in `modelToProject`) — an added unguarded call, a dropped call or a changed condition changes a
regenerated fact and breaks this theorem -/
theorem check_guards_are_source :
    CV.Gen.c10_checkGuards =
      [("loadYamlModel", "!opts.SkipValidation", ["validation.Validate"]),
       ("loadYamlFile", "!opts.SkipValidation", ["schema.Validate"]),
       ("modelToProject", "!opts.SkipConsistencyCheck", ["checkConsistency"])] ∧
    CV.Gen.c10_checkCalls =
      ["loadYamlModel:validation.Validate", "loadYamlFile:schema.Validate", "modelToProject:checkConsistency"] :=
  ⟨rfl, rfl⟩

/-- the options an included project / the file of an `extends` base are loaded with: a `clone()` followed by exactly
the modelled boolean writes, and `clone` copies the fields the model says it copies -/
theorem option_copies_are_source :
    CV.Gen.c10_includeOptWrites = ("options.clone()", includeWrites) ∧
    CV.Gen.c10_extendsOptWrites = ("opts.clone()", extendsWrites) ∧
    CV.Gen.c10_body_clone =
      "{ return &Options{ SkipValidation: o.SkipValidation, SkipInterpolation: o.SkipInterpolation, SkipNormalization: o.SkipNormalization, ResolvePaths: o.ResolvePaths, ConvertWindowsPaths: o.ConvertWindowsPaths, SkipConsistencyCheck: o.SkipConsistencyCheck, SkipExtends: o.SkipExtends, SkipInclude: o.SkipInclude, SkipResolveEnvironment: o.SkipResolveEnvironment, SkipDefaultValues: o.SkipDefaultValues, Interpolate: o.Interpolate, discardEnvFiles: o.discardEnvFiles, projectName: o.projectName, projectNameImperativelySet: o.projectNameImperativelySet, Profiles: o.Profiles, ResourceLoaders: o.ResourceLoaders, KnownExtensions: o.KnownExtensions, Listeners: o.Listeners, } }" :=
  ⟨rfl, rfl, rfl⟩

theorem extendsOpts_eq (o : Opts) :
    extendsOpts o = { skipValidation := true, skipNormalization := true, resolvePaths := false,
                      skipConsistencyCheck := true, skipExtends := true, skipInclude := true, skipDefaultValues := true } := by
  simp [extendsOpts, extendsWrites, applyWrite, clone, List.foldl]

/-- **an included project keeps the caller's structural validation and never runs the consistency check on its own;
the file of an `extends` base runs neither** ("we validate the merge result") -/
theorem copies_keep_structural_drop_consistency (o : Opts) :
    (includeOpts o).skipValidation = o.skipValidation ∧ (includeOpts o).skipConsistencyCheck = true ∧
    (extendsOpts o).skipValidation = true ∧ (extendsOpts o).skipConsistencyCheck = true := by
  rw [includeOpts_eq, extendsOpts_eq]; exact ⟨rfl, rfl, rfl, rfl⟩

/-- nesting changes nothing: a project included by an included project, and an `extends` base reached from an included
project, are loaded with the same options as at the first level (the copies are taken from copies) -/
theorem includeOpts_idem (o : Opts) : includeOpts (includeOpts o) = includeOpts o := by
  rw [includeOpts_eq (includeOpts o), includeOpts_eq o]

theorem extendsOpts_const (o o' : Opts) : extendsOpts o = extendsOpts o' := by
  rw [extendsOpts_eq, extendsOpts_eq]

/-- which checks a model goes through by itself, per role -/
theorem checksRun_spec (o : Opts) :
    checksRun o .main = (if o.skipValidation then [] else [Check.structural]) ++
                        (if o.skipConsistencyCheck then [] else [Check.consistency]) ∧
    checksRun o .included = (if o.skipValidation then [] else [Check.structural]) ∧
    checksRun o .extended = [] := by
  refine ⟨?_, ?_, ?_⟩
  · cases h1 : o.skipValidation <;> cases h2 : o.skipConsistencyCheck <;>
      simp [checksRun, optsFor, reachesValidate, reachesConsistency, h1, h2]
  · cases h1 : o.skipValidation <;>
      simp [checksRun, optsFor, reachesValidate, reachesConsistency, includeOpts_eq, h1]
  · simp [checksRun, optsFor, reachesValidate, reachesConsistency]

theorem checksRun_default : checksRun {} .main = [.structural, .consistency] := by decide

def ChecksOn (o : Opts) : Prop := o.skipValidation = false ∧ o.skipConsistencyCheck = false

/-- **accepted ⇔ valid and consistent**: with both checks on the two guarded stages let a model through iff the merged
tree passes every structural rule *and* the typed project satisfies the whole specification — every tree, every
project, every iteration order -/
theorem mainChecks_ok_iff (o : Opts) (ho : ChecksOn o) (t : Val) (p : Proj) (hnd : p.enabled.Nodup) :
    (∃ p', mainChecks o t p = .ok p') ↔ ValidTree t ∧ ConsistentFull p := by
  rw [← validate_iff, ← checkConsistency_iff p hnd]
  simp [mainChecks_eq_ok_iff, structuralStage_on ho.1, consistencyStage_ok_iff ho.2]

/-- **accepted ⇒ the project handed on is consistent** (it is the input with `deploy.replicas` aligned with `scale`) -/
theorem mainChecks_returns_consistent (o : Opts) (ho : ChecksOn o) (t : Val) (p p' : Proj) (hnd : p.enabled.Nodup)
    (h : mainChecks o t p = .ok p') : p' = postState p ∧ ValidTree t ∧ ConsistentFull p' ∧ Consistent p' := by
  obtain ⟨hs, hcs⟩ := mainChecks_eq_ok_iff.mp h
  obtain ⟨hc, rfl⟩ := (consistencyStage_ok_iff ho.2).mp hcs
  have := accepted_returned_consistent p hnd hc
  exact ⟨rfl, (validate_iff t).mp ((structuralStage_on ho.1 t).symm.trans hs), this, this.consistent⟩

/-- **conversely: a structural violation anywhere in the merged tree, or any broken rule / unsourced secret / cycle in
the project, makes the load fail** -/
theorem mainChecks_rejects (o : Opts) (ho : ChecksOn o) (t : Val) (p : Proj) (hnd : p.enabled.Nodup)
    (hbad : ¬ ValidTree t ∨ ¬ ConsistentFull p) : ∀ p', mainChecks o t p ≠ .ok p' := fun p' h =>
  have := (mainChecks_ok_iff o ho t p hnd).mp ⟨p', h⟩
  hbad.elim (· this.1) (· this.2)

/-- the structural check comes first: its error is the one reported, whatever the project looks like -/
theorem mainChecks_structural_first (o : Opts) (h1 : o.skipValidation = false) (t : Val) (p : Proj) (c : VErr)
    (hv : validate t = .err c) : mainChecks o t p = .structural c := by
  simp [mainChecks, structuralStage_on h1, hv]

/-- a consistency error is reported only for a tree that passed the structural rules -/
theorem mainChecks_consistency_after_structural (o : Opts) (h1 : o.skipValidation = false) (t : Val) (p : Proj) (e : Err)
    (h : mainChecks o t p = .consistency e) : ValidTree t ∧ checkConsistency p = some e := by
  rw [mainChecks, structuralStage_on h1] at h
  cases hv : validate t <;> rw [hv] at h <;> try cases h
  exact ⟨(validate_iff t).mp hv, (consistencyStage_consistency_iff.mp h).2⟩

/-! ## the options are honoured: a skipped check neither rejects nor writes -/

/-- with the consistency check skipped the project is handed on untouched (no `deploy.replicas` write), unless the
structural stage fails -/
theorem skipConsistency_frame (o : Opts) (h2 : o.skipConsistencyCheck = true) (t : Val) (p : Proj) :
    mainChecks o t p = .ok p ∨ (∃ c, mainChecks o t p = .structural c) ∨ (∃ s, mainChecks o t p = .panic s) := by
  unfold mainChecks consistencyStage
  rw [h2]
  cases structuralStage o t with
  | ok => exact .inl rfl
  | err c => exact .inr (.inl ⟨c, rfl⟩)
  | panic s => exact .inr (.inr ⟨s, rfl⟩)

theorem skipped_checks_accept (o : Opts) (h1 : o.skipValidation = true) (h2 : o.skipConsistencyCheck = true)
    (t : Val) (p : Proj) : mainChecks o t p = .ok p :=
  (mainChecks_of_structural_ok (structuralStage_off h1 t) p).trans (consistencyStage_off h2 p)

theorem skipValidation_only_consistency (o : Opts) (h1 : o.skipValidation = true) (t : Val) (p : Proj) :
    mainChecks o t p = consistencyStage o p :=
  mainChecks_of_structural_ok (structuralStage_off h1 t) p

/-- **a structural violation that lies wholly inside an included project is rejected when that project is loaded**
(the copy of the options keeps `SkipValidation`), before it is merged into the including model -/
theorem includedChecks_iff (o : Opts) (h1 : o.skipValidation = false) (t : Val) :
    includedChecks o t = .ok ↔ ValidTree t := by
  rw [includedChecks_on h1]
  exact validate_iff t

theorem included_violation_rejected (o : Opts) (h1 : o.skipValidation = false) (t : Val) (hbad : ¬ ValidTree t) :
    includedChecks o t ≠ .ok := fun h => hbad ((includedChecks_iff o h1 t).mp h)

theorem loadWithIncludes_nil (o : Opts) (t : Val) (p : Proj) : loadWithIncludes o [] t p = mainChecks o t p := rfl

theorem loadWithIncludes_eq_ok_iff (o : Opts) (incs : List Val) (t : Val) (p p' : Proj) :
    loadWithIncludes o incs t p = .ok p' ↔ (∀ i ∈ incs, includedChecks o i = .ok) ∧ mainChecks o t p = .ok p' := by
  induction incs with
  | nil => simp [loadWithIncludes_nil]
  | cons i r ih =>
    rw [loadWithIncludes_cons, List.forall_mem_cons, and_assoc, ← ih, incFail]
    cases includedChecks o i <;> simp

/-- **accepted ⇔ every included project is structurally valid on its own, the merge result is valid, and the project is
consistent** (both checks on) -/
theorem loadWithIncludes_ok_iff (o : Opts) (ho : ChecksOn o) (incs : List Val) (t : Val) (p : Proj) (hnd : p.enabled.Nodup) :
    (∃ p', loadWithIncludes o incs t p = .ok p') ↔ (∀ i ∈ incs, ValidTree i) ∧ ValidTree t ∧ ConsistentFull p := by
  simp only [loadWithIncludes_eq_ok_iff, includedChecks_iff o ho.1, exists_and_left, mainChecks_ok_iff o ho t p hnd]

/-- **a structural violation inside an included project cannot be repaired by the including project**: whatever the
merge result `t` looks like (an override of the including project may have removed the offending attribute with
`!reset`) and whatever the project, the load fails -/
theorem included_violation_not_repairable (o : Opts) (h1 : o.skipValidation = false) (incs : List Val) (i : Val)
    (hi : i ∈ incs) (hbad : ¬ ValidTree i) (t : Val) (p p' : Proj) : loadWithIncludes o incs t p ≠ .ok p' :=
  fun h => included_violation_rejected o h1 i hbad (((loadWithIncludes_eq_ok_iff ..).mp h).1 i hi)

/-! ## outcome classes (what the stream `c10.glue` compares with whole loads) -/

def vcls : VOut → String
  | .ok => "ok" | .err _ => "structural" | .panic _ => "panic"
def ccls : Option Err → String
  | none => "ok" | some _ => "consistency"
def Out.cls : Out → String
  | .ok _ => "ok" | .structural _ => "structural" | .consistency _ => "consistency" | .panic _ => "panic"

/-- the class of the composed outcome is the first failure of the classes of the two stages taken alone, each under
its option — for every option record, tree and project -/
theorem mainChecks_cls (o : Opts) (t : Val) (p : Proj) :
    (mainChecks o t p).cls = combine o (vcls (validate t)) (ccls (checkConsistency p)) := by
  unfold mainChecks structuralStage consistencyStage combine
  cases h1 : o.skipValidation <;> cases h2 : o.skipConsistencyCheck <;> cases hv : validate t <;>
    cases hc : checkConsistency p <;> simp [vcls, ccls, Out.cls]

theorem combine_ok_iff (o : Opts) (v c : String) :
    combine o v c = "ok" ↔ (o.skipValidation = true ∨ v = "ok") ∧ (o.skipConsistencyCheck = true ∨ c = "ok") := by
  unfold combine
  cases h1 : o.skipValidation <;> cases h2 : o.skipConsistencyCheck <;> by_cases hv : v = "ok" <;> by_cases hc : c = "ok" <;>
    simp [hv, hc]

theorem loadWithIncludes_cls (o : Opts) (incs : List Val) (t : Val) (p : Proj) :
    (loadWithIncludes o incs t p).cls =
      combineIncl o (incs.map fun i => vcls (validate i)) (vcls (validate t)) (ccls (checkConsistency p)) := by
  induction incs with
  | nil => exact mainChecks_cls o t p
  | cons i r ih =>
    rw [loadWithIncludes_cons, List.map_cons, combineIncl_cons, incFail_eq, (copies_keep_structural_drop_consistency o).1]
    cases o.skipValidation <;> cases validate i <;> simp [vcls, ih] <;> rfl

/-! ## non-vacuity -/

def twoSources : Val := .map [("secrets", .map [("s", .map [("file", .str "f"), ("environment", .str "E")])])]
def twoSources' : Val := .map [("secrets", .map [("s", .map [("file", .str "f"), ("environment", .str "E")])])]

theorem validate_twoSources : validate twoSources = .err .exclusive := by decide +kernel

theorem mainChecks_example : mainChecks {} Validate.exampleTree exampleProj = .ok (postState exampleProj) :=
  (mainChecks_of_structural_ok ((structuralStage_on rfl _).trans validate_exampleTree) _).trans
    (consistencyStage_accept rfl checkConsistency_exampleProj)

/-- the included project declares a secret with two sources; an override of the including project removed one with
`!reset`, so the merge result (`exampleTree`) is valid — the load fails all the same; declared in the main file it loads -/
theorem load_example_included_violation :
    loadWithIncludes {} [twoSources'] Validate.exampleTree exampleProj = .structural .exclusive := by
  rw [loadWithIncludes_cons, incFail_of_validate rfl (i := twoSources') validate_twoSources]

example : loadWithIncludes {} [twoSources'] Validate.exampleTree exampleProj = .structural .exclusive :=
  load_example_included_violation
example : loadWithIncludes {} [] Validate.exampleTree exampleProj = .ok (postState exampleProj) := mainChecks_example
example : loadWithIncludes { skipValidation := true } [twoSources'] Validate.exampleTree exampleProj = .ok (postState exampleProj) := by
  rw [loadWithIncludes_cons, incFail_off rfl, loadWithIncludes_nil, skipValidation_only_consistency _ rfl]
  exact consistencyStage_accept rfl checkConsistency_exampleProj

example : ChecksOn {} := ⟨rfl, rfl⟩
example : mainChecks {} Validate.exampleTree exampleProj = .ok (postState exampleProj) := mainChecks_example
example : ∃ p', mainChecks {} Validate.exampleTree exampleProj = .ok p' :=
  (mainChecks_ok_iff {} ⟨rfl, rfl⟩ _ _ exampleProj_nodup).mpr
    ⟨(validate_iff _).mp validate_exampleTree, consistentFull_exampleProj⟩
/-- a dangling network is rejected with the checks on, let through (unchanged) with the consistency check skipped -/
example : mainChecks {} Validate.exampleTree danglingProj = .consistency .undefinedNetwork :=
  (mainChecks_of_structural_ok ((structuralStage_on rfl _).trans validate_exampleTree) _).trans
    (consistencyStage_reject rfl checkConsistency_danglingProj)
example : mainChecks { skipConsistencyCheck := true } Validate.exampleTree danglingProj = .ok danglingProj :=
  (mainChecks_of_structural_ok ((structuralStage_on rfl _).trans validate_exampleTree) _).trans
    (consistencyStage_off rfl _)
/-- a secret with two sources: structural error first; with validation skipped the consistency check alone decides -/
example : mainChecks {} twoSources danglingProj = .structural .exclusive :=
  mainChecks_structural_first _ rfl _ _ _ validate_twoSources
example : mainChecks { skipValidation := true } twoSources danglingProj = .consistency .undefinedNetwork :=
  (skipValidation_only_consistency _ rfl _ _).trans (consistencyStage_reject rfl checkConsistency_danglingProj)
example : includedChecks {} twoSources = .err .exclusive := (includedChecks_on rfl _).trans validate_twoSources
example : includedChecks { skipValidation := true } twoSources = .ok := includedChecks_off rfl _
example : (includeOpts {}).skipConsistencyCheck = true ∧ (includeOpts {}).skipValidation = false :=
  ⟨(copies_keep_structural_drop_consistency {}).2.1, (copies_keep_structural_drop_consistency {}).1⟩
example : checksRun {} .included = [.structural] ∧ checksRun {} .extended = [] := (checksRun_spec {}).2

end CV.Consistency.Glue
