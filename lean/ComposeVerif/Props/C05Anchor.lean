import ComposeVerif.Props.C05Cycle
import ComposeVerif.Props.C05Fuel
import ComposeVerif.Model.ExtendsFS
import ComposeVerif.Props.C12
/-!
# C05 — path anchoring across files, and the file-system parameter discharged for canonical base files

"Relative paths inherited from a base in another file resolve against that file's directory."

The model's file-system parameter holds, for a base file already in canonical form, `anchoredFile R doc` = C12's model
of `paths.ResolveRelativePaths` run with the directory `R` of *that file* (relative to the project directory) — tied to
the real `getExtendsBaseFromFile` by the `c05.base` stream.  Here:

* every element of a chain of any length, through any number of files, that is attributed to file `f` is a service of
  the document of `f` **resolved against `f`'s own directory** (`chain_elements_anchored`);
* the project-level resolution that runs later over the merged model (against the project directory `W`) turns a base
  file's paths into paths under `Join(W, R)` — the file's directory — by C12's `resolve_compose_tree`
  (`inherited_paths_resolve_against_base_dir`);
* loading such a file never panics (C12's `resolve_never_panics`), so with the real merge step `PanicFree` holds
  outright and `ApplyExtends` returns a result or an error for every document and visit order
  (`applyExtends_ok_or_err_anchored`).
-/
namespace CV.Extends
open CV CV.Val

/-- the entry is a document — resolved, or flagged "failed"; the resolver does not panic (C12) -/
theorem anchoredFileAt_cases (pc : CV.Paths.Cfg) (d : KVs) :
    ∃ d' e, anchoredFileAt pc d = .ok d' e ∧ (e = false → CV.Paths.resolve pc (.map d) = .ok (.map d')) := by
  unfold anchoredFileAt
  split
  · exact ⟨_, false, rfl, fun _ => ‹_›⟩
  · exact ⟨d, true, rfl, nofun⟩
  · exact ⟨d, true, rfl, nofun⟩
  · exact absurd ‹_› (CV.Paths.resolve_never_panics _ _ _)

theorem fsLookup_anchoredFS {files : List (String × String × KVs)} {f : String} {r : FileRes}
    (h : fsLookup f (anchoredFS files) = some r) :
    ∃ relDir doc, (f, relDir, doc) ∈ files ∧ r = anchoredFile relDir doc :=
  let ⟨⟨relDir, doc⟩, hm, hr⟩ := fsLookup_map (fun q : String × KVs => anchoredFile q.1 q.2) (l := files) h
  ⟨relDir, doc, hm, hr⟩

theorem fileServices_anchored {files : List (String × String × KVs)} {f : String} {S' : KVs}
    (h : fileServices (anchoredFS files) f = some S') :
    ∃ relDir doc d, (f, relDir, doc) ∈ files ∧
      CV.Paths.resolve { wd := relDir.toList, home := none } (.map doc) = .ok (.map d) ∧
      lookup "services" d = some (.map S') := by
  obtain ⟨d, hd, hs⟩ := fileServices_inv h
  obtain ⟨relDir, doc, hm, hr⟩ := fsLookup_anchoredFS hd
  obtain ⟨d', e, he, hres⟩ := anchoredFileAt_cases { wd := relDir.toList, home := none } doc
  cases hr.trans he
  exact ⟨relDir, doc, d, hm, hres rfl, hs⟩

/-- **anchoring along a chain of any length**: in an environment whose files are canonical documents anchored at their
own directories, every element of a chain (the extending services and the last base) is either a service of the mapping
the chain started in, or a service of the document of the file it is attributed to, resolved against *that file's*
directory — never against the directory of the file that referred to it, nor the project directory -/
theorem chain_elements_anchored {mainFile : String} {files : List (String × String × KVs)} {extend : KVs → KVs → Out KVs}
    {cf : String} {S : KVs} {n : String} {links : List ChainElt} {leaf : ChainElt}
    (h : Chain ⟨mainFile, anchoredFS files, extend⟩ cf S n links leaf) :
    ∀ x ∈ links ++ [leaf], (x.1 = cf ∧ lookup x.2.1 S = some (.map x.2.2)) ∨
      (∃ relDir doc d S', (x.1, relDir, doc) ∈ files ∧
        CV.Paths.resolve { wd := relDir.toList, home := none } (.map doc) = .ok (.map d) ∧
        lookup "services" d = some (.map S') ∧ lookup x.2.1 S' = some (.map x.2.2)) := by
  intro x hx
  rcases h.elt_source x hx with hl | ⟨S', hfs, hl⟩
  · exact Or.inl hl
  · obtain ⟨relDir, doc, d, hm, hr, hs⟩ := fileServices_anchored hfs
    exact Or.inr ⟨relDir, doc, d, S', hm, hr, hs, hl⟩

/-- **inherited paths end up under the base file's directory.**  The document of a base file stored in the relative
directory `R` enters the merge resolved against `R`; the resolution of the merged model against the project directory
`W` then gives, on that document, exactly the resolution against `Join(W, R)` — the base file's own directory —
(C12 `resolve_compose_tree`: same tree, same error) -/
theorem inherited_paths_resolve_against_base_dir (W : CV.Str) (R : String) (doc d : KVs)
    (hW : W ≠ []) (hR : R.toList ≠ []) (hRr : CV.Paths.isAbs R.toList = false)
    (h : anchoredFile R doc = .ok d false) :
    CV.Paths.resolve ⟨W, none, fun _ => false, some⟩ (.map d) =
      CV.Paths.resolve ⟨CV.Paths.join W R.toList, none, fun _ => false, some⟩ (.map doc) := by
  obtain ⟨d', e, he, hres⟩ := anchoredFileAt_cases { wd := R.toList, home := none } doc
  cases h.symm.trans he
  exact CV.Paths.resolve_compose_tree none W R.toList hW hR hRr (fun _ hh => by cases hh) _ _ (hres rfl)

/-- loading a canonical base file never panics (C12: no resolver panics) -/
theorem anchoredFS_never_panics (files : List (String × String × KVs)) (f s : String) :
    ¬ fsPanics (anchoredFS files) f s := by
  intro ⟨r, h1, h2⟩
  obtain ⟨relDir, doc, _, rfl⟩ := fsLookup_anchoredFS h1
  obtain ⟨d', e, he, _⟩ := anchoredFileAt_cases { wd := relDir.toList, home := none } doc
  rw [anchoredFile_eq_at, he] at h2
  cases h2

/-- **`PanicFree` discharged**: real merge step (C04) + canonical base files anchored by C12's resolver -/
theorem anchoredEnv_panicFree (mainFile : String) (files : List (String × String × KVs)) :
    PanicFree (realEnv mainFile (anchoredFS files)) :=
  realEnv_panicFree mainFile _ (anchoredFS_never_panics files)

/-- real merge step, canonical base files: no hypothesis on the environment is left -/
theorem applyExtends_ok_or_err_anchored (mainFile : String) (files : List (String × String × KVs))
    {order : List String} {dict : KVs}
    (hord : ∀ S, lookup "services" dict = some (.map S) → Visits order S) :
    (∃ out, applyExtendsOrd (realEnv mainFile (anchoredFS files)) order dict = .ok out) ∨
      ∃ c, applyExtendsOrd (realEnv mainFile (anchoredFS files)) order dict = .err c :=
  applyExtends_ok_or_err (anchoredEnv_panicFree mainFile files) hord

/-- an anchored file never yields the class `circular` (its entry is a document, never a load error) -/
theorem anchoredFS_not_circular (files : List (String × String × KVs)) (f : String) :
    fsLookup f (anchoredFS files) ≠ some (.err "circular") := by
  intro h
  obtain ⟨relDir, doc, _, hr⟩ := fsLookup_anchoredFS h
  obtain ⟨d', e, he, _⟩ := anchoredFileAt_cases { wd := relDir.toList, home := none } doc
  cases hr.trans he

/-- **the outcome read off the link walk, for real loads of canonical files**: real merge step, files anchored by C12's
resolver — `FuelFree` / `PanicFree` are discharged, what remains are statements about the *documents*: `hmain`, no `null`
service, merges along chains succeed -/
theorem applyExtends_outcome_by_walk_anchored (mainFile : String) (files : List (String × String × KVs))
    {order : List String} {dict S : KVs}
    (hS : lookup "services" dict = some (.map S)) (hnn : NoNull S)
    (hfs : NoNullFS (realEnv mainFile (anchoredFS files)))
    (hmain : fileServices (anchoredFS files) mainFile = none) (hord : Visits order S)
    (fuel : Nat) (hfuel : (keyUniverse (realEnv mainFile (anchoredFS files)) S).length + 1 ≤ fuel)
    (hfold : ∀ n links leaf, Chain (realEnv mainFile (anchoredFS files)) mainFile S n links leaf →
      ∃ m, foldChain (realEnv mainFile (anchoredFS files)) leaf.2.2 links = .ok m) :
    ((∀ n, lookup n S ≠ none → walkChain (realEnv mainFile (anchoredFS files)) fuel S n = .leaf) →
      ∃ out, applyExtendsOrd (realEnv mainFile (anchoredFS files)) order dict = .ok out) ∧
    ((∀ n, lookup n S ≠ none → walkChain (realEnv mainFile (anchoredFS files)) fuel S n ≠ .stuck) →
      (∃ n, lookup n S ≠ none ∧ walkChain (realEnv mainFile (anchoredFS files)) fuel S n = .long) →
      applyExtendsOrd (realEnv mainFile (anchoredFS files)) order dict = .err "circular") ∧
    ((∃ n, lookup n S ≠ none ∧ walkChain (realEnv mainFile (anchoredFS files)) fuel S n = .stuck) →
      ∀ out, applyExtendsOrd (realEnv mainFile (anchoredFS files)) order dict ≠ .ok out) :=
  applyExtends_outcome_by_walk (anchoredEnv_panicFree mainFile files).fuelFree hS hnn hfs hmain hord fuel hfuel hfold

theorem cycle_is_circular_anchored (mainFile : String) (files : List (String × String × KVs))
    {order : List String} {dict S : KVs}
    (hS : lookup "services" dict = some (.map S))
    (hmain : fileServices (anchoredFS files) mainFile = none) (hord : Visits order S)
    (hall : ∀ n, lookup n S ≠ none → (∃ v, Flat (realEnv mainFile (anchoredFS files)) S n v) ∨
      Cyclic (realEnv mainFile (anchoredFS files)) (S, n))
    (hc : ∃ n, lookup n S ≠ none ∧ Cyclic (realEnv mainFile (anchoredFS files)) (S, n)) :
    applyExtendsOrd (realEnv mainFile (anchoredFS files)) order dict = .err "circular" :=
  cycle_is_circular (anchoredEnv_panicFree mainFile files).fuelFree hS hmain hord hall hc

/-- cycle detection is sound through canonical files (`anchoredFS`): `NoCircularEnv` is discharged, no environment hypothesis is left -/
theorem circular_sound_anchored (mainFile : String) (files : List (String × String × KVs))
    {order : List String} {dict S : KVs}
    (hS : lookup "services" dict = some (.map S)) (hnn : NoNull S)
    (hfs : NoNullFS (realEnv mainFile (anchoredFS files)))
    (hmain : fileServices (anchoredFS files) mainFile = none) (hord : Visits order S)
    (h : applyExtendsOrd (realEnv mainFile (anchoredFS files)) order dict = .err "circular") :
    ∃ n, n ∈ order ∧ Cyclic (realEnv mainFile (anchoredFS files)) (S, n) :=
  circular_sound (realEnv_noCircular _ _ (anchoredFS_not_circular files)) hS hnn hfs hmain hord h

theorem fuel_irrelevant_anchored (mainFile : String) (files : List (String × String × KVs))
    {order : List String} {S : KVs} (hord : Visits order S) (fuel : Nat)
    (hf : fuelFor (realEnv mainFile (anchoredFS files)) S ≤ fuel) :
    applyAll (realEnv mainFile (anchoredFS files)) fuel order S =
      applyAll (realEnv mainFile (anchoredFS files)) (fuelFor (realEnv mainFile (anchoredFS files)) S) order S :=
  fuel_irrelevant (anchoredEnv_panicFree mainFile files).fuelFree hord fuel hf

/-! ### non-vacuity: a base file in `sub/` (that `anchoredFile "sub" doc` is `.ok d false` with `env_file: [{path: e.env}]`
turned into `sub/e.env` is what the driver computes and the `c05.base` stream compares with the real
`getExtendsBaseFromFile`; the kernel cannot unfold the string primitives inside `resolve`, so only the side
conditions are shown here) -/

example : ("sub".toList ≠ []) ∧ CV.Paths.isAbs "sub".toList = false ∧ (['/', 'w'] : CV.Str) ≠ [] := by decide

end CV.Extends
