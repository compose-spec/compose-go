import ComposeVerif.Props.C12
import ComposeVerif.Props.C12Origin
import ComposeVerif.Lemmas.PathsRows
/-!
# C12 — loaded values and resolved trees against the specification

`Props/C12.lean` proves that ONE resolution meets the specification (`model_meets_spec`); `Props/C12Origin.lean` proves
that the staged resolution the loader performs for an origin is ONE resolution against the origin's directory.  Composed:
the value of a path attribute in the loaded project — `predict`, tied to the real loader on every load of `c12.load` —
is what the property's short specification `Spec.expected?` says, with the directory the property names as the base,
for include chains of every depth.  Then the two consequences about results: a loaded value is a fixpoint of any further
resolution, and every string row of a resolved tree is absolute or exempt.  (The clause about `Pipeline.load` is
`Props/C12Pipeline.lean`.)
-/
namespace CV.Paths
open CV.Paths.Spec

/-- the attribute kinds of `predict` / `resolveKind` (0 env/label/watch paths, 1 build contexts, ≥ 2 mount sources,
secret/config files, bind devices) as kinds of the specification -/
def kindOf : Nat → Kind
  | 0 => .localPath
  | 1 => .context
  | _ => .mount

theorem resolveKind_is_resolveStr (k : Nat) (cfg : Cfg) (s : Str) : resolveKind k cfg s = resolveStr (kindOf k) cfg s := by
  match k with
  | 0 => rfl
  | 1 => rfl
  | _ + 2 => rfl

/-- **main file, included files at any depth**: whatever the specification prescribes for the attribute value `s` with
the directory of the (innermost) file as base — absolute / remote / Windows-absolute left as written, `~` expanded,
a relative value joined with that directory — is the value in the loaded project (`ps = []`: the main files, base =
project directory) -/
theorem include_chain_meets_spec (k : Nat) (cfg : Cfg) (isDir : Str → Bool) (ps : List Str) (s r : Str)
    (hW : isAbs cfg.wd = true) (hok : InclOK isDir (fun _ => True) cfg.wd ps)
    (hhome : ∀ h, cfg.home = some h → h ≠ [])
    (h : expected? (kindOf k) (inclDir id cfg.wd ps) cfg.home cfg.remote s = some r) :
    predict k cfg isDir (inclSteps ps) true s = .ok r := by
  rw [include_chain_origin k cfg isDir ps s hW hok hhome, resolveKind_is_resolveStr]
  exact model_meets_spec (kindOf k) { cfg with wd := inclDir id cfg.wd ps } s r h

/-- **attributes inherited through `extends.file: f`** written in the main file (`ps = []`) or in an included file at any
depth: the base is the directory part of `f` taken from the directory of the file that says `extends` -/
theorem include_chain_extends_meets_spec (k : Nat) (cfg : Cfg) (isDir : Str → Bool) (ps : List Str) (f s r : Str)
    (hW : isAbs cfg.wd = true) (hok : InclOK isDir (fun L => isDir (absIn L f) = false) cfg.wd ps)
    (hhome : ∀ h, cfg.home = some h → h ≠ [])
    (h : expected? (kindOf k) (inclDir (fun L => clean (absIn L (dir f))) cfg.wd ps) cfg.home cfg.remote s = some r) :
    predict k cfg isDir (inclSteps ps ++ [.ext f]) true s = .ok r := by
  rw [include_chain_extends_origin k cfg isDir ps f s hW hok hhome, resolveKind_is_resolveStr]
  exact model_meets_spec (kindOf k) { cfg with wd := inclDir (fun L => clean (absIn L (dir f))) cfg.wd ps } s r h

/-- non-vacuity: `/w` includes `a/i`, which includes `../b/j`; `j` says `env_file: ./x`, `context: ~/c`, a bind source
`C:\d` — the specification (hence the loaded project) has `/w/b/x`, `/h/c`, `C:\d` -/
example :
    expected? (kindOf 0) (inclDir id ['/', 'w'] [['a', '/', 'i'], ['.', '.', '/', 'b', '/', 'j']]) (some ['/', 'h']) (fun _ => false)
        ['.', '/', 'x'] = some ['/', 'w', '/', 'b', '/', 'x'] ∧
    expected? (kindOf 1) (inclDir id ['/', 'w'] [['a', '/', 'i'], ['.', '.', '/', 'b', '/', 'j']]) (some ['/', 'h']) (fun _ => false)
        ['~', '/', 'c'] = some ['/', 'h', '/', 'c'] ∧
    expected? (kindOf 2) (inclDir id ['/', 'w'] [['a', '/', 'i'], ['.', '.', '/', 'b', '/', 'j']]) (some ['/', 'h']) (fun _ => false)
        ['C', ':', '\\', 'd'] = some ['C', ':', '\\', 'd'] := by decide +kernel

/-! ## resolving what a load returned changes nothing (value level) -/

/-- **a resolved value is a fixpoint of every later resolution**, whatever directory that later resolution uses: what one
resolution against an absolute base returns is left as written by a resolution against any base, with any `$HOME`
(attribute kinds of `predict`: 0 env/label/watch paths, 1 build contexts, ≥ 2 mount sources and secret/config files) -/
theorem resolved_is_fixpoint (k : Nat) (cfg cfg' : Cfg) (s r : Str) (hwd : isAbs cfg.wd = true)
    (h : resolveKind k cfg s = .ok r) : resolveKind k cfg' r = .ok r := by
  rw [resolveKind_eq, Out.ok.injEq] at h
  rw [resolveKind_eq, ← h, resolveWith_fix _ _ cfg cfg' s hwd]

theorem isAbs_inclDir (ps : List Str) : ∀ (L : Str), isAbs L = true → isAbs (inclDir id L ps) = true := by
  induction ps with
  | nil => intro L h; exact h
  | cons p ps ih => intro L h; exact ih _ (isAbs_dir _ (isAbs_absIn L p h))

/-- **resolving an already loaded project changes nothing**: the value of a path attribute of the main files / of an
included file at any depth in the loaded project (`predict`) is left as written by a further resolution against the
project directory — or against any other directory -/
theorem loaded_value_is_fixpoint (k : Nat) (cfg cfg' : Cfg) (isDir : Str → Bool) (ps : List Str) (s r : Str)
    (hW : isAbs cfg.wd = true) (hok : InclOK isDir (fun _ => True) cfg.wd ps)
    (hhome : ∀ h, cfg.home = some h → h ≠ [])
    (h : predict k cfg isDir (inclSteps ps) true s = .ok r) : resolveKind k cfg' r = .ok r := by
  rw [include_chain_origin k cfg isDir ps s hW hok hhome] at h
  exact resolved_is_fixpoint k { cfg with wd := inclDir id cfg.wd ps } cfg' s r (isAbs_inclDir ps cfg.wd hW) h

/-- … and loading is total on path attributes: for every chain of includes the loader's staged resolution yields a value
(no stage fails or panics on a string) -/
theorem loaded_value_exists (k : Nat) (cfg : Cfg) (isDir : Str → Bool) (ps : List Str) (s : Str)
    (hW : isAbs cfg.wd = true) (hok : InclOK isDir (fun _ => True) cfg.wd ps)
    (hhome : ∀ h, cfg.home = some h → h ≠ []) :
    ∃ r, predict k cfg isDir (inclSteps ps) true s = .ok r := by
  rw [include_chain_origin k cfg isDir ps s hW hok hhome]
  exact resolveKind_total k _ s

/-! ## every path attribute of a resolved tree is absolute or exempt (tree level) -/

/-- **every resolver row of the output is an output of its resolver**: the walker leaves no node that matches a row of
the table unresolved, however deep it sits and whatever surrounds it (the complement of `frame`) -/
theorem resolve_rows_are_resolved (cfg : Cfg) (v v' : Val) (h : resolve cfg v = .ok v') :
    RowsAre CV.Gen.resolvers (ImageOf cfg) TPath.root v' :=
  walk_rows _ cfg _ v v' h

/-- **after resolution against an absolute base every string at a row of `absPath` (env files, label files),
`absContextPath` (build contexts, additional contexts) or `maybeUnixPath` (secret / config files) is absolute — or empty,
or URL-like (contexts), or Windows-absolute (secret / config files)**, for every tree.  `PathOK` constrains string nodes at
the rows of these three resolvers only: watch paths, bind-mount sources, bind devices and `extends.file` (rows of
`absSymbolicLink`, `absVolumeMount`, `volumeDriverOpts`, `absExtendsPath`) are covered by `resolve_rows_are_resolved`. -/
theorem resolve_rows_abs_or_exempt (cfg : Cfg) (hwd : isAbs cfg.wd = true) (v v' : Val) (h : resolve cfg v = .ok v') :
    RowsAre CV.Gen.resolvers PathOK TPath.root v' :=
  rowsAre_mono _ _ _ (fun hn out hi => image_pathOK cfg hwd hn out hi) _ _ (resolve_rows_are_resolved cfg v v' h)

/-- non-vacuity: the rows in question exist and are string rows of these three resolvers -/
example :
    TPath.firstMatch CV.Gen.resolvers ["services", "a", "build", "context"] = some "absContextPath" ∧
    TPath.firstMatch CV.Gen.resolvers ["services", "a", "build", "additional_contexts", "k"] = some "absContextPath" ∧
    TPath.firstMatch CV.Gen.resolvers ["secrets", "s", "file"] = some "maybeUnixPath" ∧
    TPath.firstMatch CV.Gen.resolvers ["configs", "c", "file"] = some "maybeUnixPath" ∧
    TPath.firstMatch CV.Gen.resolvers ["services", "a", "label_file", "[]"] = some "absPath" := by decide +kernel

end CV.Paths
