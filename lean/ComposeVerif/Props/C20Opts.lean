import ComposeVerif.Props.C20
import ComposeVerif.Gen.SecretsOptsFacts
import ComposeVerif.Neg.C20Opts
/-!
# C20 — the non-leak theorems under loader options, and the renderer inventory

Loader options change the dynamic type / the shape of what the stages after them see: `KnownExtensions` replaces the
value of a registered `x-` attribute by what the caller's Go type decodes it to (`Model/SecretsOpts.lean`: the decoder
is a *parameter*), `SkipNormalization` removes `setNameFromKey`.  The theorems below are `taint_confined_*` /
`render_default_clean` of `Props/C20.lean` for *every* such configuration: any set of registered names, any decoders
that invent no tainted string (`DecOk`), normalisation on or off; lemmas in `Lemmas/SecretsOpts.lean`.
-/
namespace CV.Secrets
open CV
open CV.Val hiding lookup_insert_self lookup_insert_ne

/-- `processExtensions` is the function `Model/Secrets.lean` (`pxVal`) and `Model/SecretsOpts.lean` (`decodeKnown`:
the loop over `extras`, with the test that keeps the private carrier key away from the caller's decoders) were written
against; it is called by `modelToProject` with `opts.KnownExtensions` and by itself with the same `extensions`;
`KnownExtensions` is only set by `cli.WithExtension`, copied by `Options.clone` and read by that call;
`SkipNormalization` is read by `load` only (and set for extends / include sub-loads). -/
theorem option_code_is_modelled :
    CV.Gen.SecretsOpts.body_processExtensions = "{ extras := map[string]any{} var err error for key, value := range dict { skip := false for _, uk := range userDefinedKeys { if p.Matches(uk) { skip = true break } } if !skip && strings.HasPrefix(key, \"x-\") { extras[key] = value delete(dict, key) continue } switch v := value.(type) { case map[string]interface{}: dict[key], err = processExtensions(v, p.Next(key), extensions) if err != nil { return nil, err } case []interface{}: for i, e := range v { if m, ok := e.(map[string]interface{}); ok { v[i], err = processExtensions(m, p.Next(strconv.Itoa(i)), extensions) if err != nil { return nil, err } } } } } for name, val := range extras { if name == types.SecretConfigXValue { continue } if typ, ok := extensions[name]; ok { target := reflect.New(reflect.TypeOf(typ)).Elem().Interface() err = Transform(val, &target) if err != nil { return nil, err } extras[name] = target } } if len(extras) > 0 { dict[consts.Extensions] = extras } return dict, nil }" ∧
    CV.Gen.SecretsOpts.processExtensions_calls = ["loader/loader.go:modelToProject:processExtensions(dict, tree.NewPath(), opts.KnownExtensions)", "loader/loader.go:processExtensions:processExtensions(m, p.Next(strconv.Itoa(i)), extensions)", "loader/loader.go:processExtensions:processExtensions(v, p.Next(key), extensions)"] ∧
    CV.Gen.SecretsOpts.knownExtensions_uses = ["cli/options.go:WithExtension:options.KnownExtensions", "cli/options.go:WithExtension:options.KnownExtensions", "cli/options.go:WithExtension:options.KnownExtensions", "loader/loader.go:Options.clone:field:o.KnownExtensions", "loader/loader.go:Options.clone:o.KnownExtensions", "loader/loader.go:modelToProject:opts.KnownExtensions"] ∧
    CV.Gen.SecretsOpts.skipNormalization_uses = ["loader/extends.go:getExtendsBaseFromFile:extendsOpts.SkipNormalization", "loader/include.go:ApplyInclude:loadOptions.SkipNormalization", "loader/loader.go:Options.clone:o.SkipNormalization", "loader/loader.go:load:opts.SkipNormalization"] := by
  exact ⟨rfl, rfl, rfl, rfl⟩

/-- **every renderer is a modelled one**: the only text-producing methods (`Marshal{YAML,JSON,Text,Binary}`, `String`,
`GoString`, `Format`, `Error`, `GobEncode`) on `Project`, `SecretConfig`, `ConfigObjConfig`, `FileObjectConfig`,
`Secrets`, `Configs`, `Extensions` anywhere in package `types` are the six whose bodies `renderers_are_modelled` and
`project_renderers_are_modelled` pin.  A new renderer (a `String` method on a secret, say) breaks this theorem. -/
theorem every_renderer_is_modelled :
    CV.Gen.SecretsOpts.renderer_inventory = ["types/project.go:*Project.MarshalJSON", "types/project.go:*Project.MarshalYAML", "types/types.go:ConfigObjConfig.MarshalJSON", "types/types.go:ConfigObjConfig.MarshalYAML", "types/types.go:SecretConfig.MarshalJSON", "types/types.go:SecretConfig.MarshalYAML"] := rfl

/-- with nothing registered and normalisation on, the load under options is `load` -/
theorem loadK_default_is_load (env : Env) (pname : String) (dict : KVs) : loadK {} env pname dict = load env pname dict := by
  simp only [loadK, load, loadSectionK_default]

/-- after `processExtensions` **with known extensions** the taint of a secret still sits only under `x-#value`
(directly or inside `#extensions`), whatever the caller registered and whatever its decoders do to untainted values -/
theorem taint_confined_processExtensions_known {P : String → Prop} (hx : P extKey) {g : Bool} {k : KnownExt}
    (hk : DecOk P k) (hs : CarrierSafe g k) (p : TPath) {kvs : KVs} (h : ObjOkF P xValue kvs)
    {v : Val} (hp : pxObjK g k p kvs = .ok v) : ∃ kvs', v = .map kvs' ∧ RawOk P xValue kvs' := by
  obtain ⟨ex, he, hp⟩ := Out.bind_eq_ok.1 hp
  cases hp
  exact ⟨_, rfl, RawOk_withExtras hx xValue_ne_extKey p _ h (ObjOkF_decodeKnown hk hs (ObjOkF_extrasOf h _) he)⟩

/-- **taint_confined (secrets, every option)**: every secret loaded under any `KnownExtensions` (decoders inventing no
tainted string; the carrier key kept away from them) and with or without normalisation is untainted outside
`Content`, flag off -/
theorem taint_confined_secrets_opts {P : String → Prop} (hx : P extKey) (hxv : P xValue) (hn : P "name")
    (hemp : P "") (hnil : P "<nil>") (hcut : CutClosed P)
    {o : LoadOpts} (hk : DecOk P o.known) (hcs : CarrierSafe o.carrierGuard o.known)
    {env : Env} {pname : String} {dict : KVs} (hd : AllStrKV P dict) (hgen : GenNamesOk P pname "secrets" dict)
    {ss : List (String × FileObj)} (h : loadSectionK o true env pname dict = .ok ss) :
    ∀ e ∈ ss, P e.1 ∧ e.2.CleanBut P ∧ e.2.marshallContent = false :=
  secrets_confinedK hx hxv hn hemp hnil hcut hk hcs (section_confined hd hgen) h

theorem taint_confined_configs_opts {P : String → Prop} (hx : P extKey) (hct : P "content") (hn : P "name")
    (hemp : P "") (hnil : P "<nil>") (hcut : CutClosed P)
    {o : LoadOpts} (hk : DecOk P o.known)
    {env : Env} {pname : String} {dict : KVs} (hd : AllStrKV P dict) (hgen : GenNamesOk P pname "configs" dict)
    {cs : List (String × FileObj)} (h : loadSectionK o false env pname dict = .ok cs) :
    ∀ e ∈ cs, P e.1 ∧ e.2.CleanBut P ∧ (e.2.environment ≠ "" ∨ OptP P e.2.content) :=
  configs_confinedK hx hct hn hemp hnil hcut hk (section_clean hd hgen) h

/-- **render_default_clean (every option)** — the non-leak theorem for the load under options: for every model,
environment, set of registered extension names, decoders inventing no tainted string, normalisation on or off, and
both renderers, the default rendering of the secrets and configs sections is untainted -/
theorem render_default_clean_opts {P : String → Prop} (hv : VocabOk P)
    {o : LoadOpts} (hk : DecOk P o.known) (hcs : CarrierSafe o.carrierGuard o.known)
    {env : Env} {pname : String} {dict : KVs} (hd : AllStrKV P dict)
    (hgs : GenNamesOk P pname "secrets" dict) (hgc : GenNamesOk P pname "configs" dict)
    {p : Proj} (h : loadK o env pname dict = .ok p) (r : Renderer) :
    AllStr P (render r false p) :=
  AllStr_render_default hv
    ⟨secrets_confinedK hv.ext hv.carrier hv.name hv.empty hv.nil hv.cut hk hcs (section_confined hd hgs) (loadK_ok h).1,
      configs_confinedK hv.ext hv.content hv.name hv.empty hv.nil hv.cut hk (section_clean hd hgc) (loadK_ok h).2⟩ r

/-- the property's wording under options: with the code as it is (`carrierGuard = true`, the default) a canary absent
from the model, the vocabulary, the generated names — and from what the caller's decoders make of canary-free values —
is absent from the default rendering, **whatever the caller registers, the carrier key included** -/
theorem canary_absent_from_default_rendering_opts (c : List Char)
    (hv : VocabOk (fun s => ¬ occurs c s)) (k : KnownExt) (skipNorm : Bool)
    (hk : DecOk (fun s => ¬ occurs c s) k)
    {env : Env} {pname : String} {dict : KVs} (hd : Clean c (.map dict))
    (hgs : GenNamesOk (fun s => ¬ occurs c s) pname "secrets" dict)
    (hgc : GenNamesOk (fun s => ¬ occurs c s) pname "configs" dict)
    {p : Proj} (h : loadK { known := k, skipNormalization := skipNorm } env pname dict = .ok p) (r : Renderer) :
    Clean c (render r false p) :=
  render_default_clean_opts hv hk (.inl rfl) (by simpa [Clean, AllStr] using hd) hgs hgc h r

/-- before the `fix:` (no test of the carrier key in `processExtensions`) the statement was false: a caller registering
a Go type for `x-#value` makes the hook's type assertion miss the carrier, and the value is rendered inline by the
YAML renderer — witness in `Neg/C20Opts.lean`, replayed on the real code by `corpus/C20/known-extension-carrier-key.json` -/
theorem canary_absent_under_options_was_false_before_fix :
    ¬ (∀ (c : List Char), VocabOk (fun s => ¬ occurs c s) → ∀ (k : KnownExt), DecOk (fun s => ¬ occurs c s) k →
        ∀ (env : Env) (pname : String) (dict : KVs), Clean c (.map dict) →
          GenNamesOk (fun s => ¬ occurs c s) pname "secrets" dict → GenNamesOk (fun s => ¬ occurs c s) pname "configs" dict →
          ∀ (p : Proj), loadK { known := k, carrierGuard := false } env pname dict = .ok p → ∀ r, Clean c (render r false p)) :=
  NegOpts.unguarded_carrier_leaks

namespace ExampleOpts
/-- a caller registering `x-note` (decoded to itself), `x-magic` (unused) and the carrier key (a type that turns the
text of a number into a number) -/
def known : KnownExt := { names := ["x-note", "x-magic", xValue], dec := NegOpts.numDec }
def dict : KVs := [("secrets", .map [("tok", .map [("environment", .str "TOKEN"), ("x-note", .str "n")])]),
  ("configs", .map [("cfg", .map [("environment", .str "CVAR")])])]
def env : Env := [("TOKEN", "12345678"), ("CVAR", "12345678")]
def proj : Proj := { secrets := [("tok", { name := "p_tok", environment := "TOKEN", content := "12345678", extensions := [("x-note", .str "n")] })], configs := [("cfg", { name := "p_cfg", environment := "CVAR", content := "12345678" })] }
example : loadK { known := known } env "p" dict = .ok proj := by decide +kernel
example : loadK { known := known, skipNormalization := true } env "p" dict =
    .ok { secrets := [("tok", { environment := "TOKEN", content := "12345678", extensions := [("x-note", .str "n")] })],
          configs := [("cfg", { environment := "CVAR", content := "12345678" })] } := by decide +kernel
example : DecOk (fun s => ¬ occurs NegOpts.canary s) known := NegOpts.numDec_ok
example : Clean NegOpts.canary (render .yaml false proj) ∧ Clean NegOpts.canary (render .json false proj) := by decide +kernel
example : ¬ Clean NegOpts.canary (render .yaml true proj) := by decide +kernel
end ExampleOpts

end CV.Secrets
