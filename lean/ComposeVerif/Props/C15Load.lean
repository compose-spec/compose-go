import ComposeVerif.Lemmas.SelectLoad
import ComposeVerif.Props.C15
/-!
# C15 — the loader side: `Options.Profiles` → the partition of the loaded project

Theorems about `loadApply` (`Model/SelectLoad.lean`: the tail of `loader.modelToProject`), and their composition with the
history theorems of `Props/C15.lean`: whatever profile list the loader is given and whatever sequence of selection
operations follows, `Services ⊎ DisabledServices` is exactly the set of declared services.
-/
namespace CV.Sel

/-- what `Transform` hands over: all declared services enabled under distinct keys, filed under their own name, each
`depends_on` a map -/
def Loadable (p0 : Proj) : Prop := Declared p0 ∧ (keys p0.services).Nodup ∧ NamesOK p0 ∧ SvcWF p0
instance (p : Proj) : Decidable (Loadable p) := by unfold Loadable NamesOK; exact inferInstance

theorem Loadable.partition {p0 : Proj} (l : Loadable p0) : Partition p0 := by
  obtain ⟨⟨d, _⟩, nd, _, _⟩ := l
  refine ⟨nd, ?_, ?_⟩ <;> simp [d]

theorem Loadable.good {p0 : Proj} (l : Loadable p0) : Good p0 := ⟨l.partition, l.2.2.2, l.2.2.1⟩

theorem Loadable.find {p0 : Proj} (l : Loadable p0) (k : String) : find p0 k = lookup k p0.services := by
  unfold CV.Sel.find; rw [l.1.1]; cases lookup k p0.services <;> rfl

/-- **the loader applies the profile rule exactly**: after `modelToProject` with `Options.Profiles = P` the project
records `P`, is a partition of the declared services, a declared service is enabled iff it has no profile, a listed
profile, or `*` is listed, and is disabled otherwise -/
theorem load_profiles_exact {p0 : Proj} (l : Loadable p0) (P : List String) (sc sr : Bool) {q : Proj}
    (hq : loadApply p0 P sc sr = .ok q) :
    Partition q ∧ q.profiles = P ∧ SameSet (known q) (keys p0.services) ∧
    (∀ k, k ∈ keys q.services ↔ ∃ s, lookup k p0.services = some s ∧ Active s P) ∧
    (∀ k, k ∈ keys q.disabled ↔ ∃ s, lookup k p0.services = some s ∧ ¬Active s P) := by
  have h := l.partition
  have hp := withProfiles_partition h P
  have E : ∀ k, k ∈ keys (withProfiles p0 P).services ↔ ∃ s, lookup k p0.services = some s ∧ Active s P := by
    intro k; rw [profiles_enabled_iff h P k, l.find]
  have D : ∀ k, k ∈ keys (withProfiles p0 P).disabled ↔ ∃ s, lookup k p0.services = some s ∧ ¬Active s P := by
    intro k
    rw [← lookup_isSome, lookup_withProfiles_disabled h, l.find]
    cases lookup k p0.services with
    | none => simp
    | some s => simp [Option.filter_some, ← hasProfile_iff]
  have K : SameSet (known (withProfiles p0 P)) (keys p0.services) := by
    have : ∀ x, x ∈ known (withProfiles p0 P) ↔ x ∈ keys p0.services := fun x => by
      rw [known_withProfiles h, mem_known, l.1.1]; simp
    exact ⟨fun x => (this x).1, fun x => (this x).2⟩
  rcases loadApply_ok hq with rfl | rfl
  · exact ⟨hp, rfl, K, E, D⟩
  · exact ⟨resolveEnabled_partition hp, rfl, (known_resolveEnabled _).symm ▸ K,
      fun k => (keys_resolveEnabled _).symm ▸ E k, D⟩

/-- a loaded project is a well-formed receiver for every theorem of `Props/C15.lean`, and its enabled services are
active under the recorded profiles (`ProfilesOK`: the hypothesis "as a load leaves it" of `enable_activates_profiles`,
`enable_undoes_disable`, `profilesOK_inv` is discharged here, inside the model) -/
theorem load_good {p0 : Proj} (l : Loadable p0) (P : List String) (sc sr : Bool) {q : Proj}
    (hq : loadApply p0 P sc sr = .ok q) : Good q ∧ ProfilesOK q ∧ Carried p0 q := by
  have g := l.good
  have hp := withProfiles_partition g.1 P
  have sub : SubProj p0 (withProfiles p0 P) := subProj_of_find_eq (find_withProfiles g.1 P)
  have ok := withProfiles_profilesOK g.1 P
  rcases loadApply_ok hq with rfl | rfl
  · obtain ⟨w, c⟩ := good_of_sub g.2.1 g.2.2 hp sub
    exact ⟨⟨hp, w⟩, ok, c⟩
  · have hp' := resolveEnabled_partition hp
    obtain ⟨w, c⟩ := good_of_sub g.2.1 g.2.2 hp' (sub.trans (subProj_resolveEnabled _))
    exact ⟨⟨hp', w⟩, profilesOK_resolveEnabled ok, c⟩

/-- **load, then any history**: for every profile list given to the loader and every sequence of selection operations
applied to the loaded project (failed ones leave it unchanged), the enabled and the disabled services are disjoint
sets whose union is exactly the set of declared services, and every enabled service is active under the recorded
profiles.  By induction over the operation list (`partition_inv`, `profilesOK_inv`) from the loader's own step. -/
theorem load_then_history {p0 : Proj} (l : Loadable p0) (P : List String) (sc sr : Bool) {q : Proj}
    (hq : loadApply p0 P sc sr = .ok q) (ops : List Op) :
    Partition (run q ops) ∧ SameSet (known (run q ops)) (keys p0.services) ∧ ProfilesOK (run q ops) ∧
    Conserved p0 (run q ops) := by
  obtain ⟨g, ok, c⟩ := load_good l P sc sr hq
  have inv := partition_inv g ops
  have K := (load_profiles_exact l P sc sr hq).2.2.1
  refine ⟨inv.1.1, ⟨fun x hx => K.1 x ((inv.2.known x).2 hx), fun x hx => (inv.2.known x).1 (K.2 x hx)⟩,
    profilesOK_inv g ok ops, conserved_of_carried inv.1.1 (c.trans inv.2)⟩

/-- with `*` among the profiles the loader disables nothing -/
theorem load_star_enables_all {p0 : Proj} (l : Loadable p0) {P : List String} (hs : "*" ∈ P) (sc sr : Bool) {q : Proj}
    (hq : loadApply p0 P sc sr = .ok q) : q.disabled = [] := by
  have : (withProfiles p0 P).disabled = [] := by
    rw [withProfiles_disabled l.partition, List.filter_eq_nil_iff]
    intro kv _
    have : hasProfile kv.2 P = true := (hasProfile_iff kv.2 P).2 (.inr (.inl hs))
    simp [this]
  rcases loadApply_ok hq with rfl | rfl
  · exact this
  · exact this

/-- a disabled service of a loaded project is the declared service, untouched (its environment is *not* resolved) -/
theorem load_disabled_untouched {p0 : Proj} (l : Loadable p0) (P : List String) (sc sr : Bool) {q : Proj}
    (hq : loadApply p0 P sc sr = .ok q) {k : String} {s : Svc} (hk : lookup k q.disabled = some s) :
    lookup k p0.services = some s := by
  have : lookup k (withProfiles p0 P).disabled = some s := by
    rcases loadApply_ok hq with rfl | rfl
    · exact hk
    · exact hk
  -- the disabled map of `WithProfiles` is a filter of the declared services
  rw [lookup_withProfiles_disabled l.partition, l.find] at this
  exact (Option.filter_eq_some_iff.1 this).1

/-- the loader's profile step *is* the history operation `WithProfiles`: a load with the two checks skipped equals the
one-step history -/
theorem load_is_profiles_op (p0 : Proj) (P : List String) :
    loadApply p0 P true true = .ok (run p0 [.profiles P]) := rfl

/-- what the consistency check establishes: every dependency of an enabled service is an enabled service, or a disabled
one through an optional edge -/
theorem load_consistent {p0 : Proj} (P : List String) (sr : Bool) {q : Proj}
    (hq : loadApply p0 P false sr = .ok q) :
    ∀ kv ∈ q.services, ∀ d ∈ kv.2.deps,
      d.1 ∈ keys q.services ∨ (d.1 ∈ keys q.disabled ∧ d.2.required = false) := by
  have base := fun kv hkv d hd =>
    (depOffence_eq_false_iff _ d).1 ((checkDeps_eq_none_iff _).1 (loadApply_checked hq) kv hkv d hd)
  rcases loadApply_ok hq with rfl | rfl
  · exact base
  · intro kv hkv d hd
    obtain ⟨s, hm, e⟩ := mem_resolveEnabled_services hkv
    rw [keys_resolveEnabled]
    exact base _ hm d (by rw [e] at hd; exact hd)

/-- **load ∘ select**: on a project loaded with the consistency check, selecting enabled services never fails, whatever
the dependency policy — the check has already made sure the closure meets no missing required dependency -/
theorem load_select_never_fails {p0 : Proj} (l : Loadable p0) (P : List String) (sr : Bool) {q : Proj}
    (hq : loadApply p0 P false sr = .ok q) {names : List String} (hn : names ≠ [])
    (sub : ∀ n ∈ names, n ∈ keys q.services) (pol : Policy) :
    ∃ r, withSelectedServices q names pol = .ok r := by
  obtain ⟨S, _, e⟩ := select_succeeds (load_good l P false sr hq).1 hn sub
    (fun kv hkv d hd hr => (load_consistent P sr hq kv hkv d hd).resolve_right fun a => by rw [a.2] at hr; cases hr) pol
  exact ⟨_, e⟩

/-! ## `cli.WithDefaultProfiles` -/

/-- profiles given by the caller win over `COMPOSE_PROFILES` -/
theorem defaultProfiles_given {given : List String} (h : given ≠ []) (env : AL String) :
    defaultProfiles given env = given := by
  rw [defaultProfiles, if_neg (by simpa using h)]

/-- without `COMPOSE_PROFILES` (and without given profiles) the profile list is `[""]`, under which exactly the
services without profile are enabled: the empty name matches no declared profile unless one is literally `""` -/
theorem defaultProfiles_unset {env : AL String} (h : lookup "COMPOSE_PROFILES" env = none) :
    defaultProfiles [] env = [""] := by
  unfold defaultProfiles; rw [h]; decide

theorem active_under_empty_name (s : Svc) (h : "" ∉ s.profiles) : Active s [""] ↔ s.profiles = [] := by
  unfold Active
  constructor
  · rintro (a | a | ⟨x, hx, hm⟩)
    · exact a
    · simp at a
    · simp at hm; subst hm; exact absurd hx h
  · exact fun a => .inl a

/-! ## non-vacuity -/

def exDecl : Proj :=
  { services := [("web", exSvc "web" [] [("db", ⟨true, "c"⟩), ("dbg", ⟨false, "c"⟩)]), ("db", exSvc "db" [] []),
      ("dbg", exSvc "dbg" ["debug"] []), ("job", exSvc "job" ["batch"] [("db", ⟨true, "c"⟩)])]
    disabled := [], profiles := [], networks := [], volumes := [], secrets := [], configs := [] }

example : Loadable exDecl := by decide +kernel
example : ∃ q, loadApply exDecl ["debug"] false false = .ok q ∧ keys q.services = ["web", "db", "dbg"] ∧
    keys q.disabled = ["job"] := ⟨_, rfl, by decide, by decide⟩
example : ∃ q, loadApply exDecl (defaultProfiles [] [("COMPOSE_PROFILES", " batch , debug")]) false true = .ok q ∧
    q.profiles = ["batch", "debug"] ∧ q.disabled = [] :=
  ⟨withProfiles exDecl ["batch", "debug"], by decide +kernel, rfl, by decide +kernel⟩
-- a required dependency on a profile-disabled service is what the consistency check rejects
example : loadApply { exDecl with services := exDecl.services ++ [("x", exSvc "x" [] [("job", ⟨true, "c"⟩)])] } [] false false
    = .undefinedDependency := by decide +kernel

end CV.Sel
