import ComposeVerif.Lemmas.Path
import ComposeVerif.Lemmas.C02Decoders
import ComposeVerif.Lemmas.C02MergeKVs
import ComposeVerif.Lemmas.C02NewGraph
import ComposeVerif.Lemmas.C02Extends
import ComposeVerif.Lemmas.TablesExclusive
import ComposeVerif.Gen.Static
import ComposeVerif.Spec.Determinism
import ComposeVerif.Lemmas.ExceptDecEq
/-!
# C02 — loading is deterministic: same inputs, same project, same bytes

Go's randomised map iteration is a universally quantified permutation
(`List.Perm`) of an association list with distinct keys; every theorem below says that some
result is the same for all such permutations, for inputs of any size.

1. the seven rule tables (regenerated from the source on every run) are pairwise exclusive, hence the
   rule applied at a path does not depend on the order in which Go ranges over the table;
2. the regenerated lists of order-leak sites / first-match sites / package-level writes equal the
   reviewed lists of `Spec/Determinism.lean` (a new site breaks the build);
3. the map→sequence and map→map loops of the loader are insensitive to the order (sorting, pointwise writes,
   `mergeMappings`);
4. `loader.ApplyExtends` (same-file references, memoised) yields the same services map for every visit order, and
   `length + 1` steps of fuel suffice;
5. `graph.newGraph` is order independent and does not write to the project (the function as it was before `fix:`
   6b9fea6, and the witnesses of its order dependence, are in `Neg/C02.lean`);
6. the result of a load does not depend on the package-level state other loads leave behind.
-/
namespace CV.Det.Props
open CV CV.Val CV.Det CV.TPath

theorem mergeSpecials_exclusive : PairwiseExclusive CV.Gen.mergeSpecials := CV.Gen.tables_exclusive.1
theorem unique_exclusive : PairwiseExclusive CV.Gen.unique := CV.Gen.tables_exclusive.2.1
theorem transformers_exclusive : PairwiseExclusive CV.Gen.transformers := CV.Gen.tables_exclusive.2.2.1
theorem defaultValues_exclusive : PairwiseExclusive CV.Gen.defaultValues := CV.Gen.tables_exclusive.2.2.2.1
theorem resolvers_exclusive : PairwiseExclusive CV.Gen.resolvers := CV.Gen.tables_exclusive.2.2.2.2.1
theorem validationChecks_exclusive : PairwiseExclusive CV.Gen.validationChecks := CV.Gen.tables_exclusive.2.2.2.2.2.1
theorem castTable_exclusive : PairwiseExclusive CV.Gen.castTable := CV.Gen.tables_exclusive.2.2.2.2.2.2

/-- `mergeYaml`: the special merge rule applied at a path is the same for every iteration order of `mergeSpecials` -/
theorem mergeSpecials_order_independent {t' : List (List String × String)} (hp : t'.Perm CV.Gen.mergeSpecials)
    (x : TPath) : firstMatch t' x = firstMatch CV.Gen.mergeSpecials x :=
  firstMatch_perm mergeSpecials_exclusive hp x

/-- `enforceUnicity`: the indexer applied at a path is the same for every iteration order of `unique` -/
theorem unique_order_independent {t' : List (List String × String)} (hp : t'.Perm CV.Gen.unique)
    (x : TPath) : firstMatch t' x = firstMatch CV.Gen.unique x :=
  firstMatch_perm unique_exclusive hp x

/-- `transform.Canonical` -/
theorem transformers_order_independent {t' : List (List String × String)} (hp : t'.Perm CV.Gen.transformers)
    (x : TPath) : firstMatch t' x = firstMatch CV.Gen.transformers x :=
  firstMatch_perm transformers_exclusive hp x

/-- `transform.SetDefaultValues` -/
theorem defaultValues_order_independent {t' : List (List String × String)} (hp : t'.Perm CV.Gen.defaultValues)
    (x : TPath) : firstMatch t' x = firstMatch CV.Gen.defaultValues x :=
  firstMatch_perm defaultValues_exclusive hp x

/-- `paths.ResolveRelativePaths` -/
theorem resolvers_order_independent {t' : List (List String × String)} (hp : t'.Perm CV.Gen.resolvers)
    (x : TPath) : firstMatch t' x = firstMatch CV.Gen.resolvers x :=
  firstMatch_perm resolvers_exclusive hp x

/-- `validation.Validate` -/
theorem validationChecks_order_independent {t' : List (List String × String)} (hp : t'.Perm CV.Gen.validationChecks)
    (x : TPath) : firstMatch t' x = firstMatch CV.Gen.validationChecks x :=
  firstMatch_perm validationChecks_exclusive hp x

/-- `interpolation.Options.getCasterForPath` -/
theorem castTable_order_independent {t' : List (List String × String)} (hp : t'.Perm CV.Gen.castTable)
    (x : TPath) : firstMatch t' x = firstMatch CV.Gen.castTable x :=
  firstMatch_perm castTable_exclusive hp x

example : firstMatch CV.Gen.mergeSpecials ["services", "web", "labels"] = some "mergeToSequence" ∧
    firstMatch CV.Gen.mergeSpecials.reverse ["services", "web", "labels"] = some "mergeToSequence" := by decide +kernel

/-- the obligation is not vacuous: a table with overlapping rows is not exclusive, and its first match depends on the order -/
example : ¬ PairwiseExclusive [(["services", "*", "labels"], "a"), (["services", "*", "*"], "b")] ∧
    firstMatch [(["services", "*", "labels"], "a"), (["services", "*", "*"], "b")] ["services", "x", "labels"] ≠
    firstMatch [(["services", "*", "*"], "b"), (["services", "*", "labels"], "a")] ["services", "x", "labels"] := by decide +kernel

/-- every `range`-over-map that builds a sequence without sorting it in the same function is on the reviewed list -/
theorem orderLeakSites_reviewed : CV.Gen.Static.orderLeakSites = CV.Det.Spec.reviewedOrderLeakSites := rfl

/-- every `range`-over-map left early with a value ("first match wins") is on the reviewed list -/
theorem earlyExitSites_reviewed : CV.Gen.Static.earlyExitSites = CV.Det.Spec.reviewedEarlyExitSites := rfl

/-- the package-level variables written outside `init` are exactly the reviewed ones -/
theorem globalWrites_reviewed : CV.Gen.Static.globalWrites = CV.Det.Spec.reviewedGlobalWrites := rfl

/-- no loop over a Go map carries a function-local map from one iteration to the next (no cache or "seen" set read and
written under a key that ignores the loop's key variable): the order of iteration cannot reach a result that way -/
theorem loopCarriedMaps_reviewed : CV.Gen.Static.loopCarriedMaps = CV.Det.Spec.reviewedLoopCarriedMaps := rfl

/-- the package-level variables of the library (any state that could survive a load) are exactly the reviewed ones -/
theorem packageVars_reviewed : CV.Gen.Static.packageVars = CV.Det.Spec.reviewedPackageVars := rfl

/-- the `range` statements the translator could not type are exactly the reviewed ones (none of them hides a map
whose order leaks: they are analysed as if they ranged over maps, see the `?`-rows of the two lists above) -/
theorem untypedRangeSites_reviewed : CV.Gen.Static.untypedRangeSites = CV.Det.Spec.reviewedUntypedRangeSites := rfl

/-- every reviewed order-leak site that a load or a rendering can reach has an order-independence theorem below -/
theorem reachable_leaks_proved :
    ∀ s ∈ CV.Det.Spec.reviewedOrderLeakSites, CV.Det.Spec.reachableFromLoadOrRender s = true →
      s ∈ CV.Det.Spec.provedInsensitive := by decide +kernel

/-- **collect, then sort**: whatever order the strings were collected in, `sort.Strings` returns the same slice -/
theorem sort_erases_order {l l' : List String} (hp : l'.Perm l) : sortStrs l' = sortStrs l := sortStrs_perm hp

theorem sort_is_sorted_perm (l : List String) : (sortStrs l).Perm l ∧ (sortStrs l).Pairwise (· ≤ ·) :=
  ⟨sortStrs_perm_self l, sortStrs_sorted l⟩

/-- **range over a map, store under the same key of a fresh map**: the fresh map holds `f k v` exactly at the
keys of the source (pointwise law) … -/
theorem rangeWrite_pointwise {α β : Type} (f : String → α → β) (m : AL α) (hn : (akeys m).Nodup) (k : String) :
    find k (rangeWrite f m) = (find k m).map (f k) := find_rangeWrite f m hn k

/-- … hence it is the same map for every iteration order (same entries; same value under every key).
Covers `Mapping.DecodeMapstructure`, `MappingWithEquals.DecodeMapstructure`, `ToMappingWithEquals`, `Clone`,
`HostsList.DecodeMapstructure` (map case), `interpolation.Interpolate`, `copyMap`, … -/
theorem rangeWrite_perm {α β : Type} (f : String → α → β) {m m' : AL α} (hn : (akeys m).Nodup) (hp : m'.Perm m) :
    (rangeWrite f m').Perm (rangeWrite f m) ∧ ∀ k, find k (rangeWrite f m') = find k (rangeWrite f m) := by
  refine ⟨rangeWrite_perm' f hn hp, fun k => ?_⟩
  have hn' : (akeys m').Nodup := (hp.map Prod.fst).nodup_iff.mpr hn
  rw [find_rangeWrite f m' hn', find_rangeWrite f m hn, find_perm hn hp]

/-- **range over a map and update it in place under the same key** (`enforceUnicity`, `convertToStringKeysRecursive`,
the normalisation loops, `services[name] = merged`): every entry is replaced by `f k v`, whatever the order -/
theorem rangeUpdate_pointwise {α : Type} (f : String → α → α) (m : AL α) (hn : (akeys m).Nodup) (k : String) :
    find k (rangeUpdate f m) = (find k m).map (f k) := by
  rw [rangeUpdate_eq, find_eq, Assoc.lookup_insertAll _ (by rwa [← akeys_map_entries f m] at hn), ← find_eq, ← find_eq,
    find_map_entries]
  cases find k m <;> rfl

theorem rangeUpdate_perm {α : Type} (f : String → α → α) {m m' : AL α} (hn : (akeys m).Nodup) (hp : m'.Perm m) :
    (rangeUpdate f m').Perm (rangeUpdate f m) ∧ ∀ k, find k (rangeUpdate f m') = find k (rangeUpdate f m) := by
  have hn' : (akeys m').Nodup := (hp.map Prod.fst).nodup_iff.mpr hn
  have hk : ∀ k, find k (rangeUpdate f m') = find k (rangeUpdate f m) := fun k => by
    rw [rangeUpdate_pointwise f m' hn', rangeUpdate_pointwise f m hn, find_perm hn hp]
  refine ⟨Assoc.perm_of_lookup_eq ?_ ?_ fun k => by rw [← find_eq, ← find_eq]; exact hk k, hk⟩
  · rw [rangeUpdate_eq]; exact Assoc.nodup_insertAll _ hn'
  · rw [rangeUpdate_eq]; exact Assoc.nodup_insertAll _ hn

/-- **range over a map and return the first error** (`validation.check`, `Interpolate`, `HostsList.cleanup`, every
`if err != nil { return err }` inside a map loop): *whether* an error is returned does not depend on the order.
(*Which* one is returned does — `Neg.rangeCheck_which_error_order_dependent` — which is why error texts are never
part of the observation.) -/
theorem rangeCheck_perm {α ε : Type} (f : String → α → Option ε) {m m' : AL α} (hp : m'.Perm m) :
    (rangeCheck f m').isSome = (rangeCheck f m).isSome := by
  rw [rangeCheck_isSome, rangeCheck_isSome, hp.any_eq]

/-- `override.convertIntoSequence` returns the same sequence for every iteration order of the mapping -/
theorem intoSeq_perm {kvs kvs' : KVs} (hp : kvs'.Perm kvs) : intoSeq (.map kvs') = intoSeq (.map kvs) :=
  intoSeq_map_perm hp

/-- `override.mergeToSequence` (labels, environment, … merged across files) -/
theorem mergeToSequence_perm {a a' b b' : KVs} (ha : a'.Perm a) (hb : b'.Perm b) :
    mergeToSequence (.map a') (.map b') = mergeToSequence (.map a) (.map b) := by
  simp only [mergeToSequence, intoSeq_map_perm ha, intoSeq_map_perm hb]

/-- `override.mergeExtraHosts` (extra_hosts merged across files) -/
theorem mergeExtraHosts_perm {a a' b b' : KVs} (ha : a'.Perm a) (hb : b'.Perm b) :
    mergeExtraHosts (.map a') (.map b') = mergeExtraHosts (.map a) (.map b) := by
  simp only [mergeExtraHosts, intoSeq_map_perm ha, intoSeq_map_perm hb]

/-- `types.SSHConfig.DecodeMapstructure` (after the `fix:` commit): the key slice does not depend on the order -/
theorem sshDecode_perm {kvs kvs' : KVs} (hn : (akeys kvs).Nodup) (hp : kvs'.Perm kvs) :
    sshDecode (.map kvs') = sshDecode (.map kvs) := by
  simp only [sshDecode]
  rw [isort_keyLe_perm (by rw [sshKeys_fst]; exact hn) (hp.map sshKey)]

/-- `HostsList.sortedList` (`MarshalYAML`/`MarshalJSON`; hosts sorted, each host's addresses in their order):
the rendering of a map (distinct keys) does not depend on its iteration order -/
theorem hostsRender_perm {m m' : AL (List String)} (hn : (akeys m).Nodup) (hp : m'.Perm m) : hostsRender m' = hostsRender m :=
  hostsRender_perm' hn hp

/-- `HostsList.DecodeMapstructure` of a mapping, observed through its rendering: same error-or-list for every order -/
theorem hostsDecode_perm {kvs kvs' : KVs} (hn : (akeys kvs).Nodup) (hp : kvs'.Perm kvs) :
    (hostsDecode (.map kvs')).map hostsRender = (hostsDecode (.map kvs)).map hostsRender := by
  simp only [hostsDecode]
  rw [hp.any_eq]
  split
  · rfl
  · refine hostsCleanup_perm ?_ (rangeWrite_perm' _ hn hp)
    rw [rangeWrite_eq_map _ _ hn]
    simpa [akeys, List.map_map, Function.comp_def] using hn

/-- `Mapping.Values` -/
theorem mappingValues_perm {m m' : AL String} (hp : m'.Perm m) : mappingValues m' = mappingValues m :=
  mappingValues_perm' hp

/-- `Mapping.DecodeMapstructure` of a mapping, observed through `Values()` -/
theorem mappingDecode_perm {kvs kvs' : KVs} (hn : (akeys kvs).Nodup) (hp : kvs'.Perm kvs) :
    (mappingDecode (.map kvs')).map mappingValues = (mappingDecode (.map kvs)).map mappingValues := by
  simp only [mappingDecode, Except.map]
  congr 1
  exact mappingValues_perm' (rangeWrite_perm' _ hn hp)

/-- **pointwise law of `mergeMappings`** for any (total) per-key combiner -/
theorem mergeKVs_pointwise (f : String → Val → Val → Val) (a b : KVs) (hb : (akeys b).Nodup) (k : String) :
    find k (mergeKVs f a b) =
      match find k a, find k b with
      | some x, some y => some (f k x y)
      | some x, none => some x
      | none, some y => some y
      | none, none => none := find_mergeKVs f a b hb k

/-- `mergeMappings`: ranging over the override in any order yields the same mapping -/
theorem mergeKVs_perm (f : String → Val → Val → Val) (a b b' : KVs) (hb : (akeys b).Nodup) (hp : b'.Perm b) (k : String) :
    find k (mergeKVs f a b') = find k (mergeKVs f a b) := mergeKVs_perm' f a b b' hb hp k

/-- `mergeMappings` with a combiner that can fail: *whether* the merge fails does not depend on the order … -/
theorem mergeKVsE_ok_perm {ε : Type} (f : String → Val → Val → Except ε Val) (a b b' : KVs)
    (hb : (akeys b).Nodup) (hp : b'.Perm b) :
    (mergeKVsE f a b').toBool = (mergeKVsE f a b).toBool := by
  have hb' : (akeys b').Nodup := (hp.map Prod.fst).nodup_iff.mpr hb
  rw [mergeKVsE_ok_iff f a b hb, mergeKVsE_ok_iff f a b' hb', hp.all_eq]

/-- … and when it succeeds, the merged mapping does not either -/
theorem mergeKVsE_perm {ε : Type} (f : String → Val → Val → Except ε Val) (a b b' m m' : KVs)
    (hb : (akeys b).Nodup) (hp : b'.Perm b)
    (h : mergeKVsE f a b = .ok m) (h' : mergeKVsE f a b' = .ok m') (k : String) : find k m' = find k m := by
  let g : String → Val → Val → Val := fun k e v => match f k e v with | .ok m => m | .error _ => .null
  have hg : ∀ k e v m, f k e v = .ok m → g k e v = m := by intro k e v m hm; simp only [g, hm]
  rw [mergeKVsE_eq_pure f g hg a b m h, mergeKVsE_eq_pure f g hg a b' m' h']
  exact mergeKVs_perm' g a b b' hb hp k

/-- `mergeYaml` on paths without a special rule: at every mapping the override may be ranged in any order -/
theorem mergeGeneric_ok_perm (a b b' : KVs) (hb : (akeys b).Nodup) (hp : b'.Perm b) :
    (mergeGenericKVs a b').toBool = (mergeGenericKVs a b).toBool := by
  rw [mergeGenericKVs_eq, mergeGenericKVs_eq]
  exact mergeKVsE_ok_perm genericCombiner a b b' hb hp

theorem mergeGeneric_perm (a b b' m m' : KVs) (hb : (akeys b).Nodup) (hp : b'.Perm b)
    (h : mergeGenericKVs a b = .ok m) (h' : mergeGenericKVs a b' = .ok m') (k : String) : find k m' = find k m := by
  rw [mergeGenericKVs_eq] at h h'
  exact mergeKVsE_perm genericCombiner a b b' m m' hb hp h h' k

example : (akeys ([("b", .int 1), ("a", .null)] : KVs)).Nodup := by decide
example : intoSeq (.map [("b", .int 1), ("a", .null)]) = intoSeq (.map [("a", .null), ("b", .int 1)]) :=
  intoSeq_perm (List.Perm.swap _ _ _)
example : sshDecode (.map [("k2", .str "p"), ("k1", .null)]) = .ok [("k1", ""), ("k2", "p")] := by decide +kernel
example : hostsRender [("h2", ["1.1.1.1"]), ("h1", ["::1", "2.2.2.2"])] = ["h1=::1", "h1=2.2.2.2", "h2=1.1.1.1"] := by decide +kernel
example : mergeGenericKVs [("p", .map [("q", .int 1)])] [("p", .map [("r", .int 2)]), ("x-e", .null)] =
    .ok [("p", .map [("q", .int 1), ("r", .int 2)]), ("x-e", .null)] := by rfl
example : (mergeGenericKVs [("p", .map [])] [("p", .int 1)]).toBool = false := by decide

/-- the memoising algorithm (`applyServiceExtends`, which stores every service it resolves on the way into the
services map) run on a map in which some services are already resolved returns exactly what the service *denotes*
in the original map, and leaves a map of the same kind -/
theorem applyExtends_memo_sound {β : Type} (mrg : β → β → β) (m0 m m' : AL (XSvc β)) (k : Nat) (name : String) (r : β)
    (hres : Res mrg m0 m) (h : applyOne mrg k m name = some (m', r)) :
    (∃ j, val mrg j m0 name = some r) ∧ Res mrg m0 m' := applyOne_sound mrg m0 k m m' name r hres h

/-- **`loader.ApplyExtends` does not depend on the order in which Go ranges over the services map**: for two
orders that both visit every service, the loop fails or succeeds alike and, on success, yields the same services map
(a resolved service is a fixed point of resolution).  `mrg` is any merge function; `n` any sufficient fuel. -/
theorem applyExtends_perm {β : Type} (mrg : β → β → β) (n : Nat) (m0 : AL (XSvc β)) (hf : FuelEnough mrg n m0)
    {order order' : List String} (hp : order'.Perm order) (hall : ∀ x, (find x m0).isSome = true → x ∈ order) :
    (applyAll mrg n order' m0).isSome = (applyAll mrg n order m0).isSome ∧
    ∀ mf mf', applyAll mrg n order m0 = some mf → applyAll mrg n order' m0 = some mf' →
      ∀ x, find x mf' = find x mf := applyAll_perm mrg n m0 hf hp hall

/-- the fuel hypothesis holds whenever the `extends` references descend along a rank below `n` (every acyclic
services map has such a rank, e.g. the length of the chain below each service) -/
theorem applyExtends_fuel_of_rank {β : Type} (mrg : β → β → β) (n : Nat) (m0 : AL (XSvc β)) (rank : String → Nat)
    (hdown : ∀ x ref b, find x m0 = some (some ref, b) → rank ref < rank x)
    (hbound : ∀ x, (find x m0).isSome = true → rank x < n) : FuelEnough mrg n m0 := by
  have key : ∀ k x r, val mrg k m0 x = some r → val mrg (rank x + 1) m0 x = some r := by
    intro k
    induction k with
    | zero => intro x r h; simp [val] at h
    | succ k ih =>
      intro x r h
      rw [val_eq_some] at h ⊢
      rcases h with h | ⟨ref, b, base, hf, hb, hr⟩
      · exact .inl h
      · exact .inr ⟨ref, b, base, hf, val_le mrg m0 (hdown x ref b hf) ref base (ih ref base hb), hr⟩
  intro x r k h
  exact val_le mrg m0 (hbound x (val_some_find mrg k m0 x r h)) x r (key k x r h)

/-- fuel sufficiency, for every services map: whatever a service denotes, it denotes within `length` steps — so
running out of fuel means a circular reference, never a long chain -/
theorem applyExtends_fuel_enough {β : Type} (mrg : β → β → β) (m0 : AL (XSvc β)) (j : Nat) :
    FuelEnough mrg (m0.length + j) m0 := fuelEnough_length mrg m0 j

/-- **`loader.ApplyExtends` is independent of the visit order, unconditionally** (fuel = number of services + 1, which
is what the correspondence runs): every two complete visit orders fail or succeed alike and agree on the result -/
theorem applyExtends_order_independent {β : Type} (mrg : β → β → β) (m0 : AL (XSvc β))
    {order order' : List String} (hp : order'.Perm order) (hall : ∀ x, (find x m0).isSome = true → x ∈ order) :
    (applyAll mrg (m0.length + 1) order' m0).isSome = (applyAll mrg (m0.length + 1) order m0).isSome ∧
    ∀ mf mf', applyAll mrg (m0.length + 1) order m0 = some mf → applyAll mrg (m0.length + 1) order' m0 = some mf' →
      ∀ x, find x mf' = find x mf :=
  applyAll_perm mrg (m0.length + 1) m0 (fuelEnough_length mrg m0 1) hp hall

example :
    applyAll (fun (b o : List String) => b ++ o) 4 ["worker", "web", "base"]
      [("base", (none, ["b"])), ("web", (some "base", ["w"])), ("worker", (some "web", ["k"]))] =
    applyAll (fun (b o : List String) => b ++ o) 4 ["base", "web", "worker"]
      [("base", (none, ["b"])), ("web", (some "base", ["w"])), ("worker", (some "web", ["k"]))] := by decide +kernel

/-- a circular reference is an error in every order -/
example : applyAll (fun (b o : List String) => b ++ o) 3 ["a", "b"] [("a", (some "b", [])), ("b", (some "a", []))] = none ∧
    applyAll (fun (b o : List String) => b ++ o) 3 ["b", "a"] [("a", (some "b", [])), ("b", (some "a", []))] = none := by decide +kernel

/-- the loop over one service's `depends_on`: whether it fails and the edges it creates (as a set) are the same for
every iteration order -/
theorem depLoop_perm (en dis : List String) {d d' : AL Bool} (hp : d'.Perm d) (es : List String) :
    (depLoop en dis d' es).toBool = (depLoop en dis d es).toBool ∧
    ∀ s s', depLoop en dis d es = .ok s → depLoop en dis d' es = .ok s' → s'.Perm s := by
  constructor
  · rw [depLoop_toBool en dis d, depLoop_toBool en dis d']
    simp only [missingReq, hp.any_eq]
  · intro s s' h h'
    rw [depLoop_ok en dis d es s h, depLoop_ok en dis d' es s' h']
    exact List.Perm.append_left _ ((hp.filter _).map _)

/-- the project is left as it was: what `newGraph` returns on success is the list of services it was given -/
theorem newGraph_no_mutation (svcs : List Svc) (dis : List String) (ss : List Svc)
    (h : newGraph svcs dis = .ok ss) : ss = svcs := by
  simp only [newGraph] at h
  cases hg : graphLoop (svcs.map (·.name)) dis svcs with
  | error e => simp [hg] at h
  | ok adj =>
    simp only [hg] at h
    split at h
    · cases h
    · cases h; rfl

/-- the loop over `project.Services`: whether some service fails does not depend on the order the services are visited in -/
theorem graphLoop_ok_perm (en dis : List String) {svcs svcs' : List Svc} (hp : svcs'.Perm svcs) :
    (graphLoop en dis svcs').toBool = (graphLoop en dis svcs).toBool := by
  rw [graphLoop_toBool, graphLoop_toBool, hp.all_eq]

/-- **`graph.CheckCycle` is order independent**: for services with distinct names, whether `newGraph` + the cycle
search accept the project is the same for every iteration order of the services map
(`SvcsPerm` = a permutation of the services composed with a permutation of every `depends_on` map).
The function as it was before `fix:` 6b9fea6 is refuted in `Neg.newGraphOld_order_dependent`. -/
theorem newGraph_perm {svcs svcs' : List Svc} (dis : List String)
    (hn : (svcs.map (·.name)).Nodup) (hp : SvcsPerm svcs' svcs) :
    (newGraph svcs' dis).toBool = (newGraph svcs dis).toBool := by
  obtain ⟨mid, hpm, hdm⟩ := hp
  have hnames : (svcs'.map (·.name)).Perm (svcs.map (·.name)) := by
    rw [← hdm.names]; exact hpm.map _
  have he : ∀ x, (svcs'.map (·.name)).contains x = (svcs.map (·.name)).contains x :=
    fun x => hnames.contains_eq
  rw [newGraph_toBool svcs' dis, newGraph_toBool svcs dis]
  congr 1
  · rw [graphLoop_toBool, graphLoop_toBool, hpm.all_eq]
    exact depLoops_all_congr he hdm
  · congr 1
    apply hasCycle_congr
    · rw [akeys_adjOf, akeys_adjOf]; exact hnames
    · intro x
      have hnm : (akeys (adjOf (svcs'.map (·.name)) mid)).Nodup := by
        rw [akeys_adjOf, hdm.names]; exact hn
      have h1 : children (adjOf (svcs'.map (·.name)) svcs') x = children (adjOf (svcs'.map (·.name)) mid) x := by
        simp only [children]
        have hp2 : (adjOf (svcs'.map (·.name)) svcs').Perm (adjOf (svcs'.map (·.name)) mid) := by
          simp only [adjOf]; exact hpm.map _
        rw [find_perm hnm hp2 x]
      rw [h1]
      exact children_adjOf_depsPerm he hdm x

/-- non-vacuity: two iteration orders of a project with a self dependency next to an optional missing one -/
example :
    SvcsPerm [⟨"b", []⟩, ⟨"a", [("off", false), ("a", true)]⟩] [⟨"a", [("a", true), ("off", false)]⟩, ⟨"b", []⟩] := by
  refine ⟨[⟨"a", [("off", false), ("a", true)]⟩, ⟨"b", []⟩], List.Perm.swap _ _ _, ?_⟩
  exact .cons rfl (List.Perm.swap _ _ _) (.cons rfl (List.Perm.refl _) .nil)

example : depLoop ["a", "b"] ["off"] [("b", true), ("off", false)] [] = .ok ["b"] := by decide

/-- `versionWarning` only decides whether a warning is logged: the project computed by a load is the same whatever
loads ran before (`g₁`, `g₂` = the global as earlier loads left it) -/
theorem load_indep_global {I P : Type} (core : I → P) (versioned : I → List String) (g₁ g₂ : List String) (i : I) :
    (loadWithGlobal core versioned g₁ i).2 = (loadWithGlobal core versioned g₂ i).2 := rfl

/-- the global does change (the statement above is not about a constant) -/
example : (warnObsoleteVersion [] "f.yaml").1 ≠ [] ∧ (warnObsoleteVersion ["f.yaml"] "f.yaml").2 = false := by decide

end CV.Det.Props
