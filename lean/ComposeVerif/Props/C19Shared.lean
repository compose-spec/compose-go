import ComposeVerif.Lemmas.Interleave
/-!
# C19 — loads that SHARE their input values by reference

A caller that prepares its arguments once (`types.ToConfigFiles`, one environment map, one list of option functions) and
loads from several goroutines hands every load the same `[]ConfigFile` backing array, the same map, the same function
list.  In the interleaving model (`Lemmas/Interleave.lean`) those are locations with `owner = none`: every load may read
them, no load may write them.  The theorems here are what the `race` stream's *input-immutability* oracle
(`harness/c19race/main.go: sharedSnap.diff`) decides on the real code after cold, concurrent loads of shared inputs.
-/
namespace CV.Interleave

variable {Loc Val Tid : Type}

theorem exec_append (S : Sys Loc Val Tid) (a b : List Tid) (m : Loc → Val) :
    exec S (a ++ b) m = exec S b (exec S a m) := by
  induction a generalizing m with
  | nil => rfl
  | cons t r ih => simp only [List.cons_append, exec]; exact ih _

/-- **input immutability at every point of every interleaving**: whatever prefix of the schedule has run, a location the
    loads share (the caller's config-file list, environment map, option list) holds the value the caller put there -/
theorem shared_inputs_immutable_at_every_point (S : Sys Loc Val Tid) (hW : WritesOwn S) (sched : List Tid) (k : Nat)
    (m : Loc → Val) (x : Loc) (hx : S.owner x = none) : exec S (sched.take k) m x = m x :=
  shared_unchanged S hW (sched.take k) m x hx

/-- … in particular after a whole schedule `a ++ b` and after its first part `a` -/
theorem shared_inputs_immutable_split (S : Sys Loc Val Tid) (hW : WritesOwn S) (a b : List Tid)
    (m : Loc → Val) (x : Loc) (hx : S.owner x = none) :
    exec S (a ++ b) m x = m x ∧ exec S a m x = m x := by
  refine ⟨shared_unchanged S hW (a ++ b) m x hx, shared_unchanged S hW a m x hx⟩

/-- the hypothesis is necessary: a single store into a shared location refutes `WritesOwn` -/
theorem store_into_shared_input_refutes_writes_own (S : Sys Loc Val Tid) {t : Tid} {m : Loc → Val} {x : Loc}
    (hx : S.owner x = none) (hw : S.step t m x ≠ m x) : ¬ WritesOwn S :=
  fun hW => hw (hW t m x (by rw [hx]; simp))

/-! ## witness: an idempotent store into the shared config-file list

Location `none` is the shared `ConfigFiles[0].Content` (`0` = nil, `d + 1` = the bytes `d` read from the file), location
`some b` is the result of load `b`.  A step of load `b` reads the file when the content is nil, stores what it read into
the SHARED location, and computes its result from the bytes — the same result whether it read the file itself or found
the bytes another load left there. -/

def fileBytes : Nat := 7

def sharedStore : Sys (Option Bool) Nat Bool :=
  { owner := fun x => x,
    step := fun t m x =>
      let content := if m none = 0 then fileBytes + 1 else m none
      match x with
      | none => content
      | some b => if b = t then content * 10 else m (some b) }

def callerInput : Option Bool → Nat := fun _ => 0

theorem sharedStore_not_writes_own : ¬ WritesOwn sharedStore :=
  store_into_shared_input_refutes_writes_own sharedStore (t := true) (m := callerInput) (x := none) rfl (by decide)

/-- results cannot tell: under every schedule each load that ran ends with the result it computes alone … -/
theorem idempotent_shared_store_invisible_in_results (sched : List Bool) (b : Bool) (hb : b ∈ sched) :
    exec sharedStore sched callerInput (some b) = exec sharedStore [b] callerInput (some b) := by
  -- the content stays in {0, 8}; once a load has run its result is 80 and stays
  have key : ∀ (s : List Bool) (m : Option Bool → Nat), (m none = 0 ∨ m none = fileBytes + 1) →
      (b ∈ s ∨ m (some b) = (fileBytes + 1) * 10) → exec sharedStore s m (some b) = (fileBytes + 1) * 10 := by
    intro s
    induction s with
    | nil => intro m _ h; exact h.elim (fun h => nomatch h) id
    | cons t r ih =>
      intro m h0 h
      have hn : sharedStore.step t m none = fileBytes + 1 := by rcases h0 with h0 | h0 <;> simp [sharedStore, h0, fileBytes]
      refine ih _ (.inr hn) ?_
      by_cases hbt : b = t
      · exact .inr (by rcases h0 with h0 | h0 <;> simp [sharedStore, hbt, h0, fileBytes])
      · exact h.imp (fun h => (List.mem_cons.mp h).resolve_left hbt) fun h => by simpa [sharedStore, hbt] using h
  rw [key sched callerInput (.inl rfl) (.inl hb), key [b] callerInput (.inl rfl) (.inl (List.mem_singleton.mpr rfl))]

/-- … and yet the caller's shared input is no longer what it handed in, from the first step on -/
theorem idempotent_shared_store_mutates_input (t : Bool) (rest : List Bool) :
    exec sharedStore (t :: rest) callerInput none ≠ callerInput none := by
  have key : ∀ (s : List Bool) (m : Option Bool → Nat), m none = fileBytes + 1 → exec sharedStore s m none = fileBytes + 1 := by
    intro s
    induction s with
    | nil => intro m h; exact h
    | cons u r ih => intro m h; simp only [exec]; apply ih; simp [sharedStore, h, fileBytes]
  simp only [exec]
  rw [key rest _ (by simp [sharedStore, callerInput])]
  decide

end CV.Interleave
