import ComposeVerif.Gen.C15Facts
/-!
# C15 — the bodies of the modelled functions, as the source has them

`translator/c15.go` prints, on every run, the signature and every statement (in source order) of each function that
`Model/Select.lean` models by hand.  The theorems below state those skeletons as literals, each next to the model
definition that mirrors it.  An edit of one of these bodies (a dropped `var dependencies`, a changed
condition, a reordered delete, another argument to `WithServicesEnvironmentResolved` …) breaks the matching obligation
before any differential stream runs; the check then reports `no-failing-input-found` unless the streams find an input.
-/
namespace CV.Sel

/-- `HasProfile` — modelled by `hasProfile`: no profile ⇒ true; otherwise some listed profile is `*` or one of the service's -/
theorem source_HasProfile_is_modelled :
    CV.Gen.c15_HasProfile = [
  "func (profiles []string) bool",
  "if len(s.Profiles) == 0",
  "return true",
  "for _, p := range profiles",
  "if p == \"*\"",
  "return true",
  "for _, sp := range s.Profiles",
  "if sp == p",
  "return true",
  "return false"] := by
  rfl

/-- `AllServices` — modelled by `allServices`: enabled entries first, disabled entries written over them -/
theorem source_AllServices_is_modelled :
    CV.Gen.c15_AllServices = [
  "func () Services",
  "all := Services{}",
  "for name, service := range p.Services",
  "all[name] = service",
  "for name, service := range p.DisabledServices",
  "all[name] = service",
  "return all"] := by
  rfl

/-- `WithProfiles` — modelled by `withProfiles`: range over `AllServices()` of the copy, `HasProfile` decides the side, both maps and `Profiles` replaced -/
theorem source_WithProfiles_is_modelled :
    CV.Gen.c15_WithProfiles = [
  "func (profiles []string) (*Project, error)",
  "newProject := p.deepCopy()",
  "enabled := Services{}",
  "disabled := Services{}",
  "for name, service := range newProject.AllServices()",
  "if service.HasProfile(profiles)",
  "(has else)",
  "enabled[name] = service",
  "disabled[name] = service",
  "newProject.Services = enabled",
  "newProject.DisabledServices = disabled",
  "newProject.Profiles = slices.Clone(profiles)",
  "return newProject, nil"] := by
  rfl

/-- `WithServicesEnabled` — modelled by `withServicesEnabled` / `enableProfiles`: no names ⇒ the copy; for each name not enabled the profiles of `p.DisabledServices[name]` (zero value if absent) are appended; then `WithProfiles`, then `WithServicesEnvironmentResolved(true)` -/
theorem source_WithServicesEnabled_is_modelled :
    CV.Gen.c15_WithServicesEnabled = [
  "func (names ...string) (*Project, error)",
  "newProject := p.deepCopy()",
  "if len(names) == 0",
  "return newProject, nil",
  "profiles := append([]string{}, p.Profiles...)",
  "for _, name := range names",
  "if _, ok := newProject.Services[name]; ok",
  "_, ok := newProject.Services[name]",
  "continue",
  "service := p.DisabledServices[name]",
  "profiles = append(profiles, service.Profiles...)",
  "newProject, err := newProject.WithProfiles(profiles)",
  "if err != nil",
  "return newProject, err",
  "return newProject.WithServicesEnvironmentResolved(true)"] := by
  rfl

/-- `WithServicesEnvironmentResolved` — modelled by `resolveEnabled` / `resolveEnvSvc` (`Model/Select.lean`, services without env_file; env files are C16's `EnvLayers.resolveServiceEnv`): only `newProject.Services` is ranged over -/
theorem source_WithServicesEnvironmentResolved_is_modelled :
    CV.Gen.c15_WithServicesEnvironmentResolved = [
  "func (discardEnvFiles bool) (*Project, error)",
  "newProject := p.deepCopy()",
  "for i, service := range newProject.Services",
  "service.Environment = service.Environment.Resolve(newProject.Environment.Resolve)",
  "environment := MappingWithEquals{}",
  "var resolve dotenv.LookupFn = func(s string) (string, bool) { …",
  "v, ok := environment[s]",
  "if ok && v != nil",
  "return *v, ok",
  "return newProject.Environment.Resolve(s)",
  "for _, envFile := range service.EnvFiles",
  "vars, err := loadEnvFile(envFile, resolve)",
  "if err != nil",
  "return nil, err",
  "environment.OverrideBy(vars.ToMappingWithEquals())",
  "service.Environment = environment.OverrideBy(service.Environment)",
  "if discardEnvFiles",
  "service.EnvFiles = nil",
  "newProject.Services[i] = service",
  "return newProject, nil"] := by
  rfl

/-- `WithServicesDisabled` — modelled by `withServicesDisabled` / `disableOne`: per name, in argument order: delete the name from every enabled service's `DependsOn`, then move the service if it is enabled -/
theorem source_WithServicesDisabled_is_modelled :
    CV.Gen.c15_WithServicesDisabled = [
  "func (names ...string) *Project",
  "newProject := p.deepCopy()",
  "if len(names) == 0",
  "return newProject",
  "if newProject.DisabledServices == nil",
  "newProject.DisabledServices = Services{}",
  "for _, name := range names",
  "for i, s := range newProject.Services",
  "if _, ok := s.DependsOn[name]; ok",
  "_, ok := s.DependsOn[name]",
  "delete(s.DependsOn, name)",
  "newProject.Services[i] = s",
  "if service, ok := newProject.Services[name]; ok",
  "service, ok := newProject.Services[name]",
  "newProject.DisabledServices[name] = service",
  "delete(newProject.Services, name)",
  "return newProject"] := by
  rfl

/-- `ForEachService` — modelled by `forEachService`: default policy = dependencies; fresh `seen`, empty `dependencies` map -/
theorem source_ForEachService_is_modelled :
    CV.Gen.c15_ForEachService = [
  "func (names []string, fn ServiceFunc, options ...DependencyOption) error",
  "if len(options) == 0",
  "options = []DependencyOption{IncludeDependencies}",
  "return p.withServices(names, fn, map[string]bool{}, options, map[string]ServiceDependency{})"] := by
  rfl

/-- `withServices` — modelled by `walk` / `walkLoop` / `missingFatal` / `nextOf`: not-found check first (fatal unless the caller's `dependencies` marks it optional), then the range over the found services with `seen`, a fresh per-service `dependencies` map (`var dependencies`), recursion on its sorted keys, `fn` after the recursion -/
theorem source_withServices_is_modelled :
    CV.Gen.c15_withServices = [
  "func (names []string, fn ServiceFunc, seen map[string]bool, options []DependencyOption, dependencies map[string]ServiceDependency) error",
  "services, servicesNotFound := p.getServicesByNames(names...)",
  "if len(servicesNotFound) > 0",
  "for _, serviceNotFound := range servicesNotFound",
  "if dependency, ok := dependencies[serviceNotFound]; !ok || dependency.Required",
  "dependency, ok := dependencies[serviceNotFound]",
  "return fmt.Errorf(\"no such service: %s\", serviceNotFound)",
  "opts := withServicesOptions{ …",
  "for _, option := range options",
  "option(&opts)",
  "for name, service := range services",
  "if seen[name]",
  "continue",
  "seen[name] = true",
  "var dependencies map[string]ServiceDependency",
  "switch opts.dependencyPolicy",
  "case includeDependents",
  "dependencies = utils.MapsAppend(dependencies, p.dependentsForService(service))",
  "case includeDependencies",
  "dependencies = utils.MapsAppend(dependencies, service.DependsOn)",
  "case ignoreDependencies",
  "if len(dependencies) > 0",
  "err := p.withServices(utils.MapKeys(dependencies), fn, seen, options, dependencies)",
  "if err != nil",
  "return err",
  "if err := fn(name, service.deepCopy()); err != nil",
  "err := fn(name, service.deepCopy())",
  "return err",
  "return nil"] := by
  rfl

/-- `getServicesByNames` — modelled by `walk` (`names' := if names.isEmpty then keys svcs else names`) and the `lookup` in `walkLoop` -/
theorem source_getServicesByNames_is_modelled :
    CV.Gen.c15_getServicesByNames = [
  "func (names ...string) (Services, []string)",
  "if len(names) == 0",
  "return p.Services, nil",
  "services := Services{}",
  "var servicesNotFound []string",
  "for _, name := range names",
  "service, ok := p.Services[name]",
  "if !ok",
  "servicesNotFound = append(servicesNotFound, name)",
  "continue",
  "services[name] = service",
  "return services, servicesNotFound"] := by
  rfl

/-- `dependentsForService` — modelled by `dependents`: keyed by the dependent's `Name`, compared with `s.Name` -/
theorem source_dependentsForService_is_modelled :
    CV.Gen.c15_dependentsForService = [
  "func (s ServiceConfig) map[string]ServiceDependency",
  "dependent := make(map[string]ServiceDependency)",
  "for _, service := range p.Services",
  "for name, dependency := range service.DependsOn",
  "if name == s.Name",
  "dependent[service.Name] = dependency",
  "return dependent"] := by
  rfl

/-- `WithSelectedServices` — modelled by `withSelectedServices` / `selectStep` / `pruneDeps` / `sortNames`: no names ⇒ the copy; walk on the receiver; selected services pruned to the set and kept, the others collected, sorted and disabled with one call; `Services` replaced -/
theorem source_WithSelectedServices_is_modelled :
    CV.Gen.c15_WithSelectedServices = [
  "func (names []string, options ...DependencyOption) (*Project, error)",
  "newProject := p.deepCopy()",
  "if len(names) == 0",
  "return newProject, nil",
  "set := utils.NewSet[string]()",
  "err := p.ForEachService(names, func(name string, service *ServiceConfig) error { …",
  "set.Add(name)",
  "return nil",
  "if err != nil",
  "return nil, err",
  "enabled := Services{}",
  "var unselected []string",
  "for name, s := range newProject.Services",
  "if _, ok := set[name]; ok",
  "(has else)",
  "_, ok := set[name]",
  "dependencies := s.DependsOn",
  "for d := range dependencies",
  "if _, ok := set[d]; !ok",
  "_, ok := set[d]",
  "delete(dependencies, d)",
  "s.DependsOn = dependencies",
  "enabled[name] = s",
  "unselected = append(unselected, name)",
  "sort.Strings(unselected)",
  "newProject = newProject.WithServicesDisabled(unselected...)",
  "newProject.Services = enabled",
  "return newProject, nil"] := by
  rfl

/-- `WithoutUnnecessaryResources` — modelled by `withoutUnnecessaryResources` / `pick` / `volSources` / `secretSources`: four required sets from the enabled services of the copy, each resource map rebuilt from the copy's map -/
theorem source_WithoutUnnecessaryResources_is_modelled :
    CV.Gen.c15_WithoutUnnecessaryResources = [
  "func () *Project",
  "newProject := p.deepCopy()",
  "requiredNetworks := map[string]struct{}{}",
  "requiredVolumes := map[string]struct{}{}",
  "requiredSecrets := map[string]struct{}{}",
  "requiredConfigs := map[string]struct{}{}",
  "for _, s := range newProject.Services",
  "for k := range s.Networks",
  "requiredNetworks[k] = struct{}{}",
  "for _, v := range s.Volumes",
  "if v.Type != VolumeTypeVolume || v.Source == \"\"",
  "continue",
  "requiredVolumes[v.Source] = struct{}{}",
  "for _, v := range s.Secrets",
  "requiredSecrets[v.Source] = struct{}{}",
  "if s.Build != nil",
  "for _, v := range s.Build.Secrets",
  "requiredSecrets[v.Source] = struct{}{}",
  "for _, v := range s.Configs",
  "requiredConfigs[v.Source] = struct{}{}",
  "networks := Networks{}",
  "for k := range requiredNetworks",
  "if value, ok := newProject.Networks[k]; ok",
  "value, ok := newProject.Networks[k]",
  "networks[k] = value",
  "newProject.Networks = networks",
  "volumes := Volumes{}",
  "for k := range requiredVolumes",
  "if value, ok := newProject.Volumes[k]; ok",
  "value, ok := newProject.Volumes[k]",
  "volumes[k] = value",
  "newProject.Volumes = volumes",
  "secrets := Secrets{}",
  "for k := range requiredSecrets",
  "if value, ok := newProject.Secrets[k]; ok",
  "value, ok := newProject.Secrets[k]",
  "secrets[k] = value",
  "newProject.Secrets = secrets",
  "configs := Configs{}",
  "for k := range requiredConfigs",
  "if value, ok := newProject.Configs[k]; ok",
  "value, ok := newProject.Configs[k]",
  "configs[k] = value",
  "newProject.Configs = configs",
  "return newProject"] := by
  rfl

/-- `MapKeys` — modelled by sorted keys (the model recurses on the keys in list order; the visit order is not observable: `forEachService_ok`) -/
theorem source_MapKeys_is_modelled :
    CV.Gen.c15_MapKeys = [
  "func [T constraints.Ordered, U any](theMap map[T]U) []T",
  "result := maps.Keys(theMap)",
  "slices.Sort(result)",
  "return result"] := by
  rfl

/-- `MapsAppend` — modelled by with a nil target (always the case after `var dependencies`) the source map itself -/
theorem source_MapsAppend_is_modelled :
    CV.Gen.c15_MapsAppend = [
  "func [T comparable, U any](target map[T]U, source map[T]U) map[T]U",
  "if target == nil",
  "return source",
  "if source == nil",
  "return target",
  "for key, value := range source",
  "if _, ok := target[key]; !ok",
  "_, ok := target[key]",
  "target[key] = value",
  "return target"] := by
  rfl

/-! ## option functions and accessors -/

/-- `IncludeDependencies` — modelled by `Policy.deps` in `policyOf`: an option overwrites `dependencyPolicy`, so of several options the last one decides -/
theorem source_IncludeDependencies_is_modelled :
    CV.Gen.c15_IncludeDependencies = [
  "func (options *withServicesOptions)",
  "options.dependencyPolicy = includeDependencies"] := by
  rfl

/-- `IncludeDependents` — `Policy.dependents` -/
theorem source_IncludeDependents_is_modelled :
    CV.Gen.c15_IncludeDependents = [
  "func (options *withServicesOptions)",
  "options.dependencyPolicy = includeDependents"] := by
  rfl

/-- `IgnoreDependencies` — `Policy.ignore` -/
theorem source_IgnoreDependencies_is_modelled :
    CV.Gen.c15_IgnoreDependencies = [
  "func (options *withServicesOptions)",
  "options.dependencyPolicy = ignoreDependencies"] := by
  rfl

/-- `ServiceNames` — modelled by `serviceNames`: the keys of `Services`, `sort.Strings`ed -/
theorem source_ServiceNames_is_modelled :
    CV.Gen.c15_ServiceNames = [
  "func () []string",
  "var names []string",
  "for k := range p.Services",
  "names = append(names, k)",
  "sort.Strings(names)",
  "return names"] := by
  rfl

/-- `DisabledServiceNames` — modelled by `disabledServiceNames` -/
theorem source_DisabledServiceNames_is_modelled :
    CV.Gen.c15_DisabledServiceNames = [
  "func () []string",
  "var names []string",
  "for k := range p.DisabledServices",
  "names = append(names, k)",
  "sort.Strings(names)",
  "return names"] := by
  rfl

/-- `GetService` — modelled by `getService`: the enabled service, else `ErrDisabled` if the name is a disabled service, else `ErrNotFound` -/
theorem source_GetService_is_modelled :
    CV.Gen.c15_GetService = [
  "func (name string) (ServiceConfig, error)",
  "service, ok := p.Services[name]",
  "if !ok",
  "_, ok := p.DisabledServices[name]",
  "if ok",
  "return ServiceConfig{}, fmt.Errorf(\"no such service: %s: %w\", name, errdefs.ErrDisabled)",
  "return ServiceConfig{}, fmt.Errorf(\"no such service: %s: %w\", name, errdefs.ErrNotFound)",
  "return service, nil"] := by
  rfl

/-- `GetServices` — modelled by `getServices` / `getServicesLoop`: no name ⇒ the service map; else `GetService` per name in argument order, the first error is returned -/
theorem source_GetServices_is_modelled :
    CV.Gen.c15_GetServices = [
  "func (names ...string) (Services, error)",
  "if len(names) == 0",
  "return p.Services, nil",
  "services := Services{}",
  "for _, name := range names",
  "service, err := p.GetService(name)",
  "if err != nil",
  "return nil, err",
  "services[name] = service",
  "return services, nil"] := by
  rfl

/-- `GetDisabledService` — modelled by `getDisabledService` -/
theorem source_GetDisabledService_is_modelled :
    CV.Gen.c15_GetDisabledService = [
  "func (name string) (ServiceConfig, error)",
  "service, ok := p.DisabledServices[name]",
  "if !ok",
  "return ServiceConfig{}, fmt.Errorf(\"no such service: %s\", name)",
  "return service, nil"] := by
  rfl

/-- `GetDependentsForService` — modelled by `getDependentsForService`: `MapKeys` (sorted) of `dependentsForService` -/
theorem source_GetDependentsForService_is_modelled :
    CV.Gen.c15_GetDependentsForService = [
  "func (s ServiceConfig) []string",
  "return utils.MapKeys(p.dependentsForService(s))"] := by
  rfl

/-- `ServiceConfig.GetDependents` — modelled by `getDependents`: one `service.Name` per enabled service with a `depends_on` entry for `s.Name`, in range order -/
theorem source_GetDependents_is_modelled :
    CV.Gen.c15_GetDependents = [
  "func (p *Project) []string",
  "var dependent []string",
  "for _, service := range p.Services",
  "for name := range service.DependsOn",
  "if name == s.Name",
  "dependent = append(dependent, service.Name)",
  "return dependent"] := by
  rfl

/-- `Services.GetProfiles` — modelled by `getProfilesPre` (one possible order) / `getProfiles` (its sorted view): the profiles of the services collected in a set, listed by ranging over that set (not sorted: callers get an unordered list) -/
theorem source_GetProfiles_is_modelled :
    CV.Gen.c15_GetProfiles = [
  "func () []string",
  "set := map[string]struct{}{}",
  "for _, service := range s",
  "for _, p := range service.Profiles",
  "set[p] = struct{}{}",
  "var profiles []string",
  "for k := range set",
  "profiles = append(profiles, k)",
  "return profiles"] := by
  rfl

/-! ## the loader side (`Model/SelectLoad.lean`) -/

/-- `loader.modelToProject` — modelled by `loadApply`: `Transform`, then `WithProfiles(opts.Profiles)` unconditionally, then the
consistency check unless skipped, then the environment resolution unless skipped — in this order -/
theorem source_modelToProject_tail_is_modelled :
    CV.Gen.c15_modelToProject_tail = [
  "err = Transform(dict, project)",
  "if project, err = project.WithProfiles(opts.Profiles); err != nil",
  "project, err = project.WithProfiles(opts.Profiles)",
  "if !opts.SkipConsistencyCheck",
  "err := checkConsistency(project)",
  "if !opts.SkipResolveEnvironment",
  "project, err = project.WithServicesEnvironmentResolved(opts.discardEnvFiles)"] := by
  rfl

/-- the `depends_on` loop of `loader.checkConsistency` — modelled by `depOffence` / `checkDeps`: `GetService` must succeed, or fail
with `ErrDisabled` on an edge that is not required -/
theorem source_checkConsistency_dependsOn_is_modelled :
    CV.Gen.c15_checkConsistency_dependsOn = [
  "for dependedService, cfg := range s.DependsOn",
  "if _, err := project.GetService(dependedService); err != nil",
  "_, err := project.GetService(dependedService)",
  "if errors.Is(err, errdefs.ErrDisabled) && !cfg.Required",
  "return fmt.Errorf(\"service %q depends on undefined service %q: %w\", s.Name, dependedService, errdefs.ErrInvalid)"] := by
  rfl

/-- `cli.WithDefaultProfiles` — modelled by `defaultProfiles`: no given profile ⇒ `COMPOSE_PROFILES` split at `,`, each piece
`TrimSpace`d; the result goes to `loader.WithProfiles` -/
theorem source_WithDefaultProfiles_is_modelled :
    CV.Gen.c15_WithDefaultProfiles = [
  "func (profiles ...string) ProjectOptionsFn",
  "return func(o *ProjectOptions) error { …",
  "if len(profiles) == 0",
  "for _, s := range strings.Split(o.Environment[consts.ComposeProfiles], \",\")",
  "profiles = append(profiles, strings.TrimSpace(s))",
  "o.loadOptions = append(o.loadOptions, loader.WithProfiles(profiles))",
  "return nil"] := by
  rfl

end CV.Sel
