import ComposeVerif.Lemmas.SecretsLoad
import ComposeVerif.Lemmas.SecretsBytes
import ComposeVerif.Neg.C20
import ComposeVerif.Gen.SecretsFacts
/-!
# C20 — secret values taken from the environment never leak into rendered output

The theorems of the property (the predicates are in `Spec/Secrets.lean`, the stage lemmas in `Lemmas/Secrets*.lean`); four
of them carry their argument themselves: `loadDict_agrees_with_load`, `load_section_order_independent`, the induction on
`Enc.Rend` in `word_survives_only_where_it_was`, and `json_bytes_of_clean_tree_are_clean`.
`P` is an arbitrary predicate on strings ("untainted"); the canary statements instantiate it with
`fun s => ¬ occurs c s`.  Nothing is ever assumed about the *values* of the environment.
-/
namespace CV.Secrets
open CV
open CV.Val hiding lookup_insert_self lookup_insert_ne

/-! ## the source facts (regenerated by the translator on every run) -/

/-- the carrier key, the extensions key and the table of user-defined key positions are the modelled ones -/
theorem constants_are_modelled :
    CV.Gen.Secrets.secretConfigXValue = xValue ∧ CV.Gen.Secrets.extensionsKey = extKey ∧
    CV.Gen.Secrets.userDefinedKeys = userDefinedKeys := ⟨rfl, rfl, rfl⟩

/-- `FileObjectConfig` has exactly the modelled fields, tags (`omitempty` everywhere, extensions inline in YAML and
absent from JSON) and the unexported flag; secrets and configs are that same struct -/
theorem fileObject_is_modelled :
    CV.Gen.Secrets.fileObjectFields =
      [("Name", "string", "name,omitempty", "name,omitempty"),
       ("File", "string", "file,omitempty", "file,omitempty"),
       ("Environment", "string", "environment,omitempty", "environment,omitempty"),
       ("Content", "string", "content,omitempty", "content,omitempty"),
       ("marshallContent", "bool", "", ""),
       ("External", "External", "external,omitempty", "external,omitempty"),
       ("Labels", "Labels", "labels,omitempty", "labels,omitempty"),
       ("Driver", "string", "driver,omitempty", "driver,omitempty"),
       ("DriverOpts", "map[string]string", "driver_opts,omitempty", "driver_opts,omitempty"),
       ("TemplateDriver", "string", "template_driver,omitempty", "template_driver,omitempty"),
       ("Extensions", "Extensions", "#extensions,inline,omitempty", "-")] ∧
    CV.Gen.Secrets.typeOf_SecretConfig = "FileObjectConfig" ∧ CV.Gen.Secrets.typeOf_ConfigObjConfig = "FileObjectConfig" := ⟨rfl, rfl, rfl⟩

/-- the two resolvers and the decoder hook have the modelled bodies -/
theorem loader_functions_are_modelled :
    CV.Gen.Secrets.body_resolveSecretsEnvironment = "{ secrets, ok := dict[\"secrets\"].(map[string]any) if !ok { return } for name, cfg := range secrets { secret, ok := cfg.(map[string]any) if !ok { continue } env, ok := secret[\"environment\"].(string) if !ok || env == \"\" { continue } if found, ok := environment[env]; ok { secret[types.SecretConfigXValue] = found } secrets[name] = secret } dict[\"secrets\"] = secrets }" ∧
    CV.Gen.Secrets.body_resolveConfigsEnvironment = "{ configs, ok := dict[\"configs\"].(map[string]any) if !ok { return } for name, cfg := range configs { config, ok := cfg.(map[string]any) if !ok { continue } env, ok := config[\"environment\"].(string) if !ok || env == \"\" { continue } if found, ok := environment[env]; ok { config[\"content\"] = found } configs[name] = config } dict[\"configs\"] = configs }" ∧
    CV.Gen.Secrets.body_secretConfigDecoderHook = "{ if from.Kind() == reflect.Map && to == reflect.TypeOf(types.SecretConfig{}) { if v, ok := data.(map[string]interface{}); ok { if ext, ok := v[consts.Extensions].(map[string]interface{}); ok { if val, ok := ext[types.SecretConfigXValue].(string); ok { v[\"Content\"] = val delete(ext, types.SecretConfigXValue) if len(ext) == 0 { delete(v, consts.Extensions) } } } } } return data, nil }" := ⟨rfl, rfl, rfl⟩

/-- the four renderers blank `Content` as modelled, on value receivers; the opt-in works on a deep copy -/
theorem renderers_are_modelled :
    CV.Gen.Secrets.body_SecretConfig_MarshalYAML = "{ if !s.marshallContent { s.Content = \"\" } return FileObjectConfig(s), nil }" ∧
    CV.Gen.Secrets.body_SecretConfig_MarshalJSON = "{ if !s.marshallContent { s.Content = \"\" } return json.Marshal(FileObjectConfig(s)) }" ∧
    CV.Gen.Secrets.body_ConfigObjConfig_MarshalYAML = "{ if s.Environment != \"\" { s.Content = \"\" } return FileObjectConfig(s), nil }" ∧
    CV.Gen.Secrets.body_ConfigObjConfig_MarshalJSON = "{ if s.Environment != \"\" { s.Content = \"\" } return json.Marshal(FileObjectConfig(s)) }" ∧
    CV.Gen.Secrets.marshalReceivers = [("SecretConfig", "MarshalYAML"), ("SecretConfig", "MarshalJSON"), ("ConfigObjConfig", "MarshalYAML"), ("ConfigObjConfig", "MarshalJSON")] ∧
    CV.Gen.Secrets.body_marshallOptions_apply = "{ if opt.secretsContent { p = p.deepCopy() for name, config := range p.Secrets { config.marshallContent = true p.Secrets[name] = config } } return p }" ∧
    CV.Gen.Secrets.body_WithSecretContent = "{ o.secretsContent = true }" ∧
    CV.Gen.Secrets.body_applyMarshallOptions = "{ opts := &marshallOptions{} for _, option := range options { option(opts) } p = opts.apply(p) return p }" := ⟨rfl, rfl, rfl, rfl, rfl, rfl, rfl, rfl⟩

/-- the two project renderers encode the project `applyMarshallOptions` returns — `render` applies the options
first and takes both sections from the result: `Project.MarshalYAML` encodes `src` into a fresh local buffer;
`Project.MarshalJSON` takes `secrets` and `configs` (when not empty: `sectionKV`) from `src` and never reads its receiver
after the options are applied -/
theorem project_renderers_are_modelled :
    CV.Gen.Secrets.body_Project_MarshalYAML = "{ buf := bytes.NewBuffer([]byte{}) encoder := yaml.NewEncoder(buf) encoder.SetIndent(2) src := applyMarshallOptions(p, options...) err := encoder.Encode(src) if err != nil { return nil, err } return buf.Bytes(), nil }" ∧
    CV.Gen.Secrets.project_MarshalJSON_secrets_configs = ["src := applyMarshallOptions(p, options...)", "if len(src.Secrets) > 0 { m[\"secrets\"] = src.Secrets }", "if len(src.Configs) > 0 { m[\"configs\"] = src.Configs }", "return json.MarshalIndent(m, \"\", \" \")"] ∧
    CV.Gen.Secrets.project_MarshalJSON_receiver_uses = [] := ⟨rfl, rfl, rfl⟩

/-- after `resolveSecretsEnvironment` / `resolveConfigsEnvironment` a resource object is untainted except
for a string under the first entry keyed by the carrier (`x-#value`, resp. `content`) -/
theorem taint_confined_resolve {P : String → Prop} {c : String} (hc : P c) (env : Env) {v : Val} (h : AllStr P v) :
    ValOkF P c (resolveObj c env v) := ValOkF_resolveObj hc env (ValOkF_of_AllStr h)

/-- `setNameFromKey` keeps the confinement (it only writes `name`) -/
theorem taint_confined_setName {P : String → Prop} {c : String} (hcn : c ≠ "name") (hn : P "name") {pname key : String}
    (hkey : P key) (hgen : P (pname ++ "_" ++ key)) {kvs : KVs} (h : ObjOkF P c kvs) :
    ObjOkF P c (setNameKVs pname key kvs) := ObjOkF_setNameKVs hcn hn hkey hgen h

/-- after `processExtensions` (at any path) the taint of a secret sits only under `x-#value`,
directly or inside `#extensions` -/
theorem taint_confined_processExtensions {P : String → Prop} (hx : P extKey) (p : TPath) {kvs : KVs}
    (h : ObjOkF P xValue kvs) :
    ∃ kvs', pxVal p (.map kvs) = .map kvs' ∧ RawOk P xValue kvs' :=
  ⟨_, rfl, RawOk_withExtras hx xValue_ne_extKey p _ h (ObjOkF_extrasOf h _)⟩

/-- `processExtensions` invents no string anywhere in the tree -/
theorem processExtensions_invents_nothing {P : String → Prop} (hx : P extKey) (dict : KVs) (h : AllStrKV P dict) :
    AllStr P (processExtensions dict) := AllStr_pxVal hx _ (.map dict) (by simpa [AllStr] using h)

/-- after `secretConfigDecoderHook` the taint sits only under `Content`; `#extensions` is clean -/
theorem taint_confined_hook {P : String → Prop} {kvs : KVs} (h : RawOk P xValue kvs) :
    RawOk P xValue (hook kvs) ∧ ExtClean P (hook kvs) := RawOk_hook h

/-- on the typed secret the taint sits only in `Content`, and the rendering flag is off -/
theorem taint_confined_decode {P : String → Prop} (hx : P extKey) (hemp : P "") (hnil : P "<nil>") (hcut : CutClosed P)
    {p : TPath} {kvs : KVs} (h : ObjOkF P xValue kvs)
    {o : FileObj} (hd : decodeSecret (pxVal p (.map kvs)) = .ok o) : o.CleanBut P ∧ o.marshallContent = false :=
  -- the instance "nothing registered" (`DecOk_default`; the carrier test is in the code: `.inl rfl`) of the lemma under options
  secret_obj_cleanK (g := true) hx hemp hnil hcut DecOk_default (.inl rfl) h
    (by simpa [pxObjK, decodeKnown_none, pxVal] using hd)

/-- **taint_confined** (whole pipeline, secrets): every loaded secret is untainted outside `Content`
and is loaded with the rendering flag off — for every model shape, whatever the environment holds -/
theorem taint_confined_secrets {P : String → Prop} (hx : P extKey) (hxv : P xValue) (hn : P "name")
    (hemp : P "") (hnil : P "<nil>") (hcut : CutClosed P)
    {env : Env} {pname : String} {dict : KVs} (hd : AllStrKV P dict) (hgen : GenNamesOk P pname "secrets" dict)
    {ss : List (String × FileObj)} (h : loadSection true env pname dict = .ok ss) :
    ∀ e ∈ ss, P e.1 ∧ e.2.CleanBut P ∧ e.2.marshallContent = false :=
  secrets_confined hx hxv hn hemp hnil hcut (section_confined hd hgen) h

/-- **taint_confined** (whole pipeline, configs): every loaded config is untainted outside `Content`, and a
tainted `Content` comes with a named source variable (the resolvers skip the empty variable name) -/
theorem taint_confined_configs {P : String → Prop} (hx : P extKey) (hct : P "content") (hn : P "name")
    (hemp : P "") (hnil : P "<nil>") (hcut : CutClosed P)
    {env : Env} {pname : String} {dict : KVs} (hd : AllStrKV P dict) (hgen : GenNamesOk P pname "configs" dict)
    {cs : List (String × FileObj)} (h : loadSection false env pname dict = .ok cs) :
    ∀ e ∈ cs, P e.1 ∧ e.2.CleanBut P ∧ (e.2.environment ≠ "" ∨ OptP P e.2.content) :=
  configs_confined hx hct hn hemp hnil hcut (section_clean hd hgen) h

/-- **render_default_clean (secrets)**: for every model, every environment and both renderers,
the default rendering of every loaded secret is untainted: the value never reaches it -/
theorem render_default_clean_secrets {P : String → Prop} (hv : VocabOk P)
    {env : Env} {pname : String} {dict : KVs} (hd : AllStrKV P dict) (hgen : GenNamesOk P pname "secrets" dict)
    {p : Proj} (h : load env pname dict = .ok p) (r : Renderer) :
    AllStrKV P (mapVals (renderSecret r) p.secrets) := by
  have hs := taint_confined_secrets hv.ext hv.carrier hv.name hv.empty hv.nil hv.cut hd hgen (load_ok h).1
  exact AllStrKV_mapVals fun e he => ⟨(hs e he).1, AllStr_renderSecret hv.vocab (hs e he).2.1 (hs e he).2.2 r⟩

/-- **render_default_clean (whole project)**: the default YAML and JSON renderings of the secrets and configs
sections are untainted, for every model shape and every environment (for the resolver without the test of the
variable name it needs "no config names the empty variable": `Neg/C20.lean`) -/
theorem render_default_clean {P : String → Prop} (hv : VocabOk P)
    {env : Env} {pname : String} {dict : KVs} (hd : AllStrKV P dict)
    (hgs : GenNamesOk P pname "secrets" dict) (hgc : GenNamesOk P pname "configs" dict)
    {p : Proj} (h : load env pname dict = .ok p) (r : Renderer) :
    AllStr P (render r false p) :=
  AllStr_render_default hv (hv.confined (section_confined hd hgs) (section_clean hd hgc) h) r

/-- before the `fix:` the statement was false: with the pre-fix resolver (no test of the variable name) a config
whose source variable is the empty name is loaded with the value and rendered — witness in `Neg/C20.lean` -/
theorem render_default_clean_was_false_before_fix :
    ¬ (∀ (c : List Char), VocabOk (fun s => ¬ occurs c s) →
        ∀ (env : Env) (pname : String) (dict : KVs), Clean c (.map dict) →
          GenNamesOk (fun s => ¬ occurs c s) pname "secrets" dict → GenNamesOk (fun s => ¬ occurs c s) pname "configs" dict →
          ∀ (p : Proj), Neg.loadPre env pname dict = .ok p → ∀ r, Clean c (render r false p)) :=
  Neg.render_default_clean_fails_prefix

/-- the statement of the property: a canary that occurs nowhere in the model (and not in the fixed vocabulary or
the generated resource names) occurs nowhere in the default rendering, whatever the environment holds -/
theorem canary_absent_from_default_rendering (c : List Char)
    (hv : VocabOk (fun s => ¬ occurs c s))
    {env : Env} {pname : String} {dict : KVs} (hd : Clean c (.map dict))
    (hgs : GenNamesOk (fun s => ¬ occurs c s) pname "secrets" dict)
    (hgc : GenNamesOk (fun s => ¬ occurs c s) pname "configs" dict)
    {p : Proj} (h : load env pname dict = .ok p) (r : Renderer) :
    Clean c (render r false p) :=
  render_default_clean hv (by simpa [Clean, AllStr] using hd) hgs hgc h r

/-- **value availability** (the value is on the loaded project for the engine): a secret object with `environment: e`
(and no `content` key of its own), for which the environment defines `e`, is loaded — at any path whose keys are not
user defined, such as `secrets.<name>` — with `Content` equal to that value -/
theorem secret_value_available {env : Env} {kvs : KVs} {e v pname n : String} {p : TPath}
    (he : Val.lookup "environment" kvs = some (.str e)) (hee : e ≠ "") (hv : env.lookup e = some v)
    (hnc : Val.lookup "content" kvs = none) (hp : isUserDefined p = false) {o : FileObj}
    (hr : ∃ kvs1, resolveObj xValue env (.map kvs) = .map kvs1 ∧
      decodeSecret (pxVal p (.map (setNameKVs pname n kvs1))) = .ok o) : o.content = v := by
  obtain ⟨kvs1, h1, hd⟩ := hr
  rw [resolveObj_found he hee hv] at h1
  cases h1
  refine content_of_carrier ?_ ?_ hp hd
  · rw [lookup_setNameKVs_ne (by simp [xValue]), lookup_insert_self]
  · rw [lookup_setNameKVs_ne (by simp), lookup_insert_ne (by simp [xValue])]; exact hnc

/-- the keys at `secrets.<name>` are not user defined -/
theorem secret_paths_not_user_defined (n : String) : isUserDefined (pnext ["secrets"] n) = false := by
  simp [pnext, TPath.root, isUserDefined, userDefinedKeys, TPath.pmatch]

/-- **value availability on the loaded project**: whenever the model loads, every secret of the `secrets` section that
names a (non-empty) source variable the environment defines — and has no `content` key of its own — is on the
project with `Content` equal to that value -/
theorem secret_value_available_on_project {env : Env} {pname : String} {dict : KVs} {p : Proj}
    (h : load env pname dict = .ok p) {objs kvs : KVs} {n e v : String}
    (hS : lookup "secrets" dict = some (.map objs)) (hm : (n, Val.map kvs) ∈ objs)
    (he : lookup "environment" kvs = some (.str e)) (hee : e ≠ "") (hv : env.lookup e = some v)
    (hnc : lookup "content" kvs = none) :
    ∃ o, (n, o) ∈ p.secrets ∧ o.content = v := by
  obtain ⟨v2, o, h2, ho, mo⟩ := mem_loadSection (isSecret := true) hS (load_ok h).1 hm
  have h1 := resolveObj_found (c := xValue) he hee hv
  simp only [if_true, h1, setNameObj] at h2
  cases h2
  exact ⟨o, mo, secret_value_available he hee hv hnc (secret_paths_not_user_defined n) ⟨_, h1, ho⟩⟩

/-- **the literal composition of the stage models and the section-wise pipeline agree**: they succeed on the same
inputs, with the same project (so every theorem about `load` is a theorem about `loadDict`) -/
theorem loadDict_agrees_with_load (env : Env) (pname : String) (dict : KVs) (p : Proj) :
    loadDict env pname dict = .ok p ↔ load env pname dict = .ok p := by
  rw [loadDict_ok_iff]
  unfold load
  simp only [Out.bind_eq_ok]
  have hs := loadSection_ok_iff true env pname dict
  have hc := loadSection_ok_iff false env pname dict
  simp only [if_true, Bool.false_eq_true, if_false] at hs hc
  constructor
  · rintro ⟨c2, s2, ss, cs, hc2, hs2, hss, hcs, rfl⟩
    exact ⟨ss, (hs ss).2 ⟨s2, hs2, hss⟩, cs, (hc cs).2 ⟨c2, hc2, hcs⟩, rfl⟩
  · rintro ⟨ss, hss, cs, hcs, hp⟩
    obtain ⟨s2, hs2, hss'⟩ := (hs ss).1 hss
    obtain ⟨c2, hc2, hcs'⟩ := (hc cs).1 hcs
    exact ⟨c2, s2, ss, cs, hc2, hs2, hss', hcs', by cases hp; rfl⟩

/-- **Go's map iteration order over a section does not matter**: two models whose `secrets` (resp. `configs`)
sections hold the same entries in a different order load lists of entries that are permutations of one another -/
theorem load_section_order_independent (isSecret : Bool) (env : Env) (pname : String) {dict dict' : KVs} {objs objs' : KVs}
    (hd : lookup (if isSecret then "secrets" else "configs") dict = some (.map objs))
    (hd' : lookup (if isSecret then "secrets" else "configs") dict' = some (.map objs'))
    (hperm : objs.Perm objs') {l : List (String × FileObj)} (h : loadSection isSecret env pname dict = .ok l) :
    ∃ l', loadSection isSecret env pname dict' = .ok l' ∧ l.Perm l' := by
  unfold loadSection at h ⊢
  rw [hd] at h
  rw [hd']
  simp only at h ⊢
  obtain ⟨objs2, h2, h3⟩ := Out.bind_eq_ok.1 h
  rw [setNameObjs_eq, resolveObjs_eq_map] at h2
  obtain ⟨objs2', h2', p2⟩ := travKV_perm (hperm.map _) h2
  rw [decodeObjs_eq, pxKVs_true_eq_map] at h3
  obtain ⟨l', h3', p3⟩ := travKV_perm (p2.map _) h3
  refine ⟨l', Out.bind_eq_ok.2 ⟨objs2', ?_, ?_⟩, p3⟩
  · rw [setNameObjs_eq, resolveObjs_eq_map]; exact h2'
  · rw [decodeObjs_eq, pxKVs_true_eq_map]; exact h3'

/-- **config_renders_source**: a config with a (named) source variable renders `environment: VAR`, in both renderers and
whatever its `Content` holds, and no `content` — in YAML provided its extensions, which are written inline after the fields,
have no `content` key of their own -/
theorem config_renders_source (o : FileObj) (h : o.environment ≠ "") (r : Renderer) :
    ∃ kvs, renderConfig r o = .map kvs ∧ lookup "environment" kvs = some (.str o.environment) ∧
      (r = .json ∨ lookup "content" o.extensions = none → lookup "content" kvs = none) := by
  have hb : configBlank o = { o with content := "" } := by simp [configBlank, h]
  have he := fields_environment { o with content := "" } h
  have hc := fields_content { o with content := "" }
  simp only [if_true] at hc
  cases r with
  | yaml =>
    refine ⟨({ o with content := "" } : FileObj).fields ++ o.extensions,
      by simp only [renderConfig, configYaml, hb, FileObj.toYaml], by rw [lookup_append, he]; rfl, ?_⟩
    intro hx
    rcases hx with hx | hx
    · cases hx
    · rw [lookup_append, hc]; exact hx
  | json =>
    exact ⟨({ o with content := "" } : FileObj).fields, by simp only [renderConfig, configJson, hb, FileObj.toJson], he, fun _ => hc⟩

/-- **render_with_content_exact** (typed): with the flag set, a secret renders exactly its `Content` under `content`, in
both renderers; when the value is empty JSON has no `content`, YAML has what the inlined extensions hold under that key -/
theorem render_with_content_exact (o : FileObj) (r : Renderer) :
    ∃ kvs, renderSecret r { o with marshallContent := true } = .map kvs ∧
      lookup "content" kvs = if o.content = "" then (match r with | .yaml => lookup "content" o.extensions | .json => none)
        else some (.str o.content) := by
  have hc := fields_content { o with marshallContent := true }
  cases r with
  | yaml =>
    refine ⟨({ o with marshallContent := true } : FileObj).fields ++ o.extensions,
      by simp only [renderSecret, secretYaml, secretBlank_flagged, FileObj.toYaml], ?_⟩
    by_cases h : o.content = ""
    · simp only [h, if_true] at hc ⊢
      rw [lookup_append, hc]; rfl
    · simp only [h, if_false] at hc ⊢
      rw [lookup_append, hc]; rfl
  | json =>
    refine ⟨({ o with marshallContent := true } : FileObj).fields, by simp only [renderSecret, secretJson, secretBlank_flagged, FileObj.toJson], ?_⟩
    by_cases h : o.content = "" <;> simpa [h] using hc

theorem render_with_content_value {o : FileObj} {v : String} (hc : o.content = v) (hv : v ≠ "") (r : Renderer) :
    ∃ out, renderSecret r { o with marshallContent := true } = .map out ∧ lookup "content" out = some (.str v) := by
  obtain ⟨out, h1, h2⟩ := render_with_content_exact o r
  exact ⟨out, h1, by rw [h2, hc, if_neg hv]⟩

/-- `WithSecretContent` sets the flag of every secret of the rendered copy -/
theorem withContent_sets_flags (p : Proj) : ∀ e ∈ (applyOpts true p).secrets, e.2.marshallContent = true := by
  simp only [applyOpts, if_true, withContent]
  intro e he
  simp only [List.mem_map] at he
  obtain ⟨e0, _, rfl⟩ := he
  rfl

/-- without the option `applyOpts` is the identity: the default mode encodes the project it is given -/
theorem render_default_unaffected_by_options (p : Proj) : applyOpts false p = p := by simp [applyOpts]

/-- **render_pure**: whichever option is given, the receiver's `Secrets` map holds after `apply` exactly what it
held before (the flags are flipped on the deep copy) -/
theorem render_pure (b : Bool) (h : Heap) (p : Nat) (hp : p < h.next) : (applyHeap b h p).1.get p = h.get p := by
  unfold applyHeap
  split
  · exact (Heap.get_set_ne _ (Nat.ne_of_lt hp) _).trans (Heap.get_copyMap_ne h (Nat.ne_of_lt hp) p)
  · rfl

/-- with content requested the project that is encoded is a *different* map, all of whose flags are set;
without, it is the receiver itself -/
theorem apply_result (h : Heap) (p : Nat) :
    (applyHeap true h p).2 = h.next ∧ (applyHeap true h p).1.get h.next = setFlags (h.get p) ∧ (applyHeap false h p) = (h, p) := by
  refine ⟨rfl, ?_, rfl⟩
  exact (Heap.get_set_self _ _ _).trans (congrArg setFlags (Heap.get_copyMap_self h p))

/-- **any rendering that copies, replaces or inserts**: if the output is obtained from the source by copying each
character, or replacing it by a non-empty word over an alphabet `A`, with non-empty words over `A` inserted anywhere
(quoting, escaping, indentation, line folding all have this shape), then a non-empty word with no character in `A`
occurs in the output only where it occurs in the source.  This is the fact the oracle's search for the canary's
*core* in the raw YAML / JSON bytes rests on. -/
theorem word_survives_only_where_it_was {A : Char → Prop} {c : List Char} (hne : c ≠ []) (hc : ∀ ch ∈ c, ¬ A ch)
    {s o : List Char} (h : CV.Enc.Rend A s o) (hi : c <:+: o) : c <:+: s := by
  revert hi
  induction h with
  | nil => exact id
  | copy x hr ih =>
    intro hi
    rcases List.infix_cons_iff.1 hi with hp | hi'
    · exact (CV.Enc.prefix_of_rend hc (.copy x hr) hp).isInfix
    · exact List.infix_cons_iff.2 (.inr (ih hi'))
  | subst x w _ hA _ ih => exact fun hi => List.infix_cons_iff.2 (.inr (ih (CV.Enc.infix_of_infix_word hne hc w hA hi)))
  | ins w _ hA _ ih => exact fun hi => ih (CV.Enc.infix_of_infix_word hne hc w hA hi)

/-- **the JSON bytes of a clean tree are clean**: `Bytes.jsonRender` is the executable model of
`json.MarshalIndent(v, "", "  ")` (escaping of quotes, backslash, control characters, `<>&`, U+2028/9; indentation;
tied by the `c20.jsonBytes` correspondence).  A non-empty word made only of characters `encoding/json` never writes by
itself (`Bytes.jsonAlphabet`) does not occur in the bytes of a tree in none of whose keys and strings it occurs. -/
theorem json_bytes_of_clean_tree_are_clean {c : List Char} (hne : c ≠ []) (hc : ∀ ch ∈ c, ¬ CV.Bytes.JA ch) {v : Val}
    (hn : CV.Bytes.NumOk v) (hv : Clean c v) (d : Nat) : ¬ c <:+: CV.Bytes.jsonRender d v := by
  intro h
  -- an occurrence in the bytes is one in the quote-separated source (`rend_json`), hence inside one key or string
  have h1 := word_survives_only_where_it_was hne hc (CV.Bytes.rend_json d v hn) h
  obtain ⟨s, hs, hcs⟩ := CV.Bytes.infix_srcOf hne (fun hq => hc _ hq (by decide)) _ h1
  exact CV.Bytes.AllStr_strs v hv s hs ((occursB_iff_infix c _).2 hcs)

/-- **the canary clause at the byte level, JSON renderer**: under the hypotheses of
`canary_absent_from_default_rendering`, a canary (core) made of characters outside `Bytes.jsonAlphabet` does not occur
in the *bytes* `encoding/json` writes for the secrets and configs sections, at any indentation depth -/
theorem canary_absent_from_default_json_bytes (c : List Char) (hne : c ≠ []) (hc : ∀ ch ∈ c, ¬ CV.Bytes.JA ch)
    (hv : VocabOk (fun s => ¬ occurs c s))
    {env : Env} {pname : String} {dict : KVs} (hd : Clean c (.map dict))
    (hgs : GenNamesOk (fun s => ¬ occurs c s) pname "secrets" dict)
    (hgc : GenNamesOk (fun s => ¬ occurs c s) pname "configs" dict)
    {p : Proj} (h : load env pname dict = .ok p) (d : Nat) :
    ¬ c <:+: CV.Bytes.jsonRender d (render .json false p) :=
  json_bytes_of_clean_tree_are_clean hne hc (CV.Bytes.NumOk_render_json false p)
    (canary_absent_from_default_rendering c hv hd hgs hgc h .json) d

/-! ## non-vacuity: the hypotheses are satisfiable by a model that really carries a secret and a config
taken from the environment, and the conclusions are about a rendering that is not empty -/

namespace Example

def canary : List Char := "CANARY-7: #'x".toList

def dict : KVs :=
  [("services", .map [("app", .map [("image", .str "img"), ("secrets", .seq [.str "db"])])]),
   ("secrets", .map [("db", .map [("environment", .str "DB_PASSWORD"), ("x-note", .str "kept")]),
                     ("tls", .map [("file", .str "/abs/tls.pem")])]),
   ("configs", .map [("app_cfg", .map [("environment", .str "APP_CFG")]), ("inline", .map [("content", .str "hello")])])]

def env : Env := [("DB_PASSWORD", "CANARY-7: #'x"), ("APP_CFG", "other CANARY-7: #'x value")]

def proj : Proj :=
  { secrets := [("db", { name := "p_db", environment := "DB_PASSWORD", content := "CANARY-7: #'x", extensions := [("x-note", .str "kept")] }),
                ("tls", { name := "p_tls", file := "/abs/tls.pem" })],
    configs := [("app_cfg", { name := "p_app_cfg", environment := "APP_CFG", content := "other CANARY-7: #'x value" }),
                ("inline", { name := "p_inline", content := "hello" })] }

/-- the model loads, and the loaded project *does* carry the values (they are available to the engine) -/
example : load env "p" dict = .ok proj := by decide +kernel
example : VocabOk (fun s => ¬ occurs canary s) := VocabOk_of_foreign_char (ch := 'A') (by decide) (by decide)
example : Clean canary (.map dict) := by decide +kernel
/-- conclusion of `render_default_clean` on it, checked directly; and the rendering is not trivial -/
example : Clean canary (render .yaml false proj) ∧ Clean canary (render .json false proj) := by decide +kernel
example : render .yaml false proj ≠ .map [] := by decide +kernel
/-- with content requested the YAML rendering does contain the canary, exactly under `secrets.db.content` -/
example : ¬ Clean canary (render .yaml true proj) := by decide +kernel
/-- `render_pure` / `apply_result` on a heap holding that project's secrets -/
example : (applyHeap true { maps := [(0, proj.secrets)], next := 1 } 0).1.get 0 = proj.secrets := by decide +kernel

/-- the byte-level theorem applies to a core such as the oracle's (`QZ…` over `GHIJKMOQRSTVWXYZ`), and its conclusion
is about bytes that are really there -/
example : ∀ ch ∈ "QZGHKZQ".toList, ¬ CV.Bytes.JA ch := by decide +kernel
example : occursB "QZGHKZQ".toList (CV.Bytes.jsonRender 0
    (render .json false { secrets := [("db", { environment := "E", content := "QZGHKZQ" })], configs := [] })) = false := by decide +kernel
example : occursB "QZGHKZQ".toList (CV.Bytes.jsonRender 0
    (render .json true { secrets := [("db", { environment := "E", content := "QZGHKZQ" })], configs := [] })) = true := by decide +kernel
example : String.ofList (CV.Bytes.jsonRender 0 (.map [("a<b", .seq [.str "x\n\"y", .int (-3), .null])])) =
    "{\n  \"a\\u003cb\": [\n    \"x\\n\\\"y\",\n    -3,\n    null\n  ]\n}" := by rfl

end Example

end CV.Secrets
