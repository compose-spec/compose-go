import ComposeVerif.Gen.PathsConsts
import ComposeVerif.Gen.Globals
/-!
# C12 — the source the models were written against (regenerated on every run)

`translator/c12.go` prints, without comments, the body of every function that `Model/Paths.lean`,
`Model/PathsOrigin.lean` and `Model/PathsSymlink.lean` mirror, and lists the package-level variables of packages
`paths` and `utils`.  Any edit to one of these functions breaks `modelled_functions_are_source` (on top of whatever the
correspondence finds); a package-level variable in `paths` / `utils` (a cache of `$HOME`, a memo of resolved links …)
breaks `paths_has_no_package_state` before any input is run: path resolution has to be a function of the tree, the
base directory, `$HOME` *now* and the file system *now*.
-/
namespace CV.Paths

/-- packages `paths` and `utils` were scanned and declare no package-level variable — neither in the C12 scan nor in
the library-wide list of C02/C19 (`Gen.Globals.packageVars`) -/
theorem paths_has_no_package_state :
    CV.Gen.paths_packageVars = [] ∧
    CV.Gen.paths_scannedFiles = ["paths/context.go", "paths/extends.go", "paths/home.go", "paths/resolve.go", "paths/unix.go", "paths/windows_path.go", "utils/collectionutils.go", "utils/pathutils.go", "utils/set.go", "utils/stringutils.go"] ∧
    (∀ e ∈ CV.Gen.packageVars, e.1 ≠ "paths" ∧ e.1 ≠ "utils") :=
  ⟨rfl, rfl, by decide +kernel⟩

/-- the bodies the models mirror are the ones in the source now -/
theorem modelled_functions_are_source :
    CV.Gen.paths_body_ResolveRelativePaths =
      "{ r := relativePathsResolver{ workingDir: base, remotes: remotes, } r.resolvers = map[tree.Path]resolver{ \"services.*.build.context\": r.absContextPath, \"services.*.build.additional_contexts.*\": r.absContextPath, \"services.*.env_file.*.path\": r.absPath, \"services.*.label_file.*\": r.absPath, \"services.*.extends.file\": r.absExtendsPath, \"services.*.develop.watch.*.path\": r.absSymbolicLink, \"services.*.volumes.*\": r.absVolumeMount, \"configs.*.file\": r.maybeUnixPath, \"secrets.*.file\": r.maybeUnixPath, \"include.path\": r.absPath, \"include.project_directory\": r.absPath, \"include.env_file\": r.absPath, \"volumes.*\": r.volumeDriverOpts, } _, err := r.resolveRelativePaths(project, tree.NewPath()) return err }" ∧
    CV.Gen.paths_body_isRemoteResource =
      "{ for _, remote := range r.remotes { if remote(path) { return true } } return false }" ∧
    CV.Gen.paths_body_resolveRelativePaths =
      "{ for pattern, resolver := range r.resolvers { if p.Matches(pattern) { return resolver(value) } } switch v := value.(type) { case map[string]any: for k, e := range v { resolved, err := r.resolveRelativePaths(e, p.Next(k)) if err != nil { return nil, err } v[k] = resolved } case []any: for i, e := range v { resolved, err := r.resolveRelativePaths(e, p.Next(\"[]\")) if err != nil { return nil, err } v[i] = resolved } } return value, nil }" ∧
    CV.Gen.paths_body_absPath =
      "{ switch v := value.(type) { case []any: for i, s := range v { abs, err := r.absPath(s) if err != nil { return nil, err } v[i] = abs } return v, nil case string: v = ExpandUser(v) if filepath.IsAbs(v) { return v, nil } if v != \"\" { return r.join(v), nil } return v, nil } return nil, fmt.Errorf(\"unexpected type %T\", value) }" ∧
    CV.Gen.paths_body_join =
      "{ joined := filepath.Join(r.workingDir, p) if !filepath.IsAbs(joined) && (strings.HasPrefix(joined, \"~\") || isRemoteContext(joined) || isWindowsAbs(joined)) { return \".\" + string(filepath.Separator) + joined } return joined }" ∧
    CV.Gen.paths_body_absVolumeMount =
      "{ switch vol := a.(type) { case map[string]any: if vol[\"type\"] != types.VolumeTypeBind { return vol, nil } src, ok := vol[\"source\"] if !ok { return nil, errors.New(`invalid mount config for type \"bind\": field Source must not be empty`) } abs, err := r.maybeUnixPath(src) if err != nil { return nil, err } vol[\"source\"] = abs return vol, nil default: return a, nil } }" ∧
    CV.Gen.paths_body_volumeDriverOpts =
      "{ if a == nil { return nil, nil } vol, ok := a.(map[string]any) if !ok { return nil, fmt.Errorf(\"unexpected type %T\", a) } if vol[\"driver\"] != \"local\" { return vol, nil } do, ok := vol[\"driver_opts\"] if !ok || do == nil { return vol, nil } opts, ok := do.(map[string]any) if !ok { return nil, fmt.Errorf(\"unexpected type %T\", do) } if dev, ok := opts[\"device\"]; opts[\"o\"] == \"bind\" && ok { path, err := r.maybeUnixPath(dev) if err != nil { return nil, err } opts[\"device\"] = path } return vol, nil }" ∧
    CV.Gen.paths_body_absContextPath =
      "{ v, ok := value.(string) if !ok { return nil, fmt.Errorf(\"unexpected type %T\", value) } if strings.Contains(v, \"://\") { return v, nil } if isRemoteContext(v) { return v, nil } return r.absPath(v) }" ∧
    CV.Gen.paths_body_isRemoteContext =
      "{ for _, prefix := range []string{\"https://\", \"http://\", \"git://\", \"ssh://\", \"github.com/\", \"git@\"} { if strings.HasPrefix(maybeURL, prefix) { return true } } return false }" ∧
    CV.Gen.paths_body_maybeUnixPath =
      "{ p, ok := a.(string) if !ok { return nil, fmt.Errorf(\"unexpected type %T\", a) } p = ExpandUser(p) if !path.IsAbs(p) && !isWindowsAbs(p) { if filepath.IsAbs(p) { return p, nil } return r.join(p), nil } return p, nil }" ∧
    CV.Gen.paths_body_absSymbolicLink =
      "{ abs, err := r.absPath(value) if err != nil { return nil, err } str, ok := abs.(string) if !ok { return abs, nil } return utils.ResolveSymbolicLink(str) }" ∧
    CV.Gen.paths_body_absExtendsPath =
      "{ v, ok := value.(string) if !ok { return nil, fmt.Errorf(\"unexpected type %T\", value) } if r.isRemoteResource(v) { return v, nil } return r.absPath(v) }" ∧
    CV.Gen.paths_body_ExpandUser =
      "{ if strings.HasPrefix(p, \"~\") { home, err := os.UserHomeDir() if err != nil { logrus.Warn(\"cannot expand '~', because the environment lacks HOME\") return p } return filepath.Join(home, p[1:]) } return p }" ∧
    CV.Gen.paths_body_isSlash =
      "{ return c == '\\\\' || c == '/' }" ∧
    CV.Gen.paths_body_isWindowsAbs =
      "{ l := volumeNameLen(path) if l == 0 { return false } path = path[l:] if path == \"\" { return false } return isSlash(path[0]) }" ∧
    CV.Gen.paths_body_volumeNameLen =
      "{ if len(path) < 2 { return 0 } c := path[0] if path[1] == ':' && ('a' <= c && c <= 'z' || 'A' <= c && c <= 'Z') { return 2 } if l := len(path); l >= 5 && isSlash(path[0]) && isSlash(path[1]) && !isSlash(path[2]) && path[2] != '.' { for n := 3; n < l-1; n++ { if isSlash(path[n]) { n++ if !isSlash(path[n]) { if path[n] == '.' { break } for ; n < l; n++ { if isSlash(path[n]) { break } } return n } break } } } return 0 }" ∧
    CV.Gen.paths_body_ResolveSymbolicLink =
      "{ for range strings.Split(path, string(os.PathSeparator)) { sym, part, err := getSymbolinkLink(path) if err != nil { return \"\", err } if sym == \"\" && part == \"\" { return path, nil } resolved := path if path == part || strings.HasPrefix(path, part+string(os.PathSeparator)) { resolved = sym + strings.TrimPrefix(path, part) } if resolved == path { return path, nil } path = resolved } return path, nil }" ∧
    CV.Gen.paths_body_getSymbolinkLink =
      "{ if !filepath.IsAbs(path) { return \"\", \"\", nil } parts := strings.Split(path, string(os.PathSeparator)) currentPath := string(os.PathSeparator) for _, part := range parts { if part == \"\" { continue } currentPath = filepath.Join(currentPath, part) if isSymLink := isSymbolicLink(currentPath); isSymLink { target, err := filepath.EvalSymlinks(currentPath) if err != nil { return \"\", \"\", err } return target, currentPath, nil } } return \"\", \"\", nil }" ∧
    CV.Gen.paths_body_isSymbolicLink =
      "{ info, err := os.Lstat(path) if err != nil { return false } return info.Mode()&os.ModeSymlink != 0 }" ∧
    CV.Gen.paths_body_abs =
      "{ if filepath.IsAbs(p) { return p } return filepath.Join(l.WorkingDir, p) }" ∧
    CV.Gen.paths_body_Load =
      "{ return l.abs(p), nil }" ∧
    CV.Gen.paths_body_Dir =
      "{ path := l.abs(originalPath) if !l.isDir(path) { path = l.abs(filepath.Dir(originalPath)) } rel, err := filepath.Rel(l.WorkingDir, path) if err != nil { return path } return rel }" :=
  ⟨rfl, rfl, rfl, rfl, rfl, rfl, rfl, rfl, rfl, rfl, rfl, rfl, rfl, rfl, rfl, rfl, rfl, rfl, rfl, rfl, rfl, rfl⟩

end CV.Paths
