import ComposeVerif.Props.C08
import ComposeVerif.Lemmas.C08Canonical
import ComposeVerif.Props.C04Whole
import ComposeVerif.Props.C03Whole
/-!
# C08 — the composed pipeline

`Props/C08Tree.lean` stops at `Interpolate` / the loader step.  Here the same clauses are stated about the *composed*
function `Pipeline.load` (`Model/Pipeline.lean`: interpolate → extends → merge → unicity → schema → canonical → omitEmpty →
unicity per document, then defaults → validation → paths → environment → normalize), which the streams `pipeline.load` /
`pipeline.loadY` run against `loader.LoadModelWithContext`:

what the interpolation stage may change; that the pipeline reads a document only through that stage (`load_congr`), hence
type transparency of the whole load, the `$$` clause, and that interpolation off ignores the interpolation options; interpolation
on ≡ off up to the second use of the flag, at `transform.Canonical` (`loadG`), and on ⇒ off on `load` itself; the same for the
YAML-text entry `loadY` (files of `---` documents with `!reset` / `!override` tags, any split into files).
-/
namespace CV.Pipeline
open CV CV.Interp CV.TPath

/-! ## `Interpolate` on top-level documents (the `KVs` versions of the tree theorems) -/

def DollarFree (kvs : List (String × Val)) : Prop := ∀ q s, (q, s) ∈ leavesKVs root kvs → '$' ∉ s.toList

def NoCastDoc (t : Table) (kvs : List (String × Val)) : Prop := ∀ q s, (q, s) ∈ leavesKVs root kvs → firstMatch t q = none

/-- the variable-bearing document `d'` of the literal document `d`: same keys, same shape, same non-string values; each
string leaf of `d'` is a well-formed template of the grammar evaluating (under `env`) to the leaf of `d` at the same path -/
def VariableDoc (env : CV.Template.Env) (d' d : List (String × Val)) : Prop :=
  LeafRelKVs (fun _ s t => IsTemplateOf env s t) root d' d

theorem variable_toplevel_is_literal (c : Interp.Cfg) (kvs' kvs : List (String × Val)) (h : VariableDoc c.env kvs' kvs) :
    interpolate c kvs' = castDocument c kvs := by
  rw [interpolate, interpKVs_eq_walk]
  exact walkKVs_congr (leaf_isTemplateOf c) kvs' kvs root h

theorem dollar_free_toplevel_typed (c : Interp.Cfg) (kvs : List (String × Val)) (hd : DollarFree kvs) :
    interpolate c kvs = castDocument c kvs := by
  rw [interpolate, interpKVs_eq_walk]
  exact walkKVs_congr_on kvs root fun q s hm => leaf_dollar_free c q s (hd q s hm)

/-- **the cast table is applied exactly at its rows**: with no string on a row, "nothing substituted" is the document -/
theorem castDocument_noCast (c : Interp.Cfg) (kvs : List (String × Val)) (h : NoCastDoc c.table kvs) :
    castDocument c kvs = .ok kvs :=
  walkKVs_fix kvs root fun q s hm => castOnly_none (h q s hm)

def withSkip (b : Bool) (c : Cfg) : Cfg := { c with opts := { c.opts with skipInterpolation := b } }

/-- the stage of the pipeline is the loader step `Interp.interpolateStage` (`Spec/InterpTree.lean`, what `Props/C08Tree.lean`
speaks of) at the configuration's flag and interpolation options -/
theorem interpStage_eq (c : Cfg) (cfg : Val.KVs) :
    interpStage c cfg = ofInterp (interpolateStage c.opts.skipInterpolation c.interp cfg) := by
  unfold interpStage interpolateStage
  split <;> rfl

theorem interpStage_on (c : Cfg) (hon : c.opts.skipInterpolation = false) (cfg : Val.KVs) :
    interpStage c cfg = ofInterp (interpolate c.interp cfg) := by
  rw [interpStage_eq, hon]; rfl

/-- with `SkipInterpolation` the document is handed on as it is, whatever the cast table and the environment -/
theorem interpStage_off (c : Cfg) (h : c.opts.skipInterpolation = true) (cfg : Val.KVs) : interpStage c cfg = .ok cfg := by
  rw [interpStage_eq, h, stage_off_id]; rfl

/-- on or off, the stage keeps the mapping keys of the document, in order -/
theorem interpStage_keys (c : Cfg) (cfg cfg' : Val.KVs) (h : interpStage c cfg = .ok cfg') :
    cfg'.map Prod.fst = cfg.map Prod.fst := by
  cases hs : c.opts.skipInterpolation with
  | true => rw [interpStage_off c hs] at h; cases h; rfl
  | false => rw [interpStage_on c hs] at h; exact interpolate_keys c.interp cfg cfg' (ofInterp_ok h)

/-- **only string leaves change**: with interpolation on, the document handed on has the shape of the one read — same keys
in order at every level, same list lengths, null / bool / int / float identical, a string became a scalar -/
theorem interpStage_shape (c : Cfg) (hon : c.opts.skipInterpolation = false) (cfg cfg' : Val.KVs)
    (h : interpStage c cfg = .ok cfg') : SameShapeKVs cfg cfg' := by
  rw [interpStage_on c hon] at h
  exact interpKVs_shape c.interp cfg root _ (ofInterp_ok h)

/-- a document without `$`: the stage (on) is "cast the strings on the rows of the table", nothing else -/
theorem interpStage_dollar_free (c : Cfg) (hon : c.opts.skipInterpolation = false) (cfg : Val.KVs) (hd : DollarFree cfg) :
    interpStage c cfg = ofInterp (castDocument c.interp cfg) := by
  rw [interpStage_on c hon, dollar_free_toplevel_typed c.interp cfg hd]

/-- a variable-bearing document: the stage hands on what the literal document with nothing substituted is -/
theorem interpStage_variable (c : Cfg) (hon : c.opts.skipInterpolation = false) (cfg' cfg : Val.KVs)
    (h : VariableDoc c.interp.env cfg' cfg) : interpStage c cfg' = ofInterp (castDocument c.interp cfg) := by
  rw [interpStage_on c hon, variable_toplevel_is_literal c.interp cfg' cfg h]

theorem interpStage_escaped (c : Cfg) (hon : c.opts.skipInterpolation = false) (cfg : Val.KVs) :
    interpStage c (escapeKVs cfg) = ofInterp (castDocument c.interp cfg) := by
  rw [interpStage_on c hon, escape_toplevel_typed]

/-- no `$`, no string on a cast row: the stage is the identity, on or off -/
theorem interpStage_fixed (c : Cfg) (cfg : Val.KVs) (hd : DollarFree cfg) (hn : NoCastDoc c.interp.table cfg) :
    interpStage c cfg = .ok cfg := by
  cases hs : c.opts.skipInterpolation with
  | true => exact interpStage_off c hs cfg
  | false => rw [interpStage_dollar_free c hs cfg hd, castDocument_noCast c.interp cfg hn]; rfl

/-! ## the loop over the documents

`opts.SkipInterpolation` is read twice by the glue: by the interpolation stage and as the `ignoreParseError` argument of
`transform.Canonical`.  `loadG ign` is `load` with the second use made a parameter.  The clauses below compare loads of two
document lists, under two configurations or two flags: the loop is compared once, for `processDocsG`, with the equality of
the lists of single steps as hypothesis (`loop_congr` of `Lemmas/Pipeline.lean`, through `loadG_congr`). -/

def mergeStagesG (ign : Bool) (c : Cfg) (dict : Val) (cfg : Val.KVs) : Out Val :=
  (ofMerge "merge" (Merge.merge dict (.map cfg))).bind fun dict =>
  (ofMerge "unicity" (Unicity.enforceTop dict)).bind fun dict =>
  (schemaStage c.opts dict).bind fun dict =>
  (ofShort (Short.canonical ign dict)).bind fun dict =>
  (omitEmpty c.omitPats dict).bind fun dict =>
  ofMerge "unicity2" (Unicity.enforceTop dict)

def processDocG (ign : Bool) (c : Cfg) (dict : Val) (cfg : Val.KVs) : Out Val :=
  (interpStage c cfg).bind fun cfg => (extendsStage c cfg).bind (mergeStagesG ign c dict)

def processDocsG (ign : Bool) (c : Cfg) : Val → List Val.KVs → Out Val
  | dict, [] => .ok dict
  | dict, d :: r =>
    match processDocG ign c dict d with
    | .ok dict' => processDocsG ign c dict' r
    | .err e => .err e
    | .panic s => .panic s

def loadG (ign : Bool) (c : Cfg) (docs : List Val.KVs) : Out Val.KVs :=
  if docs.isEmpty then .err "nofiles"
  else ((processDocsG ign c (.map []) docs).bind (finishModel c)).bind (finishLoad c)

/-- `mergeStagesG` in the factoring of `Props/C03Whole.lean` (`mergeStages_factor`): the stages before `Canonical`, `Canonical`
with the flag `ign`, the stages after it -/
theorem mergeStagesG_factor (ign : Bool) (c : Cfg) (dict : Val) (cfg : Val.KVs) :
    mergeStagesG ign c dict cfg = (C03.Whole.preCanonical c dict cfg).bind fun d =>
      (ofShort (Short.canonical ign d)).bind (C03.Whole.postCanonical c) := by
  simp only [mergeStagesG, C03.Whole.preCanonical, bind_assoc]
  rfl

theorem processDocsG_cons (ign : Bool) (c : Cfg) (d : Val) (cfg : Val.KVs) (r : List Val.KVs) :
    processDocsG ign c d (cfg :: r) = (processDocG ign c d cfg).bind fun d' => processDocsG ign c d' r := by
  simp only [processDocsG]; cases processDocG ign c d cfg <;> rfl

/-- `loadG` exists for `load_on_eq_off` only: it lets the two loads differ in the flag of the interpolation stage while
`Canonical` is handed the same one (`mergeStagesG` is `Pipeline.mergeStages` word for word, with `c.opts.skipInterpolation` at
`Canonical` made a parameter) -/
theorem load_eq_loadG (c : Cfg) (docs : List Val.KVs) : load c docs = loadG c.opts.skipInterpolation c docs := by
  simp only [load, loadG, loadYamlModel,
    loop_congr (fun _ => rfl) (processDocs_cons c) (fun _ => rfl) (processDocsG_cons _ c) (l := docs) rfl]

/-- two lists of documents related one by one (same number of documents) -/
inductive DocsRel (R : Val.KVs → Val.KVs → Prop) : List Val.KVs → List Val.KVs → Prop where
  | nil : DocsRel R [] []
  | cons {d d' : Val.KVs} {r r' : List Val.KVs} : R d d' → DocsRel R r r' → DocsRel R (d :: r) (d' :: r')

theorem DocsRel.map_eq {β : Type} {R : Val.KVs → Val.KVs → Prop} {f g : Val.KVs → β} (hR : ∀ a b, R a b → f a = g b) :
    ∀ {l l' : List Val.KVs}, DocsRel R l l' → l.map f = l'.map g
  | _, _, .nil => rfl
  | _, _, .cons h r => by rw [List.map_cons, List.map_cons, hR _ _ h, DocsRel.map_eq hR r]

/-- loads whose lists of single steps agree (`loop_congr`) agree — the two configurations finishing the model alike -/
theorem loadG_congr {ign ign' : Bool} {c c' : Cfg} {docs docs' : List Val.KVs} (hm : finishModel c = finishModel c')
    (hl : finishLoad c = finishLoad c')
    (h : (docs.map fun d dict => processDocG ign c dict d) = docs'.map fun d dict => processDocG ign' c' dict d) :
    loadG ign c docs = loadG ign' c' docs' := by
  have he : docs.isEmpty = docs'.isEmpty := by
    have := congrArg List.length h
    cases docs <;> cases docs' <;> simp_all
  simp only [loadG, he, loop_congr (fun _ => rfl) (processDocsG_cons ign c) (fun _ => rfl) (processDocsG_cons ign' c') h, hm, hl]

/-- documents that the interpolation stage maps to the same outcomes, in order, load to the same outcome -/
theorem load_congr (c : Cfg) (docs docs' : List Val.KVs)
    (h : docs.map (interpStage c) = docs'.map (interpStage c)) : load c docs = load c docs' := by
  rw [load_eq_loadG, load_eq_loadG]
  refine loadG_congr rfl rfl ?_
  have := congrArg (List.map fun (o : Out Val.KVs) dict =>
    o.bind fun cfg => (extendsStage c cfg).bind (mergeStagesG c.opts.skipInterpolation c dict)) h
  rwa [List.map_map, List.map_map] at this

/-! ## the property's clauses about the whole load -/

/-- **type transparency of the whole load**: every document's string leaves supplied through any well-formed templates of
the grammar (`${V}`, `$V`, `${UNSET:-lit}`, `pre${V}post`, nested, with tails …) that evaluate to the literal texts — the
load has the outcome of the load of the literal documents (`$`-free: they are interpolated too): the same model, or failure at the same stage, or the same panic
site.  Every option combination with interpolation on, any number of documents, any cast table and float reader. -/
theorem load_variable_eq_literal (c : Cfg) (hon : c.opts.skipInterpolation = false) (docs' docs : List Val.KVs)
    (h : DocsRel (fun d' d => VariableDoc c.interp.env d' d ∧ DollarFree d) docs' docs) :
    load c docs' = load c docs :=
  load_congr c docs' docs (h.map_eq fun d' d hd => by
    rw [interpStage_variable c hon _ _ hd.1, interpStage_dollar_free c hon _ hd.2])

/-- the `$$` clause, interpolation on on both sides: a document without `$` and the same document escaped are the same -/
theorem load_escaped_eq_literal (c : Cfg) (hon : c.opts.skipInterpolation = false) (docs : List Val.KVs)
    (h : ∀ d ∈ docs, DollarFree d) : load c (docs.map escapeKVs) = load c docs := by
  refine load_congr c _ _ ((List.map_map ..).trans (List.map_congr_left fun d hd => ?_))
  rw [Function.comp, interpStage_escaped c hon, interpStage_dollar_free c hon d (h d hd)]

/-- the configuration with another lookup function for interpolation (`Options.Interpolate.LookupValue`) -/
def withInterpEnv (env : CV.Template.Env) (c : Cfg) : Cfg := { c with interp := { c.interp with env := env } }

/-- the escaped documents load to the same outcome under every environment handed to interpolation -/
theorem load_escaped_env_independent (c : Cfg) (hon : c.opts.skipInterpolation = false) (env : CV.Template.Env)
    (docs : List Val.KVs) : load (withInterpEnv env c) (docs.map escapeKVs) = load c (docs.map escapeKVs) := by
  rw [load_eq_loadG, load_eq_loadG]
  refine loadG_congr rfl rfl (List.map_congr_left fun d hd => funext fun dict => ?_)
  obtain ⟨d, _, rfl⟩ := List.mem_map.1 hd
  -- nothing is substituted in an escaped document, and `castDocument` does not look at the environment
  rw [processDocG, processDocG, interpStage_escaped (withInterpEnv env c) hon, interpStage_escaped c hon]
  rfl

/-- the configuration with other interpolation options (cast table, float reader, lookup) -/
def withInterp (i : Interp.Cfg) (c : Cfg) : Cfg := { c with interp := i }

/-- **interpolation off**: the load does not depend on the interpolation options at all (no cast, no lookup) -/
theorem load_off_ignores_interp_options (c : Cfg) (hoff : c.opts.skipInterpolation = true) (i : Interp.Cfg)
    (docs : List Val.KVs) : load (withInterp i c) docs = load c docs := by
  rw [load_eq_loadG, load_eq_loadG]
  refine loadG_congr rfl rfl (List.map_congr_left fun d _ => funext fun dict => ?_)
  rw [processDocG, processDocG, interpStage_off c hoff, interpStage_off (withInterp i c) hoff]
  rfl

/-- **interpolation on ≡ off on the whole pipeline**: documents without `$` in their values and without a string on a row of
the cast table load to the same outcome with interpolation on and off, `Canonical` being handed the same flag: the
interpolation stage contributes nothing, and `load (withSkip b c) = loadG b (withSkip b c)` (`load_eq_loadG`) -/
theorem load_on_eq_off (ign : Bool) (c : Cfg) (docs : List Val.KVs)
    (h : ∀ d ∈ docs, DollarFree d ∧ NoCastDoc c.interp.table d) :
    loadG ign (withSkip false c) docs = loadG ign (withSkip true c) docs := by
  refine loadG_congr rfl rfl (List.map_congr_left fun d hd => funext fun dict => ?_)
  rw [processDocG, processDocG, interpStage_fixed (withSkip false c) d (h d hd).1 (h d hd).2,
    interpStage_fixed (withSkip true c) d (h d hd).1 (h d hd).2]
  rfl

/-! ### on loads ⇒ off loads the same model (the flag of `Canonical` only forgives: `Lemmas/C08Canonical.lean`) -/

theorem Out.bind_ok {α β : Type} (o : Out α) (f : α → Out β) (b : β) (h : o.bind f = .ok b) :
    ∃ a, o = .ok a ∧ f a = .ok b :=
  bind_eq_ok.1 h

theorem Out.bind_ok_imp {α β : Type} {o : Out α} {f g : α → Out β} {b : β} (h : o.bind f = .ok b)
    (hfg : ∀ a, f a = .ok b → g a = .ok b) : o.bind g = .ok b := by
  obtain ⟨a, rfl, h⟩ := Out.bind_ok _ _ _ h
  exact hfg a h

theorem mergeStagesG_mono (c : Cfg) (dict : Val) (cfg : Val.KVs) (r : Val)
    (h : mergeStagesG false c dict cfg = .ok r) : mergeStagesG true c dict cfg = .ok r := by
  rw [mergeStagesG_factor] at h ⊢
  refine Out.bind_ok_imp h fun d h => ?_
  obtain ⟨d', hd, h⟩ := Out.bind_ok _ _ _ h
  rw [Short.canonical_mono d d' (ofShort_ok hd)]; exact h

theorem processDocG_mono (c : Cfg) (dict : Val) (cfg : Val.KVs) (r : Val)
    (h : processDocG false c dict cfg = .ok r) : processDocG true c dict cfg = .ok r :=
  Out.bind_ok_imp h fun _ h => Out.bind_ok_imp h fun d2 h => mergeStagesG_mono c dict d2 r h

theorem processDocsG_mono (c : Cfg) : ∀ (docs : List Val.KVs) (dict r : Val),
    processDocsG false c dict docs = .ok r → processDocsG true c dict docs = .ok r
  | [], _, _, h => h
  | d :: rest, dict, r, h => by
    rw [processDocsG_cons] at h ⊢
    obtain ⟨dict', hd, h⟩ := bind_eq_ok.1 h
    rw [processDocG_mono c dict d dict' hd]
    exact processDocsG_mono c rest dict' r h

theorem loadG_mono (c : Cfg) (docs : List Val.KVs) (m : Val.KVs) (h : loadG false c docs = .ok m) :
    loadG true c docs = .ok m := by
  unfold loadG at h ⊢
  split at h
  · cases h
  · rename_i hne
    obtain ⟨d1, h1, h⟩ := Out.bind_ok _ _ _ h
    obtain ⟨d0, h0, h1⟩ := Out.bind_ok _ _ _ h1
    rw [if_neg hne, processDocsG_mono c docs _ d0 h0]
    show (finishModel c d0).bind _ = _
    rw [h1]; exact h

/-- **interpolation on ⇒ off, on `load` itself**: documents without `$` and without a string on a cast row that load with
interpolation on load with `SkipInterpolation` to the same model.  (The converse — the direction "whenever the latter
loads" of the property's `$$` clause — needs in addition that `Canonical` meets no short form it cannot parse: with
`SkipInterpolation` such a string is kept, with interpolation on it is the error of stage `canonical`.) -/
theorem load_on_ok_imp_off_ok (c : Cfg) (docs : List Val.KVs) (m : Val.KVs)
    (h : ∀ d ∈ docs, DollarFree d ∧ NoCastDoc c.interp.table d)
    (hon : load (withSkip false c) docs = .ok m) : load (withSkip true c) docs = .ok m := by
  have e1 : load (withSkip false c) docs = loadG false (withSkip false c) docs := load_eq_loadG (withSkip false c) docs
  have e2 : load (withSkip true c) docs = loadG true (withSkip true c) docs := load_eq_loadG (withSkip true c) docs
  rw [e2, ← load_on_eq_off true c docs h]
  exact loadG_mono (withSkip false c) docs m (e1 ▸ hon)


/-! ## the YAML-text entry point `loadY` (files = lists of `---` documents, `!reset` / `!override` tags)

`processNode` reads a document node with C04's `Reset.readDoc` (tree without its `!reset` nodes + the recorded paths),
interpolates the tree, applies the recorded paths to the model built so far and merges. -/

/-- two lists of document nodes related one by one -/
inductive NodesRel (R : Reset.YNode → Reset.YNode → Prop) : List Reset.YNode → List Reset.YNode → Prop where
  | nil : NodesRel R [] []
  | cons {n n' : Reset.YNode} {r r' : List Reset.YNode} : R n n' → NodesRel R r r' → NodesRel R (n :: r) (n' :: r')

theorem NodesRel.map_eq {β : Type} {R : Reset.YNode → Reset.YNode → Prop} {f g : Reset.YNode → β}
    (hR : ∀ a b, R a b → f a = g b) : ∀ {l l' : List Reset.YNode}, NodesRel R l l' → l.map f = l'.map g
  | _, _, .nil => rfl
  | _, _, .cons h r => by rw [List.map_cons, List.map_cons, hR _ _ h, NodesRel.map_eq hR r]

/-- **`loadY` reads a document only through `processNode`**: two non-empty file lists whose documents (in order, whatever
the split into files: `C04Whole.loadY_flatten`) do the same to every model built so far load alike -/
theorem loadY_congr {c c' : Cfg} (hm : finishModel c = finishModel c') (hl : finishLoad c = finishLoad c')
    (files files' : List (List Reset.YNode)) (hne : files ≠ []) (hne' : files' ≠ [])
    (h : (files.flatten.map fun n dict => processNode c dict n) = files'.flatten.map fun n dict => processNode c' dict n) :
    loadY c files = loadY c' files' := by
  rw [CV.C04.Whole.loadY_flatten c files hne, CV.C04.Whole.loadY_flatten c' files' hne']
  simp only [loadY, loadYamlModelY, processFiles, List.isEmpty_cons, Bool.false_eq_true, if_false,
    loop_congr (fun _ => rfl) (processNodes_cons c) (fun _ => rfl) (processNodes_cons c') h, hm, hl]

/-- node-wise: the same recorded `!reset` paths, and the tree of `n'` is a variable-bearing version of the `$`-free tree of `n` -/
def VariableNode (c : Cfg) (n' n : Reset.YNode) : Prop :=
  ∃ cfg' cfg paths, Reset.readDoc n' = (.map cfg', paths) ∧ Reset.readDoc n = (.map cfg, paths) ∧
    VariableDoc c.interp.env cfg' cfg ∧ DollarFree cfg

/-- **type transparency through the YAML-text entry** (`!reset` / `!override` documents included, any split into files):
variable-bearing files load to the outcome of the literal files -/
theorem loadY_variable_eq_literal (c : Cfg) (hon : c.opts.skipInterpolation = false)
    (files' files : List (List Reset.YNode)) (hne' : files' ≠ []) (hne : files ≠ [])
    (h : NodesRel (VariableNode c) files'.flatten files.flatten) : loadY c files' = loadY c files := by
  refine loadY_congr rfl rfl files' files hne' hne (h.map_eq ?_)
  rintro a b ⟨cfg', cfg, paths, h1, h2, hv, hd⟩
  simp only [processNode, h1, h2, interpStage_variable c hon _ _ hv, interpStage_dollar_free c hon _ hd]

/-- non-vacuity of `VariableNode`, in general: every pair of trees related by `VariableDoc`, written out as (untagged) YAML
document nodes, is related by `VariableNode` — so `loadY_variable_eq_literal` covers at least everything
`load_variable_eq_literal` covers, and documents with `!reset` nodes besides -/
theorem variableNode_of_trees (c : Cfg) (d' d : Val.KVs) (hv : VariableDoc c.interp.env d' d) (hd : DollarFree d) :
    VariableNode c (nodeOf (.map d')) (nodeOf (.map d)) := by
  have h' := nodeOf_spec (.map d')
  have h := nodeOf_spec (.map d)
  exact ⟨d', d, [], by rw [readDoc_untagged _ h'.1, h'.2], by rw [readDoc_untagged _ h.1, h.2], hv, hd⟩

/-- with `SkipInterpolation`, `loadY` ignores the interpolation options as well -/
theorem loadY_off_ignores_interp_options (c : Cfg) (hoff : c.opts.skipInterpolation = true) (i : Interp.Cfg)
    (files : List (List Reset.YNode)) : loadY (withInterp i c) files = loadY c files := by
  cases files with
  | nil => rfl
  | cons f r =>
    refine loadY_congr (c := withInterp i c) (c' := c) rfl rfl _ _ (List.cons_ne_nil f r) (List.cons_ne_nil f r)
      (List.map_congr_left fun n _ => funext fun dict => ?_)
    unfold processNode
    split
    · rw [interpStage_off c hoff, interpStage_off (withInterp i c) hoff]; rfl
    · rfl

private def cfgW : Interp.Cfg :=
  { table := [(["services", "*", "init"], "toBoolean"), (["services", "*", "scale"], "toInt")],
    fp := { f64 := fun _ => none, f32 := fun _ => none },
    env := fun k => if k = ['V'] then some ['y', 'e', 's'] else none }

/-- a variable-bearing document and its literal: `init: ${V}` with V=yes / `init: yes`; the literal is `$`-free -/
example : VariableDoc cfgW.env [("services", .map [("a", .map [("init", .str "${V}"), ("image", .str "i")])])]
      [("services", .map [("a", .map [("init", .str "yes"), ("image", .str "i")])])] ∧
    DollarFree [("services", .map [("a", .map [("init", .str "yes"), ("image", .str "i")])])] := by
  refine ⟨?_, ?_⟩
  · simp only [VariableDoc, LeafRelKVs, LeafRel]
    refine ⟨_, _, rfl, ⟨_, rfl, _, _, rfl, ⟨_, rfl, _, _, rfl, ⟨_, rfl, ?_⟩, _, _, rfl, ⟨_, rfl, ?_⟩, rfl⟩, rfl⟩, rfl⟩
    · exact isTemplateOf_var cfgW.env ['V'] "yes" (by decide +kernel) (by decide +kernel)
    · exact isTemplateOf_literal cfgW.env "i" (by decide +kernel)
  · intro q s hm
    simp only [leavesKVs, leaves, List.append_nil, List.mem_cons, List.mem_nil_iff, or_false, List.cons_append,
      List.nil_append, Prod.mk.injEq] at hm
    rcases hm with ⟨_, rfl⟩ | ⟨_, rfl⟩ <;> decide +kernel

/-- `NoCastDoc` holds e.g. for every document under the empty table; `DollarFree` for a document with a plain string -/
example : NoCastDoc [] [("services", .map [("a", .map [("image", .str "i")])])] := fun _ _ _ => rfl

example : DollarFree [("services", .map [("a", .map [("image", .str "i")])])] := by
  intro q s hm
  simp only [leavesKVs, leaves, List.append_nil, List.mem_cons, List.mem_nil_iff, or_false, Prod.mk.injEq] at hm
  obtain ⟨_, rfl⟩ := hm
  decide +kernel

end CV.Pipeline
