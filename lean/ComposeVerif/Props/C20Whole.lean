import ComposeVerif.Model.Pipeline
import ComposeVerif.Lemmas.SecretsLoad
/-!
# C20 — the composed pipeline

`Model/Pipeline.lean` composes the stage models in the loader's order up to the raw model `load` hands to
`modelToProject`; its `envStage` is where values of the environment enter the secrets and configs sections.  The
theorems here are about that composed function: what its environment stage does to the two sections is exactly the
first stage of C20's own pipeline (`Secrets.loadDict` starts "just before `ResolveEnvironment`"), and whatever model
the stages before it produce, if it is untainted then after the stage the taint sits only under the carriers.
-/
namespace CV.Secrets
open CV
open CV.Val hiding lookup_insert_self lookup_insert_ne

theorem lookup_resolveServicesEnv_ne {k : String} (hk : k ≠ "services") (env : Env) (dict : KVs) :
    Val.lookup k (Pipeline.resolveServicesEnv env dict) = Val.lookup k dict := by
  unfold Pipeline.resolveServicesEnv
  split
  · exact lookup_insert_ne hk _ _
  · rfl

/-- the environment stage of the composed pipeline acts on the `secrets` section exactly as C20's first stage does
(the services' environment resolution and the configs resolution do not touch it) -/
theorem pipeline_envStage_secrets (env : Env) (dict : KVs) :
    Val.lookup "secrets" (Pipeline.resolveEnvironment env dict) = Val.lookup "secrets" (resolveSecretsEnv env dict) := by
  unfold Pipeline.resolveEnvironment resolveConfigsEnv resolveSecretsEnv
  rw [lookup_resolveSection_ne (by simp), lookup_resolveSection_self, lookup_resolveSection_self,
    lookup_resolveServicesEnv_ne (by simp)]

/-- the environment stage of the composed pipeline acts on the `configs` section exactly as C20's first stage does -/
theorem pipeline_envStage_configs (env : Env) (dict : KVs) :
    Val.lookup "configs" (Pipeline.resolveEnvironment env dict) = Val.lookup "configs" (resolveConfigsEnv env dict) := by
  unfold Pipeline.resolveEnvironment resolveConfigsEnv resolveSecretsEnv
  rw [lookup_resolveSection_self, lookup_resolveSection_self, lookup_resolveSection_ne (by simp),
    lookup_resolveServicesEnv_ne (by simp)]

/-- **taint confinement at the environment stage of the composed pipeline**: for every configuration `c` (options,
environment, …) and every model the earlier stages hand over, if that model is untainted then in the model
`Pipeline.envStage` returns every secret is untainted except a string under its first `x-#value` entry, and every
config except a string under its first `content` entry: values of the environment enter the two sections there only -/
theorem pipeline_envStage_confines_taint {P : String → Prop} (hxv : P xValue) (hct : P "content")
    (c : Pipeline.Cfg) {kvs d : KVs} (h : AllStrKV P kvs) (he : Pipeline.envStage c (.map kvs) = .ok d) :
    (∀ objs, Val.lookup "secrets" d = some (.map objs) → ∀ e ∈ objs, P e.1 ∧ ValOkF P xValue e.2) ∧
    (∀ objs, Val.lookup "configs" d = some (.map objs) → ∀ e ∈ objs, P e.1 ∧ ValOkF P "content" e.2) := by
  simp only [Pipeline.envStage] at he
  cases he
  have hsect : ∀ sect objs, Val.lookup sect kvs = some (.map objs) → ∀ e ∈ objs, P e.1 ∧ AllStr P e.2 :=
    fun _ _ hl => AllStrKV_iff.1 (AllStrKV_lookup h hl)
  constructor
  · intro objs hl
    rw [pipeline_envStage_secrets] at hl
    exact forall_resolveSection (Q0 := fun n v => P n ∧ AllStr P v) (Q1 := fun n v => P n ∧ ValOkF P xValue v) _ _ c.env
      (fun n v hq => ⟨hq.1, ValOkF_resolveObj hxv c.env (ValOkF_of_AllStr hq.2)⟩) (hsect _) objs hl
  · intro objs hl
    rw [pipeline_envStage_configs] at hl
    exact forall_resolveSection (Q0 := fun n v => P n ∧ AllStr P v) (Q1 := fun n v => P n ∧ ValOkF P "content" v) _ _ c.env
      (fun n v hq => ⟨hq.1, ValOkF_resolveObj hct c.env (ValOkF_of_AllStr hq.2)⟩) (hsect _) objs hl

end CV.Secrets
