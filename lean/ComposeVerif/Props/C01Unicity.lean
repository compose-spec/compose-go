import ComposeVerif.Model.C01Unicity
import ComposeVerif.Lemmas.UnicityLoop
import ComposeVerif.Lemmas.UnicityStage
import ComposeVerif.Gen.C01Source
/-!
# C01 — `override.enforceUnicity`'s unchecked store `seq[j] = entry` is always in range

`Model/C01Unicity.lean` models the `seq` / `keys` loop as the code runs it (recorded indices, `panic` for an index
outside the slice).  Here: the panic is unreachable for every list of (key, entry) pairs — unbounded, any keys, any
repetition pattern — because every index recorded in `keys` stays inside `seq`; and the loop computes exactly C04's
`Unicity.dedup` (`foldl insert`), so `Unicity.enforceTop` (whose `enforceTop_never_panics` is used by the pipeline
theorem) and this index-level model describe one function.  The body of `enforceUnicity` is pinned to the text the
model was compared with.  Seeded change C01-6 (`keys[key] = i`) is the definition `recordedInputIndex`: the model
panics on `[A, A, B, B]`, as the code then does.
Tie by execution: stream `c01unicityLoop` (harness/p/c01/c01_unicity.go).

The loop is C04's `Unicity.loopRun` (`Model/UnicityLoop.lean`; the index to record is a function here, a `Slot` there):
`Uniq.loop_eq`.  The invariant — `seq` holds the values of the accumulator of `foldl insert`, `keys[k]` is the position
of `k` in it — is C04's `Rep`, carried through the loop by `loopRun_rep`.
-/
namespace CV.C01.Uniq
open CV CV.Val CV.Unicity

def ofLoopSt (st : LoopSt) : St := ⟨st.seq, st.keys⟩

theorem lookupIdx_eq : ∀ (k : String) (l : List (String × Nat)), lookupIdx k l = idxLookup k l
  | _, [] => rfl
  | k, (k', j) :: r => by simp only [lookupIdx, idxLookup, lookupIdx_eq k r]

theorem stepWith_eq_loopStep (s : Slot) (i : Nat) (st : LoopSt) (k : String) (e : Val) :
    stepWith (fun i seq => s.value seq i) i (ofLoopSt st) k e = (loopStep s st i k e).map ofLoopSt := by
  simp only [stepWith, loopStep, ofLoopSt, lookupIdx_eq]
  cases idxLookup k st.keys with
  | none => rfl
  | some j => by_cases h : j < st.seq.length <;> simp only [h, if_true, if_false] <;> rfl

theorem loopWith_eq_loopRun (s : Slot) : ∀ (l : List (String × Val)) (i : Nat) (st : LoopSt),
    loopWith (fun i seq => s.value seq i) i (ofLoopSt st) l = (loopRun s l i st).map ofLoopSt
  | [], _, _ => rfl
  | (k, e) :: r, i, st => by
    simp only [loopWith, loopRun, stepWith_eq_loopStep]
    cases loopStep s st i k e with
    | none => rfl
    | some st' => exact loopWith_eq_loopRun s r (i + 1) st'

theorem loop_eq (kes : List (String × Val)) : loop kes = (loopRun .outLen kes 0 LoopSt.empty).map ofLoopSt :=
  loopWith_eq_loopRun .outLen kes 0 LoopSt.empty

end CV.C01.Uniq

/-! the theorems about the loop, in the namespace of the other C01 properties -/
namespace CV.C01
open CV CV.Unicity

/-- for every list of entries with their keys the loop ends with a sequence — the store
`seq[j] = entry` is never out of range -/
theorem unicityLoop_never_panics (kes : List (String × Val)) (site : String) : Uniq.run kes ≠ .panic site := by
  obtain ⟨st, h, _⟩ := loopRun_rep kes 0 [] LoopSt.empty rep_empty
  simp only [Uniq.run, Uniq.loop_eq, h]
  nofun

/-- … because at the end of every run each index recorded in `keys` is inside `seq` -/
theorem unicityLoop_index_invariant (kes : List (String × Val)) (st : Uniq.St) (h : Uniq.loop kes = some st)
    (k : String) (j : Nat) (hj : Uniq.lookupIdx k st.keys = some j) : j < st.seq.length := by
  obtain ⟨st', h', hs, hk⟩ := loopRun_rep kes 0 [] LoopSt.empty rep_empty
  rw [Uniq.loop_eq, h'] at h
  cases h
  rw [Uniq.lookupIdx_eq] at hj
  simp only [Uniq.ofLoopSt, hs, List.length_map]
  exact pos_lt ((hk k).symm.trans hj)

/-- the index-keeping loop computes C04's `dedup` (one entry per key, a later entry
replacing the earlier one at the earlier position) -/
theorem unicityLoop_refines_dedup (ks : List String) (xs : List Val) :
    Uniq.run (ks.zip xs) = .ok (Unicity.dedup ks xs) := by
  obtain ⟨st, h, hs, _⟩ := loopRun_rep (ks.zip xs) 0 [] LoopSt.empty rep_empty
  simp only [Uniq.run, Uniq.loop_eq, h, Option.map_some, Uniq.ofLoopSt, hs, Unicity.dedup, dedupKVs_eq]

/-- the result is never longer than the input (each iteration appends at most one element) -/
theorem unicityLoop_length_le (ks : List String) (xs : List Val) : (Unicity.dedup ks xs).length ≤ (ks.zip xs).length := by
  have := length_foldl_addKey ((ks.zip xs).map Prod.fst) []
  rw [show ([] : List String) = Val.keys [] from rfl, ← keys_foldl_step, ← dedupKVs_eq] at this
  simpa [Unicity.dedup, Val.keys] using this

/-! non-vacuity and sensitivity -/

example : Uniq.run [("A", .str "A=1"), ("A", .str "A=2"), ("B", .str "B=1"), ("B", .str "B=2")]
    = .ok [.str "A=2", .str "B=2"] := by rfl
example : Uniq.run [("A", .str "A=1"), ("B", .str "B=1"), ("A", .str "A=2"), ("C", .str "C"), ("B", .str "B=2")]
    = .ok [.str "A=2", .str "B=2", .str "C"] := by rfl
/-- with the index of seeded change C01-6 the same loop leaves the slice -/
example : Uniq.runInputIndex [("A", .str "A=1"), ("A", .str "A=2"), ("B", .str "B=1"), ("B", .str "B=2")]
    = .panic "override.enforceUnicity" := by rfl
/-- … or silently overwrites another entry (`[A A B C B]`: the second `B` lands on `C`'s slot) -/
example : Uniq.runInputIndex [("A", .str "a1"), ("A", .str "a2"), ("B", .str "b1"), ("C", .str "c1"), ("B", .str "b2")]
    = .ok [.str "a2", .str "b1", .str "b2"] := by rfl

/-- the body of `enforceUnicity` is the text `Model/C01Unicity.lean` was compared with -/
theorem unicity_loop_is_source :
    CV.Gen.c01_body_enforceUnicity =
      "{ switch v := value.(type) { case map[string]any: for k, e := range v { u, err := enforceUnicity(e, p.Next(k)) if err != nil { return nil, err } v[k] = u } return v, nil case []any: for pattern, indexer := range unique { if p.Matches(pattern) { seq := []any{} keys := map[string]int{} for i, entry := range v { key, err := indexer(entry, p.Next(fmt.Sprintf(\"[%d]\", i))) if err != nil { return nil, err } if j, ok := keys[key]; ok { seq[j] = entry } else { seq = append(seq, entry) keys[key] = len(seq) - 1 } } return seq, nil } } } return value, nil }" :=
  rfl

end CV.C01
