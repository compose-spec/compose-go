import ComposeVerif.Model.Schema
import ComposeVerif.Lemmas.SecretsOrder
/-!
# C01 (schema model) — `uniqueItems` does not read the order in which a mapping is spelled

gojsonschema decides `uniqueItems` on the JSON text of the items, and `encoding/json` writes the keys of a map in sorted
order: two mappings with the same entries are the same item.  `Schema.jsonEq` has that property for every
pair of association lists with distinct keys — so `Schema.conforms` is a function of the Go map, not of its spelling, at
the one place where the schema looks at two values at once.  `Props/C02Whole` needed this for the `schema` stage.
-/
namespace CV.Schema
open CV CV.Val CV.Secrets

theorem jsonSub_eq_all (r m : KVs) :
    jsonSub r m = r.all (fun kv => match Val.lookup kv.1 m with | some v' => jsonEq kv.2 v' | none => false) := by
  induction r with
  | nil => simp [jsonSub]
  | cons kv r ih =>
    obtain ⟨k, v⟩ := kv
    show (_ && jsonSub r m) = _
    rw [ih]; rfl

theorem jsonSub_perm_right (r : KVs) {m m' : KVs} (hp : m.Perm m') (hn : KeysNodup m) :
    jsonSub r m = jsonSub r m' := by
  induction r with
  | nil => simp [jsonSub]
  | cons kv r ih => obtain ⟨k, v⟩ := kv; simp only [jsonSub]; rw [Secrets.lookup_perm hp hn, ih]

theorem jsonSub_perm_left {r r' : KVs} (hp : r.Perm r') (m : KVs) : jsonSub r m = jsonSub r' m := by
  rw [jsonSub_eq_all, jsonSub_eq_all]
  exact hp.all_eq

theorem jsonEq_map_perm_left {a a' : KVs} (hp : a.Perm a') (x : Val) :
    jsonEq (.map a) x = jsonEq (.map a') x := by
  cases x <;> simp only [jsonEq]
  rw [hp.length_eq, jsonSub_perm_left hp]

theorem jsonEq_map_perm_right {b b' : KVs} (hp : b.Perm b') (hn : KeysNodup b) (x : Val) :
    jsonEq x (.map b) = jsonEq x (.map b') := by
  cases x <;> simp only [jsonEq]
  rw [hp.length_eq, jsonSub_perm_right _ hp hn]

/-- `uniqueItems` on an array whose last-compared item is respelled: the verdict about that item does not change -/
theorem uniqueJson_head_perm {a a' : KVs} (hp : a.Perm a') (hn : KeysNodup a) (xs : List Val) :
    uniqueJson (.map a :: xs) = uniqueJson (.map a' :: xs) := by
  simp only [uniqueJson]
  have : (xs.any fun y => jsonEq y (.map a)) = (xs.any fun y => jsonEq y (.map a')) := by
    induction xs with
    | nil => rfl
    | cons y ys ih => simp only [List.any_cons, ih, jsonEq_map_perm_right hp hn y]
  rw [this]

/-! A witness: the same entries in two orders, decided the way the validator decides it. -/
def p1 : Val := .map [("target", .int 80), ("published", .str "81")]
def p2 : Val := .map [("published", .str "81"), ("target", .int 80)]
/-- `{"uniqueItems": true}` -/
def uniq : S := .node [] [] [] .allow none [] [] none [] true none none none

theorem schema_model_ignores_key_order :
    conforms uniq (.seq [p1, p2]) = false ∧ conforms uniq (.seq [p1, p1]) = false := by
  constructor <;> decide

example : KeysNodup [("target", Val.int 80), ("published", Val.str "81")] := by unfold KeysNodup; decide

end CV.Schema
