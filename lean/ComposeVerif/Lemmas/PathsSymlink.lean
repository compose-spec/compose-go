import ComposeVerif.Model.PathsSymlink
/-! `ResolveSymbolicLink` (the loop `resolveSym`) ends on a link-free path, hence is idempotent (C12). -/
namespace CV.Paths.Sym

/-- no non-empty prefix `done ++ q.take k` (1 ≤ k) of `done ++ q` is a link -/
def LinkFreeFrom (fs : FS) (done q : P) : Prop := ∀ k, 1 ≤ k → k ≤ q.length → fs (done ++ q.take k) = none

def LinkFree (fs : FS) (p : P) : Prop := LinkFreeFrom fs [] p

/-- `EvalSymlinks` returns physical paths: no prefix of a target is itself a symbolic link -/
def Physical (fs : FS) : Prop := ∀ p t, fs p = some (some t) → LinkFree fs t

theorem linkFreeFrom_cons (fs : FS) (done : P) (c : Str) (q : P) :
    LinkFreeFrom fs done (c :: q) ↔ fs (done ++ [c]) = none ∧ LinkFreeFrom fs (done ++ [c]) q := by
  constructor
  · intro hf
    refine ⟨by simpa using hf 1 (Nat.le_refl _) (by simp), fun k h1 h2 => ?_⟩
    simpa [List.append_assoc] using hf (k + 1) (Nat.le_add_left _ _) (by simpa using h2)
  · intro ⟨h0, hf⟩ k h1 h2
    match k, h1 with
    | 1, _ => simpa using h0
    | k + 2, _ => simpa [List.append_assoc] using hf (k + 1) (Nat.le_add_left _ _) (by simpa using h2)

theorem firstLink_none_iff (fs : FS) : ∀ (q done : P), firstLink fs done q = none ↔ LinkFreeFrom fs done q
  | [], done => by simp [firstLink, LinkFreeFrom]; intro k h1 h2; omega
  | c :: rest, done => by
    rw [linkFreeFrom_cons, firstLink]
    cases h : fs (done ++ [c]) with
    | some t => simp
    | none => simpa using firstLink_none_iff fs rest (done ++ [c])

theorem firstLink_some (fs : FS) : ∀ (q done link rest : P) (t : Option P),
    firstLink fs done q = some (link, t, rest) →
      ∃ pre c, q = pre ++ c :: rest ∧ link = done ++ pre ++ [c] ∧ fs link = some t ∧ LinkFreeFrom fs done pre
  | [], done, link, rest, t, h => by simp [firstLink] at h
  | c :: q, done, link, rest, t, h => by
    rw [firstLink] at h
    cases hc : fs (done ++ [c]) with
    | some t' =>
      rw [hc] at h
      cases h
      exact ⟨[], c, rfl, by simp, hc, fun k h1 h2 => absurd h2 (by simp; omega)⟩
    | none =>
      rw [hc] at h
      obtain ⟨pre, c', h1, h2, h3, h4⟩ := firstLink_some fs q (done ++ [c]) link rest t h
      exact ⟨c :: pre, c', by rw [h1]; rfl, by rw [h2]; simp, h3, (linkFreeFrom_cons fs done c pre).mpr ⟨hc, h4⟩⟩

theorem loop_of_linkFree (fs : FS) (p : P) (h : LinkFree fs p) : ∀ fuel, loop fs fuel p = .ok p
  | 0 => rfl
  | fuel + 1 => by
    have : firstLink fs [] p = none := (firstLink_none_iff fs p []).mpr h
    simp [loop, round, this]

/-- one successful turn of the loop: nothing found, or the path is cut behind its first link `pre ++ [c]` (`firstLink_some`),
whose target either changes nothing or is resolved further with one unit of fuel less -/
theorem loop_succ_ok (fs : FS) (fuel : Nat) (p r : P) (h : loop fs (fuel + 1) p = .ok r) :
    (r = p ∧ LinkFree fs p) ∨
    ∃ pre c rest t, p = pre ++ c :: rest ∧ fs (pre ++ [c]) = some (some t) ∧ LinkFreeFrom fs [] pre ∧
      ((t ++ rest = p ∧ r = p) ∨ (t ++ rest ≠ p ∧ loop fs fuel (t ++ rest) = .ok r)) := by
  simp only [loop, round] at h
  cases hf : firstLink fs [] p with
  | none => rw [hf] at h; cases h; exact .inl ⟨rfl, (firstLink_none_iff fs p []).mp hf⟩
  | some x =>
    obtain ⟨link, t, rest⟩ := x
    rw [hf] at h
    obtain ⟨pre, c, hcut, hlink, hfs, hpre⟩ := firstLink_some fs _ [] link rest t hf
    rw [List.nil_append] at hlink
    subst hlink
    cases t with
    | none => cases h
    | some t =>
      simp only at h
      refine .inr ⟨pre, c, rest, t, hcut, hfs, hpre, ?_⟩
      by_cases he : t ++ rest = p
      · simp only [he, if_true, Res.ok.injEq] at h; exact .inl ⟨he, h.symm⟩
      · simp only [he, if_false] at h; exact .inr ⟨he, h⟩

/-- invariant of the loop: a link-free prefix `A` followed by at most `fuel` components -/
theorem loop_linkFree (fs : FS) (hph : Physical fs) :
    ∀ (fuel : Nat) (A R : P) (r : P), LinkFree fs A → R.length ≤ fuel → loop fs fuel (A ++ R) = .ok r → LinkFree fs r
  | 0, A, R, r, hA, hR, h => by
    rw [List.length_eq_zero_iff.mp (Nat.le_zero.mp hR), List.append_nil] at h
    cases h; exact hA
  | fuel + 1, A, R, r, hA, hR, h => by
    rcases loop_succ_ok fs fuel _ r h with ⟨rfl, hf⟩ | ⟨pre, c, rest, t, hcut, hfs, _, hcase⟩
    · exact hf
    have htf : LinkFree fs t := hph _ t hfs
    rcases hcase with ⟨he, _⟩ | ⟨_, h'⟩
    · -- `resolved == path` cannot happen: the physical target `t` would be the link itself
      exfalso
      rw [hcut, show pre ++ c :: rest = (pre ++ [c]) ++ rest by simp] at he
      have e := List.append_cancel_right he
      have := htf (pre ++ [c]).length (by simp) (by rw [e]; exact Nat.le_refl _)
      rw [List.nil_append, e, List.take_length, hfs] at this
      cases this
    · -- the link lies beyond the link-free prefix `A`, so fewer components are left behind it
      have hk : A.length ≤ pre.length := by
        apply Nat.le_of_not_lt
        intro hlt
        have := hA (pre.length + 1) (Nat.le_add_left _ _) hlt
        have e : A.take (pre.length + 1) = pre ++ [c] := by
          have := congrArg (List.take (pre.length + 1)) hcut
          rw [List.take_append_of_le_length hlt] at this
          rw [this, show pre ++ c :: rest = (pre ++ [c]) ++ rest by simp]
          exact List.take_left' (by simp)
        rw [List.nil_append, e, hfs] at this
        cases this
      have hrest : rest.length < R.length := by
        have := congrArg List.length hcut
        simp only [List.length_append, List.length_cons] at this
        omega
      exact loop_linkFree fs hph fuel t rest r htf (by omega) h'
/-- the loop started on the whole path: the link-free prefix is empty, the fuel is the number of components -/
theorem resolveSym_linkFree (fs : FS) (hph : Physical fs) (p r : P) (h : resolveSym fs p = .ok r) : LinkFree fs r :=
  loop_linkFree fs hph p.length [] p r (fun k h1 h2 => absurd h2 (Nat.not_le.mpr h1)) (Nat.le_refl _) h

end CV.Paths.Sym
