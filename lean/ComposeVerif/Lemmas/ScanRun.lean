/-!
# Runs and prefixes of a list

Where `takeWhile` / `dropWhile` stop on a list that is written as "a run of the class, then something outside it", and how
a prefix of `k ++ X` lies.  Core Lean only, so that a module can use these without the names of `Model/Str.lean` in scope.
-/
namespace CV.Scan

section run
variable {α : Type} {p : α → Bool}

theorem span_stop {K : List α} (hK : K.all p = true) {d : α} (hd : p d = false) (X : List α) :
    (K ++ d :: X).takeWhile p = K ∧ (K ++ d :: X).dropWhile p = d :: X := by
  have hK := List.all_eq_true.mp hK
  rw [List.takeWhile_append_of_pos hK, List.dropWhile_append_of_pos hK, List.takeWhile_cons_of_neg (by simp [hd]),
    List.dropWhile_cons_of_neg (by simp [hd]), List.append_nil]
  exact ⟨rfl, rfl⟩

theorem span_all {K : List α} (hK : K.all p = true) : K.takeWhile p = K ∧ K.dropWhile p = [] := by
  have h1 := List.takeWhile_append_of_pos (l₂ := []) (List.all_eq_true.mp hK)
  have h2 := List.dropWhile_append_of_pos (l₂ := []) (List.all_eq_true.mp hK)
  rw [List.append_nil] at h1 h2
  exact ⟨by rw [h1]; exact List.append_nil K, h2⟩

theorem span_head {K T : List α} (hK : K.all p = true) (hT : ∀ c, T.head? = some c → p c = false) :
    (K ++ T).takeWhile p = K ∧ (K ++ T).dropWhile p = T := by
  cases T with
  | nil => rw [List.append_nil]; exact span_all hK
  | cons d X => exact span_stop hK (hT d rfl) X

theorem drop_takeWhile (l : List α) : l.drop (l.takeWhile p).length = l.dropWhile p := by
  conv => lhs; arg 2; rw [← List.takeWhile_append_dropWhile (p := p) (l := l)]
  exact List.drop_left' rfl

theorem take_takeWhile (l : List α) : l.take (l.takeWhile p).length = l.takeWhile p := by
  conv => lhs; arg 2; rw [← List.takeWhile_append_dropWhile (p := p) (l := l)]
  exact List.take_left' rfl

theorem drop_succ_append (a : List α) (d : α) (X : List α) : (a ++ d :: X).drop (a.length + 1) = X := by
  rw [← List.drop_drop, List.drop_left' rfl]; rfl

theorem drop_of_drop_append {src a b : List α} {i : Nat} (h : src.drop i = a ++ b) : src.drop (i + a.length) = b := by
  rw [← List.drop_drop, h, List.drop_left' rfl]

theorem takeWhile_length_le (l : List α) : (l.takeWhile p).length ≤ l.length :=
  (List.takeWhile_sublist p).length_le

theorem dropWhile_head {l r : List α} {a : α} (h : l.dropWhile p = a :: r) : p a = false := by
  have := List.head?_dropWhile_not p l
  rwa [h] at this

theorem mem_takeWhile : ∀ {l : List α} {c : α}, c ∈ l.takeWhile p → p c = true
  | x :: xs, c, h => by
    rw [List.takeWhile_cons] at h
    split at h
    · rcases List.mem_cons.mp h with rfl | h1
      · assumption
      · exact mem_takeWhile h1
    · cases h

theorem prefix_append_cases {w k X : List α} (h : w <+: k ++ X) : w <+: k ∨ ∃ c, X.head? = some c ∧ c ∈ w := by
  rcases List.prefix_or_prefix_of_prefix h (List.prefix_append k X) with h1 | ⟨t, rfl⟩
  · exact .inl h1
  · cases t with
    | nil => exact .inl (by rw [List.append_nil]; exact List.prefix_refl k)
    | cons y t =>
      have h2 := (List.prefix_append_right_inj k).1 h
      cases X with
      | nil => cases List.prefix_nil.1 h2
      | cons x X => exact .inr ⟨x, rfl, (List.cons_prefix_cons.1 h2).1 ▸ List.mem_append_right k List.mem_cons_self⟩

end run

end CV.Scan
