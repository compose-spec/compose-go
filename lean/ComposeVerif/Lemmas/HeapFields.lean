import ComposeVerif.Model.DerivApply
/-!
C14 — the ten numerals below are positions in `Gen.CopyPlan.fieldNames`, the table of field names the translator
regenerates from `types/*.go` on every run (`Deriv.fid name = fieldNames.idxOf name`).  `fieldIds` is checked against that
table by the kernel; when a field is added to a compose-go type the positions move and the numerals are to be re-evaluated.
-/
namespace CV.Heap.Deriv

/-- a look-up costs the kernel a pass over the table's 222 literals in every declaration that runs a program; rewriting
with these positions first spares it -/
theorem fieldIds : fNetworks = 130 ∧ fLabels = 107 ∧ fServices = 178 ∧ fVolumes = 212 ∧ fSecrets = 175 ∧ fConfigs = 33 ∧
    fBuild = 11 ∧ fSource = 183 ∧ fType = 201 ∧ fMarshallContent = 220 := by decide +kernel

end CV.Heap.Deriv
