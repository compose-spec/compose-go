import ComposeVerif.Model.TemplateOpts
import ComposeVerif.Lemmas.TemplateFuel
/-!
# `SubstituteWithOptions`: the default configuration is `Substitute`

`scanC` steps by the same `scanK` as `scan`, with `cfg.matchAt` as the match attempt (`scanC_succ`); `replBody` is the step of
`replC`; at `defaultCfg` both are `scan` / `repl` by one induction on the fuel (`scanC_replC_default`).
-/
namespace CV.Template

theorem findDelim_dollar_of_head {sub : Str} (h : DollarHead sub) :
    findDelim '$' sub = (matchDollar sub).map (fun x => groupsOfD '$' x.1) := by
  obtain ⟨c, r, rfl, _⟩ := id h
  have hne := matchDollar_isSome_of_head h
  rw [findDelim, matchDelim_dollar]
  cases hm : matchDollar ('$' :: c :: r) with
  | none => exact absurd hm hne
  | some x => rfl

/-- the body of `replC` (Model/TemplateOpts.lean) after the truncation, typed again; tied by `replC_succ` (`rfl`) -/
def replBody (cfg : Cfg) (f : Nat) (env : Env) (m sub rest : Str) : Out :=
  match cfg.find sub with
  | none => .panic .matchGroups
  | some g =>
    if !g.escaped.isEmpty then .ok g.escaped
    else if !g.named.isEmpty then .ok ((env g.named).getD [])
    else if g.braced.isEmpty then .err .invalid
    else
      match (match cfg.subsFunc with
             | some sf => sf env g.braced
             | none => builtinSubs (fun a => scan f env a [] none) (selectOp m) env g.braced) with
      | .panic p => .panic p
      | .err e => .err e
      | .val v true =>
        match scanC { cfg with subsFunc := none, replFunc := none } f env rest [] none with
        | .ok r => .ok (v ++ r)
        | o => o
      | .val _ false => .ok ((env g.braced).getD [])

theorem replC_succ (cfg : Cfg) (f : Nat) (env : Env) (m : Str) :
    replC cfg (f + 1) env m = replBody cfg f env m (subOf m) (restOf m) := by
  rfl

theorem scanC_succ (cfg : Cfg) (f : Nat) (env : Env) (s acc : Str) (fe : Option Err) :
    scanC cfg (f + 1) env s acc fe =
      scanK cfg.matchAt s acc fe
        (fun m => match cfg.replFunc with
          | some g => g env m
          | none => replC cfg f env m) (scanC cfg f env) := by
  cases s <;> cases fe <;> rfl

theorem cfg_drop_default : ({ defaultCfg with subsFunc := none, replFunc := none } : Cfg) = defaultCfg := rfl

theorem defaultCfg_matchAt : defaultCfg.matchAt = dollarAt := funext fun s => by
  simp only [defaultCfg, delimCfg, matchDelim_dollar, dollarAt]

theorem replBody_default (f : Nat) (env : Env) (m : Str) (hm : DollarHead m)
    (hsc : ∀ s, scanC defaultCfg f env s [] none = scan f env s [] none) :
    replBody defaultCfg f env m (subOf m) (restOf m) = replK env m (fun s => scan f env s [] none) := by
  unfold replK replBody
  simp only [show defaultCfg.find (subOf m) = _ from findDelim_dollar_of_head (dollarHead_subOf hm),
    show defaultCfg.subsFunc = none from rfl, cfg_drop_default, hsc]
  cases hmd : matchDollar (subOf m) with
  | none => rfl
  | some x =>
    obtain ⟨k, x1, x2⟩ := x
    have hne := matchDollar_groups_nonempty hmd
    cases k with
    | escaped => rfl
    | invalid => rfl
    | named n =>
      cases n with
      | nil => exact absurd rfl (hne.1 _ rfl)
      | cons a n => rfl
    | braced b =>
      cases b with
      | nil => exact absurd rfl (hne.2 _ rfl)
      | cons a b =>
        simp only [Option.map_some, groupsOfD, List.isEmpty_nil, List.isEmpty_cons, Bool.not_true,
          Bool.false_eq_true, if_false, builtinSubs]
        cases containsStr (selectOp m).str (a :: b) with
        | false => rfl
        | true =>
          simp only [if_true]
          cases scan f env (cut (selectOp m).str (a :: b)).2 [] none with
          | panic p => rfl
          | err e => rfl
          | ok d =>
            dsimp only
            cases applyOp (selectOp m) (cut (selectOp m).str (a :: b)).1 (env (cut (selectOp m).str (a :: b)).1) d with
            | panic p => rfl
            | err e => rfl
            | ok x => cases scan f env (restOf m) [] none <;> rfl

theorem scanC_replC_default (env : Env) : ∀ f,
    (∀ s acc fe, scanC defaultCfg f env s acc fe = scan f env s acc fe) ∧
    (∀ m, DollarHead m → replC defaultCfg f env m = repl f env m) := by
  intro f
  induction f with
  | zero => exact ⟨fun _ _ _ => rfl, fun _ _ => rfl⟩
  | succ f ih =>
    refine ⟨fun s acc fe => ?_, fun m hm => ?_⟩
    · rw [scan_succ, scanC_succ, defaultCfg_matchAt]
      exact scanK_congr _ _ _ _ _ _ _ (fun k m rest h => ih.2 m (dollarHead_of_match h)) (fun t a e _ => ih.1 t a e)
    · rw [repl_succ, replC_succ, replBody_default f env m hm (fun s => ih.1 s [] none)]

end CV.Template
