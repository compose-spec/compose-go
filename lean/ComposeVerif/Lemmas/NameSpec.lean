import ComposeVerif.Model.NameLoader
import ComposeVerif.Spec.Name
import ComposeVerif.Spec.Dotenv
/-!
The words the statements of `Props/C17*.lean` use beyond the specification proper (`Spec/Name.lean`); definitions only.
In order: the name decision (`Agrees`, `requestedName`, the `Sources` of the loader entry and of the cli), the
environment of an option sequence as explicit layer / initial environment / `underOf`, file selection and the inverses
of `splitOn`, env files made of plain `KEY=VALUE` lines on which the parser model and `Spec.fileLayer` are compared.
-/
namespace CV.Name
open CV CV.Name.Spec

/-- what `loader.projectName` must return for each decision of the specification -/
def Agrees : Decision → Except Err Str → Prop
  | .name n, r => r = .ok n ∧ n ≠ []
  | .rejected, r => r = .error .invalidName
  | .failed, r => r = .error .interp ∨ r = .error .panic
  | .noName, r => r = .ok []

def lastOr {α} (d : α) : List α → α
  | [] => d
  | x :: xs => lastOr x xs

/-- the explicitly requested name: the argument of the last `WithName` (`[]` = none, or reset by `WithName("")`) -/
def requestedName (opts : List Opt) (init : Str) : Str :=
  lastOr init (opts.filterMap fun | .withName n => some n | _ => none)

/-- the sources of the decision as the loader entry sees them: an imperatively set name is the explicit request, the
    name that was not set imperatively plays the part of the directory name, `COMPOSE_PROJECT_NAME` takes no part
    (the cli has folded it into the imperative name already) -/
def lsources (files : List (List (Option Str))) (env : Env) (lo : LOpts) : Sources where
  explicit := if lo.imperative then lo.name else []
  fromEnv := none
  fromFiles := match interpName env lo.skipInterp (selectedName files) with
    | .ok s => .ok s
    | .error _ => .error ()
  dirBase := lo.name

/-- the four sources of the property at the cli, with the interpolation switch: under `SkipInterpolation` the
    `name:` of the files counts as written -/
def sourcesOfX (w : World) (o : PO) (files : List (List (Option Str))) (skip : Bool) : Sources where
  explicit := o.name
  fromEnv := o.env.get cpn
  fromFiles := match interpName o.env skip (selectedName files) with
    | .ok s => .ok s
    | .error _ => .error ()
  dirBase := projDir w o

def tmpl : Str := "${COMPOSE_PROJECT_NAME}".toList

def overOf : Opt → Env
  | .withEnv l => asEqualsMap l
  | _ => []

/-- what one option call adds *below* the current environment -/
def underStep (w : World) (o : PO) : Opt → Env
  | .withOsEnv => asEqualsMap w.os
  | .withDotEnv => match getEnvFromFile w o.env o.envFiles [] with
    | .ok m => m
    | .error _ => []
  | _ => []

/-- everything a sequence of option calls adds below the initial environment, in call order -/
def underOf (w : World) : List Opt → PO → Env
  | [], _ => []
  | x :: xs, o =>
    match applyOpt w o x with
    | .ok o' => underStep w o x ++ underOf w xs o'
    | .error _ => []

/-- the OS layer of a prefix of options: present iff `WithOsEnv` is called -/
def osLayer (w : World) (pre : List Opt) : Env :=
  if pre.contains .withOsEnv then asEqualsMap w.os else []

/-- the separator `WithConfigFileEnv` uses: `COMPOSE_PATH_SEPARATOR` of the project environment when non-empty, else `:` -/
def pathSep (o : PO) : Str :=
  match o.env.get pathSepKey with
  | some s => if s = [] then [':'] else s
  | none => [':']

/-- the value of `COMPOSE_DISABLE_ENV_FILE` in the OS environment, as `WithEnvFiles()` reads it -/
def disableVar (w : World) : Option Str := (asEqualsMap w.os).get disableKey

def joinWith (c : Char) : List Str → Str
  | [] => []
  | [p] => p
  | p :: ps => p ++ c :: joinWith c ps

namespace SplitLemmas

def joinSep (sep : Str) : List Str → Str
  | [] => []
  | [p] => p
  | p :: ps => p ++ sep ++ joinSep sep ps

end SplitLemmas

def simpleLine (p : Str × Str) : Dotenv.Line := .assign [] none p.1 [] .eq [] (.unq p.2) [] none

def renderSimple (ls : List (Str × Str)) : Str := Dotenv.render (ls.map simpleLine)

/-- a key the parser accepts and a value that is read back unchanged (no line feed, no `" #"`, no leading
    quote or space, no trailing space) -/
def simpleOk (p : Str × Str) : Bool := Dotenv.validKey p.1 && Dotenv.unqOk p.2

/-- what "the parser and the simple-line evaluator agree" means: both fail, or both succeed with maps that
    agree on every key -/
def SameResult : Dotenv.POut → Except Unit Env → Prop
  | .ok m, .ok out => ∀ k, Dotenv.get m k = out.get k
  | .err _ _, .error _ => True
  | .panic _, .error _ => True
  | _, _ => False

def SameLayers : Except Err Env → Except Unit (List Env) → Prop
  | .ok m, .ok ls => ∀ k, m.get k = Env.get ls.flatten k
  | .error _, .error _ => True
  | _, _ => False

/-- error classes of `GetEnvFromFile` for a parser outcome -/
def toErr : Dotenv.POut → Except Err Env
  | .ok m => .ok m
  | .err _ _ => .error .dotenvParse
  | .panic _ => .error .panic

end CV.Name
