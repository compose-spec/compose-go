import ComposeVerif.Model.C02EnvLoop
import ComposeVerif.Model.C02ExtendsX
/-! The closed inputs on which the witnesses of `Neg/C02Env.lean`, `Neg/C02ExtendsX.lean` and the non-vacuity `example`s of
`Props/C02Env.lean`, `Props/C02ExtendsX.lean` are evaluated: two services sharing an env file; a main file whose service `a`
extends its sibling `b`, which extends a service of another file. -/
namespace CV.Det.Neg.Env
open CV CV.EnvLayers CV.Det.EnvLoop

def fs : FS where
  node := fun p =>
    if p = ['w', 'e', 'b'] then some (.file [.assign ['W', 'H', 'O'] [.lit ['w', 'e', 'b']]])
    else if p = ['w', 'r', 'k'] then some (.file [.assign ['W', 'H', 'O'] [.lit ['w', 'r', 'k']]])
    else if p = ['s', 'h', 'a', 'r', 'e', 'd'] then some (.file [.assign ['G'] [.lit ['h', 'i', '-'], .var ['W', 'H', 'O'] true]])
    else none

/-- a service listing its own env file (which defines `WHO`), then the shared one (`G=hi-${WHO}`) -/
def svc (own : Str) : Service :=
  { environment := [], envFiles := [⟨own, true, []⟩, ⟨['s', 'h', 'a', 'r', 'e', 'd'], true, []⟩], labels := [], labelFiles := [] }

def web : Str × Service := (['w', 'e', 'b'], svc ['w', 'e', 'b'])
def worker : Str × Service := (['w', 'r', 'k'], svc ['w', 'r', 'k'])

def greeting (r : Except Err (List (Str × Service))) (name : Str) : Option (Option Str) :=
  match r with
  | .ok l => (lookup name l).bind fun sv => lookup ['G'] sv.environment
  | .error _ => none

end CV.Det.Neg.Env

namespace CV.Det.Neg.ExtX
open CV CV.Det CV.Det.ExtX

def files : AL (AL (XSvc (List String))) := [("other.yaml", [("x", (none, ["from-x"]))])]
def main : AL (XS (List String)) := [("a", (.same "b", ["own-a"])), ("b", (.file "other.yaml" "x", ["own-b"]))]
def mrg (base own : List String) : List String := base ++ own

end CV.Det.Neg.ExtX
