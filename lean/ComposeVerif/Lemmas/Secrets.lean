import ComposeVerif.Spec.Secrets
import ComposeVerif.Lemmas.KVs
import ComposeVerif.Lemmas.ValDecEq
import ComposeVerif.Lemmas.ValInd
/-! C20, one object: deciding the predicates on concrete trees; association lists, `AllStr` and the first-occurrence
exemption `ObjOkF` (its two equations, the consumer form `ObjOkF_mem`) through the resolvers (`resolveObj_found`,
`resolveObj_map_cases`), `setNameFromKey`, `processExtensions`, the decoder hook, the struct decode and the renderers. -/
namespace CV.Secrets
open CV
open CV.Val hiding lookup_insert_self lookup_insert_ne

/-! ### deciding the predicates on concrete trees (the `example`s and the `Neg/` witnesses evaluate them) -/

mutual
def decAllStr (P : String → Prop) [DecidablePred P] : (v : Val) → Decidable (AllStr P v)
  | .str s => by simp only [AllStr]; infer_instance
  | .float s => by simp only [AllStr]; infer_instance
  | .seq xs => by simp only [AllStr]; exact decAllStrL P xs
  | .map kvs => by simp only [AllStr]; exact decAllStrKV P kvs
  | .null => .isTrue (by simp [AllStr])
  | .bool b => by simp only [AllStr]; infer_instance
  | .int i => by simp only [AllStr]; infer_instance
def decAllStrL (P : String → Prop) [DecidablePred P] : (xs : List Val) → Decidable (AllStrL P xs)
  | [] => .isTrue (by simp [AllStrL])
  | x :: xs => by
    simp only [AllStrL]
    exact @instDecidableAnd _ _ (decAllStr P x) (decAllStrL P xs)
def decAllStrKV (P : String → Prop) [DecidablePred P] : (kvs : KVs) → Decidable (AllStrKV P kvs)
  | [] => .isTrue (by simp [AllStrKV])
  | (k, v) :: r => by
    simp only [AllStrKV]
    exact @instDecidableAnd _ _ inferInstance (@instDecidableAnd _ _ (decAllStr P v) (decAllStrKV P r))
end

instance (P : String → Prop) [DecidablePred P] (v : Val) : Decidable (AllStr P v) := decAllStr P v
instance (c : List Char) (v : Val) : Decidable (Clean c v) := by unfold Clean; infer_instance

deriving instance DecidableEq for FileObj, Proj, Out

theorem lookup_insert_self (k : String) (v : Val) (kvs : KVs) : Val.lookup k (Val.insert k v kvs) = some v :=
  Val.lookup_insert_self k v kvs

theorem lookup_insert_ne {k k' : String} (h : k ≠ k') (v : Val) (kvs : KVs) :
    Val.lookup k (Val.insert k' v kvs) = Val.lookup k kvs :=
  Val.lookup_insert_ne h v kvs

theorem erase_eq_filter (k : String) : ∀ l : KVs, Val.erase k l = l.filter (fun kv => !(kv.1 == k)) := by
  intro l
  rw [Val.erase_eq, Assoc.erase_eq_filter]
  exact List.filter_congr fun kv _ => by by_cases h : kv.1 = k <;> simp [h]

theorem AllStrKV_iff {P : String → Prop} : ∀ {kvs : KVs}, AllStrKV P kvs ↔ ∀ e ∈ kvs, P e.1 ∧ AllStr P e.2
  | [] => by simp [AllStrKV]
  | (k, v) :: r => by simp only [AllStrKV, List.forall_mem_cons, AllStrKV_iff (kvs := r), and_assoc]

theorem AllStrKV_lookup {P : String → Prop} {kvs : KVs} (h : AllStrKV P kvs) {k : String} {v : Val}
    (hl : Val.lookup k kvs = some v) : AllStr P v := (AllStrKV_iff.1 h _ (mem_of_lookup hl)).2

theorem AllStrKV_insert {P : String → Prop} {kvs : KVs} (h : AllStrKV P kvs) {k : String} {v : Val}
    (hk : P k) (hv : AllStr P v) : AllStrKV P (Val.insert k v kvs) :=
  AllStrKV_iff.2 fun e he => (mem_insert he).elim (fun h' => h' ▸ ⟨hk, hv⟩) (AllStrKV_iff.1 h e)

theorem AllStrKV_filter {P : String → Prop} {kvs : KVs} (h : AllStrKV P kvs) (f : String × Val → Bool) :
    AllStrKV P (kvs.filter f) :=
  AllStrKV_iff.2 fun e he => AllStrKV_iff.1 h e (List.mem_filter.1 he).1

theorem AllStrKV_append {P : String → Prop} {a b : KVs} (ha : AllStrKV P a) (hb : AllStrKV P b) : AllStrKV P (a ++ b) :=
  AllStrKV_iff.2 fun e he => (List.mem_append.1 he).elim (AllStrKV_iff.1 ha e) (AllStrKV_iff.1 hb e)

theorem AllStrKV_extrasOf {P : String → Prop} {kvs : KVs} (h : AllStrKV P kvs) (skip : Bool) : AllStrKV P (extrasOf skip kvs) := by
  unfold extrasOf
  split
  · simp [AllStrKV]
  · exact AllStrKV_filter h _

theorem AllStrKV_withExtras {P : String → Prop} {ex keep : KVs} (hx : P extKey) (he : AllStrKV P ex) (hk : AllStrKV P keep) :
    AllStrKV P (withExtras ex keep) := by
  unfold withExtras
  split
  · exact hk
  · exact AllStrKV_insert hk hx (by simpa [AllStr] using he)

theorem AllStr_pxVal₃ {P : String → Prop} (hx : P extKey) :
    (∀ (v : Val) (p : TPath), AllStr P v → AllStr P (pxVal p v)) ∧
    (∀ (kvs : KVs) (p : TPath) (skip : Bool), AllStrKV P kvs → AllStrKV P (pxKVs p skip kvs)) ∧
    (∀ (xs : List Val) (p : TPath) (i : Nat), AllStrL P xs → AllStrL P (pxSeq p i xs)) := by
  apply Val.induct₃
  case null | bool | int | float | str => intros; simpa only [pxVal]
  case map =>
    intro kvs ih p h
    simp only [pxVal, AllStr] at h ⊢
    exact AllStrKV_withExtras hx (AllStrKV_extrasOf h _) (ih p _ h)
  case seq => intro xs ih p h; simp only [pxVal, AllStr] at h ⊢; exact ih p 0 h
  case nil | nil' => intros; simp [pxKVs, pxSeq, AllStrKV, AllStrL]
  case cons =>
    intro k v r ihv ihr p skip h
    simp only [AllStrKV] at h
    simp only [pxKVs]
    split
    · exact ihr p skip h.2.2
    · exact ⟨h.1, ihv _ h.2.1, ihr p skip h.2.2⟩
  case cons' =>
    -- only a mapping element is visited, and it is visited as `pxVal` visits a mapping
    intro x xs ihx ihxs p i h
    cases x <;> exact ⟨by first | exact ihx (pnext p (toString i)) h.1 | exact h.1, ihxs p (i + 1) h.2⟩

theorem AllStr_pxVal {P : String → Prop} (hx : P extKey) : ∀ (p : TPath) (v : Val), AllStr P v → AllStr P (pxVal p v) :=
  fun p v => (AllStr_pxVal₃ hx).1 v p
theorem AllStrKV_pxKVs {P : String → Prop} (hx : P extKey) : ∀ (p : TPath) (skip : Bool) (kvs : KVs), AllStrKV P kvs → AllStrKV P (pxKVs p skip kvs) :=
  fun p skip kvs => (AllStr_pxVal₃ hx).2.1 kvs p skip
theorem AllStrL_pxSeq {P : String → Prop} (hx : P extKey) : ∀ (p : TPath) (i : Nat) (xs : List Val), AllStrL P xs → AllStrL P (pxSeq p i xs) :=
  fun p i xs => (AllStr_pxVal₃ hx).2.2 xs p i

theorem ObjOkF_cons_self {P : String → Prop} {c : String} {v : Val} {r : KVs} :
    ObjOkF P c ((c, v) :: r) ↔ P c ∧ (isStr v ∨ AllStr P v) ∧ AllStrKV P r := by
  simp only [ObjOkF, if_true]

theorem ObjOkF_cons_ne {P : String → Prop} {c k : String} {v : Val} {r : KVs} (h : k ≠ c) :
    ObjOkF P c ((k, v) :: r) ↔ P k ∧ AllStr P v ∧ ObjOkF P c r := by
  simp only [ObjOkF, if_neg h]

theorem ObjOkF_mem {P : String → Prop} {c : String} : ∀ {kvs : KVs}, ObjOkF P c kvs →
    ∀ e ∈ kvs, P e.1 ∧ (AllStr P e.2 ∨ (e.1 = c ∧ isStr e.2 ∧ Val.lookup c kvs = some e.2))
  | (k, v) :: r, h, e, he => by
    by_cases hk : k = c
    · subst hk
      obtain ⟨h1, h2, h3⟩ := ObjOkF_cons_self.1 h
      rcases List.mem_cons.1 he with rfl | he
      · exact ⟨h1, h2.symm.imp_right fun hs => ⟨rfl, hs, by simp [Val.lookup]⟩⟩
      · exact ⟨(AllStrKV_iff.1 h3 e he).1, .inl (AllStrKV_iff.1 h3 e he).2⟩
    · obtain ⟨h1, h2, h3⟩ := (ObjOkF_cons_ne hk).1 h
      rcases List.mem_cons.1 he with rfl | he
      · exact ⟨h1, .inl h2⟩
      · have := ObjOkF_mem h3 e he
        refine ⟨this.1, this.2.imp_right fun ⟨a, b, c'⟩ => ⟨a, b, ?_⟩⟩
        simp [Val.lookup, Ne.symm hk, c']

theorem ObjOkF_of_AllStrKV {P : String → Prop} {c : String} : ∀ {kvs : KVs}, AllStrKV P kvs → ObjOkF P c kvs
  | [], _ => trivial
  | (k, v) :: r, h => by
    by_cases hc : k = c
    · exact hc ▸ ObjOkF_cons_self.2 ⟨hc ▸ h.1, .inr h.2.1, h.2.2⟩
    · exact (ObjOkF_cons_ne hc).2 ⟨h.1, h.2.1, ObjOkF_of_AllStrKV h.2.2⟩

theorem ValOkF_of_AllStr {P : String → Prop} {c : String} {v : Val} (h : AllStr P v) : ValOkF P c v := by
  cases v with
  | map kvs => simp only [AllStr] at h; exact ObjOkF_of_AllStrKV h
  | _ => simpa [ValOkF] using h

theorem ObjOkF_insert_carrier {P : String → Prop} {c : String} (hc : P c) (s : String) :
    ∀ {kvs : KVs}, ObjOkF P c kvs → ObjOkF P c (Val.insert c (.str s) kvs)
  | [], _ => ObjOkF_cons_self.2 ⟨hc, .inl trivial, trivial⟩
  | (k, v) :: r, h => by
    by_cases hk : k = c
    · subst hk
      simp only [Val.insert, if_true]
      exact ObjOkF_cons_self.2 ⟨hc, .inl trivial, (ObjOkF_cons_self.1 h).2.2⟩
    · obtain ⟨h1, h2, h3⟩ := (ObjOkF_cons_ne hk).1 h
      simp only [Val.insert, if_neg (Ne.symm hk)]
      exact (ObjOkF_cons_ne hk).2 ⟨h1, h2, ObjOkF_insert_carrier hc s h3⟩

theorem ObjOkF_insert_other {P : String → Prop} {c : String} {kvs : KVs} (h : ObjOkF P c kvs) {k : String} {v : Val}
    (hkc : k ≠ c) (hk : P k) (hv : AllStr P v) : ObjOkF P c (Val.insert k v kvs) := by
  induction kvs with
  | nil => exact (ObjOkF_cons_ne hkc).2 ⟨hk, hv, trivial⟩
  | cons e r ih =>
    obtain ⟨k', v'⟩ := e
    by_cases hkk : k = k'
    · subst hkk
      simp only [Val.insert, if_true]
      exact (ObjOkF_cons_ne hkc).2 ⟨hk, hv, ((ObjOkF_cons_ne hkc).1 h).2.2⟩
    · simp only [Val.insert, if_neg hkk]
      by_cases hc : k' = c
      · subst hc
        obtain ⟨h1, h2, h3⟩ := ObjOkF_cons_self.1 h
        exact ObjOkF_cons_self.2 ⟨h1, h2, AllStrKV_insert h3 hk hv⟩
      · obtain ⟨h1, h2, h3⟩ := (ObjOkF_cons_ne hc).1 h
        exact (ObjOkF_cons_ne hc).2 ⟨h1, h2, ih h3⟩

theorem ObjOkF_lookup_ne {P : String → Prop} {c : String} {kvs : KVs} (h : ObjOkF P c kvs) {k : String} {v : Val}
    (hl : Val.lookup k kvs = some v) (hkc : k ≠ c) : AllStr P v :=
  ((ObjOkF_mem h _ (mem_of_lookup hl)).2).resolve_right fun h' => hkc h'.1

theorem ObjOkF_filter {P : String → Prop} {c : String} {kvs : KVs} (h : ObjOkF P c kvs) (f : String × Val → Bool) :
    ObjOkF P c (kvs.filter f) := by
  induction kvs with
  | nil => exact h
  | cons e r ih =>
    obtain ⟨k, v⟩ := e
    by_cases hc : k = c
    · subst hc
      obtain ⟨h1, h2, h3⟩ := ObjOkF_cons_self.1 h
      by_cases hf : f (k, v) = true
      · simp only [List.filter, hf]
        exact ObjOkF_cons_self.2 ⟨h1, h2, AllStrKV_filter h3 f⟩
      · simp only [List.filter, hf]
        exact ObjOkF_of_AllStrKV (AllStrKV_filter h3 f)
    · obtain ⟨h1, h2, h3⟩ := (ObjOkF_cons_ne hc).1 h
      by_cases hf : f (k, v) = true
      · simp only [List.filter, hf]
        exact (ObjOkF_cons_ne hc).2 ⟨h1, h2, ih h3⟩
      · simp only [List.filter, hf]
        exact ih h3

/-- when the carrier is not an `x-` key (configs: `content`), the extras never contain it -/
theorem AllStrKV_filter_of_ObjOkF {P : String → Prop} {c : String} {kvs : KVs} (h : ObjOkF P c kvs)
    (f : String × Val → Bool) (hf : ∀ v, f (c, v) = false) : AllStrKV P (kvs.filter f) :=
  AllStrKV_iff.2 fun e he =>
    have hm := List.mem_filter.1 he
    ⟨(ObjOkF_mem h e hm.1).1, (ObjOkF_mem h e hm.1).2.resolve_right fun h' => by
      have := hf e.2; rw [← h'.1] at this; simp [this] at hm⟩

theorem ObjOkF_erase_carrier {P : String → Prop} {c : String} {kvs : KVs} (h : ObjOkF P c kvs) : AllStrKV P (Val.erase c kvs) := by
  rw [erase_eq_filter]; exact AllStrKV_filter_of_ObjOkF h _ (by simp)

theorem AllStrKV_of_ObjOkF_lookup {P : String → Prop} {c : String} {kvs : KVs} (h : ObjOkF P c kvs)
    (hl : ∀ s, Val.lookup c kvs ≠ some (.str s)) : AllStrKV P kvs :=
  AllStrKV_iff.2 fun e he => ⟨(ObjOkF_mem h e he).1, (ObjOkF_mem h e he).2.resolve_right fun ⟨_, hs, hc⟩ => by
    cases hv : e.2 with
    | str s => exact hl s (hv ▸ hc)
    | _ => rw [hv] at hs; exact hs⟩

theorem isStr_pxVal {p : TPath} {v : Val} (h : isStr v) : isStr (pxVal p v) := by
  cases v <;> simp [isStr] at h ⊢
  simp [pxVal, isStr]

theorem ObjOkF_pxKVs {P : String → Prop} {c : String} (hx : P extKey) (p : TPath) (skip : Bool) {kvs : KVs}
    (h : ObjOkF P c kvs) : ObjOkF P c (pxKVs p skip kvs) := by
  induction kvs with
  | nil => exact h
  | cons e r ih =>
    obtain ⟨k, v⟩ := e
    simp only [pxKVs]
    by_cases hc : k = c
    · subst hc
      obtain ⟨h1, h2, h3⟩ := ObjOkF_cons_self.1 h
      split
      · exact ObjOkF_of_AllStrKV (AllStrKV_pxKVs hx p skip r h3)
      · exact ObjOkF_cons_self.2 ⟨h1, h2.imp isStr_pxVal (AllStr_pxVal hx _ v), AllStrKV_pxKVs hx p skip r h3⟩
    · obtain ⟨h1, h2, h3⟩ := (ObjOkF_cons_ne hc).1 h
      split
      · exact ih h3
      · exact (ObjOkF_cons_ne hc).2 ⟨h1, AllStr_pxVal hx _ v h2, ih h3⟩

theorem ObjOkF_extrasOf {P : String → Prop} {c : String} {kvs : KVs} (h : ObjOkF P c kvs) (skip : Bool) :
    ObjOkF P c (extrasOf skip kvs) := by
  unfold extrasOf
  split
  · simp [ObjOkF]
  · exact ObjOkF_filter h _

theorem resolveObj_found {c : String} {env : Env} {kvs : KVs} {e v : String}
    (he : Val.lookup "environment" kvs = some (.str e)) (hee : e ≠ "") (hv : env.lookup e = some v) :
    resolveObj c env (.map kvs) = .map (Val.insert c (.str v) kvs) := by
  simp only [resolveObj, he, hv, if_neg hee]

theorem resolveObj_map_cases (c : String) (env : Env) (kvs : KVs) :
    (resolveObj c env (.map kvs) = .map kvs ∧
      ∀ e v, Val.lookup "environment" kvs = some (.str e) → e ≠ "" → env.lookup e ≠ some v) ∨
    ∃ e v, Val.lookup "environment" kvs = some (.str e) ∧ e ≠ "" ∧ env.lookup e = some v ∧
      resolveObj c env (.map kvs) = .map (Val.insert c (.str v) kvs) := by
  simp only [resolveObj]
  cases he : Val.lookup "environment" kvs with
  | none => exact .inl ⟨rfl, nofun⟩
  | some x =>
    cases x with
    | str e =>
      by_cases hee : e = ""
      · exact .inl ⟨by simp [hee], fun e' v h hne => by cases h; exact absurd hee hne⟩
      · cases hv : env.lookup e with
        | none => exact .inl ⟨by simp [hee, hv], fun e' v h _ => by cases h; simp [hv]⟩
        | some v => exact .inr ⟨e, v, rfl, hee, hv, by simp [hee, hv]⟩
    | _ => exact .inl ⟨rfl, nofun⟩

theorem ValOkF_resolveObj {P : String → Prop} {c : String} (hc : P c) (env : Env) {v : Val} (h : ValOkF P c v) :
    ValOkF P c (resolveObj c env v) := by
  cases v with
  | map kvs =>
    rcases resolveObj_map_cases c env kvs with ⟨h', _⟩ | ⟨_, _, _, _, _, h'⟩ <;> rw [h']
    · exact h
    · exact ObjOkF_insert_carrier hc _ h
  | _ => simpa [resolveObj, ValOkF] using h

theorem ObjOkF_setNameKVs {P : String → Prop} {c : String} (hcn : c ≠ "name") (hn : P "name") {pname key : String}
    (hkey : P key) (hgen : P (pname ++ "_" ++ key)) {kvs : KVs} (h : ObjOkF P c kvs) :
    ObjOkF P c (setNameKVs pname key kvs) := by
  unfold setNameKVs
  split
  · refine ObjOkF_insert_other h (fun h => hcn h.symm) hn ?_
    simp only [AllStr]
    split
    · exact hkey
    · exact hgen
  · exact h

theorem ExtOk_of_AllStr {P : String → Prop} {v : Val} (h : AllStr P v) : ExtOk P v := by
  cases v <;> exact ValOkF_of_AllStr (c := xValue) h

theorem lookup_withExtras_ne {k : String} (h : k ≠ extKey) (ex keep : KVs) :
    Val.lookup k (withExtras ex keep) = Val.lookup k keep := by
  unfold withExtras
  split
  · rfl
  · exact lookup_insert_ne h _ _

theorem RawOk_withExtras {P : String → Prop} {c : String} (hx : P extKey) (hce : c ≠ extKey) (p : TPath) (skip : Bool)
    {kvs ex : KVs} (h : ObjOkF P c kvs) (hex : ObjOkF P xValue ex) : RawOk P c (withExtras ex (pxKVs p skip kvs)) := by
  have hkeep := ObjOkF_pxKVs (c := c) hx p skip h
  constructor
  · intro k v hl _ _ hkc hke
    rw [lookup_withExtras_ne hke] at hl
    exact ObjOkF_lookup_ne hkeep hl hkc
  · intro v hl
    unfold withExtras at hl
    split at hl
    · exact ExtOk_of_AllStr (ObjOkF_lookup_ne hkeep hl (fun h => hce h.symm))
    · rw [lookup_insert_self] at hl
      cases hl
      exact hex

/-- after the hook the `#extensions` mapping is clean -/
def ExtClean (P : String → Prop) (kvs : KVs) : Prop := ∀ m, Val.lookup extKey kvs = some (.map m) → AllStrKV P m

theorem xValue_ne_extKey : xValue ≠ extKey := by decide
theorem Content_ne_extKey : "Content" ≠ extKey := by decide

theorem RawOk_of_lookup_eq {P : String → Prop} {c : String} {kvs kvs' : KVs} (h : RawOk P c kvs)
    (hl : ∀ k, k ≠ "Content" → k ≠ extKey → Val.lookup k kvs' = Val.lookup k kvs)
    (he : ∀ v, Val.lookup extKey kvs' = some v → ∃ m, v = .map m ∧ AllStrKV P m) :
    RawOk P c kvs' ∧ ExtClean P kvs' := by
  refine ⟨⟨fun k v hk h1 h2 h3 h4 => h.1 k v (hl k h2 h4 ▸ hk) h1 h2 h3 h4, fun v hv => ?_⟩, fun m hm => ?_⟩
  · obtain ⟨m, rfl, hm⟩ := he v hv
    exact ObjOkF_of_AllStrKV hm
  · obtain ⟨_, hm', hc⟩ := he _ hm
    cases hm'; exact hc

theorem RawOk_hook {P : String → Prop} {c : String} {kvs : KVs} (h : RawOk P c kvs) :
    RawOk P c (hook kvs) ∧ ExtClean P (hook kvs) := by
  unfold hook
  split
  · rename_i ext hext
    have hExt : ObjOkF P xValue ext := h.2 _ hext
    split
    · have hclean : AllStrKV P (Val.erase xValue ext) := ObjOkF_erase_carrier hExt
      simp only
      split
      · exact RawOk_of_lookup_eq h (fun k h2 h4 => by rw [lookup_erase_ne h4, lookup_insert_ne h2])
          (fun v hv => by rw [lookup_erase_self] at hv; cases hv)
      · exact RawOk_of_lookup_eq h (fun k h2 h4 => by rw [lookup_insert_ne h4, lookup_insert_ne h2])
          (fun v hv => by rw [lookup_insert_self] at hv; cases hv; exact ⟨_, rfl, hclean⟩)
    · rename_i hno
      refine ⟨h, fun m hl => ?_⟩
      rw [hext] at hl
      cases hl
      exact AllStrKV_of_ObjOkF_lookup hExt hno
  · rename_i hno
    exact ⟨h, fun m hl => absurd hl (hno m)⟩

theorem ExtClean_of_RawOk_config {P : String → Prop} {kvs : KVs} (h : RawOk P "content" kvs)
    (hex : ∀ m, Val.lookup extKey kvs = some (.map m) → AllStrKV P m) : ExtClean P kvs := hex

theorem OptP_of_strField {P : String → Prop} {kvs : KVs} {k s : String} (hs : strField k kvs = some s)
    (hv : ∀ v, Val.lookup k kvs = some v → AllStr P v) : OptP P s := by
  unfold strField at hs
  split at hs
  · cases hs; exact .inl rfl
  · cases hs; exact .inl rfl
  · rename_i hl; cases hs; exact .inr (hv (.str _) hl)
  · rename_i hl; cases hs; exact .inr (hv (.int _) hl)
  · cases hs

theorem P_labelVal {P : String → Prop} (he : P "") {v : Val} {s : String} (hv : AllStr P v) (h : labelVal v = some s) : P s := by
  cases v <;> simp only [labelVal, Option.some.injEq, reduceCtorEq] at h <;> subst h
  · exact he
  all_goals simpa [AllStr] using hv

theorem StrMapOk_strMapEntries {P : String → Prop} (he : P "") : ∀ {m : KVs} {l : List (String × String)},
    AllStrKV P m → strMapEntries m = some l → StrMapOk P l
  | [], l, _, h => by simp [strMapEntries] at h; subst h; simp [StrMapOk]
  | (k, .str _) :: r, l, hm, h | (k, .int _) :: r, l, hm, h | (k, .null) :: r, l, hm, h => by
    simp only [AllStrKV] at hm
    simp only [strMapEntries, Option.map_eq_some_iff] at h
    obtain ⟨l', hl', rfl⟩ := h
    -- the text kept for a string, an integer, null is the one `labelVal` gives
    exact ⟨hm.1, P_labelVal he hm.2.1 rfl, StrMapOk_strMapEntries he hm.2.2 hl'⟩
  | (_, .bool _) :: _, _, _, h | (_, .float _) :: _, _, _, h | (_, .seq _) :: _, _, _, h | (_, .map _) :: _, _, _, h => by
    simp [strMapEntries] at h

theorem StrMapOk_strMapField {P : String → Prop} (he : P "") {kvs : KVs} {k : String} {l : List (String × String)}
    (hv : ∀ v, Val.lookup k kvs = some v → AllStr P v) (hs : strMapField k kvs = some l) : StrMapOk P l := by
  unfold strMapField at hs
  split at hs
  · cases hs; trivial
  · cases hs; trivial
  · exact StrMapOk_strMapEntries he (hv (.map _) ‹_›) hs
  · cases hs

theorem StrMapOk_labelEntries {P : String → Prop} (he : P "") : ∀ {m : KVs} {l : List (String × String)},
    AllStrKV P m → labelEntries m = some l → StrMapOk P l
  | [], l, _, h => by simp [labelEntries] at h; subst h; simp [StrMapOk]
  | (k, v) :: r, l, hm, h => by
    simp only [AllStrKV] at hm
    simp only [labelEntries] at h
    split at h
    · rename_i s l' hs hl'
      cases h
      simp only [StrMapOk]
      exact ⟨hm.1, P_labelVal he hm.2.1 hs, StrMapOk_labelEntries he hm.2.2 hl'⟩
    · cases h

theorem StrMapOk_putStr {P : String → Prop} {k v : String} (hk : P k) (hv : P v) :
    ∀ {acc : List (String × String)}, StrMapOk P acc → StrMapOk P (putStr k v acc)
  | [], _ => by simp [putStr, StrMapOk, hk, hv]
  | (k', v') :: r, h => by
    simp only [StrMapOk] at h
    simp only [putStr]
    split
    · simp only [StrMapOk]; exact ⟨hk, hv, h.2.2⟩
    · simp only [StrMapOk]; exact ⟨h.1, h.2.1, StrMapOk_putStr hk hv h.2.2⟩

theorem P_sprintScalar {P : String → Prop} (hnil : P "<nil>") {v : Val} {s : String} (hv : AllStr P v) (h : sprintScalar v = some s) : P s := by
  cases v <;> simp only [sprintScalar, Option.some.injEq, reduceCtorEq] at h <;> subst h
  · simpa [Val.fmtV] using hnil
  all_goals simpa [AllStr, Val.fmtV] using hv

theorem StrMapOk_labelList {P : String → Prop} (hnil : P "<nil>") (hcut : CutClosed P) :
    ∀ {xs : List Val} {acc l : List (String × String)}, AllStrL P xs → StrMapOk P acc → labelList xs acc = some l → StrMapOk P l
  | [], acc, l, _, ha, h => by simp [labelList] at h; subst h; exact ha
  | x :: xs, acc, l, hx, ha, h => by
    simp only [AllStrL] at hx
    simp only [labelList] at h
    split at h
    · rename_i s hs
      have hp := hcut s (P_sprintScalar hnil hx.1 hs)
      exact StrMapOk_labelList hnil hcut hx.2 (StrMapOk_putStr hp.1 hp.2 ha) h
    · cases h

theorem StrMapOk_labelsField {P : String → Prop} (he : P "") (hnil : P "<nil>") (hcut : CutClosed P) {kvs : KVs}
    (hv : ∀ v, Val.lookup "labels" kvs = some v → AllStr P v) {l : List (String × String)}
    (hs : labelsField kvs = some l) : StrMapOk P l := by
  unfold labelsField at hs
  split at hs
  · cases hs; trivial
  · cases hs; trivial
  · exact StrMapOk_labelEntries he (hv (.map _) ‹_›) hs
  · exact StrMapOk_labelList hnil hcut (hv (.seq _) ‹_›) (acc := []) trivial hs
  · cases hs

theorem AllStrKV_extField {P : String → Prop} {kvs : KVs} (h : ExtClean P kvs) {m : KVs} (hs : extField kvs = some m) : AllStrKV P m := by
  unfold extField at hs
  split at hs
  · cases hs; simp [AllStrKV]
  · cases hs; simp [AllStrKV]
  · rename_i m' hl
    cases hs
    exact h _ hl
  · cases hs

theorem decodeFields_ok {kvs : KVs} {o : FileObj} (h : decodeFields kvs = .ok o) :
    strField "name" kvs = some o.name ∧ strField "file" kvs = some o.file ∧ strField "environment" kvs = some o.environment ∧
    contentField kvs = some o.content ∧ labelsField kvs = some o.labels ∧ strField "driver" kvs = some o.driver ∧
    strMapField "driver_opts" kvs = some o.driverOpts ∧ strField "template_driver" kvs = some o.templateDriver ∧
    extField kvs = some o.extensions ∧ o.marshallContent = false := by
  unfold decodeFields at h
  split at h
  · split at h
    · cases h; exact ⟨‹_›, ‹_›, ‹_›, ‹_›, ‹_›, ‹_›, ‹_›, ‹_›, ‹_›, rfl⟩
    · cases h
  · cases h

theorem decodeFields_congr {a b : KVs} (L : ∀ k, Val.lookup k a = Val.lookup k b)
    (hk : keysInDomain a = keysInDomain b) : decodeFields a = decodeFields b := by
  unfold decodeFields failClass rejects
  simp only [strField, contentField, boolField, labelsField, strMapField, extField, strRejects, contentRejects, boolRejects,
    labelsRejects, strMapRejects, extRejects, L, hk]
  rfl

theorem CleanBut_decodeFields {P : String → Prop} (hemp : P "") (hnil : P "<nil>") (hcut : CutClosed P)
    {c : String} (hc : c = xValue ∨ c = "content") {kvs : KVs}
    (h : RawOk P c kvs) (he : ExtClean P kvs) {o : FileObj} (hd : decodeFields kvs = .ok o) : o.CleanBut P := by
  obtain ⟨h1, h2, h3, -, h6, h7, h8, h9, h10, -⟩ := decodeFields_ok hd
  -- the fields other than `content` are read under keys that are none of the exempt ones
  have hne : ∀ k ∈ ["name", "file", "environment", "labels", "driver", "driver_opts", "template_driver"],
      k ≠ xValue ∧ k ≠ "Content" ∧ k ≠ c ∧ k ≠ extKey := by rcases hc with rfl | rfl <;> decide +kernel
  have fld : ∀ k ∈ ["name", "file", "environment", "labels", "driver", "driver_opts", "template_driver"],
      ∀ v, Val.lookup k kvs = some v → AllStr P v := fun k hk v hl =>
    h.1 k v hl (hne k hk).1 (hne k hk).2.1 (hne k hk).2.2.1 (hne k hk).2.2.2
  exact ⟨OptP_of_strField h1 (fld _ (by simp)), OptP_of_strField h2 (fld _ (by simp)), OptP_of_strField h3 (fld _ (by simp)),
    StrMapOk_labelsField hemp hnil hcut (fld _ (by simp)) h6, OptP_of_strField h7 (fld _ (by simp)),
    StrMapOk_strMapField hemp (fld _ (by simp)) h8, OptP_of_strField h9 (fld _ (by simp)), AllStrKV_extField he h10⟩

theorem VocabOk.ext {P : String → Prop} (hv : VocabOk P) : P extKey := hv.carriers _ (by decide +kernel)
theorem VocabOk.carrier {P : String → Prop} (hv : VocabOk P) : P xValue := hv.carriers _ (by decide +kernel)
theorem VocabOk.content {P : String → Prop} (hv : VocabOk P) : P "content" := hv.carriers _ (by decide +kernel)
theorem VocabOk.name {P : String → Prop} (hv : VocabOk P) : P "name" := hv.carriers _ (by decide +kernel)
theorem VocabOk.empty {P : String → Prop} (hv : VocabOk P) : P "" := hv.vocab _ (by decide +kernel)
theorem VocabOk.nil {P : String → Prop} (hv : VocabOk P) : P "<nil>" := hv.vocab _ (by decide +kernel)
theorem VocabOk.secrets {P : String → Prop} (hv : VocabOk P) : P "secrets" := hv.vocab _ (by decide +kernel)
theorem VocabOk.configs {P : String → Prop} (hv : VocabOk P) : P "configs" := hv.vocab _ (by decide +kernel)

-- `AllStrKV` recurses on its argument: left reducible, every `exact` against `AllStrKV P o.fields` would have `whnf`
-- unfold the nine appends of `fields` down to their string tests
attribute [local irreducible] optStr optBool optStrMap FileObj.fields

theorem AllStrKV_optStr {P : String → Prop} {k s : String} (hk : P k) (hs : OptP P s) : AllStrKV P (optStr k s) := by
  unfold optStr
  split
  · simp [AllStrKV]
  · rename_i hne
    rcases hs with h | h
    · exact absurd h hne
    · simp [AllStrKV, AllStr, hk, h]

theorem AllStrKV_optBool {P : String → Prop} {k : String} (hk : P k) (ht : P "true") (b : Bool) : AllStrKV P (optBool k b) := by
  unfold optBool
  split
  · simp only [AllStrKV, AllStr, Val.fmtV, if_true]; exact ⟨hk, ht, trivial⟩
  · simp [AllStrKV]

theorem AllStrKV_strMap {P : String → Prop} : ∀ {m : List (String × String)}, StrMapOk P m →
    AllStrKV P (m.map fun kv => (kv.1, Val.str kv.2))
  | [], _ => by simp [AllStrKV]
  | (k, v) :: r, h => by
    simp only [StrMapOk] at h
    simp only [List.map, AllStrKV, AllStr]
    exact ⟨h.1, h.2.1, AllStrKV_strMap h.2.2⟩

theorem AllStrKV_optStrMap {P : String → Prop} {k : String} {m : List (String × String)} (hk : P k) (hm : StrMapOk P m) :
    AllStrKV P (optStrMap k m) := by
  unfold optStrMap
  split
  · simp [AllStrKV]
  · simp only [AllStrKV, AllStr]
    exact ⟨hk, AllStrKV_strMap hm, trivial⟩

theorem optStr_keys {k s : String} : ∀ kv ∈ optStr k s, kv.1 = k := by
  intro kv h
  unfold optStr at h
  split at h
  · cases h
  · simp only [List.mem_singleton] at h; subst h; rfl

theorem ObjOkF_append_left {P : String → Prop} {c : String} : ∀ {a b : KVs}, AllStrKV P a → (∀ kv ∈ a, kv.1 ≠ c) →
    ObjOkF P c b → ObjOkF P c (a ++ b)
  | [], _, _, _, hb => hb
  | (k, v) :: r, b, ha, hk, hb =>
    (ObjOkF_cons_ne (hk (k, v) List.mem_cons_self)).2
      ⟨ha.1, ha.2.1, ObjOkF_append_left ha.2.2 (fun kv h => hk kv (List.mem_cons_of_mem _ h)) hb⟩

theorem ObjOkF_fields {P : String → Prop} (hv : ∀ k ∈ vocabulary, P k) {o : FileObj} (h : o.CleanBut P) (tail : KVs)
    (ht : AllStrKV P tail) : ObjOkF P "content" (o.fields ++ tail) := by
  simp only [vocabulary, List.forall_mem_cons] at hv
  obtain ⟨hname, hfile, henv, hcontent, hext, hlabels, hdriver, hopts, htd, -, -, htrue, -⟩ := hv
  have hrest := AllStrKV_append (AllStrKV_optBool hext htrue o.external)
    (AllStrKV_append (AllStrKV_optStrMap hlabels h.labels) (AllStrKV_append (AllStrKV_optStr hdriver h.driver)
      (AllStrKV_append (AllStrKV_optStrMap hopts h.driverOpts) (AllStrKV_append (AllStrKV_optStr htd h.templateDriver) ht))))
  unfold FileObj.fields
  simp only [List.append_assoc]
  refine ObjOkF_append_left (AllStrKV_optStr hname h.name) (fun kv hk => by rw [optStr_keys kv hk]; simp) ?_
  refine ObjOkF_append_left (AllStrKV_optStr hfile h.file) (fun kv hk => by rw [optStr_keys kv hk]; simp) ?_
  refine ObjOkF_append_left (AllStrKV_optStr henv h.environment) (fun kv hk => by rw [optStr_keys kv hk]; simp) ?_
  rw [optStr.eq_1 "content"]
  split
  · exact ObjOkF_of_AllStrKV hrest
  · exact ⟨hcontent, by rw [if_pos rfl]; exact ⟨.inl trivial, hrest⟩⟩

theorem AllStrKV_fields {P : String → Prop} (hv : ∀ k ∈ vocabulary, P k) {o : FileObj} (h : o.CleanBut P) (hc : OptP P o.content) :
    AllStrKV P o.fields := by
  simp only [vocabulary, List.forall_mem_cons] at hv
  obtain ⟨hname, hfile, henv, hcontent, hext, hlabels, hdriver, hopts, htd, -, -, htrue, -⟩ := hv
  unfold FileObj.fields
  exact AllStrKV_append (AllStrKV_append (AllStrKV_append (AllStrKV_append (AllStrKV_append (AllStrKV_append
    (AllStrKV_append (AllStrKV_append (AllStrKV_optStr hname h.name) (AllStrKV_optStr hfile h.file))
    (AllStrKV_optStr henv h.environment)) (AllStrKV_optStr hcontent hc)) (AllStrKV_optBool hext htrue _))
    (AllStrKV_optStrMap hlabels h.labels)) (AllStrKV_optStr hdriver h.driver)) (AllStrKV_optStrMap hopts h.driverOpts))
    (AllStrKV_optStr htd h.templateDriver)

theorem CleanBut_setContent {P : String → Prop} {o : FileObj} (h : o.CleanBut P) (s : String) : FileObj.CleanBut P { o with content := s } :=
  ⟨h.name, h.file, h.environment, h.labels, h.driver, h.driverOpts, h.templateDriver, h.extensions⟩

theorem CleanBut_setFlag {P : String → Prop} {o : FileObj} (h : o.CleanBut P) (b : Bool) : FileObj.CleanBut P { o with marshallContent := b } :=
  ⟨h.name, h.file, h.environment, h.labels, h.driver, h.driverOpts, h.templateDriver, h.extensions⟩

theorem AllStr_render_obj {P : String → Prop} (hv : ∀ k ∈ vocabulary, P k) {o : FileObj} (h : o.CleanBut P) (hc : OptP P o.content) :
    AllStr P o.toYaml ∧ AllStr P o.toJson :=
  ⟨AllStrKV_append (AllStrKV_fields hv h hc) h.extensions, AllStrKV_fields hv h hc⟩

theorem AllStr_renderSecret {P : String → Prop} (hv : ∀ k ∈ vocabulary, P k) {o : FileObj} (h : o.CleanBut P)
    (hf : o.marshallContent = false) (r : Renderer) : AllStr P (renderSecret r o) := by
  have hb : secretBlank o = { o with content := "" } := by simp [secretBlank, hf]
  have := AllStr_render_obj hv (CleanBut_setContent h "") (.inl rfl)
  cases r
  · simp only [renderSecret, secretYaml, hb]; exact this.1
  · simp only [renderSecret, secretJson, hb]; exact this.2

theorem AllStr_renderConfig {P : String → Prop} (hv : ∀ k ∈ vocabulary, P k) {o : FileObj} (h : o.CleanBut P)
    (hl : o.environment ≠ "" ∨ OptP P o.content) (r : Renderer) : AllStr P (renderConfig r o) := by
  have : AllStr P (configBlank o).toYaml ∧ AllStr P (configBlank o).toJson := by
    unfold configBlank
    split
    · exact AllStr_render_obj hv (CleanBut_setContent h "") (.inl rfl)
    · exact AllStr_render_obj hv h (hl.resolve_left ‹_›)
  cases r
  · exact this.1
  · exact this.2

theorem secretBlank_flagged (o : FileObj) :
    secretBlank { o with marshallContent := true } = { o with marshallContent := true } := by simp [secretBlank]

theorem ValOkF_renderSecret_flagged {P : String → Prop} (hv : ∀ k ∈ vocabulary, P k) {o : FileObj} (h : o.CleanBut P)
    (r : Renderer) : ValOkF P "content" (renderSecret r { o with marshallContent := true }) := by
  have h' := CleanBut_setFlag h true
  cases r
  · simp only [renderSecret, secretYaml, secretBlank_flagged]; exact ObjOkF_fields hv h' _ h'.extensions
  · have := ObjOkF_fields hv h' [] trivial
    rw [List.append_nil] at this
    simp only [renderSecret, secretJson, secretBlank_flagged]; exact this

end CV.Secrets
