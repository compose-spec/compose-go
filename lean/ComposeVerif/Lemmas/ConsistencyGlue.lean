import ComposeVerif.Model.ConsistencyGlue
/-! What the code around the two checks does, as equations of Model/ConsistencyGlue.lean: the options an included project is
loaded with, each guarded stage (`structuralStage`, `consistencyStage`, `includedChecks`, `incFail`) with its check on, off,
passing and failing, and when `mainChecks` / `loadWithIncludes` let a model through.  They say nothing about what the checks
decide, so they stand below Props/C10Glue.lean, which composes them with `validate_iff` and `checkConsistency_iff`. -/
namespace CV.Consistency.Glue
open CV CV.Consistency CV.Validate

theorem includeOpts_eq (o : Opts) :
    includeOpts o = { o with resolvePaths := true, skipNormalization := true, skipConsistencyCheck := true } := by
  simp [includeOpts, includeWrites, applyWrite, clone, List.foldl]

theorem includeOpts_skipValidation (o : Opts) : (includeOpts o).skipValidation = o.skipValidation := by
  rw [includeOpts_eq]

theorem structuralStage_on {o : Opts} (h : o.skipValidation = false) (t : Val) : structuralStage o t = validate t := by
  simp [structuralStage, h]

theorem structuralStage_off {o : Opts} (h : o.skipValidation = true) (t : Val) : structuralStage o t = .ok := by
  simp [structuralStage, h]

theorem consistencyStage_off {o : Opts} (h : o.skipConsistencyCheck = true) (p : Proj) : consistencyStage o p = .ok p := by
  simp [consistencyStage, h]

theorem consistencyStage_accept {o : Opts} (h : o.skipConsistencyCheck = false) {p : Proj}
    (hc : checkConsistency p = none) : consistencyStage o p = .ok (postState p) := by
  simp [consistencyStage, h, hc]

theorem consistencyStage_reject {o : Opts} (h : o.skipConsistencyCheck = false) {p : Proj} {e : Err}
    (hc : checkConsistency p = some e) : consistencyStage o p = .consistency e := by
  simp [consistencyStage, h, hc]

theorem consistencyStage_consistency_iff {o : Opts} {p : Proj} {e : Err} :
    consistencyStage o p = .consistency e ↔ o.skipConsistencyCheck = false ∧ checkConsistency p = some e := by
  unfold consistencyStage
  cases o.skipConsistencyCheck
  · cases checkConsistency p <;> simp
  · simp

theorem consistencyStage_ok_iff {o : Opts} (h : o.skipConsistencyCheck = false) {p p' : Proj} :
    consistencyStage o p = .ok p' ↔ checkConsistency p = none ∧ p' = postState p := by
  unfold consistencyStage
  cases checkConsistency p <;> simp [h, eq_comm]

theorem mainChecks_of_structural_ok {o : Opts} {t : Val} (h : structuralStage o t = .ok) (p : Proj) :
    mainChecks o t p = consistencyStage o p := by
  simp [mainChecks, h]

theorem mainChecks_eq_ok_iff {o : Opts} {t : Val} {p p' : Proj} :
    mainChecks o t p = .ok p' ↔ structuralStage o t = .ok ∧ consistencyStage o p = .ok p' := by
  unfold mainChecks
  cases structuralStage o t <;> simp

theorem includedChecks_on {o : Opts} (h : o.skipValidation = false) (t : Val) : includedChecks o t = validate t :=
  structuralStage_on ((includeOpts_skipValidation o).trans h) t

theorem includedChecks_off {o : Opts} (h : o.skipValidation = true) (t : Val) : includedChecks o t = .ok :=
  structuralStage_off ((includeOpts_skipValidation o).trans h) t

theorem incFail_eq (o : Opts) (i : Val) :
    incFail o i = if o.skipValidation then none else
      match validate i with
      | .ok => none
      | .err c => some (Out.structural c)
      | .panic s => some (Out.panic s) := by
  unfold incFail includedChecks structuralStage
  rw [includeOpts_skipValidation]
  cases o.skipValidation <;> rfl

theorem incFail_of_validate {o : Opts} (h1 : o.skipValidation = false) {i : Val} {c : VErr} (hv : validate i = .err c) :
    incFail o i = some (.structural c) := by
  rw [incFail_eq, h1, hv]; rfl

theorem incFail_off {o : Opts} (h1 : o.skipValidation = true) (i : Val) : incFail o i = none := by
  rw [incFail_eq, h1]; rfl

theorem loadWithIncludes_cons (o : Opts) (i : Val) (r : List Val) (t : Val) (p : Proj) :
    loadWithIncludes o (i :: r) t p = match incFail o i with
      | some out => out
      | none => loadWithIncludes o r t p := by
  unfold loadWithIncludes
  rw [List.findSome?_cons]
  cases incFail o i <;> rfl

theorem combineIncl_cons (o : Opts) (x : String) (xs : List String) (v c : String) :
    combineIncl o (x :: xs) v c =
      if (!(includeOpts o).skipValidation && x != "ok") = true then x else combineIncl o xs v c := by
  unfold combineIncl
  rw [List.find?_cons]
  cases h : (!(includeOpts o).skipValidation && x != "ok") <;> simp

end CV.Consistency.Glue
