import ComposeVerif.Lemmas.Name
import ComposeVerif.Lemmas.DotenvFiles
import ComposeVerif.Lemmas.TemplateRefine
/-!
* `Dotenv.get` is the first-match lookup of `Env.get`; the parser's result has distinct keys, so the Go loop
  `for k, v := range env { envMap[k] = v }` (`mergeInto`) is "the new file's bindings first";
* the specification's simple-line evaluator (`Spec.fileLayer`) is the restriction of the parser model to files
  made of `KEY=VALUE` lines (`Dotenv.parse_render`), and the value of such a line is what the interpolation
  grammar says (`Template.run_render`).
-/
namespace CV.Name
open CV CV.Name.Spec

theorem dget_eq (m : Env) (k : Str) : Dotenv.get m k = m.get k :=
  Dotenv.get_eq_lookup m k

/-- `for k, v := range env { envMap[k] = v }` on a parsed file (distinct keys): the file's bindings first -/
theorem get_mergeInto (m env : Env) (hn : (env.map Prod.fst).Nodup) (k : Str) :
    Env.get (Dotenv.mergeInto m env) k = (env.get k).or (m.get k) := by
  simp only [← dget_eq]
  exact Dotenv.get_mergeInto_lemma env m k hn

theorem parseFile_nodup (look : Template.Env) (c : Str) (out : Env) (h : parseFile look c = .ok out) :
    (out.map Prod.fst).Nodup := by
  unfold parseFile at h
  split at h
  · cases h
    exact Dotenv.parse_keys_nodup_lemma _ _ _ ‹_›
  · cases h
  · cases h

theorem getEnvFromFile_append (w : World) (cur : Env) (a b : List FileRef) (acc : Env) :
    getEnvFromFile w cur (a ++ b) acc =
      match getEnvFromFile w cur a acc with
      | .ok m => getEnvFromFile w cur b m
      | .error e => .error e := by
  induction a generalizing acc with
  | nil => rfl
  | cons f fs ih =>
    simp only [List.cons_append, getEnvFromFile]
    cases lookupFile w f with
    | none => rfl
    | some ef =>
      cases ef with
      | dir => rfl
      | file c =>
        simp only
        cases parseFile (Dotenv.envOf cur.get acc) c with
        | ok out => exact ih _
        | error e => rfl

theorem simple_wf (ls : List (Str × Str)) (h : ls.all simpleOk = true) : Dotenv.WF (ls.map simpleLine) = true := by
  induction ls with
  | nil => rfl
  | cons p ls ih =>
    simp only [List.all_cons, Bool.and_eq_true] at h
    simp only [Dotenv.WF, List.map_cons, List.all_cons, Bool.and_eq_true]
    refine ⟨?_, ih h.2⟩
    have := h.1
    simp only [simpleOk, Bool.and_eq_true] at this
    simp [simpleLine, Dotenv.Line.wf, Dotenv.nbAll, Dotenv.expOk, Dotenv.Value.wf, Dotenv.cmtOk, this.1, this.2]

theorem envOf_eq_layers (above earlier : Env) (m : Env) (out : Env) (hR : ∀ k, Dotenv.get m k = out.get k) :
    Dotenv.envOf (Dotenv.envOf above.get earlier) m = lookupLayers [above, earlier, out] := by
  funext n
  have hR' : m.get n = out.get n := by rw [← dget_eq]; exact hR n
  cases ha : above.get n <;> cases he : earlier.get n <;> cases ho : out.get n <;>
    simp [Dotenv.envOf, lookupLayers, dget_eq, ha, he, hR', ho]

theorem evalFrom_simple (above earlier : Env) (ls : List (Str × Str)) (m out : Env)
    (hR : ∀ k, Dotenv.get m k = out.get k) :
    SameResult (Dotenv.evalFrom (Dotenv.envOf above.get earlier) (ls.map simpleLine) m)
      (fileLayer above earlier ls out) := by
  induction ls generalizing m out with
  | nil => simpa [Dotenv.evalFrom, fileLayer, SameResult] using hR
  | cons p ls ih =>
    obtain ⟨k, t⟩ := p
    simp only [List.map_cons, simpleLine, Dotenv.evalFrom, Dotenv.Value.eval, fileLayer]
    rw [envOf_eq_layers above earlier m out hR]
    cases Template.subst (lookupLayers [above, earlier, out]) t with
    | ok v =>
      apply ih
      intro k'
      by_cases h : k' = k
      · subst h; rw [Dotenv.get_put_same_lemma]; simp [Env.get, List.lookup_cons]
      · rw [Dotenv.get_put_other_lemma m k k' v h, hR k']
        have hb : (k' == k) = false := by simpa using h
        simp [Env.get, List.lookup_cons, hb]
    | err e => simp [SameResult]
    | panic s => simp [SameResult]

theorem subst_cpn (env : Template.Env) : Template.subst env tmpl = .ok ((env cpn).getD []) := by
  have h : tmpl = Template.renderL [.var cpn true] := by decide +kernel
  rw [h, Template.subst_eq_run, Template.run_render _ _ (by decide +kernel)]
  simp only [Template.evalOut, Template.evalL, Template.Seg.eval, List.append_nil]

theorem stripBOM_render (L : List Dotenv.Line) (hwf : Dotenv.WF L = true) :
    Dotenv.stripBOM (Dotenv.render L) = Dotenv.render L :=
  Dotenv.stripBOM_render false L hwf

theorem parseFile_render (look : Template.Env) (L : List Dotenv.Line) (hwf : Dotenv.WF L = true) :
    parseFile look (Dotenv.render L) = toErr (Dotenv.evalLines look L) := by
  unfold parseFile
  rw [stripBOM_render L hwf, Dotenv.parse_render_lemma _ _ hwf]
  cases Dotenv.evalLines look L <;> rfl

theorem envOf_congr (cur a b : Env) (h : ∀ k, a.get k = b.get k) :
    Dotenv.envOf cur.get a = Dotenv.envOf cur.get b := by
  funext n
  simp only [Dotenv.envOf, dget_eq, h n]

theorem fileLayer_congr (above a b : Env) (h : ∀ k, a.get k = b.get k) (ls : List (Str × Str)) (out : Env) :
    fileLayer above a ls out = fileLayer above b ls out := by
  have hf : ∀ out, lookupLayers [above, a, out] = lookupLayers [above, b, out] := by
    intro out; funext n; simp only [lookupLayers, h n]
  induction ls generalizing out with
  | nil => rfl
  | cons p ls ih =>
    obtain ⟨k, t⟩ := p
    simp only [fileLayer, hf]
    cases Template.subst (lookupLayers [above, b, out]) t with
    | ok v => exact ih _
    | err e => rfl
    | panic s => rfl

end CV.Name
