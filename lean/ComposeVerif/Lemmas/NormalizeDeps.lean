import ComposeVerif.Model.NormalizeDeps
/-! `normDeps` is one fold of `addOpt` over the references `Normalize` goes through; what such a fold keeps, adds and does not add. -/
namespace CV.Consistency

theorem addDep_mem_old {deps : List (String × Bool)} {x : String} {d : String × Bool} (h : d ∈ deps) : d ∈ addDep deps x := by
  unfold addDep; split
  · exact h
  · exact List.mem_append_left _ h

theorem addDep_has (deps : List (String × Bool)) (x : String) : ∃ r, (x, r) ∈ addDep deps x := by
  unfold addDep
  split
  · rename_i h
    obtain ⟨d, hd, he⟩ := List.any_eq_true.mp h
    have : d.1 = x := by simpa using he
    exact ⟨d.2, by rw [← this]; exact hd⟩
  · exact ⟨true, List.mem_append_right _ (List.mem_singleton.mpr rfl)⟩

theorem addDep_mem {deps : List (String × Bool)} {x : String} {d : String × Bool} (h : d ∈ addDep deps x) :
    d ∈ deps ∨ (d = (x, true) ∧ ∀ r, (x, r) ∉ deps) := by
  unfold addDep at h
  split at h
  · exact .inl h
  · rename_i hn
    rcases List.mem_append.mp h with h | h
    · exact .inl h
    · right
      refine ⟨List.mem_singleton.mp h, fun r hr => hn (List.any_eq_true.mpr ⟨(x, r), hr, by simp⟩)⟩

theorem addOpt_mem_old {deps : List (String × Bool)} {o : Option String} {d : String × Bool} (h : d ∈ deps) : d ∈ addOpt deps o := by
  cases o <;> simp only [addOpt]
  · exact h
  · exact addDep_mem_old h

theorem foldl_addOpt : ∀ (l : List (Option String)) (deps : List (String × Bool)),
      (∀ d ∈ deps, d ∈ l.foldl addOpt deps) ∧
      (∀ x, some x ∈ l → ∃ r, (x, r) ∈ l.foldl addOpt deps) ∧
      (∀ d ∈ l.foldl addOpt deps, d ∈ deps ∨ (d.2 = true ∧ some d.1 ∈ l ∧ ∀ r, (d.1, r) ∉ deps))
  | [], deps => ⟨fun _ h => h, fun _ h => (nomatch h), fun _ h => .inl h⟩
  | a :: l, deps => by
    obtain ⟨i1, i2, i3⟩ := foldl_addOpt l (addOpt deps a)
    simp only [List.foldl_cons]
    refine ⟨fun d hd => i1 d (addOpt_mem_old hd), fun x hx => ?_, fun d hd => ?_⟩
    · rcases List.mem_cons.mp hx with rfl | hx'
      · obtain ⟨r, hr⟩ := addDep_has deps x
        exact ⟨r, i1 _ hr⟩
      · exact i2 x hx'
    · rcases i3 d hd with h | ⟨h2, hv, hn⟩
      · cases a with
        | none => exact .inl h
        | some x =>
          rcases addDep_mem h with h | ⟨rfl, hn⟩
          · exact .inl h
          · exact .inr ⟨rfl, List.mem_cons_self, hn⟩
      · exact .inr ⟨h2, List.mem_cons_of_mem _ hv, fun r hr => hn r (addOpt_mem_old hr)⟩

/-- the references `Normalize` goes through, in its order -/
def refTargets (r : RawRefs) : List (Option String) :=
  r.links.map (fun l => some (linkTarget l)) ++ r.namespaces.map serviceRef ++ r.volumesFrom.map volumesFromTarget

theorem normDeps_eq (r : RawRefs) : normDeps r = (refTargets r).foldl addOpt r.dependsOn := by
  simp only [normDeps, refTargets, List.foldl_append, List.foldl_map]
  rfl

theorem mem_implicitRefs (r : RawRefs) (x : String) : x ∈ implicitRefs r ↔ some x ∈ refTargets r := by
  simp [implicitRefs, refTargets, List.mem_filterMap, eq_comm]

end CV.Consistency
