import ComposeVerif.Lemmas.PathsClean
import ComposeVerif.Lemmas.PathsWin
/-! The resolvers on strings (C12).

First the pieces: `expandUser`, the first-character tests for Windows-absolute and remote values, `://` as an empty segment
in the middle (`scheme_segment`; a cleaned path has none, `noScheme_clean`), the guarded join `joinWd` (`joinWd_plain`: a
relative guarded join is read by every later stage as a plain local path; `joinWd_joinWd`).  Then the
content of the file: `absPath`, `absContextPath`, `absExtendsPath`, `maybeUnixPath` are one function `resolveWith` of an
exemption test and a flag; its laws — kept values stay, fixpoint, two-stage = one-stage, exempt-or-kept — are proved once,
and what is said of each resolver below them is a corollary through its bridging equation. -/
namespace CV.Paths

def tilde (p : Str) : Bool := p.head? = some '~'

theorem expandUser_of_not_tilde (home : Option Str) (p : Str) (h : tilde p = false) : expandUser home p = p := by
  unfold expandUser
  split
  · simp [tilde] at h
  · rfl

theorem tilde_of_abs (p : Str) (h : isAbs p = true) : tilde p = false := by
  cases p with
  | nil => simp [tilde]
  | cons c cs =>
    simp only [isAbs, List.head?_cons, Option.some.injEq, decide_eq_true_eq] at h
    simp [tilde, h]

theorem expandUser_of_abs (home : Option Str) (p : Str) (h : isAbs p = true) : expandUser home p = p :=
  expandUser_of_not_tilde home p (tilde_of_abs p h)

theorem expandUser_tilde (h rest : Str) : expandUser (some h) ('~' :: rest) = join h rest := rfl

theorem expandUser_nohome (p : Str) : expandUser none p = p := by
  unfold expandUser
  split <;> rfl

theorem expandUser_eq_or_abs (home : Option Str) (hhome : ∀ h, home = some h → isAbs h = true) (s : Str) :
    expandUser home s = s ∨ isAbs (expandUser home s) = true := by
  match s, home with
  | '~' :: rest, some h => exact .inr (isAbs_join h rest (hhome h rfl))
  | _, none => exact .inl (expandUser_nohome _)
  | [], some h => exact .inl rfl
  | c :: rest, some h =>
    by_cases hc : c = '~'
    · subst hc; exact .inr (isAbs_join h rest (hhome h rfl))
    · exact .inl (expandUser_of_not_tilde _ _ (by simp [tilde, hc]))

theorem isWindowsAbs_head (c : Char) (cs : Str) (hl : isLetter c = false) (hs : isSlash c = false) :
    isWindowsAbs? (c :: cs) = some false := by
  have hv : volumeNameLen? (c :: cs) = some 0 := by
    cases cs with
    | nil => rfl
    | cons d ds => simp [volumeNameLen?_cons2, hl, hs]
  simp [isWindowsAbs?, hv]

theorem ambiguous_eq_reread (j : Str) : ambiguous j = Spec.reread j := by
  simp only [ambiguous, Spec.reread, isWindowsAbsT_eq_winAbs]

theorem joinWd_cases (wd v : Str) :
    (joinWd wd v = join wd v ∧ (isAbs (join wd v) = true ∨ ambiguous (join wd v) = false)) ∨
    (joinWd wd v = '.' :: '/' :: join wd v ∧ isAbs (join wd v) = false ∧ ambiguous (join wd v) = true) := by
  simp only [joinWd]
  cases ha : isAbs (join wd v) <;> cases hb : ambiguous (join wd v) <;> simp

theorem joinWd_congr {a b c d : Str} (h : join a b = join c d) : joinWd a b = joinWd c d := by
  simp only [joinWd, h]

theorem remotePrefixes_heads :
    ∀ pre ∈ remotePrefixes, pre.head? = some 'h' ∨ pre.head? = some 'g' ∨ pre.head? = some 's' := by
  decide +kernel

/-- every remote prefix starts with `h`, `g` or `s` -/
theorem isRemoteContext_head (p : Str) (h : p.head? ≠ some 'h' ∧ p.head? ≠ some 'g' ∧ p.head? ≠ some 's') :
    isRemoteContext p = false := by
  cases hr : isRemoteContext p with
  | false => rfl
  | true =>
    obtain ⟨pre, hm, hp⟩ := List.any_eq_true.mp hr
    have hh := remotePrefixes_heads pre hm
    cases pre with
    | nil => simp at hh
    | cons d ds =>
      cases p with
      | nil => simp [List.isPrefixOf] at hp
      | cons c cs =>
        simp only [List.isPrefixOf, Bool.and_eq_true, beq_iff_eq] at hp
        rw [hp.1] at hh
        exact absurd hh (by simp only [not_or]; exact h)

theorem joinWd_of_abs (wd v : Str) (h : isAbs wd = true) : joinWd wd v = join wd v := by
  simp [joinWd, isAbs_join wd v h]

theorem isAbs_joinWd (wd v : Str) : isAbs (joinWd wd v) = isAbs (join wd v) := by
  rcases joinWd_cases wd v with ⟨h, _⟩ | ⟨h, h2, _⟩
  · rw [h]
  · rw [h, h2]; simp [isAbs]

theorem joinWd_ne_nil (wd v : Str) (hwd : wd ≠ []) : joinWd wd v ≠ [] := by
  rcases joinWd_cases wd v with ⟨h, _⟩ | ⟨h, _, _⟩
  · rw [h]; exact join_ne_nil wd v hwd
  · rw [h]; simp

/-- `://` somewhere in `x`: the segments of `x` have an empty one that is neither the first nor the last -/
theorem scheme_segment (x : Str) (h : containsStr schemeSep x = true) :
    ∃ A B, A ≠ [] ∧ B ≠ [] ∧ splitSlash x = A ++ [] :: B := by
  obtain ⟨i, hi⟩ := Option.isSome_iff_exists.mp h
  have he := (Scan.indexOf_some_spec schemeSep x i hi).2
  refine ⟨splitSlash (x.take i ++ [':']), splitSlash (x.drop (i + schemeSep.length)), splitSlash_ne_nil _,
    splitSlash_ne_nil _, ?_⟩
  have : x = (x.take i ++ [':']) ++ '/' :: ('/' :: x.drop (i + schemeSep.length)) := by
    simpa [schemeSep] using he
  rw [this, splitSlash_append, splitSlash_cons_slash, ← this]

/-- a string whose segments after the first are non-empty (or one empty one: a trailing slash) has no `://` -/
theorem noScheme_of_segs (x : Str) (hT : (splitSlash x).tail = [[]] ∨ ∀ c ∈ (splitSlash x).tail, c ≠ []) :
    containsStr schemeSep x = false := by
  cases hc : containsStr schemeSep x with
  | false => rfl
  | true =>
    obtain ⟨A, B, hA, hB, e⟩ := scheme_segment x hc
    obtain ⟨a', A', rfl⟩ := List.exists_cons_of_ne_nil hA
    rw [e, List.cons_append, List.tail_cons] at hT
    rcases hT with hT | hT
    · have := congrArg List.length hT
      simp only [List.length_append, List.length_cons, List.length_nil] at this
      have := List.length_pos_iff.mpr hB
      omega
    · exact absurd rfl (hT [] (by simp))

theorem noScheme_clean (p : Str) : containsStr schemeSep (clean p) = false :=
  noScheme_of_segs _ (segs_clean p).1

theorem noScheme_dot_clean (p : Str) (hp : isAbs p = false) : containsStr schemeSep ('.' :: '/' :: clean p) = false := by
  refine noScheme_of_segs _ (.inr ?_)
  rw [show '.' :: '/' :: clean p = ['.'] ++ '/' :: clean p from rfl, splitSlash_append]
  exact (segs_clean p).2 hp

theorem joinWd_plain (wd v : Str) (hwd : wd ≠ []) (hrel : isAbs (join wd v) = false) :
    tilde (joinWd wd v) = false ∧ isRemoteContext (joinWd wd v) = false ∧
    isWindowsAbs? (joinWd wd v) = some false ∧ containsStr schemeSep (joinWd wd v) = false := by
  have hp : isAbs (wd ++ '/' :: v) = false := by rw [← isAbs_clean, ← join_of_ne wd v hwd]; exact hrel
  rcases joinWd_cases wd v with ⟨h, h2⟩ | ⟨h, _, _⟩
  · rw [h]
    have ha : ambiguous (join wd v) = false := by
      rcases h2 with h2 | h2
      · rw [hrel] at h2; cases h2
      · exact h2
    simp only [ambiguous, Bool.or_eq_false_iff] at ha
    refine ⟨by simpa [tilde] using ha.1.1, ha.1.2, ?_, by rw [join_of_ne wd v hwd]; exact noScheme_clean _⟩
    rw [isWindowsAbs_eq_T, ha.2]
  · rw [h]
    exact ⟨by simp [tilde], isRemoteContext_head _ (by simp), isWindowsAbs_head '.' _ (by decide) (by decide),
      by rw [join_of_ne wd v hwd]; exact noScheme_dot_clean _ hp⟩

theorem join_joinWd (W R v : Str) (hW : W ≠ []) : join W (joinWd R v) = join W (join R v) := by
  rcases joinWd_cases R v with ⟨h, _⟩ | ⟨h, _, _⟩
  · rw [h]
  · rw [h, join_of_ne W _ hW, join_of_ne W _ hW]; exact clean_dot_slash W _ hW

theorem joinWd_joinWd (W R v : Str) (hW : W ≠ []) (hR : R ≠ []) (hRr : isAbs R = false) :
    joinWd W (joinWd R v) = joinWd (join W R) v :=
  joinWd_congr (by rw [join_joinWd W R v hW, join_assoc W R v hW hR hRr])

def urlLike (s : Str) : Bool := containsStr schemeSep s || isRemoteContext s

/-! ## the four resolvers are one function

`absPath`, `absContextPath`, `absExtendsPath`, `maybeUnixPath` do the same thing to a string: a test on the written value
(exempt: left as written), `~` expansion, a test on the expanded value (kept as it is), otherwise the guarded join onto
the working directory.  `resolveWith` is that function. -/

/-- values returned as they are after `~` expansion: absolute paths and, for mount sources and secret / config files
(`mount`), Windows-absolute ones, otherwise the empty string -/
def keep (mount : Bool) (v : Str) : Bool := isAbs v || (if mount then isWindowsAbsT v else v.isEmpty)

def resolveWith (pre : Str → Bool) (mount : Bool) (cfg : Cfg) (s : Str) : Str :=
  if pre s then s
  else if keep mount (expandUser cfg.home s) then expandUser cfg.home s
  else joinWd cfg.wd (expandUser cfg.home s)

theorem keep_abs (m : Bool) (v : Str) (h : isAbs v = true) : keep m v = true := by simp [keep, h]

theorem keep_rel (m : Bool) (v : Str) (ha : isAbs v = false) (hne : m = false → v ≠ [])
    (hw : m = true → isWindowsAbs? v = some false) : keep m v = false := by
  cases m with
  | false => cases v with
    | nil => exact absurd rfl (hne rfl)
    | cons c cs => simp [keep, ha]
  | true =>
    have h := hw rfl
    rw [isWindowsAbs_eq_T] at h
    simp [keep, ha, Option.some.inj h]

theorem keep_cases (m : Bool) (v : Str) (h : keep m v = true) :
    isAbs v = true ∨ (m = false ∧ v = []) ∨ (m = true ∧ isWindowsAbs? v = some true) := by
  cases ha : isAbs v with
  | true => exact .inl rfl
  | false =>
    cases m with
    | false => cases v with
      | nil => exact .inr (.inl ⟨rfl, rfl⟩)
      | cons c cs => simp [keep, ha] at h
    | true =>
      simp only [keep, ha, Bool.false_or, if_true] at h
      exact .inr (.inr ⟨rfl, by rw [isWindowsAbs_eq_T, h]⟩)

theorem keep_noTilde (m : Bool) (v : Str) (h : keep m v = true) : tilde v = false := by
  cases ht : tilde v with
  | false => rfl
  | true =>
    -- `~…` is neither absolute nor empty nor Windows-absolute
    cases v with
    | nil => cases ht
    | cons c cs =>
      simp only [tilde, List.head?_cons, Option.some.injEq, decide_eq_true_eq] at ht
      subst ht
      rw [keep_rel m ('~' :: cs) rfl (fun _ => nofun) fun _ => isWindowsAbs_head '~' cs (by decide) (by decide)] at h
      cases h

theorem resolveWith_cases (pre : Str → Bool) (m : Bool) (cfg : Cfg) (s : Str) :
    (pre s = true ∧ resolveWith pre m cfg s = s) ∨
    (pre s = false ∧ keep m (expandUser cfg.home s) = true ∧ resolveWith pre m cfg s = expandUser cfg.home s) ∨
    (pre s = false ∧ keep m (expandUser cfg.home s) = false ∧
      resolveWith pre m cfg s = joinWd cfg.wd (expandUser cfg.home s)) := by
  unfold resolveWith
  cases pre s <;> cases keep m (expandUser cfg.home s) <;> simp

/-- a kept value is returned as it is under every configuration, whether or not the exemption test fires on it: this is
why no stage needs to know that what an earlier stage kept is not exempt -/
theorem resolveWith_kept (pre : Str → Bool) {m : Bool} (cfg : Cfg) (v : Str) (h : keep m v = true) :
    resolveWith pre m cfg v = v := by
  simp only [resolveWith, expandUser_of_not_tilde _ _ (keep_noTilde m v h), h, if_true, ite_self]

theorem resolveWith_relative {pre : Str → Bool} {m : Bool} (cfg : Cfg) (s : Str) (hp : pre s = false)
    (ht : tilde s = false) (hk : keep m s = false) : resolveWith pre m cfg s = joinWd cfg.wd s := by
  simp [resolveWith, hp, expandUser_of_not_tilde _ _ ht, hk]

theorem resolveWith_tilde {pre : Str → Bool} (m : Bool) (cfg : Cfg) (h rest : Str) (hp : pre ('~' :: rest) = false)
    (hh : cfg.home = some h) (ha : isAbs h = true) : resolveWith pre m cfg ('~' :: rest) = join h rest := by
  simp only [resolveWith, hp, hh, expandUser_tilde, keep_abs _ _ (isAbs_join h rest ha), Bool.false_eq_true, if_false,
    if_true]

theorem resolveWith_result (pre : Str → Bool) (m : Bool) (cfg : Cfg) (s : Str) (hwd : isAbs cfg.wd = true) :
    (pre s = true ∧ resolveWith pre m cfg s = s) ∨ keep m (resolveWith pre m cfg s) = true := by
  rcases resolveWith_cases pre m cfg s with h | ⟨_, hk, e⟩ | ⟨_, _, e⟩
  · exact .inl h
  · rw [e]; exact .inr hk
  · rw [e, joinWd_of_abs _ _ hwd]; exact .inr (keep_abs m _ (isAbs_join _ _ hwd))

theorem resolveWith_fix (pre : Str → Bool) (m : Bool) (cfg cfg' : Cfg) (s : Str) (hwd : isAbs cfg.wd = true) :
    resolveWith pre m cfg' (resolveWith pre m cfg s) = resolveWith pre m cfg s := by
  rcases resolveWith_result pre m cfg s hwd with ⟨hp, e⟩ | hk
  · rw [e]; exact if_pos hp
  · exact resolveWith_kept pre cfg' _ hk

/-- **two-stage = one-stage**, whenever the exemption test does not fire on a guarded relative join (`hpre`): an exempt
value is exempt at every stage; a value the first stage keeps is kept by every stage; a value it joins onto `R` is read
by the second stage as a plain relative path (`joinWd_plain`) and joined onto `W` -/
theorem resolveWith_compose (pre : Str → Bool) (m : Bool)
    (hpre : ∀ j, isRemoteContext j = false → containsStr schemeSep j = false → pre j = false)
    (home : Option Str) (remote : Str → Bool) (sym : Str → Option Str) (W R s : Str)
    (hW : W ≠ []) (hR : R ≠ []) (hRr : isAbs R = false) :
    resolveWith pre m ⟨W, home, remote, sym⟩ (resolveWith pre m ⟨R, home, remote, sym⟩ s) =
      resolveWith pre m ⟨join W R, home, remote, sym⟩ s := by
  rcases resolveWith_cases pre m ⟨R, home, remote, sym⟩ s with ⟨hp, e⟩ | ⟨hp, hk, e⟩ | ⟨hp, hk, e⟩ <;> rw [e]
  · exact (if_pos hp).trans (if_pos hp).symm
  · rw [resolveWith_kept pre _ _ hk]
    simp only [resolveWith, hp, hk, Bool.false_eq_true, if_false, if_true]
  · have hrel : isAbs (join R (expandUser home s)) = false := isAbs_join_rel _ _ hR hRr
    have hrel' : isAbs (joinWd R (expandUser home s)) = false := by rw [isAbs_joinWd]; exact hrel
    obtain ⟨h1, h2, h3, h4⟩ := joinWd_plain R (expandUser home s) hR hrel
    have hk' := keep_rel m _ hrel' (fun _ => joinWd_ne_nil R (expandUser home s) hR) fun _ => h3
    simp only [resolveWith, hp, hk, hpre _ h2 h4, hk', expandUser_of_not_tilde _ _ h1, Bool.false_eq_true, if_false]
    exact joinWd_joinWd W R _ hW hR hRr


theorem absPathStr_eq (cfg : Cfg) (s : Str) : absPathStr cfg s = resolveWith (fun _ => false) false cfg s := by
  simp only [absPathStr, resolveWith, keep, Bool.false_eq_true, if_false]
  generalize expandUser cfg.home s = v
  by_cases ha : isAbs v = true <;> by_cases hv : v = [] <;> simp [ha, hv]

theorem absContextStr_eq (cfg : Cfg) (s : Str) : absContextStr cfg s = resolveWith urlLike false cfg s := by
  cases h1 : containsStr schemeSep s <;> cases h2 : isRemoteContext s <;>
    simp [absContextStr, absPathStr_eq, resolveWith, urlLike, h1, h2]

theorem absExtendsStr_eq (cfg : Cfg) (s : Str) : absExtendsStr cfg s = resolveWith cfg.remote false cfg s := by
  simp only [absExtendsStr, absPathStr_eq, resolveWith, Bool.false_eq_true, if_false]

theorem maybeUnixStr_eq (cfg : Cfg) (s : Str) : maybeUnixStr cfg s = .ok (resolveWith (fun _ => false) true cfg s) := by
  simp only [maybeUnixStr, resolveWith, keep, isWindowsAbs_eq_T, Bool.false_eq_true, if_false, if_true]
  generalize expandUser cfg.home s = v
  by_cases ha : isAbs v = true <;> by_cases hw : isWindowsAbsT v = true <;> simp [ha, hw]


theorem absPathStr_abs_untouched (cfg : Cfg) (s : Str) (h : isAbs s = true) : absPathStr cfg s = s := by
  rw [absPathStr_eq]; exact resolveWith_kept _ cfg s (keep_abs _ s h)

theorem absPathStr_relative (cfg : Cfg) (s : Str) (ha : isAbs s = false) (hne : s ≠ []) (ht : tilde s = false) :
    absPathStr cfg s = joinWd cfg.wd s := by
  rw [absPathStr_eq]; exact resolveWith_relative cfg s rfl ht (keep_rel false s ha (fun _ => hne) nofun)

theorem absPathStr_tilde (cfg : Cfg) (h rest : Str) (hh : cfg.home = some h) (ha : isAbs h = true) :
    absPathStr cfg ('~' :: rest) = join h rest := by
  rw [absPathStr_eq]; exact resolveWith_tilde false cfg h rest rfl hh ha

theorem maybeUnixStr_abs_untouched (cfg : Cfg) (s : Str) (h : isAbs s = true) : maybeUnixStr cfg s = .ok s := by
  rw [maybeUnixStr_eq, resolveWith_kept _ cfg s (keep_abs _ s h)]

theorem maybeUnixStr_winabs_untouched (cfg : Cfg) (s : Str) (h : isWindowsAbs? s = some true) :
    maybeUnixStr cfg s = .ok s := by
  rw [isWindowsAbs_eq_T] at h
  rw [maybeUnixStr_eq, resolveWith_kept _ cfg s (by simp [keep, Option.some.inj h])]

theorem maybeUnixStr_relative (cfg : Cfg) (s : Str) (ha : isAbs s = false) (ht : tilde s = false)
    (hw : isWindowsAbs? s = some false) : maybeUnixStr cfg s = .ok (joinWd cfg.wd s) := by
  rw [maybeUnixStr_eq, resolveWith_relative cfg s rfl ht (keep_rel true s ha nofun fun _ => hw)]

theorem maybeUnixStr_tilde (cfg : Cfg) (h rest : Str) (hh : cfg.home = some h) (ha : isAbs h = true) :
    maybeUnixStr cfg ('~' :: rest) = .ok (join h rest) := by
  rw [maybeUnixStr_eq, resolveWith_tilde true cfg h rest rfl hh ha]

theorem absContextStr_url (cfg : Cfg) (s : Str) (h : urlLike s = true) : absContextStr cfg s = s := by
  rw [absContextStr_eq]; exact if_pos h

theorem absContextStr_local (cfg : Cfg) (s : Str) (h : urlLike s = false) : absContextStr cfg s = absPathStr cfg s := by
  simp only [absContextStr_eq, absPathStr_eq, resolveWith, h]


theorem absPathStr_abs_or_nil (cfg : Cfg) (s : Str) (hwd : isAbs cfg.wd = true) :
    isAbs (absPathStr cfg s) = true ∨ absPathStr cfg s = [] := by
  rw [absPathStr_eq]
  rcases resolveWith_result (fun _ => false) false cfg s hwd with ⟨h, _⟩ | h
  · cases h
  · rcases keep_cases _ _ h with h | ⟨_, h⟩ | ⟨h, _⟩
    · exact .inl h
    · exact .inr h
    · cases h

theorem maybeUnixStr_total (cfg : Cfg) (s : Str) : ∃ r, maybeUnixStr cfg s = .ok r := ⟨_, maybeUnixStr_eq cfg s⟩

theorem maybeUnixStr_result (cfg : Cfg) (s r : Str) (hwd : isAbs cfg.wd = true) (h : maybeUnixStr cfg s = .ok r) :
    isAbs r = true ∨ isWindowsAbs? r = some true := by
  simp only [maybeUnixStr_eq, Out.ok.injEq] at h
  rw [← h]
  rcases resolveWith_result (fun _ => false) true cfg s hwd with ⟨h, _⟩ | h
  · cases h
  · rcases keep_cases _ _ h with h | ⟨h, _⟩ | ⟨_, h⟩
    · exact .inl h
    · cases h
    · exact .inr h

section
variable (home : Option Str) (remote : Str → Bool) (sym : Str → Option Str) (W R : Str)
  (hW : W ≠ []) (hR : R ≠ []) (hRr : isAbs R = false)
include hW hR hRr

theorem absPathStr_compose (s : Str) :
    absPathStr ⟨W, home, remote, sym⟩ (absPathStr ⟨R, home, remote, sym⟩ s) =
      absPathStr ⟨join W R, home, remote, sym⟩ s := by
  simp only [absPathStr_eq]
  exact resolveWith_compose _ _ (fun _ _ _ => rfl) home remote sym W R s hW hR hRr

theorem absContextStr_compose (s : Str) :
    absContextStr ⟨W, home, remote, sym⟩ (absContextStr ⟨R, home, remote, sym⟩ s) =
      absContextStr ⟨join W R, home, remote, sym⟩ s := by
  simp only [absContextStr_eq]
  exact resolveWith_compose _ _ (fun j h1 h2 => by simp [urlLike, h1, h2]) home remote sym W R s hW hR hRr

theorem maybeUnixStr_compose (s m : Str) (h : maybeUnixStr ⟨R, home, remote, sym⟩ s = .ok m) :
    maybeUnixStr ⟨W, home, remote, sym⟩ m = maybeUnixStr ⟨join W R, home, remote, sym⟩ s := by
  simp only [maybeUnixStr_eq, Out.ok.injEq] at h ⊢
  rw [← h]
  exact resolveWith_compose _ _ (fun _ _ _ => rfl) home remote sym W R s hW hR hRr
end

end CV.Paths
