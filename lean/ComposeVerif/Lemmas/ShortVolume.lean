import ComposeVerif.Lemmas.ShortStr
import ComposeVerif.Spec.Short
/-! Lemmas for the volume short syntax: the scanning loop of `format.ParseVolume` on rendered ASTs (C03). -/
namespace CV.Short
open CV.Short.Spec

theorem NUL_ne_colon : NUL ≠ ':' := by decide
theorem isLetter_colon : isLetter ':' = false := by decide
theorem isLetter_NUL : isLetter NUL = false := by decide

theorem isWindowsDrive_of_ne (buf : Str) (ch : Char) (h : ch ≠ ':') : isWindowsDrive buf ch = false := by
  simp [isWindowsDrive, h]

theorem scan_plain (s rest buf : Str) (v : Vol) (h : ∀ x ∈ s, x ≠ ':' ∧ x ≠ NUL) :
    scan (s ++ rest) buf v = scan rest (buf ++ s) v := by
  induction s generalizing buf with
  | nil => simp
  | cons x xs ih =>
    have hx := h x (by simp)
    have := ih (buf ++ [x]) (fun y hy => h y (by simp [hy]))
    simp only [List.cons_append, scan, isWindowsDrive_of_ne buf x hx.1]
    simp [hx.1, hx.2, this]

theorem clean_iff (s : Str) : clean s = true ↔ ∀ x ∈ s, x ≠ ':' ∧ x ≠ NUL := by
  simp only [clean, Bool.and_eq_true, Bool.not_eq_true', contains_false_iff]
  constructor
  · rintro ⟨h1, h2⟩ x hx; exact ⟨h1 x hx, h2 x hx⟩
  · intro h; exact ⟨fun x hx => (h x hx).1, fun x hx => (h x hx).2⟩

theorem Seg.render_ne_nil (g : Seg) (h : g.wf = true) : g.render ≠ [] := by
  cases g with
  | plain s => simp [Seg.wf] at h; simpa [Seg.render] using h.1.1
  | drive l r => simp [Seg.render]

/-- one section of the loop, for any clean text met with `buf` in the buffer: the drive-letter rule is off because the
buffer's text is not a single letter, or because source and target are already set -/
theorem scan_section (buf x : Str) (hx : ∀ ch ∈ x, ch ≠ ':' ∧ ch ≠ NUL) (c : Char) (hc : c = ':' ∨ c = NUL) (rest : Str)
    (v : Vol) (hd : isWindowsDrive (buf ++ x) c = false ∨ (v.source ≠ [] ∧ v.target ≠ [])) :
    scan (x ++ c :: rest) buf v =
      match populate (c = NUL) (buf ++ x) v with
      | none => none
      | some v' => scan rest [] v' := by
  have hsep : (c = ':' || c = NUL) = true := by rcases hc with h | h <;> simp [h]
  have hoff : (isWindowsDrive (buf ++ x) c && (decide (v.source = []) || decide (v.target = []))) = false := by
    rcases hd with h | ⟨h1, h2⟩
    · rw [h]; rfl
    · simp [h1, h2]
  rw [scan_plain x _ buf v hx]
  simp only [scan, hoff]
  rw [if_neg (by simp), if_pos hsep]
  cases populate (decide (c = NUL)) _ v <;> rfl

/-- one section: a well-formed segment followed by a separator reaches `populateFieldFromBuffer` with exactly its text -/
theorem scan_seg (g : Seg) (hg : g.wf = true) (c : Char) (hc : c = ':' ∨ c = NUL) (rest : Str) (v : Vol)
    (hv : v.source = [] ∨ v.target = []) :
    scan (g.render ++ c :: rest) [] v =
      match populate (c = NUL) g.render v with
      | none => none
      | some v' => scan rest [] v' := by
  cases g with
  | plain s =>
    simp only [Seg.wf, Bool.and_eq_true, Bool.not_eq_true', decide_eq_true_eq] at hg
    obtain ⟨⟨_, hcl⟩, hnl⟩ := hg
    refine scan_section [] s ((clean_iff s).1 hcl) c hc rest v (.inl ?_)
    rcases hc with rfl | rfl
    · cases hs : isWindowsDrive ([] ++ s) ':' with
      | false => rfl
      | true =>
        match s, hs with
        | [b], hs => simp [isWindowsDrive] at hs hnl; rw [hnl] at hs; cases hs
    · exact isWindowsDrive_of_ne _ _ NUL_ne_colon
  | drive l r =>
    simp only [Seg.wf, Bool.and_eq_true] at hg
    obtain ⟨hl, hcl⟩ := hg
    have hl1 : l ≠ ':' := by intro h; rw [h, isLetter_colon] at hl; cases hl
    have hl2 : l ≠ NUL := by intro h; rw [h, isLetter_NUL] at hl; cases hl
    -- the letter, then the colon that the drive-letter rule keeps in the buffer, then the rest as one section
    have hd : (isWindowsDrive [l] ':' && (decide (v.source = []) || decide (v.target = []))) = true := by
      rcases hv with h | h <;> simp [isWindowsDrive, hl, h]
    simp only [Seg.render, List.cons_append, scan, isWindowsDrive_of_ne [] l hl1, hl1, hl2, decide_false, Bool.or_self,
      Bool.false_eq_true, Bool.false_and, if_false, List.nil_append, hd, if_true]
    exact scan_section [l, ':'] r ((clean_iff r).1 hcl) c hc rest v (.inl (by simp [isWindowsDrive]))

theorem scan_seg_colon (g : Seg) (hg : g.wf = true) (rest : Str) (v : Vol) (hv : v.source = [] ∨ v.target = []) :
    scan (g.render ++ ':' :: rest) [] v =
      match populate false g.render v with
      | none => none
      | some v' => scan rest [] v' := by
  have := scan_seg g hg ':' (Or.inl rfl) rest v hv
  rw [this]
  simp only [show (decide ((':' : Char) = NUL)) = false from by decide]

theorem scan_seg_end (g : Seg) (hg : g.wf = true) (v : Vol) (hv : v.source = [] ∨ v.target = []) :
    scan (g.render ++ [NUL]) [] v = populate true g.render v := by
  have := scan_seg g hg NUL (Or.inr rfl) [] v hv
  rw [this]
  simp only [decide_true]
  cases populate true g.render v <;> rfl

theorem populate_source (g : Seg) (hg : g.wf = true) :
    populate false g.render {} = some { source := g.render } := by
  have := Seg.render_ne_nil g hg
  simp [populate, this]

theorem populate_target (isEnd : Bool) (s : Str) (hs : s ≠ []) (g : Seg) (hg : g.wf = true) :
    populate isEnd g.render { source := s } = some { source := s, target := g.render } := by
  have := Seg.render_ne_nil g hg
  simp [populate, this, hs]

theorem populate_target_only (g : Seg) (hg : g.wf = true) :
    populate true g.render {} = some { target := g.render } := by
  have := Seg.render_ne_nil g hg
  simp [populate, this]

/-- source and target are set: a further section is the option list, and it has to be the last one -/
theorem populate_options (isEnd : Bool) (buf : Str) (v : Vol) (hb : buf ≠ []) (hs : v.source ≠ []) (ht : v.target ≠ []) :
    populate isEnd buf v = if isEnd then some ((splitOn ',' buf).foldl applyOption v) else none := by
  cases isEnd <;> simp [populate, hb, hs, ht]

theorem scan_source (s : Seg) (hs : s.wf = true) (rest : Str) :
    scan (s.render ++ ':' :: rest) [] {} = scan rest [] { source := s.render } := by
  rw [scan_seg_colon s hs _ {} (Or.inl rfl), populate_source s hs]

theorem scan_source_target (s t : Seg) (hs : s.wf = true) (ht : t.wf = true) (rest : Str) :
    scan (s.render ++ ':' :: (t.render ++ ':' :: rest)) [] {} = scan rest [] { source := s.render, target := t.render } := by
  rw [scan_source s hs, scan_seg_colon t ht _ _ (Or.inr rfl), populate_target false _ (Seg.render_ne_nil s hs) t ht]

theorem propName_spec : ∀ i : Fin 6, propagations.contains (propName i) = true ∧ propName i ≠ ['r', 'o']
    ∧ propName i ≠ ['r', 'w'] ∧ propName i ≠ ['n', 'o', 'c', 'o', 'p', 'y'] := by decide +kernel

theorem applyOption_render (v : Vol) (f : Flag) (hf : f.wf = true) : applyOption v f.render = applyFlag v f := by
  cases f with
  | ro => simp [Flag.render, applyOption, applyFlag]
  | rw => simp [Flag.render, applyOption, applyFlag]
  | nocopy => simp [Flag.render, applyOption, applyFlag]
  | z => simp [Flag.render, applyOption, applyFlag, propagations]
  | Z => simp [Flag.render, applyOption, applyFlag, propagations]
  | prop i =>
    obtain ⟨h0, h1, h2, h3⟩ := propName_spec i
    simp only [Flag.render, applyOption, applyFlag, h0, h1, h2, h3, if_true, if_false]
  | other s =>
    simp only [Flag.wf, Bool.and_eq_true, Bool.not_eq_true', knownFlags, propagations] at hf
    obtain ⟨_, hk⟩ := hf
    simp only [List.cons_append, List.nil_append, List.contains_cons, List.contains_nil, Bool.or_false, Bool.or_eq_false_iff,
      beq_eq_false_iff_ne, ne_eq] at hk
    obtain ⟨h1, h2, h3, h4, h5, h6, h7, h8, h9, h10, h11⟩ := hk
    simp [Flag.render, applyOption, applyFlag, propagations, h1, h2, h3, h4, h5, h6, h7, h8, h9, h10, h11]

theorem propName_clean : ∀ i : Fin 6, ∀ x ∈ propName i, x ≠ ',' ∧ x ≠ ':' ∧ x ≠ NUL := by decide

theorem Flag.render_clean (f : Flag) (hf : f.wf = true) : ∀ x ∈ f.render, x ≠ ',' ∧ x ≠ ':' ∧ x ≠ NUL := by
  cases f with
  | other s =>
    simp only [Flag.wf, Bool.and_eq_true, Bool.not_eq_true'] at hf
    obtain ⟨⟨hc, hcomma⟩, _⟩ := hf
    have h1 := (clean_iff s).1 hc
    have h2 := (contains_false_iff s ',').1 hcomma
    intro x hx
    exact ⟨h2 x hx, (h1 x hx).1, (h1 x hx).2⟩
  | prop i => exact propName_clean i
  | ro => decide
  | rw => decide
  | nocopy => decide
  | z => decide
  | Z => decide

theorem renderFlags_eq_joinWith : ∀ fl : List Flag, renderFlags fl = joinWith ',' (fl.map Flag.render)
  | [] => rfl
  | [_] => rfl
  | f :: g :: r => by rw [renderFlags, renderFlags_eq_joinWith (g :: r)]; rfl

theorem splitOn_renderFlags (fl : List Flag) (hne : fl ≠ []) (hwf : ∀ f ∈ fl, f.wf = true) :
    splitOn ',' (renderFlags fl) = fl.map Flag.render := by
  rw [renderFlags_eq_joinWith, splitOn_joinWith _ _ (by simpa using hne)]
  intro x hx
  obtain ⟨f, hf, rfl⟩ := List.mem_map.1 hx
  exact fun ch hch => (Flag.render_clean f (hwf f hf) ch hch).1

theorem renderFlags_clean (fl : List Flag) (hwf : ∀ f ∈ fl, f.wf = true) : ∀ x ∈ renderFlags fl, x ≠ ':' ∧ x ≠ NUL := by
  rw [renderFlags_eq_joinWith]
  refine joinWith_forall ',' _ (by decide) _ fun x hx => ?_
  obtain ⟨f, hf, rfl⟩ := List.mem_map.1 hx
  exact fun ch hch => (Flag.render_clean f (hwf f hf) ch hch).2

theorem foldl_applyOption (fl : List Flag) (hwf : ∀ f ∈ fl, f.wf = true) (v : Vol) :
    (fl.map Flag.render).foldl applyOption v = fl.foldl applyFlag v := by
  induction fl generalizing v with
  | nil => rfl
  | cons f r ih =>
    simp only [List.map_cons, List.foldl_cons, applyOption_render v f (hwf f (by simp))]
    exact ih (fun f' hf' => hwf f' (by simp [hf'])) _

theorem applyFlag_source (v : Vol) (f : Flag) : (applyFlag v f).source = v.source ∧ (applyFlag v f).target = v.target ∧ (applyFlag v f).type = v.type := by
  cases f <;> simp [applyFlag]

theorem foldl_applyFlag_source (fl : List Flag) (v : Vol) :
    (fl.foldl applyFlag v).source = v.source ∧ (fl.foldl applyFlag v).target = v.target := by
  induction fl generalizing v with
  | nil => simp
  | cons f r ih =>
    simp only [List.foldl_cons]
    have := applyFlag_source v f
    rw [(ih _).1, (ih _).2, this.1, this.2.1]
    simp

theorem isFilePath_render (g : Seg) (hg : g.wf = true) : isFilePath g.render = isPath (some g) := by
  cases g with
  | plain s =>
    simp only [Seg.wf, Bool.and_eq_true, Bool.not_eq_true', decide_eq_true_eq] at hg
    obtain ⟨⟨_, hcl⟩, _⟩ := hg
    have hcl' := (clean_iff s).1 hcl
    cases s with
    | nil => rfl
    | cons c r =>
      simp only [Seg.render, isFilePath, isPath]
      by_cases h1 : (c = '.' ∨ c = '/' ∨ c = '~')
      · rcases h1 with h | h | h <;> simp [h]
      · have h1' : ¬ (c = '.') ∧ ¬ (c = '/') ∧ ¬ (c = '~') := by
          refine ⟨fun h => h1 (Or.inl h), fun h => h1 (Or.inr (Or.inl h)), fun h => h1 (Or.inr (Or.inr h))⟩
        simp only [h1'.1, h1'.2.1, h1'.2.2, decide_false, Bool.or_self, Bool.false_eq_true, if_false, Bool.false_or]
        by_cases h2 : (c = '\\' && r.head? = some '\\') = true
        · simp [h2]
        · simp only [h2]
          cases r with
          | nil => simp
          | cons d t =>
            have : d ≠ ':' := (hcl' d (by simp)).1
            simp [this]
  | drive l r =>
    simp only [Seg.wf, Bool.and_eq_true] at hg
    simp only [Seg.render, isFilePath, isPath]
    split
    · rfl
    · split
      · rfl
      · simp [hg.1]

theorem Seg.render_length_pos (g : Seg) (h : g.wf = true) : 0 < g.render.length :=
  List.length_pos_iff.2 (Seg.render_ne_nil g h)

theorem parseVolume_of_long (s : Str) (h : 2 < s.length) :
    parseVolume s = (scan (s ++ [NUL]) [] {}).map populateType := by
  have := byteLen_ge_length s
  rw [parseVolume, if_neg (by omega), if_neg (by omega)]

theorem scan_empty_section (c : Char) (hc : c = ':' ∨ c = NUL) (rest : Str) (v : Vol) : scan (c :: rest) [] v = none := by
  rcases hc with h | h <;> subst h <;> simp [scan, isWindowsDrive, populate, NUL]


end CV.Short
