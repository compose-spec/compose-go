import ComposeVerif.Lemmas.SecretsRender
import ComposeVerif.Lemmas.SecretsOpts
/-! C20: the two halves of "the whole-tree composition `loadDict` and the section-wise `load` succeed together, with the same
project" (`loadDict_ok_iff`, `loadSection_ok_iff`: both sides brought to one normal form, a section resolved, named, passed
through `processExtensions` and decoded); every entry of a section has its loaded entry (`mem_loadSection`); a raw secret
carrying `x-#value: v` is decoded with `Content = v` (`content_of_carrier`). -/
namespace CV.Secrets
open CV
open CV.Val hiding lookup_insert_self lookup_insert_ne

/-- a section after `resolve*Environment` -/
def rsv (c : String) (env : Env) : Option Val → Option Val
  | some (.map objs) => some (.map (resolveObjs c env objs))
  | x => x

/-- a section after `setNameFromKey` -/
def nsv (pname : String) : Option Val → Out (Option Val)
  | none => .ok none
  | some (.map objs) =>
    match setNameObjs pname objs with
    | .ok objs' => .ok (some (.map objs'))
    | .err e => .err e
    | .panic s => .panic s
  | some _ => .err "setNameFromKey"

/-- `Transform` of a section -/
def decV (f : Val → Out FileObj) : Option Val → Out (List (String × FileObj))
  | none => .ok []
  | some .null => .ok []
  | some (.map objs) => decodeObjs f objs
  | _ => .err "outOfDomain"

/-- what `processExtensions` does to the top-level entry `k` -/
def pxc (k : String) (v : Val) : Val := pxVal (childPath TPath.root k v) v

def putSect (sect : String) (d : KVs) : Option Val → KVs
  | none => d
  | some v => Val.insert sect v d

theorem lookup_resolveSection_self (sect c : String) (env : Env) (d : KVs) :
    Val.lookup sect (resolveSection sect c env d) = rsv c env (Val.lookup sect d) := by
  unfold resolveSection
  split
  · rename_i objs h; rw [lookup_insert_self, h]; rfl
  · rename_i h
    cases hl : Val.lookup sect d with
    | none => rfl
    | some v =>
      cases v with
      | map objs => exact absurd hl (h objs)
      | _ => rfl

theorem forall_resolveSection {Q0 Q1 : String → Val → Prop} (sect c : String) (env : Env)
    (step : ∀ n v, Q0 n v → Q1 n (resolveObj c env v)) {d : KVs}
    (h : ∀ objs, Val.lookup sect d = some (.map objs) → ∀ e ∈ objs, Q0 e.1 e.2) :
    ∀ objs, Val.lookup sect (resolveSection sect c env d) = some (.map objs) → ∀ e ∈ objs, Q1 e.1 e.2 := by
  intro objs hl
  rw [lookup_resolveSection_self] at hl
  cases hs : Val.lookup sect d with
  | none => rw [hs] at hl; cases hl
  | some v =>
    rw [hs] at hl
    cases v <;> simp only [rsv, Option.some.injEq, Val.map.injEq, reduceCtorEq] at hl
    subst hl
    rw [resolveObjs_eq_map]
    intro e he
    obtain ⟨e0, h0, rfl⟩ := List.mem_map.1 he
    exact step _ _ (h _ hs e0 h0)

theorem lookup_resolveSection_ne {k sect : String} (hk : k ≠ sect) (c : String) (env : Env) (d : KVs) :
    Val.lookup k (resolveSection sect c env d) = Val.lookup k d := by
  unfold resolveSection
  split
  · exact lookup_insert_ne hk _ _
  · rfl

theorem setNameSection_ok_iff {pname sect : String} {d d' : KVs} :
    setNameSection pname sect d = .ok d' ↔ ∃ x, nsv pname (Val.lookup sect d) = .ok x ∧ d' = putSect sect d x := by
  unfold setNameSection
  cases hl : Val.lookup sect d with
  | none => simp [nsv, putSect, eq_comm]
  | some v =>
    cases v with
    | map objs =>
      simp only [nsv]
      cases setNameObjs pname objs with
      | ok o => simp [putSect, eq_comm]
      | err e => simp
      | panic s => simp
    | _ => simp [nsv]

theorem lookup_putSect_self {pname sect : String} {d : KVs} {x : Option Val} (h : nsv pname (Val.lookup sect d) = .ok x) :
    Val.lookup sect (putSect sect d x) = x := by
  cases x with
  | some v => exact lookup_insert_self _ _ _
  | none =>
    simp only [putSect]
    cases hl : Val.lookup sect d with
    | none => rfl
    | some v =>
      rw [hl] at h
      cases v with
      | map objs =>
        simp only [nsv] at h
        cases hs : setNameObjs pname objs <;> rw [hs] at h <;> simp at h
      | _ => simp [nsv] at h

theorem lookup_putSect_ne {k sect : String} (hk : k ≠ sect) (d : KVs) (x : Option Val) :
    Val.lookup k (putSect sect d x) = Val.lookup k d := by
  cases x with
  | none => rfl
  | some v => exact lookup_insert_ne hk _ _

theorem isUserDefined_root : isUserDefined TPath.root = false := by decide +kernel

/-- the top-level mapping after `processExtensions` -/
def pxTop (d : KVs) : KVs :=
  withExtras (extrasOf (isUserDefined TPath.root) d) (pxKVs TPath.root (isUserDefined TPath.root) d)

theorem processExtensions_eq (d : KVs) : processExtensions d = .map (pxTop d) := by
  simp only [processExtensions, pxMap, pxVal, pxTop]

theorem lookup_pxTop {k : String} (h1 : k ≠ extKey) (h2 : isExtKey k = false) (d : KVs) :
    Val.lookup k (pxTop d) = (Val.lookup k d).map (pxc k) := lookup_withExtras_pxKVs h1 h2 _ _ _ d

theorem lookup_processExtensions {k : String} (h1 : k ≠ extKey) (h2 : isExtKey k = false) (d : KVs) :
    ∃ d3, processExtensions d = .map d3 ∧ Val.lookup k d3 = (Val.lookup k d).map (pxc k) :=
  ⟨pxTop d, processExtensions_eq d, lookup_pxTop h1 h2 d⟩

theorem decodeSection_eq (f : Val → Out FileObj) (sect : String) (d : KVs) : decodeSection f sect d = decV f (Val.lookup sect d) := by
  unfold decodeSection
  cases hl : Val.lookup sect d with
  | none => rfl
  | some v => cases v <;> rfl

theorem pxc_section (sect : String) (h1 : pnext TPath.root sect = [sect]) (h2 : isUserDefined [sect] = true) (objs : KVs) :
    pxc sect (.map objs) = .map (pxKVs [sect] true objs) := by
  simp only [pxc, childPath, h1, pxVal, h2, extrasOf, if_true, withExtras, List.isEmpty_nil]

theorem loadSection_ok_iff (isSecret : Bool) (env : Env) (pname : String) (dict : KVs) (l : List (String × FileObj)) :
    loadSection isSecret env pname dict = .ok l ↔
      ∃ s2, nsv pname (rsv (if isSecret then xValue else "content") env (Val.lookup (if isSecret then "secrets" else "configs") dict)) = .ok s2 ∧
        decV (if isSecret then decodeSecret else decodeConfig) (s2.map (pxc (if isSecret then "secrets" else "configs"))) = .ok l := by
  have hpx : ∀ objs, pxc (if isSecret then "secrets" else "configs") (.map objs) =
      .map (pxKVs [if isSecret then "secrets" else "configs"] true objs) := by
    intro objs
    cases isSecret
    · exact pxc_section "configs" (by decide +kernel) (by decide +kernel) objs
    · exact pxc_section "secrets" (by decide +kernel) (by decide +kernel) objs
  unfold loadSection
  cases hl : Val.lookup (if isSecret then "secrets" else "configs") dict with
  | none => simp [rsv, nsv, decV]
  | some v =>
    cases v with
    | map objs =>
      simp only [rsv, nsv]
      cases hs : setNameObjs pname (resolveObjs (if isSecret then xValue else "content") env objs) with
      | ok o2 => simp [hpx, decV]
      | err e => simp
      | panic s => simp
    | _ => simp [rsv, nsv]

theorem isExtKey_secrets : isExtKey "secrets" = false := by decide +kernel
theorem isExtKey_configs : isExtKey "configs" = false := by decide +kernel

theorem loadDict_ok_iff (env : Env) (pname : String) (dict : KVs) (p : Proj) :
    loadDict env pname dict = .ok p ↔
      ∃ c2 s2 ss cs,
        nsv pname (rsv "content" env (Val.lookup "configs" dict)) = .ok c2 ∧
        nsv pname (rsv xValue env (Val.lookup "secrets" dict)) = .ok s2 ∧
        decV decodeSecret (s2.map (pxc "secrets")) = .ok ss ∧
        decV decodeConfig (c2.map (pxc "configs")) = .ok cs ∧ p = { secrets := ss, configs := cs } := by
  have hC : Val.lookup "configs" (resolveConfigsEnv env (resolveSecretsEnv env dict)) = rsv "content" env (Val.lookup "configs" dict) := by
    unfold resolveConfigsEnv resolveSecretsEnv
    rw [lookup_resolveSection_self, lookup_resolveSection_ne (by simp)]
  have hS : Val.lookup "secrets" (resolveConfigsEnv env (resolveSecretsEnv env dict)) = rsv xValue env (Val.lookup "secrets" dict) := by
    unfold resolveConfigsEnv resolveSecretsEnv
    rw [lookup_resolveSection_ne (by simp), lookup_resolveSection_self]
  unfold loadDict
  simp only [setNameSections, Out.bind_eq_ok, setNameSection_ok_iff, processExtensions_eq, decodeSection_eq]
  constructor
  · rintro ⟨d2, ⟨dA, ⟨c2, hc2, rfl⟩, dB, ⟨s2, hs2, rfl⟩, hdB⟩, ss, hss, cs, hcs, hp⟩
    cases hdB
    rw [lookup_putSect_ne (by simp)] at hs2
    have hl2 : Val.lookup "secrets" (putSect "secrets" (putSect "configs" (resolveConfigsEnv env (resolveSecretsEnv env dict)) c2) s2) = s2 :=
      lookup_putSect_self (pname := pname) (by rw [lookup_putSect_ne (by simp)]; exact hs2)
    have hlc : Val.lookup "configs" (putSect "secrets" (putSect "configs" (resolveConfigsEnv env (resolveSecretsEnv env dict)) c2) s2) = c2 := by
      rw [lookup_putSect_ne (by simp)]; exact lookup_putSect_self hc2
    rw [lookup_pxTop (by simp [extKey]) isExtKey_secrets, hl2] at hss
    rw [lookup_pxTop (by simp [extKey]) isExtKey_configs, hlc] at hcs
    rw [hC] at hc2
    rw [hS] at hs2
    exact ⟨c2, s2, ss, cs, hc2, hs2, hss, hcs, by cases hp; rfl⟩
  · rintro ⟨c2, s2, ss, cs, hc2, hs2, hss, hcs, rfl⟩
    rw [← hC] at hc2
    rw [← hS] at hs2
    have hs2' : nsv pname (Val.lookup "secrets" (putSect "configs" (resolveConfigsEnv env (resolveSecretsEnv env dict)) c2)) = .ok s2 := by
      rw [lookup_putSect_ne (by simp)]; exact hs2
    refine ⟨_, ⟨_, ⟨c2, hc2, rfl⟩, _, ⟨s2, hs2', rfl⟩, rfl⟩, ss, ?_, cs, ?_, rfl⟩
    · rw [lookup_pxTop (by simp [extKey]) isExtKey_secrets, lookup_putSect_self hs2']; exact hss
    · rw [lookup_pxTop (by simp [extKey]) isExtKey_configs, lookup_putSect_ne (by simp), lookup_putSect_self hc2]; exact hcs

theorem mem_loadSection {isSecret : Bool} {env : Env} {pname : String} {dict objs : KVs} {l : List (String × FileObj)}
    (hl : Val.lookup (if isSecret then "secrets" else "configs") dict = some (.map objs))
    (h : loadSection isSecret env pname dict = .ok l) {n : String} {v : Val} (hm : (n, v) ∈ objs) :
    ∃ v2 x, setNameObj pname n (resolveObj (if isSecret then xValue else "content") env v) = .ok v2 ∧
      (if isSecret then decodeSecret else decodeConfig)
        (pxVal (childPath [if isSecret then "secrets" else "configs"] n v2) v2) = .ok x ∧ (n, x) ∈ l := by
  unfold loadSection at h
  simp only [hl] at h
  obtain ⟨objs2, h2, h3⟩ := Out.bind_eq_ok.1 h
  rw [setNameObjs_eq, resolveObjs_eq_map] at h2
  obtain ⟨v2, hv2, m2⟩ := mem_travKV h2 (List.mem_map.2 ⟨_, hm, rfl⟩)
  rw [decodeObjs_eq, pxKVs_true_eq_map] at h3
  obtain ⟨x, hx, mx⟩ := mem_travKV h3 (List.mem_map.2 ⟨_, m2, rfl⟩)
  exact ⟨v2, x, hv2, hx, mx⟩

theorem content_of_carrier {kvs : KVs} {v : String} {p : TPath} (hx : Val.lookup xValue kvs = some (.str v))
    (hnc : Val.lookup "content" kvs = none) (hp : isUserDefined p = false) {o : FileObj}
    (hd : decodeSecret (pxVal p (.map kvs)) = .ok o) : o.content = v := by
  simp only [pxVal, decodeSecret, hp] at hd
  have hex : Val.lookup xValue (extrasOf false kvs) = some (.str v) := by
    simp only [extrasOf, Bool.false_eq_true, if_false]
    rw [lookup_filter_ext isExtKey_xValue]; exact hx
  have hne : (extrasOf false kvs).isEmpty = false := by
    cases hq : extrasOf false kvs with
    | nil => rw [hq] at hex; simp [Val.lookup] at hex
    | cons _ _ => rfl
  generalize extrasOf false kvs = ex at hd hex hne
  have hcw : Val.lookup "content" (withExtras ex (pxKVs p false kvs)) = none := by
    rw [lookup_withExtras_pxKVs (by simp [extKey]) isExtKey_content, hnc]; rfl
  generalize pxKVs p false kvs = keep at hd hcw
  have hl3 : Val.lookup extKey (withExtras ex keep) = some (.map ex) := by
    simp only [withExtras, hne, Bool.false_eq_true, if_false, lookup_insert_self]
  -- the hook fires
  have hcont : contentField (hook (withExtras ex keep)) = some v := by
    unfold hook
    simp only [hl3, hex]
    split
    · unfold contentField
      rw [lookup_erase_ne (by simp [extKey]), lookup_insert_ne (by simp), hcw]
      simp only [strField]
      rw [lookup_erase_ne (by simp [extKey]), lookup_insert_self]
    · unfold contentField
      rw [lookup_insert_ne (by simp [extKey]), lookup_insert_ne (by simp), hcw]
      simp only [strField]
      rw [lookup_insert_ne (by simp [extKey]), lookup_insert_self]
  have h4 := (decodeFields_ok hd).2.2.2.1
  rw [hcont] at h4
  exact (Option.some.inj h4).symm

end CV.Secrets
