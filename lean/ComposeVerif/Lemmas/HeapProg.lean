import ComposeVerif.Lemmas.Heap
import ComposeVerif.Model.HeapProg
import ComposeVerif.Lemmas.Assoc
/-! C14, the statement language.  First the footprint of the data operations: the variable list as a Go map
(`setVar_eq`, `getVar_eq`, `applyWrite_eq_map`), and that what is read out of a value (`getFld`,
`getIdx`, `kidOf`) or left after an update (`setKid`, `delKid`) holds no address the inputs did not hold.  Then `Inv`, the
invariant every receiver-free program maintains, with the three things a statement can do to a state (`Inv.bind`,
`Inv.write`, `Inv.congr`), `Expr.eval_in` (a receiver-free expression evaluates to fresh memory) and `execS_inv` / `execL_inv`. -/
namespace CV.Heap

/-! ### the variable list is a Go map (`Lemmas/Assoc.lean`) -/

theorem setVar_eq (x : String) (v : GoVal) : ∀ vars, setVar x v vars = Assoc.insert x v vars
  | [] => rfl
  | (y, w) :: r => by simp only [setVar, Assoc.insert_cons, setVar_eq x v r, eq_comm (a := y)]

theorem getVar_eq (x : String) : ∀ vars, getVar x vars = (Assoc.lookup x vars).getD .nil
  | [] => rfl
  | (y, w) :: r => by
    simp only [getVar, Assoc.lookup_cons, eq_comm (a := y)]
    split
    · rfl
    · exact getVar_eq x r

theorem mem_setVar {vars : List (String × GoVal)} {x y : String} {v w : GoVal} (h : (y, w) ∈ setVar x v vars) :
    (y = x ∧ w = v) ∨ (y, w) ∈ vars :=
  (Assoc.mem_insert (setVar_eq x v vars ▸ h)).imp_left Prod.mk.inj

theorem getVar_setVar_ne (vars : List (String × GoVal)) {x y : String} (v : GoVal) (h : x ≠ y) :
    getVar y (setVar x v vars) = getVar y vars := by
  rw [getVar_eq, getVar_eq, setVar_eq, Assoc.lookup_insert_ne h.symm]

theorem applyWrite_eq_map (a : Nat) (c : Cell) : ∀ vars, applyWrite a c vars = vars.map fun xv => (xv.1, write a c xv.2)
  | [] => rfl
  | (x, v) :: r => by rw [applyWrite, applyWrite_eq_map a c r]; rfl

theorem mem_applyWrite (vars : List (String × GoVal)) (a : Nat) (c : Cell) (x : String) (v : GoVal)
    (h : (x, v) ∈ applyWrite a c vars) : ∃ v0, (x, v0) ∈ vars ∧ v = write a c v0 := by
  obtain ⟨⟨y, v0⟩, hm, e⟩ := List.mem_map.mp (applyWrite_eq_map a c vars ▸ h)
  cases e
  exact ⟨v0, hm, rfl⟩

theorem getVar_applyWrite (vars : List (String × GoVal)) (a : Nat) (c : Cell) (x : String) :
    getVar x (applyWrite a c vars) = write a c (getVar x vars) := by
  rw [getVar_eq, getVar_eq, applyWrite_eq_map, Assoc.lookup_map_val fun _ => write a c]
  cases Assoc.lookup x vars <;> rfl

theorem addrs_kidOf {ks : List (Key × GoVal)} {k : Key} {v : GoVal} {a : Nat} (h : kidOf k ks = some v) (ha : a ∈ addrs v) :
    a ∈ addrsKids ks := by
  fun_induction kidOf k ks
  case case1 => cases h
  case case2 => cases h; exact List.mem_append_left _ ha
  case case3 ih => exact List.mem_append_right _ (ih h)

theorem addrs_getD_kidOf (ks : List (Key × GoVal)) (k : Key) (a : Nat)
    (ha : a ∈ addrs ((kidOf k ks).getD .nil)) : a ∈ addrsKids ks := by
  cases h : kidOf k ks with
  | none => simp [h, addrs] at ha
  | some v => simp only [h, Option.getD_some] at ha; exact addrs_kidOf h ha

theorem addrs_getFld (f : Nat) (v : GoVal) (a : Nat) (ha : a ∈ addrs (getFld f v)) : a ∈ addrs v := by
  cases v with
  | struct ks => exact addrs_getD_kidOf ks _ a ha
  | ptr b w =>
    cases w with
    | struct ks => exact List.mem_cons_of_mem _ (addrs_getD_kidOf ks _ a ha)
    | _ => simp [getFld, addrs] at ha
  | _ => simp [getFld, addrs] at ha

theorem addrs_getIdx (k : String) (v : GoVal) (a : Nat) (ha : a ∈ addrs (getIdx k v)) : a ∈ addrs v := by
  cases v with
  | map b ks => exact List.mem_cons_of_mem _ (addrs_getD_kidOf ks _ a ha)
  | _ => simp [getIdx, addrs] at ha

theorem addrsKids_setKid (ks : List (Key × GoVal)) (k : Key) (v : GoVal) (a : Nat)
    (h : a ∈ addrsKids (setKid k v ks)) : a ∈ addrsKids ks ∨ a ∈ addrs v := by
  fun_induction setKid k v ks <;> simp only [addrsKids, List.mem_append] at h ⊢
  case case1 => exact h.elim .inr (nomatch ·)
  case case2 => exact h.symm.imp_left .inr
  case case3 ih => exact h.elim (fun h' => .inl (.inl h')) fun h' => (ih h').imp_left .inr

/-- `delete(m, k)`: the model removes the first entry with that key (a Go map has one) -/
theorem addrsKids_delKid (ks : List (Key × GoVal)) (k : Key) (a : Nat) (h : a ∈ addrsKids (delKid k ks)) :
    a ∈ addrsKids ks := by
  fun_induction delKid k ks
  case case1 => exact h
  case case2 => exact List.mem_append_right _ h
  case case3 ih =>
    simp only [addrsKids, List.mem_append] at h ⊢
    exact h.imp_right ih

theorem addrsKids_scalars (l : List String) : addrsKids (l.map fun s => (Key.idx, GoVal.scalar s)) = [] := by
  induction l with
  | nil => simp [addrsKids]
  | cons s r ih => simp [addrsKids, addrs, ih]

/-- the same clause stands in `Within n m (addrs v)` (with `n ≤ m` in front: `⟨hle, h⟩` builds it) and, for the cells
written, in `Confined` -/
def In (n m : Nat) (v : GoVal) : Prop := ∀ a ∈ addrs v, n ≤ a ∧ a < m

/-- what every state of a receiver-free program run on receiver `p` (all of it below `n`) satisfies: `recv` the receiver
variable still holds `p`; `le` the frontier has not fallen below `n`; `fresh` every other variable holds only memory in
`[n, next)`; `log` every write went through an address ≥ `n` and stored only memory in `[n, next)`, i.e. `Confined n st.next st.log` -/
structure Inv (n : Nat) (p : GoVal) (st : St) : Prop where
  recv : getVar "p" st.vars = p
  le : n ≤ st.next
  fresh : ∀ x v, (x, v) ∈ st.vars → x ≠ "p" → In n st.next v
  log : ∀ w ∈ st.log, n ≤ w.1 ∧ ∀ a ∈ cellAddrs w.2, n ≤ a ∧ a < st.next

theorem In.mono {n m m' : Nat} {v : GoVal} (h : In n m v) (hm : m ≤ m') : In n m' v :=
  fun a ha => by have := h a ha; omega

theorem In.nil (n m : Nat) : In n m .nil := fun _ ha => nomatch ha

theorem Inv.var {n : Nat} {p : GoVal} {st : St} (h : Inv n p st) (x : String) (hx : x ≠ "p") : In n st.next (getVar x st.vars) := by
  rw [getVar_eq]
  cases hl : Assoc.lookup x st.vars with
  | none => exact In.nil n st.next
  | some v => exact h.fresh x v (Assoc.mem_of_lookup hl) hx

/-- only `vars`, `next`, `log` matter: the three equations default to `rfl`, so `h.congr` at a use site says that the new
state differs from `st` in other fields only (`pvars`, `err`) -/
theorem Inv.congr {n : Nat} {p : GoVal} {st st' : St} (h : Inv n p st)
    (hv : st'.vars = st.vars := by rfl) (hn : st'.next = st.next := by rfl) (hl : st'.log = st.log := by rfl) : Inv n p st' :=
  ⟨by rw [hv]; exact h.recv, by rw [hn]; exact h.le, by rw [hv, hn]; exact h.fresh, by rw [hl, hn]; exact h.log⟩

/-- the new state binds `x` to `v`, has frontier `m` and the same log (the three equations default to `rfl`: at a use
site the target state is read off the goal) -/
theorem Inv.bind {n : Nat} {p : GoVal} {st : St} (h : Inv n p st) (x : String) (hx : x ≠ "p") (v : GoVal) (m : Nat)
    (hm : st.next ≤ m) (hv : In n m v) {st' : St} (hvars : st'.vars = setVar x v st.vars := by rfl)
    (hnext : st'.next = m := by rfl) (hlog : st'.log = st.log := by rfl) : Inv n p st' := by
  refine ⟨?_, ?_, ?_, ?_⟩
  · rw [hvars, getVar_setVar_ne _ _ hx]; exact h.recv
  · rw [hnext]; have := h.le; omega
  · intro y w hmem hy
    rw [hvars] at hmem
    rw [hnext]
    rcases mem_setVar hmem with ⟨_, rfl⟩ | hm'
    · exact hv
    · exact (h.fresh y w hm' hy).mono hm
  · intro w hw
    rw [hlog] at hw
    rw [hnext]
    have := h.log w hw
    exact ⟨this.1, fun a ha => by have := this.2 a ha; omega⟩

theorem Inv.write {n : Nat} {p : GoVal} {st : St} (h : Inv n p st) (hb : Below n p) (a : Nat) (c : Cell)
    (ha : n ≤ a) (hc : ∀ x ∈ cellAddrs c, n ≤ x ∧ x < st.next) : Inv n p (st.write a c) := by
  refine ⟨?_, h.le, ?_, ?_⟩
  · simp only [St.write, getVar_applyWrite, h.recv]
    apply write_not_mem
    intro hm
    have := hb a hm
    omega
  · intro x v hmem hx
    simp only [St.write] at hmem ⊢
    obtain ⟨v0, hm0, rfl⟩ := mem_applyWrite _ _ _ _ _ hmem
    intro b hbm
    rcases addrs_write v0 a c b hbm with h' | h'
    · exact h.fresh x v0 hm0 hx b h'
    · exact hc b h'
  · intro w hw
    simp only [St.write, List.mem_append, List.mem_singleton] at hw ⊢
    rcases hw with hw | rfl
    · exact h.log w hw
    · exact ⟨ha, hc⟩

theorem Expr.eval_in {n : Nat} {p : GoVal} {st : St} (h : Inv n p st) :
    ∀ (e : Expr), e.rf = true → In n st.next (e.eval st)
  | .var x, hr => by
    simp only [Expr.rf, bne_iff_ne, ne_eq] at hr
    exact h.var x hr
  | .fld e f, hr => fun a ha => Expr.eval_in h e (by simpa [Expr.rf] using hr) a (addrs_getFld f _ a ha)
  | .idx e k, hr => fun a ha => Expr.eval_in h e (by simpa [Expr.rf] using hr) a (addrs_getIdx _ _ a ha)
  | .str s, _ | .nilv, _ => fun _ ha => nomatch ha
  | .withFld e f v, hr => by
    simp only [Expr.rf, Bool.and_eq_true] at hr
    have he := Expr.eval_in h e hr.1
    have hv := Expr.eval_in h v hr.2
    intro a ha
    simp only [Expr.eval] at ha
    split at ha
    · rename_i ks hks
      simp only [addrs] at ha
      rcases addrsKids_setKid ks _ _ a ha with h' | h'
      · exact he a (by rw [hks]; simpa [addrs] using h')
      · exact hv a h'
    · exact he a ha

theorem foldKeys_inv (P : St → Prop) (f : St → String → St) (hf : ∀ st k, P st → P (f st k)) :
    ∀ (ks : List String) (st : St), P st → P (foldKeys f ks st)
  | [], _, h => h
  | k :: r, st, h => foldKeys_inv P f hf r (f st k) (hf st k h)

theorem execS_of_err {t : Ty} {plan : Plan} (s : Stmt) {st : St} (h : st.err.isSome = true) : execS t plan s st = st := by
  cases s <;> rw [execS, if_pos h]

section
variable {t : Ty} {plan : Plan} {n : Nat} {p : GoVal}

mutual
theorem execS_inv (hd : deep t plan = true) (hb : Below n p) :
    ∀ (s : Stmt) (st : St), s.rf = true → Inv n p st → Inv n p (execS t plan s st)
  | s, st, hr, h => by
    by_cases he : st.err.isSome
    · rw [execS_of_err s he]; exact h
    match s, hr with
    | .assign x e, hr =>
      rw [execS, if_neg he]
      simp only [Stmt.rf, Bool.and_eq_true, bne_iff_ne, ne_eq] at hr
      exact h.bind x hr.1 _ st.next (Nat.le_refl _) (Expr.eval_in h e hr.2)
    | .pset x f, _ =>
      rw [execS, if_neg he]
      exact h.congr
    | .allocMap x, hr =>
      rw [execS, if_neg he]
      simp only [Stmt.rf, bne_iff_ne, ne_eq] at hr
      refine h.bind x hr _ (st.next + 1) (Nat.le_succ _) (fun a ha => ?_)
      have : a = st.next := by simpa [addrs, addrsKids] using ha
      have := h.le
      omega
    | .allocSlice x f, hr =>
      rw [execS, if_neg he]
      simp only [Stmt.rf, bne_iff_ne, ne_eq] at hr
      split
      · exact h.bind x hr _ st.next (Nat.le_refl _) (In.nil _ _)
      · refine h.bind x hr _ (st.next + 1) (Nat.le_succ _) (fun a ha => ?_)
        have : a = st.next := by simpa [addrs, addrsKids_scalars] using ha
        have := h.le
        omega
    | .allocPtr x e, hr =>
      rw [execS, if_neg he]
      simp only [Stmt.rf, Bool.and_eq_true, bne_iff_ne, ne_eq] at hr
      refine h.bind x hr.1 _ (st.next + 1) (Nat.le_succ _) (fun a ha => ?_)
      rcases List.mem_cons.mp ha with rfl | ha
      · have := h.le; omega
      · have := Expr.eval_in h e hr.2 a ha; omega
    | .deepCopy x e, hr =>
      rw [execS, if_neg he]
      simp only [Stmt.rf, bne_iff_ne, ne_eq] at hr
      simp only
      split
      · rename_i hty
        have hf := exec_fresh (e.eval st) plan t st.next hty hd
        refine h.bind x hr _ _ hf.1 (fun a ha => ?_)
        have := hf.2 a ha
        have := h.le
        omega
      · exact h.congr
    | .setPtrFld m _ e, hr | .mapStore m _ e, hr =>
      rw [execS, if_neg he]
      simp only [Stmt.rf, Bool.and_eq_true] at hr
      have hm := Expr.eval_in h m hr.1
      split
      · rename_i a ks heq
        rw [heq] at hm
        refine h.write hb a _ (hm a (List.mem_cons_self ..)).1 fun x hx => ?_
        exact (addrsKids_setKid ks _ _ x hx).elim (fun h' => hm x (List.mem_cons_of_mem _ h')) (Expr.eval_in h e hr.2 x)
      · exact h.congr
    | .mapDelete m k, hr =>
      rw [execS, if_neg he]
      have hm := Expr.eval_in h m hr
      split
      · rename_i a ks heq
        rw [heq] at hm
        exact h.write hb a _ (hm a (List.mem_cons_self ..)).1 fun x hx =>
          hm x (List.mem_cons_of_mem _ (addrsKids_delKid ks _ x hx))
      · exact h
    | .rangeMap kx vx m body, hr =>
      rw [execS, if_neg he]
      simp only [Stmt.rf, Bool.and_eq_true, bne_iff_ne, ne_eq] at hr
      refine foldKeys_inv (Inv n p) _ (fun st' k h' => ?_) _ _ h
      split
      · exact h'
      · exact execL_inv hd hb body _ hr.2 (h'.bind vx hr.1.1 _ st'.next (Nat.le_refl _)
          (fun a ha => Expr.eval_in h' m hr.1.2 a (addrs_getIdx _ _ a ha)))
    | .rangePure kx l body, hr =>
      rw [execS, if_neg he]
      refine foldKeys_inv (Inv n p) _ (fun st' k h' => ?_) _ _ h
      split
      · exact h'
      · exact execL_inv hd hb body _ hr (h'.congr)
    | .ite c a b, hr =>
      rw [execS, if_neg he]
      simp only [Stmt.rf, Bool.and_eq_true] at hr
      split
      · exact execL_inv hd hb a st hr.1 h
      · exact execL_inv hd hb b st hr.2 h
    | .fail c cls, _ =>
      rw [execS, if_neg he]
      split
      · exact h.congr
      · exact h
    | .block tag body, hr =>
      rw [execS, if_neg he]
      exact execL_inv hd hb body st hr h
    | .opaque tag, _ =>
      rw [execS, if_neg he]
      exact h
theorem execL_inv (hd : deep t plan = true) (hb : Below n p) :
    ∀ (l : List Stmt) (st : St), rfL l = true → Inv n p st → Inv n p (execL t plan l st)
  | [], st, _, h => by rw [execL]; exact h
  | s :: r, st, hr, h => by
    simp only [rfL, Bool.and_eq_true] at hr
    rw [execL]
    exact execL_inv hd hb r _ hr.2 (execS_inv hd hb s st hr.1 h)
end

end

end CV.Heap
