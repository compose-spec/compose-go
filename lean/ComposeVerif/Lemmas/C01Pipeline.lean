import ComposeVerif.Model.Interp
import ComposeVerif.Model.ShortTransform
import ComposeVerif.Lemmas.C11Walk
import ComposeVerif.Lemmas.Validate
import ComposeVerif.Lemmas.TemplateRun
/-!
Helper lemmas for `Props/C01Pipeline.lean`: "no panic outcome" facts about stage models that belong to other
properties (C08 `Interp.interp`, C03 `Short.transform`, C11 `setDefaults`, C10 `Validate.validate`) and whose owners
state other things about them.

The tree walkers pass the first `err` / `panic` of a child through, so each induction below (`Val.induct₃`) reads: unfold one level, split
the matches, and a `panic` that is left is the panic of a sub-walk.
-/
namespace CV.C01.Pipeline
open CV

/-! ## interpolation (Model/Interp.lean): a panic could only come from `template.Substitute`, which has none (C07) -/

theorem interp_leaf_never_panics (c : Interp.Cfg) (p : TPath) (s : String) (site : String) :
    Interp.leaf c p s ≠ .panic site := by
  unfold Interp.leaf
  split
  · next h => exact absurd (CV.Template.subst_eq_run _ _ ▸ h) (CV.Template.run_ne_panic _ _ _)
  · next h => exact absurd (CV.Template.subst_eq_run _ _ ▸ h) (CV.Template.run_ne_panic _ _ _)
  · nofun
  · nofun
  · split
    · nofun
    · split <;> nofun

theorem interp_never_panics₃ (c : Interp.Cfg) :
    (∀ (v : Val) (p : TPath) (site : String), Interp.interp c p v ≠ .panic site) ∧
    (∀ (kvs : List (String × Val)) (p : TPath) (site : String), Interp.interpKVs c p kvs ≠ .panic site) ∧
    (∀ (xs : List Val) (p : TPath) (site : String), Interp.interpList c p xs ≠ .panic site) := by
  apply Val.induct₃
  case null | bool | int | float => intros; nofun
  case str => intro s p site; exact interp_leaf_never_panics c p s site
  case seq | map =>
    intro _ ih p site e
    simp only [Interp.interp] at e
    split at e <;> cases e
    exact ih p _ ‹_›
  case nil | nil' => intros; nofun
  case cons | cons' =>
    intros; rename_i ihv ihr p site; intro e
    simp only [Interp.interpKVs, Interp.interpList] at e
    split at e
    · split at e <;> cases e
      exact ihr p _ ‹_›
    · cases e
    · exact ihv _ _ ‹_›

theorem interp_never_panics (c : Interp.Cfg) : ∀ (v : Val) (p : TPath) (site : String), Interp.interp c p v ≠ .panic site :=
  (interp_never_panics₃ c).1
theorem interpKVs_never_panics (c : Interp.Cfg) : ∀ (kvs : List (String × Val)) (p : TPath) (site : String),
    Interp.interpKVs c p kvs ≠ .panic site :=
  (interp_never_panics₃ c).2.1
theorem interpList_never_panics (c : Interp.Cfg) : ∀ (xs : List Val) (p : TPath) (site : String),
    Interp.interpList c p xs ≠ .panic site :=
  (interp_never_panics₃ c).2.2

/-! ## `transform.SetDefaultValues` (Model/C11Defaults.lean): the four handlers answer ok or err -/

theorem applyHandler_never_panics (h : String) (v : Val) (site : String) : C11.applyHandler h v ≠ .panic site :=
  C11.applyHandler_cases (fun f => ∀ v, f v ≠ .panic site) (fun v => by cases v <;> nofun) (fun v => by cases v <;> nofun)
    (fun v => by cases v <;> nofun) (fun v => by cases v <;> nofun) (fun _ _ => nofun) h v

theorem setDefaults_never_panics₃ (tbl : List (List String × String)) :
    (∀ (v : Val) (p : TPath) (site : String), C11.setDefaults tbl p v ≠ .panic site) ∧
    (∀ (kvs : List (String × Val)) (p : TPath) (site : String), C11.setDefaultsKVs tbl p kvs ≠ .panic site) ∧
    (∀ (xs : List Val) (p : TPath) (site : String), C11.setDefaultsList tbl p xs ≠ .panic site) := by
  apply Val.induct₃
  case null | bool | int | float | str =>
    intros; unfold C11.setDefaults; split; exact applyHandler_never_panics _ _ _; nofun
  case seq | map =>
    intro _ ih p site e
    unfold C11.setDefaults at e
    split at e
    · exact applyHandler_never_panics _ _ _ e
    · simp only at e
      split at e <;> cases e
      exact ih p _ ‹_›
  case nil | nil' => intros; nofun
  case cons | cons' =>
    intros; rename_i ihv ihr p site; intro e
    simp only [C11.setDefaultsKVs, C11.setDefaultsList] at e
    split at e
    · split at e <;> cases e
      exact ihr p _ ‹_›
    · cases e
    · exact ihv _ _ ‹_›

theorem setDefaults_never_panics (tbl : List (List String × String)) : ∀ (v : Val) (p : TPath) (site : String),
    C11.setDefaults tbl p v ≠ .panic site :=
  (setDefaults_never_panics₃ tbl).1
theorem setDefaultsKVs_never_panics (tbl : List (List String × String)) : ∀ (kvs : List (String × Val)) (p : TPath) (site : String),
    C11.setDefaultsKVs tbl p kvs ≠ .panic site :=
  (setDefaults_never_panics₃ tbl).2.1
theorem setDefaultsList_never_panics (tbl : List (List String × String)) : ∀ (xs : List Val) (p : TPath) (site : String),
    C11.setDefaultsList tbl p xs ≠ .panic site :=
  (setDefaults_never_panics₃ tbl).2.2

/-! ## `transform.Canonical` (Model/ShortTransform.lean): no panic outcome on any tree -/

/-- no panic outcome -/
def OnlyKV {α : Type} (o : Short.Out α) : Prop := ∀ s, o = .panic s → False

theorem onlyKV_ok {α : Type} (a : α) : OnlyKV (Short.Out.ok a) := nofun
theorem onlyKV_err {α : Type} (e : String) : OnlyKV (Short.Out.err e : Short.Out α) := nofun

theorem ite_onlyKV {α : Type} {c : Prop} [Decidable c] {a b : Short.Out α} (ha : OnlyKV a) (hb : OnlyKV b) :
    OnlyKV (if c then a else b) := by
  split
  · exact ha
  · exact hb

/-! the list loops of the handlers: an item of the expected kind continues the loop, any other ends it with an `err` -/

theorem portEntries_np (ign : Bool) (l : List Val) : ∀ (acc : List Val) (s : String), Short.portEntries ign l acc ≠ some (.panic s) := by
  induction l with
  | nil => nofun
  | cons x r ih =>
    intro acc s e
    cases x <;> unfold Short.portEntries at e <;> first | cases e | skip
    -- left: the heads that continue the loop (`int`, `str`, `map`)
    · split at e
      · cases e
      · exact ih _ _ e
    · split at e
      · split at e <;> cases e
      · exact ih _ _ e
    · exact ih _ _ e

theorem dependsMap_np (m : Val.KVs) (s : String) : Short.dependsMap m ≠ .panic s := by
  induction m with
  | nil => nofun
  | cons kv r ih =>
    obtain ⟨k, v⟩ := kv
    intro e
    cases v <;> unfold Short.dependsMap at e <;> first | cases e | skip
    -- left: a `map` value, the only one that continues the loop
    split at e
    · cases e
    · exact ih e

theorem dependsList_np (l : List Val) : ∀ (acc : Val.KVs) (s : String), Short.dependsList l acc ≠ .panic s := by
  induction l with
  | nil => nofun
  | cons x r ih =>
    intro acc s e
    cases x <;> unfold Short.dependsList at e <;> first | cases e | exact ih _ _ e

theorem networksList_np (l : List Val) : ∀ (acc : Val.KVs) (s : String), Short.networksList l acc ≠ .panic s := by
  induction l with
  | nil => nofun
  | cons x r ih =>
    intro acc s e
    cases x <;> unfold Short.networksList at e <;> first | cases e | exact ih _ _ e

theorem sshList_np (l : List Val) : ∀ (acc : Val.KVs) (s : String), Short.sshList l acc ≠ .panic s := by
  induction l with
  | nil => nofun
  | cons x r ih =>
    intro acc s e
    cases x <;> unfold Short.sshList at e <;> first | cases e | skip
    -- left: a `str` head
    split at e
    · split at e
      · exact ih _ _ e
      · cases e
    · exact ih _ _ e

theorem kvList_np (ign : Bool) (l : List Val) : ∀ (acc : Val.KVs) (s : String), Short.kvList ign l acc ≠ some (.panic s) := by
  induction l with
  | nil => nofun
  | cons x r ih =>
    intro acc s e
    cases x <;> unfold Short.kvList at e <;> first | cases e | skip
    -- left: a `str` head
    split at e
    · split at e <;> cases e
    · exact ih _ _ e

theorem transformPorts_np (ign : Bool) (v : Val) (s : String) : Short.transformPorts ign v ≠ .panic s := by
  intro e
  unfold Short.transformPorts at e
  split at e
  · split at e
    · cases e
    · cases e
    · cases e
    · next hp => exact portEntries_np ign _ [] _ hp
  · cases e

theorem transformKeyValue_np (ign : Bool) (v : Val) (s : String) : Short.transformKeyValue ign v ≠ .panic s := by
  intro e
  unfold Short.transformKeyValue at e
  split at e
  · cases e
  · split at e
    · cases e
    · cases e
    · cases e
    · next hk => exact kvList_np ign _ [] _ hk
  · cases e

theorem transformStringOrList_np (v : Val) (s : String) : Short.transformStringOrList v ≠ .panic s := by
  cases v <;> simp [Short.transformStringOrList]
theorem transformFileMount_np (v : Val) (s : String) : Short.transformFileMount v ≠ .panic s := by
  cases v <;> simp [Short.transformFileMount]
theorem transformInclude_np (v : Val) (s : String) : Short.transformInclude v ≠ .panic s := by
  cases v <;> simp [Short.transformInclude]
theorem transformUlimits_np (v : Val) (s : String) : Short.transformUlimits v ≠ .panic s := by
  cases v <;> simp [Short.transformUlimits]
theorem transformEnvFile_np (v : Val) (s : String) : Short.transformEnvFile v ≠ .panic s := by
  cases v <;> nofun
/-! the next two handlers, and `externalFix` below, are nests of `match` / `if` in whose branches no `.panic` occurs: every
branch is split open and closed by `cases` -/

theorem transformVolumeMount_np (ign : Bool) (v : Val) (s : String) : Short.transformVolumeMount ign v ≠ .panic s := by
  intro h
  unfold Short.transformVolumeMount at h
  repeat' split at h
  all_goals cases h
theorem transformDeviceMapping_np (ign : Bool) (v : Val) (s : String) : Short.transformDeviceMapping ign v ≠ .panic s := by
  intro h
  unfold Short.transformDeviceMapping at h
  repeat' split at h
  all_goals cases h
theorem transformDependsOn_np (v : Val) (s : String) : Short.transformDependsOn v ≠ .panic s := by
  intro h
  unfold Short.transformDependsOn at h
  split at h
  · split at h
    · cases h
    · cases h
    · next hm => exact dependsMap_np _ _ hm
  · split at h
    · cases h
    · cases h
    · next hm => exact dependsList_np _ [] _ hm
  · cases h
theorem transformServiceNetworks_np (v : Val) (s : String) : Short.transformServiceNetworks v ≠ .panic s := by
  intro h
  unfold Short.transformServiceNetworks at h
  split at h
  · split at h
    · cases h
    · cases h
    · next hm => exact networksList_np _ [] _ hm
  · cases h
theorem transformSSH_np (v : Val) (s : String) : Short.transformSSH v ≠ .panic s := by
  intro h
  unfold Short.transformSSH at h
  split at h
  · cases h
  · split at h
    · cases h
    · cases h
    · next hm => exact sshList_np _ [] _ hm
  · cases h

theorem externalFix_np (res : Val.KVs) (s : String) : Short.externalFix res ≠ .panic s := by
  intro h
  unfold Short.externalFix at h
  repeat' split at h
  all_goals cases h

theorem postMap_np (h : Option String) (r : Val.KVs) (s : String) : Short.postMap h r ≠ .panic s := by
  intro e
  unfold Short.postMap at e
  split at e
  · unfold Short.bindOut at e
    split at e
    · cases e
    · cases e
    · next he => exact externalFix_np r _ he
  · cases e

theorem leaf_onlyKV (h : Option String) (ign : Bool) (v : Val) : OnlyKV (Short.leaf h ign v) := by
  cases h with
  | none => exact onlyKV_ok _
  | some h =>
    -- one `ite_onlyKV` per handler name, in the order of `Short.leaf`
    exact ite_onlyKV (onlyKV_ok _) <|
      ite_onlyKV (by cases v <;> nofun) <|
      ite_onlyKV (by cases v <;> nofun) <|
      ite_onlyKV (by cases v <;> nofun) <|
      ite_onlyKV (transformFileMount_np _) <|
      ite_onlyKV (transformKeyValue_np _ _) <|
      ite_onlyKV (transformDependsOn_np _) <|
      ite_onlyKV (transformEnvFile_np _) <|
      ite_onlyKV (transformServiceNetworks_np _) <|
      ite_onlyKV (transformVolumeMount_np _ _) <|
      ite_onlyKV (transformStringOrList_np _) <|
      ite_onlyKV (transformDeviceMapping_np _ _) <|
      ite_onlyKV (transformPorts_np _ _) <|
      ite_onlyKV (transformSSH_np _) <|
      ite_onlyKV (transformUlimits_np _) <|
      ite_onlyKV (transformInclude_np _) (onlyKV_err _)

theorem transform_onlyKV₃ (ign : Bool) :
    (∀ (v : Val) (p : TPath), OnlyKV (Short.transform ign p v)) ∧
    (∀ (m : Val.KVs) (p : TPath), OnlyKV (Short.transformKVs ign p m)) ∧
    (∀ (l : List Val) (p : TPath), OnlyKV (Short.transformSeq ign p l)) := by
  apply Val.induct₃
  case null | bool | int | float | str => intros; unfold Short.transform; exact leaf_onlyKV _ _ _
  case seq | map =>
    intro _ ih p
    unfold Short.transform
    split
    · intro s e
      unfold Short.bindOut at e
      split at e
      · first | cases e | exact postMap_np _ _ _ e
      · cases e
      · exact ih p _ ‹_›
    · exact leaf_onlyKV _ _ _
  case nil | nil' => intros; nofun
  case cons | cons' =>
    intros; rename_i ihv ihr p; intro s he
    simp only [Short.transformKVs, Short.transformSeq] at he
    split at he
    · split at he <;> cases he
      exact ihr p _ ‹_›
    · cases he
    · exact ihv _ _ ‹_›

theorem transform_onlyKV (ign : Bool) : ∀ (v : Val) (p : TPath), OnlyKV (Short.transform ign p v) :=
  (transform_onlyKV₃ ign).1
theorem transformKVs_onlyKV (ign : Bool) : ∀ (m : Val.KVs) (p : TPath), OnlyKV (Short.transformKVs ign p m) :=
  (transform_onlyKV₃ ign).2.1
theorem transformSeq_onlyKV (ign : Bool) : ∀ (l : List Val) (p : TPath), OnlyKV (Short.transformSeq ign p l) :=
  (transform_onlyKV₃ ign).2.2

/-! ## `validation.Validate` (Model/Validate.lean): its only panic sites are the three unchecked assertions that
`Props/C01Sites.lean` marks `schema` (each with its `kindsAt` instance) -/

def validateSites : List String :=
  ["validation.init.checkFileObject", "validation.checkPath", "validation.checkDeviceRequest"]

theorem checkExternal_np (kvs : Val.KVs) (s : String) : Validate.checkExternal kvs ≠ .panic s := by
  unfold Validate.checkExternal
  split
  · nofun
  · split
    · nofun
    · split <;> nofun
    · nofun

theorem run_panic_site (c : Validate.Checker) (v : Val) (s : String) (h : Validate.run c v = .panic s) :
    s ∈ validateSites := by
  have ite {c : Prop} [Decidable c] {a b : Validate.VOut} (ha : a ≠ .panic s) (hb : b ≠ .panic s) :
      (if c then a else b) ≠ .panic s := by split <;> assumption
  cases c with
  | volume => cases v <;> first | exact (checkExternal_np _ _ h).elim | cases h
  | fileObject keys =>
    cases v <;> try (cases h; exact .head _)
    exact absurd h (ite nofun (ite (ite nofun (ite nofun nofun)) nofun))
  | path =>
    cases v <;> try (cases h; exact .tail _ (.head _))
    exact absurd h (ite nofun nofun)
  | deviceRequest =>
    cases v <;> try (cases h; exact .tail _ (.tail _ (.head _)))
    exact absurd h (ite nofun nofun)

theorem runL_panic_site (c : Validate.Checker) (v : Val) (s : String) (h : Validate.VOut.panic s ∈ Validate.runL c v) :
    s ∈ validateSites := by
  unfold Validate.runL at h
  split at h
  · cases h
  · exact run_panic_site c v s (List.mem_singleton.mp h).symm

theorem failuresKVs_panic_site : ∀ (kvs : List (String × Val)) (p : TPath) (s : String),
    Validate.VOut.panic s ∈ Validate.failuresKVs p kvs → s ∈ validateSites := fun kvs p s h =>
  let ⟨c, w, ho⟩ := Validate.failuresKVs_sub p kvs _ h; runL_panic_site c w s ho

theorem failuresSeq_panic_site : ∀ (xs : List Val) (p : TPath) (s : String),
    Validate.VOut.panic s ∈ Validate.failuresSeq p xs → s ∈ validateSites := fun xs p s h =>
  let ⟨c, w, ho⟩ := Validate.failuresSeq_sub p xs _ h; runL_panic_site c w s ho

end CV.C01.Pipeline
