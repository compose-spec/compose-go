import ComposeVerif.Model.SchemaPaths
import ComposeVerif.Gen.Schema
/-!
What C01 asks of the regenerated `composeSchema` by evaluation, in ONE declaration: every walk passes the service node,
whose hundred-odd property names the kernel decodes once per declaration.  `Props/C01Schema`, `Props/C01Sites` and
`Neg/C01Schema` take their statements from the components.
-/
namespace CV.Schema
open CV CV.Gen

theorem composeSchema_evaluated :
    (kindsAt composeSchema ["services", "*", "network_mode"] = [.string] ∧
     kindsAt composeSchema ["services", "*", "ipc"] = [.string] ∧
     kindsAt composeSchema ["services", "*", "uts"] = [.string] ∧
     kindsAt composeSchema ["services", "*", "cgroup"] = [.string]) ∧
    (kindsAt composeSchema ["services", "*", "links", "[]"] = [.string] ∧
     kindsAt composeSchema ["services", "*", "volumes_from", "[]"] = [.string] ∧
     kindsAt composeSchema ["services", "*", "links"] = [.array] ∧
     kindsAt composeSchema ["services", "*", "volumes_from"] = [.array]) ∧
    (kindsAt composeSchema ["secrets", "*"] = [.object] ∧
     kindsAt composeSchema ["services", "*", "gpus", "[]"] = [.object]) ∧
    (kindsAt composeSchema ["services", "*", "deploy", "resources", "reservations", "devices", "[]"] = [.object] ∧
     kindsAt composeSchema ["configs", "*"] = [.object] ∧
     kindsAt composeSchema ["services", "*", "develop", "watch", "[]", "path"] = [.string]) ∧
    Ty.null ∈ kindsAt composeSchema ["services", "*", "pid"] ∧
    conforms composeSchema (.map [("services", .map [("a", .map [("image", .str "x"), ("pid", .null)])])]) = true := by
  decide +kernel

end CV.Schema
