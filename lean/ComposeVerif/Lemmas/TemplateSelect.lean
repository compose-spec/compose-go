import ComposeVerif.Lemmas.TemplateMatch
/-!
# The choice of the operator in the `template.Substitute` model

`selectOp` (`getSubstitutionFunctionForTemplate`: the operator whose first occurrence is earliest) and `cut` on
`pre ++ op ++ X` where `pre` holds no operator character — in particular a name.
-/
namespace CV.Template

/-- the fold of `getSubstitutionFunctionForTemplate` returns the operator whose index is strictly the least.
    Invariant: the accumulator already is `(i, o)`, or `o` is still to come and the accumulator holds nothing or a
    larger index -/
theorem foldl_pick (s : Str) (o : Op) (i : Nat) (ho : indexOf o.str s = some i) (l : List Op)
    (hl : ∀ p ∈ l, p ≠ o → ∀ j, indexOf p.str s = some j → i < j) (acc : Option (Nat × Op))
    (hacc : acc = some (i, o) ∨ (o ∈ l ∧ (acc = none ∨ ∃ j p, acc = some (j, p) ∧ i < j))) :
    l.foldl (pickEarlier s) acc = some (i, o) := by
  induction l generalizing acc with
  | nil =>
    rcases hacc with h | ⟨h, _⟩
    · exact h
    · cases h
  | cons p l ih =>
    refine ih (fun p' hq => hl p' (List.mem_cons_of_mem _ hq)) _ ?_
    unfold pickEarlier
    by_cases hp : p = o
    · subst hp
      rw [ho]
      rcases hacc with rfl | ⟨_, rfl | ⟨j, p', rfl, hj⟩⟩
      · exact Or.inl (if_neg (Nat.lt_irrefl _))
      · exact Or.inl rfl
      · exact Or.inl (if_pos hj)
    · have hmem : o ∈ p :: l → o ∈ l := fun h => (List.mem_cons.1 h).resolve_left (Ne.symm hp)
      cases hj : indexOf p.str s with
      | none => exact hacc.imp_right fun h => ⟨hmem h.1, h.2⟩
      | some j' =>
        have hij := hl p (List.mem_cons_self ..) hp j' hj
        rcases hacc with rfl | ⟨hm, rfl | ⟨j, p', rfl, hj⟩⟩
        · exact Or.inl (if_neg (Nat.lt_asymm hij))
        · exact Or.inr ⟨hmem hm, Or.inr ⟨j', p, rfl, hij⟩⟩
        · refine Or.inr ⟨hmem hm, Or.inr ?_⟩
          dsimp only
          split
          · exact ⟨j', p, rfl, hij⟩
          · exact ⟨j, p', rfl, hj⟩

theorem selectOp_of_min (s : Str) (o : Op) (i : Nat) (ho : indexOf o.str s = some i)
    (hl : ∀ p, p ≠ o → ∀ j, indexOf p.str s = some j → i < j) : selectOp s = o := by
  rw [selectOp, foldl_pick s o i ho opTable (fun p _ => hl p) none
    (Or.inr ⟨by cases o <;> decide, Or.inl rfl⟩)]

theorem op_head : (p : Op) → ∃ p0 pt, p.str = p0 :: pt ∧ ∀ c, c ≠ ':' ∧ c ≠ '-' ∧ c ≠ '+' ∧ c ≠ '?' → c ≠ p0
  | .colonQ | .colonDash | .colonPlus => ⟨_, _, rfl, fun _ h => h.1⟩
  | .dash => ⟨_, _, rfl, fun _ h => h.2.1⟩
  | .plus => ⟨_, _, rfl, fun _ h => h.2.2.1⟩
  | .q => ⟨_, _, rfl, fun _ h => h.2.2.2⟩

theorem op_not_prefix (o p : Op) (h : p ≠ o) (X : Str) : p.str.isPrefixOf (o.str ++ X) = false := by
  cases o <;> cases p <;> first | exact absurd rfl h | rfl

theorem indexOf_op_render (pre : Str) (o p : Op) (X : Str)
    (hpre : ∀ c ∈ pre, c ≠ ':' ∧ c ≠ '-' ∧ c ≠ '+' ∧ c ≠ '?') :
    (p = o → indexOf p.str (pre ++ (o.str ++ X)) = some pre.length) ∧
    (p ≠ o → ∀ j, indexOf p.str (pre ++ (o.str ++ X)) = some j → pre.length < j) := by
  obtain ⟨p0, pt, hp, hp0⟩ := op_head p
  have hpre0 : ∀ c ∈ pre, c ≠ p0 := fun c hc => hp0 c (hpre c hc)
  constructor
  · rintro rfl
    rw [hp]; exact Scan.indexOf_first p0 pt pre X hpre0
  · intro h j hj
    obtain ⟨c, cs, hcs⟩ : ∃ c cs, o.str ++ X = c :: cs := by cases o <;> exact ⟨_, _, rfl⟩
    rw [hp, indexOf, Scan.indexOfGo_skip _ _ _ _ _ hpre0, Nat.zero_add, ← hp, hcs, indexOfGo, ← hcs,
      if_neg (by rw [op_not_prefix o p h X]; decide)] at hj
    exact Scan.indexOfGo_ge _ _ _ _ hj

theorem selectOp_render (pre : Str) (o : Op) (X : Str)
    (hpre : ∀ c ∈ pre, c ≠ ':' ∧ c ≠ '-' ∧ c ≠ '+' ∧ c ≠ '?') : selectOp (pre ++ (o.str ++ X)) = o :=
  selectOp_of_min _ o pre.length ((indexOf_op_render pre o o X hpre).1 rfl)
    (fun p hp => (indexOf_op_render pre o p X hpre).2 hp)

theorem cut_op_render (pre : Str) (o : Op) (X : Str)
    (hpre : ∀ c ∈ pre, c ≠ ':' ∧ c ≠ '-' ∧ c ≠ '+' ∧ c ≠ '?') :
    cut o.str (pre ++ (o.str ++ X)) = (pre, X) ∧ containsStr o.str (pre ++ (o.str ++ X)) = true := by
  obtain ⟨p0, pt, hp, hp0⟩ := op_head o
  have hpre0 : ∀ c ∈ pre, c ≠ p0 := fun c hc => hp0 c (hpre c hc)
  rw [containsStr, hp]
  exact ⟨Scan.cut_first p0 pt pre X hpre0, by rw [List.cons_append, Scan.indexOf_first p0 pt pre X hpre0]; rfl⟩

theorem noOpChar_name {n : Str} (hall : ∀ x ∈ n, isNameChar x = true) :
    ∀ c ∈ n, c ≠ ':' ∧ c ≠ '-' ∧ c ≠ '+' ∧ c ≠ '?' :=
  fun c hc => ⟨nameChar_ne (hall c hc) rfl, nameChar_ne (hall c hc) rfl, nameChar_ne (hall c hc) rfl,
    nameChar_ne (hall c hc) rfl⟩

theorem containsStr_name (o : Op) (n : Str) (hall : ∀ x ∈ n, isNameChar x = true) : containsStr o.str n = false := by
  obtain ⟨p0, pt, hp, hp0⟩ := op_head o
  rw [hp, containsStr, Scan.indexOf_none _ _ _ fun c hc => hp0 c (noOpChar_name hall c hc)]
  rfl

end CV.Template
