import ComposeVerif.Lemmas.ExtendsStep
import ComposeVerif.Lemmas.ExtendsEnv
import ComposeVerif.Lemmas.KVs
/-!
# The graph of `extends` links

Everything here is about the specification side alone — one link (`Ext`, defined in `Lemmas/ExtendsStep.lean`),
`Link`/`Reach`/`Cyclic`, the three descriptions of a finite chain (`Flat`: its value; `Chain`/`foldChain`: its elements and the
base-first fold; `FlatK`: its value with the tracker keys) and the three fuelled walkers (`flattenF`, `walkChain`, `stuckClass`,
each with its equation at a link `…_of_ext`) — and never mentions `applySvc`.  A node has at most one successor
(`Ext.functional`), so its chain either ends at a service without `extends`, breaks at a link that cannot be followed, or
never ends; `walkChain` says which, and the exclusion facts (`Flat.not_cyclic`, `Chain.not_cyclic`) are read off it.
-/
namespace CV.Extends
open CV CV.Val

variable {E : Env} {S S' S0 orig cur svcs svc : KVs} {n n' ref cf : String} {file : Option String} {v v' : Val}
  {tr : List Key} {ks : List Key}

theorem lookup_insert_self (k : String) (v : Val) (m : KVs) : lookup k (Val.insert k v m) = some v :=
  Val.lookup_insert_self k v m

theorem lookup_insert_ne {k k' : String} (v : Val) (m : KVs) (h : k ≠ k') :
    lookup k (Val.insert k' v m) = lookup k m :=
  Val.lookup_insert_ne h v m

theorem Ext.link (h : Ext E S n svc ref file S') : Link E (S, n) (S', ref) :=
  let ⟨h1, ⟨e, h2, h3⟩, h4⟩ := h
  ⟨svc, e, file, h1, h2, h3, h4⟩

theorem Link.ext {a b : KVs × String} (h : Link E a b) : ∃ svc file, Ext E a.1 a.2 svc b.2 file b.1 :=
  let ⟨svc, e, file, h1, h2, h3, h4⟩ := h
  ⟨svc, file, h1, ⟨e, h2, h3⟩, h4⟩

theorem Ext.ref_mem (h : Ext E S n svc ref file S') : lookup ref S' ≠ none := by
  cases file with
  | none => exact (baseMap_none.mp h.2.2).1 ▸ (baseMap_none.mp h.2.2).2
  | some f => exact (baseMap_some.mp h.2.2).2

theorem Ext.functional {S₁ S₂ svc₁ svc₂ : KVs} {ref₁ ref₂ : String} {file₁ file₂ : Option String}
    (h : Ext E S n svc₁ ref₁ file₁ S₁) (h' : Ext E S n svc₂ ref₂ file₂ S₂) :
    svc₁ = svc₂ ∧ ref₁ = ref₂ ∧ file₁ = file₂ ∧ S₁ = S₂ := by
  obtain ⟨h1, ⟨e, h2, h3⟩, h4⟩ := h
  obtain ⟨g1, ⟨e', g2, g3⟩, g4⟩ := h'
  cases h1.symm.trans g1
  cases h2.symm.trans g2
  cases h3.symm.trans g3
  cases h4.symm.trans g4
  exact ⟨rfl, rfl, rfl, rfl⟩

theorem Ext.not_leaf {svc' : KVs}
    (h : Ext E S n svc ref file S') (h1 : lookup n S = some (.map svc')) (h2 : lookup "extends" svc' = none) : False := by
  obtain ⟨g1, ⟨e, g2, _⟩, _⟩ := h
  cases h1.symm.trans g1
  cases h2.symm.trans g2

theorem Flat.step' {b m : KVs}
    (h : Ext E S n svc ref file S') (hb : Flat E S' ref (.map b)) (hm : E.extend b svc = .ok m) :
    Flat E S n (.map (erase "extends" m)) :=
  let ⟨h1, ⟨_, h2, h3⟩, h4⟩ := h
  Flat.step h1 h2 h3 h4 hb hm

theorem Flat.shape (h : Flat E S n v) :
    ∃ m, v = .map m ∧ lookup "extends" m = none := by
  cases h with
  | leaf h1 h2 => exact ⟨_, rfl, h2⟩
  | step => exact ⟨_, rfl, lookup_erase_self _ _⟩

theorem Flat.has_key (h : Flat E S n v) :
    ∃ svc, lookup n S = some (.map svc) := by
  cases h with
  | leaf h1 h2 => exact ⟨_, h1⟩
  | step h1 => exact ⟨_, h1⟩

theorem Flat.of_ext (h : Flat E S n v) (hx : Ext E S n svc ref file S') :
    ∃ b m, Flat E S' ref (.map b) ∧ E.extend b svc = .ok m ∧ v = .map (erase "extends" m) := by
  cases h with
  | leaf h1 h2 => exact (hx.not_leaf h1 h2).elim
  | step h1 h2 h3 h4 h5 h6 =>
    obtain ⟨rfl, rfl, rfl, rfl⟩ := hx.functional ⟨h1, ⟨_, h2, h3⟩, h4⟩
    exact ⟨_, _, h5, h6, rfl⟩

theorem Flat.functional {E : Env} {S : KVs} {n : String} {v v' : Val}
    (h : Flat E S n v) (h' : Flat E S n v') : v = v' := by
  induction h generalizing v' with
  | leaf h1 h2 =>
    cases h' with
    | leaf g1 g2 => cases h1.symm.trans g1; rfl
    | step g1 g2 g3 g4 => exact (Ext.not_leaf ⟨g1, ⟨_, g2, g3⟩, g4⟩ h1 h2).elim
  | step h1 h2 h3 h4 _ h6 ih =>
    obtain ⟨b, m, g5, g6, rfl⟩ := h'.of_ext ⟨h1, ⟨_, h2, h3⟩, h4⟩
    cases ih g5
    cases h6.symm.trans g6
    rfl

theorem Ext.noNull (h : Ext E S n svc ref file S')
    (hnn : NoNull S) (hfs : NoNullFS E) : NoNull S' := by
  cases file with
  | none => exact (baseMap_none.mp h.2.2).1 ▸ hnn
  | some f => exact hfs f S' (baseMap_some.mp h.2.2).1

theorem Flat.congr {E : Env} {S : KVs} {n : String} {v : Val} (h : Flat E S n v) :
    ∀ T, (∀ k, lookup k T = lookup k S) → Flat E T n v := by
  induction h with
  | leaf h1 h2 => intro T hT; exact Flat.leaf (by rw [hT]; exact h1) h2
  | step h1 h2 h3 h4 h5 h6 ih =>
    rename_i S n svc e ref file S' b m
    intro T hT
    cases file with
    | none =>
      obtain ⟨rfl, href⟩ := baseMap_none.mp h4
      exact Flat.step (by rw [hT]; exact h1) h2 h3 (baseMap_none.mpr ⟨rfl, by rw [hT]; exact href⟩) (ih T hT) h6
    | some f => exact Flat.step (by rw [hT]; exact h1) h2 h3 h4 (ih S' (fun _ => rfl)) h6

theorem Flat.base_exists {E : Env} {S svc : KVs} {n ref : String} {file : Option String} {e v : Val}
    (hf : Flat E S n v) (h1 : lookup n S = some (.map svc)) (h2 : lookup "extends" svc = some e)
    (h3 : parseExtends e = .ok (ref, file)) : ∃ S', baseMap E S ref file = some S' := by
  cases hf with
  | leaf g1 g2 => cases h1.symm.trans g1; cases h2.symm.trans g2
  | step g1 g2 g3 g4 =>
    cases h1.symm.trans g1; cases h2.symm.trans g2; cases h3.symm.trans g3
    exact ⟨_, g4⟩

theorem Link.functional {E : Env} {a b b' : KVs × String} (h : Link E a b) (h' : Link E a b') : b = b' := by
  obtain ⟨_, _, hx⟩ := h.ext
  obtain ⟨_, _, hx'⟩ := h'.ext
  obtain ⟨_, e2, _, e4⟩ := hx.functional hx'
  exact Prod.ext e4 e2

theorem Reach.head {a c : KVs × String} (h : Reach E a c) :
    ∃ b, Link E a b ∧ (b = c ∨ Reach E b c) := by
  cases h with
  | one l => exact ⟨_, l, Or.inl rfl⟩
  | cons l r => exact ⟨_, l, Or.inr r⟩

theorem Reach.snoc {a b c : KVs × String} (h : Reach E a b) (l : Link E b c) : Reach E a c := by
  induction h with
  | one l' => exact Reach.cons l' (Reach.one l)
  | cons l' _ ih => exact Reach.cons l' (ih l)

theorem Cyclic.link {a : KVs × String} (h : Cyclic E a) : ∃ b, Link E a b ∧ Cyclic E b := by
  rcases h with h | ⟨c, h1, h2⟩
  · obtain ⟨b, l, hb⟩ := h.head
    rcases hb with hb | hb
    · subst hb; exact ⟨b, l, Or.inl h⟩
    · exact ⟨b, l, Or.inl (hb.snoc l)⟩
  · obtain ⟨b, l, hb⟩ := h1.head
    rcases hb with hb | hb
    · subst hb; exact ⟨b, l, Or.inl h2⟩
    · exact ⟨b, l, Or.inr ⟨c, hb, h2⟩⟩

theorem Cyclic.of_link {a b : KVs × String} (l : Link E a b) (h : Cyclic E b) : Cyclic E a := by
  rcases h with h | ⟨c, h1, h2⟩
  · exact Or.inr ⟨b, Reach.one l, h⟩
  · exact Or.inr ⟨c, Reach.cons l h1, h2⟩

theorem flattenF_of_ext (h : Ext E S n svc ref file S') (fuel : Nat) :
    flattenF E (fuel + 1) S n =
      match flattenF E fuel S' ref with
      | .ok (.map b) =>
        (match E.extend b svc with
        | .ok m => .ok (.map (erase "extends" m))
        | .err c => .err c
        | .panic s => .panic s)
      | .ok _ => .err "flatten:base-not-a-mapping"
      | .err c => .err c
      | .panic s => .panic s := by
  obtain ⟨h1, ⟨e, h2, h3⟩, h4⟩ := h
  simp only [flattenF, h1, h2, h3, h4]
  generalize flattenF E fuel S' ref = r
  cases r with
  | ok v => cases v <;> rfl
  | err c => rfl
  | panic s => rfl

theorem flattenF_sound (E : Env) : ∀ (fuel : Nat) (S : KVs) (n : String) (v : Val),
    flattenF E fuel S n = .ok v → Flat E S n v := by
  intro fuel
  induction fuel with
  | zero => intro S n v h; simp [flattenF] at h
  | succ fuel ih =>
    intro S n v h
    simp only [flattenF] at h
    split at h <;> try cases h
    rename_i svc hsvc
    split at h
    · simp only [Out.ok.injEq] at h; subst h; exact Flat.leaf hsvc (by assumption)
    · rename_i e he
      split at h <;> try cases h
      rename_i ref file hp
      split at h <;> try cases h
      rename_i S' hb
      split at h <;> try cases h
      rename_i b hrec
      split at h <;> try cases h
      rename_i m hm
      exact Flat.step hsvc he hp hb (ih S' ref _ hrec) hm

theorem flattenF_complete (E : Env) (h : Flat E S n v) :
    ∃ fuel, flattenF E fuel S n = .ok v := by
  induction h with
  | leaf h1 h2 => exact ⟨1, by simp [flattenF, h1, h2]⟩
  | step h1 h2 h3 h4 h5 h6 ih =>
    obtain ⟨fuel, hf⟩ := ih
    exact ⟨fuel + 1, by rw [flattenF_of_ext ⟨h1, ⟨_, h2, h3⟩, h4⟩, hf]; simp only [h6]⟩

/-! ### Chains of arbitrary length: `Flat` is the base-first fold of the merge step along the chain

`Chain E cf S n links leaf`: starting at service `n` of mapping `S` (which lives in file `cf`), following `extends`
reaches — after `links.length` links, through any mixture of same-file and cross-file references — a service `leaf`
without `extends`.  `links` lists the extending services' own definitions, outermost (the target) first, each with the
file it was read from; `leaf` is the last base with its file.

`foldChain`: the base-first fold the property speaks of: start with the leaf, apply each extending service's own
attributes on top (innermost first), dropping `extends` after every step. -/

/-- one element of a chain: (file the service was read from, the service's name, its own definition) -/
abbrev ChainElt := String × String × KVs

inductive Chain (E : Env) : String → KVs → String → List ChainElt → ChainElt → Prop where
  | leaf {cf : String} {S : KVs} {n : String} {svc : KVs} :
      lookup n S = some (.map svc) → lookup "extends" svc = none → Chain E cf S n [] (cf, n, svc)
  | step {cf : String} {S : KVs} {n : String} {svc : KVs} {e : Val} {ref : String} {file : Option String}
      {S' : KVs} {links : List ChainElt} {leaf : ChainElt} :
      lookup n S = some (.map svc) → lookup "extends" svc = some e →
      parseExtends e = .ok (ref, file) → baseMap E S ref file = some S' →
      Chain E (nextFile cf file) S' ref links leaf →
      Chain E cf S n ((cf, n, svc) :: links) leaf

/-- base-first fold of the merge step: `links` outermost first, so the recursion reaches the leaf first -/
def foldChain (E : Env) (leaf : KVs) : List ChainElt → Out KVs
  | [] => .ok leaf
  | (_, _, svc) :: rest =>
    match foldChain E leaf rest with
    | .ok b =>
      (match E.extend b svc with
      | .ok m => .ok (Val.erase "extends" m)
      | .err c => .err c
      | .panic s => .panic s)
    | .err c => .err c
    | .panic s => .panic s

theorem Chain.functional {E : Env} {cf : String} {S : KVs} {n : String} {l l' : List ChainElt} {f f' : ChainElt}
    (h : Chain E cf S n l f) (h' : Chain E cf S n l' f') : l = l' ∧ f = f' := by
  induction h generalizing l' f' with
  | leaf h1 h2 =>
    cases h' with
    | leaf g1 g2 => cases h1.symm.trans g1; exact ⟨rfl, rfl⟩
    | step g1 g2 g3 g4 => exact (Ext.not_leaf ⟨g1, ⟨_, g2, g3⟩, g4⟩ h1 h2).elim
  | step h1 h2 h3 h4 h5 ih =>
    cases h' with
    | leaf g1 g2 => exact (Ext.not_leaf ⟨h1, ⟨_, h2, h3⟩, h4⟩ g1 g2).elim
    | step g1 g2 g3 g4 g5 =>
      obtain ⟨rfl, rfl, rfl, rfl⟩ := Ext.functional ⟨h1, ⟨_, h2, h3⟩, h4⟩ ⟨g1, ⟨_, g2, g3⟩, g4⟩
      obtain ⟨rfl, rfl⟩ := ih g5
      exact ⟨rfl, rfl⟩

theorem Flat.chain (h : Flat E S n v) :
    ∀ cf, ∃ links leaf m, Chain E cf S n links leaf ∧ foldChain E leaf.2.2 links = .ok m ∧ v = .map m := by
  induction h with
  | leaf h1 h2 =>
    intro cf
    exact ⟨[], _, _, Chain.leaf h1 h2, rfl, rfl⟩
  | step h1 h2 h3 h4 h5 h6 ih =>
    rename_i S n svc e ref file S' b m
    intro cf
    obtain ⟨links, leaf, mb, hc, hf, hv⟩ := ih (nextFile cf file)
    simp only [Val.map.injEq] at hv
    subst hv
    exact ⟨(cf, n, svc) :: links, leaf, _, Chain.step h1 h2 h3 h4 hc, by simp [foldChain, hf, h6], rfl⟩

theorem Chain.flat {links : List ChainElt} {leaf : ChainElt}
    (h : Chain E cf S n links leaf) : ∀ m, foldChain E leaf.2.2 links = .ok m → Flat E S n (.map m) := by
  induction h with
  | leaf h1 h2 =>
    intro m hm
    simp only [foldChain, Out.ok.injEq] at hm
    subst hm
    exact Flat.leaf h1 h2
  | step h1 h2 h3 h4 h5 ih =>
    intro m hm
    simp only [foldChain] at hm
    split at hm
    · rename_i b hb
      split at hm <;> try cases hm
      rename_i m' hm'
      exact Flat.step h1 h2 h3 h4 (ih b hb) hm'
    · cases hm
    · cases hm

theorem Chain.elt_source {links : List ChainElt} {leaf : ChainElt} (h : Chain E cf S n links leaf) :
    ∀ x ∈ links ++ [leaf], (x.1 = cf ∧ lookup x.2.1 S = some (.map x.2.2)) ∨
      (∃ S', fileServices E.fs x.1 = some S' ∧ lookup x.2.1 S' = some (.map x.2.2)) := by
  induction h with
  | leaf h1 h2 =>
    intro x hx
    simp only [List.nil_append, List.mem_singleton] at hx
    subst hx
    exact Or.inl ⟨rfl, h1⟩
  | step h1 h2 h3 h4 h5 ih =>
    rename_i cf S n svc e ref file S' links leaf
    intro x hx
    simp only [List.cons_append, List.mem_cons] at hx
    rcases hx with rfl | hx
    · exact Or.inl ⟨rfl, h1⟩
    · rcases ih x hx with ⟨a, b⟩ | hr
      · cases file with
        | none => exact Or.inl ⟨a, (baseMap_none.mp h4).1 ▸ b⟩
        | some f => exact Or.inr ⟨S', a ▸ (baseMap_some.mp h4).1, b⟩
      · exact Or.inr hr

/-! ### The link walk

`walkChain E fuel S n` follows the `extends` links from service `n` of mapping `S` — no merge, no tracker — and says
whether the chain ends at a service without `extends` (`leaf`), gets stuck (missing base / file, malformed reference,
not a mapping: `stuck`) or is still going after `fuel` links (`long`).  This is the classification the cycle oracle of
`c05.apply` uses on the specification side. -/

theorem walkChain_of_ext (h : Ext E S n svc ref file S') (fuel : Nat) :
    walkChain E (fuel + 1) S n = walkChain E fuel S' ref := by
  obtain ⟨h1, ⟨e, h2, h3⟩, h4⟩ := h
  simp only [walkChain, h1, h2, h3, h4]

theorem walkChain_succ_cases (E : Env) (fuel : Nat) (S : KVs) (n : String) :
    (∃ svc, lookup n S = some (.map svc) ∧ lookup "extends" svc = none ∧ walkChain E (fuel + 1) S n = .leaf) ∨
    (∃ svc ref file S', Ext E S n svc ref file S' ∧ walkChain E (fuel + 1) S n = walkChain E fuel S' ref) ∨
    walkChain E (fuel + 1) S n = .stuck := by
  simp only [walkChain]
  split
  · rename_i svc hsvc
    split
    · exact Or.inl ⟨svc, hsvc, ‹_›, rfl⟩
    · split
      · split
        · exact Or.inr (Or.inl ⟨svc, _, _, _, ⟨hsvc, ⟨_, ‹_›, ‹_›⟩, ‹_›⟩, rfl⟩)
        · exact Or.inr (Or.inr rfl)
      · exact Or.inr (Or.inr rfl)
  · exact Or.inr (Or.inr rfl)

theorem walkChain_cyclic (E : Env) : ∀ (fuel : Nat) (S : KVs) (n : String), Cyclic E (S, n) →
    walkChain E fuel S n = .long := by
  intro fuel
  induction fuel with
  | zero => intro S n _; rfl
  | succ fuel ih =>
    intro S n hc
    obtain ⟨⟨S', ref⟩, l, hcb⟩ := hc.link
    obtain ⟨svc, file, hx⟩ := l.ext
    rw [walkChain_of_ext hx]; exact ih S' ref hcb

theorem walkChain_leaf_chain (E : Env) : ∀ (fuel : Nat) (cf : String) (S : KVs) (n : String),
    walkChain E fuel S n = .leaf → ∃ links leaf, Chain E cf S n links leaf ∧ links.length < fuel := by
  intro fuel
  induction fuel with
  | zero => intro cf S n h; cases h
  | succ fuel ih =>
    intro cf S n h
    rcases walkChain_succ_cases E fuel S n with ⟨svc, h1, h2, _⟩ | ⟨svc, ref, file, S', ⟨h1, ⟨e, h2, h3⟩, h4⟩, h'⟩ | h'
    · exact ⟨[], _, Chain.leaf h1 h2, Nat.succ_pos _⟩
    · obtain ⟨links, leaf, hc, hl⟩ := ih (nextFile cf file) S' ref (h' ▸ h)
      exact ⟨_ :: links, leaf, Chain.step h1 h2 h3 h4 hc, Nat.succ_lt_succ hl⟩
    · rw [h'] at h; cases h

theorem Chain.walk {links : List ChainElt} {leaf : ChainElt} (h : Chain E cf S n links leaf) :
    ∀ fuel, walkChain E fuel S n = if links.length < fuel then .leaf else .long := by
  induction h with
  | leaf h1 h2 => intro fuel; cases fuel <;> simp [walkChain, h1, h2]
  | step h1 h2 h3 h4 _ ih =>
    intro fuel
    cases fuel with
    | zero => rfl
    | succ k => rw [walkChain_of_ext ⟨h1, ⟨_, h2, h3⟩, h4⟩, ih k]; simp [Nat.succ_lt_succ_iff]

theorem Chain.not_cyclic {links : List ChainElt} {leaf : ChainElt}
    (h : Chain E cf S n links leaf) : ¬ Cyclic E (S, n) := by
  intro hc
  have h1 := h.walk (links.length + 1)
  rw [walkChain_cyclic E _ S n hc, if_pos (Nat.lt_succ_self _)] at h1
  cases h1

/-- a flattened service has a chain; the link walk along a chain ends at a leaf, the walk from a cyclic node never ends -/
theorem Flat.not_cyclic (h : Flat E S n v) : ¬ Cyclic E (S, n) :=
  let ⟨_, _, _, hc, _⟩ := h.chain ""
  hc.not_cyclic

theorem Flat.acyclic {E : Env} {S : KVs} {n : String} {v : Val} (h : Flat E S n v) :
    ∀ c, (c = (S, n) ∨ Reach E (S, n) c) → ¬ Reach E c c :=
  fun c hc hcc => h.not_cyclic (hc.elim (fun e => .inl (e ▸ hcc)) fun hr => .inr ⟨c, hr, hcc⟩)

theorem stuckClass_of_ext
    (h : Ext E S n svc ref file S') (f : Nat) : stuckClass E (f + 1) S n = stuckClass E f S' ref := by
  obtain ⟨h1, ⟨e, h2, h3⟩, h4⟩ := h
  simp only [stuckClass, h1, h2, h3, resolveBase_of_baseMap h4]

theorem Flat.stuckClass_none (h : Flat E S n v) :
    ∀ fuel, stuckClass E fuel S n = none := by
  induction h with
  | leaf h1 h2 => intro fuel; cases fuel <;> simp only [stuckClass, h1, h2]
  | step h1 h2 h3 h4 h5 h6 ih =>
    intro fuel
    cases fuel with
    | zero => rfl
    | succ fuel => rw [stuckClass_of_ext ⟨h1, ⟨_, h2, h3⟩, h4⟩]; exact ih fuel

theorem Cyclic.stuckClass_none : ∀ (fuel : Nat) (S : KVs) (n : String), Cyclic E (S, n) →
    stuckClass E fuel S n = none := by
  intro fuel
  induction fuel with
  | zero => intro S n _; rfl
  | succ fuel ih =>
    intro S n hc
    obtain ⟨⟨S', ref⟩, l, hcb⟩ := hc.link
    obtain ⟨svc, file, hx⟩ := l.ext
    rw [stuckClass_of_ext hx]; exact ih S' ref hcb

/-- `Flat` for service `n` of file `cf`, together with the tracker keys `(current file, extending name)`
recorded along the chain (outermost first) -/
inductive FlatK (E : Env) : String → KVs → String → List Key → Val → Prop where
  | leaf {cf : String} {S : KVs} {n : String} {svc : KVs} :
      lookup n S = some (.map svc) → lookup "extends" svc = none → FlatK E cf S n [] (.map svc)
  | step {cf : String} {S : KVs} {n : String} {svc : KVs} {e : Val} {ref : String} {file : Option String}
      {S' b m : KVs} {ks : List Key} :
      lookup n S = some (.map svc) → lookup "extends" svc = some e →
      parseExtends e = .ok (ref, file) → baseMap E S ref file = some S' →
      FlatK E (nextFile cf file) S' ref ks (.map b) → E.extend b svc = .ok m →
      FlatK E cf S n ((cf, n) :: ks) (.map (Val.erase "extends" m))

theorem FlatK.flat (h : FlatK E cf S n ks v) : Flat E S n v := by
  induction h with
  | leaf h1 h2 => exact Flat.leaf h1 h2
  | step h1 h2 h3 h4 _ h6 ih => exact Flat.step h1 h2 h3 h4 ih h6

theorem FlatK.ext_flat {b m : KVs}
    (hx : Ext E S n svc ref file S') (hb : FlatK E (nextFile cf file) S' ref ks (.map b)) (hm : E.extend b svc = .ok m) :
    Flat E S n (.map (Val.erase "extends" m)) := Flat.step' hx hb.flat hm

theorem Flat.toK (h : Flat E S n v) :
    ∀ cf, ∃ ks, FlatK E cf S n ks v := by
  induction h with
  | leaf h1 h2 => intro cf; exact ⟨[], FlatK.leaf h1 h2⟩
  | step h1 h2 h3 h4 h5 h6 ih =>
    rename_i S n svc e ref file S' b m
    intro cf
    obtain ⟨ks, hk⟩ := ih (nextFile cf file)
    exact ⟨(cf, n) :: ks, FlatK.step h1 h2 h3 h4 hk h6⟩

end CV.Extends
