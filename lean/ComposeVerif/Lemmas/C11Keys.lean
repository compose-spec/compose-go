import ComposeVerif.Model.C11Keys
import ComposeVerif.Lemmas.C11Norm
/-! The de-duplication loop of `override.enforceUnicity` on a list (`uniqAcc` / `enforceSeq`): it commutes with any rewriting of the entries that keeps
their keys, it keeps distinct keys with every entry filed under its own key (`UniqInv`), so the keys of its result are all there and distinct
(`enforceSeq_ok_keys`). -/
namespace CV.C11
open CV CV.Val

theorem uniqAcc_commutes (key : Val → Out String) (f : Val → Val) (hk : ∀ x, key (f x) = key x)
    (xs : List Val) (acc : KVs) :
    uniqAcc key (xs.map f) (acc.map fun kv => (kv.1, f kv.2)) =
      (uniqAcc key xs acc).map fun a => a.map fun kv => (kv.1, f kv.2) := by
  induction xs generalizing acc with
  | nil => simp [uniqAcc, Out.map]
  | cons x r ih =>
    simp only [List.map_cons, uniqAcc, hk]
    cases key x with
    | ok k => exact (congrArg _ (mapAt_insert (fun _ => f) k x acc).symm).trans (ih _)
    | err e => simp [Out.map]
    | panic s => simp [Out.map]

/-- invariant of the de-duplication loop: distinct keys, and every kept entry is filed under its own key -/
def UniqInv (key : Val → Out String) (acc : KVs) : Prop :=
  (keys acc).Nodup ∧ ∀ kv ∈ acc, key kv.2 = .ok kv.1

theorem uniqAcc_inv (key : Val → Out String) : ∀ (xs : List Val) (acc acc' : KVs),
    UniqInv key acc → uniqAcc key xs acc = .ok acc' → UniqInv key acc'
  | [], acc, acc', hi, h => by simp only [uniqAcc, Out.ok.injEq] at h; rw [← h]; exact hi
  | x :: r, acc, acc', hi, h => by
    rw [uniqAcc] at h
    cases hk : key x with
    | ok k =>
      simp only [hk] at h
      refine uniqAcc_inv key r _ acc' ⟨CV.Val.nodup_insert hi.1, ?_⟩ h
      intro kv hkv
      rcases mem_insert hkv with e | e
      · rw [e]; exact hk
      · exact hi.2 kv e
    | err e => simp [hk] at h
    | panic s => simp [hk] at h

/-- the loop of `enforceUnicity` is `dst[key x] = x` over the entries, in order -/
theorem uniqAcc_eq (key : Val → Out String) : ∀ (ys : List Val) (ks : List String) (acc : KVs),
    ys.map key = ks.map Out.ok → uniqAcc key ys acc = .ok (Assoc.insertAll (ks.zip ys) acc)
  | [], [], _, _ => rfl
  | [], _ :: _, _, h => by simp at h
  | _ :: _, [], _, h => by simp at h
  | y :: r, k :: ks, acc, h => by
    simp only [List.map_cons, List.cons.injEq] at h
    rw [uniqAcc, h.1, List.zip_cons_cons, Assoc.insertAll_cons, ← Val.insert_eq]
    exact uniqAcc_eq key r ks _ h.2

theorem enforceSeq_ok_keys (key : Val → Out String) (xs ys : List Val) (h : enforceSeq key xs = .ok ys) :
    ∃ ks : List String, ys.map key = ks.map Out.ok ∧ ks.Nodup := by
  unfold enforceSeq at h
  cases ha : uniqAcc key xs [] with
  | ok acc =>
    simp only [ha, Out.map, Out.ok.injEq] at h
    have hi := uniqAcc_inv key xs [] acc ⟨by simp [keys], fun _ hx => by cases hx⟩ ha
    refine ⟨keys acc, ?_, hi.1⟩
    rw [← h, List.map_map]
    unfold keys
    rw [List.map_map]
    exact List.map_congr_left fun kv hkv => hi.2 kv hkv
  | err e => simp [ha, Out.map] at h
  | panic s => simp [ha, Out.map] at h

end CV.C11
