import ComposeVerif.Lemmas.C11Norm
/-! Idempotence of the pieces of the `Normalize` model: `resolve` (for an environment without a variable of empty name), the build section, the
attribute rewriters, and the loop body `normService` (its implied dependencies are stable: `impliedDeps_normService`). -/
namespace CV.C11
open CV CV.Val CV.C11.Spec

theorem resolveKVs_idem (env : Env) (keep : Bool) (m : KVs) :
    resolveKVs env keep (resolveKVs env keep m) = resolveKVs env keep m := by
  induction m with
  | nil => rfl
  | cons e r ih =>
    obtain ⟨k, v⟩ := e
    cases v with
    | null =>
      simp only [resolveKVs]
      cases h : envLookup env k with
      | some s => simp [resolveKVs, ih]
      | none =>
        cases keep with
        | true => simp [resolveKVs, h, ih]
        | false => simpa using ih
    | _ => simp [resolveKVs, ih]

theorem resolveStr_stable {env : Env} {keep : Bool} {s : String} {y : Val}
    (h : resolveStr env keep s = (y, true)) : ∃ t, y = .str t ∧ resolveStr env keep t = (.str t, true) := by
  unfold resolveStr at h
  cases hc : containsChar '=' s with
  | true =>
    simp only [hc, if_true, Prod.mk.injEq] at h
    refine ⟨s, h.1.symm, ?_⟩
    simp [resolveStr, hc]
  | false =>
    simp only [hc, Bool.false_eq_true, if_false] at h
    cases he : envLookup env s with
    | some v =>
      simp only [he, Prod.mk.injEq] at h
      refine ⟨s ++ "=" ++ v, h.1.symm, ?_⟩
      simp [resolveStr, containsChar, String.toList_append]
    | none =>
      simp only [he] at h
      cases keep with
      | true =>
        simp only [if_true, Prod.mk.injEq] at h
        refine ⟨s, h.1.symm, ?_⟩
        simp [resolveStr, hc, he]
      | false => simp at h

mutual
theorem resolve_stable (env : Env) (keep : Bool) :
    ∀ (x y : Val), resolve env keep x = (y, true) → resolve env keep y = (y, true)
  | .seq xs, y, h => by
    simp only [resolve, Prod.mk.injEq, and_true] at h
    subst h
    simp only [resolve, resolveList_idem env keep xs]
  | .map kvs, y, h => by
    simp only [resolve, Prod.mk.injEq, and_true] at h
    subst h
    simp only [resolve, resolveKVs_idem]
  | .str s, y, h => by
    simp only [resolve] at h
    obtain ⟨t, rfl, ht⟩ := resolveStr_stable h
    simpa [resolve] using ht
  | .null, y, h => by simp [resolve] at h
  | .bool _, y, h => by simp [resolve] at h
  | .int _, y, h => by simp [resolve] at h
  | .float _, y, h => by simp [resolve] at h
theorem resolveList_idem (env : Env) (keep : Bool) :
    ∀ (xs : List Val), resolveList env keep (resolveList env keep xs) = resolveList env keep xs
  | [] => by simp [resolveList]
  | x :: r => by
    have ih := resolveList_idem env keep r
    cases hx : resolve env keep x with
    | mk y b =>
      cases b with
      | true =>
        have hy := resolve_stable env keep x y hx
        simp only [resolveList, hx, hy, ih]
      | false =>
        simp only [resolveList, hx, ih]
end

theorem resolve_fst_idem (env : Env) (keep : Bool) (henv : keep = false → envLookup env "" = none) (a : Val) :
    (resolve env keep (resolve env keep a).1).1 = (resolve env keep a).1 := by
  cases a with
  | seq xs => exact congrArg Prod.fst (resolve_stable env keep (.seq xs) _ rfl)
  | map kvs => exact congrArg Prod.fst (resolve_stable env keep (.map kvs) _ rfl)
  | str s =>
    cases hx : resolve env keep (.str s) with
    | mk y b =>
      cases b with
      | true => exact congrArg Prod.fst (resolve_stable env keep _ y hx)
      | false =>
        -- an unset variable without `keepEmpty`: the empty string, which is no variable either
        unfold resolve resolveStr at hx
        split at hx
        · cases hx
        · split at hx
          · cases hx
          · cases keep <;> cases hx
            simp only [resolve, resolveStr, show containsChar '=' "" = false from rfl, henv rfl]; rfl
  | _ => rfl

theorem dockerfileDefault_idem (b : KVs) : dockerfileDefault (dockerfileDefault b) = dockerfileDefault b :=
  dockerfileDefault_of_set (unset_dockerfileDefault b)

theorem normBuildArgs_idem (env : Env) (henv : envLookup env "" = none) (b : KVs) :
    normBuildArgs env (normBuildArgs env b) = normBuildArgs env b := by
  cases h : lookup "args" b with
  | none => simp only [normBuildArgs, h]
  | some a =>
    have h1 : normBuildArgs env b = Val.insert "args" (resolve env false a).1 b := by simp only [normBuildArgs, h]
    rw [h1]
    unfold normBuildArgs
    rw [lookup_insert_self]
    simp only
    rw [resolve_fst_idem env false (fun _ => henv) a, insert_insert]

/-- `context` has a value after the first pass, `dockerfile` or `dockerfile_inline` too, and resolving the arguments touches
neither; so the second pass only resolves the resolved arguments again -/
theorem normBuild_idem (env : Env) (henv : envLookup env "" = none) (b : KVs) :
    normBuild env (normBuild env b) = normBuild env b := by
  unfold normBuild
  generalize h1 : setIfNil "context" (.str ".") b = b1
  generalize h3 : normBuildArgs env (dockerfileDefault b1) = b3
  obtain ⟨x, hx, hxn⟩ := lookup_setIfNil_self_nonnull "context" (.str ".") (by simp) b
  have hc3 : lookup "context" b3 = some x := by
    rw [← h3, lookup_normBuildArgs_ne env (by simp), lookup_dockerfileDefault_ne (by simp), ← h1, hx]
  have hd : dockerfileDefault b3 = b3 := by
    apply dockerfileDefault_of_set
    rw [← h3, lookup_normBuildArgs_ne env (by simp), lookup_normBuildArgs_ne env (by simp)]
    exact unset_dockerfileDefault b1
  rw [setIfNil_of_nonnull hc3 hxn, hd, ← h3, normBuildArgs_idem env henv]

theorem pullPolicyV_idem (v : Val) : pullPolicyV (pullPolicyV v) = pullPolicyV v := by
  cases v with
  | str p => by_cases h : p = "if_not_present" <;> simp [pullPolicyV, h]
  | _ => rfl

theorem cleanVolume_idem (clean : String → String) (hclean : ∀ s, clean (clean s) = clean s) (v : Val) :
    cleanVolume clean (cleanVolume clean v) = cleanVolume clean v := by
  cases v with
  | map vol => simp [cleanVolume, lookup_insert_self, strOf, hclean, insert_insert]
  | _ => rfl

theorem normVolumesV_idem (clean : String → String) (hclean : ∀ s, clean (clean s) = clean s) (v : Val) :
    normVolumesV clean (normVolumesV clean v) = normVolumesV clean v := by
  cases v with
  | seq vols => simp [normVolumesV, List.map_map, Function.comp_def, cleanVolume_idem clean hclean]
  | _ => rfl

theorem svcAttr_idem (clean : String → String) (hclean : ∀ s, clean (clean s) = clean s)
    (env : Env) (henv : envLookup env "" = none) (k : String) (v : Val) :
    svcAttr clean env k (svcAttr clean env k v) = svcAttr clean env k v := by
  by_cases h1 : k = "pull_policy"
  · subst h1; simp only [svcAttr_pull_policy, pullPolicyV_idem]
  by_cases h2 : k = "build"
  · subst h2; simp only [svcAttr_build, onMap_idem (normBuild_idem env henv)]
  by_cases h3 : k = "environment"
  · subst h3; simp only [svcAttr_environment, resolve_fst_idem env true (by simp)]
  by_cases h4 : k = "volumes"
  · subst h4; simp only [svcAttr_volumes, normVolumesV_idem clean hclean]
  · simp only [svcAttr_other clean env h1 h2 h3 h4]

theorem impliedList_normService (clean : String → String) (env : Env) (s : KVs) :
    impliedList (normService clean env s) = impliedList s := by
  unfold impliedList
  rw [lookup_normService_read clean env (by simp [svcRead]), lookup_normService_read clean env (by simp [svcRead]),
    nsDeps_congr fun ns hns => lookup_normService_read clean env (by simp [svcRead, hns]) s]

theorem impliedDeps_normService (clean : String → String) (env : Env) (s : KVs) :
    impliedDeps (normService clean env s) = impliedDeps s := by
  show addDeps (impliedList (normService clean env s)) (mapOf (lookup "depends_on" (normService clean env s))) = _
  rw [impliedList_normService, lookup_normService_depends_on]
  generalize hD : impliedDeps s = D
  cases D with
  | nil => exact hD
  | cons d r =>
    show addDeps (impliedList s) (d :: r) = d :: r
    rw [← hD]
    exact addDeps_idem _ _

theorem normService_idem (clean : String → String) (hclean : ∀ s, clean (clean s) = clean s)
    (env : Env) (henv : envLookup env "" = none) (s : KVs) :
    normService clean env (normService clean env s) = normService clean env s := by
  rw [normService_eq clean env (normService clean env s), impliedDeps_normService, normService_eq]
  exact putNonEmpty_mapAt_idem (svcAttr_idem clean hclean env henv)
    (svcAttr_other clean env (by simp) (by simp) (by simp) (by simp) _) s

end CV.C11
