import ComposeVerif.Lemmas.ShortTransform
import ComposeVerif.Model.ShortMerge
import ComposeVerif.Lemmas.Merge
/-!
# C03 × override.Merge: the second expansion site of the short forms

`depends_on`, service `networks` and `build` have their short form expanded at **two** places of the loader:
`transform.Canonical` (transform/dependson.go, services.go, build.go — `Model/ShortTransform.lean`) and
`override.Merge` (`convertIntoMapping` / `toBuild` in override/merge.go — C04's `Model/Merge.lean`, read-only here),
which runs on the *raw* second document against the *canonical* first one.  This file relates the two models.
-/
namespace CV.Short
open CV

/-- same outcome class, and the same value when both succeed (error texts are not part of either model) -/
def sameOut : Out Val.KVs → Merge.Out Val.KVs → Prop
  | .ok a, .ok b => a = b
  | .err _, .err _ => True
  | _, _ => False

/-- the list loops of `transformDependsOn` and of `convertIntoMapping(…, {condition: service_started, required: true})` -/
theorem dependsList_eq_listIntoMap (l : List Val) (acc : Val.KVs) :
    sameOut (dependsList l acc) (Merge.listIntoMap Merge.dependsOnDefault l acc) := by
  induction l generalizing acc with
  | nil => simp [dependsList, Merge.listIntoMap, sameOut]
  | cons x r ih =>
    cases x <;> simp only [dependsList, Merge.listIntoMap, sameOut]
    exact ih _

/-- the list loops of `transformServiceNetworks` and of `convertIntoMapping(…, nil)` -/
theorem networksList_eq_listIntoMap (l : List Val) (acc : Val.KVs) :
    sameOut (networksList l acc) (Merge.listIntoMap .null l acc) := by
  induction l generalizing acc with
  | nil => simp [networksList, Merge.listIntoMap, sameOut]
  | cons x r ih =>
    cases x <;> simp only [networksList, Merge.listIntoMap, sameOut]
    exact ih _

theorem listIntoMap_depends_distinct (names : List String) (hnd : names.Nodup) :
    Merge.listIntoMap Merge.dependsOnDefault (names.map Val.str) []
      = .ok (names.map (fun n => (n, startedRequired))) :=
  insertEach (Merge.listIntoMap Merge.dependsOnDefault) .ok Val.str (fun n => n) _ (fun _ => rfl) names
    (fun k _ r acc h => by rw [Merge.listIntoMap, Val.insert_of_not_mem h]; rfl) [] (by simpa using hnd) (by simp)

theorem listIntoMap_networks_distinct (names : List String) (hnd : names.Nodup) :
    Merge.listIntoMap .null (names.map Val.str) [] = .ok (names.map (fun n => (n, Val.null))) :=
  insertEach (Merge.listIntoMap .null) .ok Val.str (fun n => n) _ (fun _ => rfl) names
    (fun k _ r acc h => by rw [Merge.listIntoMap, Val.insert_of_not_mem h]) [] (by simpa using hnd) (by simp)

theorem mergeOne_other (f : Val → Val → TPath → Merge.Out Val) (a r : Val.KVs) (k : String) (v : Val) (p : TPath)
    (h : Merge.mergeKVsWith f a [(k, v)] p = .ok r) {k' : String} (hne : k' ≠ k) : Val.lookup k' r = Val.lookup k' a := by
  have := Merge.mergeKVsWith_pointwise f p [(k, v)] a r (by simp [Val.keys]) h k'
  rw [Val.lookup_cons_ne hne] at this
  exact Merge.pointwiseAt_none_right.1 this

theorem lookup_long (names : List String) (k : String) (hk : k ∈ names) (d : Val) :
    Val.lookup k (names.map (fun n => (n, d))) = some d := by
  induction names with
  | nil => simp at hk
  | cons n r ih =>
    simp only [List.map_cons, Val.lookup]
    by_cases h : k = n
    · simp [h]
    · simp only [h, if_false]
      exact ih (by simpa [h] using hk)

theorem dependsMap_lookup (l r : Val.KVs) (h : dependsMap l = .ok r) (k : String) (d : Val.KVs)
    (hk : Val.lookup k l = some (.map d)) : Val.lookup k r = some (.map (dependsDefaults d)) := by
  induction l generalizing r with
  | nil => simp [Val.lookup] at hk
  | cons e t ih =>
    obtain ⟨k0, v0⟩ := e
    obtain ⟨d0, r', rfl, ht, rfl⟩ := dependsMap_cons_ok h
    simp only [Val.lookup] at hk ⊢
    by_cases hkk : k = k0
    · simp only [hkk, if_true, Option.some.injEq, Val.map.injEq] at hk ⊢
      rw [hk]
    · simp only [hkk, if_false] at hk ⊢
      exact ih r' ht hk

theorem liftM_ok {α : Type} {o : Merge.Out α} {a : α} : liftM o = .ok a ↔ o = .ok a := by
  cases o <;> simp [liftM]

theorem convMerge_maps (mk : Val.KVs → Val.KVs → TPath → Merge.Out Val.KVs) (d : Val) (a b : Val.KVs) (p : TPath) (c : Val)
    (h : Merge.convMerge mk (Merge.intoMap d) (.map a) (.map b) p = .ok c) : ∃ r, mk a b p = .ok r ∧ c = .map r := by
  obtain ⟨r, hr, hc⟩ := Merge.bind_eq_ok (show (mk a b p).bind _ = _ from h)
  exact ⟨r, hr, by cases hc; rfl⟩

theorem ruleAt_of_row {pat : List String} {name : String} {r : Merge.Rule} (hm : (pat, name) ∈ CV.Gen.mergeSpecials)
    (hr : Merge.ruleOfName name = some r) {x : TPath} (hx : TPath.pmatch pat x = true) : Merge.ruleAt x = some r := by
  simp only [Merge.ruleAt, Merge.ruleAtIn, TPath.firstMatch_eq_of_mem CV.Gen.tables_exclusive.1 hm hx, hr, Option.getD_some]

end CV.Short
