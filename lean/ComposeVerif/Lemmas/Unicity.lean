import ComposeVerif.Model.Unicity
import ComposeVerif.Lemmas.Merge
/-!
# Lemmas about `override/uncity.go`

The `seq` / `keys` loop of `enforceUnicity` is `foldl insert []` (`dedupKVs`): what is looked up in it (`lastVal`), its keys
(`addKey`), when it is the identity; the index key of a `KEY=VALUE` string (`kvKey_entry`, `kvKey_bare`); `indexAll` as a
list operation (`indexAll_length`, `indexAll_append`); the tree walk `enforce` never panics and keeps the keys of every
mapping.
-/
namespace CV.Unicity
open CV CV.Val CV.Merge

/-- the last entry carrying key `k` -/
def lastVal (k : String) : List (String × Val) → Option Val
  | [] => none
  | (k', v) :: r =>
    match lastVal k r with
    | some w => some w
    | none => if k = k' then some v else none

/-- scanning keys left to right, a key is appended the first time it is seen -/
def addKey (ks : List String) (k : String) : List String := if k ∈ ks then ks else ks ++ [k]

def step (acc : KVs) (e : String × Val) : KVs := insert e.1 e.2 acc

theorem dedupKVs_eq (l : List (String × Val)) : dedupKVs l = l.foldl step [] := rfl

/-- `lastVal` is the lookup in the reversed list, `foldl step` is `Assoc.insertAll`: what follows is read off Lemmas/Assoc -/
theorem lastVal_eq (k : String) (l : List (String × Val)) : lastVal k l = Assoc.lookup k l.reverse := by
  induction l with
  | nil => rfl
  | cons hd tl ih =>
    obtain ⟨k', v⟩ := hd
    rw [lastVal, ih, List.reverse_cons, Assoc.lookup_append, Assoc.lookup_cons, Assoc.lookup_nil]
    cases Assoc.lookup k tl.reverse <;> rfl

theorem foldl_step_eq (l : List (String × Val)) (acc : KVs) : l.foldl step acc = Assoc.insertAll l acc :=
  foldl_insert_eq l acc

theorem lookup_foldl_step (k : String) (l : List (String × Val)) (acc : KVs) :
    lookup k (l.foldl step acc) = match lastVal k l with | some w => some w | none => lookup k acc := by
  rw [foldl_step_eq, lookup_eq, Assoc.lookup_insertAll_rev, lastVal_eq, lookup_eq]
  cases Assoc.lookup k l.reverse <;> rfl

theorem nodup_foldl_step (l : List (String × Val)) (acc : KVs) (h : (keys acc).Nodup) : (keys (l.foldl step acc)).Nodup := by
  rw [foldl_step_eq]; exact Assoc.nodup_insertAll l h

theorem keys_foldl_step : ∀ (l : List (String × Val)) (acc : KVs),
    keys (l.foldl step acc) = (l.map Prod.fst).foldl addKey (keys acc) := by
  intro l
  induction l with
  | nil => intro acc; rfl
  | cons hd tl ih =>
    intro acc
    simp only [List.foldl_cons, List.map_cons, ih, step, keys_insert, addKey]

theorem foldl_step_of_nodup (m acc : KVs) (h : (keys (acc ++ m)).Nodup) : m.foldl step acc = acc ++ m := by
  rw [keys, List.map_append] at h
  have h' := List.nodup_append.mp h
  rw [foldl_step_eq]
  exact Assoc.insertAll_append h'.2.1 fun k hk hk' => h'.2.2 k hk' k hk rfl

theorem lastVal_append (k : String) (a b : List (String × Val)) :
    lastVal k (a ++ b) = match lastVal k b with | some w => some w | none => lastVal k a := by
  rw [lastVal_eq, lastVal_eq, lastVal_eq, List.reverse_append, Assoc.lookup_append]
  cases Assoc.lookup k b.reverse <;> rfl

theorem lastVal_eq_none_iff {k : String} {l : List (String × Val)} : lastVal k l = none ↔ k ∉ l.map Prod.fst := by
  rw [lastVal_eq, Assoc.lookup_eq_none, Assoc.keys, List.map_reverse, List.mem_reverse]

theorem lastVal_eq_lookup (l : List (String × Val)) (nd : (keys l).Nodup) (k : String) : lastVal k l = lookup k l := by
  rw [lastVal_eq, lookup_eq, Assoc.lookup_reverse nd]

theorem kvKey_entry (k v : String) (h : ∀ c ∈ k.toList, c ≠ '=') : kvKey (k ++ "=" ++ v) = k := by
  unfold kvKey
  have : (k ++ "=" ++ v).toList = k.toList ++ '=' :: v.toList := by
    simp [String.toList_append]
  rw [this, List.takeWhile_append_of_pos (by simpa using h)]
  simp

theorem kvKey_bare (k : String) (h : ∀ c ∈ k.toList, c ≠ '=') : kvKey k = k := by
  unfold kvKey
  have := List.takeWhile_append_of_pos (p := (· ≠ '=')) (l₂ := []) (by simpa using h)
  simp only [List.append_nil, List.takeWhile_nil] at this
  rw [this]; simp

theorem indexAll_cons_ok {ix : Indexer} {x : Val} {r : List Val} {ks : List String} (h : indexAll ix (x :: r) = .ok ks) :
    ∃ k ks', index ix x = .ok k ∧ indexAll ix r = .ok ks' ∧ ks = k :: ks' := by
  simp only [indexAll] at h
  obtain ⟨k, hk, h⟩ := bind_eq_ok h
  obtain ⟨ks', hr, h⟩ := bind_eq_ok h
  cases h; exact ⟨k, ks', hk, hr, rfl⟩

theorem enforceKVs_cons_ok {k : String} {e : Val} {r m : KVs} {p : TPath} (h : enforceKVs ((k, e) :: r) p = .ok m) :
    ∃ u r', enforce e (next p k) = .ok u ∧ enforceKVs r p = .ok r' ∧ m = (k, u) :: r' := by
  simp only [enforceKVs] at h
  obtain ⟨u, hu, h⟩ := bind_eq_ok h
  obtain ⟨r', hr, h⟩ := bind_eq_ok h
  cases h; exact ⟨u, r', hu, hr, rfl⟩

theorem enforce_map_ok {kvs : KVs} {p : TPath} {u : Val} (h : enforce (.map kvs) p = .ok u) :
    ∃ m, enforceKVs kvs p = .ok m ∧ u = .map m := by
  simp only [enforce] at h
  obtain ⟨m, hm, h⟩ := bind_eq_ok h
  cases h; exact ⟨m, hm, rfl⟩

theorem enforceTop_ok {v u : Val} (h : enforceTop v = .ok u) :
    ∃ kvs m, v = .map kvs ∧ enforceKVs kvs TPath.root = .ok m ∧ u = .map m := by
  cases v with
  | map kvs => obtain ⟨m, hm, rfl⟩ := enforce_map_ok h; exact ⟨kvs, m, rfl, hm, rfl⟩
  | _ => cases h

theorem indexAll_length (ix : Indexer) : ∀ (xs : List Val) (ks : List String), indexAll ix xs = .ok ks → ks.length = xs.length
  | [], _, h => by cases h; rfl
  | x :: r, _, h => by
    obtain ⟨k, ks', _, hr, rfl⟩ := indexAll_cons_ok h
    simp [indexAll_length ix r ks' hr]

theorem indexAll_append (ix : Indexer) : ∀ (xs ys : List Val) (ka kb : List String),
    indexAll ix xs = .ok ka → indexAll ix ys = .ok kb → indexAll ix (xs ++ ys) = .ok (ka ++ kb)
  | [], _, _, _, ha, hb => by cases ha; exact hb
  | x :: r, ys, _, kb, ha, hb => by
    obtain ⟨k, ks', hx, hr, rfl⟩ := indexAll_cons_ok ha
    simp only [List.cons_append, indexAll, hx, Out.bind, indexAll_append ix r ys ks' kb hr hb]

theorem index_never_panics (ix : Indexer) (v : Val) (s : String) : index ix v ≠ .panic s := by
  -- every branch of `index` (and of the `lookup` matches inside) ends in `.ok` or `.err`
  unfold index
  split <;> (try split) <;> exact nofun

theorem indexAll_never_panics (ix : Indexer) : ∀ (xs : List Val) (s : String), indexAll ix xs ≠ .panic s := by
  intro xs
  induction xs with
  | nil => intro s; exact nofun
  | cons x r ih =>
    intro s
    exact bind_ne_panic (index_never_panics ix x) (fun k _ => bind_ne_panic ih (fun _ _ _ => ok_ne_panic)) s

mutual
theorem enforce_never_panics : ∀ (v : Val) (p : TPath) (s : String), enforce v p ≠ .panic s
  | .map kvs, p, s => by
    simp only [enforce]
    exact bind_ne_panic (enforceKVs_never_panics kvs p) (fun _ _ _ => ok_ne_panic) s
  | .seq xs, p, s => by
    simp only [enforce]
    cases indexerAt p with
    | none => exact nofun
    | some ix => exact bind_ne_panic (indexAll_never_panics ix xs) (fun _ _ _ => ok_ne_panic) s
  | .null, _, _ | .bool _, _, _ | .int _, _, _ | .float _, _, _ | .str _, _, _ => nofun
theorem enforceKVs_never_panics : ∀ (kvs : KVs) (p : TPath) (s : String), enforceKVs kvs p ≠ .panic s
  | [], _, _ => nofun
  | (k, e) :: r, p, s => by
    simp only [enforceKVs]
    exact bind_ne_panic (enforce_never_panics e (next p k))
      (fun u _ => bind_ne_panic (enforceKVs_never_panics r p) (fun _ _ _ => ok_ne_panic)) s
end

theorem enforceTop_never_panics (v : Val) (s : String) : enforceTop v ≠ .panic s := by
  unfold enforceTop
  split
  · exact enforce_never_panics _ _ s
  · exact nofun

theorem enforceKVs_keys : ∀ (kvs r : KVs) (p : TPath), enforceKVs kvs p = .ok r → keys r = keys kvs
  | [], _, _, h => by cases h; rfl
  | (k, e) :: tl, _, p, h => by
    obtain ⟨u, r', _, hr, rfl⟩ := enforceKVs_cons_ok h
    simpa [keys] using enforceKVs_keys tl r' p hr

end CV.Unicity
