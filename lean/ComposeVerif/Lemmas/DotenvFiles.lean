import ComposeVerif.Lemmas.Dotenv
import ComposeVerif.Lemmas.TemplateRun
/-!
# Lemmas for C18: the result map of any parse, byte-order marks, several files

`GetEnvFromFile` (`fromFiles`) and `ReadWithLookup` (`readFiles`) are instances of one fold over the files
(`foldFiles`); what is said about either is proved once for the fold.
-/
namespace CV.Dotenv
open CV CV.Template

theorem parse_ne_panic (src : Str) (lk : Env) (s : Site) : parse src lk ≠ .panic s := by
  intro h
  obtain ⟨p, _, env, t, hp⟩ := parse_panic_sites src lk s h
  exact run_ne_panic env t p (subst_eq_run env t ▸ hp)

theorem parse_keys_nodup_lemma (src : Str) (lk : Env) (r : Map) (h : parse src lk = .ok r) : (r.map Prod.fst).Nodup :=
  (parse_inv _ (fun m k v _ => put_keys_nodup_lemma m k v) src lk List.nodup_nil).1 r (by rw [h]; rfl)

def KeysValid (m : Map) : Prop := ∀ kv ∈ m, kv.1.all isKeyRune = true

theorem put_keysValid {m : Map} {k : Str} (v : Str) (hm : KeysValid m) (hk : k.all isKeyRune = true) :
    KeysValid (put m k v) := by
  intro kv h
  rcases mem_put h with rfl | h
  · exact hk
  · exact hm kv h

theorem mergeInto_keysValid {env m : Map} (hm : KeysValid m) (he : KeysValid env) : KeysValid (mergeInto m env) := by
  intro kv h
  rcases mem_mergeInto h with h | h
  · exact he kv h
  · exact hm kv h

theorem mergeInto_keys_nodup : ∀ (env m : Map), (m.map Prod.fst).Nodup → ((mergeInto m env).map Prod.fst).Nodup :=
  fun env m h => by rw [mergeInto_eq]; exact Assoc.nodup_insertAll env h

theorem filter_keys_nodup (p : Str × Str → Bool) : ∀ (m : Map), (m.map Prod.fst).Nodup → ((m.filter p).map Prod.fst).Nodup :=
  fun _ => Assoc.nodup_filter

theorem get_mergeInto_lemma : ∀ (env m : Map) (k : Str), (env.map Prod.fst).Nodup →
    get (mergeInto m env) k = (get env k).or (get m k) :=
  fun env m k h => by rw [get_eq, mergeInto_eq, get_eq, get_eq]; exact Assoc.lookup_insertAll m h

/-- the contents of a file, optionally preceded by a byte-order mark -/
def withBOM (b : Bool) (s : Str) : Str := if b then '\uFEFF' :: s else s

theorem render_head {ls : List Line} (hwf : WF ls = true) {c : Char} (hc : (render ls).head? = some c) :
    isSpaceU c = true ∨ c = '#' ∨ isKeyRune c = true := by
  cases ls with
  | nil => cases hc
  | cons l ls =>
    simp only [WF, List.all_cons, Bool.and_eq_true] at hwf
    let P : Char → Prop := fun c => isSpaceU c = true ∨ c = '#' ∨ isKeyRune c = true
    have sp : ∀ {ws : Str}, nbAll ws = true → ∀ c ∈ ws, P c := fun h c hc => Or.inl (nbAll_spaceU h c hc)
    have key : ∀ (exp : Option Str) (key Z : Str), validKey key = true →
        ∀ c, (renderExp exp ++ (key ++ Z)).head? = some c → P c := by
      intro exp key Z hk c h
      obtain ⟨d, Y, e, hd⟩ := stmt_head exp Z hk
      rw [e] at h; cases h; exact Or.inr (Or.inr hd)
    revert c
    show ∀ c, (l.render ++ '\n' :: render ls).head? = some c → P c
    cases l with
    | blank ws => exact head?_append_all (sp hwf.1) (fun c h => by cases h; exact Or.inl rfl)
    | comment ws t =>
      simp only [Line.wf, Bool.and_eq_true] at hwf
      rw [Line.render, List.append_assoc]
      exact head?_append_all (sp hwf.1.1) (fun c h => by cases h; exact Or.inr (Or.inl rfl))
    | bare indent exp k trail =>
      simp only [Line.wf, Bool.and_eq_true] at hwf
      rw [Line.render, List.append_assoc, List.append_assoc, List.append_assoc]
      exact head?_append_all (sp hwf.1.1.1.1) (key exp k _ hwf.1.1.2)
    | assign indent exp k ws1 sep ws2 v trail cmt =>
      simp only [Line.wf, Bool.and_eq_true] at hwf
      obtain ⟨⟨⟨⟨⟨⟨⟨⟨hi, _⟩, hk⟩, _⟩, _⟩, _⟩, _⟩, _⟩, _⟩ := hwf.1
      rw [Line.render, List.append_assoc, List.append_assoc, List.append_assoc]
      exact head?_append_all (sp hi) (key exp k _ hk)

theorem stripBOM_of_head (s : Str) (h : s.head? ≠ some '\uFEFF') : stripBOM s = s := by
  unfold stripBOM
  split
  · exact absurd rfl h
  · rfl

theorem stripBOM_render (b : Bool) (ls : List Line) (hwf : WF ls = true) : stripBOM (withBOM b (render ls)) = render ls := by
  cases b with
  | true => simp [withBOM, stripBOM]
  | false =>
    simp only [withBOM, Bool.false_eq_true, if_false]
    apply stripBOM_of_head
    intro h
    rcases render_head hwf h with h1 | h1 | h1
    · revert h1; decide
    · revert h1; decide
    · revert h1; decide

/-- what `GetEnvFromFile` and `ReadWithLookup` share: every file is parsed under a lookup that may depend on the
    map so far, and the part of its result that `keep` lets through is merged into the map -/
def foldFiles (lk : Map → Env) (keep : Map → Map) : List Str → Map → POut
  | [], m => .ok m
  | f :: fs, m =>
    match parse (stripBOM f) (lk m) with
    | .ok env => foldFiles lk keep fs (mergeInto m (keep env))
    | .err e _ => .err e m
    | .panic s => .panic s

theorem fromFiles_eq_fold (cur : Env) : ∀ (fs : List Str) (m : Map), fromFiles cur fs m = foldFiles (envOf cur) id fs m
  | [], _ => rfl
  | f :: fs, m => by
    rw [fromFiles, foldFiles]
    cases parse (stripBOM f) (envOf cur m) with
    | ok env => exact fromFiles_eq_fold cur fs _
    | err e pm => rfl
    | panic s => rfl

theorem readFiles_eq_fold (lk : Env) : ∀ (fs : List Str) (m : Map),
    readFiles lk fs m = foldFiles (fun _ => lk) (List.filter fun kv => !startsWithDigit kv.1) fs m
  | [], _ => rfl
  | f :: fs, m => by
    rw [readFiles, foldFiles]
    cases parse (stripBOM f) lk with
    | ok env => exact readFiles_eq_fold lk fs _
    | err e pm => rfl
    | panic s => rfl

theorem foldFiles_append (lk : Map → Env) (keep : Map → Map) : ∀ (a b : List Str) (m : Map),
    foldFiles lk keep (a ++ b) m = (foldFiles lk keep a m).andThen (fun m' => foldFiles lk keep b m')
  | [], b, m => rfl
  | f :: a, b, m => by
    rw [List.cons_append, foldFiles, foldFiles]
    cases parse (stripBOM f) (lk m) with
    | ok env => exact foldFiles_append lk keep a b _
    | err e pm => rfl
    | panic s => rfl

theorem foldFiles_ne_panic (lk : Map → Env) (keep : Map → Map) : ∀ (fs : List Str) (m : Map) (s : Site),
    foldFiles lk keep fs m ≠ .panic s
  | [], m, s => fun h => by cases h
  | f :: fs, m, s => by
    rw [foldFiles]
    have hp := parse_ne_panic (stripBOM f) (lk m)
    cases hf : parse (stripBOM f) (lk m) with
    | ok env => exact foldFiles_ne_panic lk keep fs _ s
    | err e pm => intro h; cases h
    | panic s' => exact absurd hf (hp s')

theorem foldFiles_inv {lk : Map → Env} {keep : Map → Map} (P : Map → Prop)
    (step : ∀ m f env, P m → parse (stripBOM f) (lk m) = .ok env → P (mergeInto m (keep env))) :
    ∀ (fs : List Str) (m r : Map), (foldFiles lk keep fs m).map? = some r → P m → P r
  | [], m, r, h, hm => by cases h; exact hm
  | f :: fs, m, r, h, hm => by
    rw [foldFiles] at h
    cases hp : parse (stripBOM f) (lk m) with
    | ok env => rw [hp] at h; exact foldFiles_inv P step fs _ r h (step m f env hm hp)
    | err e pm => rw [hp] at h; cases h; exact hm
    | panic s => rw [hp] at h; cases h

theorem fromFiles_single_err (cur : Env) (f : Str) (m pm : Map) (e : PErr) (h : parse (stripBOM f) (envOf cur m) = .err e pm) :
    fromFiles cur [f] m = .err e m := by
  rw [fromFiles, h]

theorem parse_render_assign_last (lk : Env) (ls : List Line) (hwf : WF ls = true)
    (i : Str) (e : Option Str) (key w1 : Str) (s : Sep) (w2 : Str) (v : Value) (tr : Str) (c : Option Str)
    (hl : (Line.assign i e key w1 s w2 v tr c).wf = true) {o : Env → Template.Out} (hv : ∀ env, v.eval env = o env) :
    parse (render (ls ++ [.assign i e key w1 s w2 v tr c])) lk =
      (evalLines lk ls).andThen (fun m => assignOut (o (envOf lk m)) (fun x => .ok (put m key x)) m) := by
  have hw : WF (ls ++ [.assign i e key w1 s w2 v tr c]) = true := by
    simp only [WF, List.all_append, List.all_cons, List.all_nil, Bool.and_true, Bool.and_eq_true] at hwf ⊢
    exact ⟨hwf, hl⟩
  rw [parse_render_lemma lk _ hw, evalLines, evalFrom_append]
  congr 1
  funext m
  rw [evalFrom_assign, hv]
  rfl

end CV.Dotenv
