import ComposeVerif.Lemmas.TravInvS
/-!
# After the coordinator has left and the caller waits: only workers move

Once the coordinator has returned (`cAlive = false`) and the caller is in `eg.Wait` (`m = none`) nobody is left to run
`visit`: only worker goroutines and the owner of the context move, no goroutine is created, the worker set only shrinks,
and a visitor is entered only by a worker that already existed — for one step and along any continuation.
-/
namespace CV.Trav

theorem quiet_cases {g : Graph} {lim : Option Nat} {s s' : St} {l : Label} (hc : s.cAlive = false) (hm : s.m = none)
    (h : Step g lim s l s') :
    (∃ v pc pc' s1, wpc s.workers v = some pc ∧ Work g s v l pc pc' s1 ∧
      s' = { s1 with workers := moveW s.workers v pc' }) ∨
    (l = .extCancel ∧ s' = { s with cancelled := true, extCancelled := true }) := by
  cases h with
  | @visit w _ y _ _ _ hs _ =>
    cases w
    · exact absurd (hm ▸ hs : none = some y) nofun
    · exact absurd ((getSched_C_dead hc).symm.trans hs) nofun
  | work hw hk => exact .inl ⟨_, _, _, _, hw, hk, rfl⟩
  | coord ha _ _ => exact absurd (ha.symm.trans hc) nofun
  | cancel _ => exact .inr ⟨rfl, rfl⟩

theorem quiet_step {g : Graph} {lim : Option Nat} {s s' : St} {l : Label} (hc : s.cAlive = false) (hm : s.m = none)
    (hs : step? g lim s l = some s') :
    s'.cAlive = false ∧ s'.m = none ∧ s'.received = s.received ∧
    (∀ v, v ∈ s'.workers.map (·.1) → v ∈ s.workers.map (·.1)) ∧
    (∀ v, v ∈ starts s'.log → v ∈ starts s.log ∨ wpc s.workers v = some .start) := by
  rcases quiet_cases hc hm (step?_sound hs) with ⟨v, pc, pc', s1, hw, hk, rfl⟩ | ⟨_, rfl⟩
  · refine ⟨hk.sched.2.2.trans hc, hk.sched.1.trans hm, hk.handoff.1, fun u hu => (moveW_keys ..).subset hu, fun u hu => ?_⟩
    have hu : u ∈ starts s1.log := hu
    rcases hk.log with e | ⟨rfl, _, _, e⟩ | ⟨_, _, _, e⟩ <;> rw [e] at hu
    · exact .inl hu
    · rcases List.mem_cons.mp hu with rfl | hu
      · exact .inr hw
      · exact .inl hu
    · exact .inl hu
  · exact ⟨hc, hm, rfl, fun _ h => h, fun _ h => .inl h⟩

theorem quiet_run {g : Graph} {lim : Option Nat} (ls : List Label) (s s' : St) (hc : s.cAlive = false) (hm : s.m = none)
    (hr : runL g lim s ls = some s') :
    s'.cAlive = false ∧ s'.m = none ∧ s'.received = s.received ∧
    (∀ v, v ∈ s'.workers.map (·.1) → v ∈ s.workers.map (·.1)) ∧
    (∀ v, v ∈ starts s'.log → v ∈ starts s.log ∨ v ∈ s.workers.map (·.1)) := by
  refine CV.Runs.run_preserves (runL_replays g lim) (R := fun t => t.cAlive = false ∧ t.m = none ∧
    t.received = s.received ∧ (∀ v, v ∈ t.workers.map (·.1) → v ∈ s.workers.map (·.1)) ∧
    (∀ v, v ∈ starts t.log → v ∈ starts s.log ∨ v ∈ s.workers.map (·.1))) ?_
    ⟨hc, hm, rfl, fun _ h => h, fun _ h => .inl h⟩ hr
  rintro t l t' ⟨hc1, hm1, hr1, hw1, hl1⟩ hs
  obtain ⟨hc2, hm2, hr2, hw2, hl2⟩ := quiet_step hc1 hm1 hs
  exact ⟨hc2, hm2, hr2.trans hr1, fun v h => hw1 v (hw2 v h), fun v h => (hl2 v h).elim (hl1 v)
    fun h => .inr (hw1 v (List.mem_map.mpr ⟨(v, .start), mem_of_wpc h, rfl⟩))⟩

end CV.Trav
