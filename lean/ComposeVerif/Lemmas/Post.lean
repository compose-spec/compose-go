import ComposeVerif.Lemmas.Graph
/-! The project as `checkConsistency` leaves it (`postState`: replicas aligned with scale) satisfies the same rules. -/
namespace CV.Consistency

theorem postState_enabled (p : Proj) : (postState p).enabled = p.enabled := by
  simp [postState, Proj.enabled, List.map_map, Function.comp_def]

theorem normalizeSvc_dependsOn (s : Svc) : (normalizeSvc s).dependsOn = s.dependsOn := by
  unfold normalizeSvc
  cases s.scale <;> cases s.deploy <;> rfl

/-- `normalizeSvc` writes only `deploy.replicas`, to the value of `scale`: `pairScale` then holds by equality,
`exclContainerName` reads `getScale`, which prefers `scale`, and the other pairing rules read other fields of `deploy` -/
theorem holds_normalize (p : Proj) (s : Svc) (r : Rule) (h : Holds p s r) : Holds p (normalizeSvc s) r := by
  unfold normalizeSvc
  split
  · rename_i sc d hsc hdp
    cases r <;> simp only [Holds, getScale, hsc, hdp] at h ⊢
    case pairScale | pairCpus | pairMemLimit | pairMemReservation | pairPids => grind
    all_goals exact h
  · exact h

theorem holds_post (p : Proj) (s : Svc) (r : Rule) (h : Holds p s r) : Holds (postState p) (normalizeSvc s) r := by
  have hn := holds_normalize p s r h
  have hen := postState_enabled p
  cases r <;> simp only [Holds, hen] at hn ⊢ <;> exact hn

theorem depRel_post (p : Proj) (a b : String) (h : DepRel (postState p) a b) : DepRel p a b := by
  obtain ⟨s', hs', hb, r, hr⟩ := h
  rw [postState_enabled] at hb
  simp only [postState, List.mem_map] at hs'
  obtain ⟨e, he, heq⟩ := hs'
  cases heq
  rw [normalizeSvc_dependsOn] at hr
  exact ⟨e.2, he, hb, r, hr⟩

end CV.Consistency
