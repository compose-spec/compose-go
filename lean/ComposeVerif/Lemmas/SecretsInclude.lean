import ComposeVerif.Model.SecretsInclude
import ComposeVerif.Lemmas.SecretsLoad
/-! C20, a model with an include: `Mapping.Merge`, the second resolution, `importResource`. -/
namespace CV.Secrets
open CV
open CV.Val hiding lookup_insert_self lookup_insert_ne

theorem lookup_filter_key (m : Env) (k : String) (h : m.lookup k = none) (o : Env) :
    (o.filter (fun kv => (m.lookup kv.1).isNone)).lookup k = o.lookup k := by
  rw [← Assoc.lookup_eq_list, ← Assoc.lookup_eq_list, Assoc.lookup_filter_key fun x => (m.lookup x).isNone, h]; rfl

theorem lookup_mergeEnv (m o : Env) (k : String) :
    (mergeEnv m o).lookup k = match m.lookup k with | some v => some v | none => o.lookup k := by
  unfold mergeEnv
  rw [List.lookup_append]
  cases h : m.lookup k with
  | some v => simp
  | none => simp [lookup_filter_key m k h o]

/-- `big` defines everything `small` defines, with the same value (the environment of an include, at any depth,
w.r.t. the environment of any model that includes it) -/
def EnvExtends (small big : Env) : Prop := ∀ k v, small.lookup k = some v → big.lookup k = some v

theorem EnvExtends_mergeEnv (top file : Env) : EnvExtends top (mergeEnv top file) := by
  intro k v h
  rw [lookup_mergeEnv, h]

theorem EnvExtends_trans {a b c : Env} (h1 : EnvExtends a b) (h2 : EnvExtends b c) : EnvExtends a c :=
  fun k v h => h2 k v (h1 k v h)

/-- a later resolution with an environment the first one extends (the including model's) changes nothing -/
theorem resolveObj_second (c : String) (hc : c ≠ "environment") {small big : Env} (hext : EnvExtends small big) (v : Val) :
    resolveObj c small (resolveObj c big v) = resolveObj c big v := by
  cases v with
  | map kvs =>
    rcases resolveObj_map_cases c big kvs with ⟨hb, hnb⟩ | ⟨e, w, he, hne, hw, hb⟩ <;> rw [hb]
    · -- `big` found nothing, so `small` finds nothing
      rcases resolveObj_map_cases c small kvs with ⟨hs, _⟩ | ⟨e, w, he, hne, hw, _⟩
      · exact hs
      · exact absurd (hext e w hw) (hnb e w he hne)
    · -- the carrier is there; `small` either leaves it or writes the same value again
      have he' : Val.lookup "environment" (Val.insert c (.str w) kvs) = some (.str e) := by
        rw [lookup_insert_ne (Ne.symm hc)]; exact he
      rcases resolveObj_map_cases c small (Val.insert c (.str w) kvs) with ⟨hs, _⟩ | ⟨e2, w2, he2, _, hw2, hs⟩
      · exact hs
      · rw [he'] at he2; cases he2
        have := hext _ _ hw2; rw [hw] at this; cases this
        rw [hs, insert_insert]
  | _ => simp only [resolveObj]

theorem resolveObjs_second (c : String) (hc : c ≠ "environment") {small big : Env} (hext : EnvExtends small big) :
    ∀ objs : KVs, resolveObjs c small (resolveObjs c big objs) = resolveObjs c big objs
  | [] => rfl
  | (n, v) :: r => by simp only [resolveObjs, resolveObj_second c hc hext, resolveObjs_second c hc hext r]

theorem importObjs_keeps {n : String} {a : Val} : ∀ {src to to' : KVs}, importObjs src to = .ok to' →
    Val.lookup n to = some a → Val.lookup n to' = some a
  | [], to, to', h, hl => by simp only [importObjs] at h; cases h; exact hl
  | (k, x) :: r, to, to', h, hl => by
    simp only [importObjs] at h
    split at h
    · split at h
      · exact importObjs_keeps h hl
      · cases h
    · refine importObjs_keeps h ?_
      rw [lookup_append, hl]; rfl

theorem importObjs_adds {n : String} {a : Val} : ∀ {src to to' : KVs}, importObjs src to = .ok to' →
    Val.lookup n to = none → Val.lookup n src = some a → Val.lookup n to' = some a
  | [], to, to', _, _, hs => by simp [Val.lookup] at hs
  | (k, x) :: r, to, to', h, hl, hs => by
    simp only [importObjs] at h
    by_cases hk : n = k
    · subst hk
      simp only [Val.lookup, if_true] at hs
      cases hs
      rw [hl] at h
      simp only at h
      refine importObjs_keeps h ?_
      rw [lookup_append, hl]; simp [lookup]
    · simp only [Val.lookup, if_neg hk] at hs
      split at h
      · split at h
        · exact importObjs_adds h hl hs
        · cases h
      · refine importObjs_adds h ?_ hs
        rw [lookup_append, hl]; simp [lookup, hk]

theorem forall_importObjs {Q : String → Val → Prop} : ∀ {src to to' : KVs}, importObjs src to = .ok to' →
    (∀ e ∈ src, Q e.1 e.2) → (∀ e ∈ to, Q e.1 e.2) → ∀ e ∈ to', Q e.1 e.2
  | [], to, to', h, _, ht => by simp only [importObjs] at h; cases h; exact ht
  | (k, x) :: r, to, to', h, hs, ht => by
    simp only [importObjs] at h
    have hs' : ∀ e ∈ r, Q e.1 e.2 := fun e he => hs e (List.mem_cons_of_mem _ he)
    split at h
    · split at h
      · exact forall_importObjs h hs' ht
      · cases h
    · refine forall_importObjs h hs' ?_
      intro e he
      rcases List.mem_append.1 he with he | he
      · exact ht e he
      · simp only [List.mem_singleton] at he; subst he; exact hs _ List.mem_cons_self

theorem lookup_resolveObjs (c : String) (env : Env) (n : String) (objs : KVs) :
    Val.lookup n (resolveObjs c env objs) = (Val.lookup n objs).map (resolveObj c env) := by
  rw [resolveObjs_eq_map]; exact lookup_map_val fun _ => resolveObj c env

theorem importSection_spec {key : String} {src tgt m : KVs} (h : importSection key src tgt = .ok m) :
    ((Val.lookup key src = none ∨ Val.lookup key src = some .null) ∧ m = tgt) ∨
    ∃ res to to', Val.lookup key src = some (.map res) ∧
      (Val.lookup key tgt = some (.map to) ∨ (to = [] ∧ (Val.lookup key tgt = none ∨ Val.lookup key tgt = some .null))) ∧
      importObjs res to = .ok to' ∧ m = Val.insert key (.map to') tgt := by
  unfold importSection at h
  split at h
  · cases h; exact .inl ⟨.inl ‹_›, rfl⟩
  · cases h; exact .inl ⟨.inr ‹_›, rfl⟩
  · rename_i res hs
    split at h
    · obtain ⟨to', h1, h2⟩ := Out.bind_eq_ok.1 h
      cases h2
      exact .inr ⟨res, [], to', hs, .inr ⟨rfl, .inl ‹_›⟩, h1, rfl⟩
    · obtain ⟨to', h1, h2⟩ := Out.bind_eq_ok.1 h
      cases h2
      exact .inr ⟨res, [], to', hs, .inr ⟨rfl, .inr ‹_›⟩, h1, rfl⟩
    · rename_i to ht
      obtain ⟨to', h1, h2⟩ := Out.bind_eq_ok.1 h
      cases h2
      exact .inr ⟨res, to, to', hs, .inl ht, h1, rfl⟩
    · cases h
  · cases h

theorem importSection_lookup_ne {key k : String} (hk : k ≠ key) {src tgt m : KVs} (h : importSection key src tgt = .ok m) :
    Val.lookup k m = Val.lookup k tgt := by
  rcases importSection_spec h with ⟨_, rfl⟩ | ⟨_, _, _, _, _, _, rfl⟩
  · rfl
  · exact lookup_insert_ne hk _ _

theorem importSection_forall {Q : String → Val → Prop} {key : String} {src tgt m : KVs} (h : importSection key src tgt = .ok m)
    (hs : ∀ objs, Val.lookup key src = some (.map objs) → ∀ e ∈ objs, Q e.1 e.2)
    (ht : ∀ objs, Val.lookup key tgt = some (.map objs) → ∀ e ∈ objs, Q e.1 e.2) :
    ∀ objs, Val.lookup key m = some (.map objs) → ∀ e ∈ objs, Q e.1 e.2 := by
  rcases importSection_spec h with ⟨_, rfl⟩ | ⟨res, to, to', hres, hto, himp, rfl⟩
  · exact ht
  · intro objs hl
    rw [lookup_insert_self] at hl
    cases hl
    refine forall_importObjs himp (hs res hres) ?_
    rcases hto with hto | ⟨rfl, _⟩
    · exact ht to hto
    · intro e he; cases he

theorem importSection_AllStr {P : String → Prop} {key : String} {src tgt m : KVs} (h : importSection key src tgt = .ok m)
    (hs : ∀ v, Val.lookup key src = some v → AllStr P v) (ht : ∀ v, Val.lookup key tgt = some v → AllStr P v) :
    ∀ v, Val.lookup key m = some v → AllStr P v := by
  intro v hl
  rcases importSection_spec h with ⟨_, rfl⟩ | ⟨res, to, to', hres, hto, himp, rfl⟩
  · exact ht v hl
  · -- the section is a mapping: `importSection_forall` for "key and value are untainted"
    rw [lookup_insert_self] at hl; cases hl
    exact AllStrKV_iff.2 (importSection_forall (Q := fun n v => P n ∧ AllStr P v) h
      (fun objs ho => AllStrKV_iff.1 (hs _ ho)) (fun objs ho => AllStrKV_iff.1 (ht _ ho)) to' (lookup_insert_self _ _ _))

end CV.Secrets
