import ComposeVerif.Model.EnvLayersLoad
import ComposeVerif.Lemmas.ExceptDecEq
/-! C16: the loop over the services of a project.  `collect` returns every service or the errors of the failing ones;
    `errsOf` is its `let errs`.  Its `cons` equations, success as a pointwise statement (`collect_ok`), two loops in
    sequence as one (`collect_bind`), and Go's early return `firstErr` as the head of `errsOf`. -/
namespace CV.EnvLayers

def errsOf {α : Type} (rs : List (Str × Except Err α)) : List Err :=
  rs.filterMap fun p => match p.2 with | .error e => some e | .ok _ => none

theorem collect_eq {α : Type} (rs : List (Str × Except Err α)) :
    (∃ r, collect rs = .ok r ∧ errsOf rs = []) ∨ (collect rs = .error (errsOf rs) ∧ errsOf rs ≠ []) := by
  unfold collect
  simp only
  split
  · rename_i h
    exact Or.inl ⟨_, rfl, List.isEmpty_iff.1 h⟩
  · rename_i h
    exact Or.inr ⟨rfl, fun hn => h (List.isEmpty_iff.2 hn)⟩

theorem collect_cons_ok {α : Type} (n : Str) (a : α) (rs : List (Str × Except Err α)) :
    collect ((n, Except.ok a) :: rs) = match collect rs with
      | .ok r => .ok ((n, a) :: r)
      | .error es => .error es := by
  simp only [collect, List.filterMap_cons]
  split <;> rename_i hh <;> simp [hh]

theorem collect_cons_err {α : Type} (n : Str) (e : Err) (rs : List (Str × Except Err α)) :
    ∃ es, collect ((n, Except.error e) :: rs) = .error (e :: es) := by
  simp [collect]

theorem collect_cons_ok_iff {α : Type} (n : Str) (x : Except Err α) (rs : List (Str × Except Err α)) (r : List (Str × α)) :
    collect ((n, x) :: rs) = .ok r ↔ ∃ a r', x = .ok a ∧ collect rs = .ok r' ∧ r = (n, a) :: r' := by
  constructor
  · intro h
    cases x with
    | error e =>
      obtain ⟨es, he⟩ := collect_cons_err n e rs
      rw [he] at h; cases h
    | ok a =>
      rw [collect_cons_ok] at h
      cases hc : collect rs with
      | error es => rw [hc] at h; cases h
      | ok r' => rw [hc] at h; cases h; exact ⟨a, r', rfl, rfl, rfl⟩
  · rintro ⟨a, r', rfl, hr, rfl⟩
    rw [collect_cons_ok, hr]

theorem collect_ok {α : Type} (rs : List (Str × Except Err α)) (r : List (Str × α)) (h : collect rs = .ok r) :
    rs = r.map fun p => (p.1, Except.ok p.2) := by
  induction rs generalizing r with
  | nil => cases h; rfl
  | cons x rest ih =>
    obtain ⟨a, r', hx, hr, rfl⟩ := (collect_cons_ok_iff x.1 x.2 rest r).1 h
    rw [List.map_cons, ← ih r' hr, ← hx]

theorem collect_err {α : Type} (rs : List (Str × Except Err α)) (es : List Err) (h : collect rs = .error es) :
    es ≠ [] ∧ ∀ e ∈ es, ∃ n, (n, Except.error e) ∈ rs := by
  simp only [collect] at h
  split at h
  · cases h
  · rename_i hne
    simp only [Except.error.injEq] at h
    subst h
    refine ⟨fun e => hne (by simp [e]), fun e he => ?_⟩
    obtain ⟨p, hp, hpe⟩ := List.mem_filterMap.1 he
    obtain ⟨n, res⟩ := p
    cases res with
    | ok _ => simp at hpe
    | error e' =>
      simp only [Option.some.injEq] at hpe
      subst hpe
      exact ⟨n, hp⟩

theorem collect_map_err {α β : Type} (F : β → Except Err α) (l : List (Str × β)) (es : List Err)
    (h : collect (l.map fun p => (p.1, F p.2)) = .error es) : es ≠ [] ∧ ∀ e ∈ es, ∃ p ∈ l, F p.2 = .error e := by
  obtain ⟨hne, hall⟩ := collect_err _ _ h
  refine ⟨hne, fun e he => ?_⟩
  obtain ⟨n, hn⟩ := hall e he
  obtain ⟨p, hp, hpe⟩ := List.mem_map.1 hn
  exact ⟨p, hp, (Prod.mk.inj hpe).2⟩

theorem collect_bind {α β γ : Type} (f : β → Except Err α) (g : α → Except Err γ) (l : List (Str × β))
    (r : List (Str × γ)) :
    (∃ a, collect (l.map fun p => (p.1, f p.2)) = .ok a ∧ collect (a.map fun p => (p.1, g p.2)) = .ok r) ↔
      collect (l.map fun p => (p.1, (f p.2).bind g)) = .ok r := by
  induction l generalizing r with
  | nil => exact ⟨fun ⟨a, ha, hr⟩ => by cases ha; exact hr, fun h => ⟨[], rfl, h⟩⟩
  | cons x t ih =>
    simp only [List.map_cons, collect_cons_ok_iff, Except.bind_eq_ok, ← ih]
    constructor
    · rintro ⟨_, ⟨a0, a', hf, ht, rfl⟩, hr⟩
      obtain ⟨c, r', hg, hr', rfl⟩ := (collect_cons_ok_iff _ _ _ _).1 hr
      exact ⟨c, r', ⟨a0, hf, hg⟩, ⟨a', ht, hr'⟩, rfl⟩
    · rintro ⟨c, r', ⟨a0, hf, hg⟩, ⟨a', ht, hr'⟩, rfl⟩
      exact ⟨(x.1, a0) :: a', ⟨a0, a', hf, ht, rfl⟩, (collect_cons_ok_iff _ _ _ _).2 ⟨c, r', hg, hr', rfl⟩⟩

theorem collect_congr_ok {α β : Type} (F G : β → Except Err α) (hFG : ∀ b a, F b = .ok a ↔ G b = .ok a)
    (l : List (Str × β)) (r : List (Str × α)) :
    collect (l.map fun p => (p.1, F p.2)) = .ok r ↔ collect (l.map fun p => (p.1, G p.2)) = .ok r := by
  induction l generalizing r with
  | nil => exact Iff.rfl
  | cons x t ih => simp only [List.map_cons, collect_cons_ok_iff, hFG, ih]

/-- `modelToProject`: the environments of all services, then the labels of all services -/
theorem loadProject_eq_bind (cfg : LoadCfg) (penv : List (Key × Str)) (fs : FS) (svcs : List (Str × YEnv × Service)) :
    loadProject cfg penv fs svcs =
      (collect (svcs.map fun p => (p.1, loadServiceEnv cfg penv fs p.2.1 p.2.2))).bind (resolveProjectLabels fs cfg.discard) := by
  unfold loadProject
  cases collect (svcs.map fun p => (p.1, loadServiceEnv cfg penv fs p.2.1 p.2.2)) <;> rfl

theorem loadProject_ok_iff (cfg : LoadCfg) (penv : List (Key × Str)) (fs : FS) (svcs : List (Str × YEnv × Service))
    (r : List (Str × Service)) :
    loadProject cfg penv fs svcs = .ok r ↔
      collect (svcs.map fun p => (p.1, (loadServiceEnv cfg penv fs p.2.1 p.2.2).bind (resolveServiceLabels fs cfg.discard))) = .ok r := by
  rw [loadProject_eq_bind, Except.bind_eq_ok]
  exact collect_bind (fun q : YEnv × Service => loadServiceEnv cfg penv fs q.1 q.2) _ svcs r

theorem firstErr_eq_head {α : Type} (rs : List (Str × Except Err α)) : firstErr rs = (errsOf rs).head? := by
  induction rs with
  | nil => rfl
  | cons p r ih =>
    obtain ⟨n, x⟩ := p
    cases x with
    | error e => simp [firstErr, errsOf]
    | ok a =>
      simp only [firstErr, ih, errsOf, List.filterMap_cons]

end CV.EnvLayers
