import ComposeVerif.Spec.Select
import ComposeVerif.Lemmas.SelectAL
/-! C15: what every operation keeps.  `find p k` is the service recorded under `k`, enabled or not; an operation only ever
*thins* a service — dependencies a sublist, environment more resolved (`SubSvc`, pointwise on `find`: `SubProj`).  These compose
with no side condition and give the property's `SvcLe` / `Carried` / `Conserved` once every `depends_on` has distinct keys
(`SvcWF`); `good_of_sub`: a result that is a partition and a `SubProj` of a well-formed receiver is well-formed again. -/
namespace CV.Sel


theorem find_of_services {p : Proj} {k : String} {s : Svc} (h : lookup k p.services = some s) : find p k = some s := by
  unfold find; rw [h]

theorem find_of_not_services {p : Proj} {k : String} (h : k ∉ keys p.services) : find p k = lookup k p.disabled := by
  unfold find; rw [lookup_eq_none.2 h]

theorem find_eq_lookup (p : Proj) (k : String) : find p k = lookup k (p.services ++ p.disabled) := by
  unfold find; rw [lookup_append]; cases lookup k p.services <;> rfl

theorem mem_known {p : Proj} {k : String} : k ∈ known p ↔ k ∈ keys p.services ∨ k ∈ keys p.disabled :=
  List.mem_append

theorem mem_known_iff_find {p : Proj} {k : String} : k ∈ known p ↔ (find p k).isSome := by
  rw [known, ← keys_append, ← lookup_isSome, find_eq_lookup]

theorem find_isSome_of_known {p : Proj} {k : String} (h : k ∈ known p) : ∃ s, find p k = some s :=
  Option.isSome_iff_exists.1 (mem_known_iff_find.1 h)

theorem known_of_find {p : Proj} {k : String} {s : Svc} (h : find p k = some s) : k ∈ known p := by
  rw [mem_known_iff_find, h]; rfl

theorem mem_disabled_iff {p : Proj} (h : Partition p) {k : String} :
    k ∈ keys p.disabled ↔ k ∈ known p ∧ k ∉ keys p.services := by
  rw [mem_known]
  exact ⟨fun hd => ⟨.inr hd, fun hs => h.2.2 k hs hd⟩, fun ⟨hk, hs⟩ => hk.resolve_left hs⟩

theorem nodup_all {p : Proj} (h : Partition p) : (keys (p.services ++ p.disabled)).Nodup := by
  rw [keys_append, List.nodup_append]
  exact ⟨h.1, h.2.1, fun a ha b hb e => h.2.2 a ha (e ▸ hb)⟩

theorem find_of_mem {p : Proj} (h : Partition p) {kv : String × Svc} (hm : kv ∈ p.services ++ p.disabled) :
    find p kv.1 = some kv.2 := by
  rw [find_eq_lookup]; exact lookup_of_mem (nodup_all h) hm

theorem mem_of_find {p : Proj} {k : String} {s : Svc} (h : find p k = some s) : (k, s) ∈ p.services ++ p.disabled := by
  rw [find_eq_lookup] at h; exact mem_of_lookup h

/-- every `depends_on` map has distinct keys (true of every Go map) -/
def SvcWF (p : Proj) : Prop := ∀ kv ∈ p.services ++ p.disabled, (keys kv.2.deps).Nodup

instance (p : Proj) : Decidable (SvcWF p) := by unfold SvcWF; exact inferInstance

theorem svcWF_of_find {p : Proj} (w : SvcWF p) {k : String} {s : Svc} (h : find p k = some s) : (keys s.deps).Nodup :=
  w (k, s) (mem_of_find h)

theorem envLe_refl (e : AL (Option String)) : envLe e e = true := by
  induction e with
  | nil => rfl
  | cons hd t ih => simp [envLe, ih]

theorem envLe_trans {a b c : AL (Option String)} (h1 : envLe a b = true) (h2 : envLe b c = true) : envLe a c = true := by
  induction a generalizing b c with
  | nil => cases b <;> cases c <;> simp_all [envLe]
  | cons ha ta ih =>
    obtain _ | ⟨hb, tb⟩ := b
    · cases h1
    obtain _ | ⟨hc, tc⟩ := c
    · cases h2
    simp only [envLe, Bool.and_eq_true, Bool.or_eq_true, beq_iff_eq] at h1 h2 ⊢
    refine ⟨⟨h1.1.1.trans h2.1.1, ?_⟩, ih h1.2 h2.2⟩
    rcases h1.1.2 with e | e
    · exact h2.1.2.imp (e.trans ·) (e.trans ·)
    · exact .inr e

theorem envLe_resolve (penv : AL String) (e : AL (Option String)) : envLe e (resolveEnv penv e) = true := by
  induction e with
  | nil => rfl
  | cons hd t ih => obtain ⟨k, _ | v⟩ := hd <;> simpa [resolveEnv, envLe] using ih

/-- `t` is `s` thinned: same content, dependencies a sublist, environment more resolved.  Unlike `depsShrink`, `Sublist`
composes and keeps the keys distinct with no side condition. -/
def SubSvc (s t : Svc) : Prop := sameButDeps s t ∧ t.deps.Sublist s.deps ∧ envMore s t

theorem SubSvc.refl (s : Svc) : SubSvc s s := ⟨rfl, .refl _, envLe_refl _⟩

theorem SubSvc.trans {a b c : Svc} (h1 : SubSvc a b) (h2 : SubSvc b c) : SubSvc a c :=
  ⟨h1.1.trans h2.1, h2.2.1.trans h1.2.1, envLe_trans h1.2.2 h2.2.2⟩

theorem SubSvc.filter (s : Svc) (f : String × Dep → Bool) : SubSvc s { s with deps := s.deps.filter f } :=
  ⟨rfl, List.filter_sublist, envLe_refl _⟩

theorem SubSvc.resolve (penv : AL String) (s : Svc) : SubSvc s (resolveEnvSvc penv s) :=
  ⟨rfl, .refl _, envLe_resolve penv s.env⟩

theorem SubSvc.name {s t : Svc} (h : SubSvc s t) : t.name = s.name :=
  (congrArg Svc.name h.1).symm

theorem SubSvc.nodup {s t : Svc} (h : SubSvc s t) (nd : (keys s.deps).Nodup) : (keys t.deps).Nodup :=
  nd.sublist (h.2.1.map _)

/-- `t` is `s` with some dependencies removed and possibly more of its environment resolved (the relation inside `Conserved`) -/
def SvcLe (s t : Svc) : Prop := sameButDeps s t ∧ depsShrink s t ∧ envMore s t

theorem SubSvc.svcLe {s t : Svc} (h : SubSvc s t) (nd : (keys s.deps).Nodup) : SvcLe s t :=
  ⟨h.1, fun _ hkv => lookup_of_mem nd (h.2.1.subset hkv), h.2.2⟩

theorem SvcLe.trans {a b c : Svc} (h1 : SvcLe a b) (h2 : SvcLe b c) : SvcLe a c :=
  ⟨h1.1.trans h2.1, fun kv hkv => h1.2.1 (kv.1, kv.2) (mem_of_lookup (h2.2.1 kv hkv)), envLe_trans h1.2.2 h2.2.2⟩

theorem SvcLe.profiles {s t : Svc} (h : SvcLe s t) : t.profiles = s.profiles :=
  (congrArg Svc.profiles h.1).symm

theorem active_of_svcLe {s t : Svc} (h : SvcLe s t) (P : List String) : Active s P ↔ Active t P := by
  unfold Active; rw [h.profiles]

def optRel {α} (r : α → α → Prop) : Option α → Option α → Prop
  | some a, some b => r a b
  | none, none => True
  | _, _ => False

theorem optRel.imp {α} {r r' : α → α → Prop} {a b : Option α} (h : optRel r a b) (i : ∀ x y, a = some x → r x y → r' x y) :
    optRel r' a b := by
  cases a <;> cases b
  · exact h
  · exact h
  · exact h
  · exact i _ _ rfl h

theorem optRel.trans {α} {r : α → α → Prop} {a b c : Option α} (h1 : optRel r a b) (h2 : optRel r b c)
    (t : ∀ {x y z}, r x y → r y z → r x z) : optRel r a c := by
  -- `h1` forces `a`, `b` to be both `none` or both `some`, `h2` the same for `b`, `c`
  cases a <;> cases b <;> try exact False.elim h1
  all_goals cases c <;> try exact False.elim h2
  · trivial
  · exact t h1 h2

theorem optRel_map {α} {r : α → α → Prop} {g : α → α} (o : Option α) (h : ∀ a, r a (g a)) : optRel r o (o.map g) := by
  cases o with
  | none => trivial
  | some a => exact h a

theorem optRel.isSome {α} {r : α → α → Prop} {a b : Option α} (h : optRel r a b) : a.isSome = b.isSome := by
  cases a <;> cases b
  · rfl
  · exact False.elim h
  · exact False.elim h
  · rfl

/-- every service of `p` is a service of `q` (and conversely), with possibly fewer dependencies and a more resolved environment -/
def Carried (p q : Proj) : Prop := ∀ k, optRel SvcLe (find p k) (find q k)

def SubProj (p q : Proj) : Prop := ∀ k, optRel SubSvc (find p k) (find q k)

theorem SubProj.refl (p : Proj) : SubProj p p := fun k => by
  simpa using optRel_map (find p k) (g := id) SubSvc.refl

theorem SubProj.trans {p q r : Proj} (h1 : SubProj p q) (h2 : SubProj q r) : SubProj p r :=
  fun k => (h1 k).trans (h2 k) SubSvc.trans

theorem subProj_of_find_eq {p q : Proj} (h : ∀ k, find q k = find p k) : SubProj p q :=
  fun k => h k ▸ SubProj.refl p k

theorem SubProj.carried {p q : Proj} (h : SubProj p q) (w : SvcWF p) : Carried p q :=
  fun k => (h k).imp fun _ _ e s => s.svcLe (svcWF_of_find w e)

theorem Carried.refl {p : Proj} (w : SvcWF p) : Carried p p := (SubProj.refl p).carried w

theorem Carried.trans {p q r : Proj} (h1 : Carried p q) (h2 : Carried q r) : Carried p r :=
  fun k => (h1 k).trans (h2 k) SvcLe.trans

theorem Carried.known {p q : Proj} (h : Carried p q) (k : String) : k ∈ known p ↔ k ∈ known q := by
  rw [mem_known_iff_find, mem_known_iff_find, (h k).isSome]

theorem conserved_of_carried {p q : Proj} (hq : Partition q) (h : Carried p q) : Conserved p q := by
  refine ⟨hq, ⟨fun x hx => (h.known x).1 hx, fun x hx => (h.known x).2 hx⟩, fun k hk => ?_⟩
  obtain ⟨t, ht⟩ := find_isSome_of_known hk
  obtain ⟨s, hs⟩ := find_isSome_of_known ((h.known k).2 hk)
  have := h k
  rw [hs, ht] at this ⊢
  exact this

/-- `Named`, under the name the theorems use -/
abbrev NamesOK (p : Proj) : Prop := Named p

/-- the same for one map (the walk only sees the enabled one) -/
def NamesOKs (svcs : AL Svc) : Prop := ∀ kv ∈ svcs, kv.2.name = kv.1

/-- `SvcWF` for one map -/
def SvcWFs (svcs : AL Svc) : Prop := ∀ kv ∈ svcs, (keys kv.2.deps).Nodup

theorem NamesOK.services {p : Proj} (h : NamesOK p) : NamesOKs p.services :=
  fun kv hkv => h kv (List.mem_append_left _ hkv)

theorem good_of_sub {p q : Proj} (w : SvcWF p) (nk : NamesOK p) (hq : Partition q) (h : SubProj p q) :
    (SvcWF q ∧ NamesOK q) ∧ Carried p q := by
  have back : ∀ kv ∈ q.services ++ q.disabled, ∃ s, find p kv.1 = some s ∧ SubSvc s kv.2 := fun kv hkv => by
    have := h kv.1
    rw [find_of_mem hq hkv] at this
    cases hp : find p kv.1 with
    | none => rw [hp] at this; exact this.elim
    | some s => rw [hp] at this; exact ⟨s, rfl, this⟩
  refine ⟨⟨fun kv hkv => ?_, fun kv hkv => ?_⟩, h.carried w⟩
  · obtain ⟨s, hs, sub⟩ := back kv hkv
    exact sub.nodup (svcWF_of_find w hs)
  · obtain ⟨s, hs, sub⟩ := back kv hkv
    exact sub.name.trans (nk (kv.1, s) (mem_of_find hs))

theorem conserved_of_find_eq {p q : Proj} (w : SvcWF p) (hq : Partition q) (h : ∀ k, find q k = find p k) :
    Conserved p q :=
  conserved_of_carried hq ((subProj_of_find_eq h).carried w)

end CV.Sel
