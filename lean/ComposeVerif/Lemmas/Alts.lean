import ComposeVerif.Lemmas.Equiv
/-!
# Collect mode (DESIGN §2.6): `consistencyAlts p` / `cycleAlts p` are *exactly* the outcomes of
`checkConsistency` / `graph.CheckCycle` reachable under some iteration order of the Go maps of `p`.

`Reorder p p'` = `p'` is `p` with its services map and/or some `depends_on` maps ranged in another order.
* soundness  : `Reorder p p' → checkConsistency p' ∈ consistencyAlts p`  (what the correspondence judge relies on);
* reachability: `o ∈ consistencyAlts p → ∃ p', Reorder p p' ∧ checkConsistency p' = o` (the judge is not too lax).
-/
namespace CV.Consistency

theorem mem_dedup (l : List Err) (e : Err) : e ∈ dedup l ↔ e ∈ l := by
  unfold dedup
  induction l with
  | nil => simp
  | cons a r ih =>
    simp only [List.foldr_cons, List.mem_cons]
    split
    · rename_i hc
      rw [ih]
      constructor
      · exact .inr
      · rintro (rfl | h)
        · exact ih.mp (List.contains_iff_mem.mp hc)
        · exact h
    · simp only [List.mem_cons, ih]

theorem mem_map_some_dedup (l : List Err) (o : Option Err) : o ∈ (dedup l).map some ↔ ∃ e ∈ l, o = some e :=
  ⟨fun h => let ⟨e, he, h⟩ := List.mem_map.mp h; ⟨e, (mem_dedup l e).mp he, h.symm⟩,
   fun ⟨e, he, h⟩ => List.mem_map.mpr ⟨e, (mem_dedup l e).mpr he, h.symm⟩⟩

theorem checkSecret_some (s : Secret) (e : Err) (h : checkSecret s = some e) : e = .secretSource := by
  unfold checkSecret at h; exact ((guard_some.mp h).2).symm

/-- `p'` is `p` with its services map and / or some `depends_on` maps iterated in another order.  Narrower than `ProjEquiv`
(`Reorder.equiv`): it is generated by concrete permutations, which the reachability half of the exactness theorems has to
exhibit, and it leaves `secrets` alone, whose order `consistencyAlts` does not vary. -/
inductive Reorder : Proj → Proj → Prop
  | refl (p : Proj) : Reorder p p
  | services (p : Proj) (l : List (String × Svc)) : l.Perm p.services → Reorder p { p with services := l }
  | deps (p : Proj) (n : String) (s : Svc) (d : List (String × Bool)) (pre post : List (String × Svc)) :
      p.services = pre ++ (n, s) :: post → d.Perm s.dependsOn →
      Reorder p { p with services := pre ++ (n, { s with dependsOn := d }) :: post }
  | trans {p q r : Proj} : Reorder p q → Reorder q r → Reorder p r

theorem mem_replace {n : String} {s s' : Svc} (hs : SvcEquiv s s') (pre post : List (String × Svc)) {m : String} {t : Svc}
    (ht : (m, t) ∈ pre ++ (n, s) :: post) : ∃ t', (m, t') ∈ pre ++ (n, s') :: post ∧ SvcEquiv t t' := by
  rcases List.mem_append.mp ht with h | h
  · exact ⟨t, List.mem_append_left _ h, .refl t⟩
  · rcases List.mem_cons.mp h with heq | h
    · cases heq
      exact ⟨s', List.mem_append_right _ (List.mem_cons_self ..), hs⟩
    · exact ⟨t, List.mem_append_right _ (List.mem_cons_of_mem _ h), .refl t⟩

theorem Reorder.equiv {p p' : Proj} (h : Reorder p p') :
    ProjEquiv p p' ∧ p'.enabled.Perm p.enabled ∧ p'.secrets = p.secrets := by
  induction h with
  | refl p => exact ⟨ProjEquiv.refl p, List.Perm.refl _, rfl⟩
  | services p l hl => exact ⟨ProjEquiv.of_perm p l hl p.secrets (List.Perm.refl _), hl.map _, rfl⟩
  | deps p n s d pre post hsv hd =>
    have hs : SvcEquiv s { s with dependsOn := d } := ⟨rfl, fun _ => hd.mem_iff, fun _ => Iff.rfl⟩
    refine ⟨⟨fun m t ht => mem_replace hs pre post (hsv ▸ ht), fun m t ht => ?_, fun _ => Iff.rfl, fun _ => Iff.rfl,
      fun _ => Iff.rfl, fun _ => Iff.rfl, fun _ => Iff.rfl⟩, ?_, rfl⟩
    · obtain ⟨t', h, e⟩ := mem_replace hs.symm pre post ht
      exact ⟨t', hsv ▸ h, e.symm⟩
    · simp only [Proj.enabled, hsv, List.map_append, List.map_cons]
      exact List.Perm.refl _
  | trans _ _ ih1 ih2 =>
    exact ⟨ih1.1.trans ih2.1, ih2.2.1.trans ih1.2.1, ih2.2.2.trans ih1.2.2⟩

theorem Reorder.nodup {p p' : Proj} (h : Reorder p p') (hnd : p.enabled.Nodup) : p'.enabled.Nodup :=
  (h.equiv.2.1.nodup_iff).mpr hnd

theorem cycleAlts_of_buildable {p : Proj} (hb : DepsBuildable p) : cycleAlts p = [checkCycleProj p] := by
  rw [cycleAlts, (graphErrs_nil_iff p).mpr hb]

theorem cycleAlts_of_ne {p : Proj} (h : graphErrs p ≠ []) : cycleAlts p = (dedup (graphErrs p)).map some := by
  unfold cycleAlts
  split
  · contradiction
  · rfl

theorem cycleAlts_sound_equiv {p p' : Proj} (hp : ProjEquiv p p') (hnd : p.enabled.Nodup) (hnd' : p'.enabled.Nodup) :
    checkCycleProj p' ∈ cycleAlts p := by
  rcases checkCycleProj_cases p' with ⟨e, he, heq⟩ | ⟨hb', -⟩
  · obtain ⟨x', hx', d, hd, h1, h2, hc⟩ := (mem_graphErrs p' e).mp he
    obtain ⟨s, hs, hse⟩ := hp.bwd x'.1 x'.2 hx'
    have hmem : e ∈ graphErrs p := (mem_graphErrs p e).mpr
      ⟨(x'.1, s), hs, d, (hse.deps d).mp hd, fun hh => h1 ((hp.enabled _).mpr hh), h2, by rw [hc, missingClass_equiv hp]⟩
    rw [heq, cycleAlts_of_ne (List.ne_nil_of_mem hmem)]
    exact (mem_map_some_dedup _ _).mpr ⟨e, hmem, rfl⟩
  · have hb : DepsBuildable p := depsBuildable_equiv hp.symm hb'
    rw [cycleAlts_of_buildable hb]
    exact List.mem_singleton.mpr (checkCycleProj_equiv hp hnd hnd' hb)

theorem cycleAlts_reachable (p : Proj) (o : Option Err) (ho : o ∈ cycleAlts p) :
    ∃ p', Reorder p p' ∧ checkCycleProj p' = o := by
  by_cases hb : DepsBuildable p
  · rw [cycleAlts_of_buildable hb] at ho
    exact ⟨p, .refl p, (List.mem_singleton.mp ho).symm⟩
  · rw [cycleAlts_of_ne (mt (graphErrs_nil_iff p).mp hb), mem_map_some_dedup] at ho
    obtain ⟨e, hmem, rfl⟩ := ho
    obtain ⟨x, hx, d, hd, h1, h2, hcl⟩ := (mem_graphErrs p e).mp hmem
    -- range `x` first, and `d` first inside `x`
    let q : Proj := { p with services := x :: p.services.erase x }
    let x' : String × Svc := (x.1, { x.2 with dependsOn := d :: x.2.dependsOn.erase d })
    let p' : Proj := { q with services := [] ++ x' :: p.services.erase x }
    have hq : Reorder p q := .services p _ (List.perm_cons_erase hx).symm
    have hqp : Reorder q p' := .deps q x.1 x.2 (d :: x.2.dependsOn.erase d) [] (p.services.erase x) rfl
      (List.perm_cons_erase hd).symm
    have hr : Reorder p p' := .trans hq hqp
    refine ⟨p', hr, ?_⟩
    have hfind : (p'.services.flatMap (·.2.dependsOn)).find? (isMissing p'.enabled) = some d :=
      List.find?_cons_of_pos (isMissing_iff.mpr ⟨fun hc => h1 ((hr.equiv.1.enabled _).mp hc), h2⟩)
    rw [checkCycleProj, newGraph, buildGraph_eq, hfind, hcl]

/-- when no service breaks a rule the outcome does not depend on any order: the secrets are checked in their own
order and every dependency can be resolved -/
theorem consistencyAlts_of_rules_ok {p : Proj} (hall : ∀ a ∈ p.services, checkSvc p a.2 = none) :
    consistencyAlts p = [checkConsistency p] := by
  have hb := depsBuildable_of_rules p fun e he => (checkSvc_none_iff p e.2).mp (hall e he) .dependsOn
  rw [consistencyAlts, checkConsistency, List.filterMap_eq_nil_iff.mpr hall, List.findSome?_eq_none_iff.mpr hall,
    cycleAlts_of_buildable hb]
  cases p.secrets.findSome? _ <;> rfl

theorem consistencyAlts_of_ne {p : Proj} (h : p.services.filterMap (fun e => checkSvc p e.2) ≠ []) :
    consistencyAlts p = (dedup (p.services.filterMap fun e => checkSvc p e.2)).map some := by
  unfold consistencyAlts
  split
  · contradiction
  · rfl

theorem consistencyAlts_sound_equiv {p p' : Proj} (hp : ProjEquiv p p') (hnd : p.enabled.Nodup) (hnd' : p'.enabled.Nodup)
    (hsec : p'.secrets = p.secrets) : checkConsistency p' ∈ consistencyAlts p := by
  cases hf : p'.services.findSome? (fun e => checkSvc p' e.2) with
  | some e =>
    obtain ⟨x', hx', hc⟩ := List.exists_of_findSome?_eq_some hf
    obtain ⟨s, hs, hse⟩ := hp.bwd x'.1 x'.2 hx'
    have hmem : e ∈ p.services.filterMap (fun e => checkSvc p e.2) :=
      List.mem_filterMap.mpr ⟨(x'.1, s), hs, checkSvc_equiv hp hse ▸ hc⟩
    rw [checkConsistency, hf, consistencyAlts_of_ne (List.ne_nil_of_mem hmem)]
    exact (mem_map_some_dedup _ _).mpr ⟨e, hmem, rfl⟩
  | none =>
    have hall : ∀ a ∈ p.services, checkSvc p a.2 = none := fun a ha => by
      obtain ⟨s', hs', hse⟩ := hp.fwd a.1 a.2 ha
      rw [← checkSvc_equiv hp hse]
      exact List.findSome?_eq_none_iff.mp hf (a.1, s') hs'
    have hb := depsBuildable_of_rules p fun e he => (checkSvc_none_iff p e.2).mp (hall e he) .dependsOn
    rw [consistencyAlts_of_rules_ok hall, List.mem_singleton, checkConsistency, checkConsistency, hf,
      List.findSome?_eq_none_iff.mpr hall, hsec, checkCycleProj_equiv hp hnd hnd' hb]

theorem consistencyAlts_reachable (p : Proj) (o : Option Err) (ho : o ∈ consistencyAlts p) :
    ∃ p', Reorder p p' ∧ checkConsistency p' = o := by
  by_cases hfm : p.services.filterMap (fun e => checkSvc p e.2) = []
  · rw [consistencyAlts_of_rules_ok (List.filterMap_eq_nil_iff.mp hfm)] at ho
    exact ⟨p, .refl p, (List.mem_singleton.mp ho).symm⟩
  · rw [consistencyAlts_of_ne hfm, mem_map_some_dedup] at ho
    obtain ⟨e, he, rfl⟩ := ho
    obtain ⟨x, hx, hc⟩ := List.mem_filterMap.mp he
    -- range the failing service first
    let p' : Proj := { p with services := x :: p.services.erase x }
    have hr : Reorder p p' := .services p _ (List.perm_cons_erase hx).symm
    have : checkSvc p' x.2 = some e := by rw [checkSvc_equiv hr.equiv.1 (SvcEquiv.refl x.2)]; exact hc
    refine ⟨p', hr, ?_⟩
    show orE ((x :: p.services.erase x).findSome? fun e => checkSvc p' e.2) _ = some e
    simp only [List.findSome?_cons, this, orE]

end CV.Consistency
