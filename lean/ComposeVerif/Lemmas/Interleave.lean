/-!
# Interleaving of loads that write no shared state

A memory is a function from locations to values.  Every location is owned by one load (thread) or by nobody
(`owner x = none`: shared state — package-level variables, the caller's maps).  A load is a step function on the
whole memory.  If every load writes only locations it owns, and what it writes depends only on its own and the
shared locations, then under ANY interleaving each load ends with exactly the state it reaches when run alone,
and the shared state is untouched.
-/
namespace CV.Interleave

variable {Loc Val Tid : Type}

structure Sys (Loc Val Tid : Type) where
  owner : Loc → Option Tid
  step : Tid → (Loc → Val) → (Loc → Val)

/-- a step of `t` changes only locations owned by `t` (in particular: no shared location) -/
def WritesOwn (S : Sys Loc Val Tid) : Prop :=
  ∀ t m x, S.owner x ≠ some t → S.step t m x = m x

/-- what `t` sees: its own locations and the shared ones -/
def Agree (S : Sys Loc Val Tid) (t : Tid) (m m' : Loc → Val) : Prop :=
  ∀ x, (S.owner x = some t ∨ S.owner x = none) → m x = m' x

/-- what `t` writes depends only on what it sees -/
def ReadsOwnOrShared (S : Sys Loc Val Tid) : Prop :=
  ∀ t m m', Agree S t m m' → ∀ x, S.owner x = some t → S.step t m x = S.step t m' x

def exec (S : Sys Loc Val Tid) : List Tid → (Loc → Val) → (Loc → Val)
  | [], m => m
  | t :: rest, m => exec S rest (S.step t m)

def solo (S : Sys Loc Val Tid) (t : Tid) : Nat → (Loc → Val) → (Loc → Val)
  | 0, m => m
  | k + 1, m => solo S t k (S.step t m)

theorem agree_refl (S : Sys Loc Val Tid) (t : Tid) (m : Loc → Val) : Agree S t m m := fun _ _ => rfl

theorem agree_trans {S : Sys Loc Val Tid} {t : Tid} {a b c : Loc → Val} (h1 : Agree S t a b) (h2 : Agree S t b c) :
    Agree S t a c := fun x hx => (h1 x hx).trans (h2 x hx)

theorem agree_step_self {S : Sys Loc Val Tid} (hW : WritesOwn S) (hR : ReadsOwnOrShared S) {t : Tid} {m m' : Loc → Val}
    (h : Agree S t m m') : Agree S t (S.step t m) (S.step t m') := by
  intro x hx
  rcases hx with hx | hx
  · exact hR t m m' h x hx
  · have hne : S.owner x ≠ some t := by rw [hx]; simp
    rw [hW t m x hne, hW t m' x hne]; exact h x (.inr hx)

theorem agree_step_other {S : Sys Loc Val Tid} (hW : WritesOwn S) {t u : Tid} (hne : u ≠ t) (m : Loc → Val) :
    Agree S t (S.step u m) m := by
  intro x hx
  apply hW u m x
  rcases hx with hx | hx
  · rw [hx]; intro e; injection e with e; exact hne e.symm
  · rw [hx]; simp

theorem agree_solo {S : Sys Loc Val Tid} (hW : WritesOwn S) (hR : ReadsOwnOrShared S) {t : Tid} (k : Nat) :
    ∀ {m m' : Loc → Val}, Agree S t m m' → Agree S t (solo S t k m) (solo S t k m') := by
  induction k with
  | zero => intro m m' h; exact h
  | succ k ih => intro m m' h; exact ih (agree_step_self hW hR h)

theorem exec_agree_solo [DecidableEq Tid] {S : Sys Loc Val Tid} (hW : WritesOwn S) (hR : ReadsOwnOrShared S) (t : Tid) :
    ∀ (sched : List Tid) (m : Loc → Val), Agree S t (exec S sched m) (solo S t (sched.count t) m) := by
  intro sched
  induction sched with
  | nil => intro m; exact agree_refl S t m
  | cons u rest ih =>
    intro m
    by_cases hu : u = t
    · subst hu
      simp only [exec, List.count_cons_self, solo]
      exact ih (S.step u m)
    · have hc : (u :: rest).count t = rest.count t := by
        simp [hu]
      rw [hc]
      simp only [exec]
      exact agree_trans (ih (S.step u m)) (agree_solo hW hR _ (agree_step_other hW hu m))

theorem shared_unchanged (S : Sys Loc Val Tid) (hW : WritesOwn S) (sched : List Tid) (m : Loc → Val) (x : Loc)
    (hx : S.owner x = none) : exec S sched m x = m x := by
  induction sched generalizing m with
  | nil => rfl
  | cons u rest ih =>
    simp only [exec]
    rw [ih (S.step u m)]
    exact hW u m x (by rw [hx]; simp)

/-- locations of a process that runs several loads: package-level variables of the library (shared, owned by no load) and
    everything else (`priv`: load-local values, the caller's own data) -/
inductive PLoc (L : Type) where
  | global (pkg var : String)
  | priv (l : L)
deriving DecidableEq

end CV.Interleave
