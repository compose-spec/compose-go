import ComposeVerif.Model.EnvLayersLoad
import ComposeVerif.Lemmas.EnvLayers
/-! C16, the loader level.  What a whole load decodes: `decodeEnv` / `decodeLabels` return Go maps, `Normalize` and
    `resolveServicesEnvironment` are `Resolve` on the decoded entries (`rv`), so that one more `Resolve` makes every option
    combination agree (`loadedEnv_rv`; `NoEqKeys` is what the sequence form needs).  And the layering for any registry of
    formats: the env-file loop against `filesValGFrom`, with no hypothesis on the files (`loadEnvFiles_specG`). -/
namespace CV.EnvLayers
open CV.EnvLayers.Spec

theorem distinct_decodeEnv (y : YEnv) : Distinct (decodeEnv y) := by
  cases y with
  | absent => exact distinct_nil
  | list items => exact distinct_overrideBy _ _ distinct_nil
  | map kvs => exact distinct_overrideBy _ _ distinct_nil

theorem lookup_overrideBy_nil {β : Type} (k : Key) (o : List (Key × β)) :
    lookup k (overrideBy [] o) = lookup k o.reverse := by
  rw [lookup_overrideBy_rev]
  cases lookup k o.reverse <;> rfl

theorem resolveMWE_reverse (look : Look) (m : List (Key × Option Str)) :
    (resolveMWE look m).reverse = resolveMWE look m.reverse := by
  simp [resolveMWE, List.map_reverse]

theorem lookup_decode_resolved (penv : List (Key × Str)) (k : Key) (o : List (Key × Option Str)) :
    lookup k (overrideBy [] (resolveMWE (fun n => lookup n penv) o)) = (lookup k (overrideBy [] o)).map (rv penv k) := by
  rw [lookup_overrideBy_nil, lookup_overrideBy_nil, resolveMWE_reverse, lookup_resolveMWE_rv]

theorem normalize_pairs (penv : List (Key × Str)) (items : List Item) :
    (items.map (normalizeItem penv)).map Item.pair = resolveMWE (fun n => lookup n penv) (items.map Item.pair) := by
  simp only [resolveMWE, List.map_map]
  refine List.map_congr_left fun it _ => ?_
  cases it with
  | kv k v => rfl
  | bare k =>
    simp only [Function.comp, Item.pair, normalizeItem]
    cases lookup k penv <;> rfl

theorem lookup_decode_normalize (penv : List (Key × Str)) (y : YEnv) (k : Key) :
    lookup k (decodeEnv (normalizeEnv penv y)) = (lookup k (decodeEnv y)).map (rv penv k) := by
  cases y with
  | absent => rfl
  | list items =>
    simp only [normalizeEnv, decodeEnv]
    rw [normalize_pairs, lookup_decode_resolved]
  | map kvs =>
    simp only [normalizeEnv, decodeEnv]
    have : kvs.map (normalizePair penv) = resolveMWE (fun n => lookup n penv) kvs :=
      List.map_congr_left fun p _ => by obtain ⟨a, b⟩ := p; cases b <;> rfl
    rw [this, lookup_decode_resolved]

/-- project-environment keys never contain `=` (they come from `KEY=VALUE` strings) -/
def NoEqKeys (penv : List (Key × Str)) : Prop := ∀ p ∈ penv, '=' ∉ p.1

theorem lookup_kv_text_none (penv : List (Key × Str)) (h : NoEqKeys penv) (k : Key) (v : Str) :
    lookup (Item.kv k v).text penv = none := by
  apply lookup_none_of_not_mem
  intro hm
  obtain ⟨p, hp, e⟩ := List.mem_map.1 hm
  have := h p hp
  rw [e] at this
  exact this (by simp [Item.text])

theorem resolveSeqEnv_eq_normalize (penv : List (Key × Str)) (h : NoEqKeys penv) (items : List Item) :
    resolveSeqEnv penv (.list items) = normalizeEnv penv (.list items) := by
  simp only [resolveSeqEnv, normalizeEnv]
  congr 1
  apply List.map_congr_left
  intro it _
  cases it with
  | kv k v => simp only [resolveSeqItem, lookup_kv_text_none penv h k v, normalizeItem]
  | bare k =>
    simp only [resolveSeqItem, Item.text, normalizeItem]

theorem map_rv_idem (penv : List (Key × Str)) (k : Key) (x : Option (Option Str)) :
    (x.map (rv penv k)).map (rv penv k) = x.map (rv penv k) := by
  cases x with
  | none => rfl
  | some v => exact congrArg some (rv_idem penv k v)

/-- a sequence-form `environment` is decoded resolved whatever the options are (`resolveServicesEnvironment` runs
    unconditionally, `Normalize` resolves the same entries once more) -/
theorem lookup_loadedEnv_list (cfg : LoadCfg) (penv : List (Key × Str)) (h : NoEqKeys penv) (items : List Item) (k : Key) :
    lookup k (loadedEnv cfg penv (.list items)) = (lookup k (decodeEnv (.list items))).map (rv penv k) := by
  unfold loadedEnv
  rw [resolveSeqEnv_eq_normalize penv h]
  cases cfg.skipNormalization with
  | true => simp only [if_true]; exact lookup_decode_normalize penv _ k
  | false =>
    simp only [Bool.false_eq_true, if_false]
    rw [lookup_decode_normalize, lookup_decode_normalize, map_rv_idem]

theorem loadedEnv_rv (cfg : LoadCfg) (penv : List (Key × Str)) (h : NoEqKeys penv) (y : YEnv) (k : Key) :
    (lookup k (loadedEnv cfg penv y)).map (rv penv k) = (lookup k (decodeEnv y)).map (rv penv k) := by
  cases y with
  | absent => cases hn : cfg.skipNormalization <;> simp [loadedEnv, hn, resolveSeqEnv, normalizeEnv]
  | list items => rw [lookup_loadedEnv_list cfg penv h, map_rv_idem]
  | map kvs =>
    unfold loadedEnv
    cases cfg.skipNormalization with
    | true => rfl
    | false =>
      simp only [resolveSeqEnv, Bool.false_eq_true, if_false]
      rw [lookup_decode_normalize, map_rv_idem]

theorem distinct_decodeLabels (yl : YLabels) : Distinct (decodeLabels yl) := by
  cases yl with
  | absent => exact distinct_nil
  | list items => exact distinct_overrideBy _ _ distinct_nil
  | map kvs => exact distinct_overrideBy _ _ distinct_nil

theorem filesValGFrom_append (penv : List (Key × Str)) (fs : FS) (base : Key → Option Str) (l1 l2 : List EnvFile) :
    ∀ k, filesValGFrom penv fs base (l1 ++ l2) k = filesValGFrom penv fs (filesValGFrom penv fs base l2) l1 k := by
  induction l1 with
  | nil => intro k; rfl
  | cons x r ih =>
    intro k
    have e : filesValGFrom penv fs base (r ++ l2) = filesValGFrom penv fs (filesValGFrom penv fs base l2) r := funext ih
    simp only [List.cons_append, filesValGFrom, e]

theorem loadEnvFiles_specG (penv : List (Key × Str)) (fs : FS) (efs : List EnvFile) (acc res : List (Key × Str))
    (h : loadEnvFiles penv fs efs acc = .ok res) :
    ∀ k, lookup k res = filesValGFrom penv fs (fun n => lookup n acc) efs.reverse k := by
  induction efs generalizing acc with
  | nil =>
    simp only [loadEnvFiles, Except.ok.injEq] at h
    subst h
    exact fun k => rfl
  | cons f r ih =>
    simp only [loadEnvFiles] at h
    cases hl : loadEnvFile fs f (envChain penv acc) with
    | error e => rw [hl] at h; cases h
    | ok vars =>
      rw [hl] at h
      intro k
      rw [ih _ h k, List.reverse_cons, filesValGFrom_append]
      congr 1
      funext n
      simp only [filesValGFrom, layerVal, ← envChain_eq, hl]
      rw [lookup_overrideBy_rev]
      unfold orElse
      cases lookup n vars.reverse <;> rfl

end CV.EnvLayers
