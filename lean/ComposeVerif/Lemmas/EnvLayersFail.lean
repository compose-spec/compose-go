import ComposeVerif.Lemmas.TemplateRefine
import ComposeVerif.Lemmas.EnvLayers
/-! C16: the line loop and the file loops against the specification, one induction each: where they fail
    (`fileFailureFrom`, `envFailureFrom`, `labelFailureFrom`) and what the map they return says at every key
    (`fileVal`, `filesVal`).  `env_precedence` and `env_failure_spec` are the two halves of `loadEnvFiles_outcome`. -/
namespace CV.EnvLayers
open CV.EnvLayers.Spec

/-- how a loop outcome and a specified failure correspond -/
def FailsAs {α : Type} (r : Except Err α) (f : Option Err) : Prop :=
  match r with
  | .ok _ => f = none
  | .error e => f = some e

theorem failsAs_map {α β : Type} (g : α → β) (r : Except Err α) (f : Option Err) : FailsAs (r.map g) f ↔ FailsAs r f := by
  cases r <;> exact Iff.rfl

theorem evalValue_cases (look : Look) (v : List Seg) (hwf : CV.Template.WF v = true) :
    evalValue look v = match CV.Template.evalL look v with
      | .ok s => .ok s
      | .error _ => .error .template := by
  unfold evalValue
  rw [CV.Template.subst_eq_run, CV.Template.run_render look v hwf]
  unfold CV.Template.evalOut
  cases CV.Template.evalL look v <;> rfl

/-- a loop outcome against the specification: it fails as specified, and a map it returns reads as `val` -/
def LoadsAs (r : Except Err (List (Key × Str))) (f : Option Err) (val : Key → Option Str) : Prop :=
  FailsAs r f ∧ ∀ res, r = .ok res → ∀ k, lookup k res = val k

theorem parseLines_outcome (look : Look) (pre ls : List Line) (out : List (Key × Str)) (hwf : WFLines ls)
    (hacc : ∀ n, lookup n out = fileVal look pre n) :
    LoadsAs (parseLines look ls out) (fileFailureFrom look pre ls) (fileVal look (pre ++ ls)) := by
  induction ls generalizing pre out with
  | nil => exact ⟨rfl, fun res h k => by cases h; rw [List.append_nil]; exact hacc k⟩
  | cons x r ih =>
    have hwr : WFLines r := fun k v hm => hwf k v (List.mem_cons_of_mem _ hm)
    have hw : withFile look out = lineLook look pre := by
      funext n; rw [withFile_eq]; simp only [lineLook, hacc n]
    have hc : pre ++ x :: r = (pre ++ [x]) ++ r := by simp
    rw [hc]
    cases x with
    | bad => exact ⟨rfl, fun res h => nomatch h⟩
    | bare k =>
      simp only [parseLines, fileFailureFrom]
      have hs : ∀ n, fileVal look (pre ++ [.bare k]) n =
          if k = n then orElse (look n) (fileVal look pre n) else fileVal look pre n := fun n => by
        rw [fileVal_snoc]; rfl
      cases hl : look k with
      | none =>
        refine ih (pre ++ [.bare k]) out hwr fun n => ?_
        rw [hs, hacc n]
        by_cases e : k = n
        · subst e; simp [hl, orElse]
        · simp [e]
      | some v =>
        refine ih (pre ++ [.bare k]) (insert k v out) hwr fun n => ?_
        rw [hs, lookup_insert, hacc n]
        by_cases e : k = n
        · subst e; simp [hl, orElse]
        · simp [e]
    | assign k v =>
      have hv : CV.Template.WF v = true := hwf k v List.mem_cons_self
      simp only [parseLines, fileFailureFrom]
      rw [evalValue_cases _ v hv, hw]
      cases he : CV.Template.evalL (lineLook look pre) v with
      | error e => exact ⟨rfl, fun res h => nomatch h⟩
      | ok s =>
        refine ih (pre ++ [.assign k v]) (insert k s out) hwr fun n => ?_
        rw [fileVal_snoc, lookup_insert, hacc n]
        have : specValue (fun m => orElse (look m) (fileVal look pre m)) v = s := by
          simp only [specValue]; rw [show (fun m => orElse (look m) (fileVal look pre m)) = lineLook look pre from rfl, he]
        simp only [fileValRevFrom, this]

theorem lookup_parsed (look : Look) (ls : List Line) (vars : List (Key × Str)) (hwf : WFLines ls)
    (h : parseLines look ls [] = .ok vars) (k : Key) : lookup k vars = fileVal look ls k :=
  (parseLines_outcome look [] ls [] hwf fun _ => rfl).2 vars h k

theorem loadEnvFiles_outcome (penv : List (Key × Str)) (fs : FS) (hwf : WFFS fs) (efs : List EnvFile)
    (earlier : List (List Line)) (acc : List (Key × Str))
    (hacc : ∀ n, lookup n acc = filesVal penv earlier n) :
    LoadsAs (loadEnvFiles penv fs efs acc) (envFailureFrom penv fs earlier efs)
      (filesVal penv (earlier ++ envContents fs efs)) := by
  induction efs generalizing earlier acc with
  | nil => exact ⟨rfl, fun res h k => by cases h; rw [envContents, List.filterMap_nil, List.append_nil]; exact hacc k⟩
  | cons f r ih =>
    have hchain : envChain penv acc = envLook penv (filesVal penv earlier) := by
      rw [envChain_eq]; congr 1; funext n; exact hacc n
    have stop (e : Err) (val : Key → Option Str) : LoadsAs (.error e) (some e) val := ⟨rfl, fun res h => nomatch h⟩
    -- a missing file: required ⇒ both sides stop, optional ⇒ both sides go on as if it were not listed
    have skip (hc : envContents fs (f :: r) = envContents fs r) :
        LoadsAs (match (if f.required then .error .notFound else .ok [] : Except Err (List (Key × Str))) with
            | .error e => .error e
            | .ok vars => loadEnvFiles penv fs r (overrideBy acc vars))
          (if f.required then some .notFound else envFailureFrom penv fs earlier r)
          (filesVal penv (earlier ++ envContents fs (f :: r))) := by
      cases f.required with
      | true => exact stop _ _
      | false => rw [hc]; exact ih earlier acc hacc
    simp only [loadEnvFiles, envFailureFrom, loadEnvFile_unregistered fs f _ fun _ => hwf.2 _, hchain]
    cases hp : fs f.path with
    | none => exact skip (by simp [envContents, hp])
    | some nd =>
      cases nd with
      | notdir => exact skip (by simp [envContents, hp])
      | dir =>
        dsimp only
        by_cases hf : f.format ≠ []
        · rw [if_pos hf, if_pos hf]; exact stop _ _
        · rw [if_neg hf, if_neg hf]; exact stop _ _
      | file ls =>
        dsimp only
        by_cases hf : f.format ≠ []
        · rw [if_pos hf, if_pos hf]; exact stop _ _
        · rw [if_neg hf, if_neg hf]
          have hfile := (parseLines_outcome (envLook penv (filesVal penv earlier)) [] ls [] (hwf.1 _ _ hp) fun _ => rfl).1
          cases hpl : parseLines (envLook penv (filesVal penv earlier)) ls [] with
          | error e =>
            rw [hpl] at hfile
            rw [show fileFailure _ ls = some e from hfile]
            exact stop _ _
          | ok vars =>
            rw [hpl] at hfile
            rw [show fileFailure _ ls = none from hfile,
              show earlier ++ envContents fs (f :: r) = (earlier ++ [ls]) ++ envContents fs r by simp [envContents, hp]]
            refine ih (earlier ++ [ls]) (overrideBy acc vars) fun n => ?_
            rw [lookup_overrideBy_str n acc vars (parseLines_distinct _ _ _ _ distinct_nil hpl),
              lookup_parsed _ _ _ (hwf.1 _ _ hp) hpl, filesVal_snoc', hacc n]

theorem loadLabelFiles_outcome (fs : FS) (hwf : WFFS fs) (ps : List Str)
    (earlier : List (List Line)) (acc : List (Key × Str))
    (hacc : ∀ n, lookup n acc = labelFilesVal earlier n) :
    LoadsAs (loadLabelFiles fs ps acc) (labelFailureFrom fs earlier ps) (labelFilesVal (earlier ++ labelContents fs ps)) := by
  rw [loadLabelFiles_eq, labelFailureFrom_eq, labelContents_eq, labelFilesVal_eq]
  exact loadEnvFiles_outcome [] fs hwf _ earlier acc fun n => (hacc n).trans (congrFun (labelFilesVal_eq earlier) n)

end CV.EnvLayers
