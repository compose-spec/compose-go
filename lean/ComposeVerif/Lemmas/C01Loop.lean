import ComposeVerif.Lemmas.ListFacts
/-!
What the reference-following loops of `Model/C01Cycles.lean` share.  `trail_snoc`: the list of ancestors a guarded descent
carries (tracker, `included`, search path) is duplicate-free inside a finite universe, so each level leaves less room — the
termination argument of all three.  `firstNotOk ok f`: ask each element in turn, stop at the first answer that is not `ok`;
`Dep.searchChildren`, `Dep.checkFrom`, `Inc.applyInclude`, `Inc.loadFiles` are this loop (one equation each, in their files).
-/
namespace CV.C01

theorem trail_snoc {κ : Type} {U tr : List κ} {k : κ} (hn : tr.Nodup) (hs : ∀ x ∈ tr, x ∈ U)
    (hk : k ∉ tr) (hU : k ∈ U) :
    (tr ++ [k]).Nodup ∧ (∀ x ∈ tr ++ [k], x ∈ U) ∧ U.length - (tr ++ [k]).length < U.length - tr.length := by
  have hn' := nodup_snoc hn hk
  have hs' : ∀ x ∈ tr ++ [k], x ∈ U := fun x hx =>
    (List.mem_append.mp hx).elim (hs x) fun h => List.mem_singleton.mp h ▸ hU
  have := hn'.length_le_of_subset hs'
  simp only [List.length_append, List.length_singleton] at this ⊢
  exact ⟨hn', hs', by omega⟩

section FirstNotOk
variable {α ρ : Type} [DecidableEq ρ]

def firstNotOk (ok : ρ) (f : α → ρ) : List α → ρ
  | [] => ok
  | x :: r => if f x = ok then firstNotOk ok f r else f x

theorem firstNotOk_eq_ok {ok : ρ} {f : α → ρ} : ∀ {l : List α}, firstNotOk ok f l = ok ↔ ∀ x ∈ l, f x = ok
  | [] => by simp [firstNotOk]
  | x :: r => by
    unfold firstNotOk
    split
    · next h => simp [firstNotOk_eq_ok (l := r), h]
    · next h => simp [h]

theorem firstNotOk_mem {ok r : ρ} {f : α → ρ} : ∀ {l : List α}, firstNotOk ok f l = r → r ≠ ok → ∃ x ∈ l, f x = r
  | [], h, hr => absurd h.symm hr
  | x :: l, h, hr => by
    unfold firstNotOk at h
    split at h
    · exact (firstNotOk_mem h hr).imp fun _ hy => ⟨List.mem_cons_of_mem _ hy.1, hy.2⟩
    · exact ⟨x, List.mem_cons_self .., h⟩

theorem firstNotOk_congr {ok bad : ρ} {f g : α → ρ} : ∀ {l : List α}, (∀ x ∈ l, f x ≠ bad → g x = f x) →
    firstNotOk ok f l ≠ bad → ok ≠ bad → firstNotOk ok g l = firstNotOk ok f l
  | [], _, _, _ => rfl
  | x :: r, h, hb, hne => by
    unfold firstNotOk at hb ⊢
    have hx : g x = f x := h x (List.mem_cons_self ..) fun e => by
      split at hb
      · next e' => exact hne (e'.symm.trans e)
      · exact hb e
    rw [hx]
    split
    · next e => rw [if_pos e] at hb; exact firstNotOk_congr (fun y hy => h y (List.mem_cons_of_mem _ hy)) hb hne
    · rfl

end FirstNotOk

end CV.C01
