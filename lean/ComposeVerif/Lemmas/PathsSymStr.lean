import ComposeVerif.Lemmas.PathsSymlink
import ComposeVerif.Lemmas.PathsCompose
import ComposeVerif.Lemmas.PathsOrigin
/-!
The string-level `ResolveSymbolicLink` (`Sym.resolveStr`) is a well-behaved symbolic-link resolution in the sense of
`SymOK` (C12): relative paths are left alone, an absolute path is sent to an absolute fixpoint.  This composes
the link-table model with the resolver model (`Cfg.sym`), so that idempotence and two-stage = one-stage hold for trees
*with* symbolic links.
-/
namespace CV.Paths.Sym
open CV CV.Paths

/-- a component of a clean absolute path: not empty, not `.`, not `..`, no slash -/
def Comp (c : Str) : Prop := Norm c ∧ '/' ∉ c

/-- the link table speaks about real paths: the components `EvalSymlinks` answers are proper components -/
def ProperFS (fs : FS) : Prop := ∀ p t, fs p = some (some t) → ∀ c ∈ t, Comp c

theorem comps_render (r : P) (h : ∀ c ∈ r, Comp c) : comps ('/' :: joinSlash r) = r := by
  have hn : ∀ c ∈ r, Norm c := fun c hc => (h c hc).1
  have hs : ∀ c ∈ r, '/' ∉ c := fun c hc => (h c hc).2
  simp only [comps, cleanStack, isAbs_cons_slash, splitSlash_cons_slash, List.foldl_cons]
  rw [step_skip true [] [] (.inl rfl)]
  cases r with
  | nil => simp [joinSlash, splitSlash, step_skip true [] [] (.inl rfl)]
  | cons a as =>
    rw [splitSlash_joinSlash (a :: as) (by simp) hs, foldl_step_norms true (a :: as) [] hn]
    simp

theorem loop_comp (fs : FS) (hp : ProperFS fs) : ∀ (fuel : Nat) (p r : P), (∀ c ∈ p, Comp c) → loop fs fuel p = .ok r →
    ∀ c ∈ r, Comp c
  | 0, p, r, hc, h => by cases h; exact hc
  | fuel + 1, p, r, hc, h => by
    rcases loop_succ_ok fs fuel p r h with ⟨rfl, _⟩ | ⟨pre, c', rest, t, hcut, hfs, _, ⟨_, rfl⟩ | ⟨_, h'⟩⟩
    · exact hc
    · exact hc
    · refine loop_comp fs hp fuel (t ++ rest) r (fun c hcm => ?_) h'
      rcases List.mem_append.mp hcm with hm | hm
      · exact hp _ t hfs c hm
      · exact hc c (by rw [hcut]; simp [hm])

theorem resolveStr_symOK (fs : FS) (hph : Physical fs) (hp : ProperFS fs) : SymOK (resolveStr fs) where
  rel := fun s hs => by simp [resolveStr, hs]
  abs := fun s r ha h => by
    simp only [resolveStr, ha, if_true] at h
    cases hr : resolveSym fs (comps s) with
    | err => simp [hr] at h
    | ok r' =>
      simp only [hr, Option.some.injEq] at h
      subst h
      have hc : ∀ c ∈ r', Comp c := loop_comp fs hp _ _ _
        (fun c hc => ⟨comps_norm_of_abs s ha c hc, comps_noSlash s c hc⟩) (by simpa [resolveSym] using hr)
      have hlf : LinkFree fs r' := resolveSym_linkFree fs hph (comps s) r' hr
      refine ⟨isAbs_cons_slash _, ?_⟩
      simp only [resolveStr, isAbs_cons_slash, if_true, comps_render r' hc, resolveSym, loop_of_linkFree fs r' hlf]

/-- a one-link table `/l → /t` (non-vacuity of `Physical`, `ProperFS` in Props/C12Symlink.lean) -/
def oneLink : FS := ofTable [([['l']], some [['t']])]

theorem oneLink_cases (p : P) (t : P) (h : oneLink p = some (some t)) : p = [['l']] ∧ t = [['t']] := by
  simp only [oneLink, ofTable, List.find?] at h
  split at h
  · rename_i e hf
    split at hf
    · rename_i hd
      simp only [Option.some.injEq] at hf
      subst hf
      simp only [Option.some.injEq] at h
      exact ⟨(of_decide_eq_true hd).symm, h.symm⟩
    · simp at hf
  · cases h

end CV.Paths.Sym
