import ComposeVerif.Model.Locked
/-!
# The traversal's lock-guarded sections with more state, and a memo section

`ready` / `enter` / `done` of `graph.traversal` as sections of `Model/Locked.lean` on `t.status` with a ghost list of the
vertices `enter` has won (`TS`), and on `t.status` with `t.results` (`RS ρ`); `memoF` is `if memo == nil { memo = c }`.
Definitions only, importing the model alone, because the theorems of `Props/C19Locks.lean` / `Props/C19Conc.lean` and the
witnesses of `Neg/C19Conc.lean` are stated with them.
-/
namespace CV.Locked

/-- guarded state of the traversal with a ghost list of the vertices whose `enter` returned `true` -/
abbrev TS := (Nat → Status) × List Nat

def enterG (v : Nat) : TS → TS := fun (st, won) => (enterF v st, if st v = .absent then won ++ [v] else won)
def doneG (v : Nat) : TS → TS := fun (st, won) => (doneF v st, won)
def readyG (v : Nat) : TS → TS := fun (st, won) => (readyF v st, won)

section
variable {Tid ρ : Type}

/-- guarded state of the traversal: `t.status` and `t.results` -/
abbrev RS (ρ : Type) := (Nat → Status) × (Nat → Option ρ)

/-- `done(v, r)`: `t.status[v.key] = vertexVisited; t.results[v.key] = r` -/
def doneR (v : Nat) (r : ρ) : RS ρ → RS ρ := fun (st, res) => (doneF v st, fun u => if u = v then some r else res u)
def enterR (v : Nat) : RS ρ → RS ρ := fun (st, res) => (enterF v st, res)
def readyR (v : Nat) : RS ρ → RS ρ := fun (st, res) => (readyF v st, res)

/-- the sections the goroutines of a walk run: `ready` / `enter` of any vertex by anybody, and `done(v, val v)` — the
    worker of `v` stores what the supplied function returned for `v` (`val v`; the zero value for a skipped vertex) -/
def WalkSections (val : Nat → ρ) (prog : Tid → List (RS ρ → RS ρ)) : Prop :=
  ∀ t, ∀ f ∈ prog t, ∃ v, f = enterR v ∨ f = readyR v ∨ f = doneR v (val v)

end

def memoF (c : List String) : Option (List String) → Option (List String) := fun m => if m.isSome then m else some c

end CV.Locked
