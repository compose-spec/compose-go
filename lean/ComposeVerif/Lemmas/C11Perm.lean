import ComposeVerif.Lemmas.C11Top
/-! Go's map iteration order is a universally quantified permutation: the `Normalize` model gives permuted
inputs permuted outputs, at each of the mappings the Go code ranges over (C11). -/
namespace CV.C11
open CV CV.Val CV.C11.Spec

/-- distinct keys (every association list that represents a Go map): `(keys m).Nodup` as Lemmas/KVs.lean states its lemmas, by unfolding -/
def KeysNodup (m : KVs) : Prop := (m.map Prod.fst).Nodup

theorem KeysNodup_iff {m : KVs} : KeysNodup m ↔ (keys m).Nodup := Iff.rfl

theorem KeysNodup.perm {m m' : KVs} (h : KeysNodup m) (hp : m'.Perm m) : KeysNodup m' :=
  (List.Perm.nodup_iff (hp.map Prod.fst)).mpr h

theorem lookup_none_of_not_mem {k : String} {m : KVs} (h : k ∉ m.map Prod.fst) : lookup k m = none :=
  lookup_eq_none.mpr h

theorem lookup_perm {m m' : KVs} (hn : KeysNodup m) (hp : m'.Perm m) (k : String) : lookup k m' = lookup k m :=
  (Val.lookup_perm hp.symm hn).symm

theorem keys_mapAt (f : String → Val → Val) (m : KVs) : (mapAt f m).map Prod.fst = m.map Prod.fst := by
  simp [mapAt, List.map_map, Function.comp_def]

theorem KeysNodup.mapAt {m : KVs} (h : KeysNodup m) (f : String → Val → Val) : KeysNodup (mapAt f m) := by
  unfold KeysNodup; rw [keys_mapAt]; exact h

theorem putNonEmpty_perm (k : String) (n : KVs) {m m' : KVs} (hn : KeysNodup m) (hp : m'.Perm m) :
    (putNonEmpty k n m').Perm (putNonEmpty k n m) := by
  cases n with
  | nil => exact hp
  | cons _ _ => exact insert_perm _ _ hp (hn.perm hp)

theorem impliedDeps_perm {s s' : KVs} (hn : KeysNodup s) (hp : s'.Perm s) : impliedDeps s' = impliedDeps s := by
  have hl := lookup_perm hn hp
  unfold impliedDeps impliedList
  rw [hl "links", hl "volumes_from", hl "depends_on", nsDeps_congr (fun ns _ => hl ns)]

theorem usesDefaultNetwork_perm {d d' : KVs} (hn : KeysNodup d) (hp : d'.Perm d) :
    usesDefaultNetwork d' = usesDefaultNetwork d := by
  unfold usesDefaultNetwork; rw [lookup_perm hn hp]

theorem nnNetworks_perm {d d' : KVs} (hn : KeysNodup d) (hp : d'.Perm d) : nnNetworks d' = nnNetworks d := by
  unfold nnNetworks declaredNetworks
  rw [usesDefaultNetwork_perm hn hp, lookup_perm hn hp]

theorem normalizePure_perm (clean : String → String) (env : Env) {d d' : KVs} (hn : KeysNodup d) (hp : d'.Perm d) :
    (normalizePure clean env d').Perm (normalizePure clean env d) := by
  rw [normalizePure_eq, normalizePure_eq, nnNetworks_perm hn hp, lookup_perm hn hp "name"]
  exact putNonEmpty_perm _ _ (hn.mapAt _) (hp.map _)

theorem shapes_perm {d d' : KVs} (hn : KeysNodup d) (hp : d'.Perm d) :
    shapeNN d' = shapeNN d ∧ shapeServices d' = shapeServices d ∧ shapeNames d' = shapeNames d := by
  have hl := lookup_perm hn hp
  refine ⟨?_, ?_, ?_⟩
  · unfold shapeNN; rw [hl "networks", hl "services"]
  · unfold shapeServices; rw [hl "services"]
  · unfold shapeNames
    congr 1
    funext r
    unfold shapeSection
    rw [hl r]

end CV.C11
