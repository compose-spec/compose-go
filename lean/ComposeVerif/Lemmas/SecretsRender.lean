import ComposeVerif.Lemmas.SecretsFlow
/-! C20: the rendered sections are untainted when the typed objects are (`AllStr_render_default`); look-ups in the rendered
fields; the heap of `marshallOptions.apply`; a canary with a character the fixed vocabulary lacks satisfies `VocabOk`. -/
namespace CV.Secrets
open CV
open CV.Val hiding lookup_insert_self lookup_insert_ne

theorem AllStrKV_mapVals {P : String → Prop} {f : FileObj → Val} :
    ∀ {l : List (String × FileObj)}, (∀ e ∈ l, P e.1 ∧ AllStr P (f e.2)) → AllStrKV P (mapVals f l)
  | [], _ => by simp [mapVals, AllStrKV]
  | (n, o) :: r, h => by
    simp only [List.forall_mem_cons] at h
    simp only [mapVals, List.map, AllStrKV]
    exact ⟨h.1.1, h.1.2, AllStrKV_mapVals h.2⟩

theorem AllStrKV_sectionKV {P : String → Prop} {k : String} {m : KVs} (hk : P k) (hm : AllStrKV P m) : AllStrKV P (sectionKV k m) := by
  unfold sectionKV
  split
  · simp [AllStrKV]
  · simp [AllStrKV, AllStr, hk, hm]

theorem AllStr_render_default {P : String → Prop} (hv : VocabOk P) {p : Proj}
    (h : (∀ e ∈ p.secrets, P e.1 ∧ e.2.CleanBut P ∧ e.2.marshallContent = false) ∧
      (∀ e ∈ p.configs, P e.1 ∧ e.2.CleanBut P ∧ (e.2.environment ≠ "" ∨ OptP P e.2.content))) (r : Renderer) :
    AllStr P (render r false p) :=
  AllStrKV_append
    (AllStrKV_sectionKV hv.secrets (AllStrKV_mapVals fun e he =>
      ⟨(h.1 e he).1, AllStr_renderSecret hv.vocab (h.1 e he).2.1 (h.1 e he).2.2 r⟩))
    (AllStrKV_sectionKV hv.configs (AllStrKV_mapVals fun e he =>
      ⟨(h.2 e he).1, AllStr_renderConfig hv.vocab (h.2 e he).2.1 (h.2 e he).2.2 r⟩))

theorem lookup_optStr (k k' s : String) : lookup k (optStr k' s) = if k = k' ∧ s ≠ "" then some (.str s) else none := by
  unfold optStr; split <;> simp_all [lookup]

theorem lookup_optBool_ne {k k' : String} (h : k ≠ k') (b : Bool) : lookup k (optBool k' b) = none := by
  unfold optBool; split <;> simp [lookup, h]

theorem lookup_optStrMap_ne {k k' : String} (h : k ≠ k') (m : List (String × String)) : lookup k (optStrMap k' m) = none := by
  unfold optStrMap; split <;> simp [lookup, h]

theorem fields_environment (o : FileObj) (h : o.environment ≠ "") : lookup "environment" o.fields = some (.str o.environment) := by
  simp [FileObj.fields, lookup_append, lookup_optStr, h]

theorem fields_content (o : FileObj) :
    lookup "content" o.fields = if o.content = "" then none else some (.str o.content) := by
  simp [FileObj.fields, lookup_append, lookup_optStr, lookup_optBool_ne, lookup_optStrMap_ne]

/-! ### the heap of `marshallOptions.apply` -/

theorem lookup_filter_ne {α : Type} {a b : Nat} (hab : a ≠ b) (l : List (Nat × α)) :
    (l.filter fun e => e.1 != b).lookup a = l.lookup a := by
  rw [← Assoc.lookup_eq_list, ← Assoc.lookup_eq_list, Assoc.lookup_filter_key (· != b), if_pos (by simpa using hab)]

theorem Heap.get_set_ne (h : Heap) {a b : Nat} (hab : a ≠ b) (m : List (String × FileObj)) : (h.set b m).get a = h.get a := by
  have : (a == b) = false := by simpa using hab
  simp only [Heap.get, Heap.set, List.lookup, this, lookup_filter_ne hab]

theorem Heap.get_copyMap_ne (h : Heap) {a : Nat} (ha : a ≠ h.next) (b : Nat) : (h.copyMap b).1.get a = h.get a := by
  have : (a == h.next) = false := by simpa using ha
  simp only [Heap.get, Heap.copyMap, List.lookup, this]

theorem Heap.get_set_self (h : Heap) (a : Nat) (m : List (String × FileObj)) : (h.set a m).get a = m := by
  simp [Heap.get, Heap.set, List.lookup]

theorem Heap.get_copyMap_self (h : Heap) (b : Nat) : (h.copyMap b).1.get h.next = h.get b := by
  simp [Heap.get, Heap.copyMap, List.lookup]

theorem lookup_filter_ext {k : String} (hk : isExtKey k = true) (kvs : KVs) :
    Val.lookup k (kvs.filter fun kv => isExtKey kv.1) = Val.lookup k kvs := by
  rw [Val.lookup_eq, Val.lookup_eq, Assoc.lookup_filter_key isExtKey, if_pos hk]

theorem isExtKey_xValue : isExtKey xValue = true := by decide +kernel

theorem cutEqL_fst_prefix : ∀ l : List Char, (cutEqL l).1 <+: l
  | [] => by simp [cutEqL]
  | c :: cs => by
    simp only [cutEqL]
    split
    · exact List.nil_prefix
    · exact (List.cons_prefix_cons).2 ⟨rfl, cutEqL_fst_prefix cs⟩

theorem cutEqL_snd_suffix : ∀ l : List Char, (cutEqL l).2 <:+ l
  | [] => by simp [cutEqL]
  | c :: cs => by
    simp only [cutEqL]
    split
    · exact List.suffix_cons _ _
    · exact (cutEqL_snd_suffix cs).trans (List.suffix_cons _ _)

theorem cutClosed_not_occurs (c : List Char) : CutClosed (fun s => ¬ occurs c s) := by
  intro s hs
  simp only [occurs, occursB_iff_infix] at hs ⊢
  constructor
  · intro h
    apply hs
    simp only [cutEq, String.toList_ofList] at h
    exact h.trans (cutEqL_fst_prefix _).isInfix
  · intro h
    apply hs
    simp only [cutEq, String.toList_ofList] at h
    exact h.trans (cutEqL_snd_suffix _).isInfix

theorem vocabulary_chars : ∀ k ∈ vocabulary ++ carrierKeys, ∀ ch ∈ k.toList, ch.isLower ∨ ch ∈ "_<>#-C".toList := by
  decide +kernel

theorem VocabOk_of_foreign_char {c : List Char} {ch : Char} (hch : ch ∈ c) (hf : ¬ (ch.isLower ∨ ch ∈ "_<>#-C".toList)) :
    VocabOk (fun s => ¬ occurs c s) :=
  have key : ∀ k ∈ vocabulary ++ carrierKeys, ¬ occurs c k := fun k hk ho =>
    hf (vocabulary_chars k hk ch (((occursB_iff_infix c _).1 ho).subset hch))
  ⟨fun k hk => key k (List.mem_append_left _ hk), fun k hk => key k (List.mem_append_right _ hk), cutClosed_not_occurs c⟩

end CV.Secrets
