import ComposeVerif.Model.Select
import ComposeVerif.Lemmas.MapOrderSort
import ComposeVerif.Lemmas.Assoc
/-! C15: the Go maps and `sort.Strings` of `Model/Select.lean` through the shared libraries.  `lookup`/`insert`/`erase`/`insertAll` are
those of `Lemmas/Assoc.lean` (`lookup_eq` …), and the lemmas of that file are restated for them under the same names;
`sortNames` is the insertion sort of `Model/MapOrder.lean` (`sortNames_eq`). -/
namespace CV.Sel



section AL
variable {α : Type}

theorem lookup_eq (k : String) (m : AL α) : lookup k m = Assoc.lookup k m := by
  induction m with
  | nil => rfl
  | cons e r ih => rw [lookup, ih]; rfl

theorem insert_eq (k : String) (v : α) (m : AL α) : insert k v m = Assoc.insert k v m := by
  induction m with
  | nil => rfl
  | cons e r ih => rw [insert, ih]; rfl

theorem erase_eq (k : String) (m : AL α) : erase k m = Assoc.erase k m := by
  induction m with
  | nil => rfl
  | cons e r ih => rw [erase, ih]; rfl

theorem insertAll_eq (src dst : AL α) : insertAll src dst = Assoc.insertAll src dst := by
  simp only [insertAll, Assoc.insertAll, insert_eq]

@[simp] theorem keys_nil : keys ([] : AL α) = [] := rfl
@[simp] theorem keys_cons (k : String) (v : α) (m : AL α) : keys ((k, v) :: m) = k :: keys m := rfl

theorem mem_keys {k : String} {m : AL α} : k ∈ keys m ↔ ∃ v, (k, v) ∈ m := Assoc.mem_keys

theorem mem_keys_of_mem {kv : String × α} {m : AL α} (h : kv ∈ m) : kv.1 ∈ keys m := Assoc.mem_keys_of_mem h

theorem keys_append (a b : AL α) : keys (a ++ b) = keys a ++ keys b := List.map_append

@[simp] theorem lookup_nil (k : String) : lookup k ([] : AL α) = none := rfl

theorem lookup_cons (k k' : String) (v : α) (m : AL α) :
    lookup k ((k', v) :: m) = if k = k' then some v else lookup k m := rfl

theorem lookup_eq_none {k : String} {m : AL α} : lookup k m = none ↔ k ∉ keys m := by
  rw [lookup_eq]; exact Assoc.lookup_eq_none

theorem lookup_isSome {k : String} {m : AL α} : (lookup k m).isSome ↔ k ∈ keys m := by
  rw [lookup_eq]; exact Assoc.lookup_isSome

theorem exists_lookup_of_mem_keys {k : String} {m : AL α} (h : k ∈ keys m) : ∃ v, lookup k m = some v :=
  Option.isSome_iff_exists.1 (lookup_isSome.2 h)

theorem mem_of_lookup {k : String} {v : α} {m : AL α} (h : lookup k m = some v) : (k, v) ∈ m :=
  Assoc.mem_of_lookup (lookup_eq k m ▸ h)

theorem keys_of_lookup {k : String} {v : α} {m : AL α} (h : lookup k m = some v) : k ∈ keys m :=
  mem_keys_of_mem (mem_of_lookup h)

theorem lookup_of_mem {k : String} {v : α} {m : AL α} (nd : (keys m).Nodup) (h : (k, v) ∈ m) : lookup k m = some v := by
  rw [lookup_eq]; exact Assoc.lookup_of_mem nd h

theorem insert_cons (k k' : String) (v v' : α) (m : AL α) :
    insert k v ((k', v') :: m) = if k = k' then (k, v) :: m else (k', v') :: insert k v m := rfl

theorem erase_cons (k k' : String) (v' : α) (m : AL α) :
    erase k ((k', v') :: m) = if k = k' then erase k m else (k', v') :: erase k m := rfl

theorem lookup_insert {k x : String} {v : α} {m : AL α} :
    lookup x (insert k v m) = if x = k then some v else lookup x m := by
  rw [lookup_eq, insert_eq, lookup_eq]; exact Assoc.lookup_insert

theorem nodup_insert {k : String} {v : α} {m : AL α} (nd : (keys m).Nodup) : (keys (insert k v m)).Nodup := by
  rw [insert_eq]; exact Assoc.nodup_insert nd

theorem insert_of_not_mem {k : String} {v : α} {m : AL α} (h : k ∉ keys m) : insert k v m = m ++ [(k, v)] := by
  rw [insert_eq]; exact Assoc.insert_of_not_mem h

theorem keys_filter_sublist (f : String × α → Bool) (m : AL α) : (keys (m.filter f)).Sublist (keys m) :=
  Assoc.keys_filter_sublist f m

theorem nodup_filter {f : String × α → Bool} {m : AL α} (nd : (keys m).Nodup) : (keys (m.filter f)).Nodup :=
  Assoc.nodup_filter nd

theorem mem_keys_filter {f : String × α → Bool} {m : AL α} {k : String} :
    k ∈ keys (m.filter f) ↔ ∃ v, (k, v) ∈ m ∧ f (k, v) = true := Assoc.mem_keys_filter

theorem lookup_filter {f : String × α → Bool} {k : String} {m : AL α} (nd : (keys m).Nodup) :
    lookup k (m.filter f) = (lookup k m).filter (fun v => f (k, v)) := by
  rw [lookup_eq, lookup_eq]; exact Assoc.lookup_filter nd

theorem filter_disjoint {f : String × α → Bool} {m : AL α} (nd : (keys m).Nodup) :
    ∀ k ∈ keys (m.filter f), k ∉ keys (m.filter (fun kv => !f kv)) := by
  intro k h1 h2
  obtain ⟨v, hv, hf⟩ := mem_keys_filter.1 h1
  obtain ⟨w, hw, hg⟩ := mem_keys_filter.1 h2
  cases Assoc.eq_of_mem_of_fst_eq nd hv hw rfl
  rw [hf] at hg; cases hg

theorem erase_eq_filter {k : String} {m : AL α} : erase k m = m.filter (fun kv => kv.1 ≠ k) := by
  rw [erase_eq]; exact Assoc.erase_eq_filter

/-- on the key alone: no distinctness needed -/
theorem lookup_filter_key (g : String → Bool) {k : String} {m : AL α} :
    lookup k (m.filter fun kv => g kv.1) = if g k = true then lookup k m else none := by
  rw [lookup_eq, lookup_eq]; exact Assoc.lookup_filter_key g

theorem mem_keys_filter_key (g : String → Bool) {k : String} {m : AL α} :
    k ∈ keys (m.filter fun kv => g kv.1) ↔ k ∈ keys m ∧ g k = true := Assoc.mem_keys_filter_key g

theorem mem_keys_erase {k x : String} {m : AL α} : x ∈ keys (erase k m) ↔ x ≠ k ∧ x ∈ keys m := by
  rw [erase_eq]; exact Assoc.mem_keys_erase

theorem erase_of_not_mem {k : String} {m : AL α} (h : k ∉ keys m) : erase k m = m := by
  rw [erase_eq]; exact Assoc.erase_of_not_mem h

theorem lookup_erase {k x : String} {m : AL α} : lookup x (erase k m) = if x = k then none else lookup x m := by
  rw [lookup_eq, erase_eq, lookup_eq]; exact Assoc.lookup_erase

theorem nodup_erase {k : String} {m : AL α} (nd : (keys m).Nodup) : (keys (erase k m)).Nodup := by
  rw [erase_eq]; exact Assoc.nodup_erase nd

theorem lookup_map_val {β : Type} (g : String → α → β) {k : String} {m : AL α} :
    lookup k (m.map fun kv => (kv.1, g kv.1 kv.2)) = (lookup k m).map (g k) := by
  rw [lookup_eq, lookup_eq]; exact Assoc.lookup_map_val g

theorem keys_map_val {β : Type} (g : String → α → β) (m : AL α) :
    keys (m.map fun kv => (kv.1, g kv.1 kv.2)) = keys m := List.map_map

theorem lookup_append {k : String} {a b : AL α} :
    lookup k (a ++ b) = match lookup k a with | some v => some v | none => lookup k b := by
  rw [lookup_eq, lookup_eq, lookup_eq, Assoc.lookup_append]; cases Assoc.lookup k a <;> rfl

theorem lookup_perm {k : String} {a b : AL α} (h : a.Perm b) (nd : (keys a).Nodup) : lookup k a = lookup k b := by
  rw [lookup_eq, lookup_eq]; exact Assoc.lookup_perm h nd

theorem mem_keys_insertAll (src dst : AL α) (k : String) :
    k ∈ keys (insertAll src dst) ↔ k ∈ keys src ∨ k ∈ keys dst := by
  rw [insertAll_eq]; exact Assoc.mem_keys_insertAll src dst k

theorem insertAll_append {src dst : AL α} (nd : (keys src).Nodup) (dj : ∀ k ∈ keys src, k ∉ keys dst) :
    insertAll src dst = dst ++ src := by
  rw [insertAll_eq]; exact Assoc.insertAll_append nd dj

end AL

theorem has_eq {α} (k : String) (m : AL α) : has k m = decide (k ∈ keys m) := by
  rw [Bool.eq_iff_iff, decide_eq_true_iff]; exact lookup_isSome

/-- `sort.Strings` of this model is the insertion sort of `Model/MapOrder.lean` (the two differ in how `x ≤ y` is tested) -/
theorem insertName_eq (x : String) (l : List String) : insertName x l = Det.insertBy Det.strLe x l := by
  induction l with
  | nil => rfl
  | cons y ys ih => simp only [insertName, Det.insertBy, Det.strLe, decide_eq_true_eq, ih]

theorem sortNames_eq (l : List String) : sortNames l = Det.sortStrs l := by
  induction l with
  | nil => rfl
  | cons x xs ih => rw [sortNames, ih, insertName_eq]; rfl

theorem sortNames_perm (l : List String) : (sortNames l).Perm l := sortNames_eq l ▸ Det.sortStrs_perm_self l

theorem mem_sortNames {x : String} {l : List String} : x ∈ sortNames l ↔ x ∈ l := (sortNames_perm l).mem_iff

theorem sortNames_sorted (l : List String) : (sortNames l).Pairwise (· ≤ ·) := sortNames_eq l ▸ Det.sortStrs_sorted l

theorem sortNames_eq_of_perm {l l' : List String} (h : l.Perm l') : sortNames l = sortNames l' := by
  rw [sortNames_eq, sortNames_eq]; exact Det.sortStrs_perm h
end CV.Sel
