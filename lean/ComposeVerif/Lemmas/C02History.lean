import ComposeVerif.Model.C02History
/-! The history model with every entry its own mapping (`lift`: no reference to the package-level mapping): lookup, store,
merge and read-out are those of the plain mappings, and the package-level mapping is never written. -/
namespace CV.Det.History

def lift (es : List (String × KS)) : List (String × Ref) := es.map fun e => (e.1, Ref.own e.2)

theorem lookupR_lift (n : String) : ∀ es, lookupR n (lift es) = (lookupP n es).map Ref.own
  | [] => rfl
  | (k, r) :: t => by
    simp only [lift, List.map_cons, lookupR, lookupP]
    split
    · rfl
    · exact lookupR_lift n t

theorem setR_lift (n : String) (x : KS) : ∀ es, setR n (.own x) (lift es) = lift (setP n x es)
  | [] => rfl
  | (k, r) :: t => by
    simp only [lift, List.map_cons, setR, setP]
    split
    · rfl
    · simp only [List.map_cons, List.cons.injEq, true_and]; exact setR_lift n x t

theorem mergeAll_lift (g : KS) : ∀ (over : List (String × KS)) (es : List (String × KS)),
    mergeAll g (lift es) over = (g, lift (over.foldl mergeOneP es))
  | [], _ => rfl
  | o :: r, es => by
    have step : mergeOne (g, lift es) o = (g, lift (mergeOneP es o)) := by
      simp only [mergeOne, mergeOneP, lookupR_lift]
      cases h : lookupP o.1 es with
      | none => simp only [Option.map_none, lift, List.map_append, List.map_cons, List.map_nil]
      | some m => simp only [Option.map_some, setR_lift]
    have := mergeAll_lift g r (mergeOneP es o)
    simp only [mergeAll, List.foldl_cons] at this ⊢
    rw [step]; exact this

theorem readOut_lift (g : KS) : ∀ es, readOut g (lift es) = es
  | [] => rfl
  | (k, r) :: t => by
    have := readOut_lift g t
    simp only [readOut, lift, List.map_cons, deref, List.map_map] at this ⊢
    rw [this]

end CV.Det.History
