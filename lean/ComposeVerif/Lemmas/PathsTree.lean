import ComposeVerif.Lemmas.PathsStr
import ComposeVerif.Lemmas.Path
import ComposeVerif.Lemmas.KVs
/-! Tree-level laws of the resolvers and of the walker (C12): shapes, the predicate `Frame`, no panic, table order.
`applyResolver_rec` reduces a statement about every handler name to the seven resolvers; `walk_induction` is induction
along the walker's traversal. -/
namespace CV.Paths
open CV CV.TPath

theorem lookup_insert_self (k : String) (v : Val) (m : Val.KVs) : Val.lookup k (Val.insert k v m) = some v :=
  Val.lookup_insert_self k v m

theorem lookup_insert_ne (k k2 : String) (v : Val) (m : Val.KVs) (hne : k2 ≠ k) :
    Val.lookup k2 (Val.insert k v m) = Val.lookup k2 m := Val.lookup_insert_ne hne v m

theorem Out.map_ok {α β : Type} (f : α → β) (x : Out α) (b : β) (h : x.map f = .ok b) : ∃ a, x = .ok a ∧ f a = b := by
  cases x with
  | ok a => exact ⟨a, rfl, by simpa [Out.map] using h⟩
  | err e => simp [Out.map] at h
  | panic s => simp [Out.map] at h

theorem Out.map_no_panic {α β : Type} (f : α → β) (x : Out α) (h : ∀ s, x ≠ .panic s) : ∀ s, x.map f ≠ .panic s := by
  intro s
  cases x with
  | ok a => simp [Out.map]
  | err e => simp [Out.map]
  | panic t => exact absurd rfl (h t)

/-- `maybeUnixPath`, `absContextPath`, `absExtendsPath`: a function on strings lifted to trees -/
def onStr (f : Str → Out Str) : Val → Out Val
  | .str s => (f s.toList).map (fun r => .str (String.ofList r))
  | _ => .err "unexpectedType"

theorem maybeUnixPath_eq (cfg : Cfg) (v : Val) : maybeUnixPath cfg v = onStr (maybeUnixStr cfg) v := by
  cases v <;> rfl

theorem absContextPath_eq (cfg : Cfg) (v : Val) : absContextPath cfg v = onStr (fun s => .ok (absContextStr cfg s)) v := by
  cases v <;> rfl

theorem absExtendsPath_eq (cfg : Cfg) (v : Val) : absExtendsPath cfg v = onStr (fun s => .ok (absExtendsStr cfg s)) v := by
  cases v <;> rfl

theorem onStr_ok {f : Str → Out Str} {v out : Val} (h : onStr f v = .ok out) :
    ∃ (s : String) (r : Str), v = .str s ∧ f s.toList = .ok r ∧ out = .str (String.ofList r) := by
  cases v with
  | str s =>
    obtain ⟨r, hr, rfl⟩ := Out.map_ok _ _ _ h
    exact ⟨s, r, rfl, hr, rfl⟩
  | _ => cases h

theorem onStr_str (f : Str → Out Str) (r : Str) :
    onStr f (.str (String.ofList r)) = (f r).map (fun r => .str (String.ofList r)) := by
  simp only [onStr, String.toList_ofList]

theorem onStr_no_panic {f : Str → Out Str} (hf : ∀ s x, f s ≠ .panic x) (v : Val) (x : String) :
    onStr f v ≠ .panic x := by
  cases v with
  | str s => exact Out.map_no_panic _ _ (hf _) x
  | _ => simp [onStr]

theorem absPath_other (cfg : Cfg) (v : Val) (hs : ∀ s, v ≠ .str s) (hq : ∀ xs, v ≠ .seq xs) :
    absPath cfg v = .err "unexpectedType" := by
  cases v with
  | str s => exact absurd rfl (hs s)
  | seq xs => exact absurd rfl (hq xs)
  | _ => rfl

theorem absPathList_cons (cfg : Cfg) (x : Val) (r : List Val) :
    absPathList cfg (x :: r) = (absPath cfg x).bind fun x' => (absPathList cfg r).map (x' :: ·) := by
  simp only [absPathList, Out.bind]
  cases absPath cfg x <;> rfl

theorem Out.bind_map_ok {α β γ : Type} {x : Out α} {y : α → Out β} {f : α → β → γ} {c : γ}
    (h : (x.bind fun a => (y a).map (f a)) = .ok c) : ∃ a b, x = .ok a ∧ y a = .ok b ∧ c = f a b := by
  cases x with
  | ok a =>
    obtain ⟨b, hb, rfl⟩ := Out.map_ok _ _ _ h
    exact ⟨a, b, rfl, hb, rfl⟩
  | err e => cases h
  | panic s => cases h

theorem Out.bind_map_no_panic {α β γ : Type} {x : Out α} {y : α → Out β} {f : α → β → γ}
    (hx : ∀ s, x ≠ .panic s) (hy : ∀ a s, y a ≠ .panic s) : ∀ s, (x.bind fun a => (y a).map (f a)) ≠ .panic s := by
  intro s
  cases x with
  | ok a => exact Out.map_no_panic _ _ (hy a) s
  | err e => exact fun h => nomatch h
  | panic t => exact absurd rfl (hx t)

theorem absPath_induction {P : Val → Prop} {PL : List Val → Prop}
    (str : ∀ s, P (.str s)) (seq : ∀ xs, PL xs → P (.seq xs))
    (other : ∀ v, (∀ s, v ≠ .str s) → (∀ xs, v ≠ .seq xs) → P v)
    (nil : PL []) (cons : ∀ x r, P x → PL r → PL (x :: r)) : (∀ v, P v) ∧ ∀ xs, PL xs :=
  ⟨val, list⟩
where
  val : ∀ v, P v
    | .str s => str s
    | .seq xs => seq xs (list xs)
    | .null | .bool _ | .int _ | .float _ | .map _ => other _ (fun _ h => nomatch h) (fun _ h => nomatch h)
  list : ∀ xs, PL xs
    | [] => nil
    | x :: r => cons x r (val x) (list r)

theorem absPath_no_panic_all (cfg : Cfg) :
    (∀ v s, absPath cfg v ≠ .panic s) ∧ (∀ xs s, absPathList cfg xs ≠ .panic s) := by
  refine absPath_induction ?str ?seq ?other ?nil ?cons
  case str => intro s x h; cases h
  case seq => intro xs ih x; exact Out.map_no_panic _ _ ih x
  case other => intro v hs hq x; rw [absPath_other cfg v hs hq]; exact fun h => nomatch h
  case nil => intro x h; cases h
  case cons => intro y r ihy ihr; rw [absPathList_cons]; exact Out.bind_map_no_panic ihy fun _ => ihr

theorem absPath_no_panic (cfg : Cfg) : ∀ (v : Val) (s : String), absPath cfg v ≠ .panic s :=
  (absPath_no_panic_all cfg).1

theorem absPathList_no_panic (cfg : Cfg) : ∀ (xs : List Val) (s : String), absPathList cfg xs ≠ .panic s :=
  (absPath_no_panic_all cfg).2

theorem absPath_seq_ok (cfg : Cfg) (xs : List Val) (w : Val) (h : absPath cfg (.seq xs) = .ok w) : ∃ ys, w = .seq ys := by
  obtain ⟨ys, _, rfl⟩ := Out.map_ok _ _ _ h
  exact ⟨ys, rfl⟩

theorem absSymbolicLink_str (c : Cfg) (s : String) :
    absSymbolicLink c (.str s) =
      match c.sym (absPathStr c s.toList) with
      | some r => okStr r
      | none => .err "symlink" := by
  simp only [absSymbolicLink, absPath, String.toList_ofList]
  rfl

theorem absSymbolicLink_seq (c : Cfg) (xs : List Val) : absSymbolicLink c (.seq xs) = absPath c (.seq xs) := by
  simp only [absSymbolicLink]
  cases h : absPath c (.seq xs) with
  | ok w => obtain ⟨ys, rfl⟩ := absPath_seq_ok c xs w h; rfl
  | err e => rfl
  | panic s => rfl

theorem absSymbolicLink_other (c : Cfg) (v : Val) (hs : ∀ s, v ≠ .str s) (hq : ∀ xs, v ≠ .seq xs) :
    absSymbolicLink c v = .err "unexpectedType" := by
  simp only [absSymbolicLink, absPath_other c v hs hq]

theorem absSymbolicLink_no_panic (cfg : Cfg) (v : Val) (s : String) : absSymbolicLink cfg v ≠ .panic s := by
  simp only [absSymbolicLink]
  cases h : absPath cfg v with
  | ok w =>
    cases w with
    | str x =>
      simp only
      cases cfg.sym x.toList <;> simp [okStr]
    | _ => simp
  | err e => simp
  | panic t => exact absurd h (absPath_no_panic cfg v t)

theorem maybeUnixStr_no_panic (cfg : Cfg) (p : Str) (s : String) : maybeUnixStr cfg p ≠ .panic s := by
  obtain ⟨r, hr⟩ := maybeUnixStr_total cfg p
  rw [hr]; simp

theorem maybeUnixPath_no_panic (cfg : Cfg) (v : Val) (s : String) : maybeUnixPath cfg v ≠ .panic s := by
  rw [maybeUnixPath_eq]; exact onStr_no_panic (maybeUnixStr_no_panic cfg) v s

theorem absVolumeMount_bind (c : Cfg) (kvs : Val.KVs) (s : String) (hty : Val.lookup "type" kvs = some (.str "bind"))
    (hs : Val.lookup "source" kvs = some (.str s)) :
    absVolumeMount c (.map kvs) =
      (maybeUnixStr c s.toList).map (fun r => .map (Val.insert "source" (.str (String.ofList r)) kvs)) := by
  simp only [absVolumeMount, hty, hs]

/-- what `absVolumeMount` can do to a mount: nothing (and then under every configuration), or replace `source` -/
theorem absVolumeMount_shape (cfg : Cfg) (kvs : Val.KVs) (v' : Val) (h : absVolumeMount cfg (.map kvs) = .ok v') :
    (v' = .map kvs ∧ ∀ c, absVolumeMount c (.map kvs) = .ok (.map kvs)) ∨
    (Val.lookup "type" kvs = some (.str "bind") ∧
      ∃ s r, Val.lookup "source" kvs = some (.str s) ∧ maybeUnixStr cfg s.toList = .ok r ∧
        v' = .map (Val.insert "source" (.str (String.ofList r)) kvs)) := by
  simp only [absVolumeMount] at h
  split at h
  · rename_i hty
    split at h
    · simp at h
    · rename_i s hs
      obtain ⟨r, hr, rfl⟩ := Out.map_ok _ _ _ h
      exact .inr ⟨hty, s, r, hs, hr, rfl⟩
    · simp at h
  · rename_i hnb
    cases h
    exact .inl ⟨rfl, fun c => by simp only [absVolumeMount]⟩

theorem absVolumeMount_other (cfg : Cfg) (v : Val) (hv : ∀ kvs, v ≠ .map kvs) : absVolumeMount cfg v = .ok v := by
  cases v with
  | map kvs => exact absurd rfl (hv kvs)
  | _ => rfl

theorem absVolumeMount_no_panic (cfg : Cfg) (v : Val) (s : String) : absVolumeMount cfg v ≠ .panic s := by
  cases v with
  | map kvs =>
    simp only [absVolumeMount]
    split
    · split
      · simp
      · exact Out.map_no_panic _ _ (maybeUnixStr_no_panic cfg _) s
      · simp
    · simp
  | _ => simp [absVolumeMount]

theorem volumeDriverOpts_bind (c : Cfg) (kvs opts : Val.KVs) (dev : Val)
    (hdr : Val.lookup "driver" kvs = some (.str "local")) (hopts : Val.lookup "driver_opts" kvs = some (.map opts))
    (ho : Val.lookup "o" opts = some (.str "bind")) (hdev : Val.lookup "device" opts = some dev) :
    volumeDriverOpts c (.map kvs) =
      (maybeUnixPath c dev).map (fun d => .map (Val.insert "driver_opts" (.map (Val.insert "device" d opts)) kvs)) := by
  simp only [volumeDriverOpts, hdr, hopts, ho, hdev]

/-- what `volumeDriverOpts` can do to a volume: nothing (and then under every configuration), or replace
`driver_opts.device` of a local bind volume -/
theorem volumeDriverOpts_shape (cfg : Cfg) (kvs : Val.KVs) (v' : Val) (h : volumeDriverOpts cfg (.map kvs) = .ok v') :
    (v' = .map kvs ∧ ∀ c, volumeDriverOpts c (.map kvs) = .ok (.map kvs)) ∨
    (Val.lookup "driver" kvs = some (.str "local") ∧
      ∃ opts dev d, Val.lookup "driver_opts" kvs = some (.map opts) ∧ Val.lookup "o" opts = some (.str "bind") ∧
        Val.lookup "device" opts = some dev ∧ maybeUnixPath cfg dev = .ok d ∧
        v' = .map (Val.insert "driver_opts" (.map (Val.insert "device" d opts)) kvs)) := by
  simp only [volumeDriverOpts] at h
  split at h
  · rename_i hdr
    split at h
    · rename_i hno; cases h; exact .inl ⟨rfl, fun c => by simp only [volumeDriverOpts, hdr, hno]⟩
    · rename_i hnull; cases h; exact .inl ⟨rfl, fun c => by simp only [volumeDriverOpts, hdr, hnull]⟩
    · rename_i opts hopts
      split at h
      · rename_i dev ho hdev
        obtain ⟨d, hd, rfl⟩ := Out.map_ok _ _ _ h
        exact .inr ⟨hdr, opts, dev, d, hopts, ho, hdev, hd, rfl⟩
      · rename_i hnb
        cases h
        exact .inl ⟨rfl, fun c => by simp only [volumeDriverOpts, hdr, hopts]⟩
    · cases h
  · rename_i hnl
    cases h
    exact .inl ⟨rfl, fun c => by simp only [volumeDriverOpts]⟩

theorem volumeDriverOpts_other (cfg : Cfg) (v v' : Val) (hv : ∀ kvs, v ≠ .map kvs)
    (h : volumeDriverOpts cfg v = .ok v') : v = .null ∧ v' = .null := by
  cases v with
  | map kvs => exact absurd rfl (hv kvs)
  | null => cases h; exact ⟨rfl, rfl⟩
  | _ => cases h

theorem volumeDriverOpts_no_panic (cfg : Cfg) (v : Val) (s : String) : volumeDriverOpts cfg v ≠ .panic s := by
  cases v with
  | map kvs =>
    simp only [volumeDriverOpts]
    split
    · split
      · simp
      · simp
      · split
        · exact Out.map_no_panic _ _ (maybeUnixPath_no_panic cfg _) s
        · simp
      · simp
    · simp
  | _ => simp [volumeDriverOpts]

def knownHandlers : List String :=
  ["absPath", "absContextPath", "absExtendsPath", "absSymbolicLink", "absVolumeMount", "maybeUnixPath", "volumeDriverOpts"]

/-- `applyResolver · h ·` is one of the seven resolvers, or a constant panic for a name the table does not use -/
theorem applyResolver_rec {motive : (Cfg → Val → Out Val) → Prop} (h : String)
    (absPath : motive absPath) (absContextPath : motive absContextPath) (absExtendsPath : motive absExtendsPath)
    (absSymbolicLink : motive absSymbolicLink) (absVolumeMount : motive absVolumeMount)
    (maybeUnixPath : motive maybeUnixPath) (volumeDriverOpts : motive volumeDriverOpts)
    (unknown : h ∉ knownHandlers → motive (fun _ _ => .panic ("unknownResolver:" ++ h))) :
    motive (fun cfg v => applyResolver cfg h v) := by
  unfold applyResolver
  by_cases h1 : h = "absPath"
  · subst h1; simpa only [if_true] using absPath
  by_cases h2 : h = "absContextPath"
  · subst h2; simpa only [h1, if_true, if_false] using absContextPath
  by_cases h3 : h = "absExtendsPath"
  · subst h3; simpa only [h1, h2, if_true, if_false] using absExtendsPath
  by_cases h4 : h = "absSymbolicLink"
  · subst h4; simpa only [h1, h2, h3, if_true, if_false] using absSymbolicLink
  by_cases h5 : h = "absVolumeMount"
  · subst h5; simpa only [h1, h2, h3, h4, if_true, if_false] using absVolumeMount
  by_cases h6 : h = "maybeUnixPath"
  · subst h6; simpa only [h1, h2, h3, h4, h5, if_true, if_false] using maybeUnixPath
  by_cases h7 : h = "volumeDriverOpts"
  · subst h7; simpa only [h1, h2, h3, h4, h5, h6, if_true, if_false] using volumeDriverOpts
  · simpa only [h1, h2, h3, h4, h5, h6, h7, if_false] using
      unknown (by simp [knownHandlers, h1, h2, h3, h4, h5, h6, h7])

theorem applyResolver_no_panic (cfg : Cfg) (h : String) (hk : h ∈ knownHandlers) (v : Val) (s : String) :
    applyResolver cfg h v ≠ .panic s :=
  applyResolver_rec (motive := fun f => ∀ v s, f cfg v ≠ .panic s) h
    (absPath_no_panic cfg)
    (fun v s => by rw [absContextPath_eq]; exact onStr_no_panic (fun _ _ e => by cases e) v s)
    (fun v s => by rw [absExtendsPath_eq]; exact onStr_no_panic (fun _ _ e => by cases e) v s)
    (absSymbolicLink_no_panic cfg) (absVolumeMount_no_panic cfg) (maybeUnixPath_no_panic cfg)
    (volumeDriverOpts_no_panic cfg) (fun hu => absurd hk hu) v s

theorem walk_of_match (t : Table) (cfg : Cfg) (p : TPath) (v : Val) (h : String) (hm : firstMatch t p = some h) :
    walk t cfg p v = applyResolver cfg h v := by
  cases v <;> simp [walk, hm]

theorem walk_scalar (t : Table) (cfg : Cfg) (p : TPath) (v : Val) (hm : firstMatch t p = none)
    (hs : (∀ kvs, v ≠ .map kvs) ∧ (∀ xs, v ≠ .seq xs)) : walk t cfg p v = .ok v := by
  cases v with
  | map kvs => exact absurd rfl (hs.1 kvs)
  | seq xs => exact absurd rfl (hs.2 xs)
  | _ => simp [walk, hm]

theorem walk_map (t : Table) (cfg : Cfg) (p : TPath) (kvs : List (String × Val)) (hm : firstMatch t p = none) :
    walk t cfg p (.map kvs) = (walkKVs t cfg p kvs).map .map := by
  simp only [walk, hm]

theorem walk_seq (t : Table) (cfg : Cfg) (p : TPath) (xs : List Val) (hm : firstMatch t p = none) :
    walk t cfg p (.seq xs) = (walkSeq t cfg p xs).map .seq := by
  simp only [walk, hm]

theorem walkKVs_cons (t : Table) (cfg : Cfg) (p : TPath) (k : String) (v : Val) (r : List (String × Val)) :
    walkKVs t cfg p ((k, v) :: r) =
      (walk t cfg (TPath.next p k) v).bind fun v' => (walkKVs t cfg p r).map ((k, v') :: ·) := by
  simp only [walkKVs, Out.bind]
  cases walk t cfg (TPath.next p k) v <;> rfl

theorem walkSeq_cons (t : Table) (cfg : Cfg) (p : TPath) (x : Val) (r : List Val) :
    walkSeq t cfg p (x :: r) = (walk t cfg (TPath.next p "[]") x).bind fun x' => (walkSeq t cfg p r).map (x' :: ·) := by
  simp only [walkSeq, Out.bind]
  cases walk t cfg (TPath.next p "[]") x <;> rfl

/-- induction along the walker: it stops at a node whose path matches a row, otherwise descends into a map or a
sequence and leaves anything else alone -/
theorem walk_induction (t : Table) {P : TPath → Val → Prop} {PK : TPath → List (String × Val) → Prop}
    {PS : TPath → List Val → Prop}
    (row : ∀ p v h, firstMatch t p = some h → P p v)
    (leaf : ∀ p v, firstMatch t p = none → (∀ kvs, v ≠ .map kvs) → (∀ xs, v ≠ .seq xs) → P p v)
    (map : ∀ p kvs, firstMatch t p = none → PK p kvs → P p (.map kvs))
    (seq : ∀ p xs, firstMatch t p = none → PS p xs → P p (.seq xs))
    (knil : ∀ p, PK p []) (kcons : ∀ p k v r, P (TPath.next p k) v → PK p r → PK p ((k, v) :: r))
    (snil : ∀ p, PS p []) (scons : ∀ p x r, P (TPath.next p "[]") x → PS p r → PS p (x :: r)) :
    (∀ p v, P p v) ∧ (∀ p kvs, PK p kvs) ∧ (∀ p xs, PS p xs) :=
  ⟨fun p v => node v p, fun p kvs => entries kvs p, fun p xs => elems xs p⟩
where
  node : ∀ (v : Val) (p : TPath), P p v
    | v, p =>
      match hm : firstMatch t p with
      | some h => row p v h hm
      | none =>
        match v with
        | .map kvs => map p kvs hm (entries kvs p)
        | .seq xs => seq p xs hm (elems xs p)
        | .null | .bool _ | .int _ | .float _ | .str _ => leaf p _ hm (fun _ h => nomatch h) (fun _ h => nomatch h)
  entries : ∀ (kvs : List (String × Val)) (p : TPath), PK p kvs
    | [], p => knil p
    | (k, v) :: r, p => kcons p k v r (node v _) (entries r p)
  elems : ∀ (xs : List Val) (p : TPath), PS p xs
    | [], p => snil p
    | x :: r, p => scons p x r (node x _) (elems r p)

mutual
/-- `Frame t p v v'`: `v'` differs from `v` only inside subtrees rooted at a node whose path matches a row of `t` -/
def Frame (t : Table) : TPath → Val → Val → Prop
  | p, .map kvs, v' => (firstMatch t p).isSome = true ∨ ∃ kvs', v' = .map kvs' ∧ FrameKVs t p kvs kvs'
  | p, .seq xs, v' => (firstMatch t p).isSome = true ∨ ∃ xs', v' = .seq xs' ∧ FrameSeq t p xs xs'
  | p, v, v' => (firstMatch t p).isSome = true ∨ v' = v
/-- same keys in the same order, values related at the child paths -/
def FrameKVs (t : Table) : TPath → List (String × Val) → List (String × Val) → Prop
  | _, [], kvs' => kvs' = []
  | p, (k, v) :: r, kvs' => ∃ v' r', kvs' = (k, v') :: r' ∧ Frame t (TPath.next p k) v v' ∧ FrameKVs t p r r'
def FrameSeq (t : Table) : TPath → List Val → List Val → Prop
  | _, [], xs' => xs' = []
  | p, x :: r, xs' => ∃ x' r', xs' = x' :: r' ∧ Frame t (TPath.next p "[]") x x' ∧ FrameSeq t p r r'
end

theorem frame_of_match (t : Table) (p : TPath) (v v' : Val) (h : (firstMatch t p).isSome = true) : Frame t p v v' := by
  cases v <;> simp [Frame, h]

theorem frame_refl_leaf (t : Table) (p : TPath) (v : Val) (h1 : ∀ kvs, v ≠ .map kvs) (h2 : ∀ xs, v ≠ .seq xs) :
    Frame t p v v := by
  cases v with
  | map kvs => exact absurd rfl (h1 kvs)
  | seq xs => exact absurd rfl (h2 xs)
  | _ => simp [Frame]

theorem firstMatch_handler_mem {t : Table} {p : TPath} {h : String} (hm : firstMatch t p = some h) :
    ∃ e ∈ t, e.2 = h := by
  obtain ⟨pat, hmem, _⟩ := firstMatch_some_mem hm
  exact ⟨(pat, h), hmem, rfl⟩

theorem walk_no_panic_all (t : Table) (ht : ∀ e ∈ t, e.2 ∈ knownHandlers) (cfg : Cfg) :
    (∀ p v s, walk t cfg p v ≠ .panic s) ∧ (∀ p kvs s, walkKVs t cfg p kvs ≠ .panic s) ∧
    (∀ p xs s, walkSeq t cfg p xs ≠ .panic s) := by
  refine walk_induction t ?row ?leaf ?map ?seq ?knil ?kcons ?snil ?scons
  case row =>
    intro p v hn hm s
    rw [walk_of_match t cfg p _ hn hm]
    obtain ⟨e, he, rfl⟩ := firstMatch_handler_mem hm
    exact applyResolver_no_panic cfg _ (ht e he) _ s
  case leaf => intro p v hm h1 h2 s; rw [walk_scalar t cfg p v hm ⟨h1, h2⟩]; exact fun h => nomatch h
  case map => intro p kvs hm ih s; rw [walk_map t cfg p kvs hm]; exact Out.map_no_panic _ _ ih s
  case seq => intro p xs hm ih s; rw [walk_seq t cfg p xs hm]; exact Out.map_no_panic _ _ ih s
  case knil => intro p s h; cases h
  case kcons => intro p k v r ihv ihr; rw [walkKVs_cons]; exact Out.bind_map_no_panic ihv fun _ => ihr
  case snil => intro p s h; cases h
  case scons => intro p x r ihx ihr; rw [walkSeq_cons]; exact Out.bind_map_no_panic ihx fun _ => ihr

theorem walk_no_panic (t : Table) (ht : ∀ e ∈ t, e.2 ∈ knownHandlers) (cfg : Cfg) :
    ∀ (p : TPath) (v : Val) (s : String), walk t cfg p v ≠ .panic s := (walk_no_panic_all t ht cfg).1

theorem walkKVs_no_panic (t : Table) (ht : ∀ e ∈ t, e.2 ∈ knownHandlers) (cfg : Cfg) :
    ∀ (p : TPath) (kvs : List (String × Val)) (s : String), walkKVs t cfg p kvs ≠ .panic s :=
  (walk_no_panic_all t ht cfg).2.1

theorem walkSeq_no_panic (t : Table) (ht : ∀ e ∈ t, e.2 ∈ knownHandlers) (cfg : Cfg) :
    ∀ (p : TPath) (xs : List Val) (s : String), walkSeq t cfg p xs ≠ .panic s :=
  (walk_no_panic_all t ht cfg).2.2

theorem walk_congr_all (t t' : Table) (cfg : Cfg) (he : ∀ p, firstMatch t' p = firstMatch t p) :
    (∀ p v, walk t' cfg p v = walk t cfg p v) ∧ (∀ p kvs, walkKVs t' cfg p kvs = walkKVs t cfg p kvs) ∧
    (∀ p xs, walkSeq t' cfg p xs = walkSeq t cfg p xs) := by
  refine walk_induction t ?row ?leaf ?map ?seq ?knil ?kcons ?snil ?scons
  case row => intro p v hn hm; rw [walk_of_match t cfg p v hn hm, walk_of_match t' cfg p v hn ((he p).trans hm)]
  case leaf =>
    intro p v hm h1 h2
    rw [walk_scalar t cfg p v hm ⟨h1, h2⟩, walk_scalar t' cfg p v ((he p).trans hm) ⟨h1, h2⟩]
  case map => intro p kvs hm ih; rw [walk_map t cfg p kvs hm, walk_map t' cfg p kvs ((he p).trans hm), ih]
  case seq => intro p xs hm ih; rw [walk_seq t cfg p xs hm, walk_seq t' cfg p xs ((he p).trans hm), ih]
  case knil => intro p; rfl
  case kcons => intro p k v r ihv ihr; rw [walkKVs_cons, walkKVs_cons, ihv, ihr]
  case snil => intro p; rfl
  case scons => intro p x r ihx ihr; rw [walkSeq_cons, walkSeq_cons, ihx, ihr]

theorem walk_congr (t t' : Table) (cfg : Cfg) (he : ∀ p, firstMatch t' p = firstMatch t p) :
    ∀ (p : TPath) (v : Val), walk t' cfg p v = walk t cfg p v := (walk_congr_all t t' cfg he).1

theorem walkKVs_congr (t t' : Table) (cfg : Cfg) (he : ∀ p, firstMatch t' p = firstMatch t p) :
    ∀ (p : TPath) (kvs : List (String × Val)), walkKVs t' cfg p kvs = walkKVs t cfg p kvs :=
  (walk_congr_all t t' cfg he).2.1

theorem walkSeq_congr (t t' : Table) (cfg : Cfg) (he : ∀ p, firstMatch t' p = firstMatch t p) :
    ∀ (p : TPath) (xs : List Val), walkSeq t' cfg p xs = walkSeq t cfg p xs :=
  (walk_congr_all t t' cfg he).2.2

end CV.Paths
