import ComposeVerif.Lemmas.MapOrderAssoc
/-! `graph.newGraph` + `checkCycle`: success is `all` over the services, the adjacency on success is `adjOf`, and the cycle
search sees the adjacency through its key set and `children` only. -/
namespace CV.Det
open CV CV.Val

/-! ### `newGraph`: the loop over `depends_on` -/

/-- a required dependency on a service that is not enabled -/
def missingReq (en : List String) (d : AL Bool) : Bool := d.any (fun kv => !en.contains kv.1 && kv.2)

theorem depLoop_eq (en dis : List String) (d : AL Bool) (es : List String) :
    (missingReq en d = true ∧ ∃ e, depLoop en dis d es = .error e) ∨
    (missingReq en d = false ∧ depLoop en dis d es = .ok (es ++ (d.filter (fun kv => en.contains kv.1)).map Prod.fst)) := by
  induction d generalizing es with
  | nil => exact .inr ⟨rfl, by simp [depLoop]⟩
  | cons hd tl ih =>
    obtain ⟨dep, req⟩ := hd
    simp only [depLoop, missingReq, List.any_cons, List.filter_cons]
    cases hen : en.contains dep <;> cases req <;> simp only [Bool.false_eq_true, if_false, if_true, Bool.not_false,
      Bool.not_true, Bool.and_false, Bool.and_true, Bool.false_and, Bool.false_or, Bool.true_or, List.map_cons]
    · exact ih es
    · exact .inl ⟨trivial, by split <;> exact ⟨_, rfl⟩⟩
    · simpa [missingReq] using ih (es ++ [dep])
    · simpa [missingReq] using ih (es ++ [dep])

theorem depLoop_toBool (en dis : List String) (d : AL Bool) (es : List String) :
    (depLoop en dis d es).toBool = !missingReq en d := by
  rcases depLoop_eq en dis d es with ⟨h, e, he⟩ | ⟨h, he⟩ <;> rw [h, he] <;> rfl

theorem depLoop_ok (en dis : List String) (d : AL Bool) (es es' : List String)
    (hok : depLoop en dis d es = .ok es') : es' = es ++ (d.filter (fun kv => en.contains kv.1)).map Prod.fst := by
  rcases depLoop_eq en dis d es with ⟨_, e, he⟩ | ⟨_, he⟩ <;> rw [he] at hok <;> cases hok; rfl

theorem graphLoop_toBool (en dis : List String) (svcs : List Svc) :
    (graphLoop en dis svcs).toBool = svcs.all (fun s => (depLoop en dis s.deps []).toBool) := by
  induction svcs with
  | nil => simp [graphLoop, Except.toBool]
  | cons s r ih =>
    simp only [graphLoop, List.all_cons]
    cases hd : depLoop en dis s.deps [] with
    | error e => simp [Except.toBool]
    | ok st =>
      simp only [Except.toBool, Bool.true_and] at ih ⊢
      rw [← ih]
      cases graphLoop en dis r with
      | error e => rfl
      | ok p => rfl

def edgesOf (en : List String) (s : Svc) : List String :=
  (s.deps.filter (fun kv => en.contains kv.1)).map Prod.fst

def adjOf (en : List String) (svcs : List Svc) : AL (List String) := svcs.map (fun s => (s.name, edgesOf en s))

theorem graphLoop_ok_shape (en dis : List String) (svcs : List Svc)
    (adj : AL (List String)) (h : graphLoop en dis svcs = .ok adj) : adj = adjOf en svcs := by
  induction svcs generalizing adj with
  | nil => simp only [graphLoop] at h; cases h; rfl
  | cons s r ih =>
    simp only [graphLoop] at h
    cases hd : depLoop en dis s.deps [] with
    | error e => simp [hd] at h
    | ok es =>
      simp only [hd] at h
      cases hg : graphLoop en dis r with
      | error e => simp [hg] at h
      | ok adj' =>
        simp only [hg] at h
        cases h
        have e2 := ih adj' hg
        have ed := depLoop_ok en dis s.deps [] es hd
        simp only [adjOf, List.map_cons, edgesOf]
        rw [ed, e2]; simp [adjOf, edgesOf]

theorem newGraph_toBool (svcs : List Svc) (dis : List String) :
    (newGraph svcs dis).toBool =
      ((graphLoop (svcs.map (·.name)) dis svcs).toBool && !hasCycle (adjOf (svcs.map (·.name)) svcs)) := by
  simp only [newGraph]
  cases hg : graphLoop (svcs.map (·.name)) dis svcs with
  | error e => simp [Except.toBool]
  | ok adj =>
    cases graphLoop_ok_shape _ dis svcs adj hg
    cases hc : hasCycle (adjOf (svcs.map (·.name)) svcs) <;> simp only [hc] <;> rfl

inductive DepsPerm : List Svc → List Svc → Prop
  | nil : DepsPerm [] []
  | cons {s' s : Svc} {r' r : List Svc} : s'.name = s.name → s'.deps.Perm s.deps → DepsPerm r' r → DepsPerm (s' :: r') (s :: r)

/-- any iteration order of the project: the services map ranged in another order, and every `depends_on` map too -/
def SvcsPerm (svcs' svcs : List Svc) : Prop := ∃ mid, svcs'.Perm mid ∧ DepsPerm mid svcs

theorem DepsPerm.names {a b : List Svc} (h : DepsPerm a b) : a.map (·.name) = b.map (·.name) := by
  induction h with
  | nil => rfl
  | cons hn _ _ ih => simp [hn, ih]

theorem missingReq_congr {en en' : List String} (he : ∀ x, en'.contains x = en.contains x) {d d' : AL Bool}
    (hp : d'.Perm d) : missingReq en' d' = missingReq en d := by
  simp only [missingReq]
  rw [hp.any_eq]
  exact List.any_congr rfl (fun a => by rw [he])

theorem edgesOf_congr {en en' : List String} (he : ∀ x, en'.contains x = en.contains x) {s s' : Svc}
    (hp : s'.deps.Perm s.deps) : (edgesOf en' s').Perm (edgesOf en s) := by
  simp only [edgesOf]
  have : (fun kv : String × Bool => en'.contains kv.1) = (fun kv => en.contains kv.1) := by
    funext kv; exact he kv.1
  rw [this]
  exact (hp.filter _).map _

theorem depLoops_all_congr {en en' dis : List String} (he : ∀ x, en'.contains x = en.contains x)
    {a b : List Svc} (h : DepsPerm a b) :
    a.all (fun s => (depLoop en' dis s.deps []).toBool) =
    b.all (fun s => (depLoop en dis s.deps []).toBool) := by
  induction h with
  | nil => rfl
  | @cons s' s r' r hn hp hr ih =>
    simp only [List.all_cons]
    rw [depLoop_toBool en' dis s'.deps, depLoop_toBool en dis s.deps, missingReq_congr he hp, ih]

def children (adj : AL (List String)) (x : String) : List String := (find x adj).getD []

theorem reaches_congr {adj adj' : AL (List String)} (hc : ∀ x, (children adj' x).Perm (children adj x)) :
    ∀ (n : Nat) (x t : String), reaches adj' n x t = reaches adj n x t := by
  intro n
  induction n with
  | zero => intro x t; rfl
  | succ n ih =>
    intro x t
    simp only [reaches]
    have := hc x
    simp only [children] at this
    rw [this.any_eq]
    exact List.any_congr rfl (fun c => by rw [ih])

theorem hasCycle_eq (adj : AL (List String)) :
    hasCycle adj = (akeys adj).any (fun k => reaches adj adj.length k k) := by
  simp only [hasCycle, akeys, List.any_map]; rfl

theorem hasCycle_congr {adj adj' : AL (List String)} (hk : (akeys adj').Perm (akeys adj))
    (hc : ∀ x, (children adj' x).Perm (children adj x)) : hasCycle adj' = hasCycle adj := by
  rw [hasCycle_eq, hasCycle_eq, hk.any_eq]
  have hl : adj'.length = adj.length := by
    have := hk.length_eq; simpa [akeys] using this
  rw [hl]
  exact List.any_congr rfl (fun k => reaches_congr hc _ _ _)

theorem akeys_adjOf (en : List String) (svcs : List Svc) : akeys (adjOf en svcs) = svcs.map (·.name) := by
  simp [akeys, adjOf, Function.comp_def]

theorem children_adjOf_depsPerm {en en' : List String} (he : ∀ x, en'.contains x = en.contains x)
    {a b : List Svc} (h : DepsPerm a b) (x : String) :
    (children (adjOf en' a) x).Perm (children (adjOf en b) x) := by
  induction h with
  | nil => exact List.Perm.refl _
  | @cons s' s r' r hn hp hr ih =>
    simp only [children, adjOf, List.map_cons, find, hn] at ih ⊢
    split
    · simpa using edgesOf_congr he hp
    · exact ih

end CV.Det
