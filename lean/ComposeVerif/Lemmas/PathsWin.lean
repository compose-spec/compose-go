import ComposeVerif.Spec.Paths
import ComposeVerif.Lemmas.Scan
/-! The index-based Windows-absolute detection (paths/windows_path.go) against its specification `Spec.winAbs`
("drive letter + colon + slash" or `\\server\share\…`).  Each of the two loops of `volumeNameLen` is characterised once, by
what it leaves of the path when started behind a prefix (`scanShare_spec`, `uncLoop_spec`): that it never indexes out of
range, that its result is a slice bound, and what `isWindowsAbs` reads off the result are one induction.
`volumeNameLen_spec` puts them together; totality and "decides the specification" are its projections. -/
namespace CV.Paths
open CV.Paths.Spec

theorem getElem?_append_length {α : Type} (pre : List α) (c : α) (q : List α) :
    (pre ++ c :: q)[pre.length]? = some c := by
  simp

theorem scanShare_spec (q pre : Str) :
    ∃ n, scanShare (pre ++ q) pre.length = some n ∧ pre.length ≤ n ∧ n ≤ pre.length + q.length ∧
      (pre ++ q).drop n = q.dropWhile notSlash := by
  induction q generalizing pre with
  | nil => exact ⟨pre.length, by rw [scanShare, dif_neg (by simp)], Nat.le_refl _, Nat.le_refl _, by simp⟩
  | cons c q ih =>
    rw [scanShare, dif_pos (by simp), getElem?_append_length]
    by_cases hs : isSlash c = true
    · exact ⟨pre.length, by simp [hs], Nat.le_refl _, Nat.le_add_right _ _, by simp [List.dropWhile, notSlash, hs]⟩
    · obtain ⟨n, h1, h2, h3, h4⟩ := ih (pre ++ [c])
      simp only [List.append_assoc, List.singleton_append, List.length_append, List.length_singleton] at h1 h2 h3 h4
      exact ⟨n, by simp [hs, h1], by omega, by simp only [List.length_cons]; omega,
        by simp [h4, List.dropWhile, notSlash, hs]⟩

/-- what `isWindowsAbs` concludes from the volume length `l` -/
def absOfVol (p : Str) (l : Nat) : Bool :=
  match l with
  | 0 => false
  | l + 1 => match p.drop (l + 1) with
    | [] => false
    | c :: _ => isSlash c

/-- the `\\server\share\…` test on what follows the first character of the server name -/
def uncTail (q : Str) : Bool :=
  match q.dropWhile notSlash with
  | _ :: r2 =>
    (r2.takeWhile notSlash) ≠ [] && (r2.takeWhile notSlash).head? ≠ some '.' && r2.dropWhile notSlash ≠ []
  | [] => false

theorem uncTail_short (q : Str) (h : q.length ≤ 1) : uncTail q = false := by
  match q, h with
  | [], _ => rfl
  | [c], _ => by_cases hc : notSlash c = true <;> simp [uncTail, List.dropWhile, hc]

theorem uncTail_skip (c : Char) (q : Str) (h : isSlash c = false) : uncTail (c :: q) = uncTail q := by
  have : notSlash c = true := by simp [notSlash, h]
  simp [uncTail, List.dropWhile, this]

/-- Induction on `q`: at a slash
the loop looks at the next character once (slash, dot, or the share name, which `scanShare` runs over) and returns;
any other character belongs to the server name and is skipped on both sides. -/
theorem uncLoop_spec (q pre : Str) :
    ∃ n, uncLoop (pre ++ q) pre.length = some n ∧ n ≤ pre.length + q.length ∧ absOfVol (pre ++ q) n = uncTail q := by
  induction q generalizing pre with
  | nil => rw [uncLoop, dif_neg (by simp)]; exact ⟨0, rfl, Nat.zero_le _, rfl⟩
  | cons c q ih =>
    cases q with
    | nil => rw [uncLoop, dif_neg (by simp)]; exact ⟨0, rfl, Nat.zero_le _, (uncTail_short _ (by simp)).symm⟩
    | cons d rest =>
      rw [uncLoop, dif_pos (by simp), getElem?_append_length]
      by_cases hs : isSlash c = true
      · have hnc : notSlash c = false := by simp [notSlash, hs]
        have h1 : (pre ++ c :: d :: rest)[pre.length + 1]? = some d := by simp
        simp only [hs, if_true, h1]
        by_cases hd : isSlash d = true
        · have hnd : notSlash d = false := by simp [notSlash, hd]
          exact ⟨0, by simp [hd], Nat.zero_le _, by simp [absOfVol, uncTail, List.dropWhile, List.takeWhile, hnc, hnd]⟩
        have hnd : notSlash d = true := by simp [notSlash, hd]
        by_cases hdot : d = '.'
        · subst hdot
          exact ⟨0, by simp [hd], Nat.zero_le _, by simp [absOfVol, uncTail, List.dropWhile, List.takeWhile, hnc, hnd]⟩
        -- the share name starts at `d`: `scanShare` stops in front of the slash that ends it
        obtain ⟨n, e, hlo, hhi, hdrop⟩ := scanShare_spec (d :: rest) (pre ++ [c])
        simp only [List.append_assoc, List.singleton_append, List.length_append, List.length_singleton] at e hlo hhi hdrop
        refine ⟨n, by simp [hd, hdot, e], by simp only [List.length_cons] at hhi ⊢; omega, ?_⟩
        obtain ⟨m, rfl⟩ : ∃ m, n = m + 1 := ⟨n - 1, by omega⟩
        simp only [absOfVol, hdrop, uncTail, List.dropWhile, hnc, List.takeWhile, hnd]
        cases hr3 : List.dropWhile notSlash rest with
        | nil => simp [hdot]
        | cons x r3 =>
          have := Scan.dropWhile_head hr3
          simp only [notSlash, Bool.not_eq_false'] at this
          simp [hdot, this]
      · have hs' : isSlash c = false := by simpa using hs
        obtain ⟨n, h1, h2, h3⟩ := ih (pre ++ [c])
        simp only [List.append_assoc, List.singleton_append, List.length_append, List.length_singleton] at h1 h2 h3
        exact ⟨n, by simp [hs', h1], by simp only [List.length_cons] at h2 ⊢; omega, by rw [h3, uncTail_skip c _ hs']⟩

theorem volumeNameLen?_short (p : Str) (h : p.length < 2) : volumeNameLen? p = some 0 := by
  rw [volumeNameLen?, if_pos h]

theorem volumeNameLen?_cons2 (a b : Char) (rest : Str) :
    volumeNameLen? (a :: b :: rest) =
      if b = ':' && isLetter a then some 2
      else if rest.length + 2 ≥ 5 then
        if isSlash a && isSlash b then
          match rest[0]? with
          | none => none
          | some c2 => if !isSlash c2 && c2 ≠ '.' then uncLoop (a :: b :: rest) 3 else some 0
        else some 0
      else some 0 := by
  rw [volumeNameLen?, if_neg (by simp)]
  rfl

theorem uncAbs_cons3 (a b c2 : Char) (q : Str) :
    uncAbs (a :: b :: c2 :: q) = (isSlash a && isSlash b && notSlash c2 && decide (c2 ≠ '.') && uncTail q) := by
  by_cases h2 : notSlash c2 = true
  · simp only [uncAbs, List.takeWhile, h2, List.dropWhile, uncTail]
    cases hq : q.dropWhile notSlash with
    | nil => simp
    | cons x r2 => simp [Bool.and_assoc]
  · have h2' : notSlash c2 = false := by simpa using h2
    simp [uncAbs, List.takeWhile, h2']

theorem isLetter_not_slash (c : Char) (h : isLetter c = true) : isSlash c = false := by
  by_cases h1 : c = '\\'
  · subst h1; revert h; decide
  · by_cases h2 : c = '/'
    · subst h2; revert h; decide
    · simp [isSlash, h1, h2]

theorem driveAbs_cons (a b : Char) (rest : Str) :
    driveAbs (a :: b :: rest) = (decide (b = ':') && isLetter a &&
      (match rest with | [] => false | s :: _ => isSlash s)) := by
  by_cases hb : b = ':'
  · subst hb
    cases rest with
    | nil => simp [driveAbs]
    | cons s r => simp [driveAbs]
  · cases rest with
    | nil => simp [driveAbs, hb]
    | cons s r =>
      unfold driveAbs
      split
      · rename_i heq
        simp only [List.cons.injEq] at heq
        exact absurd heq.2.1 hb
      · simp [hb]

/-- By the equation of `volumeNameLen?` on two leading characters, one case per exit — drive letter, fewer
than five characters, no two leading slashes, a bad first server character, and the UNC loop (`uncLoop_spec`) -/
theorem volumeNameLen_spec (p : Str) : ∃ l, volumeNameLen? p = some l ∧ l ≤ p.length ∧ absOfVol p l = winAbs p := by
  match p with
  | [] => exact ⟨0, rfl, Nat.le_refl _, rfl⟩
  | [_] => exact ⟨0, rfl, Nat.zero_le _, rfl⟩
  | a :: b :: rest =>
    rw [volumeNameLen?_cons2]
    simp only [winAbs, driveAbs_cons]
    by_cases hd : (decide (b = ':') && isLetter a) = true
    · -- a drive letter is no slash: not a UNC path
      have hua : uncAbs (a :: b :: rest) = false := by
        have := isLetter_not_slash a (Bool.and_eq_true_iff.mp hd).2
        cases rest with
        | nil => simp [uncAbs, this]
        | cons c2 q => rw [uncAbs_cons3]; simp [this]
      refine ⟨2, by rw [if_pos hd], by simp, ?_⟩
      rw [hua, hd]
      cases rest <;> simp [absOfVol]
    rw [if_neg hd]
    simp only [hd, Bool.false_and, Bool.false_or]
    have zero : uncAbs (a :: b :: rest) = false → ∃ l, some 0 = some l ∧ l ≤ (a :: b :: rest).length ∧
        absOfVol (a :: b :: rest) l = uncAbs (a :: b :: rest) := fun h => ⟨0, rfl, Nat.zero_le _, h.symm⟩
    cases rest with
    | nil => exact zero (by simp [uncAbs])
    | cons c2 q =>
      rw [uncAbs_cons3] at zero ⊢
      by_cases h5 : (c2 :: q).length + 2 ≥ 5
      · rw [if_pos h5]
        by_cases hs : (isSlash a && isSlash b) = true
        · rw [if_pos hs, List.getElem?_cons_zero]
          by_cases hc2 : (!isSlash c2 && decide (c2 ≠ '.')) = true
          · obtain ⟨n, h1, h2, h3⟩ := uncLoop_spec q [a, b, c2]
            refine ⟨n, by simp only [if_pos hc2]; exact h1, by simp only [List.length_cons, List.length_nil] at h2 ⊢; omega, ?_⟩
            simp only [Bool.and_eq_true] at hs hc2
            simp only [List.cons_append, List.nil_append] at h3
            simp [h3, hs.1, hs.2, notSlash, hc2.1, hc2.2]
          · simp only [if_neg hc2]
            exact zero (by
              have : (notSlash c2 && decide (c2 ≠ '.')) = false := by simpa [notSlash] using hc2
              rw [Bool.and_assoc (isSlash a && isSlash b), this]; simp)
        · rw [if_neg hs]; exact zero (by simp [show (isSlash a && isSlash b) = false by simpa using hs])
      · rw [if_neg h5]
        exact zero (by rw [uncTail_short q (by simp at h5; omega)]; simp)

theorem isWindowsAbs_eq_spec (p : Str) : isWindowsAbs? p = some (winAbs p) := by
  obtain ⟨l, hl, hle, hw⟩ := volumeNameLen_spec p
  unfold isWindowsAbs?
  rw [hl, ← hw]
  cases l with
  | zero => rfl
  | succ l =>
    simp only [absOfVol, if_neg (Nat.not_lt.mpr hle)]
    split <;> rename_i hd <;> simp [hd]

/-- `volumeNameLen` never indexes out of range, and its result is a valid slice bound -/
theorem volumeNameLen_total (p : Str) : ∃ n, volumeNameLen? p = some n ∧ n ≤ p.length :=
  let ⟨l, h1, h2, _⟩ := volumeNameLen_spec p
  ⟨l, h1, h2⟩

theorem isWindowsAbs_total (p : Str) : ∃ b, isWindowsAbs? p = some b := ⟨_, isWindowsAbs_eq_spec p⟩

theorem isWindowsAbsT_eq_winAbs (p : Str) : isWindowsAbsT p = winAbs p := by
  simp only [isWindowsAbsT, isWindowsAbs_eq_spec]

theorem isWindowsAbs_eq_T (p : Str) : isWindowsAbs? p = some (isWindowsAbsT p) := by
  rw [isWindowsAbsT_eq_winAbs]; exact isWindowsAbs_eq_spec p

end CV.Paths
