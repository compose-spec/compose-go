import ComposeVerif.Spec.Generic
import ComposeVerif.Lemmas.Marshal
/-! Lemmas for the generic round trip (C09): the equations of `encode` / `decode` at a named type, and the round trip of
the two field loops of a struct for arbitrary field codecs (`fields_roundtrip`). -/
namespace CV.Generic
open CV CV.TypeDesc CV.Marshal CV.Encode CV.Decode

theorem mapKVs_roundtrip (enc dec : Val → Out) : ∀ kvs : List (String × Val),
    (∀ p ∈ kvs, ∃ t, enc p.2 = .ok t ∧ dec t = .ok p.2) → ∃ ts, mapKVs enc kvs = .ok ts ∧ mapKVs dec ts = .ok kvs
  | [], _ => ⟨[], rfl, rfl⟩
  | (k, x) :: r, h => by
    obtain ⟨t, he, hd⟩ := h (k, x) List.mem_cons_self
    obtain ⟨ts, h1, h2⟩ := mapKVs_roundtrip enc dec r (fun y hy => h y (List.mem_cons_of_mem _ hy))
    exact ⟨(k, t) :: ts, by simp only [mapKVs, he, h1], by simp only [mapKVs, hd, h2]⟩

theorem mapKVs_self (g : Val → Out) : ∀ kvs : List (String × Val), (∀ p ∈ kvs, g p.2 = .ok p.2) → mapKVs g kvs = .ok kvs := by
  intro kvs; induction kvs with
  | nil => intro _; rfl
  | cons p r ih =>
    intro h
    obtain ⟨k, x⟩ := p
    have hx : g x = .ok x := h (k, x) (List.mem_cons_self ..)
    simp only [mapKVs, hx, ih (fun y hy => h y (List.mem_cons_of_mem _ hy))]

theorem notskip_rendered (fmt : Fmt) (fd : FieldDesc) (hk : skipOf fmt fd = false) : rendered fd = true := by
  cases fmt <;> simp only [skipOf, Bool.or_eq_false_iff, Bool.not_eq_false'] at hk <;> simp [rendered, hk.1, hk.2]

theorem fieldDecoded_none {dec : TyExpr → Val → Out} {zero : TyExpr → Val} {t : List (String × Val)} {fd : FieldDesc}
    (h : Val.lookup fd.yamlKey t = none) : fieldDecoded dec zero t fd = .ok (zero fd.ty) := by
  simp only [fieldDecoded, h, ite_self]

theorem fieldDecoded_some {dec : TyExpr → Val → Out} {zero : TyExpr → Val} {t : List (String × Val)} {fd : FieldDesc} {x : Val}
    (hs : fd.yamlSkip = false) (h : Val.lookup fd.yamlKey t = some x) :
    fieldDecoded dec zero t fd = if isNull x then .ok (zero fd.ty) else dec fd.ty x := by
  cases x <;> simp [fieldDecoded, hs, h, isNull]

theorem decodeFields_all_ok (dec : TyExpr → Val → Out) (zero : TyExpr → Val) (g : FieldDesc → Val) (t : List (String × Val)) :
    ∀ fds : List FieldDesc, (∀ fd ∈ fds, rendered fd = true → fieldDecoded dec zero t fd = .ok (g fd)) →
      decodeFieldsWith dec zero fds t = .ok ((fds.filter rendered).map fun fd => (fd.goName, g fd))
  | [], _ => rfl
  | fd :: rest, h => by
    have ihr := decodeFields_all_ok dec zero g t rest (fun fd' hm => h fd' (List.mem_cons_of_mem _ hm))
    rw [decodeFieldsWith, List.filter_cons]
    cases hr : rendered fd with
    | true => simp only [Bool.not_true, Bool.false_eq_true, if_false, h fd List.mem_cons_self hr, ihr, if_true, List.map_cons]
    | false => simp only [Bool.not_false, if_true, ihr, Bool.false_eq_true, if_false]

theorem lookup_mk (g : FieldDesc → Val) : ∀ (fds : List FieldDesc) (fd : FieldDesc), fd ∈ fds →
    (fds.map (·.goName)).Nodup →
    Val.lookup fd.goName (fds.map fun x => (x.goName, g x)) = some (g fd) := by
  intro fds
  induction fds with
  | nil => intro fd hm; cases hm
  | cons x r ih =>
    intro fd hm hnd
    rw [List.map_cons, List.nodup_cons] at hnd
    rcases List.mem_cons.mp hm with rfl | hr
    · exact Val.lookup_cons_self
    · have hne : fd.goName ≠ x.goName := fun e => hnd.1 (e ▸ List.mem_map.mpr ⟨fd, hr, rfl⟩)
      rw [List.map_cons, Val.lookup_cons_ne hne]
      exact ih fd hr hnd.2

/-- `Spec/Generic.lean` and `Spec/RoundTrip.lean` define the same test -/
theorem nodupB_eq : nodupB = RoundTrip.nodupB := by
  funext l
  induction l with
  | nil => rfl
  | cons x r ih => simp only [nodupB, RoundTrip.nodupB, ih]

theorem nodupB_iff (l : List String) : nodupB l = true ↔ l.Nodup := nodupB_eq ▸ Encode.nodupB_iff l

-- in every case of the match but the last, `n` is one of the listed names
theorem custom_none (fmt : Fmt) (n : String) (v : Val) (h : customNames.contains n = false) : custom fmt n v = none := by
  unfold custom
  split <;> first | rfl | (exfalso; simp [customNames] at h)

theorem customDecode_none (n : String) (h : customNames.contains n = false) : customDecode n = none := by
  unfold customDecode
  split <;> first | rfl | (exfalso; simp [customNames] at h)

theorem encode_struct {env : Env} {fmt : Fmt} {n : String} {s : StructDesc} (f : Nat) {fs : List (String × Val)}
    (hc : custom fmt n (.map fs) = none ∨ custom fmt n (.map fs) = some (.inr (n, .map fs)))
    (hs : findStruct env.structs n = some s) :
    encode env fmt (f + 1) (.named n) (.map fs) = encodeFieldsWith fmt (encode env fmt f) (zeroOf env fmt) s.fields fs := by
  rcases hc with hc | hc <;> simp only [encode, hc, hs]

theorem encode_alias {env : Env} {fmt : Fmt} {n : String} {e : TyExpr} (f : Nat) {v : Val} (hc : custom fmt n v = none)
    (hs : findStruct env.structs n = none) (hn : findNamed env.named n = some e) :
    encode env fmt (f + 1) (.named n) v = encode env fmt f e v := by
  simp only [encode, hc, hs, hn]

/-- a marshaller that pre-processes the value and hands it to the tag-driven rendering of a struct type without marshaller -/
theorem encode_delegate {env : Env} {fmt : Fmt} {n n' : String} {s : StructDesc} (f : Nat) {v : Val} {fs' : List (String × Val)}
    (hc : custom fmt n v = some (.inr (n', .map fs'))) (hs : findStruct env.structs n' = some s)
    (hc' : custom fmt n' (.map fs') = none) :
    encode env fmt (f + 1) (.named n) v = encode env fmt (f + 1) (.named n') (.map fs') := by
  rw [encode_struct f (Or.inl hc') hs]
  simp only [encode, hc, hs]

theorem decode_struct {env : Env} {n : String} {s : StructDesc} (f : Nat) {kvs fs : List (String × Val)}
    (hc : customDecode n = none) (hm : hasMethod env n "DecodeMapstructure" = false)
    (hs : findStruct env.structs n = some s)
    (hd : decodeFieldsWith (decode env f) (zeroVal env f) s.fields kvs = .ok fs) :
    decode env (f + 1) (.named n) (.map kvs) = .ok (.map fs) := by
  simp only [decode, hc, hm, hs, hd, Bool.false_eq_true, if_false]

theorem decode_alias {env : Env} {n : String} {e : TyExpr} (f : Nat) (t : Val)
    (hc : customDecode n = none) (hm : hasMethod env n "DecodeMapstructure" = false)
    (hs : findStruct env.structs n = none) (hn : findNamed env.named n = some e) :
    decode env (f + 1) (.named n) t = decode env f e t := by
  simp only [decode, hc, hm, hs, hn, Bool.false_eq_true, if_false]

theorem encode_ptr_nonnull (env : Env) (fmt : Fmt) (f : Nat) (e : TyExpr) (v : Val) (h : v ≠ .null) :
    encode env fmt (f + 1) (.ptr e) v = encode env fmt f e v := by
  cases v <;> simp_all [encode]

theorem decode_ptr_nonnull (env : Env) (f : Nat) (e : TyExpr) (t : Val) (h : t ≠ .null) :
    decode env (f + 1) (.ptr e) t = decode env f e t := by
  cases t <;> simp_all [decode]

/-! either default encoder renders a value of these underlying types as itself (a nil `*string` as `null`) -/

theorem encode_strSlice (env : Env) (fmt : Fmt) (f : Nat) (xs : List Val) :
    encode env fmt (f + 2) (.slice (.prim "string")) (.seq xs) = .ok (.seq xs) := by
  simp only [encode]
  rw [mapOut_self _ xs (fun _ _ => rfl)]

theorem encode_strMap (env : Env) (fmt : Fmt) (f : Nat) (kvs : List (String × Val)) :
    encode env fmt (f + 2) (.map (.prim "string")) (.map kvs) = .ok (.map kvs) := by
  simp only [encode]
  rw [mapKVs_self _ kvs (fun _ _ => rfl)]

theorem encode_strPtrMap (env : Env) (fmt : Fmt) (f : Nat) (kvs : List (String × Val)) :
    encode env fmt (f + 3) (.map (.ptr (.prim "string"))) (.map kvs) = .ok (.map kvs) := by
  simp only [encode]
  rw [mapKVs_self _ kvs (fun p _ => by cases p.2 <;> rfl)]

/-- what the round trip of a struct needs of one rendered field with value `x` (`keys`: the keys of the rendering): a
    field without entry holds the zero value the decoder leaves for an absent key, and no other entry sits under its
    key; a kept field is rendered under its YAML key and decodes back, `null` standing for the zero value -/
structure FieldRT (fmt : Fmt) (enc dec : TyExpr → Val → Out) (zero : TyExpr → Val → Bool) (zeroV : TyExpr → Val)
    (keys : List String) (fd : FieldDesc) (x : Val) : Prop where
  read : fd.yamlSkip = false
  inline : fd.yamlInline = true → x = .null
  unkeyed : keyed fmt fd = false → fd.yamlKey ∉ keys ∧ x = zeroV fd.ty
  key : keyed fmt fd = true → keyOf fmt fd = fd.yamlKey
  left_out : keyed fmt fd = true → (omitOf fmt fd && zero fd.ty x) = true → x = zeroV fd.ty
  kept : keyed fmt fd = true → (omitOf fmt fd && zero fd.ty x) = false →
    ∃ t, enc fd.ty x = .ok t ∧ (if isNull t then .ok (zeroV fd.ty) else dec fd.ty t) = .ok x

/-- The field loops are inverse to each other.  `encodeFields_ok` gives a rendering `out`; `encodeFields_field` places every
    kept keyed field under its own key in `out` and `encodeFields_keys` shows that `out` has no other keys, so an unkeyed or
    omitted field finds no entry; `decodeFields_all_ok` then reads the value back field by field. -/
theorem fields_roundtrip (fmt : Fmt) (enc dec : TyExpr → Val → Out) (zero : TyExpr → Val → Bool) (zeroV : TyExpr → Val)
    (fds : List FieldDesc) (vals : FieldDesc → Val)
    (hgn : ((fds.filter rendered).map (·.goName)).Nodup)
    (hkn : ((fds.filter (keyed fmt)).map (keyOf fmt)).Nodup)
    (h : ∀ fd ∈ fds, rendered fd = true →
      FieldRT fmt enc dec zero zeroV ((fds.filter (keyed fmt)).map (keyOf fmt)) fd (vals fd)) :
    ∃ out, encodeFieldsWith fmt enc zero fds ((fds.filter rendered).map fun fd => (fd.goName, vals fd)) = .ok (.map out) ∧
      decodeFieldsWith dec zeroV fds out = .ok ((fds.filter rendered).map fun fd => (fd.goName, vals fd)) := by
  have hfield : ∀ fd ∈ fds, rendered fd = true →
      field ((fds.filter rendered).map fun fd => (fd.goName, vals fd)) fd.goName = vals fd := by
    intro fd hm hr
    rw [field, lookup_mk vals _ fd (List.mem_filter.mpr ⟨hm, hr⟩) (by simpa only [List.map_map] using hgn)]
    rfl
  generalize hfs : (fds.filter rendered).map (fun fd => (fd.goName, vals fd)) = fs at hfield ⊢
  have hni : NoInline fmt fds fs := fun fd hm hsk _ hi => by
    have hr := notskip_rendered fmt fd hsk
    rw [hfield fd hm hr]
    exact (h fd hm hr).inline hi
  obtain ⟨out, hout⟩ := encodeFields_ok fmt enc zero fds fs hni (fun fd hm hk ho => by
    have hr := notskip_rendered fmt fd ((keyed_iff fmt fd).mp hk).1
    rw [omitted, hfield fd hm hr] at ho
    obtain ⟨t, ht, _⟩ := (h fd hm hr).kept hk ho
    exact ⟨t, by rw [hfield fd hm hr]; exact ht⟩)
  have hkeys := encodeFields_keys fmt enc zero fds fs out hni hout
  have hrend := encodeFields_field fmt enc zero fds fs out hni hkn hout
  refine ⟨out, hout, hfs ▸ decodeFields_all_ok dec zeroV vals out fds fun fd hm hr => ?_⟩
  have F := h fd hm hr
  cases hk : keyed fmt fd with
  | false =>
    obtain ⟨hnk, hz⟩ := F.unkeyed hk
    rw [fieldDecoded_none (Val.lookup_eq_none.mpr fun hmem => hnk (hkeys _ hmem)), hz]
  | true =>
    have hr' := hrend fd hm hk
    rw [omitted, hfield fd hm hr, F.key hk] at hr'
    rcases hr' with ⟨hom, hl⟩ | ⟨hom, t, he, hl⟩
    · rw [fieldDecoded_none hl, F.left_out hk hom]
    · obtain ⟨t', he', hd⟩ := F.kept hk hom
      cases he.symm.trans he'
      rw [fieldDecoded_some F.read hl]
      exact hd

end CV.Generic
