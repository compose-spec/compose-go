import ComposeVerif.Lemmas.C11Top
import ComposeVerif.Lemmas.Path
import ComposeVerif.Lemmas.C11Canon
/-! What one defaulting stage leaves of the fixed points of the others.  Two parts: where the walker of `SetDefaultValues` cannot
do anything (`Quiet` / `Off`: no row at or below a path; decided for a whole pattern by the closed check `overlapBelow`), with the
inversions of the walker at a path without a row; and what `Normalize` writes into a service (`mem_normService`, `mem_nnService`),
whose `depends_on` entries `Canonical` leaves alone (`canonDeps_addDeps`, `impliedList_vals`). -/
namespace CV.C11
open CV CV.Val

/-- no row matches `q` or any path below it (`q` is at least two parts long, so `Next` appends) -/
def Quiet (tbl : List (List String × String)) (q : TPath) : Prop :=
  2 ≤ q.length ∧ ∀ l, TPath.firstMatch tbl (q ++ l) = none

/-- the same at any path other than the root (where `Next` splits its argument instead of appending it).  `Quiet` is the
notion the property theorems state (length ≥ 2 is what their paths `services.<x>.<attr>` have); `Off` is what the
induction needs and also covers the one-part paths `[networks]`, `[volumes]` … of the top-level sections -/
def Off (tbl : List (List String × String)) (q : TPath) : Prop :=
  (q ≠ [] ∧ q ≠ TPath.root) ∧ ∀ l, TPath.firstMatch tbl (q ++ l) = none

theorem next_of_ne_root {q : TPath} (h : q ≠ TPath.root) (k : String) :
    q.next k = q ++ [k.replace "." TPath.ghost] := by
  simp only [TPath.next, h, if_false]

theorem Quiet.off {tbl : List (List String × String)} {q : TPath} (h : Quiet tbl q) : Off tbl q := by
  refine ⟨⟨?_, ?_⟩, h.2⟩ <;> (intro e; have := h.1; rw [e] at this; simp [TPath.root] at this)

theorem Off.next {tbl : List (List String × String)} {q : TPath} (h : Off tbl q) (k : String) :
    Off tbl (q.next k) := by
  rw [next_of_ne_root h.1.2]
  refine ⟨⟨by simp, fun e => ?_⟩, fun l => by rw [List.append_assoc]; exact h.2 _⟩
  have := congrArg List.length e
  cases q with
  | nil => exact h.1.1 rfl
  | cons _ _ => simp [TPath.root] at this

/-- two patterns that can match one path, the second at a prefix of it -/
def overlapBelow : (pat qp : List String) → Bool
  | _, [] => true
  | [], _ :: _ => false
  | a :: as, b :: bs => (a = "*" || b = "*" || a = b) && overlapBelow as bs

theorem overlapBelow_of_match : ∀ {pat qp q : List String} {l : List String},
    TPath.pmatch qp q = true → TPath.pmatch pat (q ++ l) = true → overlapBelow pat qp = true
  | _, [], _, _, _, _ => by unfold overlapBelow; rfl
  | _, _ :: _, [], _, hq, _ => by simp [TPath.pmatch] at hq
  | [], _ :: _, _ :: _, _, _, hp => by simp [TPath.pmatch] at hp
  | a :: as, b :: bs, c :: cs, l, hq, hp => by
    simp only [List.cons_append, TPath.pmatch, Bool.and_eq_true, Bool.or_eq_true, decide_eq_true_eq] at hq hp
    simp only [overlapBelow, Bool.and_eq_true, Bool.or_eq_true, decide_eq_true_eq]
    refine ⟨?_, overlapBelow_of_match hq.2 hp.2⟩
    rcases hp.1 with h | h
    · exact .inl (.inl h)
    · rcases hq.1 with h' | h'
      · exact .inl (.inr h')
      · exact .inr (h.trans h'.symm)

/-- **a closed check of the table**: if no row overlaps the pattern `qp` at or below it, the walker is quiet at every
path `qp` matches (the paths `services.<x>.networks` for all `x` at once: `qp = services.*.networks`) -/
theorem none_below_of_no_overlap {tbl : List (List String × String)} (qp : List String) {q : TPath}
    (htbl : (tbl.all fun row => !overlapBelow row.1 qp) = true) (hq : TPath.pmatch qp q = true) (l : List String) :
    TPath.firstMatch tbl (q ++ l) = none := by
  refine TPath.firstMatch_none_iff.mpr fun row hrow => ?_
  have := List.all_eq_true.mp htbl row hrow
  cases hp : TPath.pmatch row.1 (q ++ l) with
  | false => rfl
  | true => rw [overlapBelow_of_match hq hp] at this; cases this

theorem quiet_of_no_overlap {tbl : List (List String × String)} (qp : List String) {q : TPath}
    (htbl : (tbl.all fun row => !overlapBelow row.1 qp) = true) (hq : TPath.pmatch qp q = true) (hl : 2 ≤ q.length) :
    Quiet tbl q :=
  ⟨hl, none_below_of_no_overlap qp htbl hq⟩

theorem setDefaults_off (tbl : List (List String × String)) :
    ∀ (v : Val) (q : TPath), Off tbl q → setDefaults tbl q v = .ok v := by
  intro v q
  induction q, v using setDefaults_induct tbl with
  | handler q h hm _ v => intro hq; rw [show TPath.firstMatch tbl q = none by simpa using hq.2 []] at hm; cases hm
  | map q kvs _ e ih =>
    intro hq
    rw [e, descend, mapMKVs_fixed_iff.mpr fun kv hkv => ih kv hkv (hq.next kv.1)]; rfl
  | seq q xs _ e ih =>
    intro hq
    rw [e, descend, Out.mapM_fixed_iff.mpr fun x hx => ih x hx (hq.next "[]")]; rfl
  | leaf q v _ e hl => intro _; rw [e]; exact hl q

theorem setDefaults_quiet (tbl : List (List String × String)) (v : Val) (q : TPath) (hq : Quiet tbl q) :
    setDefaults tbl q v = .ok v := setDefaults_off tbl v q hq.off

theorem setDefaultsKVs_quiet (tbl : List (List String × String)) :
    ∀ (kvs : List (String × Val)) (q : TPath), Quiet tbl q → setDefaultsKVs tbl q kvs = .ok kvs := by
  intro kvs q hq
  rw [setDefaultsKVs_eq_mapM]
  exact mapMKVs_fixed_iff.mpr fun kv _ => setDefaults_off tbl _ _ (hq.off.next kv.1)

theorem setDefaultsList_quiet (tbl : List (List String × String)) :
    ∀ (xs : List Val) (q : TPath), Quiet tbl q → setDefaultsList tbl q xs = .ok xs := by
  intro xs q hq
  rw [setDefaultsList_eq_mapM]
  exact Out.mapM_fixed_iff.mpr fun x _ => setDefaults_off tbl _ _ (hq.off.next "[]")

theorem setDefaultsKVs_fixed_iff (tbl : List (List String × String)) (p : TPath) (kvs : List (String × Val)) :
    setDefaultsKVs tbl p kvs = .ok kvs ↔ ∀ kv ∈ kvs, setDefaults tbl (p.next kv.1) kv.2 = .ok kv.2 := by
  rw [setDefaultsKVs_eq_mapM]; exact mapMKVs_fixed_iff

theorem setDefaults_map_fixed_iff {tbl : List (List String × String)} {p : TPath} (hm : TPath.firstMatch tbl p = none)
    (kvs : KVs) :
    setDefaults tbl p (.map kvs) = .ok (.map kvs) ↔ ∀ kv ∈ kvs, setDefaults tbl (p.next kv.1) kv.2 = .ok kv.2 := by
  rw [setDefaults_eq, hm, ← mapMKVs_fixed_iff (g := fun k => setDefaults tbl (p.next k))]
  simp only [descend]
  cases mapMKVs (fun k => setDefaults tbl (p.next k)) kvs <;> simp [Out.map]

theorem setDefaults_ok_map {tbl : List (List String × String)} {p : TPath} (hm : TPath.firstMatch tbl p = none)
    {v : Val} {kvs' : KVs} (h : setDefaults tbl p v = .ok (.map kvs')) :
    ∃ kvs, v = .map kvs ∧ mapMKVs (fun k => setDefaults tbl (p.next k)) kvs = .ok kvs' := by
  rw [setDefaults_eq, hm] at h
  cases v with
  | map kvs =>
    obtain ⟨r, hr, e⟩ := Out.map_eq_ok.mp h
    cases e
    exact ⟨kvs, rfl, hr⟩
  | seq xs => obtain ⟨r, _, e⟩ := Out.map_eq_ok.mp h; cases e
  | _ => cases h

theorem depEntry_canon (r : Bool) : ∃ d, depEntry r = .map d ∧ depDefaults d = d :=
  ⟨_, rfl, by simp [depDefaults, setIfAbsent, lookup]⟩

theorem canonDeps_addDeps : ∀ (ks : List (String × Val)) (deps : KVs),
    (∀ ke ∈ ks, ∃ r, ke.2 = depEntry r) → CanonDeps deps → CanonDeps (addDeps ks deps)
  | [], deps, _, hd => hd
  | ke :: ks, deps, hk, hd => by
    show CanonDeps (addDeps ks (addDep ke.1 ke.2 deps))
    apply canonDeps_addDeps ks _ (fun x hx => hk x (List.mem_cons_of_mem _ hx))
    intro kv hkv
    rcases mem_of_mem_setIfAbsent hkv with e | e
    · obtain ⟨r, hr⟩ := hk ke List.mem_cons_self
      rw [e]; simp only; rw [hr]; exact depEntry_canon r
    · exact hd kv e

theorem impliedList_vals (s : KVs) : ∀ ke ∈ impliedList s, ∃ r, ke.2 = depEntry r := by
  intro ke h
  rcases mem_impliedList.mp h with ⟨_, _, rfl⟩ | ⟨_, _, e⟩ | ⟨_, _, e⟩
  · exact ⟨true, rfl⟩
  · unfold nsDep at e
    split at e <;> try cases e
    split at e <;> cases e
    exact ⟨true, rfl⟩
  · unfold vfDep at e
    split at e <;> cases e
    exact ⟨false, rfl⟩

theorem mem_nnService {s : KVs} {x : String × Val} (h : x ∈ nnService s) : x = ("networks", defaultNet) ∨ x ∈ s := by
  rw [nnService_eq] at h
  split at h
  · exact mem_insert h
  · exact .inr h

theorem mem_normService (clean : String → String) (env : Env) {t : KVs} {x : String × Val}
    (h : x ∈ normService clean env t) :
    x = ("depends_on", .map (impliedDeps t)) ∨ ∃ kv ∈ t, x = (kv.1, svcAttr clean env kv.1 kv.2) := by
  rw [normService_eq] at h
  exact (mem_putNonEmpty h).imp id mem_mapAt

end CV.C11
