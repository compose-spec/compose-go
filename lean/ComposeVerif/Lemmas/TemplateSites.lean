import ComposeVerif.Model.TemplateSites
import ComposeVerif.Lemmas.Assoc
/-!
# The lookup of an included file is the layered lookup

`mlookup` is `Assoc.lookup`; `Mapping.Merge` (`mergeStep`, `merge`) only fills keys the receiver does not set, so a lookup in
`includeChain environment files` is `layered (environment :: files)`: the first layer that sets the variable wins
(`lookup_includeChain`).
-/
namespace CV.Template.Sites

theorem mlookup_eq (m : GoMap) (k : Str) : mlookup m k = Assoc.lookup k m := by
  induction m with
  | nil => rfl
  | cons p r ih =>
    rw [mlookup, Assoc.lookup, ih]
    by_cases h : p.1 = k
    · rw [if_pos h, if_pos h.symm]
    · rw [if_neg h, if_neg (Ne.symm h)]

theorem mlookup_append (m n : GoMap) (k : Str) :
    mlookup (m ++ n) k = match mlookup m k with | some v => some v | none => mlookup n k := by
  rw [mlookup_eq, mlookup_eq, mlookup_eq, Assoc.lookup_append]
  cases Assoc.lookup k m <;> rfl

theorem mlookup_mergeStep (m : GoMap) (kv : Str × Str) (k : Str) :
    mlookup (mergeStep m kv) k =
      match mlookup m k with
      | some v => some v
      | none => if kv.1 = k then some kv.2 else none := by
  unfold mergeStep
  cases h : mlookup m kv.1 with
  | some x =>
    simp only
    cases hk : mlookup m k with
    | some v => rfl
    | none =>
      by_cases e : kv.1 = k
      · subst e; rw [h] at hk; cases hk
      · simp [e]
  | none =>
    simp only [mlookup_append]
    cases hk : mlookup m k with
    | some v => rfl
    | none => simp [mlookup]

theorem mlookup_merge (m o : GoMap) (k : Str) :
    mlookup (merge m o) k = match mlookup m k with | some v => some v | none => mlookup o k := by
  unfold merge
  induction o generalizing m with
  | nil => cases h : mlookup m k <;> simp [mlookup, h]
  | cons kv r ih =>
    simp only [List.foldl_cons]
    rw [ih (mergeStep m kv), mlookup_mergeStep]
    obtain ⟨k', v⟩ := kv
    cases hk : mlookup m k with
    | some x => rfl
    | none =>
      by_cases e : k' = k
      · simp [mlookup, e]
      · simp [mlookup, e]

theorem lookup_includeChain (e : GoMap) (fs : List GoMap) (k : Str) :
    mlookup (includeChain e fs) k = layered (e :: fs) k := by
  induction fs generalizing e with
  | nil => cases h : mlookup e k <;> simp [includeChain, layered, h]
  | cons f r ih =>
    simp only [includeChain, includeEnv]
    rw [ih (merge e f)]
    simp only [layered, mlookup_merge]
    cases mlookup e k <;> rfl

theorem layered_head {m : GoMap} {k v : Str} (h : mlookup m k = some v) (ms : List GoMap) :
    layered (m :: ms) k = some v := by
  simp only [layered, h]

theorem layered_skip {m : GoMap} {k : Str} (h : mlookup m k = none) (ms : List GoMap) :
    layered (m :: ms) k = layered ms k := by
  simp only [layered, h]

theorem siteSubst_eq (environment : GoMap) (envFiles : List GoMap) (s : Str) :
    siteSubst environment envFiles s = subst (layered (environment :: envFiles)) s :=
  congrArg (subst · s) (funext (lookup_includeChain environment envFiles))

end CV.Template.Sites
