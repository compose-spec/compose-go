import ComposeVerif.Lemmas.Unicity
/-! Ingredients of `kv_mapping_spelling` (`Props/C04.lean`: the mapping spelling of a KEY=VALUE attribute, converted by
`convertIntoSequence` and looked up by index key, is the mapping itself): the one string an entry with a non-sequence value
becomes (`entryStr`, `mapStrs_of_scalars`) and its index key (`kvKey_entryStr`); the sort is a permutation (`sortStrs_perm`). -/
namespace CV.Unicity
open CV CV.Val CV.Merge

/-- the one string a mapping entry with a non-sequence value is converted to -/
def entryStr (k : String) : Val → String
  | .null => k
  | v => k ++ "=" ++ Merge.fmtV v

def pairs (l : List String) : List (String × Val) := l.map fun s => (kvKey s, Val.str s)

theorem zip_eq_pairs (l : List String) : (l.map kvKey).zip (l.map Val.str) = pairs l := by
  induction l with
  | nil => rfl
  | cons s r ih => simp only [List.map_cons, List.zip_cons_cons, ih, pairs]

theorem insertStr_perm (s : String) : ∀ l : List String, (insertStr s l).Perm (s :: l) := by
  intro l
  induction l with
  | nil => exact List.Perm.refl _
  | cons t r ih =>
    simp only [insertStr]
    split
    · exact List.Perm.refl _
    · exact (List.Perm.cons t ih).trans (List.Perm.swap s t r)

theorem sortStrs_perm : ∀ l : List String, (sortStrs l).Perm l := by
  intro l
  induction l with
  | nil => exact List.Perm.refl _
  | cons s r ih => exact (insertStr_perm s _).trans (List.Perm.cons s ih)

theorem mapStrs_of_scalars : ∀ (m : KVs), (∀ kv ∈ m, ∀ xs, kv.2 ≠ .seq xs) → mapStrs m = m.map fun kv => entryStr kv.1 kv.2 := by
  intro m
  induction m with
  | nil => intro _; rfl
  | cons hd tl ih =>
    obtain ⟨k, v⟩ := hd
    intro h
    have hv : ∀ xs, v ≠ .seq xs := h (k, v) (by simp)
    simp only [mapStrs, List.map_cons, ih (fun kv hkv => h kv (by simp [hkv]))]
    cases v with
    | seq xs => exact absurd rfl (hv xs)
    | _ => simp [entryStrs, entryStr]

theorem kvKey_entryStr (k : String) (v : Val) (hk : ∀ c ∈ k.toList, c ≠ '=') : kvKey (entryStr k v) = k := by
  cases v with
  | null => exact kvKey_bare k hk
  | _ => exact kvKey_entry k _ hk

theorem pairs_entries : ∀ (m : KVs), (∀ k ∈ keys m, ∀ c ∈ k.toList, c ≠ '=') →
    pairs (m.map fun kv => entryStr kv.1 kv.2) = m.map fun kv => (kv.1, Val.str (entryStr kv.1 kv.2)) := by
  intro m
  induction m with
  | nil => intro _; rfl
  | cons hd tl ih =>
    obtain ⟨k, v⟩ := hd
    intro hk
    have h1 := kvKey_entryStr k v (hk k (by simp [keys]))
    have h2 := ih (fun k' hk' => hk k' (by simp only [keys, List.map_cons, List.mem_cons]; exact .inr hk'))
    simp only [pairs, List.map_cons, List.map_map] at h2 ⊢
    rw [h1]; congr 1

end CV.Unicity
