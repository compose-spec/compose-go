import ComposeVerif.Lemmas.Select
/-! C15: the dependency walk of `withServices`.  `Dfs` says what the loop does without fuel (a name is skipped or visited);
`walkC_dfs`: with fuel for every unmarked service the model computes exactly that, so it never runs out.  The invariants
(`Post`: the marked set; `Dfs.clean` / `Dfs.err`: the failure condition `Rejected`) are rule inductions on `Dfs`; the walk
without recorded calls is reached through `walkC_forget`.  The executable closure of the spec is in `Lemmas/SelectClosure.lean`. -/
namespace CV.Sel

variable {svcs : AL Svc} {pol : Policy}

/-- reflexive-transitive closure of `Edge` -/
inductive Star (svcs : AL Svc) (pol : Policy) : String → String → Prop
  | refl (a) : Star svcs pol a a
  | tail {a b c} : Star svcs pol a b → Edge svcs pol b c → Star svcs pol a c

theorem Star.head {a b c : String} (e : Edge svcs pol a b) (h : Star svcs pol b c) :
    Star svcs pol a c := by
  induction h with
  | refl => exact .tail (.refl a) e
  | tail _ e' ih => exact .tail ih e'

theorem reach_of_star {roots : List String} {r x : String}
    (hr : r ∈ roots) (hk : r ∈ keys svcs) (h : Star svcs pol r x) : Reach svcs pol roots x := by
  induction h with
  | refl => exact .root hr hk
  | tail _ e ih => exact .step ih e

theorem edge_target_mem {x y : String} (e : Edge svcs pol x y) : y ∈ keys svcs := by
  cases pol with
  | deps => exact e.choose_spec.2.2
  | dependents => obtain ⟨_, s, h, _⟩ := e; exact keys_of_lookup h
  | ignore => exact e.elim

theorem reach_enabled {roots : List String} {x : String}
    (h : Reach svcs pol roots x) : x ∈ keys svcs := by
  cases h with
  | root _ hk => exact hk
  | step _ e => exact edge_target_mem e

theorem Reach.mono {roots roots' : List String} (sub : ∀ r ∈ roots, r ∈ roots')
    {x : String} (h : Reach svcs pol roots x) : Reach svcs pol roots' x := by
  induction h with
  | root hr hk => exact .root (sub _ hr) hk
  | step _ e ih => exact .step ih e

/-- the keys of the `dependents` map are the `Name`s of the services that depend on `s.Name` (no assumption) -/
theorem mem_keys_dependents_names {s : Svc} {y : String} :
    y ∈ keys (dependents svcs s) ↔ ∃ kv ∈ svcs, s.name ∈ keys kv.2.deps ∧ kv.2.name = y := by
  unfold dependents
  rw [mem_keys_insertAll, mem_keys]
  simp only [List.mem_filterMap, Option.map_eq_some_iff, Prod.mk.injEq, keys_nil, List.not_mem_nil, or_false]
  constructor
  · rintro ⟨v, kv, hm, d, hd, rfl, rfl⟩
    exact ⟨kv, hm, keys_of_lookup hd, rfl⟩
  · rintro ⟨kv, hm, hx, rfl⟩
    obtain ⟨d, hd⟩ := exists_lookup_of_mem_keys hx
    exact ⟨d, kv, hm, d, hd, rfl, rfl⟩

theorem mem_keys_dependents (nk : NamesOKs svcs) {s : Svc} {x y : String} (hx : s.name = x) :
    y ∈ keys (dependents svcs s) ↔ ∃ s', (y, s') ∈ svcs ∧ x ∈ keys s'.deps := by
  rw [mem_keys_dependents_names, hx]
  constructor
  · rintro ⟨kv, hm, hd, rfl⟩
    exact ⟨kv.2, by rw [nk kv hm]; exact hm, hd⟩
  · rintro ⟨s', hm, hd⟩
    exact ⟨(y, s'), hm, hd, nk _ hm⟩

theorem edge_iff_next (nd : (keys svcs).Nodup) (nk : NamesOKs svcs) {n y : String} {s : Svc}
    (hs : lookup n svcs = some s) : Edge svcs pol n y ↔ y ∈ keys (nextOf svcs pol n s) ∧ y ∈ keys svcs := by
  cases pol with
  | deps =>
    simp only [Edge, nextOf, hs, Option.some.injEq, exists_eq_left']
  | dependents =>
    simp only [Edge, nextOf, mem_keys_dependents nk (nk (n, s) (mem_of_lookup hs))]
    exact ⟨fun ⟨_, s', h1, h2⟩ => ⟨⟨s', mem_of_lookup h1, h2⟩, keys_of_lookup h1⟩,
      fun ⟨⟨s', h1, h2⟩, _⟩ => ⟨keys_of_lookup hs, s', lookup_of_mem nd h1, h2⟩⟩
  | ignore => simp [Edge, nextOf]

/-! ## one call of `withServices`; the invariant `Post` of the marked set; the measure; the failure condition -/

/-- the names a call of `withServices` ranges over: no name = every service -/
def rootsFor (svcs : AL Svc) (names : List String) : List String := if names.isEmpty then keys svcs else names

theorem rootsFor_services (p : Proj) (names : List String) : rootsFor p.services names = rootsOf p names := rfl

theorem rootsFor_keys (svcs : AL Svc) {d : AL Dep} (h : ¬d.isEmpty = true) : rootsFor svcs (keys d) = keys d := by
  cases d with
  | nil => exact absurd rfl h
  | cons a b => rfl

theorem walk_succ (svcs : AL Svc) (pol : Policy) (f : Nat) (names : List String) (parent : AL Dep) (seen : List String) :
    walk svcs pol (f + 1) names parent seen =
      if (rootsFor svcs names).any (missingFatal svcs parent) then .noSuchService
      else walkLoop (walk svcs pol f) svcs pol (rootsFor svcs names) seen := rfl

structure Post (svcs : AL Svc) (pol : Policy) (roots seen seen' : List String) : Prop where
  mono : ∀ x ∈ seen, x ∈ seen'
  sound : ∀ x ∈ seen', x ∈ seen ∨ ∃ r ∈ roots, r ∈ keys svcs ∧ Star svcs pol r x
  roots : ∀ r ∈ roots, r ∈ keys svcs → r ∈ seen'
  closed : ∀ x ∈ seen', x ∉ seen → ∀ y, Edge svcs pol x y → y ∈ seen'

theorem Post.nil (svcs : AL Svc) (pol : Policy) (seen : List String) : Post svcs pol [] seen seen :=
  ⟨fun _ h => h, fun _ h => .inl h, nofun, fun _ hx hn => absurd hx hn⟩

theorem Post.skip {n : String} {ns seen r : List String}
    (h : Post svcs pol ns seen r) (hn : n ∈ keys svcs → n ∈ seen) : Post svcs pol (n :: ns) seen r where
  mono := h.mono
  sound x hx := (h.sound x hx).imp id fun ⟨a, ha, hb⟩ => ⟨a, List.mem_cons_of_mem _ ha, hb⟩
  roots a ha hk := by
    rcases List.mem_cons.1 ha with rfl | e
    · exact h.mono _ (hn hk)
    · exact h.roots a e hk
  closed := h.closed

/-- `n` is marked, its successors walked up to `seen2`, the remaining names up to `r` -/
theorem Post.visit (nd : (keys svcs).Nodup) (nk : NamesOKs svcs) {n : String} {s : Svc}
    (hs : lookup n svcs = some s) {ns seen seen2 r : List String}
    (P1 : Post svcs pol (keys (nextOf svcs pol n s)) (n :: seen) seen2) (P2 : Post svcs pol ns seen2 r) :
    Post svcs pol (n :: ns) seen r := by
  have hn : n ∈ r := P2.mono n (P1.mono n List.mem_cons_self)
  have self : ∃ a ∈ n :: ns, a ∈ keys svcs ∧ Star svcs pol a n := ⟨n, List.mem_cons_self, keys_of_lookup hs, .refl n⟩
  refine ⟨fun x hx => P2.mono x (P1.mono x (List.mem_cons_of_mem _ hx)), fun x hx => ?_, fun a ha hk => ?_,
    fun x hx hxs y e => ?_⟩
  · rcases P2.sound x hx with h1 | ⟨a, ha, hb⟩
    · rcases P1.sound x h1 with h2 | ⟨a, ha, hk, hst⟩
      · rcases List.mem_cons.1 h2 with rfl | e
        · exact .inr self
        · exact .inl e
      · exact .inr ⟨n, List.mem_cons_self, keys_of_lookup hs, .head ((edge_iff_next nd nk hs).2 ⟨ha, hk⟩) hst⟩
    · exact .inr ⟨a, List.mem_cons_of_mem _ ha, hb⟩
  · rcases List.mem_cons.1 ha with rfl | e
    · exact hn
    · exact P2.roots a e hk
  · by_cases hx2 : x ∈ seen2
    · refine P2.mono y ?_
      by_cases e' : x = n
      · have := (edge_iff_next nd nk hs).1 (e' ▸ e)
        exact P1.roots y this.1 this.2
      · exact P1.closed x hx2 (fun c => (List.mem_cons.1 c).elim e' hxs) y e
    · exact P2.closed x hx hx2 y e

def unseen (svcs : AL Svc) (seen : List String) : Nat := ((keys svcs).filter (fun k => k ∉ seen)).length

theorem unseen_mono {seen seen' : List String} (h : ∀ x ∈ seen, x ∈ seen') :
    unseen svcs seen' ≤ unseen svcs seen := by
  have : (keys svcs).filter (fun k => decide (k ∉ seen')) =
      ((keys svcs).filter (fun k => decide (k ∉ seen))).filter (fun k => decide (k ∉ seen')) := by
    rw [List.filter_filter]
    refine List.filter_congr fun x _ => ?_
    by_cases a : x ∈ seen'
    · simp [a]
    · simpa [a] using fun c => a (h x c)
  rw [unseen, this]
  exact List.length_filter_le _ _

theorem unseen_cons_lt {seen : List String} {n : String} (hk : n ∈ keys svcs) (hn : n ∉ seen) :
    unseen svcs (n :: seen) < unseen svcs seen := by
  have : (keys svcs).filter (fun k => decide (k ∉ n :: seen)) =
      ((keys svcs).filter (fun k => decide (k ∉ seen))).filter (fun k => decide (k ≠ n)) := by
    rw [List.filter_filter]
    refine List.filter_congr fun x _ => ?_
    simp [List.mem_cons, not_or]
  rw [unseen, this]
  exact List.length_filter_lt_length_iff_exists.2 ⟨n, List.mem_filter.2 ⟨hk, by simpa using hn⟩, by simp⟩

/-- a root that is no service, or a service of the closure with a required dependency that is no service -/
def Rejected (svcs : AL Svc) (pol : Policy) (roots : List String) : Prop :=
  (∃ n ∈ roots, n ∉ keys svcs) ∨ ∃ x, Reach svcs pol roots x ∧ MissingRequired svcs pol x

theorem missingFatal_top (svcs : AL Svc) (n : String) : missingFatal svcs [] n = true ↔ n ∉ keys svcs := by
  simp [missingFatal, has_eq]

theorem missingRequired_iff_fatal (nk : NamesOKs svcs) {n : String} {s : Svc}
    (hs : lookup n svcs = some s) (nds : (keys s.deps).Nodup) :
    MissingRequired svcs pol n ↔ (keys (nextOf svcs pol n s)).any (missingFatal svcs (nextOf svcs pol n s)) = true := by
  rw [List.any_eq_true, MissingRequired, hs]
  simp only [missingFatal, has_eq, Bool.and_eq_true, Bool.not_eq_true', decide_eq_false_iff_not, sat]
  cases pol with
  | deps =>
    simp only [nextOf, true_and]
    constructor
    · rintro ⟨kv, hkv, hreq, hnk⟩
      exact ⟨kv.1, mem_keys_of_mem hkv, hnk, by rw [lookup_of_mem nds hkv]; exact hreq⟩
    · rintro ⟨k, hk, hnk, hreq⟩
      obtain ⟨d, hd⟩ := exists_lookup_of_mem_keys hk
      exact ⟨(k, d), mem_of_lookup hd, by rw [hd] at hreq; exact hreq, hnk⟩
  | dependents =>
    refine ⟨fun h => (nomatch h.1), fun ⟨k, hk, hnk, _⟩ => ?_⟩
    obtain ⟨s', hm, _⟩ := (mem_keys_dependents nk (nk (n, s) (mem_of_lookup hs))).1 hk
    exact absurd (mem_keys_of_mem hm) hnk
  | ignore => exact ⟨fun h => (nomatch h.1), fun ⟨k, hk, _⟩ => (nomatch hk)⟩

theorem reach_of_reach_next (nd : (keys svcs).Nodup) (nk : NamesOKs svcs) {n : String} {s : Svc}
    (hs : lookup n svcs = some s) {ns : List String} {x : String}
    (h : Reach svcs pol (keys (nextOf svcs pol n s)) x) : Reach svcs pol (n :: ns) x := by
  induction h with
  | root hr hk => exact .step (.root List.mem_cons_self (keys_of_lookup hs)) ((edge_iff_next nd nk hs).2 ⟨hr, hk⟩)
  | step _ e ih => exact .step ih e

theorem walkC_succ (svcs : AL Svc) (pol : Policy) (f : Nat) (names : List String) (parent : AL Dep)
    (seen calls : List String) :
    walkC svcs pol (f + 1) names parent seen calls =
      if (rootsFor svcs names).any (missingFatal svcs parent) then .noSuchService
      else walkLoopC (walkC svcs pol f) svcs pol (rootsFor svcs names) seen calls := rfl

theorem loopC_forget
    {recC : List String → AL Dep → List String → List String → WalkC} {rec : List String → AL Dep → List String → Walk}
    (h : ∀ ns d seen calls, (recC ns d seen calls).forget = rec ns d seen) (ns seen calls : List String) :
    (walkLoopC recC svcs pol ns seen calls).forget = walkLoop rec svcs pol ns seen := by
  fun_induction walkLoopC recC svcs pol ns seen calls with
  | case1 seen calls => rfl
  | case2 n ns seen calls hs ih => simpa only [walkLoop, hs] using ih
  | case3 n ns seen calls s hs hseen ih => simpa only [walkLoop, hs, if_pos hseen] using ih
  | case4 n ns seen calls s hs hseen d hd ih =>
    simpa only [walkLoop, hs, if_neg hseen, show (nextOf svcs pol n s).isEmpty = true from hd, if_true] using ih
  | case5 n ns seen calls s hs hseen d hd seen' calls' hr ih =>
    have := h (keys (nextOf svcs pol n s)) (nextOf svcs pol n s) (n :: seen) calls
    rw [show recC _ _ _ _ = _ from hr] at this
    simp only [walkLoop, hs, if_neg hseen, show ¬(nextOf svcs pol n s).isEmpty = true from hd, ← this]
    exact ih
  | case6 n ns seen calls s hs hseen d hd hr =>
    have := h (keys (nextOf svcs pol n s)) (nextOf svcs pol n s) (n :: seen) calls
    simp only [walkLoop, hs, if_neg hseen, show ¬(nextOf svcs pol n s).isEmpty = true from hd, ← this]
    cases hc : recC (keys (nextOf svcs pol n s)) (nextOf svcs pol n s) (n :: seen) calls with
    | ok s c => exact (hr s c hc).elim
    | noSuchService => rfl
    | outOfFuel => rfl

theorem walkC_forget (svcs : AL Svc) (pol : Policy) :
    ∀ fuel names parent seen calls, (walkC svcs pol fuel names parent seen calls).forget = walk svcs pol fuel names parent seen := by
  intro fuel
  induction fuel with
  | zero => intros; rfl
  | succ f ih =>
    intro names parent seen calls
    rw [walkC_succ, walk_succ]
    split
    · rfl
    · exact loopC_forget ih _ _ _

/-- What the loop of `withServices` does on `ns` with `seen` marked and `calls` made, without fuel: the graph of `walkLoopC`
around a recursive call that never runs out.  A name is skipped (no service, or marked) or visited: marked, its successors
checked against its own `dependencies` map and walked, then called.  The model's shortcut for a service without successor
is `visit` over `nil`. -/
inductive Dfs (svcs : AL Svc) (pol : Policy) : List String → List String → List String → WalkC → Prop
  | nil (seen calls) : Dfs svcs pol [] seen calls (.ok seen calls)
  | skip {n ns seen calls r} : (n ∈ keys svcs → n ∈ seen) → Dfs svcs pol ns seen calls r → Dfs svcs pol (n :: ns) seen calls r
  | visit {n s ns seen calls s1 c1 r} : lookup n svcs = some s → n ∉ seen →
      ¬(keys (nextOf svcs pol n s)).any (missingFatal svcs (nextOf svcs pol n s)) = true →
      Dfs svcs pol (keys (nextOf svcs pol n s)) (n :: seen) calls (.ok s1 c1) → Dfs svcs pol ns s1 (c1 ++ [n]) r →
      Dfs svcs pol (n :: ns) seen calls r
  | failHere {n s ns seen calls} : lookup n svcs = some s → n ∉ seen →
      (keys (nextOf svcs pol n s)).any (missingFatal svcs (nextOf svcs pol n s)) = true →
      Dfs svcs pol (n :: ns) seen calls .noSuchService
  | failBelow {n s ns seen calls} : lookup n svcs = some s → n ∉ seen →
      Dfs svcs pol (keys (nextOf svcs pol n s)) (n :: seen) calls .noSuchService →
      Dfs svcs pol (n :: ns) seen calls .noSuchService

/-- one call of `withServices`: the names are checked against the caller's `dependencies` map, then the loop runs -/
def Call (svcs : AL Svc) (pol : Policy) (names : List String) (parent : AL Dep) (seen calls : List String) (r : WalkC) : Prop :=
  if (rootsFor svcs names).any (missingFatal svcs parent) then r = .noSuchService
  else Dfs svcs pol (rootsFor svcs names) seen calls r

theorem Dfs.ne_fuel {ns seen calls : List String} {r : WalkC} (h : Dfs svcs pol ns seen calls r) : r ≠ .outOfFuel := by
  induction h with
  | nil => nofun
  | skip _ _ ih => exact ih
  | visit _ _ _ _ _ _ ih => exact ih
  | failHere => nofun
  | failBelow => nofun

theorem Call.ne_fuel {names : List String} {parent : AL Dep} {seen calls : List String} {r : WalkC}
    (h : Call svcs pol names parent seen calls r) : r ≠ .outOfFuel := by
  unfold Call at h
  split at h
  · rw [h]; nofun
  · exact h.ne_fuel

theorem Call.ok {names : List String} {parent : AL Dep} {seen calls s2 c2 : List String}
    (h : Call svcs pol names parent seen calls (.ok s2 c2)) :
    ¬(rootsFor svcs names).any (missingFatal svcs parent) = true ∧ Dfs svcs pol (rootsFor svcs names) seen calls (.ok s2 c2) := by
  unfold Call at h
  split at h
  · cases h
  · exact ⟨‹_›, h⟩

theorem Dfs.mono {ns seen calls : List String} {r : WalkC} (h : Dfs svcs pol ns seen calls r) :
    ∀ s2 c2, r = .ok s2 c2 → ∀ x ∈ seen, x ∈ s2 := by
  induction h with
  | nil => rintro _ _ ⟨⟩ x hx; exact hx
  | skip _ _ ih => exact ih
  | visit _ _ _ _ _ ih1 ih2 => exact fun s2 c2 e x hx => ih2 s2 c2 e x (ih1 _ _ rfl x (List.mem_cons_of_mem _ hx))
  | failHere => nofun
  | failBelow => nofun

/-- with fuel for every unmarked service the loop computes what `Dfs` describes: a visit marks a service, so the
recursive call has one unmarked service less, and what it marks stays marked -/
theorem loopC_dfs {recC : List String → AL Dep → List String → List String → WalkC} (F : Nat)
    (hrec : ∀ ns d seen calls, unseen svcs seen < F → Call svcs pol ns d seen calls (recC ns d seen calls))
    (ns seen calls : List String) :
    unseen svcs seen ≤ F → Dfs svcs pol ns seen calls (walkLoopC recC svcs pol ns seen calls) := by
  fun_induction walkLoopC recC svcs pol ns seen calls with
  | case1 seen calls => exact fun _ => .nil _ _
  | case2 n ns seen calls hs ih => exact fun h => .skip (fun hk => absurd hk (lookup_eq_none.1 hs)) (ih h)
  | case3 n ns seen calls s hs hseen ih => exact fun h => .skip (fun _ => hseen) (ih h)
  | case4 n ns seen calls s hs hseen d hd ih =>
    intro h
    have e : nextOf svcs pol n s = [] := List.isEmpty_iff.1 hd
    exact .visit hs hseen (by rw [e]; nofun) (by rw [e]; exact .nil _ _)
      (ih (Nat.le_of_lt (Nat.lt_of_lt_of_le (unseen_cons_lt (keys_of_lookup hs) hseen) h)))
  | case5 n ns seen calls s hs hseen d hd seen' calls' hr ih =>
    intro h
    have lt := Nat.lt_of_lt_of_le (unseen_cons_lt (keys_of_lookup hs) hseen) h
    have C := hrec (keys d) d (n :: seen) calls lt
    rw [hr] at C
    obtain ⟨chk, C⟩ := rootsFor_keys svcs hd ▸ C.ok
    have := unseen_mono (svcs := svcs) (C.mono _ _ rfl)
    exact .visit hs hseen chk C (ih (by omega))
  | case6 n ns seen calls s hs hseen d hd hr =>
    intro h
    have C := hrec (keys d) d (n :: seen) calls (Nat.lt_of_lt_of_le (unseen_cons_lt (keys_of_lookup hs) hseen) h)
    have nf := C.ne_fuel
    rw [Call, rootsFor_keys svcs hd] at C
    split at C
    · rw [C]; exact .failHere hs hseen ‹_›
    · cases hc : recC (keys d) d (n :: seen) calls with
      | ok a b => exact (hr a b hc).elim
      | noSuchService => exact .failBelow hs hseen (hc ▸ C)
      | outOfFuel => exact absurd hc nf

theorem walkC_dfs (svcs : AL Svc) (pol : Policy) : ∀ fuel names parent seen calls, unseen svcs seen < fuel →
    Call svcs pol names parent seen calls (walkC svcs pol fuel names parent seen calls) := by
  intro fuel
  induction fuel with
  | zero => exact fun _ _ _ _ h => absurd h (Nat.not_lt_zero _)
  | succ f ih =>
    intro names parent seen calls hlt
    rw [walkC_succ, Call]
    split
    · rfl
    · exact loopC_dfs f ih _ _ _ (Nat.le_of_lt_succ hlt)

theorem Dfs.post (nd : (keys svcs).Nodup) (nk : NamesOKs svcs) {ns seen calls : List String} {r : WalkC}
    (h : Dfs svcs pol ns seen calls r) : ∀ s2 c2, r = .ok s2 c2 → Post svcs pol ns seen s2 := by
  induction h with
  | nil => rintro _ _ ⟨⟩; exact .nil ..
  | skip hn _ ih => exact fun s2 c2 e => (ih s2 c2 e).skip hn
  | visit hs _ _ _ _ ih1 ih2 => exact fun s2 c2 e => .visit nd nk hs (ih1 _ _ rfl) (ih2 s2 c2 e)
  | failHere => nofun
  | failBelow => nofun

theorem Dfs.clean (nk : NamesOKs svcs) (wf : SvcWFs svcs) {ns seen calls : List String} {r : WalkC}
    (h : Dfs svcs pol ns seen calls r) : ∀ s2 c2, r = .ok s2 c2 → ∀ x ∈ s2, x ∈ seen ∨ ¬MissingRequired svcs pol x := by
  induction h with
  | nil => rintro _ _ ⟨⟩ x hx; exact .inl hx
  | skip _ _ ih => exact ih
  | visit hs _ chk _ _ ih1 ih2 =>
    intro s2 c2 e x hx
    refine (ih2 s2 c2 e x hx).elim (fun h1 => (ih1 _ _ rfl x h1).elim (fun h0 => ?_) .inr) .inr
    rcases List.mem_cons.1 h0 with rfl | h0
    · exact .inr fun c => chk ((missingRequired_iff_fatal nk hs (wf _ (mem_of_lookup hs))).1 c)
    · exact .inl h0
  | failHere => nofun
  | failBelow => nofun

theorem Dfs.err (nd : (keys svcs).Nodup) (nk : NamesOKs svcs) (wf : SvcWFs svcs)
    {ns seen calls : List String} {r : WalkC} (h : Dfs svcs pol ns seen calls r) :
    r = .noSuchService → ∃ x, Reach svcs pol ns x ∧ MissingRequired svcs pol x := by
  have lift : ∀ {n ns}, (∃ x, Reach svcs pol ns x ∧ MissingRequired svcs pol x) →
      ∃ x, Reach svcs pol (n :: ns) x ∧ MissingRequired svcs pol x :=
    fun ⟨x, hx, hm⟩ => ⟨x, hx.mono fun r hr => List.mem_cons_of_mem _ hr, hm⟩
  induction h with
  | nil => nofun
  | skip _ _ ih => exact fun e => lift (ih e)
  | visit _ _ _ _ _ _ ih2 => exact fun e => lift (ih2 e)
  | @failHere n s _ _ _ hs _ chk =>
    exact fun _ => ⟨n, .root List.mem_cons_self (keys_of_lookup hs), (missingRequired_iff_fatal nk hs (wf _ (mem_of_lookup hs))).2 chk⟩
  | failBelow hs _ _ ih =>
    intro _
    obtain ⟨x, hx, hm⟩ := ih rfl
    exact ⟨x, reach_of_reach_next nd nk hs hx, hm⟩

/-! ## `ForEachService`: the marked set is `Reach`, the failure condition is `Rejected` -/

/-- the top-level call: no caller's map, nothing marked, one unit of fuel more than there are services -/
theorem forEachCalls_dfs (p : Proj) (names : List String) (opts : List Policy) :
    Call p.services (policyOf opts) names [] [] [] (forEachCalls p names opts) :=
  walkC_dfs _ _ _ names [] [] [] (Nat.lt_succ_of_le
    (Nat.le_trans (List.length_filter_le _ _) (Nat.le_of_eq (List.length_map _))))

theorem forEachService_eq_forget (p : Proj) (names : List String) (pol : Policy) :
    forEachService p names pol = (forEachCalls p names [pol]).forget :=
  (walkC_forget ..).symm

theorem WalkC.forget_eq_ok {r : WalkC} {set : List String} : r.forget = .ok set ↔ ∃ calls, r = .ok set calls := by
  cases r <;> simp [WalkC.forget]

theorem WalkC.forget_eq_err {r : WalkC} : r.forget = .noSuchService ↔ r = .noSuchService := by
  cases r <;> simp [WalkC.forget]

theorem forEachService_fuel (p : Proj) (names : List String) (pol : Policy) : forEachService p names pol ≠ .outOfFuel := by
  rw [forEachService_eq_forget]
  have := (forEachCalls_dfs p names [pol]).ne_fuel
  cases hr : forEachCalls p names [pol] with
  | outOfFuel => exact absurd hr this
  | ok _ _ => nofun
  | noSuchService => nofun

section
variable {p : Proj} (nd : (keys p.services).Nodup) (nk : NamesOKs p.services) {names : List String}
include nd nk

theorem forEachCalls_ok {opts : List Policy} {seen calls : List String} (h : forEachCalls p names opts = .ok seen calls)
    (x : String) : x ∈ seen ↔ Reach p.services (policyOf opts) (rootsOf p names) x := by
  have C := forEachCalls_dfs p names opts
  rw [h] at C
  rw [← rootsFor_services]
  have P := C.ok.2.post nd nk _ _ rfl
  constructor
  · intro hx
    rcases P.sound x hx with h1 | ⟨r, hr, hk, hs⟩
    · cases h1
    · exact reach_of_star hr hk hs
  · intro hx
    induction hx with
    | root hr hk => exact P.roots _ hr hk
    | step _ e ih => exact P.closed _ ih List.not_mem_nil _ e

theorem forEachCalls_err_iff (wf : SvcWFs p.services) {opts : List Policy} :
    forEachCalls p names opts = .noSuchService ↔ Rejected p.services (policyOf opts) (rootsOf p names) := by
  have C := forEachCalls_dfs p names opts
  simp only [Rejected, ← missingFatal_top, ← List.any_eq_true, ← rootsFor_services]
  cases hr : forEachCalls p names opts with
  | outOfFuel => exact absurd hr C.ne_fuel
  | noSuchService =>
    refine ⟨fun _ => ?_, fun _ => rfl⟩
    rw [hr, Call] at C
    split at C
    · exact .inl ‹_›
    · exact .inr (C.err nd nk wf rfl)
  | ok seen calls =>
    rw [hr] at C
    refine ⟨nofun, fun c => c.elim (absurd · C.ok.1) fun ⟨x, hx, hm⟩ => ?_⟩
    exact ((C.ok.2.clean nk wf _ _ rfl x ((forEachCalls_ok nd nk hr x).2 hx)).elim (nomatch ·) (· hm)).elim

theorem forEachService_ok {set : List String} (h : forEachService p names pol = .ok set) (x : String) :
    x ∈ set ↔ Reach p.services pol (rootsOf p names) x := by
  obtain ⟨calls, hc⟩ := WalkC.forget_eq_ok.1 (forEachService_eq_forget p names pol ▸ h)
  exact forEachCalls_ok nd nk hc x

theorem forEachService_err_iff (wf : SvcWFs p.services) :
    forEachService p names pol = .noSuchService ↔ Rejected p.services pol (rootsOf p names) := by
  rw [forEachService_eq_forget, WalkC.forget_eq_err]
  exact forEachCalls_err_iff nd nk wf

end

/-! ## `WithSelectedServices`: a success is `selectResult` of the closure; the closure inside a selection -/

theorem rootsOf_of_ne (p : Proj) {names : List String} (hn : names ≠ []) : rootsOf p names = names := by
  rw [rootsOf, if_neg (by simpa using hn)]

section
variable {p : Proj} (h : Partition p) (nk : NamesOK p) {names : List String} (hn : names ≠ [])
include h nk hn

/-- a successful `WithSelectedServices` is `selectResult` of the closure (of any list that is it as a set) -/
theorem select_ok_inv {q : Proj} (hq : withSelectedServices p names pol = .ok q) :
    ∃ S, (∀ x, x ∈ S ↔ Reach p.services pol names x) ∧ q = selectResult p S := by
  obtain ⟨S, hw, rfl⟩ := select_ok_shape h.1 hn hq
  exact ⟨S, fun x => rootsOf_of_ne p hn ▸ forEachService_ok h.1 nk.services hw x, rfl⟩

end

theorem select_err_iff_walk {p : Proj} (nd : (keys p.services).Nodup) {names : List String} (hn : names ≠ []) :
    withSelectedServices p names pol = .err ↔ forEachService p names pol = .noSuchService := by
  rw [withSelectedServices_eq nd hn]
  cases hw : forEachService p names pol with
  | ok set => exact ⟨nofun, nofun⟩
  | noSuchService => exact ⟨fun _ => rfl, fun _ => rfl⟩
  | outOfFuel => exact absurd hw (forEachService_fuel p names pol)

theorem reach_in_selection {p q : Proj} {S names : List String} {pol : Policy}
    (hS : ∀ x, x ∈ S ↔ Reach p.services pol names x) (sp : SelectSpec p S q) {x : String}
    (hx : Reach p.services pol names x) : Reach q.services pol names x := by
  have inq : ∀ y, Reach p.services pol names y → y ∈ keys q.services := fun y hy => sp.1.2 y ((hS y).2 hy)
  -- a kept service keeps its edges into `S`
  have keeps : ∀ y s d, y ∈ keys q.services → lookup y p.services = some s → d ∈ keys s.deps → d ∈ S →
      ∃ t, lookup y q.services = some t ∧ d ∈ keys t.deps := by
    intro y s d hy hs hd hdS
    obtain ⟨t, ht⟩ := exists_lookup_of_mem_keys hy
    have := sp.2.2.1 (y, t) (mem_of_lookup ht)
    rw [hs] at this
    obtain ⟨v, hv⟩ := mem_keys.1 hd
    exact ⟨t, ht, this ▸ mem_keys_filter.2 ⟨v, hv, by simpa using hdS⟩⟩
  induction hx with
  | root hr hk => exact .root hr (inq _ (.root hr hk))
  | @step x y hx e ih =>
    have hy : Reach p.services pol names y := .step hx e
    refine .step ih ?_
    cases pol with
    | deps =>
      obtain ⟨s, hs, hd, _⟩ := e
      obtain ⟨t, ht, hd'⟩ := keeps x s y (inq x hx) hs hd ((hS y).2 hy)
      exact ⟨t, ht, hd', inq y hy⟩
    | dependents =>
      obtain ⟨_, s, hs, hd⟩ := e
      obtain ⟨t, ht, hd'⟩ := keeps y s x (inq y hy) hs hd ((hS x).2 hx)
      exact ⟨inq x hx, t, ht, hd'⟩
    | ignore => exact e.elim

/-! ## the same map in another iteration order (`LookEq`) -/

theorem edge_lookEq {svcs svcs' : AL Svc} (e : LookEq svcs svcs') {x y : String}
    (h : Edge svcs pol x y) : Edge svcs' pol x y := by
  cases pol with
  | deps => obtain ⟨s, h1, h2, h3⟩ := h; exact ⟨s, (e x) ▸ h1, h2, (mem_keys_lookEq e y).1 h3⟩
  | dependents => obtain ⟨h1, s, h2, h3⟩ := h; exact ⟨(mem_keys_lookEq e x).1 h1, s, (e y) ▸ h2, h3⟩
  | ignore => exact h

theorem reach_lookEq {svcs svcs' : AL Svc} (e : LookEq svcs svcs') {roots roots' : List String}
    (er : ∀ r ∈ roots, r ∈ roots') {x : String} (h : Reach svcs pol roots x) : Reach svcs' pol roots' x := by
  induction h with
  | root hr hk => exact .root (er _ hr) ((mem_keys_lookEq e _).1 hk)
  | step _ ed ih => exact .step ih (edge_lookEq e ed)

theorem rejected_lookEq {svcs svcs' : AL Svc} (e : LookEq svcs svcs') {roots roots' : List String}
    (er : ∀ r ∈ roots, r ∈ roots') (h : Rejected svcs pol roots) : Rejected svcs' pol roots' := by
  rcases h with ⟨n, a, b⟩ | ⟨x, a, pl, b⟩
  · exact .inl ⟨n, er n a, fun c => b ((mem_keys_lookEq e n).2 c)⟩
  · refine .inr ⟨x, reach_lookEq e er a, pl, ?_⟩
    rw [← e x]
    cases hs : lookup x svcs with
    | none => rw [hs] at b; exact b
    | some s =>
      rw [hs] at b
      obtain ⟨kv, h1, h2, h3⟩ := b
      exact ⟨kv, h1, h2, fun c => h3 ((mem_keys_lookEq e _).2 c)⟩

theorem mem_rootsOf_lookEq {p p' : Proj} (e : LookEq p.services p'.services) (names : List String) :
    ∀ r ∈ rootsOf p names, r ∈ rootsOf p' names := by
  unfold rootsOf
  split
  · exact fun r => (mem_keys_lookEq e r).1
  · exact fun _ => id

end CV.Sel
