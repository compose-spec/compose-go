import ComposeVerif.Model.DepGraph
import ComposeVerif.Lemmas.Cycle
/-!
# `checkCycle` finds every cycle

`Reaches adj n a b`: there is a walk of `n ≥ 1` edges from `a` to `b`.  `searchCycle` is `Dfs.search` (Lemmas/Cycle.lean).
-/
namespace CV.DepGraph
open CV.Consistency (Walk Dfs.E Dfs.search)

inductive Reaches (adj : Name → List Name) : Nat → Name → Name → Prop
  | one {a b : Name} : b ∈ adj a → Reaches adj 1 a b
  | step {n : Nat} {a c b : Name} : c ∈ adj a → Reaches adj n c b → Reaches adj (n + 1) a b

theorem searchCycle_eq (adj : Name → List Name) : ∀ f path v, searchCycle adj f path v = Dfs.search adj f path v
  | 0, _, _ => rfl
  | f + 1, path, v => by simp only [searchCycle, Dfs.search, searchCycle_eq adj f]

theorem Reaches.walk {adj : Name → List Name} {n : Nat} {a b : Name} (h : Reaches adj n a b) : Walk (Dfs.E adj) a b := by
  induction h with
  | one e => exact .single e
  | step e _ ih => exact .cons e ih

theorem reaches_of_walk {adj : Name → List Name} {a b : Name} (w : Walk (Dfs.E adj) a b) : ∃ n, Reaches adj n a b := by
  induction w with
  | single e => exact ⟨1, .one e⟩
  | cons e _ ih => exact let ⟨n, h⟩ := ih; ⟨n + 1, .step e h⟩

theorem checkCycle_iff (adj : Name → List Name) (verts : List Name) (hclosed : ∀ v ∈ verts, ∀ c ∈ adj v, c ∈ verts) :
    checkCycle verts adj = true ↔ ∃ v ∈ verts, ∃ n, Reaches adj n v v := by
  simp only [checkCycle, searchCycle_eq]
  rw [CV.Consistency.Dfs.any_search_iff adj verts hclosed (Nat.le_succ _)]
  exact ⟨fun ⟨w, hw, h⟩ => ⟨w, hw, reaches_of_walk h⟩, fun ⟨v, hv, _, h⟩ => ⟨v, hv, h.walk⟩⟩

theorem checkCycle_false_iff (adj : Name → List Name) (verts : List Name)
    (hclosed : ∀ v ∈ verts, ∀ c ∈ adj v, c ∈ verts) :
    checkCycle verts adj = false ↔ ∀ v ∈ verts, ∀ n, ¬ Reaches adj n v v := by
  rw [← Bool.not_eq_true, checkCycle_iff adj verts hclosed]
  exact ⟨fun h v hv n hr => h ⟨v, hv, n, hr⟩, fun h ⟨v, hv, n, hr⟩ => h v hv n hr⟩

theorem checkCycle_sound (adj : Name → List Name) (verts : List Name) (h : checkCycle verts adj = true) :
    ∃ x n, Reaches adj n x x := by
  simp only [checkCycle, List.any_eq_true, searchCycle_eq] at h
  obtain ⟨v, _, hv⟩ := h
  obtain ⟨w, -, hw⟩ := CV.Consistency.Dfs.search_bad adj _ [v] v (by simp) hv
  exact ⟨w, reaches_of_walk hw⟩

theorem Reaches.pos {adj : Name → List Name} {n : Nat} {a b : Name} (h : Reaches adj n a b) : 1 ≤ n := by
  cases h
  · exact Nat.le_refl 1
  · exact Nat.le_add_left 1 _

theorem Reaches.rank_add_le {adj : Name → List Name} {rk : Name → Nat} {S : Name → Prop}
    (hclosed : ∀ v, S v → ∀ c ∈ adj v, S c) (hrk : ∀ v, S v → ∀ c ∈ adj v, rk c < rk v)
    {n : Nat} {a b : Name} (h : Reaches adj n a b) (ha : S a) : rk b + n ≤ rk a := by
  induction h with
  | one hb => exact hrk _ ha _ hb
  | step hc _ ih => exact Nat.lt_of_le_of_lt (ih (hclosed _ ha _ hc)) (hrk _ ha _ hc)

/-- the rank function is `GraphOK.rank`, the acyclicity hypothesis of the traversal theorems -/
theorem checkCycle_accepts_ranked (adj : Name → List Name) (verts : List Name) (rk : Name → Nat)
    (hrk : ∀ v c, c ∈ adj v → rk c < rk v) : checkCycle verts adj = false := by
  cases h : checkCycle verts adj with
  | false => rfl
  | true =>
    obtain ⟨x, n, hr⟩ := checkCycle_sound adj verts h
    have := hr.rank_add_le (S := fun _ => True) (fun _ _ _ _ => trivial) (fun v _ => hrk v) trivial
    exact absurd (Nat.lt_of_lt_of_le (Nat.lt_add_of_pos_right hr.pos) this) (Nat.lt_irrefl _)

end CV.DepGraph
