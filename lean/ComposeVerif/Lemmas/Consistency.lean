import ComposeVerif.Spec.Consistency
/-! Each rule function of the model decides its `Holds` clause; the per-service check is the first failing rule of `svcRuleOrder`. -/
namespace CV.Consistency

@[simp] theorem guard_none {c : Bool} {e : Err} : guard c e = none ↔ c = false := by
  unfold guard; cases c <;> simp

theorem guard_some {c : Bool} {e e' : Err} : guard c e = some e' ↔ c = true ∧ e = e' := by
  unfold guard; cases c <;> simp

theorem orE_none {a b : Option Err} : orE a b = none ↔ a = none ∧ b = none := by
  unfold orE; cases a <;> simp

theorem orE_some {a b : Option Err} {e : Err} : orE a b = some e ↔ a = some e ∨ (a = none ∧ b = some e) := by
  unfold orE; cases a <;> simp

theorem ruleCheck_iff (p : Proj) (s : Svc) (r : Rule) : ruleCheck p s r = none ↔ Holds p s r := by
  cases r <;> simp only [ruleCheck, Holds, rImage, rNetworks, rVolumes, rSecrets, rConfigs, rBuildSecrets, rDependsOn,
    rServiceRef, rDockerfile, rNetworkMode, rContainerName, rScale, rCpus, rMemLimit, rMemReservation, rPids, rPlatform,
    rHealthcheck, rWatch, guard]
  -- Nineteen reflections, one per rule, and no common lemma: the model's test (`rX`, a `guard` under up to two matches on
  -- optional fields) and the specification's clause (`Holds`, a `∀ … →`) were written independently, and each `rX` compiles
  -- to a matcher of its own, so a lemma "`match o with | some b => guard (c b) e | none => none` is `none` iff …" has no
  -- instance to rewrite with: only `split` / `grind` see through.  What `grind` does in each case is split the
  -- matches, turn `!` / `&&` / `!=` / `contains` / `all` into their propositions, and close the propositional rest.
  case image | volumes | dependsOn | xWatch => simp [volOK, depOK, watchOK] <;> grind
  all_goals grind

/-- the rules of the loop body of `checkConsistency`, in source order -/
def svcRuleOrder : List Rule :=
  [.image, .exclDockerfile, .xPlatform, .exclNetworkMode, .networks, .xHealthcheck, .dependsOn, .serviceRef, .volumes,
   .buildSecrets, .configs, .secrets, .pairScale, .pairCpus, .pairMemLimit, .pairMemReservation, .pairPids,
   .exclContainerName, .xWatch]

def ruleErr : Rule → Err
  | .image => .noImage | .exclDockerfile => .dockerfileExclusive | .xPlatform => .platformMismatch
  | .exclNetworkMode => .networkModeExclusive | .networks => .undefinedNetwork | .xHealthcheck => .healthcheck
  | .dependsOn => .undefinedDependency | .serviceRef => .networkModeService | .volumes => .undefinedVolume
  | .buildSecrets => .undefinedBuildSecret | .configs => .undefinedConfig | .secrets => .undefinedSecret
  | .pairScale => .scaleReplicas | .pairCpus => .cpus | .pairMemLimit => .memLimit
  | .pairMemReservation => .memReservation | .pairPids => .pidsLimit | .exclContainerName => .containerNameScale
  | .xWatch => .watchTarget

theorem checkSvc_findSome (p : Proj) (s : Svc) : checkSvc p s = svcRuleOrder.findSome? (ruleCheck p s) := by
  have hcons : ∀ (a : Rule) (l : List Rule), (a :: l).findSome? (ruleCheck p s) = orE (ruleCheck p s a) (l.findSome? (ruleCheck p s)) := by
    intro a l
    cases h : ruleCheck p s a <;> simp [orE, h]
  have hnil : ∀ a : Option Err, orE a none = a := by intro a; cases a <;> rfl
  simp only [svcRuleOrder, hcons, List.findSome?_nil, hnil, ruleCheck, checkSvc]

theorem Rule.mem_all (r : Rule) : r ∈ Rule.all := List.contains_iff_mem.mp (by cases r <;> rfl)

theorem mem_svcRuleOrder (r : Rule) : r ∈ svcRuleOrder :=
  (by decide : ∀ r ∈ Rule.all, r ∈ svcRuleOrder) r (Rule.mem_all r)

theorem checkSvc_none_iff (p : Proj) (s : Svc) : checkSvc p s = none ↔ ∀ r, Holds p s r := by
  rw [checkSvc_findSome, List.findSome?_eq_none_iff]
  exact ⟨fun h r => (ruleCheck_iff p s r).mp (h r (mem_svcRuleOrder r)), fun h r _ => (ruleCheck_iff p s r).mpr (h r)⟩

theorem guard_none_or (c : Bool) (e : Err) : guard c e = none ∨ guard c e = some e := by
  cases c <;> simp [guard]

/-- each rule function is `guard _ (ruleErr r)` below at most two matches -/
theorem ruleCheck_none_or (p : Proj) (s : Svc) (r : Rule) : ruleCheck p s r = none ∨ ruleCheck p s r = some (ruleErr r) := by
  cases r <;> simp only [ruleCheck, ruleErr]
  case image | networks | volumes | secrets | configs | dependsOn | exclNetworkMode | exclContainerName | xWatch =>
    exact guard_none_or _ _
  case buildSecrets | serviceRef | exclDockerfile | xPlatform | xHealthcheck =>
    simp only [rBuildSecrets, rServiceRef, rDockerfile, rPlatform, rHealthcheck]
    split
    all_goals first | exact guard_none_or _ _ | exact .inl rfl
  case pairScale | pairCpus | pairMemLimit | pairMemReservation | pairPids =>
    simp only [rScale, rCpus, rMemLimit, rMemReservation, rPids]
    split
    · split
      all_goals first | exact guard_none_or _ _ | exact .inl rfl
    · exact .inl rfl

theorem ruleCheck_err (p : Proj) (s : Svc) (r : Rule) (e : Err) (h : ruleCheck p s r = some e) : e = ruleErr r := by
  rcases ruleCheck_none_or p s r with h' | h' <;> rw [h'] at h <;> cases h
  rfl

theorem checkSecret_iff (s : Secret) : checkSecret s = none ↔ (s.external = true ∨ s.file ≠ "" ∨ s.environment ≠ "") := by
  simp [checkSecret]
  grind

theorem rulesB_iff (p : Proj) : rulesB p = true ↔ ∀ e ∈ p.services, ∀ r, Holds p e.2 r := by
  simp only [rulesB, List.all_eq_true, Option.isNone_iff_eq_none, ruleCheck_iff]
  exact forall₂_congr fun e _ => ⟨fun h r => h r (Rule.mem_all r), fun h r _ => h r⟩

theorem secretsB_iff (p : Proj) : secretsB p = true ↔ SecretsSourced p := by
  simp only [secretsB, SecretsSourced, List.all_eq_true, Option.isNone_iff_eq_none, checkSecret_iff]

theorem findSome_none_iff {α : Type} (l : List α) (f : α → Option Err) : l.findSome? f = none ↔ ∀ x ∈ l, f x = none := by
  simp

end CV.Consistency
