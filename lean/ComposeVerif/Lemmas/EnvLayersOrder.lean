import ComposeVerif.Lemmas.EnvLayers
import ComposeVerif.Model.EnvLayersOrder
/-! C16: Go picks the order of every `range` over a map (`Model/EnvLayersOrder.lean`).  Two listings of one Go map
    (`MapEq`) stay two listings of one map under `OverrideBy`, `Resolve`, `ToMappingWithEquals`; hence any run of the file
    loop (`FilesRun`) agrees with the list-order loop (`filesRun_agrees`): same error, or maps equal key by key. -/
namespace CV.EnvLayers
open CV.EnvLayers.Spec

theorem MapEq.refl {β : Type} (m : List (Key × β)) : MapEq m m := fun _ => rfl
theorem MapEq.symm {β : Type} {m m' : List (Key × β)} (h : MapEq m m') : MapEq m' m := fun k => (h k).symm
theorem MapEq.trans {β : Type} {a b c : List (Key × β)} (h1 : MapEq a b) (h2 : MapEq b c) : MapEq a c :=
  fun k => (h1 k).trans (h2 k)

theorem mapEq_of_perm {β : Type} (m m' : List (Key × β)) (hd : Distinct m) (hp : m.Perm m') : MapEq m m' :=
  fun k => lookup_perm k m m' hd hp

theorem overrideBy_congr {β : Type} (m m0 other other' : List (Key × β)) (hm : MapEq m m0) (hd : Distinct other)
    (hp : other.Perm other') : MapEq (overrideBy m other') (overrideBy m0 other) := by
  intro k
  rw [lookup_overrideBy k m other' (distinct_perm _ _ hd hp), lookup_overrideBy k m0 other hd,
    ← lookup_perm k other other' hd hp, hm k]

theorem overrideBy_congr_arg {β : Type} (m other other2 : List (Key × β)) (hd : Distinct other) (hd2 : Distinct other2)
    (h : MapEq other other2) : MapEq (overrideBy m other) (overrideBy m other2) := by
  intro k
  rw [lookup_overrideBy k m other hd, lookup_overrideBy k m other2 hd2, h k]

theorem rangeOverride_sound {β : Type} (m m0 other res : List (Key × β)) (hm : MapEq m m0) (hd : Distinct other)
    (h : RangeOverride m other res) : Distinct res ∧ MapEq res (overrideBy m0 other) := by
  obtain ⟨other', hp, hdr, hres⟩ := h
  exact ⟨hdr, hres.trans (overrideBy_congr m m0 other other' hm hd hp)⟩

theorem rangeResolve_sound (look : Look) (m res : List (Key × Option Str)) (hd : Distinct m)
    (h : RangeResolve look m res) : Distinct res ∧ MapEq res (resolveMWE look m) := by
  obtain ⟨m', hp, hdr, hres⟩ := h
  refine ⟨hdr, fun k => ?_⟩
  rw [hres k, lookup_resolveMWE, lookup_resolveMWE, ← lookup_perm k m m' hd hp]

theorem mapEq_toMWE (a b : List (Key × Str)) (h : MapEq a b) : MapEq (toMWE a) (toMWE b) := by
  intro k; rw [lookup_toMWE, lookup_toMWE, h k]

theorem eq_nil_of_lookup_none {β : Type} (m : List (Key × β)) (h : ∀ k, lookup k m = none) : m = [] :=
  Assoc.eq_nil_of_lookup_none fun k => lookup_eq k m ▸ h k

theorem MapEq.isEmpty_eq {β : Type} {x y : List (Key × β)} (h : MapEq x y) : x.isEmpty = y.isEmpty := by
  cases x with
  | nil => rw [eq_nil_of_lookup_none y fun k => (h k).symm]
  | cons p r =>
    cases y with
    | nil => have := h p.1; simp [lookup] at this
    | cons q t => rfl

theorem envChain_congr (penv acc acc0 : List (Key × Str)) (h : MapEq acc acc0) : envChain penv acc = envChain penv acc0 := by
  funext n; simp only [envChain, h n]

theorem labelChain_congr (acc acc0 : List (Key × Str)) (h : MapEq acc acc0) : labelChain acc = labelChain acc0 := by
  funext n; simp only [labelChain, h n]

/-- how an any-order outcome relates to the list-order outcome -/
def Agrees {β : Type} (a b : Except Err (List (Key × β))) : Prop :=
  match a, b with
  | .ok x, .ok y => MapEq x y
  | .error e, .error e' => e = e'
  | _, _ => False

theorem Agrees.cases {β : Type} {a b : Except Err (List (Key × β))} (h : Agrees a b) :
    (∃ e, a = .error e ∧ b = .error e) ∨ ∃ x y, a = .ok x ∧ b = .ok y ∧ MapEq x y := by
  cases a with
  | error e =>
    cases b with
    | error e' => exact Or.inl ⟨e, rfl, congrArg _ (Eq.symm h)⟩
    | ok y => exact h.elim
  | ok x =>
    cases b with
    | error e' => exact h.elim
    | ok y => exact Or.inr ⟨x, y, rfl, rfl, h⟩

theorem filesRun_agrees {α : Type} (load : α → Look → Except Err (List (Key × Str))) (chain : List (Key × Str) → Look)
    (hchain : ∀ a b, MapEq a b → chain a = chain b)
    (hdist : ∀ f look vars, load f look = .ok vars → Distinct vars)
    (fsl : List α) (acc : List (Key × Str)) (res : Except Err (List (Key × Str)))
    (h : FilesRun load chain fsl acc res) (acc0 : List (Key × Str)) (hacc : MapEq acc acc0) :
    Agrees res (fsl.foldlM (fileStep load chain) acc0) := by
  induction h generalizing acc0 with
  | nil acc => exact hacc
  | fail f r acc e hl =>
    simp only [List.foldlM_cons, fileStep, ← hchain _ _ hacc, hl]
    rfl
  | step f r acc vars acc1 res hl ho _ ih =>
    simp only [List.foldlM_cons, fileStep, ← hchain _ _ hacc, hl]
    exact ih _ (rangeOverride_sound acc acc0 vars acc1 hacc (hdist _ _ _ hl) ho).2

end CV.EnvLayers
