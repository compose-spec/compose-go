import ComposeVerif.Lemmas.C11MapM
/-! What the pieces of `loader.Normalize` do to a mapping, read back through `lookup`: the in-place rewrite `mapAt` / `mapVals`, the store
`putNonEmpty` (`if len(n) > 0 { x[k] = n }`), the implied dependencies `addDep(s)` / `impliedList`, the build section, and the loop body with the keys it
reads (`svcRead`) and writes (`svcWritten`).  Everything later about `Normalize` (idempotence, order, shapes, stages) reads the model through these. -/
namespace CV.C11
open CV CV.Val CV.C11.Spec

theorem lookup_mapAt (f : String → Val → Val) (k : String) (m : KVs) :
    lookup k (mapAt f m) = (lookup k m).map (f k) := lookup_map_val f

theorem lookup_mapAt_of_id {f : String → Val → Val} {k : String} (h : ∀ v, f k v = v) (m : KVs) :
    lookup k (mapAt f m) = lookup k m := by
  rw [lookup_mapAt]; cases lookup k m <;> simp [h]

theorem lookup_mapVals (f : Val → Val) (k : String) (m : KVs) :
    lookup k (mapVals f m) = (lookup k m).map f := lookup_map_val fun _ => f

theorem mapAt_mapAt (f g : String → Val → Val) (m : KVs) :
    mapAt f (mapAt g m) = mapAt (fun k v => f k (g k v)) m := by
  simp [mapAt, List.map_map, Function.comp_def]

theorem mapVals_mapVals (f g : Val → Val) (m : KVs) :
    mapVals f (mapVals g m) = mapVals (fun v => f (g v)) m := by
  simp [mapVals, List.map_map, Function.comp_def]

theorem mapAt_congr {f g : String → Val → Val} {m : KVs} (h : ∀ kv ∈ m, f kv.1 kv.2 = g kv.1 kv.2) :
    mapAt f m = mapAt g m := by
  unfold mapAt
  apply List.map_congr_left
  intro kv hkv
  rw [h kv hkv]

theorem mapAt_eq_self_iff {f : String → Val → Val} {m : KVs} : mapAt f m = m ↔ ∀ kv ∈ m, f kv.1 kv.2 = kv.2 := by
  unfold mapAt
  induction m with
  | nil => simp
  | cons e r ih => rw [List.map_cons, List.cons.injEq, ih, List.forall_mem_cons, Prod.ext_iff, eq_self, true_and]

theorem mapVals_id {f : Val → Val} {m : KVs} (h : ∀ kv ∈ m, f kv.2 = kv.2) : mapVals f m = m :=
  (mapAt_eq_self_iff (f := fun _ => f)).mpr h

theorem mapVals_congr {f g : Val → Val} {m : KVs} (h : ∀ kv ∈ m, f kv.2 = g kv.2) : mapVals f m = mapVals g m :=
  mapAt_congr (f := fun _ => f) (g := fun _ => g) h

theorem mapAt_insert (f : String → Val → Val) (k : String) (v : Val) (m : KVs) :
    mapAt f (insert k v m) = insert k (f k v) (mapAt f m) := by
  induction m with
  | nil => simp [mapAt, Val.insert]
  | cons e r ih =>
    obtain ⟨k', v'⟩ := e
    by_cases hk : k = k'
    · subst hk; simp [mapAt, Val.insert]
    · simp only [mapAt] at ih
      simp [mapAt, Val.insert, hk, ih]

theorem mapAt_eq_nil {f : String → Val → Val} {m : KVs} : mapAt f m = [] ↔ m = [] := by
  simp [mapAt]

theorem mapAt_idem {f : String → Val → Val} (hf : ∀ k v, f k (f k v) = f k v) (m : KVs) :
    mapAt f (mapAt f m) = mapAt f m := by
  rw [mapAt_mapAt]; exact mapAt_congr fun kv _ => hf kv.1 kv.2

theorem mem_mapAt {f : String → Val → Val} {m : KVs} {x : String × Val} (h : x ∈ mapAt f m) :
    ∃ kv ∈ m, x = (kv.1, f kv.1 kv.2) := by
  obtain ⟨kv, hkv, e⟩ := List.mem_map.mp h
  exact ⟨kv, hkv, e.symm⟩

/-- `if len(n) > 0 { x[k] = n }`: how the loop body stores the implied `depends_on` and `normalizeNetworks` the networks -/
def putNonEmpty (k : String) (n x : KVs) : KVs :=
  match n with
  | [] => x
  | _ :: _ => Val.insert k (.map n) x

theorem lookup_putNonEmpty_ne {k k' : String} (h : k' ≠ k) (n x : KVs) :
    lookup k' (putNonEmpty k n x) = lookup k' x := by
  cases n with
  | nil => rfl
  | cons e t => exact lookup_insert_ne h _ _

theorem lookup_putNonEmpty_self (k : String) (n x : KVs) :
    lookup k (putNonEmpty k n x) =
      match n with
      | [] => lookup k x
      | e :: t => some (.map (e :: t)) := by
  cases n with
  | nil => rfl
  | cons e t => exact lookup_insert_self _ _ _

theorem mem_putNonEmpty {k : String} {n x : KVs} {e : String × Val} (h : e ∈ putNonEmpty k n x) :
    e = (k, .map n) ∨ e ∈ x := by
  cases n with
  | nil => exact .inr h
  | cons _ _ => exact mem_insert h

theorem putNonEmpty_mapAt_idem {f : String → Val → Val} (hf : ∀ k v, f k (f k v) = f k v) {k : String} {n : KVs}
    (hn : f k (.map n) = .map n) (x : KVs) :
    putNonEmpty k n (mapAt f (putNonEmpty k n (mapAt f x))) = putNonEmpty k n (mapAt f x) := by
  cases n with
  | nil => exact mapAt_idem hf x
  | cons e t =>
    simp only [putNonEmpty]
    rw [mapAt_insert, hn, mapAt_idem hf, insert_insert]

theorem lookup_addDep (k : String) (e : Val) (deps : KVs) (k' : String) :
    lookup k' (addDep k e deps) = (lookup k' deps).orElse fun _ => if k' = k then some e else none := by
  unfold addDep
  rw [lookup_setIfAbsent]
  unfold filled
  by_cases hk : k' = k
  · subst hk
    cases h : lookup k' deps <;> simp [h]
  · cases h : lookup k' deps <;> simp [hk, h]

/-- an entry that is declared stays as declared;
an undeclared one gets the entry of the first implying attribute -/
theorem lookup_addDeps (ks : List (String × Val)) (deps : KVs) (k : String) :
    lookup k (addDeps ks deps) = (lookup k deps).orElse fun _ => lookup k ks := by
  induction ks generalizing deps with
  | nil => cases h : lookup k deps <;> simp [addDeps, lookup, h]
  | cons ke r ih =>
    obtain ⟨k0, e0⟩ := ke
    have : addDeps ((k0, e0) :: r) deps = addDeps r (addDep k0 e0 deps) := by simp [addDeps]
    rw [this, ih, lookup_addDep]
    by_cases hk : k = k0
    · subst hk
      cases h : lookup k deps <;> simp [lookup]
    · cases h : lookup k deps <;> simp [lookup, hk]

theorem addDep_of_present {k : String} {e : Val} {deps : KVs} (h : (lookup k deps).isSome) :
    addDep k e deps = deps := by
  unfold addDep setIfAbsent
  cases h' : lookup k deps with
  | none => simp [h'] at h
  | some x => rfl

theorem lookup_isSome_addDep {k k' : String} {e : Val} {deps : KVs} (h : (lookup k' deps).isSome) :
    (lookup k' (addDep k e deps)).isSome := by
  rw [lookup_addDep]
  cases h' : lookup k' deps with
  | none => simp [h'] at h
  | some x => simp

theorem addDeps_fixed {ks : List (String × Val)} {deps : KVs}
    (h : ∀ ke ∈ ks, (lookup ke.1 deps).isSome) : addDeps ks deps = deps := by
  induction ks generalizing deps with
  | nil => rfl
  | cons ke r ih =>
    have h0 := h ke (List.mem_cons_self ..)
    have : addDeps (ke :: r) deps = addDeps r (addDep ke.1 ke.2 deps) := by simp [addDeps]
    rw [this, addDep_of_present h0]
    exact ih fun ke' hm => h ke' (List.mem_cons_of_mem _ hm)

theorem addDeps_covers (ks : List (String × Val)) (deps : KVs) :
    ∀ ke ∈ ks, (lookup ke.1 (addDeps ks deps)).isSome := by
  intro ke hm
  rw [lookup_addDeps]
  cases h : lookup ke.1 deps with
  | some x => simp
  | none => simpa using lookup_isSome.mpr (List.mem_map_of_mem (f := Prod.fst) hm)

theorem addDeps_idem (ks : List (String × Val)) (deps : KVs) :
    addDeps ks (addDeps ks deps) = addDeps ks deps :=
  addDeps_fixed (addDeps_covers ks deps)

theorem addDeps_eq_nil {ks : List (String × Val)} {deps : KVs} (h : addDeps ks deps = []) : deps = [] := by
  cases deps with
  | nil => rfl
  | cons e r =>
    exfalso
    have : (lookup e.1 (addDeps ks (e :: r))).isSome := by
      rw [lookup_addDeps]; simp [lookup]
    rw [h] at this
    simp [lookup] at this

/-! ### the build section: `dockerfileDefault` as one `if`, what the passes over it leave alone -/

theorem lookup_normBuildArgs_ne (env : Env) {k : String} (hk : k ≠ "args") (b : KVs) :
    lookup k (normBuildArgs env b) = lookup k b := by
  unfold normBuildArgs
  cases h : lookup "args" b with
  | none => rfl
  | some a => exact lookup_insert_ne hk _ _

theorem dockerfileDefault_eq (b : KVs) :
    dockerfileDefault b =
      if unset (lookup "dockerfile" b) && unset (lookup "dockerfile_inline" b)
      then Val.insert "dockerfile" (.str "Dockerfile") b else b := by
  unfold dockerfileDefault
  cases lookup "dockerfile" b with
  | none =>
    cases lookup "dockerfile_inline" b with
    | none => rfl
    | some y => cases y <;> rfl
  | some x =>
    cases lookup "dockerfile_inline" b with
    | none => cases x <;> rfl
    | some y => cases x <;> cases y <;> rfl

theorem lookup_dockerfileDefault_self (b : KVs) :
    lookup "dockerfile" (dockerfileDefault b) =
      match lookup "dockerfile" b, lookup "dockerfile_inline" b with
      | none, none => some (.str "Dockerfile")
      | none, some .null => some (.str "Dockerfile")
      | some .null, none => some (.str "Dockerfile")
      | some .null, some .null => some (.str "Dockerfile")
      | d, _ => d := by
  unfold dockerfileDefault
  split <;> simp_all [lookup_insert_self]

theorem lookup_dockerfileDefault_ne {k : String} (hk : k ≠ "dockerfile") (b : KVs) :
    lookup k (dockerfileDefault b) = lookup k b := by
  rw [dockerfileDefault_eq]
  split
  · exact lookup_insert_ne hk _ _
  · rfl

theorem unset_dockerfileDefault (b : KVs) :
    (unset (lookup "dockerfile" (dockerfileDefault b)) && unset (lookup "dockerfile_inline" (dockerfileDefault b))) = false := by
  rw [dockerfileDefault_eq]
  split
  · rw [lookup_insert_self]; rfl
  · rename_i h; exact Bool.eq_false_iff.mpr h

theorem dockerfileDefault_of_set {b : KVs}
    (h : (unset (lookup "dockerfile" b) && unset (lookup "dockerfile_inline" b)) = false) : dockerfileDefault b = b := by
  rw [dockerfileDefault_eq, h]; rfl

theorem normBuildV_eq (env : Env) : normBuildV env = onMap (normBuild env) := by
  funext v; cases v <;> rfl

/-! ### the loop body: `normService` is `putNonEmpty "depends_on" … (mapAt svcAttr …)`; what it reads, what it writes -/

def svcWritten : List String := ["pull_policy", "build", "environment", "volumes", "depends_on"]

theorem svcAttr_pull_policy (clean : String → String) (env : Env) (v : Val) :
    svcAttr clean env "pull_policy" v = pullPolicyV v := by
  simp [svcAttr]

theorem svcAttr_build (clean : String → String) (env : Env) (v : Val) :
    svcAttr clean env "build" v = onMap (normBuild env) v := by
  simp [svcAttr, normBuildV_eq]

theorem svcAttr_environment (clean : String → String) (env : Env) (v : Val) :
    svcAttr clean env "environment" v = (resolve env true v).1 := by
  simp [svcAttr]

theorem svcAttr_volumes (clean : String → String) (env : Env) (v : Val) :
    svcAttr clean env "volumes" v = normVolumesV clean v := by
  simp [svcAttr]

theorem svcAttr_other (clean : String → String) (env : Env) {k : String}
    (h1 : k ≠ "pull_policy") (h2 : k ≠ "build") (h3 : k ≠ "environment") (h4 : k ≠ "volumes") (v : Val) :
    svcAttr clean env k v = v := by
  simp [svcAttr, h1, h2, h3, h4]

theorem normService_eq (clean : String → String) (env : Env) (s : KVs) :
    normService clean env s = putNonEmpty "depends_on" (impliedDeps s) (mapAt (svcAttr clean env) s) := by
  unfold normService setDeps putNonEmpty
  cases impliedDeps s <;> rfl

theorem lookup_normService_of_not_written (clean : String → String) (env : Env) {k : String} (hk : k ∉ svcWritten) (s : KVs) :
    lookup k (normService clean env s) = lookup k s := by
  simp only [svcWritten, List.mem_cons, List.not_mem_nil, or_false, not_or] at hk
  rw [normService_eq, lookup_putNonEmpty_ne hk.2.2.2.2,
    lookup_mapAt_of_id (svcAttr_other clean env hk.1 hk.2.1 hk.2.2.1 hk.2.2.2.1)]

/-- what the loop body and `normalizeNetworks` read of a service, apart from `depends_on` -/
def svcRead : List String := "links" :: "volumes_from" :: "networks" :: namespaces

theorem lookup_normService_read (clean : String → String) (env : Env) {k : String} (hk : k ∈ svcRead) (s : KVs) :
    lookup k (normService clean env s) = lookup k s := by
  have disjoint : ∀ k ∈ svcRead, k ∉ svcWritten := by decide +kernel
  exact lookup_normService_of_not_written clean env (disjoint k hk) s

theorem lookup_normService_attr (clean : String → String) (env : Env) {k : String} (hk : k ≠ "depends_on") (s : KVs) :
    lookup k (normService clean env s) = (lookup k s).map (svcAttr clean env k) := by
  rw [normService_eq, lookup_putNonEmpty_ne hk, lookup_mapAt]

theorem lookup_normService_depends_on (clean : String → String) (env : Env) (s : KVs) :
    lookup "depends_on" (normService clean env s) =
      match impliedDeps s with
      | [] => lookup "depends_on" s
      | d :: r => some (.map (d :: r)) := by
  rw [normService_eq, lookup_putNonEmpty_self,
    lookup_mapAt_of_id (svcAttr_other clean env (by simp) (by simp) (by simp) (by simp))]

theorem mem_impliedList {s : KVs} {ke : String × Val} : ke ∈ impliedList s ↔
    (∃ l ∈ seqOf (lookup "links" s), ke = (linkTarget (strOf l), depEntry true)) ∨
    (∃ ns ∈ namespaces, nsDep s ns = some ke) ∨
    (∃ v ∈ seqOf (lookup "volumes_from" s), vfDep v = some ke) := by
  simp only [impliedList, linkDeps, nsDeps, vfDeps, List.mem_append, List.mem_map, List.mem_filterMap, eq_comm (a := ke)]

theorem nsDeps_congr {s s' : KVs} (h : ∀ ns ∈ namespaces, lookup ns s' = lookup ns s) : nsDeps s' = nsDeps s := by
  have : ∀ l : List String, (∀ ns ∈ l, lookup ns s' = lookup ns s) → l.filterMap (nsDep s') = l.filterMap (nsDep s) := by
    intro l
    induction l with
    | nil => intro _; rfl
    | cons a r ih =>
      intro hl
      rw [List.forall_mem_cons] at hl
      simp only [List.filterMap_cons, nsDep, hl.1, ih hl.2]
  exact this _ h

end CV.C11
