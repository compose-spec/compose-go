import ComposeVerif.Model.Pipeline
import ComposeVerif.Lemmas.Reset
import ComposeVerif.Lemmas.ValDecEq
import ComposeVerif.Lemmas.ValInd
/-!
# Lemmas about the composed pipeline (`Model/Pipeline.lean`)

1. the front end (`convertToStringKeysRecursive`, `fixEmptyNotNull`) is the identity on trees built from `Val`: the
   reason the composed pipeline can be stated on `Val`;
2. a document without tags (`untagged`, `nodeOf`: Lemmas/Reset.lean) goes through `processNode` as its decoded tree
   goes through `processDoc`;
3. the algebra of `Out.bind`;
4. the loops over nodes, files and documents are one recursion (`Loop`);
5. where a panic of a monadic composition comes from (`PanicsIn`);
6. what a success went through (the `…_ok` inversions of the stage wrappers and of `load`, `loadY`, `finishLoad`).
-/
namespace CV.Pipeline
open CV CV.Val

deriving instance DecidableEq for Out

/-! ## 1. the front end on trees built from `Val` -/

theorem convert_ofVal₃ :
    (∀ v : Val, ∃ g, C01.convert (ofVal v) = .ok g ∧ toVal g = v ∧ toVal (C01.fixEmpty g) = v) ∧
    (∀ kvs : List (String × Val), ∃ gs, C01.convertKVs (ofKVs kvs) = .ok gs ∧ toKVs gs = kvs ∧ toKVs (C01.fixEmptyKVs gs) = kvs) ∧
    (∀ xs : List Val, ∃ gs, C01.convertList (ofVals xs) = .ok gs ∧ toVals gs = xs ∧ toVals (C01.fixEmptyList gs) = xs) := by
  apply Val.induct₃
  case null | bool | int | float | str => intros; exact ⟨_, rfl, rfl, rfl⟩
  case seq =>
    -- an empty converted list comes back as a nil slice, which `fixEmpty` turns into the empty sequence again
    intro xs ⟨gs, h1, h2, h3⟩
    cases gs with
    | nil =>
      refine ⟨.nilseq, ?_, ?_, ?_⟩
      · simp only [ofVal, C01.convert, h1]; rfl
      · simp only [toVal, toVals] at h2 ⊢; rw [← h2]
      · simp only [C01.fixEmpty, toVal, toVals] at h2 ⊢; rw [← h2]
    | cons g gs =>
      refine ⟨.seq (g :: gs), ?_, ?_, ?_⟩
      · simp only [ofVal, C01.convert, h1]; rfl
      · simp only [toVal]; rw [h2]
      · simp only [C01.fixEmpty, toVal]; rw [h3]
  case map =>
    intro kvs ⟨gs, h1, h2, h3⟩
    refine ⟨.map gs, ?_, ?_, ?_⟩
    · simp only [ofVal, C01.convert, h1]; rfl
    · simp only [toVal]; rw [h2]
    · simp only [C01.fixEmpty, toVal]; rw [h3]
  case nil | nil' => exact ⟨[], rfl, rfl, rfl⟩
  case cons | cons' =>
    intros; rename_i ihv ihr
    obtain ⟨g, h1, h2, h3⟩ := ihv
    obtain ⟨gs, k1, k2, k3⟩ := ihr
    -- the head of the converted list, `(k, g)` or `g`, is read off the first equation
    apply Exists.intro
    refine ⟨?_, ?_, ?_⟩
    · simp only [ofKVs, ofVals, C01.convertKVs, C01.convertList, h1, k1]; rfl
    · simp only [toKVs, toVals, h2, k2]
    · simp only [C01.fixEmptyKVs, C01.fixEmptyList, toKVs, toVals, h3, k3]

theorem convert_ofVal : ∀ v : Val, ∃ g, C01.convert (ofVal v) = .ok g ∧ toVal g = v ∧ toVal (C01.fixEmpty g) = v :=
  convert_ofVal₃.1
theorem convertList_ofVals : ∀ xs : List Val, ∃ gs, C01.convertList (ofVals xs) = .ok gs ∧ toVals gs = xs ∧ toVals (C01.fixEmptyList gs) = xs :=
  convert_ofVal₃.2.2
theorem convertKVs_ofKVs : ∀ kvs : List (String × Val), ∃ gs, C01.convertKVs (ofKVs kvs) = .ok gs ∧ toKVs gs = kvs ∧ toKVs (C01.fixEmptyKVs gs) = kvs :=
  convert_ofVal₃.2.1

/-! ## 2. documents without tags -/

open CV.Reset in
theorem applyKVs_nil : ∀ (kvs : KVs) (p : TPath), applyKVs [] kvs p = kvs := Reset.applyNull_nil₃.2.1
open CV.Reset in
theorem applySeq_nil : ∀ (xs : List Val) (p : TPath) (i : Nat), applySeq [] xs p i = xs := Reset.applyNull_nil₃.2.2

theorem processNode_untagged (c : Cfg) (dict : Val) (n : Reset.YNode) (cfg : KVs)
    (h : untagged n = true) (hd : Reset.decode n = .map cfg) : processNode c dict n = processDoc c dict cfg := by
  simp only [processNode, readDoc_untagged n h, hd, Reset.applyNull_nil, processDoc]

/-! ## 3, 4. `Out.bind`; loops over documents and files

`processNodes`, `processFiles` and `processDocs` are one recursion: run the step on the head, go on with its result, stop
at the first failure.  What follows from that shape is proved once, for any `go` with these two equations. -/

theorem bind_eq_ok {α β : Type} {x : Out α} {f : α → Out β} {b : β} :
    x.bind f = .ok b ↔ ∃ a, x = .ok a ∧ f a = .ok b := by
  cases x <;> simp [Out.bind]

theorem bind_assoc {α β γ : Type} (x : Out α) (f : α → Out β) (g : β → Out γ) :
    (x.bind f).bind g = x.bind fun a => (f a).bind g := by
  cases x <;> rfl

theorem bind_ok_right {α : Type} (x : Out α) : x.bind .ok = x := by cases x <;> rfl

section Loop
variable {α : Type} {step : Val → α → Out Val} {go : Val → List α → Out Val}
  (h0 : ∀ d, go d [] = .ok d) (h1 : ∀ d x r, go d (x :: r) = (step d x).bind fun d' => go d' r)
include h0 h1

theorem loop_append : ∀ (a b : List α) (d : Val), go d (a ++ b) = (go d a).bind fun d' => go d' b
  | [], b, d => by rw [h0]; rfl
  | x :: a, b, d => by
    simp only [List.cons_append, h1, bind_assoc]
    congr; funext d'; exact loop_append a b d'

theorem loop_preserves (P : Val → Prop) (hs : ∀ d x d', P d → step d x = .ok d' → P d') :
    ∀ (l : List α) (d r : Val), P d → go d l = .ok r → P r
  | [], d, r, hd, h => by rw [h0] at h; cases h; exact hd
  | x :: l, d, r, hd, h => by
    rw [h1] at h
    obtain ⟨d', hx, h⟩ := bind_eq_ok.1 h
    exact loop_preserves P hs l d' r (hs d x d' hd hx) h

/-- two loops (over lists of any two types) whose lists of step functions are equal agree: comparing two loads comes down
to `List.map` equations about their documents -/
theorem loop_congr {β : Type} {step' : Val → β → Out Val} {go' : Val → List β → Out Val}
    (h0' : ∀ d, go' d [] = .ok d) (h1' : ∀ d x r, go' d (x :: r) = (step' d x).bind fun d' => go' d' r) :
    ∀ {l : List α} {l' : List β}, (l.map fun a d => step d a) = (l'.map fun b d => step' d b) → ∀ d, go d l = go' d l'
  | [], [], _, d => by rw [h0, h0']
  | a :: l, b :: l', h, d => by
    rw [List.map_cons, List.map_cons, List.cons.injEq] at h
    rw [h1, h1', congrFun h.1 d]
    congr; funext d'; exact loop_congr h0' h1' h.2 d'

theorem loop_eq_foldl : ∀ (l : List α) (d : Val),
    go d l = l.foldl (fun (acc : Out Val) x => acc.bind fun d => step d x) (.ok d) := by
  have start : ∀ (l : List α) (x : Out Val),
      l.foldl (fun (acc : Out Val) x => acc.bind fun d => step d x) x =
        x.bind fun d => l.foldl (fun (acc : Out Val) x => acc.bind fun d => step d x) (.ok d) := by
    intro l
    induction l with
    | nil => intro x; exact (bind_ok_right x).symm
    | cons y l ih =>
      intro x
      cases x with
      | ok d => rfl
      | err e => exact ih _
      | panic s => exact ih _
  intro l
  induction l with
  | nil => exact h0
  | cons x l ih => intro d; simp only [h1, ih, List.foldl_cons]; exact (start l _).symm

end Loop

theorem processNodes_cons (c : Cfg) (d : Val) (n : Reset.YNode) (r : List Reset.YNode) :
    processNodes c d (n :: r) = (processNode c d n).bind fun d' => processNodes c d' r := by
  simp only [processNodes]; cases processNode c d n <;> rfl

theorem processFiles_cons (c : Cfg) (d : Val) (f : List Reset.YNode) (r : List (List Reset.YNode)) :
    processFiles c d (f :: r) = (processNodes c d f).bind fun d' => processFiles c d' r := by
  simp only [processFiles]; cases processNodes c d f <;> rfl

theorem processDocs_cons (c : Cfg) (d : Val) (cfg : KVs) (r : List KVs) :
    processDocs c d (cfg :: r) = (processDoc c d cfg).bind fun d' => processDocs c d' r := by
  simp only [processDocs]; cases processDoc c d cfg <;> rfl

theorem bind_eq {α β : Type} (x : Out α) (f : α → Out β) : (x >>= f) = x.bind f := rfl
theorem pure_eq {α : Type} (a : α) : (pure a : Out α) = .ok a := rfl

/-! ## 5. where a panic comes from

`PanicsIn S x`: a panic outcome of `x`, if any, is at a site in `S`.  The glue only passes panics on (`Out.bind`, the
adapters), so the statement about a composition is the composition of the statements about its stages. -/

def PanicsIn {α : Type} (S : String → Prop) (x : Out α) : Prop := ∀ s, x = .panic s → S s

section PanicsIn
variable {S : String → Prop}

theorem PanicsIn.ok {α : Type} {a : α} : PanicsIn S (.ok a) := nofun
theorem PanicsIn.err {α : Type} {e : String} : PanicsIn S (.err e : Out α) := nofun

theorem PanicsIn.bind {α β : Type} {x : Out α} {f : α → Out β} (hx : PanicsIn S x) (hf : ∀ a, PanicsIn S (f a)) :
    PanicsIn S (x.bind f) := by
  cases x with
  | ok a => exact hf a
  | err e => exact .err
  | panic t => exact fun s e => hx s (by cases e; rfl)

theorem PanicsIn.ofInterp {α : Type} {r : Interp.Out α} (h : ∀ s, r ≠ .panic s) : PanicsIn S (ofInterp r) :=
  fun _ e => by cases r <;> cases e; exact absurd rfl (h _)
theorem PanicsIn.ofExtends {α : Type} {r : Extends.Out α} (h : ∀ s, r ≠ .panic s) : PanicsIn S (ofExtends r) :=
  fun _ e => by cases r <;> cases e; exact absurd rfl (h _)
theorem PanicsIn.ofMerge {α : Type} {st : String} {r : Merge.Out α} (h : ∀ s, r ≠ .panic s) : PanicsIn S (ofMerge st r) :=
  fun _ e => by cases r <;> cases e; exact absurd rfl (h _)
theorem PanicsIn.ofShort {α : Type} {r : Short.Out α} (h : ∀ s, r ≠ .panic s) : PanicsIn S (ofShort r) :=
  fun _ e => by cases r <;> cases e; exact absurd rfl (h _)
theorem PanicsIn.ofC11 {α : Type} {st : String} {r : C11.Out α} (h : ∀ s, r ≠ .panic s) : PanicsIn S (ofC11 st r) :=
  fun _ e => by cases r <;> cases e; exact absurd rfl (h _)
theorem PanicsIn.ofPaths {α : Type} {r : Paths.Out α} (h : ∀ s, r ≠ .panic s) : PanicsIn S (ofPaths r) :=
  fun _ e => by cases r <;> cases e; exact absurd rfl (h _)
theorem PanicsIn.ofValidate {v : Val} {r : Validate.VOut} (h : ∀ s, r = .panic s → S s) : PanicsIn S (ofValidate v r) :=
  fun s e => by cases r <;> cases e; exact h s rfl

theorem loop_panicsIn {α : Type} {step : Val → α → Out Val} {go : Val → List α → Out Val}
    (h0 : ∀ d, go d [] = .ok d) (h1 : ∀ d x r, go d (x :: r) = (step d x).bind fun d' => go d' r)
    (hs : ∀ d x, PanicsIn S (step d x)) : ∀ (l : List α) (d : Val), PanicsIn S (go d l)
  | [], d => h0 d ▸ .ok
  | x :: r, d => h1 d x r ▸ .bind (hs d x) (loop_panicsIn h0 h1 hs r)

end PanicsIn

/-! ## 6. what a success went through -/

theorem ofInterp_ok {α : Type} {r : Interp.Out α} {a : α} (h : ofInterp r = .ok a) : r = .ok a := by
  cases r <;> cases h; rfl
theorem ofExtends_ok {α : Type} {r : Extends.Out α} {a : α} (h : ofExtends r = .ok a) : r = .ok a := by
  cases r <;> cases h; rfl
theorem ofMerge_ok {α : Type} {st : String} {r : Merge.Out α} {a : α} (h : ofMerge st r = .ok a) : r = .ok a := by
  cases r <;> cases h; rfl
theorem ofShort_ok {α : Type} {r : Short.Out α} {a : α} (h : ofShort r = .ok a) : r = .ok a := by
  cases r <;> cases h; rfl
theorem ofC11_ok {α : Type} {st : String} {r : C11.Out α} {a : α} (h : ofC11 st r = .ok a) : r = .ok a := by
  cases r <;> cases h; rfl

/-- `load` = `loadYamlModel` then the tail -/
theorem load_ok (c : Cfg) (docs : List KVs) (e : KVs) (h : load c docs = .ok e) :
    ∃ m, loadYamlModel c docs = .ok m ∧ finishLoad c m = .ok e := by
  unfold load at h
  split at h
  · cases h
  · exact bind_eq_ok.1 h

theorem loadY_ok (c : Cfg) (files : List (List Reset.YNode)) (e : KVs) (h : loadY c files = .ok e) :
    ∃ m, loadYamlModelY c files = .ok m ∧ finishLoad c m = .ok e := by
  unfold loadY at h
  split at h
  · cases h
  · exact bind_eq_ok.1 h

/-- what a successful `loadYamlModel` / `loadYamlModelY` / … (a document loop `x`, then `finishModel`: defaults →
validation → paths → environment) went through -/
theorem model_ok {c : Cfg} {x : Out Val} {r : Val.KVs} (h : x.bind (finishModel c) = .ok r) :
    ∃ merged d0 d m, x = .ok merged ∧ defaultsStage c merged = .ok d0 ∧ validateStage c d0 = .ok d ∧
      pathsStage c d = .ok (.map m) ∧ r = resolveEnvironment c.env m := by
  obtain ⟨merged, hx, h⟩ := bind_eq_ok.1 h
  obtain ⟨d0, h0, h⟩ := bind_eq_ok.1 h
  obtain ⟨d, h1, h⟩ := bind_eq_ok.1 h
  obtain ⟨p, h2, h⟩ := bind_eq_ok.1 h
  unfold envStage at h
  cases p with
  | map m => cases h; exact ⟨merged, d0, d, m, hx, h0, h1, h2, rfl⟩
  | _ => cases h

theorem finishLoad_ok (c : Cfg) (dict out : KVs) (h : finishLoad c dict = .ok out) :
    c.projectName ≠ "" ∧
      if c.opts.skipNormalization then out = dict
      else C11.normalize c.clean c.env (Val.insert "name" (.str c.projectName) dict) = .ok out := by
  unfold finishLoad at h
  split at h
  · cases h
  · split at h
    · cases h
    · refine ⟨‹_›, ?_⟩
      split at h
      · cases h; rw [if_pos ‹_›]
      · rw [if_neg ‹_›]; exact ofC11_ok h

end CV.Pipeline
