import ComposeVerif.Model.Marshal
import ComposeVerif.Lemmas.KVs
import ComposeVerif.Lemmas.Scan
/-!
# What several codecs of `Model/Marshal.lean` share

Decimal text, the three string containers and the decoders that are the identity on them, `assignAll` on distinct keys,
the separator search, `mapOut`.  ssh keys and extra_hosts: `Lemmas/MarshalSSH.lean`, `Lemmas/MarshalHosts.lean`.
-/
namespace CV.Marshal
open CV

theorem digitChar_val : ∀ d, d < 10 → (digitChar d).toNat - 48 = d := by decide

theorem digitChar_isDigit : ∀ d, d < 10 → isDigit (digitChar d) = true := by decide

/-! `natDigits`, `digitsVal` are core's `Nat.toDigits 10`, `Nat.ofDigitChars 10`: the round trip is core's -/

theorem digitChar_eq : ∀ d, d < 10 → digitChar d = Nat.digitChar d := by decide

theorem natDigitsAux_eq : ∀ (f n : Nat) (acc : List Char), natDigitsAux f n acc = Nat.toDigitsCore 10 f n acc
  | 0, _, _ => rfl
  | f + 1, n, acc => by
    rw [natDigitsAux, Nat.toDigitsCore, natDigitsAux_eq f, digitChar_eq _ (Nat.mod_lt n (by decide))]
    by_cases h : n < 10
    · rw [if_pos h, if_pos (Nat.div_eq_of_lt h), Nat.mod_eq_of_lt h, digitChar_eq n h]
    · rw [if_neg h, if_neg (by omega)]

theorem natDigits_eq (n : Nat) : natDigits n = Nat.toDigits 10 n := natDigitsAux_eq _ _ _

theorem digitsVal_eq (ds : List Char) : digitsVal ds = Nat.ofDigitChars 10 ds 0 :=
  congrArg (fun f => List.foldl f 0 ds) (funext fun a => funext fun _ => congrArg (· + _) (Nat.mul_comm a 10))

theorem digitsVal_natDigits (n : Nat) : digitsVal (natDigits n) = n := by
  rw [digitsVal_eq, natDigits_eq]; exact Nat.ofDigitChars_ten_toDigits

theorem natDigits_all (n : Nat) : (natDigits n).all isDigit = true :=
  List.all_eq_true.mpr fun _ hc => Nat.isDigit_of_mem_toDigits (by decide) (by decide) (natDigits_eq n ▸ hc)

theorem natDigits_ne_nil (n : Nat) : natDigits n ≠ [] := natDigits_eq n ▸ Nat.toDigits_ne_nil

theorem parseNat_natDigits (n : Nat) : parseNat? (natDigits n) = some n := by
  have h3 : (natDigits n).isEmpty = false := by
    cases h : natDigits n with
    | nil => exact absurd h (natDigits_ne_nil n)
    | cons _ _ => rfl
  simp [parseNat?, natDigits_all n, h3, digitsVal_natDigits]

theorem allStr_mem : ∀ {xs : List Val}, allStr xs = true → ∀ x ∈ xs, ∃ s, x = .str s
  | .str s :: r, h, x, hx => by
    rcases List.mem_cons.mp hx with rfl | hx
    · exact ⟨s, rfl⟩
    · exact allStr_mem (xs := r) h x hx

theorem allStrVals_mem : ∀ {kvs : List (String × Val)}, allStrVals kvs = true → ∀ p ∈ kvs, ∃ s, p.2 = .str s
  | (_, .str s) :: r, h, p, hp => by
    rcases List.mem_cons.mp hp with rfl | hp
    · exact ⟨s, rfl⟩
    · exact allStrVals_mem (kvs := r) h p hp

theorem allStrOrNullVals_mem : ∀ {kvs : List (String × Val)}, allStrOrNullVals kvs = true →
    ∀ p ∈ kvs, p.2 = .null ∨ ∃ s, p.2 = .str s
  | (_, .str s) :: r, h, p, hp => by
    rcases List.mem_cons.mp hp with rfl | hp
    · exact Or.inr ⟨s, rfl⟩
    · exact allStrOrNullVals_mem (kvs := r) h p hp
  | (_, .null) :: r, h, p, hp => by
    rcases List.mem_cons.mp hp with rfl | hp
    · exact Or.inl rfl
    · exact allStrOrNullVals_mem (kvs := r) h p hp

theorem allStr_scalar (xs : List Val) (h : allStr xs = true) : xs.all isScalar = true :=
  List.all_eq_true.mpr fun x hx => by obtain ⟨s, rfl⟩ := allStr_mem h x hx; rfl

theorem allStr_sprint (xs : List Val) (h : allStr xs = true) : xs.map (fun x => Val.str (sprint x)) = xs :=
  (List.map_congr_left fun x hx => by obtain ⟨s, rfl⟩ := allStr_mem h x hx; rfl).trans (List.map_id xs)

theorem allStrVals_scalar (kvs : List (String × Val)) (h : allStrVals kvs = true) : (kvs.map Prod.snd).all isScalar = true :=
  List.all_eq_true.mpr fun x hx => by
    obtain ⟨p, hp, rfl⟩ := List.mem_map.mp hx
    obtain ⟨s, hs⟩ := allStrVals_mem h p hp
    rw [hs]; rfl

theorem allStrVals_sprint (kvs : List (String × Val)) (h : allStrVals kvs = true) : kvs.map entryStr = kvs :=
  (List.map_congr_left fun p hp => by
    obtain ⟨k, v⟩ := p
    obtain ⟨s, rfl⟩ := allStrVals_mem h _ hp
    rfl).trans (List.map_id kvs)

theorem allStrOrNullVals_scalar (kvs : List (String × Val)) (h : allStrOrNullVals kvs = true) :
    (kvs.map Prod.snd).all isScalar = true :=
  List.all_eq_true.mpr fun x hx => by
    obtain ⟨p, hp, rfl⟩ := List.mem_map.mp hx
    rcases allStrOrNullVals_mem h p hp with hs | ⟨s, hs⟩ <;> (rw [hs]; rfl)

theorem allStrOrNullVals_sprint (kvs : List (String × Val)) (h : allStrOrNullVals kvs = true) : kvs.map entryPtr = kvs :=
  (List.map_congr_left fun p hp => by
    obtain ⟨k, v⟩ := p
    rcases allStrOrNullVals_mem h _ hp with rfl | ⟨s, rfl⟩ <;> rfl).trans (List.map_id kvs)

/-! The decoders of the string containers are the identity on well-formed non-nil values: what their
round trips (`Props/C09.lean`) and their use as leaves of the generic round trip (`Props/C09Leaves.lean`) rest on. -/

theorem decode_ShellCommand_id (xs : List Val) (h : allStr xs = true) : decode_ShellCommand (.seq xs) = .ok (.seq xs) := by
  simp only [decode_ShellCommand, h, if_true]

theorem decode_HealthCheckTest_id (xs : List Val) (h : allStr xs = true) : decode_HealthCheckTest (.seq xs) = .ok (.seq xs) := by
  simp only [decode_HealthCheckTest, h, if_true]

theorem decode_StringList_id (xs : List Val) (h : allStr xs = true) : decode_StringList (.seq xs) = .ok (.seq xs) := by
  simp only [decode_StringList, h, if_true]

theorem decode_StringOrNumberList_id (xs : List Val) (h : allStr xs = true) :
    decode_StringOrNumberList (.seq xs) = .ok (.seq xs) := by
  simp only [decode_StringOrNumberList, guardScalars, allStr_scalar xs h, if_true, allStr_sprint xs h]

theorem decode_Mapping_id (kvs : List (String × Val)) (h : allStrVals kvs = true) : decode_Mapping (.map kvs) = .ok (.map kvs) := by
  simp only [decode_Mapping, guardScalars, allStrVals_scalar kvs h, if_true, allStrVals_sprint kvs h]

theorem decode_Options_id (kvs : List (String × Val)) (h : allStrVals kvs = true) : decode_Options (.map kvs) = .ok (.map kvs) := by
  simp only [decode_Options, guardScalars, allStrVals_scalar kvs h, if_true, allStrVals_sprint kvs h]

theorem decode_MappingWithEquals_id (kvs : List (String × Val)) (h : allStrOrNullVals kvs = true) :
    decode_MappingWithEquals (.map kvs) = .ok (.map kvs) := by
  simp only [decode_MappingWithEquals, guardScalars, allStrOrNullVals_scalar kvs h, if_true, allStrOrNullVals_sprint kvs h]

theorem natDigits_head (n : Nat) : ∃ c cs, natDigits n = c :: cs ∧ isDigit c = true := by
  have h1 := natDigits_all n
  cases h : natDigits n with
  | nil => exact absurd h (natDigits_ne_nil n)
  | cons c cs =>
    rw [h] at h1
    simp only [List.all_cons, Bool.and_eq_true] at h1
    exact ⟨c, cs, rfl, h1.1⟩

theorem parseInt_natDigits (n : Nat) : parseInt? (natDigits n) = some (n : Int) := by
  obtain ⟨c, cs, hc, hd⟩ := natDigits_head n
  have hm : c ≠ '-' := by intro e; subst e; revert hd; decide
  have hp : c ≠ '+' := by intro e; subst e; revert hd; decide
  have := parseNat_natDigits n
  rw [hc] at this ⊢
  unfold parseInt?
  split
  · next r heq => injection heq with h1 _; exact absurd h1 hm
  · next r heq => injection heq with h1 _; exact absurd h1 hp
  · simp [this]

theorem parseInt_fmtInt (i : Int) : parseInt? (fmtInt i).toList = some i := by
  cases i with
  | ofNat n => simp [fmtInt, parseInt_natDigits]
  | negSucc n =>
    simp only [fmtInt, String.toList_ofList, parseInt?, parseNat_natDigits]
    congr 1

/-- the decimal text of an int64 is read back exactly (`strconv.ParseInt` comes first in `UnitBytes.DecodeMapstructure`) -/
theorem decode_UnitBytes_fmtInt (i : Int) (h : -(two63 : Int) ≤ i ∧ i < (two63 : Int)) :
    decode_UnitBytes (.str (fmtInt i)) = .ok (.int i) := by
  simp only [decode_UnitBytes, parseInt64?, parseInt_fmtInt, h.1, h.2, and_self, if_true]

theorem not_mem_of_nodup_append_cons {α : Type} {a b : List α} {x : α} (h : (a ++ x :: b).Nodup) : x ∉ a :=
  fun hm => (List.nodup_append.mp h).2.2 x hm x List.mem_cons_self rfl

theorem foldl_insert_nodup (kvs acc : List (String × Val)) (h : (acc.map Prod.fst ++ kvs.map Prod.fst).Nodup) :
    kvs.foldl (fun acc (kv : String × Val) => Val.insert kv.1 kv.2 acc) acc = acc ++ kvs := by
  have h' := List.nodup_append.mp h
  rw [Val.foldl_insert_eq]
  exact Assoc.insertAll_append h'.2.1 fun k hk hk' => h'.2.2 k hk' k hk rfl

theorem assignAll_nodup (kvs : List (String × Val)) (h : (kvs.map Prod.fst).Nodup) : assignAll kvs = kvs := by
  unfold assignAll
  rw [foldl_insert_nodup kvs [] (by simpa using h)]
  simp


theorem indexOf_sep (c : Char) (a b : List Char) (h : c ∉ a) : CV.indexOf [c] (a ++ c :: b) = some a.length :=
  Scan.indexOf_char c a b fun _ hx e => h (e ▸ hx)

theorem indexOfGo_none (c : Char) : ∀ (a : List Char) (i : Nat), c ∉ a → CV.indexOfGo [c] a i = none := by
  intro a i h
  have := Scan.indexOfGo_skip c [] a [] i fun _ hx e => h (e ▸ hx)
  rwa [List.append_nil] at this

theorem mapOut_map {α : Type} (f : Val → Out) (g : α → Val) (h : α → Val) (hf : ∀ x, f (g x) = .ok (h x)) :
    ∀ xs : List α, mapOut f (xs.map g) = .ok (xs.map h) := by
  intro xs
  induction xs with
  | nil => rfl
  | cons x r ih => simp [mapOut, hf, ih]

theorem mapOut_self (g : Val → Out) : ∀ xs : List Val, (∀ x ∈ xs, g x = .ok x) → mapOut g xs = .ok xs := by
  intro xs; induction xs with
  | nil => intro _; rfl
  | cons x r ih =>
    intro h
    simp only [mapOut, h x (List.mem_cons_self ..), ih (fun y hy => h y (List.mem_cons_of_mem _ hy))]

theorem mapOut_roundtrip (enc dec : Val → Out) : ∀ xs : List Val,
    (∀ x ∈ xs, ∃ t, enc x = .ok t ∧ dec t = .ok x) → ∃ ts, mapOut enc xs = .ok ts ∧ mapOut dec ts = .ok xs
  | [], _ => ⟨[], rfl, rfl⟩
  | x :: r, h => by
    obtain ⟨t, he, hd⟩ := h x List.mem_cons_self
    obtain ⟨ts, h1, h2⟩ := mapOut_roundtrip enc dec r (fun y hy => h y (List.mem_cons_of_mem _ hy))
    exact ⟨t :: ts, by simp only [mapOut, he, h1], by simp only [mapOut, hd, h2]⟩

end CV.Marshal
