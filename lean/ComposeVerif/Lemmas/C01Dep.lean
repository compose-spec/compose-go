import ComposeVerif.Model.C01Cycles
import ComposeVerif.Lemmas.C01Loop
/-!
The cycle tracker (`cycleTracker.Add`: a chain of accepted references is duplicate-free) and the `depends_on` cycle search
(`graph.checkCycle`): a search from a vertex that can loop never says `ok`, and the search returns on every graph.
-/
namespace CV.C01

theorem Tracker.add_some {t t' : Tracker} {r : Ref} (h : t.add r = some t') : t' = t ++ [r] ∧ r ∉ t := by
  unfold Tracker.add at h
  split at h
  · cases h
  · cases h; exact ⟨rfl, by assumption⟩

/-- follow a chain of references with a tracker, as the recursion of `applyServiceExtends` does -/
def Tracker.run : List Ref → Tracker → Option Tracker
  | [], t => some t
  | r :: rest, t =>
    match t.add r with
    | none => none
    | some t' => Tracker.run rest t'

theorem Tracker.run_spec : ∀ (refs : List Ref) (t t' : Tracker), t.Nodup → Tracker.run refs t = some t' →
    t' = t ++ refs ∧ t'.Nodup
  | [], t, t', hn, h => by
    simp only [Tracker.run, Option.some.injEq] at h
    subst h
    exact ⟨by simp, hn⟩
  | r :: rest, t, t', hn, h => by
    simp only [Tracker.run] at h
    split at h
    · cases h
    · rename_i t1 h1
      obtain ⟨rfl, hr⟩ := Tracker.add_some h1
      obtain ⟨h2, h3⟩ := Tracker.run_spec rest _ t' (nodup_snoc hn hr) h
      exact ⟨by rw [h2]; simp, h3⟩

namespace Dep

variable {α : Type} [DecidableEq α]

def verts (g : G α) : List α := g.map Prod.fst

/-- every edge points at a vertex (what `newGraph` builds) -/
def Closed (g : G α) : Prop := ∀ v c, c ∈ children g v → c ∈ verts g

inductive Reach (g : G α) : α → α → Prop where
  | refl (a : α) : Reach g a a
  | step {a b c : α} : b ∈ children g a → Reach g b c → Reach g a c

def CanLoop (g : G α) (v : α) : Prop :=
  ∃ w, Reach g v w ∧ ∃ x, x ∈ children g w ∧ Reach g x w

theorem CanLoop.child {g : G α} {v : α} (h : CanLoop g v) : ∃ c, c ∈ children g v ∧ CanLoop g c := by
  obtain ⟨w, hvw, x, hx, hxw⟩ := h
  cases hvw with
  | refl => exact ⟨x, hx, _, hxw, x, hx, hxw⟩
  | step hb hbw => exact ⟨_, hb, w, hbw, x, hx, hxw⟩

theorem searchChildren_eq (search : List α → α → R α) (path : List α) : ∀ cs,
    searchChildren search path cs =
      firstNotOk .ok (fun n => if n ∈ path then .cycle (path.dropWhile (· ≠ n) ++ [n]) else search (path ++ [n]) n) cs
  | [] => rfl
  | n :: r => by
    unfold searchChildren firstNotOk
    rw [searchChildren_eq search path r]
    split
    · rfl
    · cases search (path ++ [n]) n <;> rfl

theorem checkFrom_eq (g : G α) (fuel : Nat) : ∀ vs, checkFrom g fuel vs = firstNotOk .ok (fun v => searchCycle g fuel [v] v) vs
  | [] => rfl
  | v :: r => by
    unfold checkFrom firstNotOk
    rw [checkFrom_eq g fuel r]
    cases searchCycle g fuel [v] v <;> rfl

theorem searchCycle_ne_ok (g : G α) : ∀ (fuel : Nat) (path : List α) (v : α),
    CanLoop g v → searchCycle g fuel path v ≠ .ok
  | 0, _, _, _ => nofun
  | fuel + 1, path, v, h => by
    obtain ⟨c, hc, hl⟩ := h.child
    unfold searchCycle
    rw [searchChildren_eq, Ne, firstNotOk_eq_ok]
    intro hall
    have := hall c hc
    split at this
    · cases this
    · exact searchCycle_ne_ok g fuel _ c hl this

theorem mem_verts_of_child : ∀ {g : G α} {v c : α}, c ∈ children g v → v ∈ verts g
  | (k, _) :: r, v, c, h => by
    unfold children at h
    split at h
    · next e => exact e ▸ List.mem_cons_self ..
    · exact List.mem_cons_of_mem _ (mem_verts_of_child h)

/-- the search terminates on EVERY graph: whatever has been descended from had a child, so it is a vertex; the path
before its last element is a duplicate-free list of vertices, and `|V| + 1` levels suffice -/
theorem searchCycle_ne_fuel (g : G α) : ∀ (fuel : Nat) (pre : List α) (v : α),
    (pre ++ [v]).Nodup → (∀ x ∈ pre, x ∈ verts g) → (verts g).length - pre.length < fuel →
      searchCycle g fuel (pre ++ [v]) v ≠ .outOfFuel
  | 0, _, _, _, _, hf => by omega
  | fuel + 1, pre, v, hn, hsub, hf => by
    unfold searchCycle
    rw [searchChildren_eq]
    intro h
    obtain ⟨c, hc, hx⟩ := firstNotOk_mem h nofun
    split at hx
    · cases hx
    · next hnot =>
      have hv : v ∉ pre := fun hm => (List.nodup_append.mp hn).2.2 v hm v (List.mem_singleton.mpr rfl) rfl
      obtain ⟨_, hsub', hlt⟩ := trail_snoc (List.nodup_append.mp hn).1 hsub hv (mem_verts_of_child hc)
      exact searchCycle_ne_fuel g fuel _ c (nodup_snoc hn hnot) hsub' (by omega) hx

theorem checkCycle_ne_fuel (g : G α) (fuel : Nat) (hf : g.length < fuel) : checkCycle g fuel ≠ .outOfFuel := by
  unfold checkCycle
  rw [checkFrom_eq]
  intro h
  obtain ⟨v, _, hx⟩ := firstNotOk_mem h nofun
  exact searchCycle_ne_fuel g fuel [] v (by simp) nofun (by simpa [verts] using hf) hx

end Dep
end CV.C01
