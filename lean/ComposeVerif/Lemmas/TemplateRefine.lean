import ComposeVerif.Lemmas.TemplateRun
/-!
# The C07 refinement: `run_render`

`toOut`/`evalOut` bridging and the mutual induction over the AST (`seg_run` / `list_run`) from the equations of the scan;
`evalOut` over append; `WF` implies `WFml`.
-/
namespace CV.Template

theorem evalOut_eq (env : Env) (t : List Seg) : evalOut env t = toOut (evalL env t) := by
  unfold evalOut toOut; cases evalL env t <;> rfl

theorem opOut_eval (env : Env) (n : Str) (o : Op) (arg : List Seg) :
    opOut env n o (evalOut env arg) = toOut ((Seg.op n o arg).eval env) := by
  rw [evalOut_eq, Seg.eval]
  cases evalL env arg with
  | error e => rfl
  | ok d => exact applyOp_eq_opSpec ..

theorem evalOut_nil (env : Env) : evalOut env [] = .ok [] := rfl

theorem evalOut_cons (env : Env) (s : Seg) (r : List Seg) :
    evalOut env (s :: r) = seq (toOut (s.eval env)) (evalOut env r) := by
  rw [evalOut_eq, evalOut_eq, evalL]
  cases s.eval env <;> cases evalL env r <;> rfl

theorem litOkTop_spec {s : Str} (h : litOkTop s = true) : ∀ c ∈ s, c ≠ '$' := by
  simpa only [litOkTop, List.all_eq_true, bne_iff_ne, ne_eq] using h

theorem noNameHead_append {A X : Str} (hA : noNameHead A = true) (hX : noNameHead X = true) :
    noNameHead (A ++ X) = true := by
  cases A with
  | nil => exact hX
  | cons a A => exact hA

mutual
theorem seg_run (env : Env) : (s : Seg) → (inArg : Bool) → s.wf inArg = true → ∀ X : Str,
    (∀ n, s = .var n false → noNameHead X = true) →
    run env (s.render ++ X) = seq (toOut (s.eval env)) (run env X)
  | .lit s, inArg, h, X, _ => by
    have hs : ∀ c ∈ s, c ≠ '$' := by
      cases inArg
      · exact litOkTop_spec (by simpa [Seg.wf] using h)
      · exact (litOkArg_spec (by simpa only [Seg.wf, if_true] using h)).1
    exact run_lit env s X hs
  | .esc, _, _, X, _ => run_esc env X
  | .var n false, _, h, X, hX => run_named env n X (by simpa only [Seg.wf] using h) (hX n rfl)
  | .var n true, _, h, X, _ => by
    rw [render_braced_eq, List.cons_append, List.cons_append, List.append_assoc]
    exact run_braced env n X (by simpa only [Seg.wf] using h)
  | .op n o arg, _, h, X, _ => by
    simp only [Seg.wf, Bool.and_eq_true] at h
    have hok := list_argOK arg h.2
    have harg := list_run env arg true h.2 [] rfl
    rw [List.append_nil, run_nil, seq_nil_ok] at harg
    rw [render_op_eq, ← opOut_eval, ← harg]
    simpa using run_op env n o (renderL arg) X h.1 hok.1 hok.2
theorem list_run (env : Env) : (l : List Seg) → (inArg : Bool) → wfL inArg l = true → ∀ X : Str,
    noNameHead X = true → run env (renderL l ++ X) = seq (evalOut env l) (run env X)
  | [], _, _, X, _ => (seq_ok_nil _).symm
  | s :: r, inArg, h, X, hX => by
    simp only [wfL, Bool.and_eq_true] at h
    have hs := seg_run env s inArg h.1.1 (renderL r ++ X) (by
      rintro n rfl
      exact noNameHead_append (by simpa using h.2) hX)
    rw [renderL, List.append_assoc, hs, list_run env r inArg h.1.2 X hX, evalOut_cons, seq_assoc]
end

theorem run_render (env : Env) (t : List Seg) (h : WF t = true) : run env (renderL t) = evalOut env t := by
  have := list_run env t false h [] rfl
  rwa [List.append_nil, run_nil, seq_nil_ok] at this

theorem evalOut_append (env : Env) (a b : List Seg) : evalOut env (a ++ b) = seq (evalOut env a) (evalOut env b) := by
  induction a with
  | nil => exact (seq_ok_nil _).symm
  | cons s r ih => rw [List.cons_append, evalOut_cons, evalOut_cons, ih, seq_assoc]

theorem evalOut_ne_panic (env : Env) (t : List Seg) (p : PanicSite) : evalOut env t ≠ .panic p := by
  rw [evalOut_eq]; exact toOut_ne_panic _ p

theorem litOkArg_imp_ML {s : Str} (h : litOkArg s = true) : litOkArgML s = true := by
  simp only [litOkArg, litOkArgML, List.all_eq_true, Bool.and_eq_true, bne_iff_ne, ne_eq] at h ⊢
  exact ⟨fun c hc => (h.1 c hc).1, h.2⟩

mutual
theorem seg_wf_imp_wfML : (s : Seg) → (inArg : Bool) → s.wf inArg = true → s.wfML inArg = true
  | .lit s, inArg, h => by
    cases inArg
    · simpa [Seg.wf, Seg.wfML] using h
    · simp only [Seg.wf, Seg.wfML, if_true] at h ⊢; exact litOkArg_imp_ML h
  | .esc, _, _ => rfl
  | .var _ _, _, h => by simpa [Seg.wf, Seg.wfML] using h
  | .op n o arg, _, h => by
    simp only [Seg.wf, Seg.wfML, Bool.and_eq_true] at h ⊢
    exact ⟨h.1, list_wf_imp_wfML arg true h.2⟩
theorem list_wf_imp_wfML : (l : List Seg) → (inArg : Bool) → wfL inArg l = true → wfLML inArg l = true
  | [], _, _ => rfl
  | s :: r, inArg, h => by
    simp only [wfL, wfLML, Bool.and_eq_true] at h ⊢
    exact ⟨⟨seg_wf_imp_wfML s inArg h.1.1, list_wf_imp_wfML r inArg h.1.2⟩, h.2⟩
end

end CV.Template
