import ComposeVerif.Lemmas.SecretsFlow
/-! C20: one section through the load under options; the default load is the instance with nothing registered. -/
namespace CV.Secrets
open CV
open CV.Val hiding lookup_insert_self lookup_insert_ne

/-- the caller's decoders invent no tainted string: what a registered Go type makes of an untainted value is untainted -/
def DecOk (P : String → Prop) (k : KnownExt) : Prop := ∀ n v v', k.dec n v = some v' → AllStr P v → AllStr P v'

/-- the carrier key never reaches the caller's decoders: the test is in the code, or the key is not registered -/
def CarrierSafe (guard : Bool) (k : KnownExt) : Prop := guard = true ∨ k.names.contains xValue = false

theorem DecOk_default {P : String → Prop} : DecOk P {} := fun _ _ _ h hv => by cases h; exact hv

theorem decodeKnown_cons_ok {g : Bool} {k : KnownExt} {n : String} {v : Val} {r ex' : KVs}
    (h : decodeKnown g k ((n, v) :: r) = .ok ex') :
    ∃ v' r', ex' = (n, v') :: r' ∧ decodeKnown g k r = .ok r' ∧
      (v' = v ∨ (¬ (g = true ∧ n = xValue) ∧ k.dec n v = some v')) := by
  simp only [decodeKnown] at h
  split at h
  · obtain ⟨r', hr, h⟩ := Out.bind_eq_ok.1 h
    cases h; exact ⟨v, r', rfl, hr, .inl rfl⟩
  · rename_i hc
    split at h
    · cases h
    · rename_i v' hv
      obtain ⟨r', hr, h⟩ := Out.bind_eq_ok.1 h
      cases h
      refine ⟨v', r', rfl, hr, .inr ⟨?_, hv⟩⟩
      rintro ⟨rfl, rfl⟩
      simp at hc

theorem AllStrKV_decodeKnown {P : String → Prop} {g : Bool} {k : KnownExt} (hk : DecOk P k) :
    ∀ {ex ex' : KVs}, AllStrKV P ex → decodeKnown g k ex = .ok ex' → AllStrKV P ex'
  | [], ex', _, h => by simp only [decodeKnown] at h; cases h; simp [AllStrKV]
  | (n, v) :: r, ex', ha, h => by
    obtain ⟨v', r', rfl, hr, hv⟩ := decodeKnown_cons_ok h
    simp only [AllStrKV] at ha ⊢
    refine ⟨ha.1, ?_, AllStrKV_decodeKnown hk ha.2.2 hr⟩
    rcases hv with rfl | ⟨_, hd⟩
    · exact ha.2.1
    · exact hk n v v' hd ha.2.1

theorem ObjOkF_decodeKnown {P : String → Prop} {g : Bool} {k : KnownExt} (hk : DecOk P k) (hs : CarrierSafe g k) :
    ∀ {ex ex' : KVs}, ObjOkF P xValue ex → decodeKnown g k ex = .ok ex' → ObjOkF P xValue ex'
  | [], ex', _, h => by simp only [decodeKnown] at h; cases h; trivial
  | (n, v) :: r, ex', ho, h => by
    by_cases hn : n = xValue
    · subst hn
      -- the carrier entry is kept as it is
      have hcond : ((g && xValue == xValue) || !k.names.contains xValue) = true := by
        rcases hs with rfl | hs
        · simp
        · rw [hs]; simp
      simp only [decodeKnown, hcond, if_true] at h
      obtain ⟨r', hr, h⟩ := Out.bind_eq_ok.1 h
      cases h
      obtain ⟨h1, h2, h3⟩ := ObjOkF_cons_self.1 ho
      exact ObjOkF_cons_self.2 ⟨h1, h2, AllStrKV_decodeKnown hk h3 hr⟩
    · obtain ⟨v', r', rfl, hr, hv⟩ := decodeKnown_cons_ok h
      obtain ⟨h1, h2, h3⟩ := (ObjOkF_cons_ne hn).1 ho
      refine (ObjOkF_cons_ne hn).2 ⟨h1, ?_, ObjOkF_decodeKnown hk hs h3 hr⟩
      rcases hv with rfl | ⟨_, hd⟩
      · exact h2
      · exact hk n v v' hd h2

theorem decodeKnown_none (g : Bool) : ∀ ex : KVs, decodeKnown g {} ex = .ok ex
  | [] => rfl
  | (n, v) :: r => by simp [decodeKnown, decodeKnown_none g r]

theorem pxEntryK_none (g : Bool) (p : TPath) (n : String) (v : Val) : pxEntryK g {} p n v = .ok (pxVal (childPath p n v) v) := by
  cases v <;> simp [pxEntryK, pxObjK, decodeKnown_none, pxVal, childPath]

theorem secret_obj_cleanK {P : String → Prop} (hx : P extKey) (hemp : P "") (hnil : P "<nil>") (hcut : CutClosed P)
    {g : Bool} {k : KnownExt} (hk : DecOk P k) (hs : CarrierSafe g k) {p : TPath} {kvs : KVs} (h : ObjOkF P xValue kvs)
    {o : FileObj} (hd : (pxObjK g k p kvs).bind decodeSecret = .ok o) : o.CleanBut P ∧ o.marshallContent = false := by
  obtain ⟨_, hp, hd⟩ := Out.bind_eq_ok.1 hd
  obtain ⟨ex, he, hp⟩ := Out.bind_eq_ok.1 hp
  cases hp
  have hraw := RawOk_withExtras (c := xValue) hx xValue_ne_extKey p (isUserDefined p) h
    (ObjOkF_decodeKnown hk hs (ObjOkF_extrasOf h _) he)
  obtain ⟨hr, hc⟩ := RawOk_hook hraw
  exact ⟨CleanBut_decodeFields hemp hnil hcut (.inl rfl) hr hc hd, (decodeFields_ok hd).2.2.2.2.2.2.2.2.2⟩

theorem config_obj_cleanK {P : String → Prop} (hx : P extKey) (hemp : P "") (hnil : P "<nil>") (hcut : CutClosed P)
    {g : Bool} {k : KnownExt} (hk : DecOk P k) {p : TPath} {kvs : KVs} (h : ObjOkF P "content" kvs)
    (hl : CfgLink P (.map kvs)) {o : FileObj} (hd : (pxObjK g k p kvs).bind decodeConfig = .ok o) :
    o.CleanBut P ∧ (o.environment ≠ "" ∨ OptP P o.content) := by
  obtain ⟨_, hp, hd⟩ := Out.bind_eq_ok.1 hd
  obtain ⟨ex, he, hp⟩ := Out.bind_eq_ok.1 hp
  cases hp
  -- `content` is not an `x-` key: the extras never held the carrier
  have hexA : AllStrKV P ex := by
    refine AllStrKV_decodeKnown hk ?_ he
    unfold extrasOf
    split
    · simp [AllStrKV]
    · exact AllStrKV_filter_of_ObjOkF h _ (fun v => by simpa using isExtKey_content)
  have hkeep := ObjOkF_pxKVs (c := "content") hx p (isUserDefined p) h
  have hraw := RawOk_withExtras (c := "content") hx (by simp [extKey]) p (isUserDefined p) h (ObjOkF_of_AllStrKV hexA)
  have hclean : ExtClean P (withExtras ex (pxKVs p (isUserDefined p) kvs)) := by
    intro m hm
    unfold withExtras at hm
    split at hm
    · simpa [AllStr] using ObjOkF_lookup_ne hkeep hm (by simp [extKey])
    · rw [lookup_insert_self] at hm
      cases hm
      exact hexA
  refine ⟨CleanBut_decodeFields hemp hnil hcut (.inr rfl) hraw hclean hd, ?_⟩
  obtain ⟨-, -, h3, h4, -⟩ := decodeFields_ok hd
  rcases hl with hc | ⟨e, he, hne⟩
  · right
    unfold contentField at h4
    split at h4
    · refine OptP_of_strField h4 fun v hv => ?_
      rw [lookup_withExtras_pxKVs (by simp [extKey]) isExtKey_content] at hv
      obtain ⟨v0, hv0, rfl⟩ := Option.map_eq_some_iff.1 hv
      exact AllStr_pxVal hx _ v0 (hc v0 hv0)
    · refine OptP_of_strField h4 fun v hv => ?_
      rw [lookup_withExtras_ne (by simp [extKey])] at hv
      exact ObjOkF_lookup_ne hkeep hv (by simp)
  · left
    unfold strField at h3
    rw [lookup_withExtras_pxKVs (by simp [extKey]) isExtKey_environment, he] at h3
    cases h3
    exact hne

theorem CleanBut_default {P : String → Prop} : FileObj.CleanBut P {} :=
  ⟨.inl rfl, .inl rfl, .inl rfl, trivial, .inl rfl, trivial, .inl rfl, trivial⟩

theorem loadSectionK_mem {o : LoadOpts} {isSecret : Bool} {env : Env} {pname : String} {dict : KVs}
    {l : List (String × FileObj)} (h : loadSectionK o isSecret env pname dict = .ok l) {n : String} {x : FileObj}
    (hm : (n, x) ∈ l) :
    ∃ objs v v2, lookup (if isSecret then "secrets" else "configs") dict = some (.map objs) ∧ (n, v) ∈ objs ∧
      (v2 = resolveObj (if isSecret then xValue else "content") env v ∨
        setNameObj pname n (resolveObj (if isSecret then xValue else "content") env v) = .ok v2) ∧
      (pxEntryK o.carrierGuard o.known [if isSecret then "secrets" else "configs"] n v2).bind
        (if isSecret then decodeSecret else decodeConfig) = .ok x := by
  unfold loadSectionK at h
  split at h
  · cases h; cases hm
  · rename_i objs hl
    obtain ⟨objs2, hn, hd⟩ := Out.bind_eq_ok.1 h
    rw [decodeObjsK_eq] at hd
    obtain ⟨v2, hm2, hd2⟩ := travKV_mem hd hm
    have h1 : ∃ v1, (n, v1) ∈ resolveObjs (if isSecret then xValue else "content") env objs ∧
        (v2 = v1 ∨ setNameObj pname n v1 = .ok v2) := by
      unfold normObjs at hn
      split at hn
      · cases hn; exact ⟨v2, hm2, .inl rfl⟩
      · rw [setNameObjs_eq] at hn
        obtain ⟨v1, hm1, hs⟩ := travKV_mem hn hm2
        exact ⟨v1, hm1, .inr hs⟩
    obtain ⟨v1, hm1, hn1⟩ := h1
    rw [resolveObjs_eq_map] at hm1
    obtain ⟨⟨n0, v⟩, hm0, he⟩ := List.mem_map.1 hm1
    cases he
    exact ⟨objs, v, v2, hl, hm0, hn1, hd2⟩
  · cases h

theorem loadSectionK_default (b : Bool) (env : Env) (pname : String) (dict : KVs) :
    loadSectionK {} b env pname dict = loadSection b env pname dict := by
  have hdec : ∀ f (p : TPath) objs, decodeObjsK true {} f p objs = decodeObjs f (pxKVs p true objs) := fun f p objs => by
    rw [decodeObjsK_eq, decodeObjs_eq, pxKVs_true_eq_map, travKV_map _ fun n v => pxVal (childPath p n v) v]
    simp only [pxEntryK_none, Out.bind_ok]
  unfold loadSectionK loadSection
  cases lookup (if b = true then "secrets" else "configs") dict with
  | none => rfl
  | some v =>
    cases v with
    | map objs =>
      show (setNameObjs pname _).bind _ = (setNameObjs pname _).bind _
      simp only [hdec]
    | _ => rfl

theorem loadK_ok {o : LoadOpts} {env : Env} {pname : String} {dict : KVs} {p : Proj} (h : loadK o env pname dict = .ok p) :
    loadSectionK o true env pname dict = .ok p.secrets ∧ loadSectionK o false env pname dict = .ok p.configs := by
  unfold loadK at h
  obtain ⟨ss, hs, h⟩ := Out.bind_eq_ok.1 h
  obtain ⟨cs, hc, h⟩ := Out.bind_eq_ok.1 h
  cases h
  exact ⟨hs, hc⟩

theorem load_ok {env : Env} {pname : String} {dict : KVs} {p : Proj} (h : load env pname dict = .ok p) :
    loadSection true env pname dict = .ok p.secrets ∧ loadSection false env pname dict = .ok p.configs := by
  unfold load at h
  obtain ⟨ss, hs, h⟩ := Out.bind_eq_ok.1 h
  obtain ⟨cs, hc, h⟩ := Out.bind_eq_ok.1 h
  cases h
  exact ⟨hs, hc⟩

/-- what the confinement theorems ask of the section `sect` of a model: every key and every generated name is untainted,
every value satisfies `Q` (`ValOkF P xValue` for secrets, which may have been resolved before; `AllStr P` for configs) -/
def SectOk (P : String → Prop) (Q : Val → Prop) (pname sect : String) (dict : KVs) : Prop :=
  ∀ objs, lookup sect dict = some (.map objs) → ∀ e ∈ objs, P e.1 ∧ P (pname ++ "_" ++ e.1) ∧ Q e.2

/-- the secrets may have been resolved before (`ValOkF` on input): the state of an including model after the import -/
theorem secrets_confinedK {P : String → Prop} (hx : P extKey) (hxv : P xValue) (hn : P "name")
    (hemp : P "") (hnil : P "<nil>") (hcut : CutClosed P)
    {o : LoadOpts} (hk : DecOk P o.known) (hcs : CarrierSafe o.carrierGuard o.known)
    {env : Env} {pname : String} {dict : KVs}
    (hsec : SectOk P (ValOkF P xValue) pname "secrets" dict)
    {ss : List (String × FileObj)} (h : loadSectionK o true env pname dict = .ok ss) :
    ∀ e ∈ ss, P e.1 ∧ e.2.CleanBut P ∧ e.2.marshallContent = false := by
  intro ⟨n, x⟩ he
  obtain ⟨objs, v, v2, hl, hm, hv2, hd⟩ := loadSectionK_mem h he
  obtain ⟨hkey, hgen, hv⟩ := hsec objs hl _ hm
  have h1 := ValOkF_resolveObj hxv env hv
  have h2 : ValOkF P xValue v2 := by
    rcases hv2 with rfl | hv2
    · exact h1
    · exact ValOkF_setNameObj (by simp [xValue]) hn hkey hgen h1 hv2
  refine ⟨hkey, ?_⟩
  -- a resource that is not a mapping is only possible with `SkipNormalization`
  cases v2 with
  | map kvs => exact secret_obj_cleanK hx hemp hnil hcut hk hcs h2 hd
  | null => simp only [pxEntryK, pxVal, Out.bind, if_true, decodeSecret] at hd; cases hd; exact ⟨CleanBut_default, rfl⟩
  | _ => simp [pxEntryK, pxVal, decodeSecret] at hd

theorem section_clean {P : String → Prop} {pname sect : String} {dict : KVs} (hd : AllStrKV P dict)
    (hgen : GenNamesOk P pname sect dict) : SectOk P (AllStr P) pname sect dict := fun objs hl e he =>
  have h := AllStrKV_iff.1 (AllStrKV_lookup hd hl) e he
  ⟨h.1, hgen objs hl e he, h.2⟩

theorem section_confined {P : String → Prop} {c pname sect : String} {dict : KVs} (hd : AllStrKV P dict)
    (hgen : GenNamesOk P pname sect dict) : SectOk P (ValOkF P c) pname sect dict := fun objs hl e he =>
  have h := section_clean hd hgen objs hl e he
  ⟨h.1, h.2.1, ValOkF_of_AllStr h.2.2⟩

theorem configs_confinedK {P : String → Prop} (hx : P extKey) (hct : P "content") (hn : P "name")
    (hemp : P "") (hnil : P "<nil>") (hcut : CutClosed P)
    {o : LoadOpts} (hk : DecOk P o.known)
    {env : Env} {pname : String} {dict : KVs}
    (hsec : SectOk P (AllStr P) pname "configs" dict)
    {cs : List (String × FileObj)} (h : loadSectionK o false env pname dict = .ok cs) :
    ∀ e ∈ cs, P e.1 ∧ e.2.CleanBut P ∧ (e.2.environment ≠ "" ∨ OptP P e.2.content) := by
  intro ⟨n, x⟩ he
  obtain ⟨objs, v, v2, hl, hm, hv2, hdec⟩ := loadSectionK_mem h he
  obtain ⟨hkey, hg, hv⟩ := hsec objs hl _ hm
  have h1 := ValOkF_resolveObj hct env (ValOkF_of_AllStr hv)
  have l1 := CfgLink_resolveObj env hv
  have h2 : ValOkF P "content" v2 ∧ CfgLink P v2 := by
    rcases hv2 with rfl | hv2
    · exact ⟨h1, l1⟩
    · exact ⟨ValOkF_setNameObj (by simp) hn hkey hg h1 hv2, CfgLink_setNameObj l1 hv2⟩
  refine ⟨hkey, ?_⟩
  cases v2 with
  | map kvs => exact config_obj_cleanK hx hemp hnil hcut hk h2.1 h2.2 hdec
  | null =>
    simp only [pxEntryK, pxVal, Out.bind, Bool.false_eq_true, if_false, decodeConfig] at hdec; cases hdec
    exact ⟨CleanBut_default, .inr (.inl rfl)⟩
  | _ => simp [pxEntryK, pxVal, decodeConfig] at hdec

/-! ### the default options, and the whole vocabulary

`secrets_confined` / `configs_confined` are the instance "nothing registered, normalisation on" (`loadSectionK_default`);
`VocabOk.confined` gives both sections at once from `VocabOk P`, in the form the renderers use. -/

theorem secrets_confined {P : String → Prop} (hx : P extKey) (hxv : P xValue) (hn : P "name")
    (hemp : P "") (hnil : P "<nil>") (hcut : CutClosed P) {env : Env} {pname : String} {dict : KVs}
    (hsec : SectOk P (ValOkF P xValue) pname "secrets" dict)
    {ss : List (String × FileObj)} (h : loadSection true env pname dict = .ok ss) :
    ∀ e ∈ ss, P e.1 ∧ e.2.CleanBut P ∧ e.2.marshallContent = false :=
  -- the carrier test is in the code: `.inl rfl`
  secrets_confinedK (o := {}) hx hxv hn hemp hnil hcut DecOk_default (.inl rfl) hsec (by rw [loadSectionK_default]; exact h)

theorem configs_confined {P : String → Prop} (hx : P extKey) (hct : P "content") (hn : P "name")
    (hemp : P "") (hnil : P "<nil>") (hcut : CutClosed P) {env : Env} {pname : String} {dict : KVs}
    (hsec : SectOk P (AllStr P) pname "configs" dict)
    {cs : List (String × FileObj)} (h : loadSection false env pname dict = .ok cs) :
    ∀ e ∈ cs, P e.1 ∧ e.2.CleanBut P ∧ (e.2.environment ≠ "" ∨ OptP P e.2.content) :=
  configs_confinedK (o := {}) hx hct hn hemp hnil hcut DecOk_default hsec (by rw [loadSectionK_default]; exact h)

theorem VocabOk.confined {P : String → Prop} (hv : VocabOk P) {env : Env} {pname : String} {dict : KVs}
    (hS : SectOk P (ValOkF P xValue) pname "secrets" dict)
    (hC : SectOk P (AllStr P) pname "configs" dict)
    {p : Proj} (h : load env pname dict = .ok p) :
    (∀ e ∈ p.secrets, P e.1 ∧ e.2.CleanBut P ∧ e.2.marshallContent = false) ∧
    (∀ e ∈ p.configs, P e.1 ∧ e.2.CleanBut P ∧ (e.2.environment ≠ "" ∨ OptP P e.2.content)) :=
  ⟨secrets_confined hv.ext hv.carrier hv.name hv.empty hv.nil hv.cut hS (load_ok h).1,
    configs_confined hv.ext hv.content hv.name hv.empty hv.nil hv.cut hC (load_ok h).2⟩

end CV.Secrets
