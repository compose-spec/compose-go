import ComposeVerif.Model.Fanout
import ComposeVerif.Lemmas.ListFacts
/-!
# The invariant set `Inv` of the fan-out transition system (`Model/Fanout.lean`)

with the lemmas about the point update `set` that its preservation proofs use.
-/
namespace CV.Fanout

def sentOrExited : WPc → Bool
  | .sent | .exited => true
  | _ => false

def gotBit : CPc → Nat
  | .got _ _ => 1
  | _ => 0

@[simp] theorem set_same {α : Type} (f : V → α) (v : V) (x : α) : set f v x v = x := by simp [set]
theorem set_other {α : Type} (f : V → α) {v u : V} (x : α) (h : u ≠ v) : set f v x u = f u := by simp [set, h]

theorem set_eq {α β : Type} (p : α → β) {f : V → α} {v : V} {x : α} (h : p x = p (f v)) (u : V) :
    p (set f v x u) = p (f u) := by
  by_cases e : u = v
  · rw [e, set_same, h]
  · rw [set_other _ _ e]

theorem set_iff {α : Type} {p : α → Prop} {f : V → α} {v : V} {x : α} (h : p x ↔ p (f v)) (u : V) :
    p (set f v x u) ↔ p (f u) :=
  (set_eq p (propext h) u).to_iff

theorem filter_set_gain {α : Type} (l : List V) (hn : l.Nodup) (v : V) (hv : v ∈ l) (f : V → α) (x : α) (p : α → Bool)
    (h0 : p (f v) = false) (h1 : p x = true) :
    (l.filter (fun u => p (set f v x u))).length = (l.filter (fun u => p (f u))).length + 1 := by
  obtain ⟨r, a, b⟩ := map_update_perm hn hv (f := f) (g := set f v x) fun u e => set_other f x e
  have key : ∀ g : V → α, (l.filter (fun u => p (g u))).length = ((l.map g).filter p).length := fun g => by
    rw [List.filter_map, List.length_map]; rfl
  rw [key, key, (a.filter p).length_eq, (b.filter p).length_eq, set_same, List.filter_cons_of_pos h1,
    List.filter_cons_of_neg (by simp [h0])]
  rfl

structure Inv (cfg : Cfg) (s : St) : Prop where
  wSvcs : ∀ v, s.w v ≠ .idle → v ∈ cfg.svcs
  cStart : (s.m = .read ∨ s.m = .spawnC) ↔ s.c = .notStarted
  pre : (s.m = .read ∨ s.m = .spawnC) → ∀ v, s.w v = .idle
  todo : ∀ t, s.m = .spawning t → t.Nodup ∧ ∀ v ∈ t, v ∈ cfg.svcs ∧ s.w v = .idle
  todoAll : ∀ t, s.m = .spawning t → ∀ v ∈ cfg.svcs, s.w v = .idle → v ∈ t
  waitAll : (s.m = .waiting ∨ s.m = .returned) → ∀ v ∈ cfg.svcs, s.w v ≠ .idle
  itemW : ∀ v, s.item v ≠ .none → (s.w v = .sent ∨ s.w v = .exited)
  chItem : ∀ v r, (v, r) ∈ s.ch → s.item v = .inCh ∧ cfg.fn v = some r
  chNodup : (s.ch.map Prod.fst).Nodup
  gotItem : ∀ v r, s.c = .got v r → s.item v = .got ∧ cfg.fn v = some r
  accItem : ∀ v, s.acc v ≠ none ↔ s.item v = .stored
  accFn : ∀ v r, s.acc v = some r → cfg.fn v = some r
  expectCount : s.expect + (cfg.svcs.filter (fun v => s.item v == .stored)).length = cfg.svcs.length
  chCount : s.ch.length + gotBit s.c + cfg.svcs.length
              = (cfg.svcs.filter (fun v => sentOrExited (s.w v))).length + s.expect
  cPos : (s.c = .sel ∨ ∃ v r, s.c = .got v r) → 1 ≤ s.expect
  cFin : s.c = .fin → s.expect = 0
  cDone : s.c = .done → s.cancelled = true
  cancelIff : s.cancelled = true ↔ s.firstErr ≠ none
  errFails : s.firstErr = s.fails.head?
  failsW : ∀ v, v ∈ s.fails ↔ s.w v = .failed
  failedFn : ∀ v, s.w v = .failed → cfg.fn v = none
  gone : s.c = .gone → (s.services = some s.acc ∧ s.expect = 0) ∨ (s.services = none ∧ s.cancelled = true)
  svcNone : s.c ≠ .gone → s.services = none
  ret : s.m = .returned → s.c = .gone ∧ ∀ v ∈ cfg.svcs, live (s.w v) = false
  callsNodup : s.calls.Nodup
  callsW : ∀ v, v ∈ s.calls ↔ (s.w v ≠ .idle ∧ s.w v ≠ .start)

theorem inv_init (cfg : Cfg) : Inv cfg (init cfg) := by
  constructor <;> simp [init, gotBit, sentOrExited]

/-- the witness of `Neg/C19.legacy_order_races` and of the matching example of `Props/C19.lean` -/
def emptyCfg : Cfg := { svcs := [], fn := fun _ => none }

end CV.Fanout
