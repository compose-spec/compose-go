import ComposeVerif.Spec.GenericF
import ComposeVerif.Lemmas.Decode
/-!
# The generic round trip for both renderings with leaf codecs (C09)

Three parts:
1. the induction over the type expression, `GenericF.generic_roundtrip_aux`; its struct case is `fields_roundtrip`
   (`Lemmas/Decode.lean`), fed by `plainB_field` (what `plainB` says of one field) and `stable_null_zero`;
2. `plainS`: `plainB` without the distinctness tests, equal to it on a table whose names and keys are distinct
   (`plainB_eq_plainS`) — what `Props/C09Tables.lean` evaluates;
3. `Spec/Generic.lean` (YAML, no leaves) is the case `fmt = .yaml`, `L.names = []` of `Spec/GenericF.lean`
   (`Generic.embed`), and the YAML theorem `Generic.generic_roundtrip_aux` is the corollary.
-/
namespace CV.GenericF
open CV CV.TypeDesc CV.Marshal CV.Encode CV.Decode CV.Generic

variable {env : Env} {fmt : Fmt} {L : Leaves} {lv : List String} {f : Nat} {n : String} {v : Val}

/-! `Stable` and `plainB` at a named type: one equation per way the name resolves -/

theorem stable_leaf_iff (hl : L.names.contains n = true) :
    Stable env fmt L (f + 1) (.named n) v ↔ L.depth ≤ f ∧ L.ok n v ∧ v ≠ .null := by
  simp only [Stable, hl, if_true]

theorem stable_struct_iff {s : StructDesc} (hl : L.names.contains n = false) (hs : findStruct env.structs n = some s) :
    Stable env fmt L (f + 1) (.named n) v ↔
      (custom fmt n v = none ∨ custom fmt n v = some (.inr (n, v))) ∧
      ∃ vals : FieldDesc → Val, v = .map ((s.fields.filter rendered).map fun fd => (fd.goName, vals fd)) ∧
        ∀ fd ∈ s.fields, rendered fd = true →
          (fd.yamlInline = true → vals fd = .null) ∧
          (fd.yamlInline = false → omittedF env fmt fd (vals fd) = true → vals fd = zeroVal env f fd.ty) ∧
          (fd.yamlInline = false → omittedF env fmt fd (vals fd) = false → Stable env fmt L f fd.ty (vals fd)) := by
  simp only [Stable, hl, hs, Bool.false_eq_true, if_false]

theorem stable_alias_iff {e : TyExpr} (hl : L.names.contains n = false) (hs : findStruct env.structs n = none)
    (hn : findNamed env.named n = some e) :
    Stable env fmt L (f + 1) (.named n) v ↔ Stable env fmt L f e v := by
  simp only [Stable, hl, hs, hn, Bool.false_eq_true, if_false]

theorem stable_unknown (hl : L.names.contains n = false) (hs : findStruct env.structs n = none)
    (hn : findNamed env.named n = none) : ¬ Stable env fmt L (f + 1) (.named n) v := by
  simp only [Stable, hl, hs, hn, Bool.false_eq_true, if_false, not_false_eq_true]

theorem plainB_alias {e : TyExpr} (hl : lv.contains n = false) (hs : findStruct env.structs n = none)
    (hn : findNamed env.named n = some e) :
    plainB env fmt lv (f + 1) (.named n) = (noCustom env n && plainB env fmt lv f e) := by
  simp only [plainB, hl, hs, hn, Bool.false_eq_true, if_false]

theorem noCustom_spec (h : noCustom env n = true) :
    customNames.contains n = false ∧ hasMethod env n "DecodeMapstructure" = false ∧ hasMethod env n "IsZero" = false ∧
      hasMethod env n "MarshalYAML" = false := by
  simpa only [noCustom, Bool.and_eq_true, Bool.not_eq_true', and_assoc] using h

/-- what `noCustom ∨ structOnly` is there for: the decoder reads the struct field by field -/
theorem structDecoded (h : (noCustom env n || structOnly env n) = true) :
    customDecode n = none ∧ hasMethod env n "DecodeMapstructure" = false := by
  rcases Bool.or_eq_true_iff.mp h with h | h
  · exact ⟨customDecode_none n (noCustom_spec h).1, (noCustom_spec h).2.1⟩
  · simp only [structOnly, Bool.and_eq_true, Option.isNone_iff_eq_none, Bool.not_eq_true'] at h
    exact ⟨h.1.2, h.2⟩

theorem stable_null_zero (env : Env) (fmt : Fmt) (L : Leaves) (f : Nat) (ty : TyExpr) :
    Stable env fmt L f ty .null → zeroVal env f ty = .null := by
  -- `Stable.induct` is the induction principle Lean derives from the recursion of the definition `Stable` itself
  -- (`Spec/GenericF.lean`): one case per clause, a name resolved as leaf, struct, alias or unknown in that order
  refine Stable.induct env L (motive := fun f ty _ => Stable env fmt L f ty .null → zeroVal env f ty = .null)
    (fun ty _ h => absurd h (by simp [Stable])) ?_ ?_ (fun _ _ _ _ _ => rfl) (fun _ _ _ _ _ => rfl)
    (fun _ _ _ _ _ => rfl) ?_ ?_ ?_ ?_ f ty .null
  · intro f p _ h; simp [Stable] at h
  · intro f s _ h; simp [Stable] at h
  · intro f n _ hl h; exact absurd rfl ((stable_leaf_iff hl).mp h).2.2
  · intro f n _ hl s hs _ h
    obtain ⟨_, vals, hv, _⟩ := (stable_struct_iff (Bool.eq_false_iff.2 hl) hs).mp h
    cases hv
  · intro f n _ hl hs e hn ih h
    simp only [zeroVal, hs, hn]
    exact ih ((stable_alias_iff (Bool.eq_false_iff.2 hl) hs hn).mp h)
  · intro f n _ hl hs hn h; exact absurd h (stable_unknown (Bool.eq_false_iff.2 hl) hs hn)

/-- what `plainB` says about a rendered field of a struct in scope; `keys` are the keys of the rendering -/
theorem plainB_field {env : Env} {fmt : Fmt} {lv : List String} {f : Nat} {keys : List String} {fd : FieldDesc}
    (h : (!rendered fd || (!fd.yamlSkip &&
      (if fd.yamlInline then isNull (zeroVal env f fd.ty) && (fmt == .yaml || skipOf fmt fd) && !keys.contains fd.yamlKey
       else if skipOf fmt fd then !keys.contains fd.yamlKey
       else keyOf fmt fd == fd.yamlKey && plainB env fmt lv f fd.ty))) = true) (hr : rendered fd = true) :
    fd.yamlSkip = false ∧
    (keyed fmt fd = false → fd.yamlKey ∉ keys ∧ (fd.yamlInline = true → zeroVal env f fd.ty = .null)) ∧
    (keyed fmt fd = true → fd.yamlInline = false ∧ keyOf fmt fd = fd.yamlKey ∧ plainB env fmt lv f fd.ty = true) := by
  simp only [hr, Bool.not_true, Bool.false_or, Bool.and_eq_true, Bool.not_eq_true'] at h
  obtain ⟨hsk, h⟩ := h
  refine ⟨hsk, ?_⟩
  cases hi : fd.yamlInline with
  | true =>
    simp only [hi, if_true, Bool.and_eq_true, Bool.or_eq_true, beq_iff_eq, Bool.not_eq_true', List.contains_eq_mem,
      decide_eq_false_iff_not] at h
    have hk : keyed fmt fd = false := by rcases h.1.2 with rfl | hs <;> simp [keyed, *]
    exact ⟨fun _ => ⟨h.2, fun _ => isNull_eq h.1.1⟩, fun hk' => by rw [hk] at hk'; cases hk'⟩
  | false =>
    have hk : keyed fmt fd = !skipOf fmt fd := by simp [keyed, hi]
    rw [hk]
    cases hs : skipOf fmt fd with
    | true =>
      simp only [hi, hs, Bool.false_eq_true, if_false, if_true, Bool.not_eq_true', List.contains_eq_mem,
        decide_eq_false_iff_not] at h
      exact ⟨fun _ => ⟨h, fun h' => (by cases h')⟩, fun h' => (by cases h')⟩
    | false =>
      simp only [hi, hs, Bool.false_eq_true, if_false, Bool.and_eq_true, beq_iff_eq] at h
      exact ⟨fun h' => (by cases h'), fun _ => ⟨rfl, h⟩⟩

/-- one field of a struct in scope: what `plainB_field` gives, the three clauses of `Stable` for its value `x` and the
    round trip of its type make up `FieldRT` -/
theorem fieldRT_of_plain_stable {keys : List String} {fd : FieldDesc} {x : Val}
    (hsk : fd.yamlSkip = false)
    (hunk : keyed fmt fd = false → fd.yamlKey ∉ keys ∧ (fd.yamlInline = true → zeroVal env f fd.ty = .null))
    (hkd : keyed fmt fd = true → fd.yamlInline = false ∧ keyOf fmt fd = fd.yamlKey ∧ plainB env fmt L.names f fd.ty = true)
    (hinl : fd.yamlInline = true → x = .null)
    (hzero : fd.yamlInline = false → omittedF env fmt fd x = true → x = zeroVal env f fd.ty)
    (hst : fd.yamlInline = false → omittedF env fmt fd x = false → Stable env fmt L f fd.ty x)
    (ih : plainB env fmt L.names f fd.ty = true → Stable env fmt L f fd.ty x → RT env fmt f fd.ty x) :
    FieldRT fmt (encode env fmt f) (decode env f) (zeroOf env fmt) (zeroVal env f) keys fd x := by
  have hom : ∀ hk : keyed fmt fd = true, omittedF env fmt fd x = (omitOf fmt fd && zeroOf env fmt fd.ty x) :=
    fun hk => by rw [omittedF, ((keyed_iff fmt fd).mp hk).1, Bool.false_or]
  refine ⟨hsk, hinl, fun hk => ⟨(hunk hk).1, ?_⟩, fun hk => (hkd hk).2.1,
    fun hk ho => hzero (hkd hk).1 (hom hk ▸ ho), fun hk ho => ?_⟩
  · -- not keyed: an extension map (nil, as the zero value is), or skipped by this format (so "left out")
    cases hi : fd.yamlInline with
    | true => rw [hinl hi, (hunk hk).2 hi]
    | false =>
      refine hzero hi ?_
      have : skipOf fmt fd = true := by simpa [keyed, hi] using hk
      simp [omittedF, this]
  · -- kept: the round trip of the type; a nil pointer is written `null` and read back as the zero value
    obtain ⟨hi, _, hpl⟩ := hkd hk
    have hstv := hst hi (hom hk ▸ ho)
    obtain ⟨t, he, hd, hn⟩ := ih hpl hstv
    refine ⟨t, he, ?_⟩
    by_cases hvn : x = .null
    · rw [hvn] at hstv hd ⊢
      rw [stable_null_zero env fmt L f fd.ty hstv, hd, ite_self]
    · have : isNull t = false := by cases t <;> first | rfl | exact absurd rfl (hn hvn)
      rw [this]; exact hd

/-- the induction proves `RT`, which adds "a non-nil value is not rendered as `null`" to the round trip: the pointer case
    needs it of the element, the field step to tell a kept nil from an absent key -/
theorem generic_roundtrip_aux (env : Env) (fmt : Fmt) (L : Leaves) (hL : LeafSound env fmt L) :
    ∀ (f : Nat) (ty : TyExpr) (v : Val),
    plainB env fmt L.names f ty = true → Stable env fmt L f ty v → RT env fmt f ty v := by
  refine Stable.induct env L _
    (fun ty v hp => by simp [plainB] at hp) (fun f p v _ _ => ⟨v, by simp only [encode], by simp only [decode], fun h => h⟩) (fun f s v hp => by simp [plainB] at hp)
    ?ptr ?slice ?map ?leaf ?struct ?alias ?unknown
  case ptr =>
    intro f e v ih hp hs
    simp only [plainB] at hp
    simp only [Stable] at hs
    by_cases hv : v = .null
    · subst hv
      exact ⟨.null, by simp only [encode], by simp only [decode], fun h => absurd rfl h⟩
    · obtain ⟨t, he, hd, hn⟩ := ih hp (hs.resolve_left hv)
      exact ⟨t, by rw [encode_ptr_nonnull env fmt f e v hv]; exact he,
        by rw [decode_ptr_nonnull env f e t (hn hv)]; exact hd, hn⟩
  case slice =>
    intro f e v ih hp hs
    simp only [plainB] at hp
    simp only [Stable] at hs
    obtain ⟨xs, rfl, _, hall⟩ := hs
    obtain ⟨ts, h1, h2⟩ := mapOut_roundtrip (encode env fmt f e) (decode env f e) xs
      (fun x hx => let ⟨t, he, hd, _⟩ := ih x hp (hall x hx); ⟨t, he, hd⟩)
    exact ⟨.seq ts, by simp only [encode, h1], by simp only [decode, h2], fun _ => by simp⟩
  case map =>
    intro f e v ih hp hs
    simp only [plainB] at hp
    simp only [Stable] at hs
    obtain ⟨kvs, rfl, _, hall⟩ := hs
    obtain ⟨ts, h1, h2⟩ := mapKVs_roundtrip (encode env fmt f e) (decode env f e) kvs
      (fun p hp' => let ⟨t, he, hd, _⟩ := ih p hp (hall p hp'); ⟨t, he, hd⟩)
    exact ⟨.map ts, by simp only [encode, h1], by simp only [decode, h2], fun _ => by simp⟩
  case leaf =>
    intro f n v hl _ hs
    obtain ⟨h1, h2, h3⟩ := (stable_leaf_iff hl).mp hs
    exact hL n hl f v h1 h2 h3
  case alias =>
    intro f n v hl hfs e hfn ih hp hs
    have hl := Bool.eq_false_iff.2 hl
    rw [plainB_alias hl hfs hfn, Bool.and_eq_true] at hp
    obtain ⟨hc, hdm, _⟩ := noCustom_spec hp.1
    obtain ⟨t, he, hd, hn⟩ := ih hp.2 ((stable_alias_iff hl hfs hfn).mp hs)
    exact ⟨t, by rw [encode_alias f (custom_none fmt n v hc) hfs hfn]; exact he,
      by rw [decode_alias f t (customDecode_none n hc) hdm hfs hfn]; exact hd, hn⟩
  case unknown => intro f n v hl hfs hfn _ hs; exact absurd hs (stable_unknown (Bool.eq_false_iff.2 hl) hfs hfn)
  case struct =>
    intro f n v hl s hfs ih hp hs
    have hl := Bool.eq_false_iff.2 hl
    simp only [plainB, hl, hfs, Bool.false_eq_true, if_false, Bool.and_eq_true, List.all_eq_true] at hp
    obtain ⟨⟨⟨hso, hgn⟩, hkn⟩, hflds⟩ := hp
    obtain ⟨hcust, vals, rfl, hvals⟩ := (stable_struct_iff hl hfs).mp hs
    obtain ⟨hcd, hdm⟩ := structDecoded hso
    obtain ⟨out, hout, hdec⟩ := fields_roundtrip fmt (encode env fmt f) (decode env f) (zeroOf env fmt) (zeroVal env f)
      s.fields vals ((Generic.nodupB_iff _).mp hgn) ((Generic.nodupB_iff _).mp hkn) fun fd hm hr =>
        let ⟨hsk, hunk, hkd⟩ := plainB_field (hflds fd hm) hr
        let ⟨hinl, hzero, hst⟩ := hvals fd hm hr
        fieldRT_of_plain_stable hsk hunk hkd hinl hzero hst (ih vals fd)
    exact ⟨.map out, by rw [encode_struct f hcust hfs]; exact hout, decode_struct f hcd hdm hfs hdec, fun _ => by simp⟩

theorem leaf_custom {t : Val} {d : Val → Out} (f : Nat)
    (hc : custom fmt n v = some (.inl (.ok t))) (hd : customDecode n = some d) (hdt : d t = .ok v)
    (hn : v ≠ .null → t ≠ .null) : RT env fmt (f + 1) (.named n) v :=
  ⟨t, by simp only [encode, hc], by simp only [decode, hd, hdt], hn⟩

end CV.GenericF

/-! ## 2. `plainS`

`plainB` checks at every struct it meets that the Go names and the keys of its fields are distinct: a property of the
descriptor table.  For a table that has it (decided once), `plainB` is `plainS`, which does not look at it again. -/
namespace CV.GenericF
open CV CV.TypeDesc CV.Marshal CV.Encode CV.Decode CV.Generic

def plainS (env : Env) (fmt : Fmt) (lv : List String) : Nat → TyExpr → Bool
  | 0, _ => false
  | _ + 1, .prim p => p != "any"
  | _ + 1, .other _ => false
  | f + 1, .ptr e => plainS env fmt lv f e
  | f + 1, .slice e => plainS env fmt lv f e
  | f + 1, .map e => plainS env fmt lv f e
  | f + 1, .named n =>
    if lv.contains n then true else
    match findStruct env.structs n with
    | some s =>
      (noCustom env n || structOnly env n)
      && s.fields.all fun fd => !rendered fd ||
          (!fd.yamlSkip &&
            (if fd.yamlInline then isNull (zeroVal env f fd.ty) && (fmt == .yaml || skipOf fmt fd)
                && !((s.fields.filter (keyed fmt)).map (keyOf fmt)).contains fd.yamlKey
             else if skipOf fmt fd then !((s.fields.filter (keyed fmt)).map (keyOf fmt)).contains fd.yamlKey
             else keyOf fmt fd == fd.yamlKey && plainS env fmt lv f fd.ty))
    | none => noCustom env n && match findNamed env.named n with
      | some e => plainS env fmt lv f e
      | none => false

theorem plainB_eq_plainS (env : Env) (fmt : Fmt) (lv : List String)
    (hnd : ∀ s ∈ env.structs, ((s.fields.filter rendered).map (·.goName)).Nodup ∧
      ((s.fields.filter (keyed fmt)).map (keyOf fmt)).Nodup) :
    ∀ (f : Nat) (ty : TyExpr), plainB env fmt lv f ty = plainS env fmt lv f ty := by
  intro f
  induction f with
  | zero => intro ty; rfl
  | succ f ih =>
    intro ty
    cases ty with
    | named n =>
      simp only [plainB, plainS]
      split
      · rfl
      · cases hfs : findStruct env.structs n with
        | none => simp only [ih]; cases findNamed env.named n <;> rfl
        | some s =>
          obtain ⟨h1, h2⟩ := hnd s (List.mem_of_find?_eq_some hfs)
          simp only [(Generic.nodupB_iff _).mpr h1, (Generic.nodupB_iff _).mpr h2, Bool.and_true, ih]
    | _ => simp only [plainB, plainS, ih]

end CV.GenericF

/-! ## 3. `Spec/Generic.lean` embeds into `Spec/GenericF.lean` -/

namespace CV.Generic
open CV CV.TypeDesc CV.Marshal CV.Encode CV.Decode

theorem plainB_field {env : Env} {f : Nat} {s : StructDesc} {fd : FieldDesc}
    (h : (!rendered fd || (!fd.yamlSkip && (if fd.yamlInline then isNull (zeroVal env f fd.ty)
              && !((s.fields.filter (keyed .yaml)).map (keyOf .yaml)).contains fd.yamlKey
            else plainB env f fd.ty))) = true) (hr : rendered fd = true) :
    skipOf .yaml fd = false ∧ (fd.yamlInline = false → plainB env f fd.ty = true) := by
  simp only [hr, Bool.not_true, Bool.false_or, Bool.and_eq_true, Bool.not_eq_true'] at h
  simp only [rendered, Bool.and_eq_true] at hr
  refine ⟨by simp [skipOf, hr.1, h.1], fun hi => ?_⟩
  simpa [hi] using h.2

/-- `Spec/Generic.lean` is the case `fmt = .yaml`, no leaves, of `Spec/GenericF.lean`: a plain type is plain there, and its
    stable values are stable there (the marshaller clause and `skipOf` in `omittedF` are what `plainB` rules out) -/
theorem embed (env : Env) (L : GenericF.Leaves) (hL : L.names = []) : ∀ (f : Nat) (ty : TyExpr) (v : Val),
    plainB env f ty = true →
      GenericF.plainB env .yaml L.names f ty = true ∧ (Stable env f ty v → GenericF.Stable env .yaml L f ty v) := by
  have hl : ∀ n, L.names.contains n = false := fun n => by rw [hL]; rfl
  refine Stable.induct env _ (fun ty v h => by simp [plainB] at h)
    (fun f p v h => ⟨by simpa [plainB, GenericF.plainB] using h, fun hs => by simpa [Stable, GenericF.Stable] using hs⟩)
    (fun f s v h => by simp [plainB] at h) ?ptr ?slice ?map ?struct ?alias ?unknown
  case ptr =>
    intro f e v ih hp
    simp only [plainB] at hp; simp only [Stable, GenericF.plainB, GenericF.Stable]
    exact ⟨(ih hp).1, Or.imp id (ih hp).2⟩
  case slice =>
    intro f e v ih hp
    simp only [plainB] at hp; simp only [Stable, GenericF.plainB, GenericF.Stable]
    exact ⟨(ih v hp).1, fun ⟨xs, hv, hne, hall⟩ => ⟨xs, hv, hne, fun x hx => (ih x hp).2 (hall x hx)⟩⟩
  case map =>
    intro f e v ih hp
    simp only [plainB] at hp; simp only [Stable, GenericF.plainB, GenericF.Stable]
    exact ⟨(ih ("", v) hp).1, fun ⟨kvs, hv, hne, hall⟩ => ⟨kvs, hv, hne, fun p hx => (ih p hp).2 (hall p hx)⟩⟩
  case alias =>
    intro f n v hfs e hfn ih hp
    simp only [plainB, hfs, hfn, Bool.and_eq_true] at hp
    rw [GenericF.plainB_alias (hl n) hfs hfn, hp.1, Bool.true_and, GenericF.stable_alias_iff (hl n) hfs hfn]
    simpa only [Stable, hfs, hfn] using ih hp.2
  case unknown => intro f n v hfs hfn h; simp [plainB, hfs, hfn] at h
  case struct =>
    intro f n v s hfs ih hp
    simp only [plainB, hfs, Bool.and_eq_true, List.all_eq_true] at hp
    obtain ⟨hnc, ⟨hgn, hkn⟩, hflds⟩ := hp
    have hfd : ∀ fd ∈ s.fields, rendered fd = true → skipOf .yaml fd = false ∧ (fd.yamlInline = false → plainB env f fd.ty = true) :=
      fun fd hm hr => plainB_field (hflds fd hm) hr
    constructor
    · simp only [GenericF.plainB, hl n, hfs, Bool.false_eq_true, if_false, Bool.and_eq_true, List.all_eq_true]
      refine ⟨⟨⟨by simp [hnc], hgn⟩, hkn⟩, fun fd hm => ?_⟩
      have h := hflds fd hm
      cases hr : rendered fd with
      | false => rfl
      | true =>
        obtain ⟨hsk, hpl⟩ := hfd fd hm hr
        simp only [hr, Bool.not_true, Bool.false_or, Bool.and_eq_true, Bool.not_eq_true'] at h ⊢
        refine ⟨h.1, ?_⟩
        cases hi : fd.yamlInline with
        | true => simpa [hi] using h.2
        | false => simp [hsk, keyOf, (ih (fun _ => v) fd (hpl hi)).1]
    · simp only [Stable, hfs]
      rintro ⟨vals, hv, hvals⟩
      refine (GenericF.stable_struct_iff (hl n) hfs).mpr
        ⟨Or.inl (custom_none .yaml n v (GenericF.noCustom_spec hnc).1), vals, hv, fun fd hm hr => ?_⟩
      obtain ⟨hsk, hpl⟩ := hfd fd hm hr
      obtain ⟨h1, h2, h3⟩ := hvals fd hm hr
      have hom : ∀ x, GenericF.omittedF env .yaml fd x = omittedY env fd x := fun x => by
        simp [GenericF.omittedF, omittedY, hsk, omitOf]
      exact ⟨h1, fun hi ho => h2 hi (hom _ ▸ ho), fun hi ho => (ih vals fd (hpl hi)).2 (h3 hi (hom _ ▸ ho))⟩

theorem generic_roundtrip_aux (env : Env) (f : Nat) (ty : TyExpr) (v : Val)
    (hp : plainB env f ty = true) (hs : Stable env f ty v) : GenericF.RT env .yaml f ty v :=
  let ⟨hp', hs'⟩ := embed env ⟨[], fun _ _ => False, 0⟩ rfl f ty v hp
  GenericF.generic_roundtrip_aux env .yaml _ (fun n hn => by cases hn) f ty v hp' (hs' hs)

end CV.Generic
