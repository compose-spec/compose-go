import ComposeVerif.Model.NameOptions
/-! Lemmas for option sequences with the profile options (`Model/NameOptions.lean`): `runXOpts` over an append and over
options of `Model/Name.lean` only, what `runXP` puts into `resources`, and two facts about `dropWhile` / `trimRight`
behind the `TrimSpace` theorems of `Props/C17Options.lean`. -/
namespace CV.Name
open CV

theorem runXOpts_append (w : World) (a b : List XOpt) (st : XState) :
    runXOpts w (a ++ b) st = match runXOpts w a st with
      | .ok s1 => runXOpts w b s1
      | .error e => .error e := by
  induction a generalizing st with
  | nil => rfl
  | cons x xs ih =>
    simp only [List.cons_append, runXOpts]
    cases applyX w st x with
    | ok s1 => exact ih s1
    | error e => rfl

theorem runXOpts_map_base (w : World) (l : List Opt) (o : PO) (p : Option (List Str)) :
    runXOpts w (l.map .base) (o, p) = match runOpts w l o with
      | .ok o' => .ok (o', p)
      | .error e => .error e := by
  induction l generalizing o with
  | nil => rfl
  | cons b bs ih =>
    simp only [List.map_cons, runXOpts, applyX, runOpts]
    cases applyOpt w o b with
    | ok o' => exact ih o'
    | error e => rfl

theorem runXP_resources (w : World) (x : Extras) (xs : List XOpt) (interps : List Bool) (r : LoadedX)
    (h : runXP w x xs interps = .ok r) :
    r.resources = x.resourceKeys.map fun k => (k, implicitName r.base.name k) := by
  unfold runXP at h
  split at h
  · split at h
    · cases h; rfl
    · cases h
  · cases h

theorem dropWhile_head_not (p : Char → Bool) (l : Str) (c : Char) (h : (l.dropWhile p).head? = some c) : p c = false := by
  have := List.head?_dropWhile_not p l
  rwa [h] at this

theorem trimRight_prefix (t : Str) : trimRight t ++ (t.reverse.takeWhile isSpaceGo).reverse = t := by
  unfold trimRight
  rw [← List.reverse_append, List.takeWhile_append_dropWhile, List.reverse_reverse]

end CV.Name
