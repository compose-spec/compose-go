import ComposeVerif.Model.Val
/-! Induction over documents.

The model's traversals come in threes — a function on `Val`, one on the entries of a mapping, one on the items of a
sequence — and so do the statements about them.  `Val.induct₃` proves three such statements at once from the eleven cases
of the three definitions; it is `Val.rec` with the pair case folded into the entry case.  `Val.ind` is the same induction
for a single statement about `Val`, its hypothesis given for the members of a mapping / sequence. -/
namespace CV

theorem Val.induct₃ {P : Val → Prop} {Q : List (String × Val) → Prop} {R : List Val → Prop}
    (null : P .null) (bool : ∀ b, P (.bool b)) (int : ∀ i, P (.int i)) (float : ∀ s, P (.float s))
    (str : ∀ s, P (.str s)) (seq : ∀ xs, R xs → P (.seq xs)) (map : ∀ kvs, Q kvs → P (.map kvs))
    (nil : Q []) (cons : ∀ k v r, P v → Q r → Q ((k, v) :: r))
    (nil' : R []) (cons' : ∀ v r, P v → R r → R (v :: r)) :
    (∀ v, P v) ∧ (∀ kvs, Q kvs) ∧ (∀ xs, R xs) :=
  ⟨fun v => Val.rec (motive_1 := P) (motive_2 := R) (motive_3 := Q) (motive_4 := fun kv => P kv.2)
      null bool int float str seq map nil' cons' nil (fun kv r => cons kv.1 kv.2 r) (fun _ _ h => h) v,
   fun kvs => Val.rec_2 (motive_1 := P) (motive_2 := R) (motive_3 := Q) (motive_4 := fun kv => P kv.2)
      null bool int float str seq map nil' cons' nil (fun kv r => cons kv.1 kv.2 r) (fun _ _ h => h) kvs,
   fun xs => Val.rec_1 (motive_1 := P) (motive_2 := R) (motive_3 := Q) (motive_4 := fun kv => P kv.2)
      null bool int float str seq map nil' cons' nil (fun kv r => cons kv.1 kv.2 r) (fun _ _ h => h) xs⟩

theorem Val.ind {P : Val → Prop} (map : ∀ kvs, (∀ kv ∈ kvs, P kv.2) → P (.map kvs))
    (seq : ∀ xs, (∀ x ∈ xs, P x) → P (.seq xs)) (leaf : ∀ v, (∀ m, v ≠ .map m) → (∀ l, v ≠ .seq l) → P v) (v : Val) :
    P v :=
  (Val.induct₃ (Q := fun kvs => ∀ kv ∈ kvs, P kv.2) (R := fun xs => ∀ x ∈ xs, P x)
    (leaf _ nofun nofun) (fun _ => leaf _ nofun nofun) (fun _ => leaf _ nofun nofun) (fun _ => leaf _ nofun nofun)
    (fun _ => leaf _ nofun nofun) seq map nofun
    (fun _ _ _ hv hr _ h => (List.mem_cons.mp h).elim (· ▸ hv) (hr _))
    nofun (fun _ _ hv hr _ h => (List.mem_cons.mp h).elim (· ▸ hv) (hr _))).1 v

end CV
