import ComposeVerif.Lemmas.C02Walk
import ComposeVerif.Lemmas.C11Walk
/-! `transform.SetDefaultValues` is a tree walk whose handlers are the rows of `defaultValues`.
Defines `optD`, `DRel`, which `Props/C02Stages.lean` mentions. -/
namespace CV.Det.Stage
open CV CV.Deep CV.C11
open CV.Det.Whole (EW)
open CV.Val (lookup insert keys KVs)

def optD {α : Type} : CV.C11.Out α → Option α
  | .ok a => some a
  | _ => none

theorem optD_some {α : Type} {x : CV.C11.Out α} {a : α} : optD x = some a ↔ x = .ok a := by
  cases x <;> simp [optD]

def DRel {α : Type} (R : α → α → Prop) : CV.C11.Out α → CV.C11.Out α → Prop
  | .ok a, .ok b => R a b
  | .ok _, _ => False
  | _, .ok _ => False
  | _, _ => True

theorem DRel.iff_orel {α : Type} {R : α → α → Prop} {x y : CV.C11.Out α} : DRel R x y ↔ ORel R (optD x) (optD y) := by
  cases x <;> cases y <;> exact Iff.rfl

theorem setDefaultsKVs_trav (tbl : List (List String × String)) (p : TPath) (m : KVs) :
    optD (setDefaultsKVs tbl p m) = travOpt (fun k v => optD (setDefaults tbl (p.next k) v)) m := by
  induction m with
  | nil => simp [setDefaultsKVs, travOpt, optD]
  | cons hd tl ih =>
    obtain ⟨k, v⟩ := hd
    rw [setDefaultsKVs, travOpt, ← ih]
    cases setDefaults tbl (p.next k) v <;> simp only [optD]
    cases setDefaultsKVs tbl p tl <;> rfl

theorem setDefaultsList_trav (tbl : List (List String × String)) (p : TPath) (xs : List Val) :
    optD (setDefaultsList tbl p xs) = travList (fun v => optD (setDefaults tbl (p.next "[]") v)) xs := by
  induction xs with
  | nil => simp [setDefaultsList, travList, optD]
  | cons v tl ih =>
    rw [setDefaultsList, travList, ← ih]
    cases setDefaults tbl (p.next "[]") v <;> simp only [optD]
    cases setDefaultsList tbl p tl <;> rfl

def defaultsHandler (tbl : List (List String × String)) (p : TPath) (v : Val) : Option (Option Val) :=
  (TPath.firstMatch tbl p).map (fun n => optD (applyHandler n v))

theorem setDefaults_step (tbl : List (List String × String)) (p : TPath) (v : Val) :
    optD (setDefaults tbl p v) =
      walkStep (defaultsHandler tbl) TPath.next (fun p v => optD (setDefaults tbl p v)) p v := by
  generalize hw : (fun p v => optD (setDefaults tbl p v)) = w
  unfold setDefaults
  subst hw
  simp only [walkStep, defaultsHandler]
  cases TPath.firstMatch tbl p with
  | some n => rfl
  | none =>
    cases v with
    | map kvs => simp only [Option.map_none, ← setDefaultsKVs_trav]; cases setDefaultsKVs tbl p kvs <;> rfl
    | seq xs => simp only [Option.map_none, ← setDefaultsList_trav]; cases setDefaultsList tbl p xs <;> rfl
    | _ => rfl

theorem setIfAbsent_mrel {a b : KVs} (h : MRel a b) (k : String) {v w : Val} (hv : EW v w) :
    MRel (setIfAbsent k v a) (setIfAbsent k w b) := by
  unfold setIfAbsent
  cases hl : lookup k a with
  | none => rw [h.lookup_none hl]; exact h.insert k hv
  | some x => obtain ⟨y, hy, _⟩ := h.lookup_some hl; rw [hy]; exact h

theorem fmtS_lookup {a b : KVs} (h : MRel a b) (k : String) : fmtS (lookup k a) = fmtS (lookup k b) := by
  rcases h.lookup_eq_or k with e | ⟨_, _, h1, h2⟩ | ⟨_, _, h1, h2⟩
  · rw [e]
  all_goals rw [h1, h2]; rfl

theorem deviceCount_mrel {a b : KVs} (h : MRel a b) : MRel (deviceCount a) (deviceCount b) := by
  unfold deviceCount
  cases hc : lookup "count" a with
  | some x => obtain ⟨y, hy, _⟩ := h.lookup_some hc; rw [hy]; exact h
  | none =>
    rw [h.lookup_none hc]
    cases hd : lookup "device_ids" a with
    | some x => obtain ⟨y, hy, _⟩ := h.lookup_some hd; rw [hy]; exact h
    | none => rw [h.lookup_none hd]; exact h.insert "count" (EW.refl (.str _))

theorem defaultBuildContext_ew : Resp EW optD defaultBuildContext := by
  intro v w e
  cases e.1 with
  | map h1 h2 => exact EW.map_iff.mpr (setIfAbsent_mrel (EW.map_iff.mp e) _ (EW.refl (.str _)))
  | _ => exact e

theorem defaultSecretMount_ew : Resp EW optD defaultSecretMount := by
  intro v w e
  cases e.1 with
  | map h1 h2 =>
    have hm := EW.map_iff.mp e
    simp only [defaultSecretMount, fmtS_lookup hm "source"]
    exact EW.map_iff.mpr (setIfAbsent_mrel hm _ (EW.refl (.str _)))
  | _ => trivial

theorem portDefaults_ew : Resp EW optD portDefaults := by
  intro v w e
  cases e.1 with
  | map h1 h2 =>
    exact EW.map_iff.mpr (setIfAbsent_mrel (setIfAbsent_mrel (EW.map_iff.mp e) _ (EW.refl (.str _))) _ (EW.refl (.str _)))
  | _ => exact e

theorem deviceRequestDefaults_ew : Resp EW optD deviceRequestDefaults := by
  intro v w e
  cases e.1 with
  | map h1 h2 => exact EW.map_iff.mpr (deviceCount_mrel (EW.map_iff.mp e))
  | _ => trivial

theorem applyHandler_ew (n : String) : Resp EW optD (applyHandler n) :=
  applyHandler_cases (Resp EW optD) defaultBuildContext_ew defaultSecretMount_ew portDefaults_ew deviceRequestDefaults_ew
    (fun _ _ _ _ => trivial) n

theorem setDefaults_ew (tbl : List (List String × String)) (p : TPath) {v w : Val} (h : EW v w) :
    ORel EW (optD (setDefaults tbl p v)) (optD (setDefaults tbl p w)) := by
  refine walk_rel treeRel_ew (fun _ => True) (fun _ _ _ => trivial) (fun p v _ => setDefaults_step tbl p v) ?_ h p trivial
  intro p v v' _ e
  unfold defaultsHandler
  cases TPath.firstMatch tbl p with
  | none => trivial
  | some n => exact applyHandler_ew n v v' e

theorem setDefaults_eqv (tbl : List (List String × String)) (p : TPath) {v w : Val} (h : Eqv v w) (wv : WF v) (ww : WF w) :
    DRel Eqv (setDefaults tbl p v) (setDefaults tbl p w) :=
  DRel.iff_orel.mpr ((setDefaults_ew tbl p ⟨h, wv, ww⟩).mono (fun _ _ e => e.1))

end CV.Det.Stage
