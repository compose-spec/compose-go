import ComposeVerif.Lemmas.Marshal
/-!
# `time.ParseDuration (d.String()) = d` for every int64 duration (C09), and durations spelled as segments (C03)

`fmtFrac`, one segment, one step of the segment loop; then the canonical text of `time.Duration.String` as a list of integer
segments followed by one segment with a fraction (`durBody_eq`).  The vocabulary of integer segments is C03's
(`CV.Short.Units.DurSpec` …, `Props/C03Units.lean`) and is defined here, where both topics can reach it.
-/
namespace CV.Marshal
open CV

theorem digitsVal_append_one (a : List Char) (c : Char) : digitsVal (a ++ [c]) = digitsVal a * 10 + (c.toNat - 48) := by
  simp [digitsVal, List.foldl_append]

/-- once a digit has been printed, all remaining digits are -/
theorem fracLoop_printing : ∀ (n v : Nat) (acc : List Char),
    ∃ ds : List Char, fracLoop n v true acc = ('.' :: ds ++ acc, v / 10 ^ n) ∧ ds.all isDigit = true ∧
      ds.length = n ∧ digitsVal ds = v % 10 ^ n := by
  intro n
  induction n with
  | zero => intro v acc; exact ⟨[], by simp [fracLoop], rfl, rfl, by simp [digitsVal, Nat.mod_one]⟩
  | succ n ih =>
    intro v acc
    obtain ⟨ds, h1, h2, h3, h4⟩ := ih (v / 10) (digitChar (v % 10) :: acc)
    refine ⟨ds ++ [digitChar (v % 10)], ?_, ?_, ?_, ?_⟩
    · simp only [fracLoop, Bool.true_or, if_true, h1]
      refine Prod.ext ?_ ?_
      · simp
      · simp only [Nat.div_div_eq_div_mul, Nat.pow_succ, Nat.mul_comm]
    · simp [h2, digitChar_isDigit _ (Nat.mod_lt v (by decide))]
    · simp [h3]
    · rw [digitsVal_append_one, h4, digitChar_val _ (Nat.mod_lt v (by decide))]
      rw [Nat.pow_succ, Nat.mul_comm (10 ^ n) 10, Nat.mod_mul]
      omega


/-- what `fmtFrac` prints for the low `n` digits of `v` -/
def FracOK (n v : Nat) (frac : List Char) : Prop :=
  (v % 10 ^ n = 0 ∧ frac = []) ∨
  ∃ ds : List Char, frac = '.' :: ds ∧ ds.all isDigit = true ∧ ds ≠ [] ∧ ds.length ≤ n ∧
    digitsVal ds * 10 ^ (n - ds.length) = v % 10 ^ n

theorem fracLoop_start : ∀ (n v : Nat), ∃ frac, fracLoop n v false [] = (frac, v / 10 ^ n) ∧ FracOK n v frac := by
  intro n
  induction n with
  | zero => intro v; exact ⟨[], by simp [fracLoop], Or.inl ⟨by simp [Nat.mod_one], rfl⟩⟩
  | succ n ih =>
    intro v
    have hmod : v % 10 ^ (n + 1) = v % 10 + 10 * (v / 10 % 10 ^ n) := by
      rw [Nat.pow_succ, Nat.mul_comm (10 ^ n) 10, Nat.mod_mul]
    have hdiv : v / 10 / 10 ^ n = v / 10 ^ (n + 1) := by
      simp only [Nat.div_div_eq_div_mul, Nat.pow_succ, Nat.mul_comm]
    by_cases hd : v % 10 = 0
    · obtain ⟨frac, h1, h2⟩ := ih (v / 10)
      refine ⟨frac, ?_, ?_⟩
      · simp only [fracLoop, hd, Bool.false_or, bne_self_eq_false, Bool.false_eq_true, if_false, h1, hdiv]
      · rcases h2 with ⟨hz, hf⟩ | ⟨ds, hf, hall, hne, hlen, hval⟩
        · exact Or.inl ⟨by rw [hmod, hd, hz], hf⟩
        · refine Or.inr ⟨ds, hf, hall, hne, by omega, ?_⟩
          have : n + 1 - ds.length = (n - ds.length) + 1 := by omega
          rw [this, Nat.pow_succ, hmod, hd, ← hval]
          rw [← Nat.mul_assoc, Nat.mul_comm _ 10]
          omega
    · obtain ⟨ds, h1, h2, h3, h4⟩ := fracLoop_printing n (v / 10) [digitChar (v % 10)]
      have hb : (false || v % 10 != 0) = true := by simp [hd]
      refine ⟨'.' :: (ds ++ [digitChar (v % 10)]), ?_, Or.inr ⟨ds ++ [digitChar (v % 10)], rfl, ?_, by simp, by simp [h3], ?_⟩⟩
      · simp only [fracLoop, hb, if_true, h1, hdiv]
        simp
      · simp [h2, digitChar_isDigit _ (Nat.mod_lt v (by decide))]
      · have hl : (ds ++ [digitChar (v % 10)]).length = n + 1 := by simp [h3]
        rw [hl, Nat.sub_self, Nat.pow_zero, Nat.mul_one, digitsVal_append_one, h4,
          digitChar_val _ (Nat.mod_lt v (by decide)), hmod]
        omega


/-- what follows a segment: nothing, or the first digit of the next one -/
def RestOK (rest : List Char) : Prop := rest = [] ∨ ∃ c r, rest = c :: r ∧ isDigit c = true

theorem takeWhile_unit (us rest : List Char) (hus : us.all unitChar = true) (hr : RestOK rest) :
    (us ++ rest).takeWhile unitChar = us ∧ (us ++ rest).dropWhile unitChar = rest := by
  refine Scan.span_head hus fun c hc => ?_
  rcases hr with rfl | ⟨d, r, rfl, hd⟩
  · cases hc
  · cases hc; simp [unitChar, hd]

theorem unit_head {us : List Char} (hus : us.all unitChar = true) (hune : us ≠ []) (r : List Char) :
    ∃ c t, us ++ r = c :: t ∧ isDigit c = false ∧ c ≠ '.' := by
  cases us with
  | nil => exact absurd rfl hune
  | cons c us' =>
    simp only [List.all_cons, Bool.and_eq_true, unitChar, Bool.not_eq_true', bne_iff_ne] at hus
    exact ⟨c, us' ++ r, rfl, hus.1.1, hus.1.2⟩

theorem durUnit_pos {us : List Char} {unit : Nat} (h : durUnit us = some unit) : 0 < unit := by
  unfold durUnit at h
  split at h <;> first | (cases h; decide) | cases h

/-- one segment: the digits of `w`, then `fr` — nothing, or a point and the digits `ds` —, then the unit -/
theorem parseSeg_seg (w unit : Nat) (fr ds us rest : List Char)
    (hhead : ∃ c t, fr ++ us ++ rest = c :: t ∧ isDigit c = false) (hsf : splitFrac (fr ++ us ++ rest) = (ds, us ++ rest))
    (hu : durUnit us = some unit) (hus : us.all unitChar = true) (hr : RestOK rest)
    (hf : digitsVal ds < two63 / 10)
    (hdv : digitsVal ds = 0 ∨ unit % 10 ^ ds.length = 0)
    (hv : w * unit + digitsVal ds * (unit / 10 ^ ds.length) ≤ two63) :
    parseSeg (natDigits w ++ fr ++ us ++ rest) = (.ok (w * unit + digitsVal ds * (unit / 10 ^ ds.length)), rest) := by
  obtain ⟨c, t, hct, hc⟩ := hhead
  have hcs : natDigits w ++ fr ++ us ++ rest = natDigits w ++ c :: t := by rw [← hct]; simp only [List.append_assoc]
  obtain ⟨ht, hd⟩ := takeWhile_unit us rest hus hr
  have hemp : (natDigits w).isEmpty = false := by
    obtain ⟨c', cs, h', _⟩ := natDigits_head w
    rw [h']; rfl
  have hwu : w ≤ two63 / unit := (Nat.le_div_iff_mul_le (durUnit_pos hu)).2 (Nat.le_trans (Nat.le_add_right _ _) hv)
  have h1 : ¬ (w > two63) := Nat.not_lt.mpr (Nat.le_trans hwu (Nat.div_le_self _ _))
  have h2 : ¬ (w > two63 / unit) := by omega
  have h3 : ¬ (digitsVal ds ≥ two63 / 10) := by omega
  have h4 : ¬ (digitsVal ds ≠ 0 ∧ unit % 10 ^ ds.length ≠ 0) := by omega
  have h5 : ¬ (w * unit + digitsVal ds * (unit / 10 ^ ds.length) > two63) := by omega
  unfold parseSeg
  rw [hcs]
  simp only [Scan.span_stop (natDigits_all w) hc t]
  rw [← hct]
  simp only [hsf, hemp, Bool.false_and, Bool.false_eq_true, if_false, ht, hd, hu, digitsVal_natDigits, h1, h2, h3, h4, h5]

theorem parseSeg_plain (w unit : Nat) (us rest : List Char)
    (hu : durUnit us = some unit) (hus : us.all unitChar = true) (hune : us ≠ []) (hr : RestOK rest)
    (hv : w * unit ≤ two63) :
    parseSeg (natDigits w ++ us ++ rest) = (.ok (w * unit), rest) := by
  obtain ⟨c, t, hct, hc, hcp⟩ := unit_head hus hune rest
  have hsf : splitFrac (us ++ rest) = (([] : List Char), us ++ rest) := by
    rw [hct]; unfold splitFrac; split
    · next r heq => exact absurd (List.cons.inj heq).1 hcp
    · rfl
  have := parseSeg_seg w unit [] [] us rest ⟨c, t, hct, hc⟩ hsf hu hus hr (by decide) (Or.inl rfl)
    (by simpa [digitsVal] using hv)
  simpa [digitsVal] using this

theorem fracLoop_snd (prec u : Nat) : (fracLoop prec u false []).2 = u / 10 ^ prec := by
  obtain ⟨frac, h1, _⟩ := fracLoop_start prec u
  rw [h1]

theorem parseSeg_wfrac (w prec u : Nat) (us rest : List Char)
    (hu : durUnit us = some (10 ^ prec)) (hus : us.all unitChar = true) (hune : us ≠ []) (hr : RestOK rest)
    (hprec : prec ≤ 9) (hv : w * 10 ^ prec + u % 10 ^ prec ≤ two63) :
    parseSeg (natDigits w ++ (fracLoop prec u false []).1 ++ us ++ rest) = (.ok (w * 10 ^ prec + u % 10 ^ prec), rest) := by
  obtain ⟨frac, h1, hok⟩ := fracLoop_start prec u
  have hpos : 0 < 10 ^ prec := Nat.pow_pos (by decide)
  have hp9 : 10 ^ prec ≤ 10 ^ 9 := Nat.pow_le_pow_right (by decide) hprec
  simp only [h1]
  rcases hok with ⟨hz, hf⟩ | ⟨ds, hf, hall, hne, hlen, hval⟩
  · subst hf
    have := parseSeg_plain w (10 ^ prec) us rest hu hus hune hr (by omega)
    simp only [List.append_nil]
    rw [this, hz, Nat.add_zero]
  · subst hf
    have hmodlt : u % 10 ^ prec < 10 ^ prec := Nat.mod_lt _ hpos
    have hp1 : 1 ≤ 10 ^ (prec - ds.length) := Nat.pow_pos (by decide)
    have hdv : digitsVal ds ≤ u % 10 ^ prec := by
      rw [← hval]; exact Nat.le_mul_of_pos_right _ hp1
    have hfb : digitsVal ds < two63 / 10 := by
      have : (10 : Nat) ^ 9 < two63 / 10 := by decide
      omega
    obtain ⟨c, t, hct, hc, _⟩ := unit_head hus hune rest
    have hsf : splitFrac ('.' :: ds ++ us ++ rest) = (ds, us ++ rest) := by
      simp only [List.cons_append, List.append_assoc, splitFrac, hct,
        Scan.span_stop hall hc t]
    have := parseSeg_seg w (10 ^ prec) ('.' :: ds) ds us rest ⟨'.', _, rfl, by decide⟩ hsf hu hus hr hfb
      (Or.inr (Nat.mod_eq_zero_of_dvd (Nat.pow_dvd_pow 10 hlen)))
      (by rw [Nat.pow_div hlen (by decide), hval]; exact hv)
    rw [Nat.pow_div hlen (by decide), hval] at this
    exact this

theorem parseDurSegs_step (f : Nat) (cs rest : List Char) (acc v : Nat) (hne : cs ≠ [])
    (hp : parseSeg cs = (.ok v, rest)) (hacc : acc + v ≤ two63) :
    parseDurSegs (f + 1) cs acc = parseDurSegs f rest (acc + v) := by
  cases cs with
  | nil => exact absurd rfl hne
  | cons c r =>
    have : ¬ (acc + v > two63) := by omega
    simp only [parseDurSegs, hp, this, if_false]

theorem parseDurSegs_nil (f acc : Nat) : parseDurSegs (f + 1) [] acc = .ok acc := by
  simp [parseDurSegs]

theorem restOK_natDigits (n : Nat) (r : List Char) : RestOK (natDigits n ++ r) := by
  obtain ⟨c, cs, hc, hd⟩ := natDigits_head n
  exact Or.inr ⟨c, cs ++ r, by rw [hc]; rfl, hd⟩

theorem natDigits_length_pos (n : Nat) : 0 < (natDigits n).length := by
  obtain ⟨c, cs, hc, _⟩ := natDigits_head n
  rw [hc]; simp

theorem parseDuration_text {cs : List Char} {n : Nat} (hsh : ∃ c r, cs = c :: r ∧ isDigit c = true ∧ r ≠ [])
    (hp : parseDurSegs (cs.length + 1) cs 0 = .ok n) :
    parseDuration (String.ofList ('-' :: cs)) = .ok (.int (-(n : Int))) ∧
    (n ≤ two63 - 1 → parseDuration (String.ofList cs) = .ok (.int n)) := by
  obtain ⟨c, r, rfl, hd, hr⟩ := hsh
  have hne0 : c :: r ≠ ['0'] := fun h => hr (List.cons.inj h).2
  have hsplit : splitSign (c :: r) = (false, c :: r) := by
    unfold splitSign
    split
    · next heq => rw [(List.cons.inj heq).1] at hd; cases hd
    · next heq => rw [(List.cons.inj heq).1] at hd; cases hd
    · rfl
  unfold parseDuration
  simp only [String.toList_ofList]
  refine ⟨by simp only [splitSign, hne0, if_false, List.isEmpty_cons, Bool.false_eq_true, hp, if_true], fun hle => ?_⟩
  have hle' : ¬ (n > two63 - 1) := by omega
  simp only [hsplit, hne0, if_false, List.isEmpty_cons, Bool.false_eq_true, hp, hle']

end CV.Marshal

namespace CV.Short.Units
open CV CV.Marshal

inductive DUnit where
  | ns | us | mu | ms | s | m | h
deriving DecidableEq, Repr

def DUnit.chars : DUnit → List Char
  | .ns => ['n', 's'] | .us => ['u', 's'] | .mu => ['µ', 's'] | .ms => ['m', 's'] | .s => ['s'] | .m => ['m'] | .h => ['h']

def DUnit.nanos : DUnit → Nat
  | .ns => 1 | .us => 1000 | .mu => 1000 | .ms => 1000000 | .s => 1000000000 | .m => 60000000000 | .h => 3600000000000

/-- a duration written as a sequence of integer segments, e.g. `1m30s` = [(1, m), (30, s)] -/
abbrev DurSpec := List (Nat × DUnit)

def renderDur : DurSpec → List Char
  | [] => []
  | (w, u) :: r => natDigits w ++ u.chars ++ renderDur r

/-- the long form: the number of nanoseconds -/
def totalNanos : DurSpec → Nat
  | [] => 0
  | (w, u) :: r => w * u.nanos + totalNanos r

theorem DUnit.durUnit_chars (u : DUnit) : durUnit u.chars = some u.nanos := by cases u <;> rfl
theorem DUnit.chars_unit (u : DUnit) : u.chars.all unitChar = true := by cases u <;> decide
theorem DUnit.chars_ne_nil (u : DUnit) : u.chars ≠ [] := by cases u <;> simp [DUnit.chars]
theorem DUnit.nanos_pos (u : DUnit) : 0 < u.nanos := by cases u <;> decide

theorem renderDur_length (d : DurSpec) : d.length ≤ (renderDur d).length := by
  induction d with
  | nil => simp [renderDur]
  | cons x r ih =>
    obtain ⟨w, u⟩ := x
    have := natDigits_length_pos w
    simp only [renderDur, List.length_cons, List.length_append]
    omega

theorem renderDur_shape (w : Nat) (u : DUnit) (r : DurSpec) :
    ∃ c t, renderDur ((w, u) :: r) = c :: t ∧ isDigit c = true ∧ t ≠ [] := by
  obtain ⟨c, t0, hn, hc⟩ := natDigits_head w
  refine ⟨c, t0 ++ u.chars ++ renderDur r, by simp [renderDur, hn], hc, ?_⟩
  simp [u.chars_ne_nil]

/-- plain segments in front of any text that ends or starts another segment; the fuel counts segments -/
theorem parseDurSegs_render_append : ∀ (d : DurSpec) (rest : List Char) (f acc : Nat), RestOK rest →
    acc + totalNanos d ≤ two63 →
    parseDurSegs (f + d.length) (renderDur d ++ rest) acc = parseDurSegs f rest (acc + totalNanos d)
  | [], rest, f, acc, _, _ => rfl
  | (w, u) :: r, rest, f, acc, hr, hb => by
    simp only [totalNanos] at hb
    have hpos := u.nanos_pos
    have hrest : RestOK (renderDur r ++ rest) := by
      cases r with
      | nil => exact hr
      | cons x r => simp only [renderDur, List.append_assoc]; exact restOK_natDigits _ _
    have h := parseDurSegs_step (f + r.length) _ _ acc _ (by simp [u.chars_ne_nil])
      (parseSeg_plain w u.nanos u.chars (renderDur r ++ rest) u.durUnit_chars u.chars_unit u.chars_ne_nil hrest (by omega)) (by omega)
    simp only [renderDur, List.length_cons, List.append_assoc] at h ⊢
    rw [← Nat.add_assoc, h, parseDurSegs_render_append r rest f _ hr (by omega), totalNanos, Nat.add_assoc]

theorem parseDuration_render (d : DurSpec) (hne : d ≠ []) (hb : totalNanos d < two63) :
    parseDuration (String.ofList (renderDur d)) = .ok (.int (totalNanos d)) := by
  obtain ⟨x, r, rfl⟩ := List.exists_cons_of_ne_nil hne
  refine (parseDuration_text (renderDur_shape x.1 x.2 r) ?_).2 (by omega)
  obtain ⟨f, hf⟩ : ∃ f, (renderDur (x :: r)).length + 1 = f + 1 + (x :: r).length :=
    ⟨(renderDur (x :: r)).length - (x :: r).length, by have := renderDur_length (x :: r); omega⟩
  have := parseDurSegs_render_append (x :: r) [] (f + 1) 0 (Or.inl rfl) (by omega)
  rwa [List.append_nil, parseDurSegs_nil, Nat.zero_add, ← hf] at this

end CV.Short.Units

namespace CV.Marshal
open CV CV.Short.Units

/-- the shape of the text of a duration: plain segments `d`, then one segment `w[.frac]us` in the unit `10^prec` ns -/
def DurText (u : Nat) (cs : List Char) : Prop := ∃ (d : DurSpec) (w prec : Nat) (us : List Char),
  cs = renderDur d ++ (natDigits w ++ (fracLoop prec u false []).1 ++ us) ∧
  durUnit us = some (10 ^ prec) ∧ us.all unitChar = true ∧ us ≠ [] ∧ prec ≤ 9 ∧
  totalNanos d + (w * 10 ^ prec + u % 10 ^ prec) = u

/-- **what `time.Duration.String` prints** for a magnitude `u ≠ 0`: up to two plain segments (hours, minutes), then one
    segment with the fraction `fmtFrac` prints -/
theorem durBody_eq (u : Nat) (h0 : u ≠ 0) : DurText u (durBody u) := by
  have sub : ∀ (prec : Nat) (us : List Char), durUnit us = some (10 ^ prec) → us.all unitChar = true → us ≠ [] → prec ≤ 9 →
      DurText u (natStr (fracLoop prec u false []).2 ++ (fracLoop prec u false []).1 ++ us) := fun prec us hu hus hune hp =>
    ⟨[], u / 10 ^ prec, prec, us, by rw [fracLoop_snd]; rfl, hu, hus, hune, hp, by
      rw [totalNanos, Nat.zero_add, Nat.mul_comm]; exact Nat.div_add_mod u _⟩
  unfold durBody
  rw [if_neg h0]
  by_cases h1 : u < 1000
  · rw [if_pos h1]; exact sub 0 ['n', 's'] rfl (by decide) (by simp) (by decide)
  rw [if_neg h1]
  by_cases h2 : u < 1000000
  · rw [if_pos h2]; exact sub 3 ['µ', 's'] rfl (by decide) (by simp) (by decide)
  rw [if_neg h2]
  by_cases h3 : u < 1000000000
  · rw [if_pos h3]; exact sub 6 ['m', 's'] rfl (by decide) (by simp) (by decide)
  rw [if_neg h3]
  simp only [fracLoop_snd, natStr]
  have hs := Nat.div_add_mod u (10 ^ 9)
  generalize u / 10 ^ 9 = s at hs ⊢
  have last : durUnit ['s'] = some (10 ^ 9) ∧ ['s'].all unitChar = true ∧ ['s'] ≠ [] ∧ 9 ≤ 9 := ⟨rfl, by decide, by simp, by decide⟩
  by_cases hm : s / 60 = 0
  · rw [if_pos hm]
    exact ⟨[], s % 60, 9, ['s'], rfl, last.1, last.2.1, last.2.2.1, last.2.2.2, by simp only [totalNanos]; omega⟩
  rw [if_neg hm]
  by_cases hh : s / 60 / 60 = 0
  · rw [if_pos hh]
    exact ⟨[(s / 60 % 60, .m)], s % 60, 9, ['s'], by simp only [renderDur, DUnit.chars, List.append_assoc, List.append_nil],
      last.1, last.2.1, last.2.2.1, last.2.2.2, by simp only [totalNanos, DUnit.nanos]; omega⟩
  · rw [if_neg hh]
    exact ⟨[(s / 60 / 60, .h), (s / 60 % 60, .m)], s % 60, 9, ['s'],
      by simp only [renderDur, DUnit.chars, List.append_assoc, List.append_nil],
      last.1, last.2.1, last.2.2.1, last.2.2.2, by simp only [totalNanos, DUnit.nanos]; omega⟩

/-- such a text parses to `u`: the plain segments by `parseDurSegs_render_append`, the last one, which ends the text, by
    `parseSeg_wfrac` -/
theorem DurText.parse {u : Nat} {cs : List Char} (h : DurText u cs) (hub : u ≤ two63) :
    parseDurSegs (cs.length + 1) cs 0 = .ok u := by
  obtain ⟨d, w, prec, us, rfl, hu, hus, hune, hprec, hsum⟩ := h
  have hlast := parseSeg_wfrac w prec u us [] hu hus hune (Or.inl rfl) hprec (by omega)
  rw [List.append_nil] at hlast
  -- the fuel is the length of the text: at least two more than the number of plain segments
  generalize hrest : natDigits w ++ (fracLoop prec u false []).1 ++ us = rest at hlast
  obtain ⟨f, hf⟩ : ∃ f, (renderDur d ++ rest).length + 1 = f + 2 + d.length :=
    ⟨(renderDur d ++ rest).length + 1 - 2 - d.length, by
      have := renderDur_length d; have := natDigits_length_pos w
      simp only [← hrest, List.length_append] at *; omega⟩
  rw [hf, parseDurSegs_render_append d _ (f + 2) 0 (by simp only [← hrest, List.append_assoc]; exact restOK_natDigits _ _) (by omega),
    parseDurSegs_step (f + 1) _ [] _ _ (by simp [← hrest, hune]) hlast (by omega), parseDurSegs_nil, Nat.zero_add, hsum]

/-- it starts with a digit (so it carries no sign of its own) and is longer than one character -/
theorem DurText.shape {u : Nat} {cs : List Char} (h : DurText u cs) : ∃ c r, cs = c :: r ∧ isDigit c = true ∧ r ≠ [] := by
  obtain ⟨d, w, prec, us, rfl, _, _, hune, _⟩ := h
  cases d with
  | nil =>
    obtain ⟨c, t, hn, hc⟩ := natDigits_head w
    exact ⟨c, t ++ (fracLoop prec u false []).1 ++ us, by simp [renderDur, hn], hc, by simp [hune]⟩
  | cons x r =>
    obtain ⟨c, t, hsh, hc, ht⟩ := renderDur_shape x.1 x.2 r
    exact ⟨c, t ++ _, by rw [hsh]; rfl, hc, by simp [ht]⟩

theorem durString_nonneg (n : Nat) : durString (Int.ofNat n) = String.ofList (durBody n) := by
  unfold durString
  have hneg : ¬ ((Int.ofNat n) < 0 ∧ (Int.ofNat n).natAbs ≠ 0) := fun hc => absurd hc.1 (by simp)
  rw [if_neg hneg]
  rfl

theorem durString_neg (m : Nat) : durString (Int.negSucc m) = String.ofList ('-' :: durBody (m + 1)) := by
  unfold durString
  have hneg : (Int.negSucc m) < 0 ∧ (Int.negSucc m).natAbs ≠ 0 := ⟨Int.negSucc_lt_zero m, by simp [Int.natAbs]⟩
  rw [if_pos hneg]
  rfl

/-- **durations**: `time.ParseDuration (d.String()) = d` for every `time.Duration` (all of int64) -/
theorem parseDuration_durString (d : Int) (h : -(two63 : Int) ≤ d ∧ d < (two63 : Int)) :
    parseDuration (durString d) = .ok (.int d) := by
  cases d with
  | ofNat n =>
    rw [durString_nonneg]
    by_cases hn : n = 0
    · -- `0s` is the one-segment spelling `[(0, s)]`
      subst hn
      exact parseDuration_render [(0, .s)] (by simp) (by decide)
    · have hlt : n < two63 := Int.ofNat_lt.mp h.2
      exact (parseDuration_text (durBody_eq n hn).shape ((durBody_eq n hn).parse (by omega))).2 (by omega)
  | negSucc m =>
    have hle : m + 1 ≤ two63 := by
      have := h.1
      have h2 : (Int.negSucc m) = -((m + 1 : Nat) : Int) := Int.negSucc_eq m
      omega
    have hb := durBody_eq (m + 1) (by omega)
    rw [durString_neg, (parseDuration_text hb.shape (hb.parse hle)).1]
    congr 2

end CV.Marshal
