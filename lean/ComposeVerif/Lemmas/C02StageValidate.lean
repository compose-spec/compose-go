import ComposeVerif.Lemmas.C02Walk
import ComposeVerif.Lemmas.Validate
/-!
### `validation.Validate` (the `check` walk) accepts or rejects alike whatever order Go ranges the mappings in

`check` ranges every mapping of the tree (`for k, v := range v`) and returns the first error; the checkers look at
their node through `m[k]` / `len` / a loop over the keys.  *Which* failure is reported depends on the order
(`CV.Det.Neg.Env.validate_which_error_order_dependent`), *whether* there is one does not — at every nesting level at once.
-/
namespace CV.Det.Stage
open CV CV.Deep CV.Validate
open CV.Det.Whole (EW)

theorem asBoolean_eqv {x y : Val} (h : Eqv x y) : asBoolean x = asBoolean y := by
  cases h <;> rfl

theorem run_eqv (c : Checker) {v w : Val} (h : Eqv v w) : run c v = run c w := by
  cases h with
  | map hn hv =>
    have hm : MEqv _ _ := ⟨hn, hv⟩
    refine run_map_congr c hm.isSome_eq ?_
    rcases (hm.lookups "external").none_or_some with ⟨ha, hb⟩ | ⟨x, y, ha, hb, hxy⟩
    · rw [ha, hb]
    · rw [ha, hb, Option.map_some, Option.map_some, asBoolean_eqv hxy]
  | _ => cases c <;> rfl

/-- the walk of `check` visits the same paths in a tree that differs only in the order of its mappings, and finds
equivalent nodes there: `Reaches` reads a mapping by membership -/
theorem reaches_eqv {p q : TPath} {v x : Val} (hr : Reaches p v q x) : ∀ {w}, EW v w → ∃ y, Reaches p w q y ∧ EW x y := by
  induction hr with
  | here => exact fun h => ⟨_, .here, h⟩
  | @inMap p q kvs k c x hn hk _ ih =>
    intro w h
    obtain ⟨b, rfl⟩ : ∃ b, w = .map b := by cases h.1; exact ⟨_, rfl⟩
    obtain ⟨hm, wa, wb⟩ := CV.Det.Whole.EW.map_iff.mp h
    have hl := Val.lookup_of_mem wa.1 hk
    rcases (hm.lookups k).none_or_some with ⟨ha, -⟩ | ⟨c0, c', ha, hb, hcc⟩
    · rw [hl] at ha; cases ha
    · cases hl.symm.trans ha
      obtain ⟨y, hy, e⟩ := ih ⟨hcc, wa.2 k _ ha, wb.2 k _ hb⟩
      exact ⟨y, .inMap hn (Val.mem_of_lookup hb) hy, e⟩
  | @inSeq p q xs c x hn hk _ ih =>
    intro w h
    obtain ⟨ys, rfl⟩ : ∃ ys, w = .seq ys := by cases h.1 <;> exact ⟨_, rfl⟩
    obtain ⟨c', hc', e⟩ := h.seq_mem c hk
    obtain ⟨y, hy, e'⟩ := ih e
    exact ⟨y, .inSeq hn hc' hy, e'⟩

theorem allOK_eqv {v w : Val} (h : EW v w) {p : TPath} (hv : AllOK p v) : AllOK p w := fun q y c hr hq => by
  obtain ⟨x, hx, e⟩ := reaches_eqv hr ⟨h.1.symm, h.2.2, h.2.1⟩
  rw [run_eqv c e.1, hv q x c hx hq]

theorem noOk_seq (p : TPath) : ∀ xs : List Val, ∀ o ∈ failuresSeq p xs, o ≠ .ok := fun xs o ho e =>
  let ⟨c, w, h⟩ := failuresSeq_sub p xs o ho; ok_not_mem_runL c w (e ▸ h)

theorem validate_eqv {v w : Val} (h : Eqv v w) (wv : WF v) (ww : WF w) : (validate v = .ok) ↔ (validate w = .ok) := by
  simp only [validate_ok_iff_failures, failures, failuresAt_nil_iff]
  exact ⟨allOK_eqv ⟨h, wv, ww⟩, allOK_eqv ⟨h.symm, ww, wv⟩⟩

end CV.Det.Stage
