import ComposeVerif.Lemmas.ShortStr
import ComposeVerif.Model.ShortDecode
import ComposeVerif.Lemmas.KVs
/-!
# KEY=VALUE list vs mapping (C03)

`insertEach`, the loop lemma shared by the decoders here, the transformers and the merger; the entries of the
`kv_list_eq_map_*` statements (`listEntry`, `mapEntry`, `entryValue`) with `kvOfList_entries`; `extra_hosts`: entries with
either separator (`hostEntrySep`, `HostEntryOK`, `hostsOfList_entriesSep`) and addresses bare or in brackets
(`addrSpelling`, `BareAddr`, `stripBrackets_*`).
-/
namespace CV.Short
open CV

/-- a loop that inserts one key per list item (`kvOfList`, `hostsOfList`, `networksList`, `dependsList`,
`convertIntoMapping`): on items with distinct keys, none of them in `acc`, it appends the entries in order; an instance
supplies one step of its loop (`hcons`) -/
theorem insertEach {ε β γ : Type} (f : List Val → List (String × β) → γ) (ok : List (String × β) → γ)
    (enc : ε → Val) (key : ε → String) (val : ε → β) (hnil : ∀ acc, f [] acc = ok acc) (es : List ε)
    (hcons : ∀ e ∈ es, ∀ r acc, key e ∉ acc.map Prod.fst → f (enc e :: r) acc = f r (acc ++ [(key e, val e)]))
    (acc : List (String × β)) (hnd : (es.map key).Nodup) (hdis : ∀ e ∈ es, key e ∉ acc.map Prod.fst) :
    f (es.map enc) acc = ok (acc ++ es.map fun e => (key e, val e)) := by
  induction es generalizing acc with
  | nil => simp [hnil]
  | cons e r ih =>
    simp only [List.map_cons, List.nodup_cons] at hnd
    rw [List.map_cons, hcons e (by simp) _ _ (hdis e (by simp)), ih (fun x hx => hcons x (by simp [hx])) _ hnd.2]
    · simp
    · intro x hx
      simp only [List.map_append, List.map_cons, List.map_nil, List.mem_append, List.mem_singleton, not_or]
      exact ⟨hdis x (by simp [hx]), fun h => hnd.1 (h ▸ List.mem_map_of_mem hx)⟩

theorem nodup_ofList {ε : Type} (g : ε → Str) (es : List ε) (h : (es.map g).Nodup) :
    (es.map fun e => String.ofList (g e)).Nodup := by
  have : ((es.map g).map String.ofList).Nodup :=
    List.Pairwise.map String.ofList (fun _ _ hab e => hab (String.ofList_injective e)) h
  rwa [List.map_map] at this

/-- one entry of a `KEY[=VALUE]` list; `.null` stands for the bare `KEY` -/
def listEntry (p : Str × Val) : Val :=
  match p.2 with
  | .null => .str (String.ofList p.1)
  | e => .str (String.ofList p.1 ++ "=" ++ sprint e)

/-- the same entry in the mapping form -/
def mapEntry (p : Str × Val) : String × Val := (String.ofList p.1, p.2)

def entryValue (dflt : Val) (e : Val) : Val := match e with | .null => dflt | e => .str (sprint e)

theorem sprint_str (s : String) : sprint (.str s) = s := by simp [sprint]

theorem decodeLabels_eq_decodeMapping (v : Val) : decodeLabels v = decodeMapping v := by
  cases v with
  | map m =>
    simp only [decodeLabels, decodeMapping, mappingOfMap]
    congr 2
    apply List.map_congr_left
    intro ⟨k, e⟩ _
    cases e <;> simp [labelValue, sprint_str]
  | _ => rfl

theorem listEntry_nonnull (k : Str) (e : Val) (he : e ≠ .null) :
    listEntry (k, e) = .str (String.ofList k ++ "=" ++ sprint e) := by
  cases e <;> first | exact absurd rfl he | rfl

theorem entryValue_nonnull (dflt : Val) (e : Val) (he : e ≠ .null) : entryValue dflt e = .str (sprint e) := by
  cases e <;> first | exact absurd rfl he | rfl

theorem cutStr_entry (k : Str) (e : Val) (hk : ∀ x ∈ k, x ≠ '=') :
    cutStr '=' (String.ofList k ++ "=" ++ sprint e) = some (String.ofList k, sprint e) := by
  have : (String.ofList k ++ "=" ++ sprint e).toList = k ++ '=' :: (sprint e).toList := by
    simp [String.toList_append]
  simp [cutStr, this, cutAt_append _ _ _ hk]

theorem cutStr_bare (k : Str) (hk : ∀ x ∈ k, x ≠ '=') : cutStr '=' (String.ofList k) = none := by
  simp [cutStr, cutAt_clean _ _ hk]

theorem kvOfList_entries (dflt : Val) (m : List (Str × Val)) (acc : Val.KVs)
    (hk : ∀ p ∈ m, ∀ x ∈ p.1, x ≠ '=')
    (hnd : (m.map Prod.fst).Nodup)
    (hdis : ∀ p ∈ m, String.ofList p.1 ∉ acc.map Prod.fst) :
    kvOfList dflt (m.map listEntry) acc = acc ++ m.map (fun p => (String.ofList p.1, entryValue dflt p.2)) := by
  refine insertEach (kvOfList dflt) id listEntry _ _ (fun _ => rfl) m ?_ acc (nodup_ofList _ m hnd) hdis
  intro ⟨k, e⟩ hp r acc hd
  by_cases he : e = .null
  · subst he
    simp only [show listEntry (k, Val.null) = .str (String.ofList k) from rfl, kvOfList, sprint_str, cutStr_bare k (hk _ hp),
      Val.insert_of_not_mem hd, entryValue]
  · simp only [listEntry_nonnull k e he, entryValue_nonnull dflt e he, kvOfList, sprint_str, cutStr_entry k _ (hk _ hp),
      Val.insert_of_not_mem hd]

theorem hostsAppend_absent (h : String) (ips : List Str) (acc : List (String × List Str))
    (hab : h ∉ acc.map Prod.fst) : hostsAppend h ips acc = acc ++ [(h, ips)] := by
  induction acc with
  | nil => rfl
  | cons p r ih =>
    obtain ⟨h', l⟩ := p
    simp only [List.map_cons, List.mem_cons, not_or] at hab
    simp [hostsAppend, hab.1, ih hab.2]

/-- one `host=ip1,ip2` entry of the list form -/
def hostEntry (e : Str × List Str) : Val := .str (String.ofList (e.1 ++ '=' :: joinWith ',' e.2))
/-- the same host in the mapping form: `host: [ip1, ip2]` -/
def hostMapEntry (e : Str × List Str) : String × Val := (String.ofList e.1, .seq (e.2.map fun ip => .str (String.ofList ip)))

theorem hostsOfMap_entries (es : List (Str × List Str)) :
    hostsOfMap (es.map hostMapEntry) = some (es.map fun e => (String.ofList e.1, e.2)) := by
  induction es with
  | nil => rfl
  | cons e r ih =>
    obtain ⟨h, ips⟩ := e
    simp only [List.map_cons, hostMapEntry, hostsOfMap, ih]
    simp [List.map_map, Function.comp_def, sprint_str]

/-- one entry of the list form with either separator: `host=ip1,ip2` or the legacy `host:ip1,ip2` -/
def hostEntrySep (e : Bool × Str × List Str) : Val :=
  .str (String.ofList (e.2.1 ++ (if e.1 then ':' else '=') :: joinWith ',' e.2.2))

/-- what the grammar asks of an entry: `=`-free host; with the legacy separator also a `:`-free host and `=`-free addresses -/
def HostEntryOK (e : Bool × Str × List Str) : Prop :=
  (∀ x ∈ e.2.1, x ≠ '=') ∧ e.2.2 ≠ [] ∧ (∀ ip ∈ e.2.2, ∀ ch ∈ ip, ch ≠ ',') ∧
  (e.1 = true → (∀ x ∈ e.2.1, x ≠ ':') ∧ ∀ ip ∈ e.2.2, ∀ ch ∈ ip, ch ≠ '=')

theorem hostsOfList_entriesSep (es : List (Bool × Str × List Str)) (acc : List (String × List Str))
    (hok : ∀ e ∈ es, HostEntryOK e)
    (hnd : (es.map fun e => e.2.1).Nodup)
    (hdis : ∀ e ∈ es, String.ofList e.2.1 ∉ acc.map Prod.fst) :
    hostsOfList (es.map hostEntrySep) acc = some (acc ++ es.map fun e => (String.ofList e.2.1, e.2.2)) := by
  refine insertEach hostsOfList some hostEntrySep _ _ (fun _ => rfl) es ?_ acc (nodup_ofList _ es hnd) hdis
  intro ⟨colon, h, ips⟩ he r acc hd
  obtain ⟨hk0, hne, hcomma, hleg⟩ := hok _ he
  cases colon with
  | false =>
    simp only [hostEntrySep, hostsOfList, sprint_str, String.toList_ofList, Bool.false_eq_true, if_false,
      cutAt_append _ _ _ hk0, splitOn_joinWith _ _ hne hcomma, hostsAppend_absent _ _ _ hd]
  | true =>
    obtain ⟨hcol, hipeq⟩ := hleg rfl
    have hnoeq : ∀ x ∈ h ++ ':' :: joinWith ',' ips, x ≠ '=' := by
      intro x hx
      simp only [List.mem_append, List.mem_cons] at hx
      rcases hx with hx | hx | hx
      · exact hk0 x hx
      · subst hx; decide
      · exact joinWith_forall ',' (· ≠ '=') (by decide) ips hipeq x hx
    simp only [hostEntrySep, hostsOfList, sprint_str, String.toList_ofList, if_true,
      cutAt_clean _ _ hnoeq, cutAt_append _ _ _ hcol, splitOn_joinWith _ _ hne hcomma, hostsAppend_absent _ _ _ hd]

def bracketed (ip : Str) : Str := '[' :: (ip ++ [']'])

/-- one address of an `extra_hosts` entry in one of its two spellings -/
def addrSpelling (br : Bool) (ip : Str) : Str := if br then bracketed ip else ip

theorem stripBrackets_bracketed (ip : Str) (hne : ip ≠ []) : stripBrackets (bracketed ip) = ip := by
  cases ip with
  | nil => exact absurd rfl hne
  | cons c r =>
    have hlen : 2 < byteLen ('[' :: c :: (r ++ [']'])) := by
      have := byteLen_ge_length ('[' :: c :: (r ++ [']']))
      simp only [List.length_cons, List.length_append, List.length_nil] at this
      omega
    have hl : (c :: (r ++ [']'])).getLast? = some ']' := by
      exact List.getLast?_concat (l := c :: r)
    have hd : (c :: (r ++ [']'])).dropLast = c :: r := by
      exact List.dropLast_concat (l₁ := c :: r)
    simp [stripBrackets, bracketed, hlen, hl, hd]

theorem stripBrackets_spelling (br : Bool) (ip : Str) (hne : ip ≠ []) (hbare : stripBrackets ip = ip) :
    stripBrackets (addrSpelling br ip) = ip := by
  cases br <;> simp [addrSpelling, hbare, stripBrackets_bracketed ip hne]

/-- what the theorem asks of a written address: non-empty, not itself of the form `[…]`, comma-free -/
def BareAddr (ip : Str) : Prop := ip ≠ [] ∧ stripBrackets ip = ip ∧ ∀ ch ∈ ip, ch ≠ ','

theorem bracketed_comma_free (br : Bool) (ip : Str) (h : ∀ ch ∈ ip, ch ≠ ',') : ∀ ch ∈ addrSpelling br ip, ch ≠ ',' := by
  cases br
  · simpa [addrSpelling] using h
  · intro ch hch
    simp only [addrSpelling, bracketed, if_true, List.mem_cons, List.mem_append, List.not_mem_nil, or_false] at hch
    rcases hch with rfl | hch | rfl
    · decide
    · exact h ch hch
    · decide

end CV.Short
