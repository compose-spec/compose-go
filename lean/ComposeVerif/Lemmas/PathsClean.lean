import ComposeVerif.Model.Paths
/-! Lemmas about the lexical `clean` / `join` model (C12).

`clean` runs a stack machine (`step`) over the components of a path and renders the final stack.  `Valid` is the shape
of every reachable stack; a valid stack rendered and read back is the same stack (`foldl_render`), and reading the
relative normal form of some components is reading those components (`foldl_step_renorm`).  With `cleanStack_append`
(the stack of `x/y` is the stack of `x` fed with the components of `y`) and `clean_congr` (same anchor, same stack ⇒
same result) the laws of `clean` and `join` are short rewrites.

`segs_clean` reads the shape off the rendered string: a cleaned path has no empty segment after the first (`/` alone
apart), which is why what one resolution stage writes holds no `://` for the next (`noScheme_clean` in PathsStr). -/
namespace CV.Paths

theorem splitSlash_eq : ∀ p : Str, splitSlash p = p.splitOn '/'
  | [] => rfl
  | c :: cs => by
    rw [splitSlash, splitSlash_eq cs, List.splitOn_cons_eq_if_modifyHead]
    cases hs : cs.splitOn '/' with
    | nil => exact absurd hs (List.splitOn_ne_nil '/' cs)
    | cons a t => by_cases hc : c = '/' <;> simp [hc]

theorem joinSlash_eq : ∀ l : List Str, joinSlash l = ['/'].intercalate l
  | [] => rfl
  | [a] => List.intercalate_singleton.symm
  | a :: b :: r => by rw [joinSlash, joinSlash_eq (b :: r), List.intercalate_cons_cons, List.append_assoc]; rfl

theorem splitSlash_ne_nil (p : Str) : splitSlash p ≠ [] := splitSlash_eq p ▸ List.splitOn_ne_nil '/' p

theorem splitSlash_cons_slash (p : Str) : splitSlash ('/' :: p) = [] :: splitSlash p := by
  simp [splitSlash]

theorem splitSlash_cons_ne (a : Char) (p : Str) (ha : a ≠ '/') :
    ∃ s r, splitSlash p = s :: r ∧ splitSlash (a :: p) = (a :: s) :: r := by
  cases h : splitSlash p with
  | nil => exact absurd h (splitSlash_ne_nil p)
  | cons s r => exact ⟨s, r, rfl, by simp [splitSlash, ha, h]⟩

theorem splitSlash_append (x y : Str) : splitSlash (x ++ '/' :: y) = splitSlash x ++ splitSlash y := by
  simp only [splitSlash_eq]; exact List.splitOn_append_cons_self x y

theorem splitSlash_noSlash (p : Str) : ∀ c ∈ splitSlash p, '/' ∉ c := by
  induction p with
  | nil => simp [splitSlash]
  | cons a as ih =>
    by_cases ha : a = '/'
    · subst ha
      rw [splitSlash_cons_slash]
      intro c hc
      rcases List.mem_cons.mp hc with rfl | h
      · exact List.not_mem_nil
      · exact ih c h
    · obtain ⟨s, r, h1, h2⟩ := splitSlash_cons_ne a as ha
      rw [h1] at ih
      rw [h2]
      intro c hc
      rcases List.mem_cons.mp hc with rfl | h
      · intro hm
        rcases List.mem_cons.mp hm with e | hm
        · exact ha e.symm
        · exact ih s List.mem_cons_self hm
      · exact ih c (List.mem_cons_of_mem _ h)

theorem splitSlash_noSlash_self (c : Str) (h : '/' ∉ c) : splitSlash c = [c] :=
  (splitSlash_eq c).trans (List.splitOn_eq_singleton h)

theorem splitSlash_joinSlash (l : List Str) (hne : l ≠ []) (hs : ∀ c ∈ l, '/' ∉ c) :
    splitSlash (joinSlash l) = l := by
  rw [splitSlash_eq, joinSlash_eq]; exact List.splitOn_intercalate '/' hs hne

theorem head?_joinSlash_cons (a : Str) (r : List Str) (ha : a ≠ []) : (joinSlash (a :: r)).head? = a.head? := by
  cases a with
  | nil => exact absurd rfl ha
  | cons ch t => cases r <;> rfl

theorem joinSlash_head_not_slash (l : List Str) (hne : ∀ c ∈ l, c ≠ []) (hs : ∀ c ∈ l, '/' ∉ c) :
    (joinSlash l).head? ≠ some '/' := by
  cases l with
  | nil => simp [joinSlash]
  | cons a r =>
    rw [head?_joinSlash_cons a r (hne a (by simp))]
    intro h
    exact hs a (by simp) (List.mem_of_mem_head? h)

def Norm (c : Str) : Prop := c ≠ [] ∧ c ≠ dot ∧ c ≠ dotdot

theorem step_skip (r : Bool) (s : List Str) (c : Str) (h : c = [] ∨ c = dot) : step r s c = s := by
  simp [step, h]

theorem step_norm (r : Bool) (s : List Str) (c : Str) (h : Norm c) : step r s c = c :: s := by
  obtain ⟨h1, h2, h3⟩ := h
  simp [step, h1, h2, h3]

theorem dotdot_ne_nil : dotdot ≠ ([] : Str) := by decide
theorem dotdot_ne_dot : dotdot ≠ dot := by decide

theorem step_dotdot_nil (r : Bool) : step r [] dotdot = if r then [] else [dotdot] := by
  simp [step, dotdot_ne_nil, dotdot_ne_dot]

theorem step_dotdot_cons (r : Bool) (t : Str) (s : List Str) :
    step r (t :: s) dotdot = if t = dotdot then dotdot :: t :: s else s := by
  simp [step, dotdot_ne_nil, dotdot_ne_dot]

theorem comp_cases (c : Str) : (c = [] ∨ c = dot) ∨ c = dotdot ∨ Norm c := by
  by_cases h1 : c = []
  · exact .inl (.inl h1)
  by_cases h2 : c = dot
  · exact .inl (.inr h2)
  by_cases h3 : c = dotdot
  · exact .inr (.inl h3)
  exact .inr (.inr ⟨h1, h2, h3⟩)

theorem step_mem (r : Bool) (s : List Str) (c x : Str) (hx : x ∈ step r s c) : x ∈ s ∨ x = c := by
  rcases comp_cases c with h | h | h
  · rw [step_skip r s c h] at hx; exact .inl hx
  · subst h
    cases s with
    | nil =>
      rw [step_dotdot_nil] at hx
      cases r <;> simp at hx
      exact .inr hx
    | cons t s' =>
      rw [step_dotdot_cons] at hx
      split at hx
      · rcases List.mem_cons.mp hx with rfl | hx
        · exact .inr rfl
        · exact .inl hx
      · exact .inl (List.mem_cons_of_mem _ hx)
  · rw [step_norm r s c h] at hx
    exact (List.mem_cons.mp hx).symm

theorem foldl_step_mem (r : Bool) (B : List Str) (s : List Str) (x : Str) (hx : x ∈ B.foldl (step r) s) :
    x ∈ s ∨ x ∈ B := by
  induction B generalizing s with
  | nil => exact .inl hx
  | cons c B ih =>
    rcases ih _ hx with h | h
    · rcases step_mem r s c x h with h | h
      · exact .inl h
      · exact .inr (by simp [h])
    · exact .inr (by simp [h])

/-- shape of every reachable stack (top first): normal components above a block of `..`,
the block being empty in rooted mode -/
def Valid (r : Bool) (s : List Str) : Prop :=
  ∃ (k : Nat) (ns : List Str), s = ns ++ List.replicate k dotdot ∧ (∀ c ∈ ns, Norm c) ∧ (r = true → k = 0)

theorem valid_nil (r : Bool) : Valid r [] := ⟨0, [], by simp, by simp, by simp⟩

theorem valid_mem {r : Bool} {s : List Str} (hv : Valid r s) {c : Str} (hc : c ∈ s) : Norm c ∨ c = dotdot := by
  obtain ⟨k, ns, rfl, hn, _⟩ := hv
  rcases List.mem_append.mp hc with h | h
  · exact .inl (hn c h)
  · exact .inr (List.eq_of_mem_replicate h)

theorem valid_ne_nil {r : Bool} {s : List Str} (hv : Valid r s) : ∀ c ∈ s, c ≠ [] := fun _ hc =>
  (valid_mem hv hc).elim (·.1) (· ▸ dotdot_ne_nil)

theorem valid_step (r : Bool) (s : List Str) (c : Str) (hv : Valid r s) : Valid r (step r s c) := by
  obtain ⟨k, ns, rfl, hn, hr⟩ := hv
  rcases comp_cases c with h | h | h
  · rw [step_skip r _ c h]; exact ⟨k, ns, rfl, hn, hr⟩
  · subst h
    cases ns with
    | nil =>
      cases k with
      | zero =>
        rw [List.replicate_zero, List.append_nil, step_dotdot_nil]
        cases r
        · exact ⟨1, [], rfl, by simp, by simp⟩
        · exact valid_nil true
      | succ k =>
        -- a `..` below: relative mode, the block grows
        cases r
        · rw [List.nil_append, List.replicate_succ, step_dotdot_cons, if_pos rfl]
          exact ⟨k + 2, [], rfl, by simp, by simp⟩
        · exact absurd (hr rfl) (by simp)
    | cons t ns' =>
      rw [List.cons_append, step_dotdot_cons, if_neg (hn t (by simp)).2.2]
      exact ⟨k, ns', rfl, fun c hc => hn c (by simp [hc]), hr⟩
  · rw [step_norm r _ c h]
    exact ⟨k, c :: ns, rfl, fun x hx => (List.mem_cons.mp hx).elim (· ▸ h) (hn x), hr⟩

theorem valid_foldl (r : Bool) (B : List Str) (s : List Str) (hv : Valid r s) : Valid r (B.foldl (step r) s) := by
  induction B generalizing s with
  | nil => exact hv
  | cons c B ih => exact ih _ (valid_step r s c hv)

theorem rev_ind {α : Type} {P : List α → Prop} (h0 : P []) (h1 : ∀ l a, P l → P (l ++ [a])) : ∀ l, P l := by
  intro l
  have : ∀ l' : List α, P l'.reverse := by
    intro l'
    induction l' with
    | nil => simpa using h0
    | cons a l ih => simpa using h1 _ a ih
  simpa using this l.reverse

theorem foldl_step_renorm (r : Bool) (B : List Str) (s : List Str) :
    ((B.foldl (step false) []).reverse).foldl (step r) s = B.foldl (step r) s := by
  induction B using rev_ind with
  | h0 => rfl
  | h1 B' c ih =>
    simp only [List.foldl_append, List.foldl_cons, List.foldl_nil]
    have hv : Valid false (B'.foldl (step false) []) := valid_foldl _ _ _ (valid_nil _)
    rcases comp_cases c with h | h | h
    · rw [step_skip false _ c h, step_skip r _ c h, ih]
    · subst h
      rw [← ih]
      cases hN : B'.foldl (step false) [] with
      | nil => rw [step_dotdot_nil]; rfl
      | cons t rest =>
        rw [hN] at hv
        rw [step_dotdot_cons]
        by_cases ht : t = dotdot
        · simp only [ht, if_true, List.reverse_cons, List.foldl_append, List.foldl_cons, List.foldl_nil]
        · -- a normal component on top: it is pushed, then popped again
          have htn : Norm t := (valid_mem hv List.mem_cons_self).resolve_right ht
          simp only [ht, if_false, List.reverse_cons, List.foldl_append, List.foldl_cons, List.foldl_nil]
          rw [step_norm r _ t htn, step_dotdot_cons, if_neg ht]
    · rw [step_norm false _ c h, step_norm r _ c h, ← ih]
      simp only [List.reverse_cons, List.foldl_append, List.foldl_cons, List.foldl_nil]
      rw [step_norm r _ c h]

theorem foldl_step_norms (r : Bool) (ns : List Str) (s : List Str) (hn : ∀ c ∈ ns, Norm c) :
    ns.foldl (step r) s = ns.reverse ++ s := by
  induction ns generalizing s with
  | nil => simp
  | cons c ns ih =>
    simp only [List.foldl_cons]
    rw [step_norm r s c (hn c (by simp)), ih _ (fun x hx => hn x (by simp [hx]))]
    simp

theorem foldl_step_dotdots (k j : Nat) :
    (List.replicate k dotdot).foldl (step false) (List.replicate j dotdot) = List.replicate (k + j) dotdot := by
  induction k generalizing j with
  | zero => simp
  | succ k ih =>
    have : step false (List.replicate j dotdot) dotdot = List.replicate (j + 1) dotdot := by
      cases j with
      | zero => rfl
      | succ j => rw [List.replicate_succ, step_dotdot_cons, if_pos rfl]; rfl
    rw [List.replicate_succ, List.foldl_cons, this, ih (j + 1), Nat.add_right_comm, Nat.add_assoc]

theorem foldl_step_valid (r : Bool) (s : List Str) (hv : Valid r s) : s.reverse.foldl (step r) [] = s := by
  obtain ⟨k, ns, rfl, hn, hr⟩ := hv
  have hns : ∀ c ∈ ns.reverse, Norm c := fun c hc => hn c (List.mem_reverse.mp hc)
  rw [List.reverse_append, List.reverse_replicate, List.foldl_append]
  cases r with
  | true =>
    rw [hr rfl, List.replicate_zero, List.foldl_nil, foldl_step_norms true _ [] hns, List.reverse_reverse]
  | false =>
    rw [show (List.replicate k dotdot).foldl (step false) [] = List.replicate k dotdot from foldl_step_dotdots k 0,
      foldl_step_norms false _ _ hns, List.reverse_reverse]

theorem foldl_splitSlash_render (r r' : Bool) (l s0 : List Str) (hs : ∀ c ∈ l, '/' ∉ c) :
    (splitSlash (render r l)).foldl (step r') s0 = l.foldl (step r') s0 := by
  by_cases hne : l = []
  · subst hne; cases r <;> simp [render, joinSlash, splitSlash, dot, step]
  · have hj := splitSlash_joinSlash l hne hs
    cases r
    · simp only [render, Bool.false_eq_true, if_false, hne, hj]
    · simp only [render, if_true, splitSlash_cons_slash, List.foldl_cons, step_skip r' s0 [] (.inl rfl), hj]

theorem isAbs_cons_slash (p : Str) : isAbs ('/' :: p) = true := by simp [isAbs]

theorem abs_ne_nil (w : Str) (h : isAbs w = true) : w ≠ [] := by intro e; simp [e, isAbs] at h

theorem isAbs_append (x y : Str) (hx : x ≠ []) : isAbs (x ++ y) = isAbs x := by
  cases x with
  | nil => exact absurd rfl hx
  | cons a as => simp [isAbs]

theorem cleanStack_valid (p : Str) : Valid (isAbs p) (cleanStack p) :=
  valid_foldl _ _ _ (valid_nil _)

theorem cleanStack_noSlash (p : Str) : ∀ c ∈ cleanStack p, '/' ∉ c := by
  intro c hc
  rcases foldl_step_mem _ _ _ c hc with h | h
  · simp at h
  · exact splitSlash_noSlash p c h

theorem render_ne_nil (r : Bool) (l : List Str) (hl : ∀ c ∈ l, c ≠ []) : render r l ≠ [] := by
  cases r with
  | true => simp [render]
  | false =>
    cases l with
    | nil => simp [render, dot]
    | cons a rest =>
      have ha := hl a (by simp)
      intro h
      have := head?_joinSlash_cons a rest ha
      simp only [render, Bool.false_eq_true, if_false, reduceCtorEq] at h
      rw [h] at this
      cases a with
      | nil => exact ha rfl
      | cons ch t => cases this

theorem clean_ne_nil (p : Str) : clean p ≠ [] :=
  render_ne_nil _ _ fun c hc => valid_ne_nil (cleanStack_valid p) c (List.mem_reverse.mp hc)

theorem isAbs_clean (p : Str) : isAbs (clean p) = isAbs p := by
  unfold clean render
  cases h : isAbs p with
  | true => simp [isAbs]
  | false =>
    simp only [Bool.false_eq_true, if_false]
    split
    · simp [isAbs, dot]
    · -- the first rendered component is the bottom of the stack: non-empty and slash-free
      have h1 := joinSlash_head_not_slash (cleanStack p).reverse
        (fun c hc => valid_ne_nil (cleanStack_valid p) c (List.mem_reverse.mp hc))
        (fun c hc => cleanStack_noSlash p c (List.mem_reverse.mp hc))
      simpa [isAbs] using h1

theorem foldl_render (r : Bool) (s : List Str) (hv : Valid r s) (hs : ∀ c ∈ s, '/' ∉ c) :
    (splitSlash (render r s.reverse)).foldl (step r) [] = s := by
  rw [foldl_splitSlash_render r r _ _ (fun c hc => hs c (List.mem_reverse.mp hc))]
  exact foldl_step_valid r s hv

theorem cleanStack_clean (p : Str) : cleanStack (clean p) = cleanStack p := by
  unfold cleanStack
  rw [isAbs_clean]
  exact foldl_render (isAbs p) (cleanStack p) (cleanStack_valid p) (cleanStack_noSlash p)

theorem clean_congr {p q : Str} (ha : isAbs p = isAbs q) (hs : cleanStack p = cleanStack q) : clean p = clean q := by
  unfold clean; rw [ha, hs]

theorem cleanStack_append (x y : Str) (hx : x ≠ []) :
    cleanStack (x ++ '/' :: y) = (splitSlash y).foldl (step (isAbs x)) (cleanStack x) := by
  unfold cleanStack
  rw [isAbs_append _ _ hx, splitSlash_append, List.foldl_append]

theorem isAbs_append_slash (x y z : Str) (hx : x ≠ []) : isAbs (x ++ y) = isAbs (x ++ z) := by
  rw [isAbs_append _ _ hx, isAbs_append _ _ hx]

theorem clean_idem (p : Str) : clean (clean p) = clean p :=
  clean_congr (isAbs_clean p) (cleanStack_clean p)

theorem clean_left (x c : Str) (hx : x ≠ []) : clean (clean x ++ '/' :: c) = clean (x ++ '/' :: c) := by
  have hcx := clean_ne_nil x
  refine clean_congr ?_ ?_
  · rw [isAbs_append _ _ hcx, isAbs_append _ _ hx, isAbs_clean]
  · rw [cleanStack_append _ _ hcx, cleanStack_append _ _ hx, isAbs_clean, cleanStack_clean]

theorem foldl_clean_rel (r : Bool) (s : List Str) (y : Str) (hy : isAbs y = false) :
    (splitSlash (clean y)).foldl (step r) s = (splitSlash y).foldl (step r) s := by
  have hc : clean y = render false ((splitSlash y).foldl (step false) []).reverse := by
    unfold clean cleanStack; rw [hy]
  have hns : ∀ c ∈ ((splitSlash y).foldl (step false) []).reverse, '/' ∉ c := fun c hc => by
    have := cleanStack_noSlash y c
    unfold cleanStack at this
    rw [hy] at this
    exact this (List.mem_reverse.mp hc)
  rw [hc, foldl_splitSlash_render false r _ s hns, foldl_step_renorm]

theorem clean_right (x y : Str) (hx : x ≠ []) (hy : isAbs y = false) :
    clean (x ++ '/' :: clean y) = clean (x ++ '/' :: y) :=
  clean_congr (isAbs_append_slash x _ _ hx)
    (by rw [cleanStack_append _ _ hx, cleanStack_append _ _ hx, foldl_clean_rel _ _ y hy])

theorem clean_dot_slash (x j : Str) (hx : x ≠ []) : clean (x ++ '/' :: '.' :: '/' :: j) = clean (x ++ '/' :: j) := by
  have hsp : splitSlash ('.' :: '/' :: j) = dot :: splitSlash j := splitSlash_append ['.'] j
  refine clean_congr (isAbs_append_slash x _ _ hx) ?_
  rw [cleanStack_append _ _ hx, cleanStack_append _ _ hx, hsp, List.foldl_cons, step_skip _ _ dot (.inr rfl)]

/-- the segments of a cleaned path: after the first, its (non-empty) components, or a single empty one for `/`;
a relative one has no empty segment at all -/
theorem segs_clean (p : Str) :
    ((splitSlash (clean p)).tail = [[]] ∨ ∀ c ∈ (splitSlash (clean p)).tail, c ≠ []) ∧
      (isAbs p = false → ∀ c ∈ splitSlash (clean p), c ≠ []) := by
  have hne : ∀ c ∈ (cleanStack p).reverse, c ≠ [] := fun c hc =>
    valid_ne_nil (cleanStack_valid p) c (List.mem_reverse.mp hc)
  have hs : ∀ c ∈ (cleanStack p).reverse, '/' ∉ c := fun c hc => cleanStack_noSlash p c (List.mem_reverse.mp hc)
  unfold clean render
  cases hl : (cleanStack p).reverse with
  | nil => cases isAbs p <;> simp [splitSlash, joinSlash, dot]
  | cons b l =>
    rw [hl] at hne hs
    have hj := splitSlash_joinSlash (b :: l) (by simp) hs
    cases isAbs p
    · simp only [Bool.false_eq_true, if_false, reduceCtorEq, hj, List.tail_cons]
      exact ⟨.inr fun c hc => hne c (by simp [hc]), fun _ => hne⟩
    · simp only [if_true, splitSlash_cons_slash, hj, List.tail_cons]
      exact ⟨.inr hne, nofun⟩

theorem join_of_ne (a b : Str) (ha : a ≠ []) : join a b = clean (a ++ '/' :: b) := by
  simp [join, ha]

theorem isAbs_join (a b : Str) (ha : isAbs a = true) : isAbs (join a b) = true := by
  have hne := abs_ne_nil a ha
  rw [join_of_ne a b hne, isAbs_clean, isAbs_append _ _ hne, ha]

theorem isAbs_join_rel (a b : Str) (ha : a ≠ []) (hr : isAbs a = false) : isAbs (join a b) = false := by
  rw [join_of_ne a b ha, isAbs_clean, isAbs_append _ _ ha, hr]

theorem join_ne_nil (a b : Str) (ha : a ≠ []) : join a b ≠ [] := by
  rw [join_of_ne a b ha]; exact clean_ne_nil _

theorem join_assoc (a b c : Str) (ha : a ≠ []) (hb : b ≠ []) (hbr : isAbs b = false) :
    join (join a b) c = join a (join b c) := by
  rw [join_of_ne a b ha, join_of_ne _ c (clean_ne_nil _), join_of_ne b c hb, join_of_ne a _ ha]
  rw [clean_left _ _ (by simp), clean_right _ _ ha (by rw [isAbs_append _ _ hb]; exact hbr)]
  simp [List.append_assoc]

end CV.Paths
