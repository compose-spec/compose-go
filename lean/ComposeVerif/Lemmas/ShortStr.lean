import ComposeVerif.Model.ShortStr
/-! The string helpers of the short-syntax models (C03) are tied to core's by one equation each (`splitOn_eq`, `joinWith_eq`,
`natToDec_eq`, `parseDecAux_digits`); their laws are then read off core's. -/
namespace CV.Short

theorem splitOn_eq (c : Char) : ∀ s : Str, splitOn c s = s.splitOn c
  | [] => rfl
  | x :: xs => by
    rw [splitOn, splitOn_eq c xs, List.splitOn_cons_eq_if_modifyHead]
    cases hs : xs.splitOn c with
    | nil => exact absurd hs (List.splitOn_ne_nil c xs)
    | cons a t => by_cases hx : x = c <;> simp [hx]

theorem joinWith_eq (c : Char) : ∀ l : List Str, joinWith c l = [c].intercalate l
  | [] => rfl
  | [a] => List.intercalate_singleton.symm
  | a :: b :: r => by rw [joinWith, joinWith_eq c (b :: r), List.intercalate_cons_cons, List.append_assoc]; rfl

theorem splitOn_ne_nil (c : Char) (s : Str) : splitOn c s ≠ [] := splitOn_eq c s ▸ List.splitOn_ne_nil c s

theorem splitOn_clean (c : Char) (s : Str) (h : ∀ x ∈ s, x ≠ c) : splitOn c s = [s] :=
  (splitOn_eq c s).trans (List.splitOn_eq_singleton fun hc => h c hc rfl)

theorem splitOn_append (c : Char) (a b : Str) (h : ∀ x ∈ a, x ≠ c) :
    splitOn c (a ++ c :: b) = a :: splitOn c b := by
  simp only [splitOn_eq]; exact List.splitOn_append_cons_self_of_not_mem (fun hc => h c hc rfl) b

theorem splitOn_append_sep (c : Char) (x y : Str) : splitOn c (x ++ c :: y) = splitOn c x ++ splitOn c y := by
  simp only [splitOn_eq]; exact List.splitOn_append_cons_self x y

theorem joinWith_splitOn (c : Char) (x : Str) : joinWith c (splitOn c x) = x := by
  rw [splitOn_eq, joinWith_eq]; exact List.intercalate_splitOn c

theorem splitOn_joinWith (c : Char) (l : List Str) (hne : l ≠ []) (hc : ∀ x ∈ l, ∀ ch ∈ x, ch ≠ c) :
    splitOn c (joinWith c l) = l := by
  rw [splitOn_eq, joinWith_eq]; exact List.splitOn_intercalate c (fun x hx h => hc x hx c h rfl) hne

theorem cutAt_clean (c : Char) (s : Str) (h : ∀ x ∈ s, x ≠ c) : cutAt c s = none := by
  induction s with
  | nil => rfl
  | cons x xs ih =>
    have hx : x ≠ c := h x (by simp)
    have := ih (fun y hy => h y (by simp [hy]))
    simp [cutAt, hx, this]

theorem cutAt_append (c : Char) (a b : Str) (h : ∀ x ∈ a, x ≠ c) :
    cutAt c (a ++ c :: b) = some (a, b) := by
  induction a with
  | nil => simp [cutAt]
  | cons x xs ih =>
    have hx : x ≠ c := h x (by simp)
    have := ih (fun y hy => h y (by simp [hy]))
    simp [cutAt, hx, this]

theorem contains_false_iff (s : Str) (c : Char) : s.contains c = false ↔ ∀ x ∈ s, x ≠ c := by
  rw [← Bool.not_eq_true, List.contains_iff_mem]
  exact ⟨fun h x hx e => h (e ▸ hx), fun h hc => h c hc rfl⟩

theorem joinWith_forall (c : Char) (P : Char → Prop) (hc : P c) (l : List Str) (h : ∀ x ∈ l, ∀ ch ∈ x, P ch) :
    ∀ ch ∈ joinWith c l, P ch := by
  induction l with
  | nil => simp [joinWith]
  | cons a r ih =>
    cases r with
    | nil => simpa [joinWith] using h a (by simp)
    | cons b r' =>
      intro ch hch
      simp only [joinWith, List.mem_append, List.mem_cons] at hch
      rcases hch with hch | hch | hch
      · exact h a (by simp) ch hch
      · subst hch; exact hc
      · exact ih (fun x hx => h x (by simp [hx])) ch hch

theorem byteLen_ge_length (s : Str) : s.length ≤ byteLen s := by
  induction s with
  | nil => simp [byteLen]
  | cons c r ih =>
    have : 1 ≤ c.utf8Size := Char.utf8Size_pos c
    simp only [byteLen, List.map_cons, List.sum_cons, List.length_cons] at *
    omega

theorem byteLen_append (a b : Str) : byteLen (a ++ b) = byteLen a + byteLen b := by
  simp [byteLen, List.sum_append]

theorem digitChar_mem : ∀ d : Fin 10, (digitChar d.val).isDigit = true := by decide

/-! `natToDec` is core's `Nat.toDigits 10`, and on digits `parseDecAux` is core's `Nat.ofDigitChars 10`: the round
trip is core's `Nat.ofDigitChars_ten_toDigits` -/

theorem digitChar_eq : ∀ d : Fin 10, digitChar d.val = Nat.digitChar d.val := by decide

theorem natToDec_eq (n : Nat) : natToDec n = Nat.toDigits 10 n := by
  induction n using Nat.strongRecOn with
  | _ n ih =>
    rw [natToDec, Nat.toDigits_eq_if (by decide)]
    split
    · next h => rw [digitChar_eq ⟨n, h⟩]
    · next h => rw [ih (n / 10) (by omega), digitChar_eq ⟨n % 10, Nat.mod_lt _ (by decide)⟩]

theorem parseDecAux_digits : ∀ (s : Str) (acc : Nat), (∀ x ∈ s, x.isDigit = true) →
    parseDecAux acc s = some (Nat.ofDigitChars 10 s acc)
  | [], _, _ => rfl
  | c :: r, acc, h => by
    rw [parseDecAux, if_pos (h c List.mem_cons_self), Nat.ofDigitChars_cons, Nat.mul_comm,
      parseDecAux_digits r _ fun x hx => h x (List.mem_cons_of_mem _ hx)]
    rfl

theorem natToDec_digits (n : Nat) : ∀ x ∈ natToDec n, x.isDigit = true := fun _ hx =>
  Nat.isDigit_of_mem_toDigits (by decide) (by decide) (natToDec_eq n ▸ hx)

theorem natToDec_ne_nil (n : Nat) : natToDec n ≠ [] := natToDec_eq n ▸ Nat.toDigits_ne_nil

/-- `ParseUint(FormatUint(n)) = n` -/
theorem parseDecAux_natToDec (n : Nat) : parseDecAux 0 (natToDec n) = some n := by
  rw [parseDecAux_digits _ _ (natToDec_digits n), natToDec_eq, Nat.ofDigitChars_ten_toDigits]

theorem parseDecAux_zeros (k : Nat) (s : Str) : parseDecAux 0 (List.replicate k '0' ++ s) = parseDecAux 0 s := by
  induction k with
  | zero => rfl
  | succ k ih =>
    simp only [List.replicate_succ, List.cons_append, parseDecAux]
    have : ('0' : Char).isDigit = true := by decide
    simp only [this, if_true]
    have : (0 * 10 + (('0' : Char).toNat - 48)) = 0 := by decide
    rw [this]; exact ih

end CV.Short
