import ComposeVerif.Lemmas.Pipeline
import ComposeVerif.Model.EnvLayersSites
import ComposeVerif.Lemmas.EnvLayers
import ComposeVerif.Lemmas.C11Shape
import ComposeVerif.Lemmas.SecretsLoad
/-! C16, the other call sites (`Model/EnvLayersSites.lean`).  File references renamed by `ρ`, in a world that holds at `ρ p`
    what the other held at `p`, load alike, file by file and loop by loop.  The trees of the composed pipeline read as
    C16's tokenised forms: `resolveServicesEnvironment` on the tree is `resolveSeqItem` on the elements, C11's
    `resolve(…, keepEmpty = true)` is `normalizeItem` / `normalizePair`, up to `Pipeline.load` opened at success. -/
namespace CV.EnvLayers

theorem loadThenResolve_eq_bind (cfg : LoadCfg) (penv : List (Key × Str)) (fs : FS) (svcs : List (Str × YEnv × Service)) :
    loadThenResolve cfg penv fs svcs =
      (loadProject { cfg with skipResolveEnvironment := true } penv fs svcs).bind (resolveProjectEnv penv fs cfg.discard) := by
  unfold loadThenResolve
  cases loadProject { cfg with skipResolveEnvironment := true } penv fs svcs <;> rfl

theorem loadMappingFile_reloc (ρ : Str → Str) (fs fs' : FS) (h : FS.Relocates ρ fs fs') (p format : Str) (look : Look) :
    loadMappingFile fs' (ρ p) format look = loadMappingFile fs p format look := by
  unfold loadMappingFile parseWithFormat
  rw [h.1 p, h.2]

theorem loadEnvFile_reloc (ρ : Str → Str) (fs fs' : FS) (h : FS.Relocates ρ fs fs') (f : EnvFile) (look : Look) :
    loadEnvFile fs' (f.reloc ρ) look = loadEnvFile fs f look := by
  unfold loadEnvFile EnvFile.reloc
  simp only [h.1 f.path, loadMappingFile_reloc ρ fs fs' h]

theorem loadEnvFiles_reloc (ρ : Str → Str) (fs fs' : FS) (h : FS.Relocates ρ fs fs') (penv : List (Key × Str))
    (fl : List EnvFile) (acc : List (Key × Str)) :
    loadEnvFiles penv fs' (fl.map (EnvFile.reloc ρ)) acc = loadEnvFiles penv fs fl acc := by
  rw [loadEnvFiles_eq_foldlM, loadEnvFiles_eq_foldlM]
  exact (fileStep_congr (EnvFile.reloc ρ) (fun f acc => (loadEnvFile_reloc ρ fs fs' h f _).symm) fl acc).symm

theorem loadLabelFiles_reloc (ρ : Str → Str) (fs fs' : FS) (h : FS.Relocates ρ fs fs')
    (fl : List Str) (acc : List (Key × Str)) :
    loadLabelFiles fs' (fl.map ρ) acc = loadLabelFiles fs fl acc := by
  rw [loadLabelFiles_eq, loadLabelFiles_eq, ← loadEnvFiles_reloc ρ fs fs' h, List.map_map, List.map_map]
  rfl

section Pipeline
open CV CV.Val

theorem lookup_penvOf (env : List (String × String)) (k : Str) :
    lookup k (penvOf env) = (env.lookup (String.ofList k)).map String.toList := by
  induction env with
  | nil => rfl
  | cons e r ih =>
    obtain ⟨k', b⟩ := e
    by_cases h : String.ofList k = k'
    · simp [penvOf, lookup, ← h]
    · have h' : ¬ k'.toList = k := fun e' => h (by rw [← e', String.ofList_toList])
      have hb : (String.ofList k == k') = false := by simpa using h
      simpa [penvOf, lookup, h', List.lookup_cons, hb] using ih

theorem envLookup_eq_lookup (env : List (String × String)) (s : String) : C11.envLookup env s = env.lookup s := by
  induction env with
  | nil => rfl
  | cons e r ih =>
    obtain ⟨k', b⟩ := e
    rw [C11.envLookup, List.lookup_cons, ih]
    by_cases h : s = k'
    · simp [h]
    · simp [h, beq_eq_false_iff_ne.2 h]

/-- One element of `resolveServicesEnvironment` as the composed pipeline has it (on the tree) is
    C16's `resolveSeqItem` on the tokenised element: the *whole text* is looked up. -/
theorem pipeline_item (env : List (String × String)) (it : Item) :
    Pipeline.resolveEnvItem env it.val = some (resolveSeqItem (penvOf env) it).val := by
  unfold Pipeline.resolveEnvItem Item.val resolveSeqItem
  rw [lookup_penvOf]
  cases hf : List.lookup (String.ofList it.text) env with
  | none => simp only [hf, Option.map_none]
  | some found =>
    simp only [hf, Option.map_some, Option.some.injEq, Val.str.injEq]
    apply String.toList_inj.1
    cases it <;> simp [Item.text]

theorem filterMap_items (env : List (String × String)) (items : List Item) :
    (items.map Item.val).filterMap (Pipeline.resolveEnvItem env) = (items.map (resolveSeqItem (penvOf env))).map Item.val := by
  induction items with
  | nil => rfl
  | cons it t ih => simp only [List.map_cons, List.filterMap_cons, pipeline_item, ih]

theorem pipeline_service_env (env : List (String × String)) (cfg : KVs) (items : List Item)
    (h : Val.lookup "environment" cfg = some (seqVal items)) :
    Pipeline.resolveServiceEnv env (.map cfg) =
      .map (Val.insert "environment" (seqVal (items.map (resolveSeqItem (penvOf env)))) cfg) := by
  unfold Pipeline.resolveServiceEnv
  simp only [h, seqVal, filterMap_items]

theorem lookup_services_resolveEnvironment (env : List (String × String)) (dict svcs : KVs)
    (hs : Val.lookup "services" dict = some (.map svcs)) :
    Val.lookup "services" (Pipeline.resolveEnvironment env dict) =
      some (.map (svcs.map fun kv => (kv.1, Pipeline.resolveServiceEnv env kv.2))) := by
  unfold Pipeline.resolveEnvironment Secrets.resolveConfigsEnv Secrets.resolveSecretsEnv
  rw [Secrets.lookup_resolveSection_ne (by simp), Secrets.lookup_resolveSection_ne (by simp)]
  unfold Pipeline.resolveServicesEnv
  simp only [hs]
  exact Val.lookup_insert_self _ _ _

theorem pipeline_resolveEnvironment_service (env : List (String × String)) (dict svcs cfg : KVs) (items : List Item)
    (n : String) (hs : Val.lookup "services" dict = some (.map svcs)) (hn : Val.lookup n svcs = some (.map cfg))
    (he : Val.lookup "environment" cfg = some (seqVal items)) :
    ∃ svcs', Val.lookup "services" (Pipeline.resolveEnvironment env dict) = some (.map svcs') ∧
      Val.lookup n svcs' = some (.map (Val.insert "environment" (seqVal (items.map (resolveSeqItem (penvOf env)))) cfg)) :=
  ⟨_, lookup_services_resolveEnvironment env dict svcs hs, by
    rw [Val.lookup_map_val (fun _ => Pipeline.resolveServiceEnv env), hn, Option.map_some,
      pipeline_service_env env cfg items he]⟩

/-- `resolveServicesEnvironment` leaves a mapping-form `environment` alone (`serviceConfig["environment"].([]any)` fails) -/
theorem pipeline_resolveEnvironment_service_map (env : List (String × String)) (dict svcs cfg m : KVs)
    (n : String) (hs : Val.lookup "services" dict = some (.map svcs)) (hn : Val.lookup n svcs = some (.map cfg))
    (he : Val.lookup "environment" cfg = some (.map m)) :
    ∃ svcs', Val.lookup "services" (Pipeline.resolveEnvironment env dict) = some (.map svcs') ∧
      Val.lookup n svcs' = some (.map cfg) :=
  ⟨_, lookup_services_resolveEnvironment env dict svcs hs, by
    rw [Val.lookup_map_val (fun _ => Pipeline.resolveServiceEnv env), hn, Option.map_some]
    simp only [Pipeline.resolveServiceEnv, he]⟩

/-- `load` at success is `finishLoad` (name, `Normalize`) of `ResolveEnvironment` of some model `dict`; the proof takes the
    one that left the path stage (`Pipeline.model_ok`) -/
theorem load_ok_env (c : Pipeline.Cfg) (docs : List KVs) (out : KVs) (h : Pipeline.load c docs = .ok out) :
    ∃ dict, Pipeline.finishLoad c (Pipeline.resolveEnvironment c.env dict) = .ok out := by
  obtain ⟨m, hm, hfin⟩ := Pipeline.load_ok c docs out h
  obtain ⟨_, _, _, dict, _, _, _, _, rfl⟩ := Pipeline.model_ok hm
  exact ⟨dict, hfin⟩

/-- `Normalize`'s `resolve(e, fn, keepEmpty = true)` on one element of the sequence form, as C11's
    model (the stage inside `Pipeline.load`) has it on the tree, is C16's `normalizeItem` — for elements tokenised at
    their first `=` (the key contains none). -/
theorem normalize_item (env : List (String × String)) (it : Item) (hk : '=' ∉ it.key) :
    C11.resolveStr env true (String.ofList it.text) = ((normalizeItem (penvOf env) it).val, true) := by
  unfold C11.resolveStr C11.containsChar
  cases it with
  | kv k v => simp [Item.text, normalizeItem, Item.val]
  | bare k =>
    have hc : (String.ofList k).toList.contains '=' = false := by
      simpa [Item.key] using hk
    simp only [hc, Bool.false_eq_true, if_false, Item.text, normalizeItem, lookup_penvOf, envLookup_eq_lookup]
    cases hf : List.lookup (String.ofList k) env with
    | none => simp [Item.val, Item.text]
    | some found =>
      simp only [Option.map_some, Item.val, Item.text, Prod.mk.injEq, Val.str.injEq, and_true]
      apply String.toList_inj.1
      simp

theorem normalize_items (env : List (String × String)) (items : List Item) (hk : ∀ it ∈ items, '=' ∉ it.key) :
    C11.resolveList env true (items.map Item.val) = (items.map (normalizeItem (penvOf env))).map Item.val := by
  induction items with
  | nil => simp [C11.resolveList]
  | cons it t ih =>
    have h1 := normalize_item env it (hk it (by simp))
    simp only [List.map_cons, C11.resolveList, Item.val, C11.resolve] at h1 ⊢
    rw [h1]
    simp only [List.cons.injEq, true_and]
    exact ih fun i hi => hk i (by simp [hi])

theorem normalize_pairs_tree (env : List (String × String)) (kvs : List (Key × Option Str)) :
    C11.resolveKVs env true (mapVal kvs) = mapVal (kvs.map (normalizePair (penvOf env))) := by
  induction kvs with
  | nil => rfl
  | cons kv t ih =>
    obtain ⟨k, v⟩ := kv
    cases v with
    | some x => simp only [mapVal, List.map_cons, C11.resolveKVs, normalizePair] at ih ⊢; rw [ih]
    | none =>
      simp only [mapVal, List.map_cons, C11.resolveKVs, normalizePair, lookup_penvOf, envLookup_eq_lookup] at ih ⊢
      cases hf : List.lookup (String.ofList k) env with
      | none => simp only [Option.map_none, if_true]; rw [ih]
      | some found => simp only [Option.map_some, String.ofList_toList]; rw [ih]

theorem resolveSeqItem_key (penv : List (Key × Str)) (it : Item) : (resolveSeqItem penv it).key = it.key := by
  unfold resolveSeqItem
  cases lookup it.text penv <;> cases it <;> rfl

/-- The two stages of `Pipeline.load` that touch a sequence-form `environment` —
    `ResolveEnvironment` at the end of `loadYamlModel`, then `Normalize`'s `resolve(…, keepEmpty = true)` — composed on the
    tree are C16's `normalizeEnv ∘ resolveSeqEnv` (what `loadedEnv` decodes), element by element and in order. -/
theorem pipeline_two_stages_seq (env : List (String × String)) (items : List Item) (hk : ∀ it ∈ items, '=' ∉ it.key) :
    (C11.resolve env true (seqVal (items.map (resolveSeqItem (penvOf env))))).1 =
      seqVal ((items.map (resolveSeqItem (penvOf env))).map (normalizeItem (penvOf env))) := by
  simp only [seqVal, C11.resolve]
  rw [normalize_items]
  intro it hit
  obtain ⟨i0, hi0, rfl⟩ := List.mem_map.1 hit
  rw [resolveSeqItem_key]
  exact hk i0 hi0

/-- … and on the mapping form (which `ResolveEnvironment` leaves alone) `Normalize` is
    C16's `normalizePair` on every entry: `k:` (null) takes the project environment's value, else stays null. -/
theorem pipeline_normalize_map (env : List (String × String)) (kvs : List (Key × Option Str)) :
    (C11.resolve env true (.map (mapVal kvs))).1 = .map (mapVal (kvs.map (normalizePair (penvOf env)))) := by
  simp only [C11.resolve]
  rw [normalize_pairs_tree]

/-- What `Normalize` (C11's model, the last stage of `Pipeline.load`) does to the `environment`
    of service `n`: exactly `resolve(e, fn, keepEmpty = true)`; the network / depends_on / name parts leave it alone. -/
theorem normalize_env_clause (clean : String → String) (env : C11.Env) (d d' svcs cfg : KVs) (n : String) (e : Val)
    (h : C11.normalize clean env d = .ok d') (hs : Val.lookup "services" d = some (.map svcs))
    (hn : Val.lookup n svcs = some (.map cfg)) (he : Val.lookup "environment" cfg = some e) :
    ∃ svcs' cfg', Val.lookup "services" d' = some (.map svcs') ∧ Val.lookup n svcs' = some (.map cfg') ∧
      Val.lookup "environment" cfg' = some (C11.resolve env true e).1 := by
  cases (C11.normalize_ok_pure h).2
  refine ⟨_, C11.normService clean env (C11.nnService cfg), C11.lookup_services_normalizePure clean env hs, ?_, ?_⟩
  · rw [C11.lookup_mapVals, C11.lookup_mapVals, hn]
    rfl
  · rw [C11.lookup_normService_attr clean env (by simp), C11.lookup_nnService_ne (by simp), he, Option.map_some,
      C11.svcAttr_environment]

theorem load_env_normalized (c : Pipeline.Cfg) (dict out svcs cfg : KVs) (n : String) (e : Val)
    (hnorm : c.opts.skipNormalization = false)
    (hfin : Pipeline.finishLoad c (Pipeline.resolveEnvironment c.env dict) = .ok out)
    (hs : Val.lookup "services" (Pipeline.resolveEnvironment c.env dict) = some (.map svcs))
    (hn : Val.lookup n svcs = some (.map cfg)) (he : Val.lookup "environment" cfg = some e) :
    ∃ svcs' cfg', Val.lookup "services" out = some (.map svcs') ∧ Val.lookup n svcs' = some (.map cfg') ∧
      Val.lookup "environment" cfg' = some (C11.resolve c.env true e).1 := by
  have hN := (Pipeline.finishLoad_ok c _ out hfin).2
  rw [if_neg (by simp [hnorm])] at hN
  exact normalize_env_clause c.clean c.env _ out svcs cfg n e hN ((Val.lookup_insert_ne (by simp) _ _).trans hs) hn he

end Pipeline

end CV.EnvLayers
