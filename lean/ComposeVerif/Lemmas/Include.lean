import ComposeVerif.Model.Include
import ComposeVerif.Lemmas.KVs
import ComposeVerif.Lemmas.ValInd
import ComposeVerif.Lemmas.FuelLe
/-! Tools of the C06 theorems: the include environment as a Go map of `Lemmas/Assoc.lean`; `veq` decides equality;
association-list lookups; `Out.bind`; the order `OkLe` on outcomes (with `LoadLe` on sub-loads, `World.withLoad`); `NoPanic`. -/
namespace CV.Include
open CV CV.Val

theorem Env.get_eq (m : Env) (x : String) : Env.get m x = Assoc.lookup x m := by
  induction m with
  | nil => rfl
  | cons e r ih => rw [Env.get, ih]; rfl

theorem envSet_eq (k v : String) (m : Env) : envSet k v m = Assoc.insert k v m := by
  induction m with
  | nil => rfl
  | cons e r ih => rw [envSet, ih]; rfl

theorem veq_iff₃ : (∀ (a b : Val), veq a b = true ↔ a = b) ∧ (∀ (a b : List (String × Val)), veqM a b = true ↔ a = b) ∧
    (∀ (a b : List Val), veqL a b = true ↔ a = b) := by
  apply Val.induct₃
  case null => intro b; cases b <;> simp [veq]
  case bool | int | float | str => intro x b; cases b <;> simp [veq]
  case seq | map => intro x ih b; cases b <;> simp [veq, ih]
  case nil | nil' => intro b; cases b <;> simp [veqL, veqM]
  case cons =>
    intro k x xs ihx ihxs b
    match b with
    | [] => simp [veqM]
    | (k', y) :: ys => simp [veqM, ihx, ihxs, and_assoc]
  case cons' =>
    intro x xs ihx ihxs b
    cases b <;> simp [veqL, ihx, ihxs]

theorem veq_iff (a b : Val) : veq a b = true ↔ a = b := veq_iff₃.1 a b

theorem veq_eq : ∀ (a b : Val), veq a b = true → a = b := fun a b => (veq_iff a b).mp
theorem veqL_eq : ∀ (a b : List Val), veqL a b = true → a = b := fun a b => (veq_iff₃.2.2 a b).mp
theorem veqM_eq : ∀ (a b : List (String × Val)), veqM a b = true → a = b := fun a b => (veq_iff₃.2.1 a b).mp

theorem veq_refl : ∀ (a : Val), veq a a = true := fun a => (veq_iff a a).mpr rfl
theorem veqL_refl : ∀ (a : List Val), veqL a a = true := fun a => (veq_iff₃.2.2 a a).mpr rfl
theorem veqM_refl : ∀ (a : List (String × Val)), veqM a a = true := fun a => (veq_iff₃.2.1 a a).mpr rfl

theorem veq_false_iff (a b : Val) : veq a b = false ↔ a ≠ b := by
  rw [← Bool.not_eq_true, veq_iff]

theorem lookup_append_single_ne {n k : String} {v : Val} (m : KVs) (h : n ≠ k) :
    lookup n (m ++ [(k, v)]) = lookup n m := by
  rw [Val.lookup_append, Val.lookup_cons_ne h]
  cases lookup n m <;> rfl

theorem lookup_append_single_some {n k : String} {v c : Val} (m : KVs) (h : lookup n m = some c) :
    lookup n (m ++ [(k, v)]) = some c :=
  Val.lookup_append_left _ h

theorem mem_of_lookup {n : String} {a : Val} : ∀ (m : KVs), lookup n m = some a → (n, a) ∈ m :=
  fun _ h => Val.mem_of_lookup h

theorem lookup_insert_self (k : String) (v : Val) : ∀ (m : KVs), lookup k (Val.insert k v m) = some v :=
  Val.lookup_insert_self k v

theorem lookup_insert_ne {k k' : String} (v : Val) (h : k' ≠ k) : ∀ (m : KVs), lookup k' (Val.insert k v m) = lookup k' m :=
  Val.lookup_insert_ne h v

theorem importEntries_single (s : Val → Val → Bool) (n : String) (a c : Val) :
    importEntries s [(n, a)] [(n, c)] = if s a c then .ok [(n, c)] else .err "conflict" := by
  simp only [importEntries, lookup, if_true]

@[simp] theorem bind_ok {α β} (a : α) (f : α → Out β) : (Out.ok a).bind f = f a := rfl
@[simp] theorem bind_err {α β} (e : String) (f : α → Out β) : (Out.err e : Out α).bind f = .err e := rfl
@[simp] theorem bind_panic {α β} (s : String) (f : α → Out β) : (Out.panic s : Out α).bind f = .panic s := rfl

theorem bind_eq_ok {α β} {x : Out α} {f : α → Out β} {b : β} (h : x.bind f = .ok b) :
    ∃ a, x = .ok a ∧ f a = .ok b := by
  cases x with
  | ok a => exact ⟨a, rfl, h⟩
  | err e => cases h
  | panic s => cases h

theorem bind_ok_eq_err {α β} {x : Out α} {g : α → β} {e : String} :
    (x.bind fun a => .ok (g a)) = .err e ↔ x = .err e := by
  cases x <;> simp [Out.bind]

/-- `y` answers whatever `x` answers: `Fuel.Le` with every outcome but an answer counted as out of fuel (what a
sub-load that ran out of fuel becomes further up is some error).  A run is built from `bind`s, and `bind` is monotone for
this order (`OkLe.bind`): that a run answers at least as much as another is shown along the shape of its definition -/
abbrev OkLe {α} (x y : Out α) : Prop := Fuel.Le (fun o => ∀ r, o ≠ .ok r) x y

theorem OkLe.ok {α} {x y : Out α} {r : α} (h : OkLe x y) (hx : x = .ok r) : y = .ok r :=
  (h fun hb => hb r hx).trans hx

theorem OkLe.bind {α β} {x y : Out α} {f g : α → Out β} (hx : OkLe x y) (hf : ∀ a, OkLe (f a) (g a)) :
    OkLe (x.bind f) (y.bind g) := fun h => by
  cases x with
  | ok a => rw [hx fun hb => hb a rfl]; exact hf a h
  | err e => exact absurd nofun h
  | panic s => exact absurd nofun h

abbrev LoadFn := String → String → List String → Env → List String → Out KVs

def LoadLe (lm lm' : LoadFn) : Prop := ∀ a b c d e, OkLe (lm a b c d e) (lm' a b c d e)

def World.withLoad (W : World) (lm : LoadFn) : World :=
  { W with loadModel := lm }

def NoPanic {α} (x : Out α) : Prop := ∀ site, x ≠ .panic site

theorem noPanic_ok {α} (a : α) : NoPanic (Out.ok a) := fun _ h => by cases h
theorem noPanic_err {α} (e : String) : NoPanic (Out.err e : Out α) := fun _ h => by cases h

theorem noPanic_bind {α β} {x : Out α} {f : α → Out β} (hx : NoPanic x) (hf : ∀ a, NoPanic (f a)) :
    NoPanic (x.bind f) := by
  cases x with
  | ok a => exact hf a
  | err e => exact noPanic_err e
  | panic site => exact absurd rfl (hx site)

end CV.Include
