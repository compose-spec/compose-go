import ComposeVerif.Lemmas.MapOrderAssoc
import ComposeVerif.Lemmas.Merge
import ComposeVerif.Lemmas.ValInd
/-!
Trees up to the order of mapping entries.  `Eqv` relates two trees that differ only in the order of the entries of their
mappings, at any depth (sequences keep their order); `WF` says that every mapping has distinct keys (what a Go
`map[string]any` has by construction).  `EW` is both together — *two spellings of one tree* — and is the relation every
stage of the loader is shown to respect; `MEqv`, `MWF`, `MRel` are the same three notions for the entries of one mapping.
A mapping is looked at through `lookup` only: `MEqv a b ↔ ∀ k, ORel Eqv (lookup k a) (lookup k b)`.
-/
namespace CV.Det.Stage

def ORel {α : Type} (R : α → α → Prop) : Option α → Option α → Prop
  | some a, some b => R a b
  | none, none => True
  | _, _ => False

theorem ORel.isSome {α : Type} {R : α → α → Prop} {x y : Option α} (h : ORel R x y) : x.isSome = y.isSome := by
  cases x <;> cases y <;> simp only [ORel] at h <;> first | rfl | exact h.elim

theorem ORel.map {α β : Type} {R : α → α → Prop} {S : β → β → Prop} {x y : Option α} {f g : α → β}
    (h : ORel R x y) (hf : ∀ a b, R a b → S (f a) (g b)) : ORel S (x.map f) (y.map g) := by
  cases x <;> cases y <;> first | exact h | exact hf _ _ h

theorem ORel.mono {α : Type} {R S : α → α → Prop} {x y : Option α} (h : ORel R x y) (hRS : ∀ a b, R a b → S a b) :
    ORel S x y := by
  cases x <;> cases y <;> first | exact h | exact hRS _ _ h

theorem ORel.none_or_some {α : Type} {R : α → α → Prop} {x y : Option α} (h : ORel R x y) :
    (x = none ∧ y = none) ∨ ∃ a b, x = some a ∧ y = some b ∧ R a b := by
  cases x <;> cases y <;> first | exact False.elim h | exact .inl ⟨rfl, rfl⟩ | exact .inr ⟨_, _, rfl, rfl, h⟩

theorem ORel.bind {α β : Type} {R : α → α → Prop} {S : β → β → Prop} {x y : Option α} {f g : α → Option β}
    (h : ORel R x y) (hf : ∀ a b, R a b → ORel S (f a) (g b)) : ORel S (x.bind f) (y.bind g) := by
  cases x <;> cases y <;> first | exact h.elim | exact h | exact hf _ _ h

theorem ORel.or {α : Type} {R : α → α → Prop} {x y x' y' : Option α} (h : ORel R x y) (h' : ORel R x' y') :
    ORel R (x.or x') (y.or y') := by
  cases x <;> cases y <;> first | exact h.elim | exact h | exact h'

end CV.Det.Stage

namespace CV.Deep
open CV CV.Merge CV.Det
open CV.Det.Stage (ORel)
open CV.Val (lookup insert keys KVs lookup_cons_self lookup_cons_ne)

inductive Eqv : Val → Val → Prop
  | null : Eqv .null .null
  | bool (b : Bool) : Eqv (.bool b) (.bool b)
  | int (i : Int) : Eqv (.int i) (.int i)
  | float (s : String) : Eqv (.float s) (.float s)
  | str (s : String) : Eqv (.str s) (.str s)
  | seqNil : Eqv (.seq []) (.seq [])
  | seqCons {x y : Val} {xs ys : List Val} : Eqv x y → Eqv (.seq xs) (.seq ys) → Eqv (.seq (x :: xs)) (.seq (y :: ys))
  | map {a b : KVs} : (∀ k, lookup k a = none ↔ lookup k b = none) →
      (∀ k x y, lookup k a = some x → lookup k b = some y → Eqv x y) → Eqv (.map a) (.map b)

inductive WF : Val → Prop
  | null : WF .null
  | bool (b : Bool) : WF (.bool b)
  | int (i : Int) : WF (.int i)
  | float (s : String) : WF (.float s)
  | str (s : String) : WF (.str s)
  | seqNil : WF (.seq [])
  | seqCons {x : Val} {xs : List Val} : WF x → WF (.seq xs) → WF (.seq (x :: xs))
  | map {a : KVs} : (keys a).Nodup → (∀ k x, lookup k a = some x → WF x) → WF (.map a)

def MEqv (a b : KVs) : Prop :=
  (∀ k, lookup k a = none ↔ lookup k b = none) ∧ (∀ k x y, lookup k a = some x → lookup k b = some y → Eqv x y)

def MWF (a : KVs) : Prop := (keys a).Nodup ∧ (∀ k x, lookup k a = some x → WF x)

def MRel (a b : KVs) : Prop := MEqv a b ∧ MWF a ∧ MWF b

theorem Eqv.map_iff {a b : KVs} : Eqv (.map a) (.map b) ↔ MEqv a b := by
  constructor
  · intro h; cases h with | map h1 h2 => exact ⟨h1, h2⟩
  · intro h; exact .map h.1 h.2

theorem WF.map_iff {a : KVs} : WF (.map a) ↔ MWF a := by
  constructor
  · intro h; cases h with | map h1 h2 => exact ⟨h1, h2⟩
  · intro h; exact .map h.1 h.2

theorem find_eq_lookup (k : String) (a : KVs) : find k a = lookup k a := by
  rw [find_eq, Val.lookup_eq]

theorem akeys_eq_keys (a : KVs) : akeys a = keys a := rfl

theorem MEqv.lookups {a b : KVs} (h : MEqv a b) (k : String) : ORel Eqv (lookup k a) (lookup k b) := by
  cases ha : lookup k a with
  | none => rw [(h.1 k).mp ha]; trivial
  | some x =>
    cases hb : lookup k b with
    | none => rw [(h.1 k).mpr hb] at ha; cases ha
    | some y => exact h.2 k x y ha hb

theorem MEqv.of_lookup {a b : KVs} (h : ∀ k, ORel Eqv (lookup k a) (lookup k b)) : MEqv a b := by
  refine ⟨fun k => ?_, fun k x y hx hy => ?_⟩
  · have := h k
    cases ha : lookup k a <;> cases hb : lookup k b <;> rw [ha, hb] at this <;> first | exact this.elim | simp
  · have := h k; rw [hx, hy] at this; exact this

theorem MEqv.isSome_eq {a b : KVs} (h : MEqv a b) (k : String) : (lookup k a).isSome = (lookup k b).isSome :=
  (h.lookups k).isSome

theorem MEqv.nil : MEqv [] [] := ⟨fun _ => Iff.rfl, fun _ _ _ h => by cases h⟩
theorem MWF.nil : MWF [] := ⟨List.nodup_nil, fun _ _ h => by cases h⟩
theorem MRel.nil : MRel [] [] := ⟨MEqv.nil, MWF.nil, MWF.nil⟩

theorem MEqv.insert {a a' : KVs} (h : MEqv a a') (k : String) {v v' : Val} (hv : Eqv v v') :
    MEqv (insert k v a) (insert k v' a') := by
  constructor
  · intro k'
    by_cases hk : k' = k
    · subst hk; simp [lookup_insert_self]
    · rw [lookup_insert_ne hk, lookup_insert_ne hk]; exact h.1 k'
  · intro k' x y hx hy
    by_cases hk : k' = k
    · subst hk
      rw [lookup_insert_self] at hx hy
      cases hx; cases hy; exact hv
    · rw [lookup_insert_ne hk] at hx hy; exact h.2 k' x y hx hy

theorem MWF.insert {a : KVs} (h : MWF a) (k : String) {v : Val} (hv : WF v) : MWF (insert k v a) := by
  refine ⟨Val.nodup_insert h.1, ?_⟩
  intro k' x hx
  by_cases hk : k' = k
  · subst hk; rw [lookup_insert_self] at hx; cases hx; exact hv
  · rw [lookup_insert_ne hk] at hx; exact h.2 k' x hx

theorem eq_nil_of_lookup_none {b : KVs} (h : ∀ k, lookup k b = none) : b = [] :=
  Assoc.eq_nil_of_lookup_none fun k => Val.lookup_eq k b ▸ h k

theorem MEqv.nil_iff {b b' : KVs} (h : MEqv b b') : b = [] ↔ b' = [] := by
  constructor
  · intro e; subst e; exact eq_nil_of_lookup_none (fun k => (h.1 k).mp rfl)
  · intro e; subst e; exact eq_nil_of_lookup_none (fun k => (h.1 k).mpr rfl)

theorem MEqv.isEmpty_eq {b b' : KVs} (h : MEqv b b') : b.isEmpty = b'.isEmpty := by
  rw [Bool.eq_iff_iff, List.isEmpty_iff, List.isEmpty_iff]; exact h.nil_iff

end CV.Deep

namespace CV.Det.Stage
open CV CV.Deep
open CV.Val (lookup keys KVs lookup_cons_self lookup_cons_ne)

theorem eqvRefl₃ : (∀ v : Val, Eqv v v) ∧ (∀ (kvs : List (String × Val)) (k : String) (x : Val), lookup k kvs = some x → Eqv x x) ∧
    (∀ xs : List Val, Eqv (.seq xs) (.seq xs)) :=
  Val.induct₃ .null .bool .int .float .str (fun _ h => h)
    (fun _ h => .map (fun _ => Iff.rfl) fun k x y hx hy => by rw [hx] at hy; cases hy; exact h k x hx)
    (fun _ _ h => nomatch h)
    (fun k0 v0 r hv hr k x h => by
      by_cases e : k = k0
      · subst e; rw [lookup_cons_self] at h; cases h; exact hv
      · rw [lookup_cons_ne e] at h; exact hr k x h)
    .seqNil (fun _ _ => .seqCons)

theorem eqvRefl : ∀ v : Val, Eqv v v := eqvRefl₃.1
theorem eqvReflSeq : ∀ xs : List Val, Eqv (.seq xs) (.seq xs) := eqvRefl₃.2.2
theorem eqvReflKVs : ∀ (kvs : List (String × Val)) (k : String) (x : Val), lookup k kvs = some x → Eqv x x := eqvRefl₃.2.1

theorem lookup_all_of_nodup {m : KVs} (hn : (keys m).Nodup) (P : String → Val → Bool) :
    m.all (fun kv => P kv.1 kv.2) = true ↔ ∀ k v, lookup k m = some v → P k v = true := by
  rw [List.all_eq_true]
  exact ⟨fun h k v hl => h (k, v) (Val.mem_of_lookup hl),
    fun h kv hkv => h kv.1 kv.2 (Val.lookup_of_mem hn hkv)⟩

theorem wf_map_nil : WF (.map []) := WF.map_iff.mpr MWF.nil

theorem wf_map_cons {k : String} {v : Val} {r : KVs} (hv : WF v) (hk : k ∉ keys r) (hr : WF (.map r)) :
    WF (.map ((k, v) :: r)) := by
  obtain ⟨hn, hall⟩ := WF.map_iff.mp hr
  refine WF.map_iff.mpr ⟨?_, ?_⟩
  · simp only [keys, List.map_cons, List.nodup_cons] at hk ⊢
    exact ⟨hk, hn⟩
  · intro k' x hx
    by_cases e : k' = k
    · subst e; rw [lookup_cons_self] at hx; cases hx; exact hv
    · rw [lookup_cons_ne e] at hx; exact hall k' x hx

end CV.Det.Stage

namespace CV.Deep
open CV CV.Merge CV.Det
open CV.Det.Stage (ORel eqvRefl)
open CV.Val (lookup insert keys KVs lookup_cons_self lookup_cons_ne)

theorem Eqv.of_perm {a a' : KVs} (hp : a'.Perm a) (wa : MWF a) : Eqv (.map a') (.map a) := by
  refine .map (fun k => by rw [lookup_perm wa.1 hp k]) ?_
  intro k x y hx hy
  rw [lookup_perm wa.1 hp k] at hx
  rw [hx] at hy; cases hy
  exact eqvRefl x

theorem Eqv.symm {v w : Val} (h : Eqv v w) : Eqv w v := by
  induction h with
  | null => exact .null
  | bool b => exact .bool b
  | int i => exact .int i
  | float s => exact .float s
  | str s => exact .str s
  | seqNil => exact .seqNil
  | seqCons _ _ ih1 ih2 => exact .seqCons ih1 ih2
  | map h1 _ ih => exact .map (fun k => (h1 k).symm) (fun k x y hx hy => ih k y x hy hx)

theorem Eqv.trans {u v w : Val} (h1 : Eqv u v) (h2 : Eqv v w) : Eqv u w := by
  revert h2
  induction h1 generalizing w with
  | null => exact id
  | bool b => exact id
  | int i => exact id
  | float s => exact id
  | str s => exact id
  | seqNil => exact id
  | seqCons _ _ ih1 ih2 =>
    intro h2
    cases h2 with | seqCons a b => exact .seqCons (ih1 a) (ih2 b)
  | @map a b n1 _ ih =>
    intro h2
    cases h2 with | @map _ c n2 e2 =>
    refine .map (fun k => (n1 k).trans (n2 k)) ?_
    intro k x z hx hz
    cases hb : lookup k b with
    | none => rw [(n1 k).mpr hb] at hx; cases hx
    | some y => exact ih k x y hx hb (e2 k y z hb hz)

theorem WF.of_perm {a a' : KVs} (hp : a'.Perm a) (wa : MWF a) : WF (.map a') := by
  refine .map ((hp.map Prod.fst).nodup_iff.mpr wa.1) ?_
  intro k x hx
  rw [lookup_perm wa.1 hp k] at hx
  exact wa.2 k x hx

theorem Eqv.map_cons {k : String} {v v' : Val} {r r' : KVs} (hv : Eqv v v') (hr : Eqv (.map r) (.map r')) :
    Eqv (.map ((k, v) :: r)) (.map ((k, v') :: r')) := by
  have h := Eqv.map_iff.mp hr
  refine .map ?_ ?_
  · intro k'
    simp only [lookup]
    split
    · simp
    · exact h.1 k'
  · intro k' x y hx hy
    simp only [lookup] at hx hy
    split at hx
    · next heq => simp only [heq, if_true] at hy; cases hx; cases hy; exact hv
    · next hne => simp only [hne, if_false] at hy; exact h.2 k' x y hx hy

theorem Eqv.seq_induct {P : List Val → List Val → Prop} (nil : P [] [])
    (cons : ∀ {x y l l'}, Eqv x y → Eqv (.seq l) (.seq l') → P l l' → P (x :: l) (y :: l')) :
    ∀ {l l' : List Val}, Eqv (.seq l) (.seq l') → P l l'
  | [], _, h => by cases h; exact nil
  | _ :: _, _, h => by cases h with | seqCons hx hr => exact cons hx hr (Eqv.seq_induct nil cons hr)

theorem Eqv.seq_length {xs ys : List Val} (h : Eqv (.seq xs) (.seq ys)) : xs.length = ys.length :=
  Eqv.seq_induct (P := fun xs ys => xs.length = ys.length) rfl (fun _ _ ih => by simp only [List.length_cons, ih]) h

theorem Eqv.seq_append {xs ys xs' ys' : List Val} (h1 : Eqv (.seq xs) (.seq xs')) (h2 : Eqv (.seq ys) (.seq ys')) :
    Eqv (.seq (xs ++ ys)) (.seq (xs' ++ ys')) :=
  Eqv.seq_induct (P := fun xs xs' => Eqv (.seq (xs ++ ys)) (.seq (xs' ++ ys'))) h2 (fun hx _ ih => .seqCons hx ih) h1

theorem WF.seq_mem {l : List Val} (h : WF (.seq l)) : ∀ x ∈ l, WF x := by
  induction l with
  | nil => intro x hx; cases hx
  | cons y r ih =>
    cases h with | seqCons hy hr =>
    intro x hx
    rcases List.mem_cons.mp hx with rfl | hx
    · exact hy
    · exact ih hr x hx

theorem WF.seq_of_forall {l : List Val} (h : ∀ x ∈ l, WF x) : WF (.seq l) := by
  induction l with
  | nil => exact .seqNil
  | cons y r ih => exact .seqCons (h y List.mem_cons_self) (ih (fun x hx => h x (List.mem_cons_of_mem _ hx)))

theorem WF.seq_append {a b : List Val} (ha : WF (.seq a)) (hb : WF (.seq b)) : WF (.seq (a ++ b)) :=
  WF.seq_of_forall (fun x hx => by
    rcases List.mem_append.mp hx with h | h
    · exact ha.seq_mem x h
    · exact hb.seq_mem x h)

variable {β : Type}

theorem find_append_none {k : String} {l1 l2 : AL β} (h : find k l1 = none) : find k (l1 ++ l2) = find k l2 := by
  rw [find_eq, Assoc.lookup_append, ← find_eq, h, find_eq]; rfl

theorem find_append_some {k : String} {v : β} {l1 l2 : AL β} (h : find k l1 = some v) : find k (l1 ++ l2) = some v := by
  rw [find_eq, Assoc.lookup_append, ← find_eq, h]; rfl

theorem perm_of_find_eq (l l' : AL β) (hn : (akeys l).Nodup) (hn' : (akeys l').Nodup) (h : ∀ k, find k l = find k l') :
    l.Perm l' :=
  Assoc.perm_of_lookup_eq hn hn' fun k => by rw [← find_eq, ← find_eq]; exact h k

/-- any two failures are related: which failure is reported may depend on the order of the entries -/
def OutEqv {α : Type} (R : α → α → Prop) : Out α → Out α → Prop
  | .ok a, .ok b => R a b
  | .ok _, _ => False
  | _, .ok _ => False
  | _, _ => True

theorem OutEqv.bind {α β : Type} {R : α → α → Prop} {S : β → β → Prop} {x y : Out α} {f g : α → Out β}
    (h : OutEqv R x y) (hf : ∀ a b, R a b → OutEqv S (f a) (g b)) : OutEqv S (x.bind f) (y.bind g) := by
  cases x <;> cases y <;> simp only [OutEqv, Out.bind] at h ⊢
  · exact hf _ _ h
  all_goals first | exact h.elim | trivial

theorem OutEqv.mono {α : Type} {R S : α → α → Prop} (h : ∀ a b, R a b → S a b) {x y : Out α} (hx : OutEqv R x y) :
    OutEqv S x y := by
  cases x <;> cases y <;> simp only [OutEqv] at hx ⊢
  · exact h _ _ hx

def optM {α : Type} : Out α → Option α
  | .ok a => some a
  | _ => none

theorem outEqv_iff_orel {α : Type} {R : α → α → Prop} {x y : Out α} : OutEqv R x y ↔ ORel R (optM x) (optM y) := by
  cases x <;> cases y <;> exact Iff.rfl

end CV.Deep

namespace CV.Det.Whole
open CV CV.Deep
open CV.Det.Stage (eqvRefl)
open CV.Val (lookup insert keys KVs)

def EW (v w : Val) : Prop := Eqv v w ∧ WF v ∧ WF w

theorem EW.refl {v : Val} (wv : WF v) : EW v v := ⟨eqvRefl v, wv, wv⟩

theorem EW.map_iff {a b : KVs} : EW (.map a) (.map b) ↔ MRel a b := by
  simp only [EW, MRel, Eqv.map_iff, WF.map_iff]

theorem EW.seqCons_iff {x y : Val} {xs ys : List Val} :
    EW (.seq (x :: xs)) (.seq (y :: ys)) ↔ EW x y ∧ EW (.seq xs) (.seq ys) := by
  constructor
  · rintro ⟨e, w1, w2⟩
    cases e with | seqCons e1 e2 =>
    cases w1 with | seqCons a1 a2 =>
    cases w2 with | seqCons b1 b2 => exact ⟨⟨e1, a1, b1⟩, ⟨e2, a2, b2⟩⟩
  · rintro ⟨⟨e1, a1, b1⟩, ⟨e2, a2, b2⟩⟩
    exact ⟨.seqCons e1 e2, .seqCons a1 a2, .seqCons b1 b2⟩

theorem EW.seq_mem {xs ys : List Val} (h : EW (.seq xs) (.seq ys)) : ∀ c ∈ xs, ∃ c' ∈ ys, EW c c' := by
  induction xs generalizing ys with
  | nil => exact fun _ hc => nomatch hc
  | cons x xs ih =>
    cases ys with
    | nil => cases h.1
    | cons y ys =>
      obtain ⟨h1, h2⟩ := EW.seqCons_iff.mp h
      intro c hc
      rcases List.mem_cons.mp hc with rfl | hc
      · exact ⟨y, List.mem_cons_self, h1⟩
      · obtain ⟨c', hc', e⟩ := ih h2 c hc
        exact ⟨c', List.mem_cons_of_mem _ hc', e⟩

theorem EW.seq_append {xs ys xs' ys' : List Val} (h1 : EW (.seq xs) (.seq xs')) (h2 : EW (.seq ys) (.seq ys')) :
    EW (.seq (xs ++ ys)) (.seq (xs' ++ ys')) :=
  ⟨Eqv.seq_append h1.1 h2.1, WF.seq_append h1.2.1 h2.2.1, WF.seq_append h1.2.2 h2.2.2⟩

theorem EW.seq_strs (l : List String) : EW (.seq (l.map Val.str)) (.seq (l.map Val.str)) :=
  EW.refl (WF.seq_of_forall (fun x hx => by obtain ⟨s, _, rfl⟩ := List.mem_map.mp hx; exact .str s))

end CV.Det.Whole

namespace CV.Deep
open CV.Det.Whole (EW)
open CV.Det.Stage (ORel)
open CV.Val (lookup insert keys KVs)

theorem MRel.lookups {a b : KVs} (h : MRel a b) (k : String) : ORel EW (lookup k a) (lookup k b) := by
  have := h.1.lookups k
  cases ha : lookup k a <;> cases hb : lookup k b <;> rw [ha, hb] at this <;> first | exact this | skip
  exact ⟨this, h.2.1.2 k _ ha, h.2.2.2 k _ hb⟩

/-- two spellings of a scalar, or of the empty sequence, are one value -/
theorem MRel.lookup_eq_or {a b : KVs} (h : MRel a b) (k : String) :
    lookup k b = lookup k a ∨ (∃ m m', lookup k a = some (.map m) ∧ lookup k b = some (.map m')) ∨
      (∃ l l', lookup k a = some (.seq l) ∧ lookup k b = some (.seq l')) := by
  rcases (h.lookups k).none_or_some with ⟨h1, h2⟩ | ⟨x, y, h1, h2, e⟩
  · exact .inl (by rw [h1, h2])
  · cases e.1 with
    | map _ _ => exact .inr (.inl ⟨_, _, h1, h2⟩)
    | seqCons _ _ => exact .inr (.inr ⟨_, _, h1, h2⟩)
    | _ => exact .inl (by rw [h1, h2])

theorem MRel.of_lookup {a b : KVs} (ha : (keys a).Nodup) (hb : (keys b).Nodup)
    (h : ∀ k, ORel EW (lookup k a) (lookup k b)) : MRel a b := by
  refine ⟨MEqv.of_lookup (fun k => (h k).mono (fun _ _ e => e.1)), ⟨ha, fun k x hx => ?_⟩, ⟨hb, fun k y hy => ?_⟩⟩
  · have := h k; rw [hx] at this
    cases hb : lookup k b <;> rw [hb] at this <;> first | exact this.elim | exact this.2.1
  · have := h k; rw [hy] at this
    cases ha : lookup k a <;> rw [ha] at this <;> first | exact this.elim | exact this.2.2

theorem MRel.lookup_none {a b : KVs} (h : MRel a b) {k : String} (hx : lookup k a = none) : lookup k b = none :=
  (h.1.1 k).mp hx

theorem MRel.lookup_some {a b : KVs} (h : MRel a b) {k : String} {x : Val} (hx : lookup k a = some x) :
    ∃ y, lookup k b = some y ∧ EW x y := by
  have := h.lookups k
  rw [hx] at this
  cases hb : lookup k b <;> rw [hb] at this <;> first | exact this.elim | exact ⟨_, rfl, this⟩

theorem MRel.lookup_some' {a b : KVs} (h : MRel a b) {k : String} {y : Val} (hy : lookup k b = some y) :
    ∃ x, lookup k a = some x ∧ EW x y := by
  have := h.lookups k
  rw [hy] at this
  cases ha : lookup k a <;> rw [ha] at this <;> first | exact this.elim | exact ⟨_, rfl, this⟩

theorem MRel.all_eq {a b : KVs} (h : MRel a b) {P Q : String → Val → Bool}
    (hpq : ∀ k x y, lookup k a = some x → lookup k b = some y → EW x y → P k x = Q k y) :
    a.all (fun kv => P kv.1 kv.2) = b.all (fun kv => Q kv.1 kv.2) := by
  apply Bool.eq_iff_iff.mpr
  rw [Det.Stage.lookup_all_of_nodup h.2.1.1 P, Det.Stage.lookup_all_of_nodup h.2.2.1 Q]
  constructor
  · intro hh k y hy
    obtain ⟨x, hx, e⟩ := h.lookup_some' hy
    rw [← hpq k x y hx hy e]; exact hh k x hx
  · intro hh k x hx
    obtain ⟨y, hy, e⟩ := h.lookup_some hx
    rw [hpq k x y hx hy e]; exact hh k y hy

theorem MRel.insert {a b : KVs} (h : MRel a b) (k : String) {x y : Val} (hxy : EW x y) :
    MRel (insert k x a) (insert k y b) :=
  ⟨MEqv.insert h.1 k hxy.1, MWF.insert h.2.1 k hxy.2.1, MWF.insert h.2.2 k hxy.2.2⟩

/-- `for k, v := range src { dst[k] = v }` on two spellings of source and destination -/
theorem insertAll_mrel {r r' a a' : KVs} (ha : MRel a a') (hr : (keys r).Nodup) (hr' : (keys r').Nodup)
    (h : ∀ k, ORel EW (lookup k r) (lookup k r')) : MRel (Assoc.insertAll r a) (Assoc.insertAll r' a') := by
  refine MRel.of_lookup (Assoc.nodup_insertAll _ ha.2.1.1) (Assoc.nodup_insertAll _ ha.2.2.1) fun k => ?_
  rw [Val.lookup_eq, Val.lookup_eq, Assoc.lookup_insertAll _ hr, Assoc.lookup_insertAll _ hr']
  simp only [← Val.lookup_eq]
  exact (h k).or (ha.lookups k)

/-- induction over two spellings of one tree, with a statement `PL` about the element lists of two sequences proved
alongside (the model's functions on `.seq xs` go through a function on `xs`) -/
theorem _root_.CV.Det.Whole.EW.induct {P : Val → Val → Prop} {PL : List Val → List Val → Prop}
    (leaf : ∀ v, WF v → (∀ m, v ≠ .map m) → (∀ l, v ≠ .seq l) → P v v)
    (map : ∀ a b, MRel a b → (∀ k x y, lookup k a = some x → lookup k b = some y → P x y) → P (.map a) (.map b))
    (seq : ∀ xs ys, EW (.seq xs) (.seq ys) → PL xs ys → P (.seq xs) (.seq ys))
    (nil : PL [] [])
    (cons : ∀ x y xs ys, EW x y → P x y → PL xs ys → PL (x :: xs) (y :: ys))
    {v w : Val} (h : EW v w) : P v w := by
  obtain ⟨e, wv, ww⟩ := h
  suffices H : P v w ∧ ∀ xs ys, v = .seq xs → w = .seq ys → PL xs ys from H.1
  induction e with
  | seqNil => exact ⟨seq _ _ ⟨.seqNil, wv, ww⟩ nil, fun _ _ h1 h2 => by cases h1; cases h2; exact nil⟩
  | seqCons ex er ih1 ih2 =>
    have hs : EW _ _ := ⟨.seqCons ex er, wv, ww⟩
    cases wv with | seqCons wx wxs =>
    cases ww with | seqCons wy wys =>
    have hl := cons _ _ _ _ ⟨ex, wx, wy⟩ (ih1 wx wy).1 ((ih2 wxs wys).2 _ _ rfl rfl)
    exact ⟨seq _ _ hs hl, fun _ _ h1 h2 => by cases h1; cases h2; exact hl⟩
  | map hn hv ih =>
    have wa := WF.map_iff.mp wv
    have wb := WF.map_iff.mp ww
    exact ⟨map _ _ ⟨⟨hn, hv⟩, wa, wb⟩ fun k x y hx hy => (ih k x y hx hy (wa.2 k x hx) (wb.2 k y hy)).1,
      fun _ _ h => nomatch h⟩
  | _ => exact ⟨leaf _ wv nofun nofun, fun _ _ h => nomatch h⟩

theorem _root_.CV.Det.Whole.EW.seq_induct {PL : List Val → List Val → Prop} (nil : PL [] [])
    (cons : ∀ x y xs ys, EW x y → PL xs ys → PL (x :: xs) (y :: ys))
    {xs ys : List Val} (h : EW (.seq xs) (.seq ys)) : PL xs ys :=
  Eqv.seq_induct (P := fun xs ys => WF (.seq xs) → WF (.seq ys) → PL xs ys) (fun _ _ => nil)
    (fun ex _ ih wx wy => by
      cases wx with | seqCons w1 w2 =>
      cases wy with | seqCons w3 w4 => exact cons _ _ _ _ ⟨ex, w1, w3⟩ (ih w2 w4)) h.1 h.2.1 h.2.2

end CV.Deep
