import ComposeVerif.Lemmas.DotenvFiles
import ComposeVerif.Lemmas.TemplateParam
import ComposeVerif.Lemmas.DotenvValue
/-!
# C18 — parametricity of the scanner in the code points it does not look at

The model classifies the `special` code points (`Lemmas/TemplateParam.lean`) exactly and treats every other code point
as *generic*.  A `Renaming φ` cannot be observed by any character test the scanner makes; the lemmas below say that
function by function (`f (s.map φ) = (f s)` renamed), stage by stage up to the loop (`parse_map`, under
`SubstCommutes φ`) and the fold over several files (`fromFiles_map`).
-/
namespace CV.Dotenv
open CV CV.Template

def PErr.ren (φ : Char → Char) : PErr → PErr
  | .tmpl e => .tmpl (Err.ren φ e)
  | .unexpectedChar => .unexpectedChar
  | .keySpace => .keySpace
  | .unterminated => .unterminated
  | .zeroLength => .zeroLength

def Map.ren (φ : Char → Char) (m : Map) : Map := m.map fun kv => (kv.1.map φ, kv.2.map φ)

def POut.ren (φ : Char → Char) : POut → POut
  | .ok m => .ok (Map.ren φ m)
  | .err e m => .err (PErr.ren φ e) (Map.ren φ m)
  | .panic s => .panic s

def Stage.mapBoth {α β : Type} (g : PErr → PErr) (f : α → β) : Stage α → Stage β
  | .error s => .error s
  | .ok (.error e) => .ok (.error (g e))
  | .ok (.ok a) => .ok (.ok (f a))

theorem isSpaceU_special {c : Char} (h : isSpaceU c = true) : special c = true := by
  simp only [isSpaceU, Bool.or_eq_true, beq_iff_eq] at h
  rcases h with ((((((h | h) | h) | h) | h) | h) | h) | h <;> (rw [h]; decide)

theorem isSpaceNB_special {c : Char} (h : isSpaceNB c = true) : special c = true :=
  isSpaceU_special (isSpaceNB_isSpaceU h)

theorem isSpaceRE_special {c : Char} (h : isSpaceRE c = true) : special c = true :=
  isSpaceU_special (isSpaceRE_isSpaceU h)

theorem isLetterOrNumber_special {c : Char} (h : isLetterOrNumber c = true) : special c = true := by
  simp only [isLetterOrNumber, Bool.or_eq_true, beq_iff_eq] at h
  rcases h with ((h | h) | h) | h
  · exact isAlphanum_special h
  all_goals (rw [h]; decide)

theorem isKeyRune_special {c : Char} (h : isKeyRune c = true) : special c = true := by
  simp only [isKeyRune, Bool.or_eq_true, beq_iff_eq] at h
  rcases h with ((((h | h) | h) | h) | h) | h
  · rw [h]; decide
  · rw [h]; decide
  · rw [h]; decide
  · rw [h]; decide
  · rw [h]; decide
  · exact isLetterOrNumber_special h

section
variable {φ : Char → Char} (R : Renaming φ)
include R

theorem isSpaceU_map (c : Char) : isSpaceU (φ c) = isSpaceU c := R.pres _ (fun _ h => isSpaceU_special h) c
theorem isSpaceNB_map (c : Char) : isSpaceNB (φ c) = isSpaceNB c := R.pres _ (fun _ h => isSpaceNB_special h) c
theorem isSpaceRE_map (c : Char) : isSpaceRE (φ c) = isSpaceRE c := R.pres _ (fun _ h => isSpaceRE_special h) c
theorem isKeyRune_map (c : Char) : isKeyRune (φ c) = isKeyRune c := R.pres _ (fun _ h => isKeyRune_special h) c

theorem trimRightU_map (s : Str) : trimRightU (s.map φ) = (trimRightU s).map φ := by
  unfold trimRightU
  rw [← List.map_reverse, dropWhile_map R isSpaceU (isSpaceU_map R), List.map_reverse]

theorem stmtStart_map : ∀ (n : Nat) (s : Str),
    stmtStart n (s.map φ) = (stmtStart n s).map (List.map φ)
  | 0, _ => rfl
  | n + 1, s => by
    rw [stmtStart_succ, stmtStart_succ, dropWhile_map R isSpaceU (isSpaceU_map R)]
    cases s.dropWhile isSpaceU with
    | nil => rfl
    | cons c r =>
      simp only [List.map_cons, bne, R.lit '#' (by decide) c]
      split
      · rfl
      · rw [← List.map_cons, dropWhile_map R _ (fun x => by rw [R.lit '\n' (by decide) x])]
        cases (c :: r).dropWhile (fun x => !(x == '\n')) with
        | nil => rfl
        | cons d r2 => exact stmtStart_map n (d :: r2)

theorem dropExport_map (s : Str) : dropExport (s.map φ) = (dropExport s).map φ := by
  unfold dropExport
  rw [isPrefixOf_map R exportKw s (by decide)]
  split
  · rw [← List.map_drop]
    cases s.drop 6 with
    | nil => rfl
    | cons c r =>
      simp only [List.map_cons, isSpaceRE_map R]
      split
      · rw [← List.map_cons, dropWhile_map R isSpaceNB (isSpaceNB_map R)]
      · rfl
  · rfl

theorem okChar_map (c : Char) : okChar (φ c) = okChar c := by
  rw [okChar, okChar, isKeyRune_map R, isSpaceNB_map R]

theorem keyL_map (s : Str) :
    keyL (s.map φ) = match keyL s with
      | .error e => .error (PErr.ren φ e)
      | .ok r => .ok (r.1.map φ, r.2.1.map φ, r.2.2) := by
  rw [keyL, keyL, dropExport_map R, dropWhile_map R okChar (okChar_map R),
    takeWhile_map R okChar (okChar_map R), List.isEmpty_map]
  cases (dropExport s).dropWhile okChar with
  | nil =>
    simp only [List.map_nil]
    split
    · rfl
    · simp only [trimRightU_map R, List.map_nil]
  | cons d X =>
    simp only [List.map_cons, R.lit '=' (by decide) d, R.lit ':' (by decide) d, R.lit '\n' (by decide) d]
    split
    · simp only [trimRightU_map R, dropWhile_map R isSpaceNB (isSpaceNB_map R)]
    · rfl

def QScan.ren (φ : Char → Char) : QScan → QScan
  | .closed chars i => .closed (chars.map φ) i
  | .unterminated => .unterminated
  | .oob => .oob

theorem quotedLoop_map (q : Char) (hq : special q = true) (src : Str) : ∀ (n i : Nat) (esc : Bool) (acc : Str),
    quotedLoop q (src.map φ) n i esc (acc.map φ) = QScan.ren φ (quotedLoop q src n i esc acc)
  | 0, _, _, _ => rfl
  | n + 1, i, esc, acc => by
    have ih := fun e (a : Str) => quotedLoop_map q hq src n (i + 1) e a
    rw [quotedLoop, quotedLoop, List.getElem?_map]
    cases src[i]? with
    | none => rfl
    | some c =>
      have hq' : (φ c != q) = (c != q) := by simp only [bne, R.lit q hq c]
      have hb : (φ c == '\\') = (c == '\\') := R.lit '\\' (by decide) c
      have hbs : φ '\\' = '\\' := R.fix _ (by decide)
      simp only [Option.map_some, hq', hb]
      by_cases h1 : (c != q) = true
      · rw [if_pos h1, if_pos h1]
        by_cases h2 : (!esc && c == '\\') = true
        · rw [if_pos h2, if_pos h2]; exact ih _ _
        · rw [if_neg h2, if_neg h2]
          cases esc with
          | true => have := ih false (acc ++ ['\\', c]); simpa [hbs] using this
          | false => have := ih false (acc ++ [c]); simpa using this
      · rw [if_neg h1, if_neg h1]
        cases esc with
        | true => have := ih false (acc ++ [c]); simpa using this
        | false => rfl

theorem quotePrefix_map (s : Str) : quotePrefix (s.map φ) = quotePrefix s := by
  cases s with
  | nil => rfl
  | cons c r =>
    simp only [List.map_cons, quotePrefix, R.lit '"' (by decide) c, R.lit '\'' (by decide) c]
    split
    · have h : special c = true := by
        rename_i h
        rcases Bool.or_eq_true _ _ |>.mp h with h | h <;> (rw [beq_iff_eq] at h; rw [h]; decide)
      rw [R.fix c h]
    · rfl

omit R in
theorem quotePrefix_special {s : Str} {q : Char} (h : quotePrefix s = some q) : special q = true ∧ (q = '"' ∨ q = '\'') := by
  cases s with
  | nil => cases h
  | cons c r =>
    simp only [quotePrefix] at h
    split at h
    · rename_i hc
      cases h
      rcases Bool.or_eq_true _ _ |>.mp hc with h | h <;> (rw [beq_iff_eq] at h; rw [h]; decide)
    · cases h

theorem lookup_map {β : Type} : ∀ (t : List (Char × β)), (∀ p ∈ t, special p.1 = true) → ∀ d, t.lookup (φ d) = t.lookup d
  | [], _, _ => rfl
  | (k, b) :: t, h, d => by
    rw [lookup_cons_ite, lookup_cons_ite, R.lit k (h (k, b) (List.mem_cons_self ..)) d,
      lookup_map t (fun p hp => h p (List.mem_cons_of_mem _ hp)) d]

omit R in
theorem escTable_special : ∀ p ∈ escTable, special p.1 = true ∧ ∀ c ∈ p.2, special c = true := by decide

theorem simpleEscape_map (d : Char) : simpleEscape (φ d) = simpleEscape d := by
  rw [simpleEscape_eq_lookup, simpleEscape_eq_lookup, lookup_map R escTable (fun p hp => (escTable_special p hp).1)]

omit R in
theorem simpleEscape_special {d : Char} {r : Str} (h : simpleEscape d = some r) : ∀ c ∈ r, special c = true :=
  (escTable_special _ (simpleEscape_mem h)).2

omit R in
theorem toNat_ofNat_small (v : Nat) (h : v < 256) : (Char.ofNat v).toNat = v := by
  have hv : v.isValidChar := Or.inl (by omega)
  simp [Char.ofNat, hv, Char.ofNatAux, Char.toNat]

omit R in
theorem ofNat_special (v : Nat) (h : v < 256) : special (Char.ofNat v) = true := by
  simp [special, toNat_ofNat_small v h, h]

omit R in
theorem octalRepl_special (ds : Str) (h : ∀ c ∈ ds, special c = true) : ∀ c ∈ octalRepl ds, special c = true := by
  unfold octalRepl
  split
  · rename_i hc
    simp only [Bool.and_eq_true, decide_eq_true_eq] at hc
    intro c hcm
    rw [List.mem_singleton] at hcm
    rw [hcm]
    exact ofNat_special _ (by omega)
  · intro c hcm
    rcases List.mem_cons.mp hcm with h1 | h1
    · rw [h1]; decide
    · exact h c h1

theorem expEsc_map : ∀ (n : Nat) (s : Str), expEsc n (s.map φ) = (expEsc n s).map φ
  | _, [] => by simp [expEsc]
  | skip + 1, c :: cs => by
    simp only [List.map_cons, expEsc]
    exact expEsc_map skip cs
  | 0, c :: cs => by
    simp only [List.map_cons]
    unfold expEsc
    rw [R.lit '\\' (by decide) c]
    split
    · cases cs with
      | nil => simp [R.fix '\\' (by decide)]
      | cons d ds =>
        simp only [List.map_cons, simpleEscape_map R]
        cases hse : simpleEscape d with
        | some r =>
          simp only
          rw [← List.map_cons, expEsc_map 1 (d :: ds), List.map_append, map_fix R r (simpleEscape_special hse)]
        | none =>
          simp only [R.lit '0' (by decide) d]
          split
          · have hdig : ((ds.map φ).take 3).takeWhile Char.isDigit = (ds.take 3).takeWhile Char.isDigit := by
              rw [← List.map_take, takeWhile_map R Char.isDigit (fun c => R.pres _ (fun _ h => isDigit_special h) c)]
              exact map_fix R _ (fun c hc => isDigit_special (Scan.mem_takeWhile hc))
            simp only [hdig]
            rw [← List.map_cons, expEsc_map _ (d :: ds), List.map_append,
              map_fix R (octalRepl _) (octalRepl_special _ (fun c hc => isDigit_special (Scan.mem_takeWhile hc)))]
          · rw [← List.map_cons, expEsc_map 0 (d :: ds), List.map_cons, R.fix '\\' (by decide)]
    · rw [expEsc_map 0 cs, List.map_cons]

theorem expandEscapes_map (s : Str) : expandEscapes (s.map φ) = (expandEscapes s).map φ := expEsc_map R 0 s


end

section
variable {φ : Char → Char} (R : Renaming φ)
include R

theorem put_ren : ∀ (m : Map) (k v : Str), put (Map.ren φ m) (k.map φ) (v.map φ) = Map.ren φ (put m k v)
  | [], _, _ => rfl
  | (k', v') :: r, k, v => by
    simp only [Map.ren, List.map_cons, put]
    by_cases h : k = k'
    · simp only [h, if_true, List.map_cons]
    · have h' : ¬ k.map φ = k'.map φ := fun e => h (map_ren_inj R _ _ e)
      simp only [h, h', if_false, List.map_cons]
      have := put_ren r k v
      simp only [Map.ren] at this
      rw [this]

theorem get_ren : ∀ (m : Map) (k : Str), get (Map.ren φ m) (k.map φ) = (get m k).map (List.map φ)
  | [], _ => rfl
  | (k', v') :: r, k => by
    simp only [Map.ren, List.map_cons, get]
    by_cases h : k = k'
    · simp only [h, if_true, Option.map_some]
    · have h' : ¬ k.map φ = k'.map φ := fun e => h (map_ren_inj R _ _ e)
      simp only [h, h', if_false]
      exact get_ren r k

theorem envOf_rel {lk lk' : Env} (h : EnvRel φ lk lk') (m : Map) : EnvRel φ (envOf lk m) (envOf lk' (Map.ren φ m)) := by
  intro k
  unfold envOf
  rw [h k]
  cases lk k with
  | some v => rfl
  | none => exact get_ren R m k

theorem expandVars_map (hT : SubstCommutes φ) {lk lk' : Env} (h : EnvRel φ lk lk') (v : Str) (m : Map) :
    expandVars (v.map φ) (Map.ren φ m) lk' = Stage.mapBoth (PErr.ren φ) (List.map φ) (expandVars v m lk) := by
  unfold expandVars
  rw [hT _ _ (envOf_rel R h m) v]
  cases Template.subst (envOf lk m) v <;> rfl

/-- the list scan under a renaming (`quotedLoop_map` above is the same fact for the index loop at arbitrary `n`, `i`, which
    `quotedLoop_eq` does not reach) -/
theorem qscan_map (q : Char) (hq : special q = true) : ∀ (s : Str) (esc : Bool) (acc : Str),
    qscan q (s.map φ) esc (acc.map φ) = (qscan q s esc acc).map fun p => (p.1.map φ, p.2.map φ)
  | [], _, _ => rfl
  | c :: r, esc, acc => by
    have e1 : qEsc q (φ c) esc = qEsc q c esc := by simp only [qEsc, bne, R.lit q hq c, R.lit '\\' (by decide) c]
    have e2 : qEmit q (φ c) esc = (qEmit q c esc).map φ := by
      simp only [qEmit, bne, R.lit q hq c, R.lit '\\' (by decide) c]
      split
      · rfl
      · split <;> simp [R.fix '\\' (by decide)]
    rw [List.map_cons, qscan_cons, qscan_cons, R.lit q hq c, e1, e2, ← List.map_append, qscan_map q hq r]
    split <;> rfl

omit R in
theorem liftVars_map (x : Stage Str) (T : Str) :
    liftVars (Stage.mapBoth (PErr.ren φ) (List.map φ) x) (T.map φ) =
      Stage.mapBoth (PErr.ren φ) (fun r => (r.1.map φ, r.2.map φ)) (liftVars x T) := by
  rcases x with p | e | v <;> rfl

theorem valueL_map (hT : SubstCommutes φ) {lk lk' : Env} (h : EnvRel φ lk lk') (s : Str) (m : Map) :
    valueL (s.map φ) (Map.ren φ m) lk' =
      Stage.mapBoth (PErr.ren φ) (fun r => (r.1.map φ, r.2.map φ)) (valueL s m lk) := by
  unfold valueL
  rw [quotePrefix_map R]
  cases hqp : quotePrefix s with
  | none =>
    simp only
    rw [cut_map R ['\n'] (by decide) s]
    simp only
    rw [cut_map R [' ', '#'] (by decide), trimRightU_map R, expandVars_map R hT h, liftVars_map]
  | some q =>
    obtain ⟨hq, _⟩ := quotePrefix_special hqp
    have := qscan_map R q hq s.tail false []
    rw [List.map_nil] at this
    have ht : (s.map φ).tail = s.tail.map φ := by cases s <;> rfl
    simp only [ht, this]
    cases qscan q s.tail false [] with
    | none => rfl
    | some p =>
      obtain ⟨chars, rest⟩ := p
      simp only [Option.map_some]
      split
      · rw [expandEscapes_map R, expandVars_map R hT h, liftVars_map]
      · rfl

theorem any_spaceU_map (k : Str) : (k.map φ).any isSpaceU = k.any isSpaceU := by
  rw [List.any_map]
  congr 1
  funext c
  exact isSpaceU_map R c

def Step.ren (φ : Char → Char) : Step → Step
  | .done o => .done (POut.ren φ o)
  | .next left m => .next (left.map φ) (Map.ren φ m)

theorem stmtL_map (s : Str) : stmtL false (s.map φ) = (stmtL false s).map φ := by
  have := stmtStart_map R (s.length + 1) s
  rw [stmtStart_eq _ _ (by rw [List.length_map]; exact Nat.lt_succ_self _), stmtStart_eq _ _ (Nat.lt_succ_self _)] at this
  exact Except.ok.inj this

theorem stepL_map (hT : SubstCommutes φ) {lk lk' : Env} (h : EnvRel φ lk lk') (s : Str) (m : Map) :
    stepL (s.map φ) (Map.ren φ m) lk' = Step.ren φ (stepL s m lk) := by
  rw [stepL, stepL, stmtL_map R, List.isEmpty_map, keyL_map R]
  by_cases he : (stmtL false s).isEmpty = true
  · simp only [he, if_true]; rfl
  · simp only [he, Bool.false_eq_true, if_false]
    rcases keyL (stmtL false s) with e | ⟨key, left, inh⟩
    · cases e <;> rfl
    · simp only [any_spaceU_map R]
      by_cases hsp : key.any isSpaceU = true
      · simp only [hsp, if_true]; rfl
      · simp only [hsp, Bool.false_eq_true, if_false]
        cases inh with
        | true =>
          simp only [if_true, h key]
          cases lk key with
          | some v => simp only [Option.map_some, put_ren R]; rfl
          | none => rfl
        | false =>
          simp only [Bool.false_eq_true, if_false, valueL_map R hT h]
          rcases valueL left m lk with p | e | ⟨v, left'⟩
          · rfl
          · rfl
          · simp only [Stage.mapBoth, put_ren R]; rfl

theorem parseLoop_map (hT : SubstCommutes φ) {lk lk' : Env} (h : EnvRel φ lk lk') : ∀ (fuel : Nat) (s : Str) (m : Map),
    parseLoop fuel (s.map φ) (Map.ren φ m) lk' = POut.ren φ (parseLoop fuel s m lk)
  | 0, _, _ => rfl
  | fuel + 1, s, m => by
    rw [parseLoop_step, parseLoop_step, stepL_map R hT h]
    cases stepL s m lk with
    | done o => rfl
    | next left m' => exact parseLoop_map hT h fuel left m'

theorem parse_map (hT : SubstCommutes φ) {lk lk' : Env} (h : EnvRel φ lk lk') (s : Str) :
    parse (s.map φ) lk' = POut.ren φ (parse s lk) := by
  unfold parse
  rw [List.length_map]
  exact parseLoop_map R hT h _ s []

theorem stripBOM_map (s : Str) : stripBOM (s.map φ) = (stripBOM s).map φ := by
  cases s with
  | nil => rfl
  | cons c r =>
    by_cases hc : c = '\uFEFF'
    · rw [hc, List.map_cons, R.fix '\uFEFF' (by decide)]; rfl
    · rw [stripBOM_of_head (c :: r) (fun h => hc (Option.some.inj h)),
        stripBOM_of_head ((c :: r).map φ) (fun h => hc ((R.eq_iff (by decide)).mp (Option.some.inj h)))]

theorem mergeInto_ren : ∀ (env m : Map), mergeInto (Map.ren φ m) (Map.ren φ env) = Map.ren φ (mergeInto m env)
  | [], _ => rfl
  | (k, v) :: env, m => by
    simp only [Map.ren, List.map_cons, mergeInto]
    have := put_ren R m k v
    simp only [Map.ren] at this
    rw [this]
    exact mergeInto_ren env (put m k v)

theorem fromFiles_map (hT : SubstCommutes φ) {cur cur' : Env} (h : EnvRel φ cur cur') : ∀ (fs : List Str) (m : Map),
    fromFiles cur' (fs.map (List.map φ)) (Map.ren φ m) = POut.ren φ (fromFiles cur fs m)
  | [], _ => rfl
  | f :: fs, m => by
    simp only [List.map_cons, fromFiles]
    rw [stripBOM_map R, parse_map R hT (envOf_rel R h m)]
    cases parse (stripBOM f) (envOf cur m) with
    | ok env =>
      simp only [POut.ren]
      rw [mergeInto_ren R]
      exact fromFiles_map hT h fs _
    | err e pm => rfl
    | panic s => rfl

end

end CV.Dotenv
