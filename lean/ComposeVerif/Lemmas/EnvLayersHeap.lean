import ComposeVerif.Model.EnvLayersHeap
import ComposeVerif.Lemmas.EnvLayers
/-! C16, `MappingWithEquals` on the heap (`Model/EnvLayersHeap.lean`): the addresses of a map (`addrs`, `Valid`),
    following pointers in a grown heap (`deref_ext`), `OverrideBy` on maps of addresses (it only copies addresses,
    `count_addrs_overrideBy`, and commutes with following the pointers), what `ToMappingWithEquals` and `Resolve`
    allocate in closed form (`toMWEH_heap`, `toMWEH_addrs`, `resolveH_heap`, `resolveH_addrs`), and the one bound on
    addresses that every operation satisfies (`Among`). -/
namespace CV.EnvLayers.Heap
open CV.EnvLayers

theorem mem_addrs {m : HMWE} {a : Nat} : a ∈ addrs m ↔ ∃ k, (k, some a) ∈ m := by
  simp [addrs]

theorem valid_iff {h : Cells} {m : HMWE} : Valid h m ↔ ∀ a ∈ addrs m, a < h.length :=
  ⟨fun hv a ha => (mem_addrs.1 ha).elim fun k hk => hv k a hk, fun hb k a hm => hb a (mem_addrs.2 ⟨k, hm⟩)⟩

theorem valid_tail {h : Cells} {p : Key × Option Nat} {r : HMWE} (hv : Valid h (p :: r)) : Valid h r :=
  fun k a hm => hv k a (List.mem_cons_of_mem _ hm)

theorem valid_ext {h : Cells} {m : HMWE} (ext : Cells) (hv : Valid h m) : Valid (h ++ ext) m :=
  fun k a hm => Nat.lt_of_lt_of_le (hv k a hm) (by simp)

theorem deref_ext (h ext : Cells) (m : HMWE) (hv : Valid h m) : deref (h ++ ext) m = deref h m := by
  induction m with
  | nil => rfl
  | cons p r ih =>
    obtain ⟨k, v⟩ := p
    simp only [deref, List.map_cons] at ih ⊢
    rw [ih (valid_tail hv)]
    cases v with
    | none => rfl
    | some a => simp only [List.getElem?_append_left (hv k a List.mem_cons_self)]

theorem toMWEH_heap (m : List (Key × Str)) (h : Cells) : (toMWEH m h).2 = h ++ m.map Prod.snd := by
  induction m generalizing h with
  | nil => simp [toMWEH]
  | cons p r ih => simp only [toMWEH, ih, List.map_cons, List.append_assoc, List.singleton_append]

theorem toMWEH_addrs (m : List (Key × Str)) (h : Cells) : addrs (toMWEH m h).1 = List.range' h.length m.length := by
  induction m generalizing h with
  | nil => rfl
  | cons p r ih =>
    have := ih (h ++ [p.2])
    simp only [addrs, List.length_append, List.length_cons, List.length_nil] at this
    simp only [toMWEH, addrs, List.filterMap_cons, List.length_cons, List.range'_succ, this]

theorem count_addrs_cons (a : Nat) (k : Key) (v : Option Nat) (r : HMWE) :
    (addrs ((k, v) :: r)).count a = (if v = some a then 1 else 0) + (addrs r).count a := by
  cases v with
  | none => simp [addrs]
  | some b => by_cases h : b = a <;> simp [addrs, h, Nat.add_comm]

theorem count_addrs_insert (a : Nat) (k : Key) (v : Option Nat) (m : HMWE) :
    (addrs (insert k v m)).count a ≤ (addrs m).count a + (if v = some a then 1 else 0) := by
  induction m with
  | nil => simp only [insert, count_addrs_cons]; omega
  | cons p r ih =>
    obtain ⟨k', v'⟩ := p
    unfold insert
    split <;> simp only [count_addrs_cons] <;> omega

/-- alias-freedom of `OverrideBy`'s result and the origin of its addresses are both read off this inequality -/
theorem count_addrs_overrideBy (a : Nat) (m o : HMWE) :
    (addrs (overrideBy m o)).count a ≤ (addrs m).count a + (addrs o).count a := by
  induction o generalizing m with
  | nil => exact Nat.le_add_right _ _
  | cons p r ih =>
    have h1 := ih (insert p.1 p.2 m)
    have h2 := count_addrs_insert a p.1 p.2 m
    rw [show (p :: r) = (p.1, p.2) :: r from rfl, count_addrs_cons]
    exact Nat.le_trans h1 (by omega)

theorem deref_overrideBy (h : Cells) (m o : HMWE) : deref h (overrideBy m o) = overrideBy (deref h m) (deref h o) :=
  mapSnd_overrideBy (fun (v : Option Nat) => (match v with | some a => h[a]? | none => none : Option Str)) m o

/-- `l` holds, with multiplicity, only addresses of `old` and of the `n` cells allocated from `lo` on.  Every operation
    of the heap model satisfies this one bound, and it carries all that is said of addresses: they are valid in the
    grown heap (`Among.valid`), a map that was alias-free and valid before the allocation is alias-free (`Among.nodup`),
    and allocation after allocation composes (`Among.trans`). -/
def Among (l old : List Nat) (lo n : Nat) : Prop := ∀ a, l.count a ≤ old.count a + (List.range' lo n).count a

theorem Among.mem {l old : List Nat} {lo n a : Nat} (h : Among l old lo n) (ha : a ∈ l) :
    a ∈ old ∨ (lo ≤ a ∧ a < lo + n) := by
  have := h a
  simp only [← List.mem_range'_1, ← List.count_pos_iff] at ha ⊢
  omega

theorem Among.valid {m old : HMWE} {h ext : Cells} (ha : Among (addrs m) (addrs old) h.length ext.length)
    (hv : Valid h old) : Valid (h ++ ext) m :=
  valid_iff.2 fun a hm => by
    rw [List.length_append]
    rcases ha.mem hm with h1 | h1
    · exact Nat.lt_of_lt_of_le (valid_iff.1 hv a h1) (Nat.le_add_right _ _)
    · exact h1.2

theorem Among.nodup {l old : List Nat} {lo n : Nat} (h : Among l old lo n) (ho : old.Nodup) (hlt : ∀ a ∈ old, a < lo) :
    l.Nodup :=
  List.nodup_iff_count.2 fun a => by
    have h1 := h a
    have h2 := List.nodup_iff_count.1 ho a
    have h3 := List.nodup_iff_count.1 (List.nodup_range' (s := lo) (n := n)) a
    by_cases ha : a ∈ old
    · have : (List.range' lo n).count a = 0 :=
        List.count_eq_zero.2 fun hm => Nat.lt_irrefl _ (Nat.lt_of_lt_of_le (hlt a ha) (List.mem_range'_1.1 hm).1)
      omega
    · have := List.count_eq_zero.2 ha; omega

theorem Among.refl (l : List Nat) (lo : Nat) : Among l l lo 0 := fun _ => Nat.le_add_right _ _

theorem Among.trans {l m old : List Nat} {lo n k : Nat} (h1 : Among l m (lo + n) k) (h2 : Among m old lo n) :
    Among l old lo (n + k) := fun a => by
  have := h1 a
  have := h2 a
  rw [← List.range'_append_1, List.count_append]
  omega

theorem among_overrideBy_fresh {m o : HMWE} {lo k : Nat} (h : Among (addrs m) [] lo k) :
    Among (addrs (overrideBy m o)) (addrs o) lo k := fun a => by
  have := count_addrs_overrideBy a m o
  have := h a
  rw [List.count_nil] at this
  omega

theorem among_override_toMWEH (acc : HMWE) (vars : List (Key × Str)) (h : Cells) :
    Among (addrs (overrideBy acc (toMWEH vars h).1)) (addrs acc) h.length vars.length := fun a => by
  have := count_addrs_overrideBy a acc (toMWEH vars h).1
  rwa [toMWEH_addrs] at this

/-- the strings `Resolve` allocates, in order -/
def news (look : Look) (m : HMWE) : Cells :=
  m.filterMap fun kv => match kv.2 with | none => look kv.1 | some _ => none

theorem resolveH_heap (look : Look) (m : HMWE) (h : Cells) : (resolveH look m h).2 = h ++ news look m := by
  fun_induction resolveH look m h with
  | case1 h => exact (List.append_nil h).symm
  | case2 k a0 r h ih => exact ih
  | case3 k r h v hl ih => simp only [ih, news, List.filterMap_cons, hl, List.append_assoc, List.singleton_append]
  | case4 k r h hl ih => simp only [ih, news, List.filterMap_cons, hl]

theorem resolveH_addrs (look : Look) (m : HMWE) (h : Cells) :
    (addrs (resolveH look m h).1).Perm (addrs m ++ List.range' h.length (news look m).length) := by
  fun_induction resolveH look m h with
  | case1 h => exact .refl _
  | case2 k a0 r h ih => exact ih.cons a0
  | case3 k r h v hl ih =>
    simp only [news, List.filterMap_cons, hl, List.length_cons, List.range'_succ, List.length_append,
      List.length_nil] at ih ⊢
    exact (ih.cons _).trans List.perm_middle.symm
  | case4 k r h hl ih => simpa only [news, addrs, List.filterMap_cons, hl] using ih

theorem resolveH_among (look : Look) (m : HMWE) (h : Cells) :
    Among (addrs (resolveH look m h).1) (addrs m) h.length (news look m).length := fun a => by
  rw [(resolveH_addrs look m h).count_eq, List.count_append]; exact Nat.le_refl _

end CV.EnvLayers.Heap
