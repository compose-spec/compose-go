import ComposeVerif.Lemmas.DepGraph
/-!
# `newGraph` builds exactly the graph of enabled dependencies; which projects are accepted

`depAdj p v` = the dependencies of service `v` that are enabled services (what the property calls "the dependency
graph").  `build` succeeds iff every required dependency names an enabled service, and then its adjacency is `depAdj p`;
so `run p` answers "ok" iff no required dependency is missing and `depAdj p` has no closed walk (`accepted_iff`): both
conditions speak of membership only, not of the order in which the Go maps are iterated.
-/
namespace CV.DepGraph

def enabledDeps (en : List Name) (s : Svc) : List Name :=
  (s.deps.filter (fun d => en.contains d.name)).map (·.name)

def depAdj (p : Proj) (v : Name) : List Name :=
  match p.services.find? (·.name == v) with
  | some s => enabledDeps (p.services.map (·.name)) s
  | none => []

theorem mem_depAdj {p : Proj} {v c : Name} (h : c ∈ depAdj p v) :
    ∃ s ∈ p.services, s.name = v ∧ c ∈ enabledDeps (p.services.map (·.name)) s := by
  unfold depAdj at h
  cases hf : p.services.find? (·.name == v) with
  | none => rw [hf] at h; cases h
  | some s =>
    rw [hf] at h
    exact ⟨s, List.mem_of_find?_eq_some hf, eq_of_beq (List.find?_some (p := fun x : Svc => x.name == v) hf), h⟩

theorem mem_enabledDeps_iff {en : List Name} {s : Svc} {c : Name} :
    c ∈ enabledDeps en s ↔ (∃ d ∈ s.deps, d.name = c) ∧ c ∈ en := by
  simp only [enabledDeps, List.mem_map, List.mem_filter, List.contains_iff_mem]
  constructor
  · rintro ⟨d, ⟨hd, hen⟩, rfl⟩; exact ⟨⟨d, hd, rfl⟩, hen⟩
  · rintro ⟨⟨d, hd, rfl⟩, hen⟩; exact ⟨d, ⟨hd, hen⟩, rfl⟩

theorem scanDeps_spec (en dis : List Name) (l : List Dep) (es : List Name) :
    ((scanDeps en dis l es).1 = none ↔ ∀ d ∈ l, en.contains d.name = true ∨ d.required = false) ∧
    ((scanDeps en dis l es).1 = none →
      (scanDeps en dis l es).2 = es ++ (l.filter (fun d => en.contains d.name)).map (·.name)) := by
  induction l generalizing es with
  | nil => exact ⟨⟨fun _ => nofun, fun _ => rfl⟩, fun _ => (List.append_nil es).symm⟩
  | cons d r ih =>
    rw [scanDeps, List.forall_mem_cons]
    by_cases hen : en.contains d.name = true
    · rw [if_pos hen, List.filter_cons, if_pos hen, List.map_cons]
      refine ⟨(ih _).1.trans ⟨fun h => ⟨.inl hen, h⟩, And.right⟩, fun h => ((ih _).2 h).trans ?_⟩
      rw [List.append_assoc]; rfl
    · rw [if_neg hen, List.filter_cons, if_neg hen]
      by_cases hreq : d.required = true
      · rw [if_pos hreq]
        exact ⟨⟨nofun, fun h => h.1.elim (absurd · hen) (fun h' => by rw [hreq] at h'; cases h')⟩, nofun⟩
      · rw [if_neg hreq]
        exact ⟨(ih _).1.trans ⟨fun h => ⟨.inr (Bool.eq_false_iff.mpr hreq), h⟩, And.right⟩, (ih _).2⟩

theorem build_spec (en dis : List Name) (l : List Svc) (adj : List (Name × List Name)) :
    ((build en dis l adj).1 = none ↔ ∀ s ∈ l, ∀ d ∈ s.deps, en.contains d.name = true ∨ d.required = false) ∧
    ((build en dis l adj).1 = none → (build en dis l adj).2 = adj ++ l.map (fun s => (s.name, enabledDeps en s))) := by
  induction l generalizing adj with
  | nil => exact ⟨⟨fun _ => nofun, fun _ => rfl⟩, fun _ => (List.append_nil adj).symm⟩
  | cons s r ih =>
    rw [build, List.forall_mem_cons]
    have ⟨h1, h2⟩ := scanDeps_spec en dis s.deps []
    generalize scanDeps en dis s.deps [] = r0 at h1 h2
    obtain ⟨e, es⟩ := r0
    cases e with
    | some e => exact ⟨⟨nofun, fun h => nomatch h1.mpr h.1⟩, nofun⟩
    | none =>
      have hes : es = enabledDeps en s := (h2 rfl).trans (List.nil_append _)
      refine ⟨(ih _).1.trans ⟨fun h => ⟨h1.mp rfl, h⟩, And.right⟩, fun h => ((ih _).2 h).trans ?_⟩
      rw [List.append_assoc, hes]; rfl

theorem adjOf_map (l : List Svc) (f : Svc → List Name) (v : Name) :
    adjOf (l.map (fun s => (s.name, f s))) v = match l.find? (·.name == v) with | some s => f s | none => [] := by
  induction l with
  | nil => rfl
  | cons s r ih =>
    simp only [adjOf, List.map_cons, List.find?_cons] at ih ⊢
    by_cases h : (s.name == v) = true
    · simp [h]
    · simp only [h]
      exact ih

theorem build_is_depAdj (p : Proj) (h : (build (p.services.map (·.name)) p.disabled p.services []).1 = none) :
    ∀ v, adjOf (build (p.services.map (·.name)) p.disabled p.services []).2 v = depAdj p v := by
  intro v
  rw [(build_spec _ _ _ _).2 h, List.nil_append, adjOf_map]
  rfl

theorem depAdj_closed (p : Proj) : ∀ v ∈ p.services.map (·.name), ∀ c ∈ depAdj p v, c ∈ p.services.map (·.name) :=
  fun _ _ _ hc => let ⟨_, _, _, h⟩ := mem_depAdj hc; (mem_enabledDeps_iff.mp h).2

theorem depAdj_outside (p : Proj) (v : Name) (hv : v ∉ p.services.map (·.name)) : depAdj p v = [] :=
  List.eq_nil_iff_forall_not_mem.mpr fun _ hc =>
    let ⟨s, hs, hn, _⟩ := mem_depAdj hc; hv (List.mem_map.mpr ⟨s, hs, hn⟩)

theorem find_of_nodup (l : List Svc) (hnd : (l.map (·.name)).Nodup) (s : Svc) (hs : s ∈ l) :
    l.find? (·.name == s.name) = some s := by
  induction l with
  | nil => cases hs
  | cons a r ih =>
    rw [List.map_cons, List.nodup_cons] at hnd
    rcases List.mem_cons.mp hs with rfl | hr
    · exact List.find?_cons_of_pos (by exact beq_self_eq_true _)
    · rw [List.find?_cons_of_neg]
      · exact ih hnd.2 hr
      · exact fun he => hnd.1 (beq_iff_eq.mp he ▸ List.mem_map.mpr ⟨s, hr, rfl⟩)

theorem mem_depAdj_iff (p : Proj) (hnd : (p.services.map (·.name)).Nodup) (v c : Name) :
    c ∈ depAdj p v ↔
      ∃ s ∈ p.services, s.name = v ∧ (∃ d ∈ s.deps, d.name = c) ∧ c ∈ p.services.map (·.name) := by
  constructor
  · intro h; obtain ⟨s, hs, hn, hc⟩ := mem_depAdj h; exact ⟨s, hs, hn, mem_enabledDeps_iff.mp hc⟩
  · rintro ⟨s, hs, rfl, h⟩
    unfold depAdj
    rw [find_of_nodup p.services hnd s hs]
    exact mem_enabledDeps_iff.mpr h

theorem run_ok_iff (p : Proj) :
    (run p).cls = "ok" ↔ (build (p.services.map (·.name)) p.disabled p.services []).1 = none ∧
      checkCycle (p.services.map (·.name)) (depAdj p) = false := by
  have hadj := build_is_depAdj p
  simp only [run]
  generalize build (p.services.map (·.name)) p.disabled p.services [] = r0 at hadj ⊢
  obtain ⟨e, adj⟩ := r0
  cases e with
  | some e => cases e <;> simp
  | none =>
    simp only [show adjOf adj = depAdj p from funext (hadj rfl)]
    cases checkCycle (p.services.map (·.name)) (depAdj p) <;> simp

theorem accepted_iff (p : Proj) :
    (run p).cls = "ok" ↔
      (∀ s ∈ p.services, ∀ d ∈ s.deps, d.required = true → d.name ∈ p.services.map (·.name)) ∧
      (∀ v ∈ p.services.map (·.name), ∀ n, ¬ Reaches (depAdj p) n v v) := by
  rw [run_ok_iff, (build_spec _ _ _ _).1, checkCycle_false_iff _ _ (depAdj_closed p)]
  refine and_congr_left' (forall_congr' fun s => forall_congr' fun _ => forall_congr' fun d => forall_congr' fun _ => ?_)
  rw [List.contains_iff_mem]
  cases d.required <;> simp

end CV.DepGraph
