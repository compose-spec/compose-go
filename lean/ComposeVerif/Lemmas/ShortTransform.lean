import ComposeVerif.Lemmas.ShortDecode
import ComposeVerif.Lemmas.ValDecEq
import ComposeVerif.Lemmas.ShortTable
/-!
# The transformers of `transform.Canonical`, one by one (C03)

The list → mapping loops on distinct names; `transformX_idem` for each of the twelve handlers that do not walk into mappings
(with their invariants `AllMaps`, `DepOK`); the equations `leaf_<handler>` of the dispatch on the handler's name and
`if_ok_imp`, the step along its `if`-chain; inversions of one step of the walk (`bindOut_ok`, `transformKVs_cons_ok`,
`transformSeq_cons_ok`); `transform_leaf_at` and its instances `transform_at_<row>`.
-/
namespace CV.Short
open CV

deriving instance DecidableEq for Out

theorem bindOut_ok {α β : Type} {o : Out α} {f : α → Out β} {b : β} (h : bindOut o f = .ok b) :
    ∃ a, o = .ok a ∧ f a = .ok b := by
  cases o with
  | ok a => exact ⟨a, rfl, h⟩
  | err e => cases h
  | panic e => cases h

theorem networksList_distinct (names : List String) (acc : Val.KVs)
    (hnd : names.Nodup) (hdis : ∀ n ∈ names, n ∉ acc.map Prod.fst) :
    networksList (names.map Val.str) acc = .ok (acc ++ names.map (fun n => (n, Val.null))) :=
  insertEach networksList .ok Val.str (fun n => n) _ (fun _ => rfl) names
    (fun k _ r acc h => by rw [networksList, Val.insert_of_not_mem h]) acc (by simpa using hnd) hdis

def startedRequired : Val := .map [("condition", .str "service_started"), ("required", .bool true)]

theorem dependsList_distinct (names : List String) (acc : Val.KVs)
    (hnd : names.Nodup) (hdis : ∀ n ∈ names, n ∉ acc.map Prod.fst) :
    dependsList (names.map Val.str) acc = .ok (acc ++ names.map (fun n => (n, startedRequired))) :=
  insertEach dependsList .ok Val.str (fun n => n) _ (fun _ => rfl) names
    (fun k _ r acc h => by rw [dependsList, Val.insert_of_not_mem h]; rfl) acc (by simpa using hnd) hdis

theorem portEntries_maps (ign : Bool) (ms : List Val.KVs) (acc : List Val) :
    portEntries ign (ms.map Val.map) acc = some (.ok (acc ++ ms.map Val.map)) := by
  induction ms generalizing acc with
  | nil => simp [portEntries]
  | cons m r ih => simp [portEntries, ih]

theorem hasKey_append_self (k : String) (x : Val) (m : Val.KVs) : hasKey k (m ++ [(k, x)]) = true := by
  rw [hasKey, Val.lookup_append, Val.lookup_cons_self]
  cases Val.lookup k m <;> rfl

theorem hasKey_append (k : String) (m m' : Val.KVs) (h : hasKey k m = true) : hasKey k (m ++ m') = true := by
  rw [hasKey, Val.lookup_append]
  cases h' : Val.lookup k m with
  | none => rw [hasKey, h'] at h; cases h
  | some _ => rfl

theorem envFileValue_idem (v : Val) : envFileValue (envFileValue v) = envFileValue v := by
  cases v with
  | str s => simp [envFileValue, hasKey, Val.lookup]
  | map m =>
    simp only [envFileValue]
    by_cases hk : hasKey "required" m = true
    · simp [hk]
    · simp [hk, hasKey_append_self]
  | _ => rfl

def AllMaps (l : List Val) : Prop := ∀ x ∈ l, ∃ m, x = Val.map m

theorem allMaps_exists (l : List Val) (h : AllMaps l) : ∃ ms : List Val.KVs, l = ms.map Val.map := by
  induction l with
  | nil => exact ⟨[], rfl⟩
  | cons x r ih =>
    obtain ⟨m, hm⟩ := h x (by simp)
    obtain ⟨ms, hms⟩ := ih (fun y hy => h y (by simp [hy]))
    exact ⟨m :: ms, by simp [hm, hms]⟩

theorem allMaps_append_ports (acc : List Val) (l : List PortCfg) (h : AllMaps acc) : AllMaps (acc ++ l.map encodePort) := by
  intro x hx
  simp only [List.mem_append, List.mem_map] at hx
  rcases hx with hx | ⟨p, _, hp⟩
  · exact h x hx
  · exact ⟨_, by rw [← hp]; rfl⟩

theorem portEntries_allMaps (ign : Bool) (l acc r : List Val) (hacc : AllMaps acc)
    (h : portEntries ign l acc = some (.ok r)) : AllMaps r := by
  induction l generalizing acc with
  | nil => simp [portEntries] at h; subst h; exact hacc
  | cons e t ih =>
    cases e with
    | int i =>
      simp only [portEntries] at h
      split at h
      · simp at h
      · exact ih _ (allMaps_append_ports _ _ hacc) h
    | str s =>
      simp only [portEntries] at h
      split at h
      · split at h <;> simp at h
      · exact ih _ (allMaps_append_ports _ _ hacc) h
    | map m =>
      simp only [portEntries] at h
      apply ih _ _ h
      intro x hx
      simp only [List.mem_append, List.mem_singleton] at hx
      rcases hx with hx | hx
      · exact hacc x hx
      · exact ⟨m, hx⟩
    | _ => simp [portEntries] at h

theorem dependsDefaults_keys (d : Val.KVs) :
    hasKey "condition" (dependsDefaults d) = true ∧ hasKey "required" (dependsDefaults d) = true := by
  unfold dependsDefaults
  cases hc : hasKey "condition" d
  · simp only [Bool.false_eq_true, if_false]
    cases hr : hasKey "required" (d ++ [("condition", Val.str "service_started")])
    · simp only [Bool.false_eq_true, if_false]
      exact ⟨hasKey_append _ _ _ (hasKey_append_self _ _ _), hasKey_append_self _ _ _⟩
    · simp only [if_true]
      exact ⟨hasKey_append_self _ _ _, hr⟩
  · simp only [if_true]
    cases hr : hasKey "required" d
    · simp only [Bool.false_eq_true, if_false]
      exact ⟨hasKey_append _ _ _ hc, hasKey_append_self _ _ _⟩
    · simp only [if_true]
      exact ⟨hc, hr⟩

theorem dependsDefaults_fix (d : Val.KVs) (h1 : hasKey "condition" d = true) (h2 : hasKey "required" d = true) :
    dependsDefaults d = d := by
  simp [dependsDefaults, h1, h2]

def DepOK (r : Val.KVs) : Prop :=
  ∀ p ∈ r, ∃ d, p.2 = Val.map d ∧ hasKey "condition" d = true ∧ hasKey "required" d = true

theorem dependsMap_of_DepOK (r : Val.KVs) (h : DepOK r) : dependsMap r = .ok r := by
  induction r with
  | nil => rfl
  | cons p t ih =>
    obtain ⟨k, e⟩ := p
    obtain ⟨d, hd, h1, h2⟩ := h (k, e) (by simp)
    simp only at hd
    subst hd
    simp [dependsMap, ih (fun q hq => h q (by simp [hq])), dependsDefaults_fix d h1 h2]

theorem dependsMap_cons_ok {k : String} {e : Val} {t r : Val.KVs} (h : dependsMap ((k, e) :: t) = .ok r) :
    ∃ d r', e = .map d ∧ dependsMap t = .ok r' ∧ r = (k, .map (dependsDefaults d)) :: r' := by
  cases e with
  | map d =>
    simp only [dependsMap] at h
    cases ht : dependsMap t with
    | ok r' => rw [ht] at h; cases h; exact ⟨d, r', rfl, rfl, rfl⟩
    | err x => rw [ht] at h; cases h
    | panic x => rw [ht] at h; cases h
  | _ => simp [dependsMap] at h

theorem DepOK_of_dependsMap (m r : Val.KVs) (h : dependsMap m = .ok r) : DepOK r := by
  induction m generalizing r with
  | nil => cases h; exact nofun
  | cons p t ih =>
    obtain ⟨k, e⟩ := p
    obtain ⟨d, r', rfl, ht, rfl⟩ := dependsMap_cons_ok h
    intro q hq
    rcases List.mem_cons.mp hq with rfl | hq
    · exact ⟨_, rfl, (dependsDefaults_keys d).1, (dependsDefaults_keys d).2⟩
    · exact ih r' ht q hq

theorem DepOK_of_dependsList (l : List Val) (acc r : Val.KVs) (hacc : DepOK acc) (h : dependsList l acc = .ok r) : DepOK r := by
  induction l generalizing acc with
  | nil => simp [dependsList] at h; subst h; exact hacc
  | cons e t ih =>
    cases e with
    | str k =>
      simp only [dependsList] at h
      apply ih _ _ h
      intro p hp
      rcases Val.mem_insert hp with hp | hp
      · subst hp; exact ⟨_, rfl, by decide, by decide⟩
      · exact hacc p hp
    | _ => simp [dependsList] at h

theorem transformPorts_long_id (ign : Bool) (ms : List Val.KVs) :
    transformPorts ign (.seq (ms.map Val.map)) = .ok (.seq (ms.map Val.map)) := by
  simp [transformPorts, portEntries_maps]

/-! ## idempotence of the non-recursive transformers, for either value of `ignoreParseError` (with `true` a transformer
may hand its input back unparsed: then the second pass is the first) -/

theorem transformFileMount_idem (v w : Val) (h : transformFileMount v = .ok w) : transformFileMount w = .ok w := by
  cases v <;> simp [transformFileMount] at h <;> subst h <;> rfl
theorem transformInclude_idem (v w : Val) (h : transformInclude v = .ok w) : transformInclude w = .ok w := by
  cases v <;> simp [transformInclude] at h <;> subst h <;> rfl
theorem transformUlimits_idem (v w : Val) (h : transformUlimits v = .ok w) : transformUlimits w = .ok w := by
  cases v <;> simp [transformUlimits] at h <;> subst h <;> rfl
theorem transformStringOrList_idem (v w : Val) (h : transformStringOrList v = .ok w) : transformStringOrList w = .ok w := by
  cases v <;> simp [transformStringOrList] at h <;> subst h <;> rfl

theorem transformVolumeMount_idem (ign : Bool) (v w : Val) (h : transformVolumeMount ign v = .ok w) :
    transformVolumeMount ign w = .ok w := by
  cases v with
  | str s =>
    have h0 := h
    simp only [transformVolumeMount] at h
    split at h
    · split at h
      · cases h; exact h0
      · cases h
    · cases h; rfl
  | map m => cases h; rfl
  | _ => cases h

theorem transformDeviceMapping_idem (ign : Bool) (v w : Val) (h : transformDeviceMapping ign v = .ok w) :
    transformDeviceMapping ign w = .ok w := by
  cases v with
  | str s =>
    simp only [transformDeviceMapping] at h
    split at h
    · cases h; rfl
    · cases h; rfl
    · cases h; rfl
    · split at h
      · cases h; rfl
      · cases h
  | map m => cases h; rfl
  | _ => cases h

theorem transformSSH_idem (v w : Val) (h : transformSSH v = .ok w) : transformSSH w = .ok w := by
  cases v with
  | seq l =>
    simp only [transformSSH] at h
    split at h
    · cases h; rfl
    · cases h
    · cases h
  | map m => cases h; rfl
  | _ => cases h

theorem transformServiceNetworks_idem (v w : Val) (h : transformServiceNetworks v = .ok w) : transformServiceNetworks w = .ok w := by
  cases v with
  | seq l =>
    simp only [transformServiceNetworks] at h
    split at h
    · cases h; rfl
    · cases h
    · cases h
  | _ => cases h; rfl

theorem transformKeyValue_idem (ign : Bool) (v w : Val) (h : transformKeyValue ign v = .ok w) :
    transformKeyValue ign w = .ok w := by
  cases v with
  | seq l =>
    have h0 := h
    simp only [transformKeyValue] at h
    split at h
    · cases h; exact h0
    · cases h; rfl
    · cases h
    · cases h
  | map m => cases h; rfl
  | _ => cases h

theorem transformEnvFile_idem (v w : Val) (h : transformEnvFile v = .ok w) : transformEnvFile w = .ok w := by
  cases v with
  | str s => cases h; simp [transformEnvFile, envFileValue_idem]
  | seq l => cases h; simp [transformEnvFile, envFileValue_idem]
  | _ => cases h

/-- the result is the input handed back, or a list of mappings, which the transformer leaves unchanged -/
theorem transformPorts_idem (ign : Bool) (v w : Val) (h : transformPorts ign v = .ok w) : transformPorts ign w = .ok w := by
  cases v with
  | seq l =>
    have h0 := h
    simp only [transformPorts] at h
    split at h
    · cases h; exact h0
    · next r heq =>
      cases h
      obtain ⟨ms, hms⟩ := allMaps_exists r (portEntries_allMaps ign l [] r (by intro x hx; cases hx) heq)
      rw [hms]
      exact transformPorts_long_id ign ms
    · cases h
    · cases h
  | _ => cases h

/-- the three-way `match` on the loop's outcome that the list transformers end with is `bindOut` -/
theorem transformDependsOn_seq (l : List Val) :
    transformDependsOn (.seq l) = bindOut (dependsList l []) (fun r => .ok (.map r)) := by
  rw [transformDependsOn]; cases dependsList l [] <;> rfl
theorem transformDependsOn_map (m : Val.KVs) :
    transformDependsOn (.map m) = bindOut (dependsMap m) (fun r => .ok (.map r)) := by
  rw [transformDependsOn]; cases dependsMap m <;> rfl

theorem transformDependsOn_idem (v w : Val) (h : transformDependsOn v = .ok w) : transformDependsOn w = .ok w := by
  have fix : ∀ r, DepOK r → transformDependsOn (.map r) = .ok (.map r) := fun r hr => by
    rw [transformDependsOn_map, dependsMap_of_DepOK r hr]; rfl
  cases v with
  | map m =>
    rw [transformDependsOn_map] at h
    obtain ⟨r, hm, hw⟩ := bindOut_ok h
    cases hw
    exact fix r (DepOK_of_dependsMap m r hm)
  | seq l =>
    rw [transformDependsOn_seq] at h
    obtain ⟨r, hm, hw⟩ := bindOut_ok h
    cases hw
    exact fix r (DepOK_of_dependsList l [] r nofun hm)
  | _ => simp [transformDependsOn] at h

/-! `leaf` at each handler that does not walk into mappings (`unfold`, not `simp [leaf]`, which is slow to check) -/

theorem leaf_fileMount (ign : Bool) (v : Val) : leaf (some "transformFileMount") ign v = transformFileMount v := by
  unfold leaf; simp only [String.reduceEq, ↓reduceIte]
theorem leaf_keyValue (ign : Bool) (v : Val) : leaf (some "transformKeyValue") ign v = transformKeyValue ign v := by
  unfold leaf; simp only [String.reduceEq, ↓reduceIte]
theorem leaf_dependsOn (ign : Bool) (v : Val) : leaf (some "transformDependsOn") ign v = transformDependsOn v := by
  unfold leaf; simp only [String.reduceEq, ↓reduceIte]
theorem leaf_envFile (ign : Bool) (v : Val) : leaf (some "transformEnvFile") ign v = transformEnvFile v := by
  unfold leaf; simp only [String.reduceEq, ↓reduceIte]
theorem leaf_serviceNetworks (ign : Bool) (v : Val) : leaf (some "transformServiceNetworks") ign v = transformServiceNetworks v := by
  unfold leaf; simp only [String.reduceEq, ↓reduceIte]
theorem leaf_volumeMount (ign : Bool) (v : Val) : leaf (some "transformVolumeMount") ign v = transformVolumeMount ign v := by
  unfold leaf; simp only [String.reduceEq, ↓reduceIte]
theorem leaf_stringOrList (ign : Bool) (v : Val) : leaf (some "transformStringOrList") ign v = transformStringOrList v := by
  unfold leaf; simp only [String.reduceEq, ↓reduceIte]
theorem leaf_deviceMapping (ign : Bool) (v : Val) : leaf (some "transformDeviceMapping") ign v = transformDeviceMapping ign v := by
  unfold leaf; simp only [String.reduceEq, ↓reduceIte]
theorem leaf_ports (ign : Bool) (v : Val) : leaf (some "transformPorts") ign v = transformPorts ign v := by
  unfold leaf; simp only [String.reduceEq, ↓reduceIte]
theorem leaf_ssh (ign : Bool) (v : Val) : leaf (some "transformSSH") ign v = transformSSH v := by
  unfold leaf; simp only [String.reduceEq, ↓reduceIte]
theorem leaf_ulimits (ign : Bool) (v : Val) : leaf (some "transformUlimits") ign v = transformUlimits v := by
  unfold leaf; simp only [String.reduceEq, ↓reduceIte]
theorem leaf_include (ign : Bool) (v : Val) : leaf (some "transformInclude") ign v = transformInclude v := by
  unfold leaf; simp only [String.reduceEq, ↓reduceIte]

/-- success with result `r` carried from one conditional to another with the same condition, branch by branch (the
`then` branch may use the condition): the step along the `if h = "…"` chain of `leaf` -/
theorem if_ok_imp {c : Prop} [Decidable c] {a a' b b' : Out Val} {r : Val} (ha : c → a = .ok r → a' = .ok r)
    (hb : b = .ok r → b' = .ok r) : (if c then a else b) = .ok r → (if c then a' else b') = .ok r := by
  split
  · exact ha ‹_›
  · exact hb

theorem transformKVs_cons_ok {ign : Bool} {p : TPath} {k : String} {e : Val} {t r : Val.KVs}
    (h : transformKVs ign p ((k, e) :: t) = .ok r) :
    ∃ e' t', transform ign (TPath.nextK p k) e = .ok e' ∧ transformKVs ign p t = .ok t' ∧ r = (k, e') :: t' := by
  simp only [transformKVs] at h
  split at h
  · split at h
    · cases h; exact ⟨_, _, ‹_›, ‹_›, rfl⟩
    · cases h
    · cases h
  · cases h
  · cases h

theorem transformSeq_cons_ok {ign : Bool} {p : TPath} {e : Val} {t r : List Val}
    (h : transformSeq ign p (e :: t) = .ok r) :
    ∃ e' t', transform ign (TPath.nextK p "[]") e = .ok e' ∧ transformSeq ign p t = .ok t' ∧ r = e' :: t' := by
  simp only [transformSeq] at h
  split at h
  · split at h
    · cases h; exact ⟨_, _, ‹_›, ‹_›, rfl⟩
    · cases h
    · cases h
  · cases h
  · cases h

theorem transform_leaf_at (ign : Bool) (p : TPath) (h : String) (v : Val)
    (hp : TPath.firstMatch CV.Gen.transformers p = some h) (hnr : recursesOnMap (some h) = false) :
    transform ign p v = leaf (some h) ign v := by
  cases v <;> simp [transform, hp, hnr]

/-! `transform` at the rows with a handler that does not walk into mappings: the handler itself -/

theorem transform_at_ports (ign : Bool) (n : String) (v : Val) :
    transform ign ["services", n, "ports"] v = transformPorts ign v := by
  rw [transform_leaf_at ign _ _ v (dispatch_ports n) (by simp [recursesOnMap]), leaf_ports]
theorem transform_at_volume (ign : Bool) (n i : String) (v : Val) :
    transform ign ["services", n, "volumes", i] v = transformVolumeMount ign v := by
  rw [transform_leaf_at ign _ _ v (dispatch_volume n i) (by simp [recursesOnMap]), leaf_volumeMount]
theorem transform_at_device (ign : Bool) (n i : String) (v : Val) :
    transform ign ["services", n, "devices", i] v = transformDeviceMapping ign v := by
  rw [transform_leaf_at ign _ _ v (dispatch_device n i) (by simp [recursesOnMap]), leaf_deviceMapping]
theorem transform_at_secret (ign : Bool) (n i : String) (v : Val) :
    transform ign ["services", n, "secrets", i] v = transformFileMount v := by
  rw [transform_leaf_at ign _ _ v (dispatch_secret n i) (by simp [recursesOnMap]), leaf_fileMount]
theorem transform_at_config (ign : Bool) (n i : String) (v : Val) :
    transform ign ["services", n, "configs", i] v = transformFileMount v := by
  rw [transform_leaf_at ign _ _ v (dispatch_config n i) (by simp [recursesOnMap]), leaf_fileMount]
theorem transform_at_buildSecret (ign : Bool) (n i : String) (v : Val) :
    transform ign ["services", n, "build", "secrets", i] v = transformFileMount v := by
  rw [transform_leaf_at ign _ _ v (dispatch_buildSecret n i) (by simp [recursesOnMap]), leaf_fileMount]
theorem transform_at_buildSSH (ign : Bool) (n : String) (v : Val) :
    transform ign ["services", n, "build", "ssh"] v = transformSSH v := by
  rw [transform_leaf_at ign _ _ v (dispatch_buildSSH n) (by simp [recursesOnMap]), leaf_ssh]
theorem transform_at_additionalContexts (ign : Bool) (n : String) (v : Val) :
    transform ign ["services", n, "build", "additional_contexts"] v = transformKeyValue ign v := by
  rw [transform_leaf_at ign _ _ v (dispatch_additionalContexts n) (by simp [recursesOnMap]), leaf_keyValue]
theorem transform_at_envFile (ign : Bool) (n : String) (v : Val) :
    transform ign ["services", n, "env_file"] v = transformEnvFile v := by
  rw [transform_leaf_at ign _ _ v (dispatch_envFile n) (by simp [recursesOnMap]), leaf_envFile]
theorem transform_at_dependsOn (ign : Bool) (n : String) (v : Val) :
    transform ign ["services", n, "depends_on"] v = transformDependsOn v := by
  rw [transform_leaf_at ign _ _ v (dispatch_dependsOn n) (by simp [recursesOnMap]), leaf_dependsOn]
theorem transform_at_networks (ign : Bool) (n : String) (v : Val) :
    transform ign ["services", n, "networks"] v = transformServiceNetworks v := by
  rw [transform_leaf_at ign _ _ v (dispatch_networks n) (by simp [recursesOnMap]), leaf_serviceNetworks]
theorem transform_at_dns (ign : Bool) (n : String) (v : Val) :
    transform ign ["services", n, "dns"] v = transformStringOrList v := by
  rw [transform_leaf_at ign _ _ v (dispatch_dns n) (by simp [recursesOnMap]), leaf_stringOrList]

end CV.Short
