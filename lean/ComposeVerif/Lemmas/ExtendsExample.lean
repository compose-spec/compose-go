import ComposeVerif.Lemmas.ExtendsEnv
/-!
# A two-file example environment for the extends model

Main file `/proj/compose.yaml`: `b` extends `c`, `c` extends `b` of `o.yaml`; `o.yaml`: `b` extends `d`, `d` is plain — the chain
`b → c → b@o.yaml → d@o.yaml` is acyclic and passes twice through services of the same name.  The merge step is a stand-in
(own attributes first); `isOk` / `isErr` / `isPanic` make the outcome of a run decidable.
-/
namespace CV.Extends.Neg
open CV CV.Val CV.Extends

def isOk {α : Type} : Out α → Bool
  | .ok _ => true
  | _ => false

def isErr {α : Type} (cls : String) : Out α → Bool
  | .err c => c == cls
  | _ => false

theorem isErr_iff {α : Type} {cls : String} {r : Out α} : isErr cls r = true ↔ r = .err cls := by
  cases r <;> simp [isErr]

def isPanic {α : Type} (site : String) : Out α → Bool
  | .panic s => s == site
  | _ => false

def strAt (k : String) (m : KVs) : String :=
  match lookup k m with
  | some (.str s) => s
  | _ => ""

/-- own attributes first, then the base's (first match wins on lookup): a stand-in for ExtendService -/
def simpleExtend (base over : KVs) : Out KVs := .ok (over ++ base)

def oYaml : KVs :=
  [("services", .map [("b", .map [("extends", .str "d"), ("cap_add", .str "CAP_BO")]),
                      ("d", .map [("image", .str "id")])])]

def env : Env := { mainFile := "/proj/compose.yaml", fs := [("o.yaml", .ok oYaml false)], extend := simpleExtend }

def dict : KVs :=
  [("services", .map [("b", .map [("extends", .str "c"), ("image", .str "ib")]),
                      ("c", .map [("extends", .map [("service", .str "b"), ("file", .str "o.yaml")])])])]

end CV.Extends.Neg

namespace CV.Extends
open CV CV.Val

theorem negEnv_panicFree : PanicFree Neg.env := by
  constructor
  · intro b svc s h; cases h
  · intro f s h
    obtain ⟨r, h1, h2⟩ := h
    simp only [Neg.env, fsLookup] at h1
    split at h1
    · injection h1 with h1; subst h1; cases h2
    · cases h1

end CV.Extends
