import ComposeVerif.Model.Dotenv
import ComposeVerif.Lemmas.Assoc
/-!
# C18 — the character classes of the env-file scanner and its result map

`okChar` (what the key scan steps over) and `badChar` (what it rejects), how `isSpaceU`, `isSpaceNB`, `isSpaceRE`, `isKeyRune`
and the delimiters exclude one another; `put` / `get` / `mergeInto` as `Lemmas/Assoc.lean`'s operations.  Facts about
characters and the map alone, which every other env-file lemma file uses; needs the model only.
-/
namespace CV.Dotenv
open CV CV.Template

/-- characters the key scanner steps over -/
def okChar (c : Char) : Bool := isKeyRune c || isSpaceNB c
/-- characters the key scanner rejects -/
def badChar (c : Char) : Bool := !isKeyRune c && !isSpaceNB c && c != '=' && c != ':' && c != '\n'

/-- `unicode.IsSpace` is `parser.go:isSpace` plus the line feed; once the line-feed test is decided the two
    disjunctions are the same term -/
theorem isSpaceU_eq (c : Char) : isSpaceU c = (isSpaceNB c || c == '\n') := by
  simp only [isSpaceU, isSpaceNB]
  cases c == '\n' <;> simp only [Bool.or_false, Bool.or_true, Bool.true_or]

theorem isSpaceNB_isSpaceU {c : Char} (h : isSpaceNB c = true) : isSpaceU c = true := by
  rw [isSpaceU_eq, h]; rfl

theorem isSpaceRE_isSpaceU {c : Char} (h : isSpaceRE c = true) : isSpaceU c = true := by
  simp only [isSpaceRE, Bool.or_eq_true, beq_iff_eq] at h
  simp only [isSpaceU, Bool.or_eq_true, beq_iff_eq]
  rcases h with ((((h | h) | h) | h) | h) <;> simp [h]

theorem isSpaceU_not_key {c : Char} (h : isSpaceU c = true) : isKeyRune c = false := by
  simp only [isSpaceU, Bool.or_eq_true, beq_iff_eq] at h
  rcases h with (((((((h | h) | h) | h) | h) | h) | h) | h) <;> subst h <;> decide

theorem key_not_spaceU {c : Char} (h : isKeyRune c = true) : isSpaceU c = false := by
  cases hs : isSpaceU c with
  | false => rfl
  | true => rw [isSpaceU_not_key hs] at h; cases h

theorem key_not_spaceNB {c : Char} (h : isKeyRune c = true) : isSpaceNB c = false := by
  cases hs : isSpaceNB c with
  | false => rfl
  | true => rw [isSpaceU_not_key (isSpaceNB_isSpaceU hs)] at h; cases h

theorem key_not_spaceRE {c : Char} (h : isKeyRune c = true) : isSpaceRE c = false := by
  cases hs : isSpaceRE c with
  | false => rfl
  | true => rw [isSpaceU_not_key (isSpaceRE_isSpaceU hs)] at h; cases h

theorem key_not_delim {c : Char} (h : isKeyRune c = true) : (c == '=' || c == ':') = false ∧ (c == '\n') = false := by
  refine ⟨?_, ?_⟩
  · cases hd : (c == '=' || c == ':') with
    | false => rfl
    | true =>
      simp only [Bool.or_eq_true, beq_iff_eq] at hd
      rcases hd with hd | hd <;> subst hd <;> revert h <;> decide
  · cases hd : (c == '\n') with
    | false => rfl
    | true =>
      simp only [beq_iff_eq] at hd
      subst hd; revert h; decide

theorem key_valid_of_ok {key : Str} (h1 : key.all okChar = true) (h2 : key.any isSpaceU = false) : key.all isKeyRune = true := by
  rw [List.all_eq_true] at h1 ⊢
  intro c hc
  have hs : isSpaceU c = false := by
    cases hs : isSpaceU c
    · rfl
    · rw [List.any_eq_true.mpr ⟨c, hc, hs⟩] at h2; cases h2
  have := h1 c hc
  rw [okChar, Bool.or_eq_true] at this
  rcases this with h | h
  · exact h
  · rw [isSpaceNB_isSpaceU h] at hs; cases hs

theorem key_all_ok {k : Str} (h : k.all isKeyRune = true) : k.all okChar = true := by
  rw [List.all_eq_true] at h ⊢
  intro c hc
  rw [okChar, h c hc]; rfl

theorem key_no_space {k : Str} (h : k.all isKeyRune = true) : k.any isSpaceU = false := by
  rw [Bool.eq_false_iff]
  intro ha
  obtain ⟨c, hc, hs⟩ := List.any_eq_true.mp ha
  rw [key_not_spaceU (List.all_eq_true.mp h c hc)] at hs
  cases hs

theorem exportKw_key : ∀ c ∈ exportKw, isKeyRune c = true := by decide

theorem badChar_not_spaceU {c : Char} (h : badChar c = true) : isSpaceU c = false := by
  simp only [badChar, Bool.and_eq_true, Bool.not_eq_true', bne_iff_ne, ne_eq] at h
  rw [isSpaceU_eq, h.1.1.1.2, beq_eq_false_iff_ne.mpr h.2]; rfl

theorem badChar_not_ok {c : Char} (h : badChar c = true) : okChar c = false ∧ (c == '=' || c == ':' || c == '\n') = false := by
  simp only [badChar, Bool.and_eq_true, Bool.not_eq_true', bne_iff_ne, ne_eq] at h
  obtain ⟨⟨⟨⟨h1, h2⟩, h3⟩, h4⟩, h5⟩ := h
  exact ⟨by rw [okChar, h1, h2]; rfl, by simp [h3, h4, h5]⟩

/-- the result map is a Go map: `get`, `put`, `mergeInto` are the functions of `Lemmas/Assoc.lean` at `List Char` -/
theorem get_eq (m : Map) (k : Str) : get m k = Assoc.lookup k m := by
  induction m with
  | nil => rfl
  | cons e r ih => rw [get, ih]; rfl

theorem put_eq (m : Map) (k v : Str) : put m k v = Assoc.insert k v m := by
  induction m with
  | nil => rfl
  | cons e r ih => rw [put, ih]; rfl

theorem mergeInto_eq (m env : Map) : mergeInto m env = Assoc.insertAll env m := by
  induction env generalizing m with
  | nil => rfl
  | cons e r ih => rw [mergeInto, ih, put_eq]; rfl

theorem get_eq_lookup : ∀ (m : Map) (k : Str), get m k = List.lookup k m :=
  fun m k => (get_eq m k).trans (Assoc.lookup_eq_list k m)

theorem get_put_same_lemma (m : Map) (k v : Str) : get (put m k v) k = some v := by
  rw [get_eq, put_eq]; exact Assoc.lookup_insert_self k v m

theorem get_put_other_lemma (m : Map) (k k' v : Str) (h : k' ≠ k) : get (put m k v) k' = get m k' := by
  rw [get_eq, put_eq, get_eq]; exact Assoc.lookup_insert_ne h v m

theorem mem_put : ∀ {m : Map} {k v : Str} {kv : Str × Str}, kv ∈ put m k v → kv = (k, v) ∨ kv ∈ m :=
  fun {m k v _} h => Assoc.mem_insert (put_eq m k v ▸ h)

theorem mem_mergeInto : ∀ {env m : Map} {kv : Str × Str}, kv ∈ mergeInto m env → kv ∈ env ∨ kv ∈ m
  | [], _, _, h => Or.inr h
  | (k, v) :: env, m, kv, h => by
    rcases mem_mergeInto (env := env) h with h | h
    · exact Or.inl (List.mem_cons_of_mem _ h)
    · rcases mem_put h with rfl | h
      · exact Or.inl (List.mem_cons_self ..)
      · exact Or.inr h

theorem put_keys_nodup_lemma (m : Map) (k v : Str) (h : (m.map Prod.fst).Nodup) : ((put m k v).map Prod.fst).Nodup := by
  rw [put_eq]; exact Assoc.nodup_insert h

end CV.Dotenv
