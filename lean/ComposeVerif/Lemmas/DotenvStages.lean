import ComposeVerif.Lemmas.DotenvClasses
import ComposeVerif.Lemmas.Scan
import ComposeVerif.Lemmas.FuelLe
/-!
# C18 — the stages of the env-file parser as list functions, and the statement loop on any input

Every index-style stage of `Model/Dotenv.lean` (checked slicing, panic branches, counters, fuel of `getStatementStart`) is a
list function, by one equation: `stmtStart_eq` (`stmtL`), `locateKey_eq` (`keyL`), `quotedLoop_eq` (`qscan`),
`extractValue_eq` (`valueL`); `stepL` is what one iteration of the loop does in those terms (`parseLoop_step`), and
nothing after it unfolds the model.  On ANY input: `parseLoop_inv`, `parseLoop_eq_run`, and the loop without fuel,
`parseRun`.  Needs the model only.
-/
namespace CV.Dotenv
open CV CV.Template

/-! ## Go's `strings.IndexFunc` and checked slices as `dropWhile` / `takeWhile` (over `Lemmas/ScanRun.lean`) -/

theorem dropWhile_head_neg {p : Char → Bool} {c : Char} {r : Str} (h : p c = false) : (c :: r).dropWhile p = c :: r := by
  simp [List.dropWhile_cons, h]

theorem indexFunc_eq (p : Char → Bool) : ∀ (s : Str) (i : Nat), indexFunc p s i =
    match s.dropWhile (fun c => !p c) with
    | [] => none
    | _ :: _ => some (i + (s.takeWhile (fun c => !p c)).length)
  | [], _ => rfl
  | c :: cs, i => by
    rw [indexFunc]
    by_cases hp : p c = true
    · simp [hp]
    · have hn : (!p c) = true := by simpa using hp
      rw [if_neg hp, indexFunc_eq p cs (i + 1), List.dropWhile_cons_of_pos (p := fun c => !p c) hn,
        List.takeWhile_cons_of_pos (p := fun c => !p c) hn, List.length_cons, Nat.add_assoc, Nat.add_comm 1]

theorem sliceFrom_le {s : Str} {i : Nat} (h : i ≤ s.length) : sliceFrom s i = some (s.drop i) := by
  simp [sliceFrom, h]

theorem sliceTo_le {s : Str} {i : Nat} (h : i ≤ s.length) : sliceTo s i = some (s.take i) := by
  simp [sliceTo, h]

theorem sliceFrom_takeWhile (q : Char → Bool) (s : Str) : sliceFrom s (s.takeWhile q).length = some (s.dropWhile q) := by
  rw [sliceFrom_le (Scan.takeWhile_length_le s), Scan.drop_takeWhile]

theorem sliceTo_takeWhile (q : Char → Bool) (s : Str) : sliceTo s (s.takeWhile q).length = some (s.takeWhile q) := by
  rw [sliceTo_le (Scan.takeWhile_length_le s), Scan.take_takeWhile]

/-! ## `getStatementStart` -/

/-- fuel-free, index-free statement start: skip white space and comment lines -/
def stmtL : Bool → Str → Str
  | _, [] => []
  | true, c :: cs => if c == '\n' then stmtL false cs else stmtL true cs
  | false, c :: cs => if isSpaceU c then stmtL false cs else if c == '#' then stmtL true cs else c :: cs

theorem stmtL_dropWhile : ∀ s : Str, stmtL false s = stmtL false (s.dropWhile isSpaceU)
  | [] => rfl
  | c :: cs => by
    by_cases h : isSpaceU c = true
    · rw [List.dropWhile_cons_of_pos h, stmtL, if_pos h]; exact stmtL_dropWhile cs
    · rw [List.dropWhile_cons_of_neg h]

theorem stmtL_comment : ∀ s : Str, stmtL true s = stmtL false (s.dropWhile (fun c => !(c == '\n')))
  | [] => rfl
  | c :: cs => by
    by_cases h : (c == '\n') = true
    · have hc : c = '\n' := by simpa using h
      subst hc
      simp [stmtL, isSpaceU]
    · have e : List.dropWhile (fun c => !(c == '\n')) (c :: cs) = List.dropWhile (fun c => !(c == '\n')) cs := by
        simp [List.dropWhile_cons, h]
      rw [e, stmtL, if_neg h]; exact stmtL_comment cs

theorem stmtL_length_le : ∀ (b : Bool) (s : Str), (stmtL b s).length ≤ s.length
  | _, [] => by simp [stmtL]
  | true, c :: cs => by
    unfold stmtL; split
    · have := stmtL_length_le false cs; simp; omega
    · have := stmtL_length_le true cs; simp; omega
  | false, c :: cs => by
    unfold stmtL; split
    · have := stmtL_length_le false cs; simp; omega
    · split
      · have := stmtL_length_le true cs; simp; omega
      · simp

theorem stmtStart_succ (n : Nat) (s : Str) : stmtStart (n + 1) s =
    match s.dropWhile isSpaceU with
    | [] => .ok []
    | c :: r =>
      if c != '#' then .ok (c :: r)
      else match (c :: r).dropWhile (fun x => !(x == '\n')) with
        | [] => .ok []
        | d :: r2 => stmtStart n (d :: r2) := by
  have e : (fun c => !!isSpaceU c) = isSpaceU := by funext c; simp
  rw [stmtStart, indexFunc_eq, e]
  cases hd : s.dropWhile isSpaceU with
  | nil => rfl
  | cons c r =>
    simp only [Nat.zero_add, sliceFrom_takeWhile, hd, List.getElem?_cons_zero]
    split
    · rfl
    · rw [indexFunc_eq]
      cases hd2 : (c :: r).dropWhile (fun x => !(x == '\n')) with
      | nil => rfl
      | cons d r2 => simp only [Nat.zero_add, sliceFrom_takeWhile, hd2]

theorem stmtStart_eq : ∀ (n : Nat) (s : Str), s.length < n → stmtStart n s = .ok (stmtL false s)
  | 0, s, h => by omega
  | n + 1, s, h => by
    have hle := (List.dropWhile_suffix (l := s) isSpaceU).length_le
    rw [stmtStart_succ, stmtL_dropWhile s]
    cases hd : s.dropWhile isSpaceU with
    | nil => rfl
    | cons c r =>
      have hc : isSpaceU c = false := by
        simpa [hd] using List.head_dropWhile_not isSpaceU (l := s) (by rw [hd]; simp)
      rw [hd] at hle
      simp only [stmtL, hc, Bool.false_eq_true, if_false, bne, Bool.not_eq_true']
      by_cases hh : (c == '#') = true
      · simp only [hh, if_true]
        have h2 := (List.dropWhile_suffix (l := r) (fun x => !(x == '\n'))).length_le
        rw [stmtL_comment, List.dropWhile_cons_of_pos (by rw [beq_iff_eq.mp hh]; rfl)]
        cases hd2 : r.dropWhile (fun x => !(x == '\n')) with
        | nil => rfl
        | cons d r2 => rw [hd2] at h2; exact stmtStart_eq n _ (by simp at hle h2 ⊢; omega)
      · simp only [hh, if_true, Bool.false_eq_true, if_false]

/-! ## `locateKeyName` -/

theorem splitNL_ne_nil : ∀ s : Str, splitNL s ≠ []
  | [] => by simp [splitNL]
  | c :: cs => by
    unfold splitNL
    split
    · simp
    · split <;> simp

theorem dropExport_length_le (s : Str) : (dropExport s).length ≤ s.length := by
  unfold dropExport
  split
  · split
    · rename_i c r heq
      split
      · have h1 := (List.dropWhile_suffix (l := c :: r) isSpaceNB).length_le
        have h2 : (c :: r).length ≤ s.length := by rw [← heq]; simp
        omega
      · omega
    · omega
  · omega

theorem trimRightU_all (q : Char → Bool) (a : Str) (h : a.all q = true) : (trimRightU a).all q = true := by
  rw [List.all_eq_true] at h ⊢
  intro x hx
  exact h x (List.mem_reverse.mp ((List.dropWhile_suffix (l := a.reverse) isSpaceU).subset (List.mem_reverse.mp hx)))

theorem okChar_step {c : Char} (h : okChar c = true) (cs : Str) (i : Nat) : scanKey (c :: cs) i = scanKey cs (i + 1) := by
  rw [okChar, Bool.or_eq_true] at h
  rcases h with hk | hs
  · simp only [scanKey, key_not_spaceNB hk, (key_not_delim hk).1, (key_not_delim hk).2, hk, Bool.false_eq_true, if_false, if_true]
  · simp only [scanKey, hs, if_true]

theorem scanKey_eq : ∀ (s : Str) (i : Nat), scanKey s i =
    match s.dropWhile okChar with
    | [] => .noDelim
    | d :: _ =>
      if d == '=' || d == ':' then .delim (i + (s.takeWhile okChar).length) false
      else if d == '\n' then .delim (i + (s.takeWhile okChar).length) true
      else .bad
  | [], _ => rfl
  | c :: cs, i => by
    by_cases h : okChar c = true
    · rw [okChar_step h, scanKey_eq cs (i + 1), List.dropWhile_cons_of_pos h, List.takeWhile_cons_of_pos h,
        List.length_cons, Nat.add_assoc, Nat.add_comm 1]
    · rw [List.dropWhile_cons_of_neg h, List.takeWhile_cons_of_neg h]
      simp only [okChar, Bool.or_eq_true, not_or, Bool.not_eq_true] at h
      simp only [scanKey, h.1, h.2, Bool.false_eq_true, if_false, List.length_nil, Nat.add_zero]

/-- `locateKeyName` on lists: the key text is the longest prefix of key runes and white space (after `export`), what
    follows it decides between assignment, bare key and error -/
def keyL (cs : Str) : Except PErr (Str × Str × Bool) :=
  let s := dropExport cs
  match s.dropWhile okChar with
  | [] => if s.isEmpty then .error .zeroLength else .ok (trimRightU s, [], true)
  | d :: X =>
    if d == '=' || d == ':' || d == '\n' then .ok (trimRightU (s.takeWhile okChar), X.dropWhile isSpaceNB, d == '\n')
    else .error .unexpectedChar

theorem locateKey_eq (cs : Str) : locateKey cs = .ok (keyL cs) := by
  unfold locateKey keyL
  simp only
  generalize dropExport cs = s
  rw [scanKey_eq]
  have hsplit := List.takeWhile_append_dropWhile (p := okChar) (l := s)
  cases hd : s.dropWhile okChar with
  | nil =>
    simp only
    cases s with
    | nil => rfl
    | cons a b => rw [sliceFrom_le (Nat.le_refl _), List.drop_length]; rfl
  | cons d X =>
    have hne : s.isEmpty = false := by
      cases s with
      | nil => cases hd
      | cons a b => rfl
    have hX : sliceFrom s ((s.takeWhile okChar).length + 1) = some X := by
      have hl := congrArg List.length hsplit
      rw [hd, List.length_append, List.length_cons] at hl
      rw [sliceFrom_le (by omega)]
      exact congrArg some (Scan.drop_of_drop_append (a := [d]) ((Scan.drop_takeWhile s).trans hd))
    simp only [Nat.zero_add]
    by_cases h1 : (d == '=' || d == ':') = true
    · have hnl : (d == '\n') = false := by
        rcases Bool.or_eq_true _ _ |>.mp h1 with h | h <;> (rw [beq_iff_eq.mp h]; rfl)
      simp only [h1, Bool.true_or, if_true, sliceTo_takeWhile, hne, Bool.false_eq_true, if_false, hX, hnl]
    · by_cases h2 : (d == '\n') = true
      · simp only [h1, h2, Bool.or_true, if_true, Bool.false_eq_true, if_false, sliceTo_takeWhile, hne, hX]
      · simp only [h1, h2, Bool.false_eq_true, if_false, Bool.or_self]
        cases hs : splitNL s with
        | nil => exact absurd hs (splitNL_ne_nil _)
        | cons a b => rfl

theorem keyL_ok {cs key left : Str} {inh : Bool} (h : keyL cs = .ok (key, left, inh)) :
    key.all okChar = true ∧ (cs ≠ [] → left.length < cs.length) := by
  unfold keyL at h
  have hle := dropExport_length_le cs
  generalize dropExport cs = s at h hle
  have htw : (s.takeWhile okChar).all okChar = true :=
    List.all_eq_true.mpr fun _ hx => Scan.mem_takeWhile hx
  have hsplit := congrArg List.length (List.takeWhile_append_dropWhile (p := okChar) (l := s))
  simp only at h
  split at h
  · split at h
    · cases h
    · cases h
      rename_i hd _
      rw [List.length_append, hd] at hsplit
      refine ⟨trimRightU_all _ _ (by rw [← List.takeWhile_append_dropWhile (p := okChar) (l := s), hd, List.append_nil]; exact htw), fun hne => ?_⟩
      cases cs with
      | nil => exact absurd rfl hne
      | cons a b => simp
  · rename_i d X hd
    split at h
    · cases h
      rw [List.length_append, hd, List.length_cons] at hsplit
      refine ⟨trimRightU_all _ _ htw, fun _ => ?_⟩
      have := (List.dropWhile_suffix (l := X) isSpaceNB).length_le
      omega
    · cases h

/-- `export` stripping removes key runes and white space only: what the key scan stops at is not affected -/
theorem dropExport_dropWhile (s : Str) : (dropExport s).dropWhile okChar = s.dropWhile okChar := by
  unfold dropExport
  split
  · rename_i hp
    obtain ⟨t, rfl⟩ := List.isPrefixOf_iff_prefix.mp hp
    have hd : (exportKw ++ t).drop 6 = t := List.drop_left' rfl
    rw [hd]
    cases t with
    | nil => rfl
    | cons c r =>
      simp only
      split
      · rw [List.dropWhile_append_of_pos (p := okChar) (fun x hx => by rw [okChar, exportKw_key x hx]; rfl)]
        generalize c :: r = t
        induction t with
        | nil => rfl
        | cons x t ih =>
          by_cases hx : isSpaceNB x = true
          · rw [List.dropWhile_cons_of_pos hx, ih, List.dropWhile_cons_of_pos (by rw [okChar, hx, Bool.or_true])]
          · rw [List.dropWhile_cons_of_neg hx]
      · rfl
  · rfl

/-! ## `extractVarValue` -/

theorem valEndIndex_le (src : Str) : valEndIndex src ≤ src.length := by
  rw [valEndIndex, indexFunc_eq]
  cases src.dropWhile (fun c => !(c == '\n')) with
  | nil => exact Nat.le_refl _
  | cons d r => rw [Nat.zero_add]; exact Scan.takeWhile_length_le _

/-- the Go `(value, rest, err)` triple built from the result of `expandVariables` -/
def liftVars (x : Stage Str) (R : Str) : Stage (Str × Str) :=
  match x with
  | .error p => .error p
  | .ok (.error e) => .ok (.error e)
  | .ok (.ok r) => .ok (.ok (r, R))

/-- the quoted-value loop on what follows the opening quote: the collected text and what follows the closing quote -/
def qscan (q : Char) : Str → Bool → Str → Option (Str × Str)
  | [], _, _ => none
  | c :: r, esc, acc =>
    if c != q then
      if !esc && c == '\\' then qscan q r true acc
      else if esc then qscan q r false (acc ++ ['\\', c])
      else qscan q r false (acc ++ [c])
    else if esc then qscan q r false (acc ++ [c])
    else some (acc, r)

/-- under the Go loop invariant `i + n = len(src)` the index loop is the list scan; the closing quote's index is
    recovered from what follows it -/
theorem quotedLoop_eq (q : Char) (src : Str) : ∀ (n i : Nat) (esc : Bool) (acc : Str), i + n = src.length →
    quotedLoop q src n i esc acc =
      match qscan q (src.drop i) esc acc with
      | none => .unterminated
      | some (chars, rest) => .closed chars (src.length - rest.length - 1)
  | 0, i, esc, acc, h => by
    rw [List.drop_of_length_le (by omega)]; rfl
  | n + 1, i, esc, acc, h => by
    have hi : i < src.length := by omega
    have hd : src.drop i = src[i] :: src.drop (i + 1) := List.drop_eq_getElem_cons hi
    have ih := fun esc acc => quotedLoop_eq q src n (i + 1) esc acc (by omega)
    rw [quotedLoop, List.getElem?_eq_getElem hi, hd, qscan]
    simp only
    by_cases h1 : (src[i] != q) = true
    · rw [if_pos h1, if_pos h1]
      by_cases h2 : (!esc && src[i] == '\\') = true
      · rw [if_pos h2, if_pos h2]; exact ih _ _
      · rw [if_neg h2, if_neg h2]
        cases esc <;> exact ih _ _
    · rw [if_neg h1, if_neg h1]
      cases esc
      · simp only [Bool.false_eq_true, if_false, List.length_drop]
        congr 1; omega
      · exact ih _ _

/-- the escape flag after one character of the quoted loop -/
def qEsc (q c : Char) (esc : Bool) : Bool := c != q && !esc && c == '\\'

/-- what one character of the quoted loop appends -/
def qEmit (q c : Char) (esc : Bool) : Str :=
  if c != q && !esc && c == '\\' then [] else if c != q && esc then ['\\', c] else [c]

/-- one step in normal form; the proof checks the eight cases of three Booleans -/
theorem qscan_cons (q c : Char) (r : Str) (esc : Bool) (acc : Str) :
    qscan q (c :: r) esc acc =
      if c == q && !esc then some (acc, r) else qscan q r (qEsc q c esc) (acc ++ qEmit q c esc) := by
  rw [qscan, qEsc, qEmit]
  cases h1 : c != q <;> cases esc <;> cases h2 : c == '\\' <;> simp_all [bne]

theorem qscan_suffix (q : Char) : ∀ (s : Str) (esc : Bool) (acc chars rest : Str),
    qscan q s esc acc = some (chars, rest) → ∃ pre, s = pre ++ rest ∧ pre ≠ []
  | [], _, _, _, _, h => by cases h
  | c :: r, esc, acc, chars, rest, h => by
    rw [qscan_cons] at h
    split at h
    · cases h; exact ⟨[c], rfl, List.cons_ne_nil _ _⟩
    · obtain ⟨pre, rfl, _⟩ := qscan_suffix q r _ _ chars rest h
      exact ⟨c :: pre, rfl, List.cons_ne_nil _ _⟩

/-- `extractVarValue` on lists -/
def valueL (src : Str) (m : Map) (lk : Env) : Stage (Str × Str) :=
  match quotePrefix src with
  | none => liftVars (expandVars (trimRightU (cut [' ', '#'] (cut ['\n'] src).1).1) m lk) (cut ['\n'] src).2
  | some q =>
    match qscan q src.tail false [] with
    | none => .ok (.error .unterminated)
    | some (chars, rest) =>
      if q == '"' then liftVars (expandVars (expandEscapes chars) m lk) rest else .ok (.ok (chars, rest))

theorem extractValue_eq (src : Str) (m : Map) (lk : Env) : extractValue src m lk = valueL src m lk := by
  unfold extractValue valueL
  cases hq : quotePrefix src with
  | none => rfl
  | some q =>
    obtain ⟨c, r, rfl⟩ : ∃ c r, src = c :: r := by
      cases src with
      | nil => cases hq
      | cons c r => exact ⟨c, r, rfl⟩
    simp only [List.length_cons, Nat.add_sub_cancel, List.tail_cons]
    rw [quotedLoop_eq q (c :: r) r.length 1 false [] (by simp; omega)]
    simp only [List.drop_succ_cons, List.drop_zero]
    cases hs : qscan q r false [] with
    | none => simp only; rw [sliceTo_le (valEndIndex_le _)]
    | some p =>
      obtain ⟨chars, rest⟩ := p
      obtain ⟨pre, rfl, _⟩ := qscan_suffix q r false [] chars rest hs
      have hsl : sliceFrom (c :: (pre ++ rest)) ((c :: (pre ++ rest)).length - rest.length - 1 + 1) = some rest := by
        rw [sliceFrom_le (by simp), ← List.cons_append]
        exact congrArg some (List.drop_left' (by simp; omega))
      simp only [hsl, liftVars]
      split
      · rcases expandVars (expandEscapes chars) m lk with p | e | v <;> rfl
      · rfl

theorem valueL_cases (src : Str) (m : Map) (lk : Env) :
    (∃ p, valueL src m lk = .error (.tmpl p) ∧ ∃ env v, Template.subst env v = .panic p) ∨ (∃ e, valueL src m lk = .ok (.error e)) ∨
    (∃ v left, valueL src m lk = .ok (.ok (v, left)) ∧ left.length ≤ src.length) := by
  have lift : ∀ (v R : Str), R.length ≤ src.length →
      (∃ p, liftVars (expandVars v m lk) R = .error (.tmpl p) ∧ ∃ env v, Template.subst env v = .panic p) ∨
      (∃ e, liftVars (expandVars v m lk) R = .ok (.error e)) ∨
      (∃ v' left, liftVars (expandVars v m lk) R = .ok (.ok (v', left)) ∧ left.length ≤ src.length) := by
    intro v R hR
    unfold liftVars expandVars
    cases hs : Template.subst (envOf lk m) v with
    | ok r => exact Or.inr (Or.inr ⟨_, _, rfl, hR⟩)
    | err e => exact Or.inr (Or.inl ⟨_, rfl⟩)
    | panic p => exact Or.inl ⟨_, rfl, _, _, hs⟩
  unfold valueL
  split
  · exact lift _ _ (Scan.cut_snd_length _ _)
  · split
    · exact Or.inr (Or.inl ⟨_, rfl⟩)
    · rename_i chars rest hs
      obtain ⟨pre, hp, _⟩ := qscan_suffix _ _ _ _ _ _ hs
      have hle : rest.length ≤ src.length := by
        have h1 := congrArg List.length hp
        rw [List.length_tail, List.length_append] at h1
        omega
      split
      · exact lift _ _ hle
      · exact Or.inr (Or.inr ⟨_, _, rfl, hle⟩)

/-! ## `parser.parse` -/

/-- what one iteration of the statement loop does: stop with an outcome, or go on with the rest and a new map -/
inductive Step
  | done (o : POut)
  | next (left : Str) (m : Map)

/-- one iteration, every stage in its list form -/
def stepL (src : Str) (m : Map) (lk : Env) : Step :=
  if (stmtL false src).isEmpty then .done (.ok m)
  else
    match keyL (stmtL false src) with
    | .error e => .done (.err e m)
    | .ok (key, left, inh) =>
      if key.any isSpaceU then .done (.err .keySpace m)
      else if inh then .next left (match lk key with | some v => put m key v | none => m)
      else
        match valueL left m lk with
        | .error s => .done (.panic s)
        | .ok (.error e) => .done (.err e m)
        | .ok (.ok (v, left')) => .next left' (put m key v)

theorem parseLoop_step (f : Nat) (src : Str) (m : Map) (lk : Env) :
    parseLoop (f + 1) src m lk =
      match stepL src m lk with
      | .done o => o
      | .next left m' => parseLoop f left m' lk := by
  rw [parseLoop, stmtStart_eq _ _ (Nat.lt_succ_self _), stepL]
  simp only [locateKey_eq, extractValue_eq]
  by_cases he : (stmtL false src).isEmpty = true
  · simp only [he, if_true]
  · simp only [he, Bool.false_eq_true, if_false]
    rcases keyL (stmtL false src) with e | ⟨key, left, inh⟩
    · rfl
    · by_cases hsp : key.any isSpaceU = true
      · simp only [hsp, if_true]
      · simp only [hsp, Bool.false_eq_true, if_false]
        cases inh with
        | true => simp only [if_true]; cases lk key <;> rfl
        | false =>
          simp only [Bool.false_eq_true, if_false]
          rcases valueL left m lk with s | e | ⟨v, left'⟩ <;> rfl

theorem stepL_spec (src : Str) (m : Map) (lk : Env) :
    match stepL src m lk with
    | .done o => o = .ok m ∨ (∃ e, o = .err e m) ∨ ∃ p, o = .panic (.tmpl p) ∧ ∃ env v, Template.subst env v = .panic p
    | .next left m' => left.length < src.length ∧ (m' = m ∨ ∃ k v, k.all isKeyRune = true ∧ m' = put m k v) := by
  have hcs := stmtL_length_le false src
  rw [stepL]
  by_cases he : (stmtL false src).isEmpty = true
  · rw [if_pos he]; exact .inl rfl
  · rw [if_neg he]
    cases hk : keyL (stmtL false src) with
    | error e => exact .inr (.inl ⟨_, rfl⟩)
    | ok r =>
      obtain ⟨key, left, inh⟩ := r
      obtain ⟨hok, hlt⟩ := keyL_ok hk
      have hlt := hlt (fun e => he (by rw [e]; rfl))
      simp only
      by_cases hsp : key.any isSpaceU = true
      · rw [if_pos hsp]; exact .inr (.inl ⟨_, rfl⟩)
      · rw [if_neg hsp]
        have hkey := key_valid_of_ok hok (by simpa using hsp)
        cases inh with
        | true =>
          refine ⟨by omega, ?_⟩
          cases lk key with
          | none => exact .inl rfl
          | some v => exact .inr ⟨_, _, hkey, rfl⟩
        | false =>
          simp only [Bool.false_eq_true, if_false]
          rcases valueL_cases left m lk with ⟨p, hx, hs⟩ | ⟨e, hx⟩ | ⟨v, left', hx, hle⟩ <;> rw [hx]
          · exact .inr (.inr ⟨p, rfl, hs⟩)
          · exact .inr (.inl ⟨_, rfl⟩)
          · exact ⟨by omega, .inr ⟨_, _, hkey, rfl⟩⟩

/-- what holds of the result of the statement loop on ANY input: every property of maps that assignments to key-rune
    names preserve carries over from the start map to the result (and to the partial map returned with an error); a panic
    can only be one of `template.Substitute`.  The fuel suffices because every iteration consumes input. -/
theorem parseLoop_inv (P : Map → Prop) (step : ∀ m k v, k.all isKeyRune = true → P m → P (put m k v)) (lk : Env) :
    ∀ (fuel : Nat) (src : Str) (m : Map), src.length < fuel → P m →
      match parseLoop fuel src m lk with
      | .ok r => P r
      | .err _ r => P r
      | .panic s => ∃ p, s = .tmpl p ∧ ∃ env v, Template.subst env v = .panic p
  | 0, _, _, h, _ => by omega
  | fuel + 1, src, m, h, hm => by
    have hs := stepL_spec src m lk
    rw [parseLoop_step]
    cases h' : stepL src m lk <;> rw [h'] at hs
    · rcases hs with rfl | ⟨e, rfl⟩ | ⟨p, rfl, hp⟩
      · exact hm
      · exact hm
      · exact ⟨p, rfl, hp⟩
    · rename_i left m'
      obtain ⟨hlt, rfl | ⟨k, v, hk, rfl⟩⟩ := hs
      · exact parseLoop_inv P step lk fuel left _ (by omega) hm
      · exact parseLoop_inv P step lk fuel left _ (by omega) (step _ _ _ hk hm)

/-- the map of an outcome: the result, or the partial map returned together with an error -/
def POut.map? : POut → Option Map
  | .ok m => some m
  | .err _ m => some m
  | .panic _ => none

theorem parse_inv (P : Map → Prop) (step : ∀ m k v, k.all isKeyRune = true → P m → P (put m k v)) (src : Str) (lk : Env) (h0 : P []) :
    (∀ r, (parse src lk).map? = some r → P r) ∧
    ∀ s, parse src lk = .panic s → ∃ p, s = .tmpl p ∧ ∃ env v, Template.subst env v = .panic p := by
  have := parseLoop_inv P step lk (src.length + 2) src [] (by omega) h0
  rw [show parseLoop (src.length + 2) src [] lk = parse src lk from rfl] at this
  cases hp : parse src lk <;> rw [hp] at this
  · exact ⟨fun r h => (by cases h; exact this), fun s h => (by cases h)⟩
  · exact ⟨fun r h => (by cases h; exact this), fun s h => (by cases h)⟩
  · exact ⟨fun r h => (by cases h), fun s h => (by cases h; exact this)⟩

theorem parse_panic_sites (src : Str) (lk : Env) (s : Site) (h : parse src lk = .panic s) :
    ∃ p, s = .tmpl p ∧ ∃ env v, Template.subst env v = .panic p :=
  (parse_inv (fun _ => True) (fun _ _ _ _ _ => trivial) src lk trivial).2 s h

/-- one more unit of fuel does not change an answer other than "out of fuel": the two runs take the same step -/
theorem parseLoop_step_le (lk : Env) : ∀ (n : Nat) (src : Str) (m : Map),
    Fuel.Le (· = POut.panic .fuel) (parseLoop n src m lk) (parseLoop (n + 1) src m lk)
  | 0, _, _ => .of_bad rfl
  | n + 1, src, m => by
    rw [parseLoop_step n, parseLoop_step (n + 1)]
    cases stepL src m lk with
    | done o => exact .refl
    | next left m' => exact parseLoop_step_le lk n left m'

/-- the statement loop with the fuel its input needs -/
def parseRun (src : Str) (m : Map) (lk : Env) : POut := parseLoop (src.length + 1) src m lk

/-- fuel beyond the length of the input is not looked at -/
theorem parseLoop_eq_run {f : Nat} {src : Str} (h : src.length < f) (m : Map) (lk : Env) :
    parseLoop f src m lk = parseRun src m lk :=
  Fuel.Le.of_succ (run := fun n => parseLoop n src m lk) (fun n => parseLoop_step_le lk n src m) h fun hp => by
    have := parseLoop_inv (fun _ => True) (fun _ _ _ _ _ => trivial) lk _ src m (Nat.lt_succ_self _) trivial
    rw [hp] at this
    obtain ⟨p, hp', _⟩ := this
    cases hp'

theorem parse_eq_run (src : Str) (lk : Env) : parse src lk = parseRun src [] lk :=
  parseLoop_eq_run (Nat.lt_add_of_pos_right (by decide)) [] lk

theorem parseRun_step (src : Str) (m : Map) (lk : Env) :
    parseRun src m lk =
      match stepL src m lk with
      | .done o => o
      | .next left m' => parseRun left m' lk := by
  have hs := stepL_spec src m lk
  rw [parseRun, parseLoop_step]
  cases h' : stepL src m lk with
  | done o => rfl
  | next left m' => rw [h'] at hs; exact parseLoop_eq_run hs.1 m' lk

theorem parseRun_congr {a b : Str} (m : Map) (lk : Env) (h : stmtL false a = stmtL false b) :
    parseRun a m lk = parseRun b m lk := by
  rw [parseRun_step, parseRun_step, stepL, stepL, h]

theorem parseRun_nil (m : Map) (lk : Env) : parseRun [] m lk = .ok m := by
  rw [parseRun_step]; rfl

end CV.Dotenv
