import ComposeVerif.Model.C01Cycles
import ComposeVerif.Lemmas.C01Loop
import ComposeVerif.Lemmas.Assoc
/-!
The include loop (`loadYamlModel` → `loadYamlFile` → `ApplyInclude`) on a file system: it returns, has no panic outcome, and
never accepts a file that reaches an include cycle.
-/
namespace CV.C01.Inc

def keys (fs : FS) : List String := fs.map Prod.fst

theorem lookup_eq (f : String) (fs : FS) : lookup f fs = Assoc.lookup f fs := by
  induction fs with
  | nil => rfl
  | cons e r ih => rw [lookup, ih]; rfl

theorem lookup_mem_keys : ∀ (fs : FS) (f : String) (e : List (List String)), lookup f fs = some e → f ∈ keys fs :=
  fun fs f _ h => Assoc.keys_of_lookup (lookup_eq f fs ▸ h)

/-- `f` includes `c` as the *first* path of an entry (the override paths of an entry, which the loader tests and loads
as well, are not edges of this relation) -/
def Edge (fs : FS) (f c : String) : Prop :=
  ∃ entries, lookup f fs = some entries ∧ ∃ ps, (c :: ps) ∈ entries

inductive Reach (fs : FS) : String → String → Prop where
  | refl (a : String) : Reach fs a a
  | step {a b c : String} : Edge fs a b → Reach fs b c → Reach fs a c

def CanLoop (fs : FS) (v : String) : Prop :=
  ∃ w, Reach fs v w ∧ ∃ x, Edge fs w x ∧ Reach fs x w

theorem CanLoop.child {fs : FS} {v : String} (h : CanLoop fs v) : ∃ c, Edge fs v c ∧ CanLoop fs c := by
  obtain ⟨w, hvw, x, hx, hxw⟩ := h
  cases hvw with
  | refl => exact ⟨x, hx, _, hxw, x, hx, hxw⟩
  | step hb hbw => exact ⟨_, hb, w, hbw, x, hx, hxw⟩

/-- what `ApplyInclude` does with one entry -/
def entry (load : List String → List String → Res) (included : List String) : List String → Res
  | [] => .ok
  | p0 :: ps => if (p0 :: ps).any (fun p => decide (p ∈ included)) = true then .err "includeCycle" else load (p0 :: ps) included

theorem applyInclude_eq (load : List String → List String → Res) (included : List String) : ∀ es,
    applyInclude load es included = firstNotOk .ok (entry load included) es
  | [] => rfl
  | [] :: r => by unfold applyInclude firstNotOk; rw [applyInclude_eq load included r]; rfl
  | (p0 :: ps) :: r => by
    unfold applyInclude firstNotOk
    rw [applyInclude_eq load included r]
    simp only [entry]
    split
    · rfl
    · cases load (p0 :: ps) included <;> rfl

/-- what the loop of `loadYamlModel` does with one file -/
def file (fs : FS) (inc : List (List String) → List String → Res) (included : List String) (f : String) : Res :=
  match lookup f fs with
  | none => .err "fileNotFound"
  | some es => inc es (included ++ [f])

theorem loadFiles_eq (fs : FS) (inc : List (List String) → List String → Res) (included : List String) : ∀ files,
    loadFiles fs inc files included = firstNotOk .ok (file fs inc included) files
  | [] => rfl
  | f :: r => by
    unfold loadFiles firstNotOk
    rw [loadFiles_eq fs inc included r]
    cases h : lookup f fs with
    | none => simp only [file, h]; rfl
    | some es => simp only [file, h]; cases inc es (included ++ [f]) <;> rfl

/-- the answers a level of `loadYamlModel` gives by itself are `ok`, "file not found" and "include cycle"; any other
comes from the level below -/
theorem loadModel_succ_answer {fs : FS} {fuel : Nat} {files included : List String} {r : Res}
    (h : loadModel fs (fuel + 1) files included = r) (hr : r ≠ .ok) (he : ∀ c, r ≠ .err c) :
    ∃ f ∈ files, ∃ es, lookup f fs = some es ∧
      ∃ ps ∈ es, (∀ p ∈ ps, p ∉ included ++ [f]) ∧ loadModel fs fuel ps (included ++ [f]) = r := by
  unfold loadModel at h
  rw [loadFiles_eq] at h
  obtain ⟨f, hf, hx⟩ := firstNotOk_mem h hr
  unfold file at hx
  split at hx
  · exact absurd hx.symm (he _)
  · next es hl =>
    rw [applyInclude_eq] at hx
    obtain ⟨e, hm, hy⟩ := firstNotOk_mem hx hr
    unfold entry at hy
    split at hy
    · exact absurd hy.symm hr
    · split at hy
      · exact absurd hy.symm (he _)
      · next hnot =>
        exact ⟨f, hf, es, hl, _, hm,
          fun p hp hin => hnot (List.any_eq_true.mpr ⟨p, hp, by simpa using hin⟩), hy⟩

/-- the include loop terminates on every file system: the files being loaded form a duplicate-free list of
existing files, because every path of an entry is tested against it before the entry is loaded -/
theorem loadModel_ne_fuel (fs : FS) : ∀ (fuel : Nat) (files included : List String),
    included.Nodup → (∀ x ∈ included, x ∈ keys fs) → (∀ f ∈ files, f ∉ included) →
    (keys fs).length - included.length < fuel →
    loadModel fs fuel files included ≠ .outOfFuel
  | 0, _, _, _, _, _, hf => by omega
  | fuel + 1, files, included, hn, hsub, hfresh, hf => by
    intro h
    obtain ⟨f, hfm, es, hl, ps, _, hnot, h⟩ := loadModel_succ_answer h nofun nofun
    obtain ⟨hn', hsub', hlt⟩ := trail_snoc hn hsub (hfresh f hfm) (lookup_mem_keys fs f es hl)
    exact loadModel_ne_fuel fs fuel _ _ hn' hsub' hnot (by omega) h

theorem loadModel_ne_panic (fs : FS) : ∀ (fuel : Nat) (files included : List String) (s : String),
    loadModel fs fuel files included ≠ .panic s
  | 0, _, _, _ => nofun
  | fuel + 1, files, included, s => by
    intro h
    obtain ⟨_, _, _, _, _, _, _, h⟩ := loadModel_succ_answer h nofun nofun
    exact loadModel_ne_panic fs fuel _ _ s h

theorem loadModel_ne_ok (fs : FS) : ∀ (fuel : Nat) (files inc : List String),
    (∃ f ∈ files, CanLoop fs f) → loadModel fs fuel files inc ≠ .ok
  | 0, _, _, _ => nofun
  | fuel + 1, files, inc, ⟨f, hf, h⟩ => by
    obtain ⟨c, ⟨es, hl, qs, hm⟩, hc⟩ := h.child
    unfold loadModel
    rw [loadFiles_eq, Ne, firstNotOk_eq_ok]
    intro hall
    have h1 := hall f hf
    simp only [file, hl] at h1
    rw [applyInclude_eq, firstNotOk_eq_ok] at h1
    have h2 := h1 _ hm
    simp only [entry] at h2
    split at h2
    · cases h2
    · exact loadModel_ne_ok fs fuel _ _ ⟨c, List.mem_cons_self .., hc⟩ h2

end CV.C01.Inc
