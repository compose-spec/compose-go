import ComposeVerif.Model.SchemaPaths
import ComposeVerif.Lemmas.KVs
/-! Soundness of `schemasAt` / `kindsAt`: what a conforming document can contain at a path. -/
namespace CV.Schema
open CV

theorem conforms_anyS (v : Val) : conforms anyS v = true := by
  cases v with
  | map kvs => exact Bool.and_eq_true_iff.mpr ⟨rfl, Bool.and_eq_true_iff.mpr ⟨rfl, List.all_eq_true.mpr fun _ _ => rfl⟩⟩
  | seq xs => exact Bool.and_eq_true_iff.mpr ⟨rfl, rfl⟩
  | _ => rfl

theorem countConf_pos {l : List S} {v : Val} (h : 1 ≤ countConf l v) : ∃ s ∈ l, conforms s v = true := by
  induction l with
  | nil => simp [countConf] at h
  | cons s r ih =>
    simp only [countConf] at h
    by_cases hs : conforms s v = true
    · exact ⟨s, List.mem_cons_self .., hs⟩
    · simp only [hs] at h
      obtain ⟨s', hm, hc⟩ := ih (by simpa using h)
      exact ⟨s', List.mem_cons_of_mem _ hm, hc⟩

theorem conformsProp_mem {props : List (String × S)} {k : String} {c : Val} (h : conformsProp props k c = true)
    {s : S} (hm : (k, s) ∈ props) : conforms s c = true := by
  induction props with
  | nil => cases hm
  | cons hd tl ih =>
    obtain ⟨n, s0⟩ := hd
    simp only [conformsProp, Bool.and_eq_true] at h
    rcases List.mem_cons.mp hm with heq | hr
    · cases heq; simpa using h.1
    · exact ih h.2 hr

theorem conformsPats_mem {pats : List (Pat × S)} {k : String} {c : Val} (h : conformsPats pats k c = true)
    {p : Pat} {s : S} (hm : (p, s) ∈ pats) (hp : p.matches k = true) : conforms s c = true := by
  induction pats with
  | nil => cases hm
  | cons hd tl ih =>
    obtain ⟨p0, s0⟩ := hd
    simp only [conformsPats, Bool.and_eq_true] at h
    rcases List.mem_cons.mp hm with heq | hr
    · cases heq; simpa [hp] using h.1
    · exact ih h.2 hr

theorem propDefined_ex {props : List (String × S)} {k : String} (h : propDefined props k = true) : ∃ s, (k, s) ∈ props := by
  simp only [propDefined, List.any_eq_true, decide_eq_true_eq] at h
  obtain ⟨⟨n, s⟩, hm, hn⟩ := h
  simp only at hn; subst hn
  exact ⟨s, hm⟩

theorem patDefined_ex {pats : List (Pat × S)} {k : String} (h : patDefined pats k = true) : ∃ p s, (p, s) ∈ pats ∧ p.matches k = true := by
  simp only [patDefined, List.any_eq_true] at h
  obtain ⟨⟨p, s⟩, hm, hp⟩ := h
  exact ⟨p, s, hm, hp⟩

theorem types_contains {types : List Ty} {v : Val} {t : Ty} (ht : ∀ t', tyOk t' v = true → t' = t)
    (h : (types.isEmpty || types.any (fun t => tyOk t v)) = true) :
    (!types.isEmpty && !types.contains t) = false := by
  cases types with
  | nil => rfl
  | cons t0 ts =>
    simp only [List.isEmpty_cons, Bool.false_or, List.any_eq_true] at h
    obtain ⟨t', hm, hok⟩ := h
    cases ht t' hok
    simp [hm]

theorem mem_filter_map_snd {α β : Type} {l : List (α × β)} {p : α × β → Bool} {a : α} {b : β}
    (hm : (a, b) ∈ l) (hp : p (a, b) = true) : b ∈ (l.filter p).map Prod.snd :=
  List.mem_map.mpr ⟨(a, b), List.mem_filter.mpr ⟨hm, hp⟩, rfl⟩

theorem mem_children {v : Val} {step : Step} {c : Val} (h : c ∈ children v step) :
    (∃ kvs k, v = .map kvs ∧ step = .key k ∧ Val.lookup k kvs = some c) ∨
    (∃ kvs k, v = .map kvs ∧ step = .anyKey ∧ (k, c) ∈ kvs) ∨
    (∃ xs, v = .seq xs ∧ step = .item ∧ c ∈ xs) := by
  unfold children at h
  split at h
  · next kvs k =>
    split at h
    · next hl => cases List.mem_singleton.mp h; exact .inl ⟨kvs, k, rfl, rfl, hl⟩
    · cases h
  · next kvs =>
    obtain ⟨⟨k, c'⟩, hm, rfl⟩ := List.mem_map.mp h
    exact .inr (.inl ⟨kvs, k, rfl, rfl, hm⟩)
  · next xs => exact .inr (.inr ⟨xs, rfl, rfl, h⟩)
  · cases h

theorem conforms_node {types : List Ty} {props : List (String × S)} {patProps : List (Pat × S)} {addl : Addl}
    {items : Option S} {oneOf anyOf : List S} {enum : Option (List String)} {req : List String} {uniq : Bool}
    {mn mx : Option Int} {fmt : Option String} {v : Val}
    (h : conforms (.node types props patProps addl items oneOf anyOf enum req uniq mn mx fmt) v = true) :
    (types.isEmpty || types.any (fun t => tyOk t v)) = true ∧
    ((!oneOf.isEmpty) = true → ∃ s ∈ oneOf, conforms s v = true) ∧
    ((!anyOf.isEmpty) = true → ∃ s ∈ anyOf, conforms s v = true) ∧
    (∀ kvs, v = .map kvs → ∀ k c, (k, c) ∈ kvs →
      conformsProp props k c = true ∧ conformsPats patProps k c = true ∧
      (propDefined props k = true ∨ patDefined patProps k = true ∨ (addl == Addl.allow) = true)) ∧
    (∀ xs it, v = .seq xs → items = some it → ∀ x ∈ xs, conforms it x = true) := by
  rw [conforms.eq_def] at h
  simp only [Bool.and_eq_true] at h
  obtain ⟨⟨⟨⟨⟨⟨hty, _⟩, hone⟩, hany⟩, _⟩, _⟩, hbody⟩ := h
  refine ⟨hty, ?_, ?_, ?_, ?_⟩
  · intro hne
    simp only [Bool.not_eq_true'] at hne
    simp only [hne, Bool.false_or, beq_iff_eq] at hone
    exact countConf_pos (by omega)
  · intro hne
    simp only [Bool.not_eq_true'] at hne
    simp only [hne, Bool.false_or, ge_iff_le, decide_eq_true_eq] at hany
    exact countConf_pos hany
  · rintro kvs rfl k c hm
    simp only [Bool.and_eq_true, List.all_eq_true] at hbody
    simpa only [Bool.and_eq_true, Bool.or_eq_true, and_assoc, or_assoc] using hbody.2 (k, c) hm
  · rintro xs it rfl rfl x hx
    simp only [Bool.and_eq_true, List.all_eq_true] at hbody
    exact hbody.1 x hx

mutual
theorem schemasAt_sound : ∀ (s : S) (v : Val) (step : Step) (c : Val),
    conforms s v = true → c ∈ children v step → ∃ s' ∈ schemasAt s step, conforms s' c = true
  | .unknown _, _, _, _, h, _ => by cases h
  | .node types props patProps addl items oneOf anyOf enum req uniq mn mx fmt, v, step, c, h, hc => by
    obtain ⟨hty, altOne, altAny, hkv, hitems⟩ := conforms_node h
    -- when the node itself says nothing about the child, the alternatives of `oneOf` / `anyOf` do
    have viaOne := fun hne => schemasAtL_sound oneOf v step c (altOne hne) hc
    have viaAny := fun hne => schemasAtL_sound anyOf v step c (altAny hne) hc
    rcases mem_children hc with ⟨kvs, k, rfl, rfl, hl⟩ | ⟨kvs, k, rfl, rfl, hm⟩ | ⟨xs, rfl, rfl, hx⟩
    · obtain ⟨hp, hpat, hdef⟩ := hkv kvs rfl k c (Val.mem_of_lookup hl)
      have hobj := types_contains (t := .object) (by intro t' ht; simpa [tyOk] using ht) hty
      simp only [schemasAt, hobj, Bool.false_eq_true, if_false]
      by_cases hpd : propDefined props k = true
      · obtain ⟨s0, hm⟩ := propDefined_ex hpd
        rw [if_pos hpd]
        exact ⟨s0, mem_filter_map_snd hm (by simp), conformsProp_mem hp hm⟩
      rw [if_neg hpd]
      by_cases hqd : patDefined patProps k = true
      · obtain ⟨p0, s0, hm, hmatch⟩ := patDefined_ex hqd
        rw [if_pos hqd]
        exact ⟨s0, mem_filter_map_snd hm hmatch, conformsPats_mem hpat hm hmatch⟩
      rw [if_neg hqd]
      by_cases hone : (props.isEmpty && patProps.isEmpty && !oneOf.isEmpty) = true
      · rw [if_pos hone]
        exact viaOne (Bool.and_eq_true_iff.mp hone).2
      rw [if_neg hone]
      by_cases hany : (props.isEmpty && patProps.isEmpty && !anyOf.isEmpty) = true
      · rw [if_pos hany]
        exact viaAny (Bool.and_eq_true_iff.mp hany).2
      rw [if_neg hany, if_pos (hdef.resolve_left hpd |>.resolve_left hqd)]
      exact ⟨anyS, List.mem_singleton.mpr rfl, conforms_anyS c⟩
    · obtain ⟨hp, hpat, hdef⟩ := hkv kvs rfl k c hm
      have hobj := types_contains (t := .object) (by intro t' ht; simpa [tyOk] using ht) hty
      simp only [schemasAt, hobj, Bool.false_eq_true, if_false]
      by_cases hone : (props.isEmpty && patProps.isEmpty && !oneOf.isEmpty) = true
      · rw [if_pos hone]
        exact viaOne (Bool.and_eq_true_iff.mp hone).2
      rw [if_neg hone]
      by_cases hany : (props.isEmpty && patProps.isEmpty && !anyOf.isEmpty) = true
      · rw [if_pos hany]
        exact viaAny (Bool.and_eq_true_iff.mp hany).2
      rw [if_neg hany]
      simp only [List.mem_append, List.mem_map]
      rcases hdef with h1 | h1 | h1
      · obtain ⟨s0, hm⟩ := propDefined_ex h1
        exact ⟨s0, .inl (.inl ⟨(k, s0), hm, rfl⟩), conformsProp_mem hp hm⟩
      · obtain ⟨p0, s0, hm, hmatch⟩ := patDefined_ex h1
        exact ⟨s0, .inl (.inr ⟨(p0, s0), hm, rfl⟩), conformsPats_mem hpat hm hmatch⟩
      · exact ⟨anyS, .inr (by simp [h1]), conforms_anyS c⟩
    · have harr := types_contains (t := .array) (by intro t' ht; simpa [tyOk] using ht) hty
      simp only [schemasAt, harr, Bool.false_eq_true, if_false]
      cases items with
      | some it => exact ⟨it, List.mem_singleton.mpr rfl, hitems xs it rfl rfl c hx⟩
      | none =>
        simp only
        by_cases hone : (!oneOf.isEmpty) = true
        · rw [if_pos hone]
          exact viaOne hone
        rw [if_neg hone]
        by_cases hany : (!anyOf.isEmpty) = true
        · rw [if_pos hany]
          exact viaAny hany
        rw [if_neg hany]
        exact ⟨anyS, List.mem_singleton.mpr rfl, conforms_anyS c⟩
theorem schemasAtL_sound : ∀ (l : List S) (v : Val) (step : Step) (c : Val),
    (∃ s ∈ l, conforms s v = true) → c ∈ children v step → ∃ s' ∈ schemasAtL l step, conforms s' c = true
  | [], _, _, _, h, _ => by obtain ⟨s, hm, _⟩ := h; cases hm
  | s :: r, v, step, c, ⟨s0, hm0, hconf⟩, hc => by
    simp only [schemasAtL, List.mem_append]
    rcases List.mem_cons.mp hm0 with heq | hr
    · obtain ⟨s', hm, hc'⟩ := schemasAt_sound s v step c (heq ▸ hconf) hc
      exact ⟨s', .inl hm, hc'⟩
    · obtain ⟨s', hm, hc'⟩ := schemasAtL_sound r v step c ⟨s0, hr, hconf⟩ hc
      exact ⟨s', .inr hm, hc'⟩
end

theorem tyOk_allTys (v : Val) : ∃ t ∈ allTys, tyOk t v = true := by
  cases v
  · exact ⟨.null, by decide, rfl⟩
  · exact ⟨.boolean, by decide, rfl⟩
  · exact ⟨.integer, by decide, rfl⟩
  · exact ⟨.number, by decide, rfl⟩
  · exact ⟨.string, by decide, rfl⟩
  · exact ⟨.array, by decide, rfl⟩
  · exact ⟨.object, by decide, rfl⟩

mutual
theorem tysOf_sound : ∀ (s : S) (v : Val), conforms s v = true → ∃ t ∈ tysOf s, tyOk t v = true
  | .unknown _, _, h => by cases h
  | .node types props patProps addl items oneOf anyOf enum req uniq mn mx fmt, v, h => by
    obtain ⟨hty, altOne, altAny, _, _⟩ := conforms_node h
    simp only [tysOf]
    by_cases hte : (!types.isEmpty) = true
    · rw [if_pos hte]
      simp only [Bool.not_eq_true'] at hte
      simpa only [hte, Bool.false_or, List.any_eq_true] using hty
    rw [if_neg hte]
    by_cases hone : (!oneOf.isEmpty) = true
    · rw [if_pos hone]
      exact tysOfL_sound oneOf v (altOne hone)
    rw [if_neg hone]
    by_cases hany : (!anyOf.isEmpty) = true
    · rw [if_pos hany]
      exact tysOfL_sound anyOf v (altAny hany)
    rw [if_neg hany]
    exact tyOk_allTys v
theorem tysOfL_sound : ∀ (l : List S) (v : Val), (∃ s ∈ l, conforms s v = true) → ∃ t ∈ tysOfL l, tyOk t v = true
  | [], _, h => by obtain ⟨s, hm, _⟩ := h; cases hm
  | s :: r, v, ⟨s0, hm0, hconf⟩ => by
    simp only [tysOfL, List.mem_append]
    rcases List.mem_cons.mp hm0 with heq | hr
    · obtain ⟨t, hm, ht⟩ := tysOf_sound s v (heq ▸ hconf)
      exact ⟨t, .inl hm, ht⟩
    · obtain ⟨t, hm, ht⟩ := tysOfL_sound r v ⟨s0, hr, hconf⟩
      exact ⟨t, .inr hm, ht⟩
end

theorem schemasAtPath_sound : ∀ (path : List Step) (ss : List S) (vs : List Val),
    (∀ v ∈ vs, ∃ s ∈ ss, conforms s v = true) →
    ∀ c ∈ descendants vs path, ∃ s' ∈ schemasAtPath ss path, conforms s' c = true
  | [], ss, vs, h, c, hc => h c hc
  | st :: r, ss, vs, h, c, hc => by
    simp only [descendants] at hc
    simp only [schemasAtPath]
    refine schemasAtPath_sound r _ _ ?_ c hc
    intro c' hc'
    simp only [List.mem_flatMap] at hc' ⊢
    obtain ⟨v, hv, hcv⟩ := hc'
    obtain ⟨s, hs, hconf⟩ := h v hv
    obtain ⟨s', hm, hc''⟩ := schemasAt_sound s v st c' hconf hcv
    exact ⟨s', ⟨s, hs, hm⟩, hc''⟩

end CV.Schema
