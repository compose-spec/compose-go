import ComposeVerif.Model.Reset
import ComposeVerif.Lemmas.Merge
import ComposeVerif.Lemmas.Path
import ComposeVerif.Lemmas.ValInd
/-! Lemmas about `!reset` / `!override` path recording (`resolveMap`) and `Apply` (`applyKVs`). -/
namespace CV.Reset
open CV CV.Val CV.Merge

theorem docStep_eq (post : Val → Out Val) (dict : Val) (doc : YNode) :
    docStep post dict doc =
      (merge (applyNull (readDoc doc).2 dict TPath.root) (readDoc doc).1).bind fun m => (Unicity.enforceTop m).bind post := rfl

theorem loadDocs_invariant (post : Val → Out Val) (P : Val → Prop) : ∀ (docs : List YNode) (dict r : Val),
    (∀ d ∈ docs, ∀ x x', P x → docStep post x d = .ok x' → P x') → P dict → loadDocs post dict docs = .ok r → P r
  | [], _, _, _, hd, h => by cases h; exact hd
  | d :: ds, dict, r, hs, hd, h => by
    obtain ⟨dict', h1, h2⟩ := bind_eq_ok h
    exact loadDocs_invariant post P ds dict' r (fun d' hd' => hs d' (List.mem_cons_of_mem _ hd'))
      (hs d List.mem_cons_self dict dict' hd h1) h2

theorem matchesAny_of_mem {paths : List TPath} {q : TPath} (h : q ∈ paths) : matchesAny paths q = true := by
  simp only [matchesAny, List.any_eq_true]
  exact ⟨q, h, TPath.pmatch_refl q⟩

theorem lookup_applyKVs (paths : List TPath) (p : TPath) (k : String) : ∀ kvs : KVs,
    lookup k (applyKVs paths kvs p) =
      if matchesAny paths (next p k) then none else (lookup k kvs).map fun e => applyNull paths e (next p k)
  | [] => by simp [applyKVs, lookup]
  | (k', e) :: tl => by
    have ih := lookup_applyKVs paths p k tl
    by_cases hk : k = k'
    · subst hk
      by_cases hm : matchesAny paths (next p k) = true
      · simp only [applyKVs, hm, if_true] at ih ⊢; exact ih
      · simp [applyKVs, hm, lookup]
    · by_cases hm : matchesAny paths (next p k') = true
      · simp only [applyKVs, hm, if_true, lookup, hk, if_false]; exact ih
      · simp only [applyKVs, hm, Bool.false_eq_true, if_false, lookup, hk]; exact ih

theorem applyNull_nil₃ : (∀ (v : Val) (p : TPath), applyNull [] v p = v) ∧ (∀ (kvs : KVs) (p : TPath), applyKVs [] kvs p = kvs) ∧
    (∀ (xs : List Val) (p : TPath) (i : Nat), applySeq [] xs p i = xs) := by
  apply Val.induct₃
  case null | bool | int | float | str => intros; rfl
  case seq | map => intro _ ih p; simp only [applyNull, ih]
  case nil | nil' => intros; rfl
  case cons | cons' =>
    intros
    simp only [applyKVs, applySeq, matchesAny, List.any_nil, Bool.false_eq_true, if_false, *]

theorem applyNull_nil : ∀ (v : Val) (p : TPath), applyNull [] v p = v := applyNull_nil₃.1

theorem resolve_reset (x : YNode) (q : TPath) (h : x.tag = .reset) : resolve x q = (none, [q]) := by
  cases x with
  | scalar t v => simp only [YNode.tag] at h; subst h; simp [resolve]
  | seq t xs => simp only [YNode.tag] at h; subst h; simp [resolve]
  | map t es => simp only [YNode.tag] at h; subst h; simp [resolve]

theorem resolve_override (x : YNode) (q : TPath) (h : x.tag = .override) : resolve x q = (some x, [q]) := by
  cases x with
  | scalar t v => simp only [YNode.tag] at h; subst h; simp [resolve]
  | seq t xs => simp only [YNode.tag] at h; subst h; simp [resolve]
  | map t es => simp only [YNode.tag] at h; subst h; simp [resolve]

theorem lookup_decodeKV_cons_ne {k k' : String} (hk : k ≠ k') (y : YNode) (r : List (String × YNode)) :
    lookup k (decodeKV ((k', y) :: r)) = lookup k (decodeKV r) := by
  simp [decodeKV, lookup, hk]

theorem keys_resolveMap_sublist (p : TPath) : ∀ es : List (String × YNode),
    (keys (decodeKV (resolveMap es p).1)).Sublist (es.map Prod.fst)
  | [] => by simp [resolveMap, decodeKV, keys]
  | (k, y) :: tl => by
    simp only [resolveMap, List.map_cons]
    cases (resolve y (next p k)).1 with
    | none => exact (keys_resolveMap_sublist p tl).cons _
    | some y' => simpa [decodeKV, keys] using (keys_resolveMap_sublist p tl)

theorem resolveMap_absent (p : TPath) (k : String) (es : List (String × YNode)) (h : k ∉ es.map Prod.fst) :
    lookup k (decodeKV (resolveMap es p).1) = none :=
  lookup_eq_none.2 fun hk => h ((keys_resolveMap_sublist p es).subset hk)

theorem resolveMap_entry (p : TPath) (k : String) (x : YNode) :
    ∀ es : List (String × YNode), (es.map Prod.fst).Nodup → (k, x) ∈ es →
      lookup k (decodeKV (resolveMap es p).1) = (resolve x (next p k)).1.map decode ∧
      ∀ q ∈ (resolve x (next p k)).2, q ∈ (resolveMap es p).2 := by
  intro es
  induction es with
  | nil => intro _ h; cases h
  | cons hd tl ih =>
    obtain ⟨k', y⟩ := hd
    intro hnd hmem
    simp only [List.map_cons, List.nodup_cons] at hnd
    simp only [resolveMap, List.mem_append]
    rcases List.mem_cons.mp hmem with heq | htl
    · cases heq
      refine ⟨?_, fun q hq => .inl hq⟩
      cases (resolve x (next p k)).1 with
      | none => exact resolveMap_absent p k tl hnd.1
      | some y' => simp [decodeKV, lookup]
    · have hne : k ≠ k' := fun h => hnd.1 (h ▸ List.mem_map.mpr ⟨(k, x), htl, rfl⟩)
      obtain ⟨h1, h2⟩ := ih hnd.2 htl
      refine ⟨?_, fun q hq => .inr (h2 q hq)⟩
      cases (resolve y (next p k')).1 with
      | none => exact h1
      | some y' => simp only; rw [lookup_decodeKV_cons_ne hne]; exact h1

theorem resolveMap_keys_nodup (p : TPath) (es : List (String × YNode)) (h : (es.map Prod.fst).Nodup) :
    (keys (decodeKV (resolveMap es p).1)).Nodup :=
  h.sublist (keys_resolveMap_sublist p es)

end CV.Reset

/-! ## documents without tags

`untagged n`: no `!reset` / `!override` anywhere in `n`; `resolve` records nothing on such a node and returns it whole.
`nodeOf v` is the untagged node that decodes to `v`.  (Proof-side definitions of the composed pipeline, hence its
namespace; they speak of `Reset.resolve` and `Reset.decode` only.) -/
namespace CV.Pipeline
open CV CV.Val

open CV.Reset in
mutual
def untagged : Reset.YNode → Bool
  | .scalar .none _ => true
  | .seq .none xs => untaggedL xs
  | .map .none es => untaggedKV es
  | _ => false
def untaggedL : List Reset.YNode → Bool
  | [] => true
  | x :: r => untagged x && untaggedL r
def untaggedKV : List (String × Reset.YNode) → Bool
  | [] => true
  | (_, x) :: r => untagged x && untaggedKV r
end

open CV.Reset in
mutual
theorem resolve_untagged : ∀ (n : YNode) (p : TPath), untagged n = true → resolve n p = (some n, [])
  | .scalar t v, p, h => by
    cases t <;> simp [untagged] at h; simp [resolve]
  | .seq t xs, p, h => by
    cases t <;> simp [untagged] at h
    simp [resolve, resolveSeq_untagged xs p 0 h]
  | .map t es, p, h => by
    cases t <;> simp [untagged] at h
    simp [resolve, resolveMap_untagged es p h]
theorem resolveSeq_untagged : ∀ (xs : List YNode) (p : TPath) (i : Nat), untaggedL xs = true → resolveSeq xs p i = (xs, [])
  | [], _, _, _ => by simp [resolveSeq]
  | x :: r, p, i, h => by
    simp only [untaggedL, Bool.and_eq_true] at h
    simp [resolveSeq, resolve_untagged x _ h.1, resolveSeq_untagged r p (i + 1) h.2]
theorem resolveMap_untagged : ∀ (es : List (String × YNode)) (p : TPath), untaggedKV es = true → resolveMap es p = (es, [])
  | [], _, _ => by simp [resolveMap]
  | (k, x) :: r, p, h => by
    simp only [untaggedKV, Bool.and_eq_true] at h
    simp [resolveMap, resolve_untagged x _ h.1, resolveMap_untagged r p h.2]
end

theorem readDoc_untagged (n : Reset.YNode) (h : untagged n = true) : Reset.readDoc n = (Reset.decode n, []) := by
  simp [Reset.readDoc, resolve_untagged n _ h]

mutual
def nodeOf : Val → Reset.YNode
  | .seq xs => .seq .none (nodesOf xs)
  | .map kvs => .map .none (entriesOf kvs)
  | .null => .scalar .none .null
  | .bool b => .scalar .none (.bool b)
  | .int i => .scalar .none (.int i)
  | .float r => .scalar .none (.float r)
  | .str s => .scalar .none (.str s)
def nodesOf : List Val → List Reset.YNode
  | [] => []
  | v :: r => nodeOf v :: nodesOf r
def entriesOf : List (String × Val) → List (String × Reset.YNode)
  | [] => []
  | (k, v) :: r => (k, nodeOf v) :: entriesOf r
end

theorem nodeOf_spec₃ : (∀ v : Val, untagged (nodeOf v) = true ∧ Reset.decode (nodeOf v) = v) ∧
    (∀ kvs : List (String × Val), untaggedKV (entriesOf kvs) = true ∧ Reset.decodeKV (entriesOf kvs) = kvs) ∧
    (∀ xs : List Val, untaggedL (nodesOf xs) = true ∧ Reset.decodeL (nodesOf xs) = xs) := by
  apply Val.induct₃
  case null | bool | int | float | str => intros; exact ⟨rfl, rfl⟩
  case seq | map => intro _ h; exact ⟨by simp [nodeOf, untagged, h.1], by simp [nodeOf, Reset.decode, h.2]⟩
  case nil | nil' => exact ⟨rfl, rfl⟩
  case cons | cons' =>
    intros; rename_i h1 h2
    exact ⟨by simp [entriesOf, nodesOf, untaggedKV, untaggedL, h1.1, h2.1],
      by simp [entriesOf, nodesOf, Reset.decodeKV, Reset.decodeL, h1.2, h2.2]⟩

theorem nodeOf_spec : ∀ v : Val, untagged (nodeOf v) = true ∧ Reset.decode (nodeOf v) = v := nodeOf_spec₃.1
theorem nodesOf_spec : ∀ xs : List Val, untaggedL (nodesOf xs) = true ∧ Reset.decodeL (nodesOf xs) = xs := nodeOf_spec₃.2.2
theorem entriesOf_spec : ∀ kvs : List (String × Val), untaggedKV (entriesOf kvs) = true ∧ Reset.decodeKV (entriesOf kvs) = kvs :=
  nodeOf_spec₃.2.1

end CV.Pipeline
