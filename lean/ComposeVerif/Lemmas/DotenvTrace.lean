import ComposeVerif.Lemmas.DotenvStages
import ComposeVerif.Model.DotenvTrace
import ComposeVerif.Model.DotenvLine
/-!
# Lemmas for C18 about the traced model (`Model/DotenvTrace.lean`)

Its outcome is `parseLoop`'s (`parseLoopT_fst`; `parseLoopL_step` for the loop with the line counter of
`Model/DotenvLine.lean`); the text the quoted-value loop collects has every backslash followed by a character
(`quotedLoop_paired`), and on such a text `escTags` never reports a lone trailing backslash (`no_lone_of_paired`).
-/
namespace CV.Dotenv
open CV CV.Template

/-- every backslash is followed by a character (the shape of the text `quotedLoop` collects) -/
def paired : Str → Bool
  | [] => true
  | c :: cs => if c == '\\' then (match cs with | [] => false | _ :: r => paired r) else paired cs

theorem parseLoopT_step (f : Nat) (src : Str) (m : Map) (lk : Env) (t : Nat) :
    parseLoopT (f + 1) src m lk t =
      match stepL src m lk with
      | .done o => (o, t ||| iterTags src m lk)
      | .next left m' => parseLoopT f left m' lk (t ||| iterTags src m lk) := by
  rw [parseLoopT, stmtStart_eq _ _ (Nat.lt_succ_self _), stepL]
  simp only [locateKey_eq, extractValue_eq]
  by_cases he : (stmtL false src).isEmpty = true
  · simp only [he, if_true]
  · simp only [he, Bool.false_eq_true, if_false]
    rcases keyL (stmtL false src) with e | ⟨key, left, inh⟩
    · rfl
    · by_cases hsp : key.any isSpaceU = true
      · simp only [hsp, if_true]
      · simp only [hsp, Bool.false_eq_true, if_false]
        cases inh with
        | true => simp only [if_true]; cases lk key <;> rfl
        | false =>
          simp only [Bool.false_eq_true, if_false]
          rcases valueL left m lk with s | e | ⟨v, left'⟩ <;> rfl

theorem parseLoopT_fst : ∀ (fuel : Nat) (src : Str) (m : Map) (lk : Env) (t : Nat),
    (parseLoopT fuel src m lk t).1 = parseLoop fuel src m lk
  | 0, _, _, _, _ => rfl
  | fuel + 1, src, m, lk, t => by
    rw [parseLoopT_step, parseLoop_step]
    cases stepL src m lk with
    | done o => rfl
    | next left m' => exact parseLoopT_fst fuel left m' lk _

theorem parseLoopL_step (f : Nat) (src : Str) (m : Map) (lk : Env) (l : Nat) :
    ∃ d, parseLoopL (f + 1) src m lk l =
      match stepL src m lk with
      | .done o => (o, l + d)
      | .next left m' => parseLoopL f left m' lk (l + d) := by
  rw [parseLoopL, stmtStart_eq _ _ (Nat.lt_succ_self _), stepL]
  simp only [locateKey_eq, extractValue_eq]
  by_cases he : (stmtL false src).isEmpty = true
  · exact ⟨_, by simp only [he, if_true]; rfl⟩
  · simp only [he, Bool.false_eq_true, if_false]
    rcases keyL (stmtL false src) with e | ⟨key, left, inh⟩
    · exact ⟨_, rfl⟩
    · by_cases hsp : key.any isSpaceU = true
      · exact ⟨_, by simp only [hsp, if_true, Nat.add_assoc]; rfl⟩
      · simp only [hsp, Bool.false_eq_true, if_false]
        cases inh with
        | true => simp only [if_true, Nat.add_assoc]; cases lk key <;> exact ⟨_, rfl⟩
        | false =>
          simp only [Bool.false_eq_true, if_false, Nat.add_assoc]
          rcases valueL left m lk with s | e | ⟨v, left'⟩ <;> exact ⟨_, rfl⟩

theorem paired_bs (d : Char) (r : Str) : paired ('\\' :: d :: r) = paired r := by
  rw [paired.eq_def]; rfl

theorem paired_other (c : Char) (cs : Str) (h : (c == '\\') = false) : paired (c :: cs) = paired cs := by
  rw [paired.eq_def]; simp [h]

theorem paired_append : ∀ (a b : Str), paired a = true → paired (a ++ b) = paired b := by
  intro a
  induction a using paired.induct with
  | case1 => intro b _; rfl
  | case2 c hc => intro b h; simp [paired, hc] at h
  | case3 c hc d r ih =>
    intro b h
    rw [beq_iff_eq] at hc
    subst hc
    rw [paired_bs] at h
    rw [List.cons_append, List.cons_append, paired_bs]
    exact ih b h
  | case4 c cs hc ih =>
    intro b h
    have hc' : (c == '\\') = false := by simpa using hc
    rw [paired_other _ _ hc'] at h
    rw [List.cons_append, paired_other _ _ hc']
    exact ih b h

/-- on the index loop, not through `quotedLoop_eq`: `lone_backslash_branch_unreachable` is stated for every `n`, `i`, without
    the invariant `i + n = len`.  By the loop's own cases (`quotedLoop.induct`): each of them appends a pair `\\c`, a character
    other than the backslash, or nothing -/
theorem quotedLoop_paired (q : Char) (hq : q ≠ '\\') (src : Str) (n i : Nat) (esc : Bool) (acc chars : Str) (k : Nat)
    (hp : paired acc = true) (h : quotedLoop q src n i esc acc = .closed chars k) : paired chars = true := by
  fun_induction quotedLoop q src n i esc acc with
  | case1 => cases h
  | case2 => cases h
  | case3 n i esc acc c _ _ _ ih => exact ih hp h
  | case4 n i acc c _ _ _ ih => exact ih (by rw [paired_append _ _ hp, paired_bs]; rfl) h
  | case5 n i esc acc c _ _ h2 he ih =>
    have hb : (c == '\\') = false := by
      rw [Bool.not_eq_true] at he
      rw [he] at h2
      simpa using h2
    exact ih (by rw [paired_append _ _ hp, paired_other _ _ hb]; rfl) h
  | case6 n i acc c _ h1 ih =>
    have hb : (c == '\\') = false := by
      have : c = q := by simpa using h1
      rw [this]; simpa using hq
    exact ih (by rw [paired_append _ _ hp, paired_other _ _ hb]; rfl) h
  | case7 => cases h; exact hp

theorem escTags_skip : ∀ (n : Nat) (s : Str), escTags n s = escTags 0 (s.drop n)
  | 0, _ => rfl
  | _ + 1, [] => by simp [escTags]
  | n + 1, _ :: cs => by
    rw [escTags, List.drop_succ_cons]
    exact escTags_skip n cs

theorem testBit_tag (b : Bool) (n i : Nat) (h : n ≠ i) : (tag b n).testBit i = false := by
  unfold tag
  cases b
  · simp
  · simp only [if_true, Nat.one_shiftLeft, Nat.testBit_two_pow]
    simpa using h

theorem isDigit_not_bs {c : Char} (h : c.isDigit = true) : (c == '\\') = false := by
  cases hc : c == '\\'
  · rfl
  · rw [beq_iff_eq] at hc; rw [hc] at h; revert h; decide

theorem paired_drop_digits : ∀ (k : Nat) (ds : Str), paired ds = true →
    paired (ds.drop ((ds.take k).takeWhile Char.isDigit).length) = true
  | 0, ds, h => by simpa using h
  | _ + 1, [], _ => by simp [paired]
  | k + 1, x :: r, h => by
    simp only [List.take_succ_cons, List.takeWhile_cons]
    split
    · rename_i hx
      simp only [List.length_cons, List.drop_succ_cons]
      apply paired_drop_digits k r
      rw [paired_other _ _ (isDigit_not_bs hx)] at h
      exact h
    · simpa using h

theorem no_lone_of_paired : ∀ (n : Nat) (s : Str), s.length ≤ n → paired s = true → (escTags 0 s).testBit 34 = false
  | _, [], _, _ => by simp [escTags]
  | 0, _ :: _, hl, _ => by simp at hl
  | n + 1, c :: cs, hl, hp => by
    have hl' : cs.length ≤ n := by simpa using hl
    unfold escTags
    split
    · rename_i hc
      cases cs with
      | nil => rw [beq_iff_eq] at hc; subst hc; rw [paired.eq_def] at hp; simp at hp
      | cons d ds =>
        have hc2 : c = '\\' := by simpa using hc
        subst hc2
        rw [paired_bs] at hp
        have hl2 : ds.length ≤ n := by simp at hl'; omega
        simp only
        split
        · rw [Nat.testBit_or, testBit_tag _ _ _ (by decide), Bool.false_or, escTags_skip]
          exact no_lone_of_paired n ds hl2 hp
        · rename_i hse
          split
          · simp only [Nat.testBit_or, testBit_tag _ _ _ (show 36 ≠ 34 by decide), testBit_tag _ _ _ (show 37 ≠ 34 by decide), Bool.false_or]
            rw [escTags_skip, Nat.add_comm, List.drop_succ_cons]
            refine no_lone_of_paired n _ ?_ (paired_drop_digits 3 ds hp)
            simp; omega
          · rw [Nat.testBit_or, testBit_tag _ _ _ (by decide), Bool.false_or]
            have hd : (d == '\\') = false := by
              cases hdd : d == '\\'
              · rfl
              · rw [beq_iff_eq] at hdd; rw [hdd] at hse; simp [simpleEscape] at hse
            refine no_lone_of_paired n (d :: ds) hl' ?_
            rw [paired_other _ _ hd]; exact hp
    · rename_i hc
      rw [Nat.testBit_or, testBit_tag _ _ _ (by decide), Bool.false_or]
      refine no_lone_of_paired n cs hl' ?_
      have hc' : (c == '\\') = false := by simpa using hc
      rw [paired_other _ _ hc'] at hp; exact hp

end CV.Dotenv
