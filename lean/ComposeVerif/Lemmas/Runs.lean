/-!
# Runs of a transition system given by a partial step function

A measure that every step from a reachable state lowers bounds the length of runs and, with progress, lets every
reachable state be run to a final one.
-/
namespace CV.Runs

variable {σ L : Type} {step : σ → L → Option σ} {run : σ → List L → Option σ}

structure Replays (step : σ → L → Option σ) (run : σ → List L → Option σ) : Prop where
  nil : ∀ s, run s [] = some s
  cons : ∀ s l ls, run s (l :: ls) = (step s l).bind fun s' => run s' ls

variable (hrun : Replays step run) {R : σ → Prop} (hR : ∀ {s l s'}, R s → step s l = some s' → R s') {mu : σ → Nat}
  (hmu : ∀ {s l s'}, R s → step s l = some s' → mu s' < mu s)
include hrun hR

theorem run_preserves {s s' : σ} {ls : List L} (hs : R s) (h : run s ls = some s') : R s' := by
  induction ls generalizing s with
  | nil => rw [hrun.nil] at h; cases h; exact hs
  | cons l ls ih =>
    rw [hrun.cons] at h
    cases hst : step s l with
    | none => rw [hst] at h; cases h
    | some s₁ => rw [hst] at h; exact ih (hR hs hst) h

include hmu

theorem length_le {s s' : σ} {ls : List L} (hs : R s) (h : run s ls = some s') : ls.length + mu s' ≤ mu s := by
  induction ls generalizing s with
  | nil => rw [hrun.nil] at h; cases h; exact Nat.le_of_eq (Nat.zero_add _)
  | cons l ls ih =>
    rw [hrun.cons] at h
    cases hst : step s l with
    | none => rw [hst] at h; cases h
    | some s₁ =>
      rw [hst] at h
      have := ih (hR hs hst) h
      have := hmu hs hst
      simp only [List.length_cons]; omega

theorem can_finish_with {T : σ → Prop} {P : L → Bool}
    (hprog : ∀ {s}, R s → T s ∨ ∃ l s', P l = true ∧ step s l = some s') {s : σ} (hs : R s) :
    ∃ ls s', run s ls = some s' ∧ T s' ∧ ls.all P = true := by
  generalize hk : mu s = k
  induction k using Nat.strongRecOn generalizing s with
  | _ k ih =>
    rcases hprog hs with ht | ⟨l, s₁, hp, hst⟩
    · exact ⟨[], s, hrun.nil s, ht, rfl⟩
    · obtain ⟨ls, s', hr, ht, hall⟩ := ih (mu s₁) (hk ▸ hmu hs hst) (hR hs hst) rfl
      exact ⟨l :: ls, s', by rw [hrun.cons, hst]; exact hr, ht, by rw [List.all_cons, hp, hall]; rfl⟩

theorem can_finish {T : σ → Prop} (hprog : ∀ {s}, R s → T s ∨ ∃ l s', step s l = some s') {s : σ} (hs : R s) :
    ∃ ls s', run s ls = some s' ∧ T s' :=
  let ⟨ls, s', hr, ht, _⟩ := can_finish_with hrun hR hmu (P := fun _ => true)
    (fun h => (hprog h).imp id fun ⟨l, s', hst⟩ => ⟨l, s', rfl, hst⟩) hs
  ⟨ls, s', hr, ht⟩

end CV.Runs
