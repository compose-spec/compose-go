import ComposeVerif.Lemmas.C01Dep
/-!
Soundness of the cycle that `graph.checkCycle` reports: the list in `dependency cycle detected: a -> b -> a`
is a walk along edges of the graph that starts and ends at the same vertex — so an error of this class is never a
false alarm — and a vertex on such a walk can be followed forever (`CanLoop`), which closes the equivalence with
`dependsOn_cycle_err`.

Invariant of `searchCycle(path, v)`: `path` is a walk of the graph and its last element is `v`.
-/
namespace CV.C01.Dep

variable {α : Type} [DecidableEq α]

def Walk (g : G α) : List α → Prop
  | [] => True
  | [_] => True
  | a :: b :: r => b ∈ children g a ∧ Walk g (b :: r)

/-- what the error message must denote: a walk of at least one edge from a vertex back to itself -/
def IsCycle (g : G α) (p : List α) : Prop :=
  Walk g p ∧ 2 ≤ p.length ∧ p.head? = p.getLast?

theorem Walk.tail {g : G α} {a : α} {l : List α} (h : Walk g (a :: l)) : Walk g l := by
  cases l with
  | nil => trivial
  | cons b r => exact h.2

theorem Walk.append_singleton {g : G α} : ∀ {p : List α} {v c : α},
    Walk g p → p.getLast? = some v → c ∈ children g v → Walk g (p ++ [c])
  | [], _, _, _, hl, _ => by simp at hl
  | [a], v, c, _, hl, hc => by
    simp only [List.getLast?_singleton, Option.some.injEq] at hl
    subst hl
    exact ⟨hc, trivial⟩
  | a :: b :: r, v, c, hw, hl, hc => by
    have hl' : (b :: r).getLast? = some v := by rw [List.getLast?_cons_cons] at hl; exact hl
    exact ⟨hw.1, Walk.append_singleton (p := b :: r) hw.2 hl' hc⟩

theorem Walk.dropWhile {g : G α} (f : α → Bool) : ∀ {p : List α}, Walk g p → Walk g (p.dropWhile f)
  | [], _ => trivial
  | a :: l, h => by
    rw [List.dropWhile_cons]
    split
    · exact Walk.dropWhile f h.tail
    · exact h

theorem dropWhile_ne_spec (name : α) (p : List α) (h : name ∈ p) :
    (p.dropWhile (· ≠ name)).head? = some name ∧ (p.dropWhile (· ≠ name)).getLast? = p.getLast? ∧
      1 ≤ (p.dropWhile (· ≠ name)).length := by
  obtain ⟨pre, suf, h1, h2⟩ := CV.dropWhile_ne_split (p := (· ≠ name)) (fun x => by simp) p h
  rw [h2]
  exact ⟨rfl, by rw [h1, List.getLast?_append]; rfl, Nat.succ_pos _⟩

theorem report_isCycle {g : G α} {path : List α} {v name : α}
    (hw : Walk g path) (hl : path.getLast? = some v) (hc : name ∈ children g v) (hin : name ∈ path) :
    IsCycle g (path.dropWhile (· ≠ name) ++ [name]) := by
  obtain ⟨hh, hlast, hlen⟩ := dropWhile_ne_spec name path hin
  refine ⟨Walk.append_singleton (Walk.dropWhile _ hw) (hlast.trans hl) hc, ?_, ?_⟩
  · simp only [List.length_append, List.length_singleton]; omega
  · rw [List.getLast?_append]
    cases hd : List.dropWhile (fun x => decide (x ≠ name)) path with
    | nil => rw [hd] at hlen; simp at hlen
    | cons x r =>
      rw [hd] at hh
      simp only [List.head?_cons, Option.some.injEq] at hh
      subst hh
      simp

theorem searchCycle_sound (g : G α) : ∀ (fuel : Nat) (path : List α) (v : α),
    Walk g path → path.getLast? = some v → ∀ p, searchCycle g fuel path v = .cycle p → IsCycle g p
  | 0, _, _, _, _, p, h => nomatch h
  | fuel + 1, path, v, hw, hl, p, h => by
    unfold searchCycle at h
    rw [searchChildren_eq] at h
    obtain ⟨c, hc, hx⟩ := firstNotOk_mem h nofun
    split at hx
    · next hin => cases hx; exact report_isCycle hw hl hc hin
    · exact searchCycle_sound g fuel _ c (Walk.append_singleton hw hl hc) (by simp) p hx

theorem Walk.reach {g : G α} : ∀ {p : List α} {a z : α}, Walk g (a :: p) → (a :: p).getLast? = some z → Reach g a z
  | [], a, z, _, hl => by
    simp only [List.getLast?_singleton, Option.some.injEq] at hl
    subst hl
    exact .refl _
  | b :: r, a, z, hw, hl => by
    rw [List.getLast?_cons_cons] at hl
    exact .step hw.1 (Walk.reach hw.2 hl)

theorem Walk.verts {g : G α} (hg : Closed g) : ∀ {p : List α} {a : α}, Walk g (a :: p) → a ∈ verts g → ∀ x ∈ a :: p, x ∈ verts g
  | [], a, _, ha, x, hx => by simp only [List.mem_singleton] at hx; subst hx; exact ha
  | b :: r, a, hw, ha, x, hx => by
    cases hx with
    | head => exact ha
    | tail _ hx => exact Walk.verts hg hw.2 (hg a b hw.1) x hx

theorem Walk.last_mem_verts {g : G α} (hg : Closed g) : ∀ {p : List α} {a z : α},
    Walk g (a :: p) → p ≠ [] → (a :: p).getLast? = some z → z ∈ Dep.verts g
  | [], _, _, _, hne, _ => absurd rfl hne
  | [b], a, z, hw, _, hl => by
    rw [List.getLast?_cons_cons, List.getLast?_singleton] at hl
    cases hl
    exact hg a _ hw.1
  | b :: c :: r, a, z, hw, _, hl => by
    rw [List.getLast?_cons_cons] at hl
    exact Walk.last_mem_verts hg (p := c :: r) hw.2 (by simp) hl

/-- a reported cycle can be followed forever from its first element, which (in a closed graph) is a vertex: the last
element of a walk is one, and the two coincide -/
theorem IsCycle.canLoop_vertex {g : G α} (hg : Closed g) {p : List α} (h : IsCycle g p) :
    ∃ v, v ∈ Dep.verts g ∧ CanLoop g v := by
  obtain ⟨hw, hlen, hhl⟩ := h
  match p, hw, hlen, hhl with
  | a :: b :: r, hw, _, hhl =>
    have hl : (b :: r).getLast? = some a := by
      rw [List.getLast?_cons_cons] at hhl
      simpa using hhl.symm
    exact ⟨a, Walk.last_mem_verts hg hw (by simp) (by simpa using hhl.symm), a, .refl _, b, hw.1, Walk.reach hw.2 hl⟩

end CV.C01.Dep
