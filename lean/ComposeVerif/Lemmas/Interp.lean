import ComposeVerif.Lemmas.InterpTree
/-! `Interp.interp` (`recursiveInterpolate`): the string arm `leaf` (substitute, then cast; what C07's theorems about
`CV.Template.subst` give for it is in `Lemmas/C08Template.lean`), `interp c = walk (leaf c)`, and what the generic lemmas of
`Lemmas/InterpTree.lean` give for it. -/

namespace CV.Interp
open CV CV.TPath

theorem apply_scalar {fp : FloatParser} {c : Caster} {s : String} {v : Val} (h : c.apply fp s = some v) : isScalar v := by
  cases c <;> simp only [Caster.apply, Option.map_eq_some_iff] at h
  all_goals first | (obtain ⟨a, _, rfl⟩ := h; trivial) | cases h

theorem castOnly_ok_iff {c : Cfg} {p : TPath} {s : String} {v : Val} :
    castOnly c p s = .ok v ↔ (firstMatch c.table p = none ∧ v = .str s) ∨
      ∃ name, firstMatch c.table p = some name ∧ (Caster.ofName name).apply c.fp s = some v := by
  unfold castOnly
  cases firstMatch c.table p with
  | none => simp [eq_comm]
  | some name => cases h : (Caster.ofName name).apply c.fp s <;> simp [h]

theorem castOnly_scalar {c : Cfg} {p : TPath} {s : String} {v : Val} (h : castOnly c p s = .ok v) : isScalar v := by
  rcases castOnly_ok_iff.1 h with ⟨_, rfl⟩ | ⟨_, _, h⟩
  · trivial
  · exact apply_scalar h

theorem castOnly_none {c : Cfg} {p : TPath} {s : String} (h : firstMatch c.table p = none) : castOnly c p s = .ok (.str s) := by
  unfold castOnly; rw [h]

theorem castOnly_some {c : Cfg} {p : TPath} {s name : String} (h : firstMatch c.table p = some name) :
    castOnly c p s = match (Caster.ofName name).apply c.fp s with
      | some v => .ok v
      | none => .err (.cast (pathString p)) := by
  unfold castOnly; rw [h]; rfl

/-- the string arm of `recursiveInterpolate`: substitute, then cast -/
theorem leaf_of_subst {c : Cfg} {p : TPath} {s : String} {s' : Str}
    (h : CV.Template.subst c.env s.toList = .ok s') : leaf c p s = castOnly c p (String.ofList s') := by
  unfold leaf castOnly
  simp only [h]
  rfl

theorem leaf_ok_inv {c : Cfg} {p : TPath} {s : String} {v : Val} (h : leaf c p s = .ok v) :
    ∃ s', CV.Template.subst c.env s.toList = .ok s' ∧ castOnly c p (String.ofList s') = .ok v := by
  cases hs : CV.Template.subst c.env s.toList with
  | ok s' => exact ⟨s', rfl, by rw [← leaf_of_subst hs]; exact h⟩
  | err e => unfold leaf at h; rw [hs] at h; cases e <;> cases h
  | panic site => unfold leaf at h; rw [hs] at h; cases site <;> cases h

theorem leaf_scalar {c : Cfg} {p : TPath} {s : String} {v : Val} (h : leaf c p s = .ok v) : isScalar v := by
  obtain ⟨_, _, h2⟩ := leaf_ok_inv h
  exact castOnly_scalar h2

theorem castOnly_err_path {c : Cfg} {p : TPath} {s : String} {e : Err} (h : castOnly c p s = .err e) :
    e = .cast (pathString p) ∧ ∃ name, firstMatch c.table p = some name ∧ (Caster.ofName name).apply c.fp s = none := by
  unfold castOnly at h
  split at h
  · cases h
  · rename_i name hm
    split at h
    · cases h
    · cases h; exact ⟨rfl, name, hm, ‹_›⟩

theorem leaf_err_path {c : Cfg} {p : TPath} {s : String} {e : Err} (h : leaf c p s = .err e) : e.path = pathString p := by
  cases hs : CV.Template.subst c.env s.toList with
  | ok s' =>
    rw [leaf_of_subst hs] at h
    rw [(castOnly_err_path h).1]; rfl
  | err e' =>
    unfold leaf at h; rw [hs] at h
    cases e' <;> (cases h; rfl)
  | panic site => unfold leaf at h; rw [hs] at h; cases site <;> cases h

theorem interp_eq_walk₃ (c : Cfg) :
    (∀ v p, interp c p v = walk (leaf c) p v) ∧ (∀ kvs p, interpKVs c p kvs = walkKVs (leaf c) p kvs) ∧
    (∀ xs p, interpList c p xs = walkList (leaf c) p xs) := by
  apply Val.induct₃
  case null | bool | int | float | str => intros; simp only [interp, walk]
  case seq | map =>
    intro _ ih p
    simp only [interp, walk, ih p]
    split <;> simp only [*]
  case nil | nil' => intros; simp only [interpKVs, interpList, walkKVs, walkList]
  case cons | cons' =>
    intros; rename_i v r ihv ihr p
    simp only [interpKVs, interpList, walkKVs, walkList, ihv, ihr]
    -- both sides are the same case distinction on the outcomes of the head and of the rest
    cases walk (leaf c) _ v <;> first | rfl | cases walkKVs (leaf c) p r <;> rfl | cases walkList (leaf c) p r <;> rfl

theorem interp_eq_walk (c : Cfg) (v : Val) (p : TPath) : interp c p v = walk (leaf c) p v := (interp_eq_walk₃ c).1 v p

theorem interpKVs_eq_walk (c : Cfg) (kvs : List (String × Val)) (p : TPath) :
    interpKVs c p kvs = walkKVs (leaf c) p kvs := (interp_eq_walk₃ c).2.1 kvs p

theorem interpList_eq_walk (c : Cfg) : ∀ (xs : List Val) (p : TPath), interpList c p xs = walkList (leaf c) p xs :=
  (interp_eq_walk₃ c).2.2

theorem interp_shape (c : Cfg) (v : Val) (p : TPath) (v' : Val) (h : interp c p v = .ok v') : SameShape v v' :=
  (walk_shape₃ fun _ _ _ => leaf_scalar).1 v p v' (interp_eq_walk c v p ▸ h)

theorem interpKVs_shape (c : Cfg) (kvs : List (String × Val)) (p : TPath) (kvs' : List (String × Val))
    (h : interpKVs c p kvs = .ok kvs') : SameShapeKVs kvs kvs' :=
  (walk_shape₃ fun _ _ _ => leaf_scalar).2.1 kvs p kvs' (interpKVs_eq_walk c kvs p ▸ h)

theorem interpList_shape (c : Cfg) : ∀ (xs : List Val) (p : TPath) (xs' : List Val),
    interpList c p xs = .ok xs' → SameShapeList xs xs' :=
  fun xs p xs' h => (walk_shape₃ fun _ _ _ => leaf_scalar).2.2 xs p xs' (interpList_eq_walk c xs p ▸ h)

theorem sameShapeKVs_keys : ∀ (kvs kvs' : List (String × Val)), SameShapeKVs kvs kvs' → kvs'.map Prod.fst = kvs.map Prod.fst
  | [], _, h => by simp only [SameShapeKVs] at h; subst h; rfl
  | (k, v) :: r, _, h => by
    simp only [SameShapeKVs] at h
    obtain ⟨v', r', rfl, _, hr⟩ := h
    simp [sameShapeKVs_keys r r' hr]

theorem sameShapeList_length : ∀ (xs xs' : List Val), SameShapeList xs xs' → xs'.length = xs.length
  | [], _, h => by simp only [SameShapeList] at h; subst h; rfl
  | v :: r, _, h => by
    simp only [SameShapeList] at h
    obtain ⟨v', r', rfl, _, hr⟩ := h
    simp [sameShapeList_length r r' hr]

theorem interp_err_leaf (c : Cfg) (v : Val) (p : TPath) (e : Err) (h : interp c p v = .err e) :
    ∃ q s, (q, s) ∈ leaves p v ∧ leaf c q s = .err e :=
  walk_err_leaf (leaf c) v p e (interp_eq_walk c v p ▸ h)

theorem interpList_err_leaf (c : Cfg) : ∀ (xs : List Val) (p : TPath) (e : Err), interpList c p xs = .err e →
    ∃ q s, (q, s) ∈ leavesList p xs ∧ leaf c q s = .err e :=
  fun xs p e h => walkList_err_leaf (leaf c) xs p e (interpList_eq_walk c xs p ▸ h)

theorem interpKVs_fix (c : Cfg) : ∀ (kvs : List (String × Val)) (p : TPath),
    (∀ q s, (q, s) ∈ leavesKVs p kvs → leaf c q s = .ok (.str s)) → interpKVs c p kvs = .ok kvs :=
  fun kvs p h => interpKVs_eq_walk c kvs p ▸ walkKVs_fix kvs p h

theorem interpList_fix (c : Cfg) : ∀ (xs : List Val) (p : TPath),
    (∀ q s, (q, s) ∈ leavesList p xs → leaf c q s = .ok (.str s)) → interpList c p xs = .ok xs :=
  fun xs p h => interpList_eq_walk c xs p ▸ walkList_fix xs p h

theorem interpKVs_escapeAll (c : Cfg) : ∀ (kvs : List (String × Val)) (p : TPath),
    (∀ q s, (q, s) ∈ leavesKVs p kvs → leaf c q (escapeStr s) = .ok (.str s)) → interpKVs c p (escapeKVs kvs) = .ok kvs :=
  fun kvs p h => by rw [interpKVs_eq_walk, walkKVs_escapeAll]; exact walkKVs_fix kvs p h

theorem interpList_escapeAll (c : Cfg) : ∀ (xs : List Val) (p : TPath),
    (∀ q s, (q, s) ∈ leavesList p xs → leaf c q (escapeStr s) = .ok (.str s)) → interpList c p (escapeList xs) = .ok xs :=
  fun xs p h => by rw [interpList_eq_walk, walkList_escapeAll]; exact walkList_fix xs p h

/-! collect mode (`errs`, DESIGN §2.6: every error some iteration order of the Go maps can report first) is sound for the
list-order walk -/

theorem errs_sound₃ (c : Cfg) :
    (∀ (v : Val) (p : TPath),
      (∀ v', interp c p v = .ok v' → errs c p v = []) ∧ ∀ e, interp c p v = .err e → e ∈ errs c p v) ∧
    (∀ (kvs : List (String × Val)) (p : TPath),
      (∀ kvs', interpKVs c p kvs = .ok kvs' → errsKVs c p kvs = []) ∧ ∀ e, interpKVs c p kvs = .err e → e ∈ errsKVs c p kvs) ∧
    (∀ (xs : List Val) (p : TPath),
      (∀ xs', interpList c p xs = .ok xs' → errsList c p xs = []) ∧ ∀ e, interpList c p xs = .err e → e ∈ errsList c p xs) := by
  simp only [interp_eq_walk, interpKVs_eq_walk, interpList_eq_walk]
  apply Val.induct₃
  case null | bool | int | float => intros; simp only [walk, errs]; exact ⟨fun _ _ => trivial, fun _ h => nomatch h⟩
  case str =>
    intro s p
    simp only [walk, errs]
    exact ⟨fun _ h => by rw [h], fun _ h => by rw [h]; exact List.mem_singleton.2 rfl⟩
  case seq | map =>
    intro _ ih p
    simp only [walk, errs]
    exact ⟨fun _ h => by split at h <;> cases h; exact (ih p).1 _ ‹_›, fun _ h => by split at h <;> cases h; exact (ih p).2 _ ‹_›⟩
  case nil | nil' => intros; simp only [walkKVs, walkList, errsKVs, errsList]; exact ⟨fun _ _ => trivial, fun _ h => nomatch h⟩
  case cons =>
    -- a mapping can be ranged in any order: the errors of every entry are collected
    intro k v r ihv ihr p
    simp only [errsKVs, List.mem_append]
    refine ⟨fun l' h => ?_, fun e h => ?_⟩
    · obtain ⟨v', r', hv, hr, -⟩ := walkKVs_cons_ok h
      rw [(ihv _).1 _ hv, (ihr p).1 _ hr]; rfl
    · rcases walkKVs_cons_err h with h | ⟨v', -, hr⟩
      · exact .inl ((ihv _).2 e h)
      · exact .inr ((ihr p).2 e hr)
  case cons' =>
    -- a sequence is ranged in order: only the errors of the first failing item are collected
    intro v r ihv ihr p
    simp only [errsList]
    refine ⟨fun l' h => ?_, fun e h => ?_⟩
    · obtain ⟨v', r', hv, hr, -⟩ := walkList_cons_ok h
      rw [(ihv _).1 _ hv]; exact (ihr p).1 _ hr
    · rcases walkList_cons_err h with h | ⟨v', hv, hr⟩
      · have hm := (ihv _).2 e h
        split
        · rename_i hnil; rw [hnil] at hm; cases hm
        · exact hm
      · rw [(ihv _).1 _ hv]; exact (ihr p).2 e hr

theorem errsKVs_nil_of_ok (c : Cfg) : ∀ (kvs : List (String × Val)) (p : TPath) (kvs' : List (String × Val)),
    interpKVs c p kvs = .ok kvs' → errsKVs c p kvs = [] :=
  fun kvs p => ((errs_sound₃ c).2.1 kvs p).1

theorem errsList_nil_of_ok (c : Cfg) : ∀ (xs : List Val) (p : TPath) (xs' : List Val),
    interpList c p xs = .ok xs' → errsList c p xs = [] :=
  fun xs p => ((errs_sound₃ c).2.2 xs p).1

theorem errKVs_mem_errs (c : Cfg) : ∀ (kvs : List (String × Val)) (p : TPath) (e : Err),
    interpKVs c p kvs = .err e → e ∈ errsKVs c p kvs :=
  fun kvs p => ((errs_sound₃ c).2.1 kvs p).2

theorem errList_mem_errs (c : Cfg) : ∀ (xs : List Val) (p : TPath) (e : Err),
    interpList c p xs = .err e → e ∈ errsList c p xs :=
  fun xs p => ((errs_sound₃ c).2.2 xs p).2

end CV.Interp
