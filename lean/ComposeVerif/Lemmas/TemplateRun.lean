import ComposeVerif.Lemmas.TemplateFuel
import ComposeVerif.Lemmas.TemplateSelect
/-!
# The equations of the scan

What `run` does on every form of text, fuel-free and in terms of `seq`: a literal (`run_lit`), a lone `$` (`run_lone`), `$$`
(`run_esc`), `$NAME` (`run_named`), `${NAME}` (`run_braced`), `${NAME op …` — the brace counter closes right after the argument
(`run_op_closed`; `run_op` for a `Neutral` argument) or never (`run_op_open`) —, any other `${` (`run_malformed`); never a
panic (`run_ne_panic`).  The regexp matches an operator substitution up to the last `}` of the line, `repl` cuts the match
where the brace counter stops and hands the tail to a nested scan: `run_split` (splitting after a `}` that is the last one
of its line never cuts a match) glues it back.
-/
namespace CV.Template

theorem toOut_ne_panic (x : Except Err Str) (p : PanicSite) : toOut x ≠ .panic p := by
  cases x <;> exact fun h => by cases h

/-- the six operator functions are the table of the property: `x.isEmpty` in the code is `v == some []` in the table -/
theorem applyOp_eq_opSpec (o : Op) (n : Str) (v : Option Str) (d : Str) :
    applyOp o n v d = toOut (opSpec o n v d) := by
  cases o <;> rcases v with _ | _ | _ <;> rfl

theorem applyOp_ne_panic (o : Op) (n : Str) (v : Option Str) (d : Str) (p : PanicSite) :
    applyOp o n v d ≠ .panic p := by
  rw [applyOp_eq_opSpec]; exact toOut_ne_panic _ p

/-- the splits follow the branches of `replK` (re-match, operator present, argument, operator function, rest): the
    re-match of what the regexp matched cannot fail, so a panic is a panic of a nested scan -/
theorem rrepl_ne_panic (env : Env) (m : Str) (p : PanicSite) (hm : DollarHead m)
    (h : ∀ s, s.length + 1 ≤ m.length → run env s ≠ .panic p) : rrepl env m ≠ .panic p := by
  unfold rrepl replK
  split
  · rename_i hmd
    exact absurd hmd (matchDollar_isSome_of_head (dollarHead_subOf hm))
  · intro hc; cases hc
  · intro hc; cases hc
  · intro hc; cases hc
  · rename_i body x y hmd
    have hl := replK_callee_length hmd (selectOp m).str
    split
    · split
      · rename_i q hq; intro hc; cases hc; exact h _ hl.1 hq
      · intro hc; cases hc
      · split
        · split
          · intro hc; cases hc
          · rename_i hr; exact h _ hl.2
        · rename_i ho _
          intro hc; exact applyOp_ne_panic _ _ _ _ _ hc
    · intro hc; cases hc

theorem run_ne_panic (env : Env) (s : Str) (p : PanicSite) : run env s ≠ .panic p := by
  induction hn : s.length using Nat.strongRecOn generalizing s with
  | _ n ih =>
    subst hn
    have short : ∀ t : Str, t.length < s.length → run env t ≠ .panic p := fun t ht => ih _ ht t rfl
    cases s with
    | nil => intro h; cases h
    | cons c cs =>
      have hcs := short cs (Nat.lt_succ_self _)
      by_cases hc : c = '$'
      · subst hc
        cases hm : matchDollar ('$' :: cs) with
        | none =>
          rw [run_dollar_none env cs hm]
          exact fun h => (seq_eq_panic h).elim (fun h => by cases h) hcs
        | some x =>
          obtain ⟨k, m, rest⟩ := x
          have hl := matchDollar_length hm
          rw [List.length_cons] at hl
          rw [run_dollar_some env cs hm]
          exact fun h => (seq_eq_panic h).elim
            (rrepl_ne_panic env m p (dollarHead_of_match hm) fun t ht => short t (by simp only [List.length_cons]; omega))
            (short rest (by simp only [List.length_cons]; omega))
      · rw [run_cons_lit env c cs hc]
        exact fun h => (seq_eq_panic h).elim (fun h => by cases h) hcs

theorem run_lit (env : Env) (s X : Str) (hs : ∀ c ∈ s, c ≠ '$') :
    run env (s ++ X) = seq (.ok s) (run env X) := by
  induction s with
  | nil => exact (seq_ok_nil _).symm
  | cons c cs ih =>
    rw [List.cons_append, run_cons_lit env c _ (hs c (List.mem_cons_self ..)),
      ih (fun x hx => hs x (List.mem_cons_of_mem _ hx)), seq_ok_ok]
    rfl

theorem run_lit_ok (env : Env) (s : Str) (hs : ∀ c ∈ s, c ≠ '$') : run env s = .ok s := by
  have := run_lit env s [] hs
  rwa [List.append_nil, run_nil, seq_nil_ok] at this

theorem run_esc (env : Env) (X : Str) : run env ('$' :: '$' :: X) = seq (.ok ['$']) (run env X) := by
  rw [run_dollar_some env _ (matchDollar_esc X), rrepl, replK, subOf_no_brace _ (by unfold NoBrace; decide)]; rfl

theorem run_lone (env : Env) (X : Str) (hX : loneAfter X) : run env ('$' :: X) = seq (.ok ['$']) (run env X) :=
  run_dollar_none env X (matchDollar_lone X hX)

theorem run_named (env : Env) (n X : Str) (hn : validName n = true) (hX : noNameHead X = true) :
    run env ('$' :: (n ++ X)) = seq (.ok ((env n).getD [])) (run env X) := by
  have hm := matchDollar_named n [] hn rfl
  rw [List.append_nil] at hm
  have hnb : NoBrace ('$' :: n) := List.forall_mem_cons.2 ⟨by decide, noBrace_name (validName_all hn)⟩
  rw [run_dollar_some env _ (matchDollar_named n X hn hX), rrepl, replK, subOf_no_brace _ hnb, hm]

theorem run_braced (env : Env) (n X : Str) (hn : validName n = true) :
    run env ('$' :: '{' :: (n ++ '}' :: X)) = seq (.ok ((env n).getD [])) (run env X) := by
  have hall := validName_all hn
  have hm := matchDollar_brace (n ++ '}' :: X)
  have hm' := matchDollar_brace (n ++ ['}'])
  rw [matchBraced_var n _ hn] at hm hm'
  dsimp only at hm hm'
  have hsr := subOf_restOf_of_firstClose (pre := '$' :: '{' :: n) (Y := []) (by
    simpa only [List.nil_append, List.append_nil, List.cons_append] using firstClose_braces (a := []) [] (noBrace_name hall) neutral_nil)
  rw [List.cons_append, List.cons_append] at hsr
  rw [run_dollar_some env _ hm, rrepl, replK, hsr.1, hm']
  simp only [containsStr_name _ _ hall]
  rfl

theorem run_split (env : Env) (Z : Str) (hZ : lastCloseLen Z = none) (Y : Str) (hnl : noNL Y) (hend : EndsClose Y) :
    run env (Y ++ Z) = seq (run env Y) (run env Z) := by
  induction hn : Y.length using Nat.strongRecOn generalizing Y with
  | _ n ih =>
    subst hn
    cases Y with
    | nil => exact (seq_ok_nil _).symm
    | cons c Y1 =>
      rw [List.cons_append]
      by_cases hc : c = '$'
      · subst hc
        have hloc := matchDollar_local Y1 Z hnl hend hZ
        cases hm : matchDollar ('$' :: Y1) with
        | none =>
          rw [hm] at hloc
          rw [run_dollar_none env _ hloc, run_dollar_none env _ hm,
            ih _ (Nat.lt_succ_self _) Y1 (noNL_tail hnl) (endsClose_tail hend) rfl, seq_assoc]
        | some x =>
          obtain ⟨k, m, rest⟩ := x
          rw [hm] at hloc
          have h1 := (matchDollar_spec hm).1
          have hlen : rest.length < ('$' :: Y1).length := by have := matchDollar_length hm; omega
          rw [run_dollar_some env _ hloc, run_dollar_some env _ hm,
            ih _ hlen rest (noNL_suffix (h1 ▸ hnl)) (endsClose_suffix (h1 ▸ hend)) rfl, seq_assoc]
      · rw [run_cons_lit env c _ hc, run_cons_lit env c _ hc,
          ih _ (Nat.lt_succ_self _) Y1 (noNL_tail hnl) (endsClose_tail hend) rfl, seq_assoc]

/-- the rest `Y` is not reached after an error, but it cannot panic: `seq` describes both -/
theorem rrepl_op_core (env : Env) (n : Str) (o : Op) (a Y : Str) (hn : validName n = true) (ha_nl : noNL a)
    (hsub : subOf ('$' :: '{' :: (n ++ (o.str ++ (a ++ '}' :: Y)))) = '$' :: '{' :: (n ++ (o.str ++ (a ++ ['}']))))
    (hrest : restOf ('$' :: '{' :: (n ++ (o.str ++ (a ++ '}' :: Y)))) = Y) :
    rrepl env ('$' :: '{' :: (n ++ (o.str ++ (a ++ '}' :: Y)))) = seq (opOut env n o (run env a)) (run env Y) := by
  have hop := noOpChar_name (validName_all hn)
  have hsel : selectOp ('$' :: '{' :: (n ++ (o.str ++ (a ++ '}' :: Y)))) = o :=
    selectOp_render ('$' :: '{' :: n) o (a ++ '}' :: Y)
      (List.forall_mem_cons.2 ⟨by decide, List.forall_mem_cons.2 ⟨by decide, hop⟩⟩)
  have hm := matchDollar_brace (n ++ (o.str ++ (a ++ ['}'])))
  rw [matchBraced_op n o (a ++ ['}']) hn, lastCloseLen_close a [] ha_nl rfl] at hm
  simp only [Nat.add_sub_cancel, List.take_left'] at hm
  have hcut := cut_op_render n o a hop
  rw [rrepl, replK, hsub, hrest, hm, hsel]
  simp only [hcut.1, hcut.2, if_true, opOut]
  cases run env a with
  | panic p => rfl
  | err e => exact (seq_err_of_ne_panic _ _ (run_ne_panic env Y)).symm
  | ok d =>
    dsimp only
    cases applyOp o n (env n) d with
    | panic p => rfl
    | err e => exact (seq_err_of_ne_panic _ _ (run_ne_panic env Y)).symm
    | ok x => cases run env Y <;> rfl

/-- **closed case**: the brace counter returns to zero at the `}` right after `a` -/
theorem run_op_closed (env : Env) (n : Str) (o : Op) (a Y Z : Str) (hn : validName n = true)
    (ha : noNL a) (hY : noNL Y) (hYe : EndsClose Y) (hZ : lastCloseLen Z = none)
    (hfc : firstClose ('$' :: '{' :: (n ++ (o.str ++ (a ++ '}' :: Y)))) = some ('$' :: '{' :: (n ++ (o.str ++ a))).length) :
    run env ('$' :: '{' :: (n ++ (o.str ++ (a ++ '}' :: (Y ++ Z))))) =
      seq (opOut env n o (run env a)) (run env (Y ++ Z)) := by
  obtain ⟨k, hm⟩ := matchDollar_op_greedy n o a Y Z hn ha hY hYe hZ
  have hsr := subOf_restOf_of_firstClose (pre := '$' :: '{' :: (n ++ (o.str ++ a))) (Y := Y)
    (by simpa only [List.cons_append, List.append_assoc] using hfc)
  simp only [List.cons_append, List.append_assoc] at hsr
  rw [run_dollar_some env _ hm, rrepl_op_core env n o a Y hn ha hsr.1 hsr.2, run_split env Z hZ Y hY hYe, seq_assoc]

/-- **open case**: the braces of the greedy match never balance (`getFirstBraceClosingIndex` = -1): nothing is
    truncated, the whole text up to the last `}` of the line is the argument -/
theorem run_op_open (env : Env) (n : Str) (o : Op) (body Z : Str) (hn : validName n = true)
    (hb : noNL body) (hZ : lastCloseLen Z = none)
    (hfc : firstClose ('$' :: '{' :: (n ++ (o.str ++ (body ++ ['}'])))) = none) :
    run env ('$' :: '{' :: (n ++ (o.str ++ (body ++ '}' :: Z)))) = seq (opOut env n o (run env body)) (run env Z) := by
  obtain ⟨k, hm⟩ := matchDollar_op_greedy n o body [] Z hn hb (fun _ hc => by cases hc) (Or.inl rfl) hZ
  rw [List.nil_append] at hm
  rw [run_dollar_some env _ hm,
    rrepl_op_core env n o body [] hn hb (by rw [subOf, hfc]) (by rw [restOf, hfc]), run_nil, seq_nil_ok]

theorem run_op (env : Env) (n : Str) (o : Op) (a X : Str) (hn : validName n = true)
    (ha_nl : noNL a) (ha : Neutral a) :
    run env ('$' :: '{' :: (n ++ (o.str ++ (a ++ '}' :: X)))) = seq (opOut env n o (run env a)) (run env X) := by
  obtain ⟨Y, Z, rfl, hY, hYe, hZ⟩ := split_lastClose X
  have hnb : NoBrace (n ++ o.str) := List.forall_mem_append.2 ⟨noBrace_name (validName_all hn), noBrace_op o⟩
  exact run_op_closed env n o a Y Z hn ha_nl hY hYe hZ
    (by simpa only [List.append_assoc] using firstClose_braces Y hnb ha)

theorem rrepl_invalid (env : Env) : rrepl env ['$', '{'] = .err .invalid := rfl

theorem run_malformed (env : Env) (r : Str) (h : ¬ WellFormedBrace r) :
    run env ('$' :: '{' :: r) = .err .invalid := by
  have hm := matchDollar_brace r
  rw [matchBraced_invalid_shape r ((matchBraced_invalid_iff r).2 h)] at hm
  rw [run_dollar_some env _ hm, rrepl_invalid, seq_err_of_ne_panic _ _ (run_ne_panic env r)]

theorem run_escapeDollars (env : Env) (s : Str) : run env (escapeDollars s) = .ok s := by
  induction s with
  | nil => rfl
  | cons c cs ih =>
    unfold escapeDollars
    split
    · rename_i hc; subst hc
      rw [run_esc, ih]; rfl
    · rename_i hc
      rw [run_cons_lit env c _ hc, ih]; rfl

end CV.Template
