import ComposeVerif.Model.Trav
/-!
# The notions the traversal theorems are stated in

Beside `Reach`, `terminal`, `running` of `Model/Trav.lean`: the hypothesis on the graph (`GraphOK`), the projections of
the ghost log to vertices (`starts`, `finishes`), the two classes of labels (`internal`: taken by `walk`'s own goroutines;
`calm`: no error, no cancellation) and transitive prerequisites (`PreChain`).
-/
namespace CV.Trav

structure GraphOK (g : Graph) : Prop where
  nodup : g.verts.Nodup
  nonempty : g.verts ≠ []
  pre_mem : ∀ v ∈ g.verts, ∀ d ∈ g.pre v, d ∈ g.verts
  post_mem : ∀ v ∈ g.verts, ∀ d ∈ g.post v, d ∈ g.verts
  /-- `post` contains the converse of `pre` (children / parents maps of `graph.go`); only this inclusion is assumed -/
  pre_post : ∀ v ∈ g.verts, ∀ d ∈ g.pre v, v ∈ g.post d
  /-- acyclic: what `checkCycle` guarantees before `walk` is called -/
  rank : ∃ rk : V → Nat, ∀ v ∈ g.verts, ∀ d ∈ g.pre v, rk d < rk v

def starts (log : List Ev) : List V := log.filterMap (fun e => match e with | .start v => some v | _ => none)
def finishes (log : List Ev) : List V := log.filterMap (fun e => match e with | .finish v _ => some v | _ => none)

@[simp] theorem starts_start (v : V) (l : List Ev) : starts (.start v :: l) = v :: starts l := rfl
@[simp] theorem starts_finish (v : V) (e : Bool) (l : List Ev) : starts (.finish v e :: l) = starts l := rfl
@[simp] theorem finishes_start (v : V) (l : List Ev) : finishes (.start v :: l) = finishes l := rfl
@[simp] theorem finishes_finish (v : V) (e : Bool) (l : List Ev) : finishes (.finish v e :: l) = v :: finishes l := rfl

theorem mem_finishes_of {v : V} {e : Bool} {l : List Ev} (h : Ev.finish v e ∈ l) : v ∈ finishes l := by
  unfold finishes; rw [List.mem_filterMap]; exact ⟨_, h, rfl⟩

theorem mem_starts_of {v : V} {l : List Ev} (h : Ev.start v ∈ l) : v ∈ starts l := by
  unfold starts; rw [List.mem_filterMap]; exact ⟨_, h, rfl⟩

/-- steps taken by the goroutines of `walk` (everything but the visitor's return and the caller's cancellation) -/
def internal : Label → Bool
  | .wReturn _ _ => false
  | .extCancel => false
  | _ => true

/-- labels of a completion that needs neither an error nor a cancellation -/
def calm : Label → Bool
  | .wReturn _ e => !e
  | .extCancel => false
  | _ => true

/-- `d` is a transitive prerequisite of `v` along a chain whose intermediate vertices are visited (not skipped by the
root selection).  Forward walk: `v` depends on … depends on `d`; reverse walk: `d` depends on … depends on `v`. -/
inductive PreChain (g : Graph) : V → V → Prop
  | one {d v : V} : d ∈ g.pre v → PreChain g d v
  | cons {d u v : V} : PreChain g d u → g.skip u = false → u ∈ g.pre v → PreChain g d v

theorem preChain_left {g : Graph} {d m v : V} (hdm : d ∈ g.pre m) (hm : g.skip m = false) (hc : PreChain g m v) :
    PreChain g d v := by
  induction hc with
  | one hp => exact .cons (.one hdm) hm hp
  | cons _ hku hpu ih => exact .cons ih hku hpu

end CV.Trav
