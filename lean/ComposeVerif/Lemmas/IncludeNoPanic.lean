import ComposeVerif.Lemmas.IncludeImport
/-! No function on the path of `ApplyInclude` panics by itself: each is built from `ok`, `err`, `bind` and the two calls into
the world (`GetEnvFromFile`, the sub-load); one lemma per function. -/
namespace CV.Include
open CV CV.Val

variable {s : Val → Val → Bool} {S : String → Val → Val → Bool}

theorem strList_noPanic (v : Option Val) : NoPanic (strList v) := by
  unfold strList
  split
  · exact noPanic_ok _
  · exact noPanic_ok _
  · exact noPanic_ok _
  · split
    · exact noPanic_ok _
    · exact noPanic_err _
  · exact noPanic_err _

theorem cfgOf_noPanic (v : Val) : NoPanic (cfgOf v) := by
  unfold cfgOf
  split
  · exact noPanic_ok _
  · exact noPanic_ok _
  · rename_i kvs
    have hp := strList_noPanic (lookup "path" kvs)
    split
    · split
      · exact noPanic_bind (strList_noPanic _) (fun _ => noPanic_ok _)
      · exact noPanic_bind (strList_noPanic _) (fun _ => noPanic_ok _)
      · exact noPanic_bind (strList_noPanic _) (fun _ => noPanic_ok _)
      · exact noPanic_err _
    · exact noPanic_err _
    · rename_i site h; exact absurd h (hp site)
  · exact noPanic_err _

theorem cfgsOf_noPanic : ∀ l, NoPanic (cfgsOf l)
  | [] => noPanic_ok _
  | v :: r => by
    simp only [cfgsOf]
    exact noPanic_bind (cfgOf_noPanic v) (fun _ => noPanic_bind (cfgsOf_noPanic r) (fun _ => noPanic_ok _))

theorem loadIncludeConfig_noPanic (v : Option Val) : NoPanic (loadIncludeConfig v) := by
  unfold loadIncludeConfig
  split
  · exact noPanic_ok _
  · exact noPanic_ok _
  · exact cfgsOf_noPanic _
  · exact noPanic_err _

theorem importEntries_noPanic (frm to : KVs) : NoPanic (importEntries s frm to) := by
  rcases importEntries_outcome (s := s) frm to with ⟨r, hr⟩ | hr
  · rw [hr]; exact noPanic_ok _
  · rw [hr]; exact noPanic_err _

theorem importResource_noPanic (src tgt : KVs) (k : String) : NoPanic (importResource S src tgt k) := by
  unfold importResource
  split
  · exact noPanic_ok _
  · exact noPanic_ok _
  · split
    · exact noPanic_err _
    · split
      · exact noPanic_bind (importEntries_noPanic _ _) (fun _ => noPanic_ok _)
      · exact noPanic_err _

theorem importKinds_noPanic (src : KVs) : ∀ ks tgt, NoPanic (importKinds S src ks tgt)
  | [], _ => noPanic_ok _
  | k :: ks, tgt => by
    simp only [importKinds]
    exact noPanic_bind (importResource_noPanic src tgt k) (fun t => importKinds_noPanic src ks t)

theorem plan_noPanic (W : World) (wd L : String) (chain : List String) (r : IncCfg) : NoPanic (plan W wd L chain r) := by
  unfold plan
  split
  · exact noPanic_ok _
  · simp only
    split
    · exact noPanic_err _
    · exact noPanic_ok _

theorem envFilesExplicit_noPanic (W : World) (wd : String) : ∀ ef, NoPanic (envFilesExplicit W wd ef)
  | [] => noPanic_ok _
  | f :: rest => by
    simp only [envFilesExplicit]
    split
    · exact noPanic_bind (envFilesExplicit_noPanic W wd rest) (fun _ => noPanic_ok _)
    · split
      · exact noPanic_err _
      · split
        · exact noPanic_bind (envFilesExplicit_noPanic W wd rest) (fun _ => noPanic_ok _)
        · exact noPanic_err _

theorem envFiles_noPanic (W : World) (wd pd : String) (ef : List String) : NoPanic (envFiles W wd pd ef) := by
  unfold envFiles
  split
  · exact noPanic_ok _
  · exact envFilesExplicit_noPanic W wd _

end CV.Include
