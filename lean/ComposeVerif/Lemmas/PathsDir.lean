import ComposeVerif.Lemmas.PathsOrigin
/-! `filepath.Dir` (C12): `Dir` drops the last component before cleaning (`dir_eq`), keeps the anchor, and commutes with
`Join`: `Dir(Join(W, f)) = Join(W, Dir(f))` when `f` ends in a real name. -/
namespace CV.Paths

theorem splitSlash_flatten_slash (l : List Str) (hs : ∀ c ∈ l, '/' ∉ c) :
    splitSlash ((l.map (· ++ ['/'])).flatten) = l ++ [[]] := by
  induction l with
  | nil => simp [splitSlash]
  | cons a r ih =>
    simp only [List.map_cons, List.flatten_cons, List.append_assoc, List.singleton_append]
    rw [splitSlash_append, splitSlash_noSlash_self a (hs a (by simp)), ih (fun c hc => hs c (by simp [hc]))]
    simp

theorem dirPrefix_eq (p : Str) : dirPrefix p = (((splitSlash p).dropLast).map (· ++ ['/'])).flatten := by
  unfold dirPrefix
  cases hr : (splitSlash p).reverse with
  | nil => simp at hr; exact absurd hr (splitSlash_ne_nil p)
  | cons x rr =>
    have : splitSlash p = rr.reverse ++ [x] := by simpa using congrArg List.reverse hr
    simp [this]

theorem splitSlash_dirPrefix (p : Str) : splitSlash (dirPrefix p) = (splitSlash p).dropLast ++ [[]] := by
  rw [dirPrefix_eq]
  exact splitSlash_flatten_slash _ fun c hc => splitSlash_noSlash p c (List.dropLast_subset _ hc)

theorem isAbs_dirPrefix (p : Str) : isAbs (dirPrefix p) = isAbs p := by
  rw [dirPrefix_eq]
  cases p with
  | nil => rfl
  | cons c q =>
    by_cases hc : c = '/'
    · subst hc
      rw [splitSlash_cons_slash]
      cases hq : splitSlash q with
      | nil => exact absurd hq (splitSlash_ne_nil q)
      | cons s r => simp [List.dropLast, isAbs]
    · obtain ⟨s, r, _, h2⟩ := splitSlash_cons_ne c q hc
      rw [h2]
      cases r with
      | nil => simp [isAbs, hc]
      | cons b r' => simp [List.dropLast, isAbs, hc]

theorem isAbs_dir_eq (p : Str) : isAbs (dir p) = isAbs p := by
  unfold dir; rw [isAbs_clean, isAbs_dirPrefix]

theorem isAbs_dir (p : Str) (h : isAbs p = true) : isAbs (dir p) = true := by rw [isAbs_dir_eq]; exact h

theorem clean_dir (p : Str) : clean (dir p) = dir p := clean_idem _

theorem dir_eq (p : Str) : dir p = render (isAbs p) ((splitSlash p).dropLast.foldl (step (isAbs p)) []).reverse := by
  unfold dir clean cleanStack
  rw [isAbs_dirPrefix, splitSlash_dirPrefix, List.foldl_append]
  simp [step_skip _ _ [] (.inl rfl)]

/-- **joining a path that ends in a real name**: the machine has read `W` and all of `f` but that name (stack `S`),
and the name goes on top -/
theorem cleanStack_join_last (W f : Str) (I : List Str) (last : Str) (hW : W ≠ [])
    (hsplit : splitSlash f = I ++ [last]) (hlast : Norm last) :
    ∃ S, S = I.foldl (step (isAbs W)) (cleanStack W) ∧ cleanStack (W ++ '/' :: f) = last :: S ∧
      Valid (isAbs W) S ∧ (∀ c ∈ S, '/' ∉ c) ∧ '/' ∉ last := by
  have hfs : ∀ c ∈ I ++ [last], '/' ∉ c := fun c hc => splitSlash_noSlash f c (hsplit ▸ hc)
  refine ⟨_, rfl, ?_, valid_foldl _ _ _ (cleanStack_valid W), ?_, hfs last (by simp)⟩
  · rw [cleanStack_append _ _ hW, hsplit, List.foldl_append, List.foldl_cons, List.foldl_nil, step_norm _ _ last hlast]
  · intro c hc
    rcases foldl_step_mem _ _ _ c hc with h | h
    · exact cleanStack_noSlash W c h
    · exact hfs c (by simp [h])

theorem dropLast_foldl_render (r : Bool) (l : List Str) (x : Str) (hs : ∀ c ∈ l ++ [x], '/' ∉ c) :
    (splitSlash (render r (l ++ [x]))).dropLast.foldl (step r) [] = l.foldl (step r) [] := by
  have hj := splitSlash_joinSlash (l ++ [x]) (by simp) hs
  cases r
  · simp only [render, Bool.false_eq_true, if_false, List.append_eq_nil_iff, List.cons_ne_nil, and_false, hj,
      List.dropLast_concat]
  · simp only [render, if_true, splitSlash_cons_slash, hj]
    rw [← List.cons_append, List.dropLast_concat, List.foldl_cons, step_skip _ _ [] (.inl rfl)]

theorem dir_join (W f : Str) (I : List Str) (last : Str) (hW : W ≠ []) (hf : isAbs f = false)
    (hsplit : splitSlash f = I ++ [last]) (hlast : Norm last) :
    dir (join W f) = join W (dir f) := by
  obtain ⟨S, hS, hst, hv, hs, hl⟩ := cleanStack_join_last W f I last hW hsplit hlast
  have hr : isAbs (W ++ '/' :: f) = isAbs W := isAbs_append _ _ hW
  -- the right-hand side renders `S`: `Dir(f)` contributes the components of `f` but the last
  have hrhs : join W (dir f) = render (isAbs W) S.reverse := by
    rw [join_of_ne W _ hW]
    unfold dir
    rw [clean_right W _ hW (by rw [isAbs_dirPrefix]; exact hf)]
    unfold clean
    rw [isAbs_append _ _ hW, cleanStack_append _ _ hW, splitSlash_dirPrefix, hsplit, List.dropLast_concat,
      List.foldl_append, ← hS, List.foldl_cons, List.foldl_nil, step_skip _ _ [] (.inl rfl)]
  -- the left-hand side: `Dir` drops `last` from the rendering of `last :: S` and reads the rest back
  have hX : join W f = render (isAbs W) (S.reverse ++ [last]) := by
    rw [join_of_ne W _ hW]; unfold clean; rw [hr, hst, List.reverse_cons]
  have hXabs : isAbs (join W f) = isAbs W := by rw [join_of_ne W _ hW, isAbs_clean, hr]
  rw [hrhs, dir_eq, hXabs, hX, dropLast_foldl_render _ _ _ (by
    intro c hc
    rcases List.mem_append.mp hc with h | h
    · exact hs c (List.mem_reverse.mp h)
    · rw [List.mem_singleton.mp h]; exact hl), foldl_step_valid _ S hv]

theorem splitSlash_joinWd_last (R f : Str) (I : List Str) (last : Str) (hR : R ≠ []) (hRr : isAbs R = false)
    (hsplit : splitSlash f = I ++ [last]) (hlast : Norm last) :
    ∃ I', splitSlash (joinWd R f) = I' ++ [last] := by
  obtain ⟨S, _, hst, _, hs, hl⟩ := cleanStack_join_last R f I last hR hsplit hlast
  have hsp : splitSlash (join R f) = S.reverse ++ [last] := by
    rw [join_of_ne R _ hR]
    unfold clean
    rw [isAbs_append _ _ hR, hRr, hst, List.reverse_cons]
    simp only [render, Bool.false_eq_true, if_false, List.append_eq_nil_iff, List.cons_ne_nil, and_false]
    refine splitSlash_joinSlash _ (by simp) fun c hc => ?_
    rcases List.mem_append.mp hc with h | h
    · exact hs c (List.mem_reverse.mp h)
    · rw [List.mem_singleton.mp h]; exact hl
  rcases joinWd_cases R f with ⟨h, _⟩ | ⟨h, _, _⟩
  · rw [h, hsp]; exact ⟨_, rfl⟩
  · rw [h, show '.' :: '/' :: join R f = ['.'] ++ '/' :: join R f from rfl, splitSlash_append, hsp]
    exact ⟨splitSlash ['.'] ++ S.reverse, by simp⟩

end CV.Paths
