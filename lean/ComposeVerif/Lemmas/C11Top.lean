import ComposeVerif.Lemmas.C11Idem
import ComposeVerif.Model.C11Pipeline
/-! `Normalize` as one expression: per service `normSvc`, at top level one in-place rewrite (`topH`) followed by the store of the project's networks
(`normalizePure_eq`, the shape `normService_eq` has too), behind the three shape tests (`normalize_ok_pure`, `normalize_of_shapes`).  From that form: the two
decisions of `normalizeNetworks` as one `if` each (`nnService_eq`, `nnNetworks_eq`), the result read back key by key (`lookup_…_normalizePure`,
`declaredNetworks_normalizePure`: what other topics read `Normalize` through), and that the networks decision is stable (`nnNetworks_normalizePure`). -/
namespace CV.C11
open CV CV.Val CV.C11.Spec

/-- the service says which networks it joins (or has a `network_mode`) -/
def NetSettled (s : KVs) : Prop :=
  (lookup "network_mode" s).isSome = true ∨ ∃ n, lookup "networks" s = some n ∧ n ≠ .map []

/-- `normalizeNetworks` attaches the service to `default`: no `network_mode`, and `networks` missing or empty -/
def needsDefault (s : KVs) : Bool :=
  !(lookup "network_mode" s).isSome &&
    match lookup "networks" s with
    | none => true
    | some (.map []) => true
    | some _ => false

theorem nnService_eq (s : KVs) :
    nnService s = if needsDefault s then Val.insert "networks" defaultNet s else s := by
  unfold nnService needsDefault
  cases (lookup "network_mode" s).isSome <;> simp only [Bool.not_true, Bool.not_false, Bool.false_and, Bool.true_and,
    if_true, if_false, Bool.false_eq_true]
  split <;> simp_all

theorem needsDefault_iff_not_settled (s : KVs) : needsDefault s = false ↔ NetSettled s := by
  unfold needsDefault NetSettled
  cases h : (lookup "network_mode" s).isSome <;> simp
  cases hn : lookup "networks" s with
  | none => simp
  | some v => cases v with
    | map m => cases m <;> simp
    | _ => simp

theorem nnService_of_settled {s : KVs} (h : NetSettled s) : nnService s = s := by
  rw [nnService_eq, (needsDefault_iff_not_settled s).mpr h]; rfl

theorem netSettled_nnService (s : KVs) : NetSettled (nnService s) := by
  rw [nnService_eq]
  split
  · exact .inr ⟨defaultNet, lookup_insert_self _ _ _, nofun⟩
  · exact (needsDefault_iff_not_settled s).mp (Bool.eq_false_iff.mpr ‹_›)

theorem lookup_nnService_ne {k : String} (hk : k ≠ "networks") (s : KVs) :
    lookup k (nnService s) = lookup k s := by
  rw [nnService_eq]
  split
  · exact lookup_insert_ne hk _ _
  · rfl

theorem netSettled_normService (clean : String → String) (env : Env) {s : KVs} (h : NetSettled s) :
    NetSettled (normService clean env s) := by
  unfold NetSettled
  rwa [lookup_normService_read clean env (by simp [svcRead, namespaces]),
    lookup_normService_read clean env (by simp [svcRead])]

theorem normSvc_idempotent (clean : String → String) (hclean : ∀ s, clean (clean s) = clean s)
    (env : Env) (henv : envLookup env "" = none) (s : KVs) :
    normSvc clean env (normSvc clean env s) = normSvc clean env s := by
  unfold normSvc
  rw [nnService_of_settled (netSettled_normService clean env (netSettled_nnService s))]
  exact normService_idem clean hclean env henv _

theorem lookup_normSvc_attr (clean : String → String) (env : Env) {k : String} (hd : k ≠ "depends_on")
    (hn : k ≠ "networks") (s : KVs) :
    lookup k (normSvc clean env s) = (lookup k s).map (svcAttr clean env k) := by
  unfold normSvc
  rw [lookup_normService_attr clean env hd, lookup_nnService_ne hn]

theorem lookup_normSvc_read (clean : String → String) (env : Env) {k : String} (hk : k ∈ svcRead) (hn : k ≠ "networks")
    (s : KVs) : lookup k (normSvc clean env s) = lookup k s := by
  unfold normSvc
  rw [lookup_normService_read clean env hk, lookup_nnService_ne hn]

theorem svcUsesDefault_nnService {s : KVs} (h : (lookup "network_mode" s).isSome = false) :
    svcUsesDefault (nnService s) = svcUsesDefault s := by
  rw [nnService_eq]
  split
  · -- attached because `networks` is missing or empty: it counted as using `default` before, and does with `default` written
    rename_i hd
    unfold needsDefault at hd
    rw [h] at hd
    unfold svcUsesDefault
    rw [lookup_insert_self]
    split at hd <;> simp_all [defaultNet, lookup]
  · rfl

theorem svcJoinsDefault_normSvc (clean : String → String) (env : Env) (v : Val) :
    svcJoinsDefault (onMap (normSvc clean env) v) = svcJoinsDefault v := by
  cases v with
  | map s =>
    simp only [onMap, svcJoinsDefault, svcUsesDefault, normSvc]
    rw [lookup_normService_read clean env (by simp [svcRead, namespaces]),
      lookup_normService_read clean env (by simp [svcRead]), lookup_nnService_ne (by simp)]
    cases h : (lookup "network_mode" s).isSome with
    | true => rfl
    | false => exact congrArg _ (svcUsesDefault_nnService h)
  | _ => rfl

theorem nameResource_idem (pj : Option Val) (key : String) (v : Val) :
    nameResource pj key (nameResource pj key v) = nameResource pj key v := by
  have h : ∀ res, nameResourceKVs pj key (nameResourceKVs pj key res) = nameResourceKVs pj key res := fun res => by
    obtain ⟨x, hx, hn⟩ := lookup_setIfNil_self_nonnull "name" (.str (defaultName pj key res)) nofun res
    exact setIfNil_of_nonnull hx hn
  cases v with
  | map res => exact congrArg Val.map (h res)
  | null => exact congrArg Val.map (h [])
  | _ => rfl

theorem nameSectionV_eq (pj : Option Val) : nameSectionV pj = onMap (mapAt (nameResource pj)) := by
  funext v; cases v <;> rfl

theorem nameSectionV_idem (pj : Option Val) (v : Val) :
    nameSectionV pj (nameSectionV pj v) = nameSectionV pj v := by
  rw [nameSectionV_eq]; exact onMap_idem (mapAt_idem (nameResource_idem pj)) v

theorem namesTop_idem (pj : Option Val) (k : String) (v : Val) :
    namesTop pj k (namesTop pj k v) = namesTop pj k v := by
  unfold namesTop
  split
  · exact nameSectionV_idem pj v
  · rfl

theorem namesTop_of_not_resource (pj : Option Val) {k : String} (h : resourceNames.contains k = false) (v : Val) :
    namesTop pj k v = v := by
  unfold namesTop
  rw [h]
  rfl

theorem lookup_setNames_of_not_resource {k : String} (h : resourceNames.contains k = false) (d : KVs) :
    lookup k (setNames d) = lookup k d :=
  lookup_mapAt_of_id (namesTop_of_not_resource _ h) d

/-- what `Normalize` does to the value stored under top-level key `k` (given the project name `pj`) -/
def topH (clean : String → String) (env : Env) (pj : Option Val) (k : String) (v : Val) : Val :=
  namesTop pj k (nsTop clean env k (nnTop k v))

theorem topH_services (clean : String → String) (env : Env) (pj : Option Val) (v : Val) :
    topH clean env pj "services" v = nsTop clean env "services" (nnTop "services" v) :=
  namesTop_of_not_resource pj (by simp [resourceNames]) _

theorem topH_services_eq (clean : String → String) (env : Env) (pj : Option Val) (v : Val) :
    topH clean env pj "services" v = onMap (mapVals (onMap (normSvc clean env))) v := by
  rw [topH_services]
  unfold nnTop nsTop
  rw [if_pos rfl, if_pos rfl]
  cases v with
  | map svcs =>
    refine congrArg Val.map ?_
    rw [mapVals_mapVals]
    refine mapVals_congr fun kv _ => ?_
    cases kv.2 <;> rfl
  | _ => rfl

theorem topH_of_not_services (clean : String → String) (env : Env) (pj : Option Val) {k : String}
    (hk : k ≠ "services") (v : Val) : topH clean env pj k v = namesTop pj k v := by
  unfold topH nnTop nsTop
  rw [if_neg hk, if_neg hk]

theorem topH_resource (clean : String → String) (env : Env) (pj : Option Val) {k : String}
    (hk : resourceNames.contains k = true) (v : Val) : topH clean env pj k v = nameSectionV pj v := by
  have hs : k ≠ "services" := by rintro rfl; simp [resourceNames] at hk
  rw [topH_of_not_services clean env pj hs, namesTop, if_pos hk]

theorem topH_networks (clean : String → String) (env : Env) (pj : Option Val) (v : Val) :
    topH clean env pj "networks" v = nameSectionV pj v :=
  topH_resource clean env pj (by simp [resourceNames]) v

theorem topH_of_plain (clean : String → String) (env : Env) (pj : Option Val) {k : String}
    (h1 : k ≠ "services") (h2 : resourceNames.contains k = false) (v : Val) : topH clean env pj k v = v := by
  rw [topH_of_not_services clean env pj h1, namesTop_of_not_resource pj h2]

theorem topH_idem (clean : String → String) (hclean : ∀ s, clean (clean s) = clean s)
    (env : Env) (henv : envLookup env "" = none) (pj : Option Val) (k : String) (v : Val) :
    topH clean env pj k (topH clean env pj k v) = topH clean env pj k v := by
  by_cases hk : k = "services"
  · subst hk
    simp only [topH_services_eq]
    refine onMap_idem (fun m => ?_) v
    rw [mapVals_mapVals]
    exact mapVals_congr fun kv _ => onMap_idem (normSvc_idempotent clean hclean env henv) kv.2
  · simp only [topH_of_not_services clean env pj hk, namesTop_idem]

theorem lookup_nnServices_ne {k : String} (hk : k ≠ "services") (d : KVs) : lookup k (nnServices d) = lookup k d :=
  lookup_mapAt_of_id (fun v => by simp only [nnTop, hk, if_false]) d

theorem lookup_normServices_ne (clean : String → String) (env : Env) {k : String} (hk : k ≠ "services") (d : KVs) :
    lookup k (normServices clean env d) = lookup k d :=
  lookup_mapAt_of_id (fun v => by simp only [nsTop, hk, if_false]) d

theorem normNetworks_eq (d : KVs) : normNetworks d = putNonEmpty "networks" (nnNetworks d) (nnServices d) := by
  unfold normNetworks putNonEmpty
  cases nnNetworks d <;> rfl

theorem normalizePure_eq (clean : String → String) (env : Env) (d : KVs) :
    normalizePure clean env d =
      putNonEmpty "networks" (mapAt (nameResource (lookup "name" d)) (nnNetworks d))
        (mapAt (topH clean env (lookup "name" d)) d) := by
  have hname : lookup "name" (normServices clean env (normNetworks d)) = lookup "name" d := by
    rw [lookup_normServices_ne clean env (by simp), normNetworks_eq, lookup_putNonEmpty_ne (by simp),
      lookup_nnServices_ne (by simp)]
  unfold normalizePure setNames
  rw [hname, normNetworks_eq]
  unfold normServices nnServices
  cases nnNetworks d with
  | nil => simp only [putNonEmpty, mapAt_mapAt]; rfl
  | cons e t =>
    simp only [putNonEmpty, mapAt_insert, mapAt_mapAt]
    have h : namesTop (lookup "name" d) "networks" (nsTop clean env "networks" (.map (e :: t))) =
        .map (mapAt (nameResource (lookup "name" d)) (e :: t)) := topH_networks clean env _ _
    rw [h]
    rfl

theorem lookup_normalizePure (clean : String → String) (env : Env) (d : KVs) {k : String} (hk : k ≠ "networks") :
    lookup k (normalizePure clean env d) = (lookup k d).map (topH clean env (lookup "name" d) k) := by
  rw [normalizePure_eq, lookup_putNonEmpty_ne hk, lookup_mapAt]

theorem lookup_networks_normalizePure (clean : String → String) (env : Env) (d : KVs) :
    lookup "networks" (normalizePure clean env d) =
      match nnNetworks d with
      | [] => (lookup "networks" d).map (nameSectionV (lookup "name" d))
      | e :: t => some (.map (mapAt (nameResource (lookup "name" d)) (e :: t))) := by
  rw [normalizePure_eq, lookup_putNonEmpty_self, lookup_mapAt, funext (topH_networks clean env _)]
  cases nnNetworks d <;> rfl

/-- the services of the result in the model's own form: `normalizeNetworks`, then the loop body, on every service -/
theorem lookup_services_normalizePure (clean : String → String) (env : Env) {d svcs : KVs}
    (hs : lookup "services" d = some (.map svcs)) :
    lookup "services" (normalizePure clean env d) =
      some (.map (mapVals (normServiceV clean env) (mapVals nnServiceV svcs))) := by
  rw [lookup_normalizePure clean env d (by simp), hs, Option.map_some, topH_services, nnTop, if_pos rfl, nsTop, if_pos rfl]

theorem exists_networks_iff {P : KVs → Prop} (hP : ¬ P []) (x : KVs) :
    (∃ nets, lookup "networks" x = some (.map nets) ∧ P nets) ↔ P (declaredNetworks x) := by
  unfold declaredNetworks
  cases lookup "networks" x with
  | none => simpa using hP
  | some v => cases v <;> simp [hP]

theorem usesDefault_mapAt_topH (clean : String → String) (env : Env) (pj : Option Val) (d : KVs) :
    usesDefaultNetwork (mapAt (topH clean env pj) d) = usesDefaultNetwork d := by
  unfold usesDefaultNetwork
  rw [lookup_mapAt]
  cases lookup "services" d with
  | none => rfl
  | some v =>
    simp only [Option.map_some, topH_services_eq]
    cases v with
    | map svcs =>
      simp only [onMap, mapVals, List.any_map]
      exact congrArg _ (funext fun kv => svcJoinsDefault_normSvc clean env kv.2)
    | _ => rfl

theorem declared_mapAt_topH (clean : String → String) (env : Env) (pj : Option Val) (d : KVs) :
    declaredNetworks (mapAt (topH clean env pj) d) = mapAt (nameResource pj) (declaredNetworks d) := by
  unfold declaredNetworks
  rw [lookup_mapAt]
  cases lookup "networks" d with
  | none => rfl
  | some v =>
    simp only [Option.map_some, topH_networks, nameSectionV_eq]
    cases v <;> rfl

theorem nnNetworks_eq (d : KVs) :
    nnNetworks d = if usesDefaultNetwork d then setIfAbsent "default" .null (declaredNetworks d) else declaredNetworks d := by
  unfold nnNetworks setIfAbsent
  cases usesDefaultNetwork d <;> cases h : lookup "default" (declaredNetworks d) <;> simp [h]

theorem nnNetworks_default_of_uses {d : KVs} (h : usesDefaultNetwork d = true) :
    (lookup "default" (nnNetworks d)).isSome = true := by
  rw [nnNetworks_eq, h, if_pos rfl, lookup_setIfAbsent_self]; rfl

theorem nnNetworks_eq_nil {d : KVs} (h : nnNetworks d = []) :
    declaredNetworks d = [] ∧ usesDefaultNetwork d = false := by
  rw [nnNetworks_eq] at h
  split at h
  · exact absurd (nnNetworks_default_of_uses ‹_›) (by rw [nnNetworks_eq, if_pos ‹_›, h]; simp [lookup])
  · exact ⟨h, Bool.eq_false_iff.mpr ‹_›⟩

theorem nnNetworks_of_declared {d : KVs} {n : KVs} (hd : declaredNetworks d = n)
    (hu : usesDefaultNetwork d = true → (lookup "default" n).isSome = true) : nnNetworks d = n := by
  rw [nnNetworks_eq, hd]
  split
  · obtain ⟨x, hx⟩ := Option.isSome_iff_exists.mp (hu ‹_›)
    exact setIfAbsent_of_some hx
  · rfl

/-- the networks section of the result, read the way `normalizeNetworks` reads it -/
theorem declaredNetworks_normalizePure (clean : String → String) (env : Env) (d : KVs) :
    declaredNetworks (normalizePure clean env d) = mapAt (nameResource (lookup "name" d)) (nnNetworks d) := by
  rw [normalizePure_eq]
  unfold declaredNetworks
  rw [lookup_putNonEmpty_self]
  cases h : nnNetworks d with
  | nil => exact (declared_mapAt_topH clean env _ d).trans (by rw [(nnNetworks_eq_nil h).1])
  | cons e t => rfl

theorem nnNetworks_normalizePure (clean : String → String) (env : Env) (d : KVs) :
    nnNetworks (normalizePure clean env d) = mapAt (nameResource (lookup "name" d)) (nnNetworks d) := by
  refine nnNetworks_of_declared (declaredNetworks_normalizePure clean env d) fun hu => ?_
  have hu' : usesDefaultNetwork d = true := by
    rw [normalizePure_eq] at hu
    unfold usesDefaultNetwork at hu ⊢
    rw [lookup_putNonEmpty_ne (by simp)] at hu
    exact (usesDefault_mapAt_topH clean env _ d).symm.trans hu
  have := nnNetworks_default_of_uses hu'
  rw [lookup_mapAt]
  cases hl : lookup "default" (nnNetworks d) with
  | none => rw [hl] at this; cases this
  | some x => rfl

theorem lookup_name_normalizePure (clean : String → String) (env : Env) (d : KVs) :
    lookup "name" (normalizePure clean env d) = lookup "name" d := by
  rw [normalizePure_eq, lookup_putNonEmpty_ne (by simp),
    lookup_mapAt_of_id (topH_of_plain clean env _ (by simp) (by simp [resourceNames]))]

theorem normalize_ok_pure {clean : String → String} {env : Env} {d e : KVs} (h : normalize clean env d = .ok e) :
    (shapeNN d = true ∧ shapeServices d = true ∧ shapeNames d = true) ∧ e = normalizePure clean env d := by
  unfold normalize at h
  -- seven of the eight cases make `h` an `err = ok`; only all three shapes true survives
  cases h1 : shapeNN d <;> cases h2 : shapeServices d <;> cases h3 : shapeNames d <;> simp [h1, h2, h3] at h
  exact ⟨⟨rfl, rfl, rfl⟩, h.symm⟩

theorem normalize_of_shapes {clean : String → String} {env : Env} {d : KVs} (h1 : shapeNN d = true)
    (h2 : shapeServices d = true) (h3 : shapeNames d = true) :
    normalize clean env d = .ok (normalizePure clean env d) := by
  simp [normalize, h1, h2, h3]


end CV.C11
