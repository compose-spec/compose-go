import ComposeVerif.Lemmas.TemplateMatch
/-!
# The brace counter of the `template.Substitute` model

`firstCloseGo` (`getFirstBraceClosingIndex`) on text it passes over without reaching zero (`NoBrace`, `Neutral`,
`braceBal_neutral`), where it stops on `${` n a `}` (`firstClose_braces`), what `repl` cuts off there (`subOf`, `restOf`), and
`ArgOK`: the rendering of a well-formed operator argument is newline-free and neutral (`seg_argOK` / `list_argOK`).
-/
namespace CV.Template

def NoBrace (a : Str) : Prop := ∀ c ∈ a, c ≠ '{' ∧ c ≠ '}'

theorem firstCloseGo_nil (i : Nat) (o : Int) : firstCloseGo [] i o = none := rfl

theorem firstCloseGo_open (rest : Str) (i : Nat) (o : Int) :
    firstCloseGo ('{' :: rest) i o = firstCloseGo rest (i + 1) (o + 1) := by
  rw [firstCloseGo]

theorem firstCloseGo_close (rest : Str) (i : Nat) (o : Int) :
    firstCloseGo ('}' :: rest) i o = if o - 1 == 0 then some i else firstCloseGo rest (i + 1) (o - 1) := by
  rw [firstCloseGo]

theorem firstCloseGo_other {c : Char} (hc : c ≠ '{' ∧ c ≠ '}') (rest : Str) (i : Nat) (o : Int) :
    firstCloseGo (c :: rest) i o = firstCloseGo rest (i + 1) o := by
  rw [firstCloseGo]
  · exact hc.2
  · exact hc.1

theorem firstCloseGo_skip (a rest : Str) (i : Nat) (o : Int) (ha : NoBrace a) :
    firstCloseGo (a ++ rest) i o = firstCloseGo rest (i + a.length) o := by
  induction a generalizing i with
  | nil => rfl
  | cons c cs ih =>
    rw [List.cons_append, firstCloseGo_other (ha c (List.mem_cons_self ..)),
      ih (i + 1) (fun x hx => ha x (List.mem_cons_of_mem _ hx)), List.length_cons, Nat.add_right_comm, Nat.add_assoc]

theorem firstCloseGo_ge (s : Str) (i : Nat) (o : Int) (j : Nat) (h : firstCloseGo s i o = some j) : i ≤ j := by
  induction s generalizing i o with
  | nil => cases h
  | cons c cs ih =>
    by_cases h1 : c = '{'
    · subst h1; exact Nat.le_of_succ_le (ih _ _ (firstCloseGo_open .. ▸ h))
    · by_cases h2 : c = '}'
      · subst h2
        rw [firstCloseGo_close] at h
        split at h
        · cases h; exact Nat.le_refl _
        · exact Nat.le_of_succ_le (ih _ _ h)
      · exact Nat.le_of_succ_le (ih _ _ (firstCloseGo_other ⟨h1, h2⟩ .. ▸ h))

/-- the brace counter of `getFirstBraceClosingIndex` passes over `a` without reaching zero -/
def Neutral (a : Str) : Prop :=
  ∀ (rest : Str) (i : Nat) (o : Int), 1 ≤ o → firstCloseGo (a ++ rest) i o = firstCloseGo rest (i + a.length) o

theorem neutral_noBrace {a : Str} (h : NoBrace a) : Neutral a := fun rest i o _ => firstCloseGo_skip a rest i o h

theorem neutral_nil : Neutral [] := fun _ _ _ _ => rfl

theorem neutral_append {a b : Str} (ha : Neutral a) (hb : Neutral b) : Neutral (a ++ b) := by
  intro rest i o ho
  rw [List.append_assoc, ha _ _ _ ho, hb _ _ _ ho, List.length_append, Nat.add_assoc]

theorem neutral_braces {mid a : Str} (hm : NoBrace mid) (ha : Neutral a) : Neutral ('{' :: (mid ++ (a ++ ['}']))) := by
  intro rest i o ho
  have h0 : (o + 1 - 1 == 0) = false := by rw [beq_eq_false_iff_ne]; omega
  rw [List.cons_append, List.append_assoc, List.append_assoc, firstCloseGo_open, firstCloseGo_skip _ _ _ _ hm,
    ha _ _ _ (by omega), List.singleton_append, firstCloseGo_close, h0, Int.add_sub_cancel]
  simp only [Bool.false_eq_true, if_false, List.length_cons, List.length_append, List.length_nil]
  congr 1; omega

theorem braceBal_neutral (s : Str) : ∀ (d : Nat), braceBal s d = true →
    ∀ (rest : Str) (i : Nat) (o : Int), 1 ≤ o →
      firstCloseGo (s ++ rest) i (o + d) = firstCloseGo rest (i + s.length) o := by
  induction s with
  | nil =>
    intro d h rest i o _
    have : d = 0 := by simpa [braceBal] using h
    subst this; simp
  | cons c cs ih =>
    intro d h rest i o ho
    rw [List.cons_append, List.length_cons, ← Nat.add_assoc, Nat.add_right_comm]
    by_cases h1 : c = '{'
    · subst h1
      rw [firstCloseGo_open, ← ih (d + 1) h rest (i + 1) o ho]
      congr 1; omega
    · by_cases h2 : c = '}'
      · subst h2
        simp only [braceBal, Bool.and_eq_true, bne_iff_ne, ne_eq] at h
        have h0 : (o + (d : Int) - 1 == 0) = false := by rw [beq_eq_false_iff_ne]; omega
        rw [firstCloseGo_close, h0, ← ih (d - 1) h.2 rest (i + 1) o ho]
        simp only [Bool.false_eq_true, if_false]
        congr 1; omega
      · rw [firstCloseGo_other ⟨h1, h2⟩]
        rw [braceBal] at h
        · exact ih d h rest (i + 1) o ho
        · exact h1
        · exact h2

theorem firstClose_braces {n a : Str} (Y : Str) (hn : NoBrace n) (ha : Neutral a) :
    firstClose ('$' :: '{' :: (n ++ (a ++ '}' :: Y))) = some ('$' :: '{' :: (n ++ a)).length := by
  rw [firstClose, firstCloseGo_other (by decide), firstCloseGo_open, firstCloseGo_skip _ _ _ _ hn,
    ha _ _ _ (by decide), firstCloseGo_close]
  simp only [Int.zero_add, Int.sub_self, beq_self_eq_true, if_true, List.length_cons, List.length_append]
  congr 1; omega

def subOf (m : Str) : Str := match firstClose m with | some i => m.take (i+1) | none => m

def restOf (m : Str) : Str := match firstClose m with | some i => m.drop (i+1) | none => []

theorem subOf_length (m : Str) : (subOf m).length ≤ m.length := by
  unfold subOf; split <;> simp [List.length_take]; omega

theorem restOf_length (m : Str) : (restOf m).length ≤ m.length - 1 := by
  unfold restOf; split <;> simp [List.length_drop]; omega

theorem subOf_restOf_of_firstClose {pre Y : Str} (h : firstClose (pre ++ '}' :: Y) = some pre.length) :
    subOf (pre ++ '}' :: Y) = pre ++ ['}'] ∧ restOf (pre ++ '}' :: Y) = Y := by
  have e : pre ++ '}' :: Y = (pre ++ ['}']) ++ Y := by rw [List.append_assoc]; rfl
  have l : (pre ++ ['}']).length = pre.length + 1 := by rw [List.length_append]; rfl
  rw [subOf, restOf, h]
  dsimp only
  rw [e, ← l]
  exact ⟨List.take_left' rfl, List.drop_left' rfl⟩

theorem subOf_no_brace (m : Str) (h : NoBrace m) : subOf m = m := by
  have := firstCloseGo_skip m [] 0 0 h
  rw [List.append_nil] at this
  rw [subOf, firstClose, this]; rfl

theorem dollarHead_subOf {m : Str} (h : DollarHead m) : DollarHead (subOf m) := by
  obtain ⟨c, r, rfl, hc⟩ := h
  unfold subOf
  split
  · rename_i i hi
    rw [firstClose, firstCloseGo_other (by decide)] at hi
    obtain ⟨i', rfl⟩ : ∃ i', i = i' + 1 := ⟨i - 1, by have := firstCloseGo_ge _ _ _ _ hi; omega⟩
    exact ⟨c, r.take i', rfl, hc⟩
  · exact ⟨c, r, rfl, hc⟩

theorem noBrace_name {n : Str} (hall : ∀ x ∈ n, isNameChar x = true) : NoBrace n :=
  fun c hc => ⟨nameChar_ne (hall c hc) rfl, nameChar_ne (hall c hc) rfl⟩

theorem noBrace_op (o : Op) : NoBrace o.str := by
  unfold NoBrace; cases o <;> decide

theorem render_op_eq (n : Str) (o : Op) (arg : List Seg) :
    (Seg.op n o arg).render = '$' :: '{' :: (n ++ (o.str ++ (renderL arg ++ ['}']))) := by
  simp [Seg.render]

theorem render_braced_eq (n : Str) : (Seg.var n true).render = '$' :: '{' :: (n ++ ['}']) := by
  simp [Seg.render]

/-- what the rendering of a well-formed operator argument looks like to the matcher -/
def ArgOK (a : Str) : Prop := noNL a ∧ Neutral a

theorem argOK_noBrace {a : Str} (h1 : noNL a) (h2 : NoBrace a) : ArgOK a := ⟨h1, neutral_noBrace h2⟩

theorem argOK_append {a b : Str} (ha : ArgOK a) (hb : ArgOK b) : ArgOK (a ++ b) :=
  ⟨List.forall_mem_append.2 ⟨ha.1, hb.1⟩, neutral_append ha.2 hb.2⟩

/-- a braced substitution whose head `mid` (name, operator) is brace- and newline-free, around an argument -/
theorem argOK_braces {mid a : Str} (hm1 : noNL mid) (hm2 : NoBrace mid) (ha : ArgOK a) :
    ArgOK ('$' :: '{' :: (mid ++ (a ++ ['}']))) := by
  exact ⟨List.forall_mem_cons.2 ⟨by decide, List.forall_mem_cons.2 ⟨by decide,
      List.forall_mem_append.2 ⟨hm1, List.forall_mem_append.2 ⟨ha.1, by decide⟩⟩⟩⟩,
    neutral_append (a := ['$']) (neutral_noBrace (by unfold NoBrace; decide)) (neutral_braces hm2 ha.2)⟩

theorem litOkArg_spec {s : Str} (h : litOkArg s = true) : (∀ c ∈ s, c ≠ '$') ∧ ArgOK s := by
  simp only [litOkArg, List.all_eq_true, Bool.and_eq_true, bne_iff_ne, ne_eq] at h
  refine ⟨fun c hc => (h.1 c hc).1, fun c hc => (h.1 c hc).2, fun rest i o ho => ?_⟩
  simpa using braceBal_neutral s 0 h.2 rest i o ho

mutual
theorem seg_argOK : (s : Seg) → s.wf true = true → ArgOK s.render
  | .lit s, h => (litOkArg_spec (s := s) (by simpa only [Seg.wf, if_true] using h)).2
  | .esc, _ => argOK_noBrace (by unfold noNL; decide) (by unfold NoBrace; decide)
  | .var n false, h => by
    have hall := validName_all (by simpa only [Seg.wf] using h)
    exact argOK_noBrace (List.forall_mem_cons.2 ⟨by decide, noNL_name hall⟩)
      (List.forall_mem_cons.2 ⟨by decide, noBrace_name hall⟩)
  | .var n true, h => by
    have hall := validName_all (by simpa only [Seg.wf] using h)
    exact argOK_braces (a := []) (noNL_name hall) (noBrace_name hall) ⟨fun _ hc => (by cases hc), neutral_nil⟩
  | .op n o arg, h => by
    simp only [Seg.wf, Bool.and_eq_true] at h
    have hall := validName_all h.1
    rw [render_op_eq, ← List.append_assoc]
    exact argOK_braces (List.forall_mem_append.2 ⟨noNL_name hall, noNL_op o⟩)
      (List.forall_mem_append.2 ⟨noBrace_name hall, noBrace_op o⟩) (list_argOK arg h.2)
theorem list_argOK : (l : List Seg) → wfL true l = true → ArgOK (renderL l)
  | [], _ => ⟨fun _ hc => (by cases hc), neutral_nil⟩
  | s :: r, h => by
    simp only [wfL, Bool.and_eq_true] at h
    rw [renderL]
    exact argOK_append (seg_argOK s h.1.1) (list_argOK r h.1.2)
end

end CV.Template
