import ComposeVerif.Lemmas.Graph
import ComposeVerif.Lemmas.Consistency
/-! `ProjEquiv`: the same project with its Go maps listed in another order.  The specification does not depend on the order
(`holds_equiv`, `depRel_equiv`, `consistentFull_equiv`), and neither do the pieces of the model (`ruleCheck_equiv`, `checkSvc_equiv`,
`depsBuildable_equiv`, `checkCycleProj_equiv`). -/
namespace CV.Consistency

/-- `s'` is `s` up to its two Go maps (`depends_on`, `networks`), which have the same members in any order -/
structure SvcEquiv (s s' : Svc) : Prop where
  eq : s' = { s with dependsOn := s'.dependsOn, networks := s'.networks }
  deps : ∀ x, x ∈ s'.dependsOn ↔ x ∈ s.dependsOn
  nets : ∀ x, x ∈ s'.networks ↔ x ∈ s.networks

/-- `p'` is `p` up to its Go maps (services, disabled services, resources, secrets, and the maps inside each
service), which have the same members in any order -/
structure ProjEquiv (p p' : Proj) : Prop where
  fwd : ∀ n s, (n, s) ∈ p.services → ∃ s', (n, s') ∈ p'.services ∧ SvcEquiv s s'
  bwd : ∀ n s', (n, s') ∈ p'.services → ∃ s, (n, s) ∈ p.services ∧ SvcEquiv s s'
  disabled : ∀ x, x ∈ p'.disabled ↔ x ∈ p.disabled
  networks : ∀ x, x ∈ p'.networks ↔ x ∈ p.networks
  volumes : ∀ x, x ∈ p'.volumes ↔ x ∈ p.volumes
  configs : ∀ x, x ∈ p'.configs ↔ x ∈ p.configs
  secrets : ∀ e, e ∈ p'.secrets ↔ e ∈ p.secrets

theorem SvcEquiv.refl (s : Svc) : SvcEquiv s s := ⟨rfl, fun _ => Iff.rfl, fun _ => Iff.rfl⟩

theorem SvcEquiv.symm {s s' : Svc} (h : SvcEquiv s s') : SvcEquiv s' s :=
  ⟨by rw [h.eq], fun x => (h.deps x).symm, fun x => (h.nets x).symm⟩

theorem SvcEquiv.of_perm (s : Svc) (d : List (String × Bool)) (n : List String) (hd : d.Perm s.dependsOn) (hn : n.Perm s.networks) :
    SvcEquiv s { s with dependsOn := d, networks := n } :=
  ⟨rfl, fun _ => hd.mem_iff, fun _ => hn.mem_iff⟩

theorem ProjEquiv.symm {p p' : Proj} (h : ProjEquiv p p') : ProjEquiv p' p where
  fwd n s hs := by obtain ⟨s', h1, h2⟩ := h.bwd n s hs; exact ⟨s', h1, h2.symm⟩
  bwd n s hs := by obtain ⟨s', h1, h2⟩ := h.fwd n s hs; exact ⟨s', h1, h2.symm⟩
  disabled x := (h.disabled x).symm
  networks x := (h.networks x).symm
  volumes x := (h.volumes x).symm
  configs x := (h.configs x).symm
  secrets x := (h.secrets x).symm

theorem ProjEquiv.of_perm (p : Proj) (sv : List (String × Svc)) (hs : sv.Perm p.services) (sec : List (String × Secret))
    (hsec : sec.Perm p.secrets) : ProjEquiv p { p with services := sv, secrets := sec } where
  fwd n s h := ⟨s, hs.mem_iff.mpr h, SvcEquiv.refl s⟩
  bwd n s h := ⟨s, hs.mem_iff.mp h, SvcEquiv.refl s⟩
  disabled _ := Iff.rfl
  networks _ := Iff.rfl
  volumes _ := Iff.rfl
  configs _ := Iff.rfl
  secrets _ := hsec.mem_iff

theorem ProjEquiv.refl (p : Proj) : ProjEquiv p p where
  fwd n s h := ⟨s, h, SvcEquiv.refl s⟩
  bwd n s h := ⟨s, h, SvcEquiv.refl s⟩
  disabled _ := Iff.rfl
  networks _ := Iff.rfl
  volumes _ := Iff.rfl
  configs _ := Iff.rfl
  secrets _ := Iff.rfl

theorem SvcEquiv.trans {a b c : Svc} (h1 : SvcEquiv a b) (h2 : SvcEquiv b c) : SvcEquiv a c :=
  ⟨by rw [h2.eq, h1.eq], fun x => (h2.deps x).trans (h1.deps x), fun x => (h2.nets x).trans (h1.nets x)⟩

theorem ProjEquiv.trans {p q r : Proj} (h1 : ProjEquiv p q) (h2 : ProjEquiv q r) : ProjEquiv p r where
  fwd n s hs := by
    obtain ⟨s1, hs1, e1⟩ := h1.fwd n s hs
    obtain ⟨s2, hs2, e2⟩ := h2.fwd n s1 hs1
    exact ⟨s2, hs2, e1.trans e2⟩
  bwd n s hs := by
    obtain ⟨s1, hs1, e1⟩ := h2.bwd n s hs
    obtain ⟨s2, hs2, e2⟩ := h1.bwd n s1 hs1
    exact ⟨s2, hs2, e2.trans e1⟩
  disabled x := (h2.disabled x).trans (h1.disabled x)
  networks x := (h2.networks x).trans (h1.networks x)
  volumes x := (h2.volumes x).trans (h1.volumes x)
  configs x := (h2.configs x).trans (h1.configs x)
  secrets x := (h2.secrets x).trans (h1.secrets x)

theorem ProjEquiv.enabled {p p' : Proj} (h : ProjEquiv p p') (x : String) : x ∈ p'.enabled ↔ x ∈ p.enabled := by
  simp only [Proj.enabled, List.mem_map]
  constructor
  · rintro ⟨⟨n, s'⟩, hm, rfl⟩
    obtain ⟨s, hs, -⟩ := h.bwd n s' hm
    exact ⟨(n, s), hs, rfl⟩
  · rintro ⟨⟨n, s⟩, hm, rfl⟩
    obtain ⟨s', hs, -⟩ := h.fwd n s hm
    exact ⟨(n, s'), hs, rfl⟩

theorem ProjEquiv.secretNames {p p' : Proj} (h : ProjEquiv p p') (x : String) : x ∈ p'.secretNames ↔ x ∈ p.secretNames := by
  simp only [Proj.secretNames, List.mem_map]
  constructor
  · rintro ⟨e, hm, rfl⟩; exact ⟨e, (h.secrets e).mp hm, rfl⟩
  · rintro ⟨e, hm, rfl⟩; exact ⟨e, (h.secrets e).mpr hm, rfl⟩

theorem eq_nil_of_mem_iff {α : Type} {l l' : List α} (h : ∀ x, x ∈ l' ↔ x ∈ l) (hl : l = []) : l' = [] := by
  cases l' with
  | nil => rfl
  | cons a r => exact absurd ((h a).mp (List.mem_cons_self ..)) (by simp [hl])

theorem holds_equiv {p p' : Proj} (hp : ProjEquiv p p') {s s' : Svc} (hs : SvcEquiv s s') (r : Rule)
    (h : Holds p s r) : Holds p' s' r := by
  have hen := hp.enabled
  have hsn := hp.secretNames
  rw [hs.eq]
  cases r <;> simp only [Holds, getScale] at h ⊢
  case networks => intro n hn; exact (hp.networks n).mpr (h n ((hs.nets n).mp hn))
  case volumes => intro v hv h1 h2; exact (hp.volumes _).mpr (h v hv h1 h2)
  case secrets => intro x hx; exact (hsn x).mpr (h x hx)
  case configs => intro x hx; exact (hp.configs x).mpr (h x hx)
  case buildSecrets => intro b hb x hx; exact (hsn x).mpr (h b hb x hx)
  case dependsOn =>
    intro d hd
    exact (h d ((hs.deps d).mp hd)).imp (hen _).mpr fun h => ⟨(hp.disabled _).mpr h.1, h.2⟩
  case serviceRef => intro x hx; exact (hen x).mpr (h x hx)
  case exclNetworkMode => exact h.imp_right (eq_nil_of_mem_iff hs.nets)
  -- the other rules do not read a map
  all_goals exact h

theorem depRel_equiv {p p' : Proj} (hp : ProjEquiv p p') {a b : String} (h : DepRel p a b) : DepRel p' a b := by
  obtain ⟨s, hs, hb, r, hr⟩ := h
  obtain ⟨s', hs', he⟩ := hp.fwd a s hs
  exact ⟨s', hs', (hp.enabled b).mpr hb, r, (he.deps _).mpr hr⟩

theorem acyclic_equiv {p p' : Proj} (hp : ProjEquiv p p') (h : Acyclic p) : Acyclic p' :=
  fun v w => h v (w.mono fun _ _ e => depRel_equiv hp.symm e)

theorem consistentFull_equiv {p p' : Proj} (hp : ProjEquiv p p') (h : ConsistentFull p) : ConsistentFull p' := by
  refine ⟨?_, ?_, ?_⟩
  · intro e he r
    obtain ⟨s, hs, hse⟩ := hp.bwd e.1 e.2 he
    exact holds_equiv hp hse r (h.1 (e.1, s) hs r)
  · intro e he
    exact h.2.1 e ((hp.secrets e).mp he)
  · exact acyclic_equiv hp h.2.2

/-! ## `checkConsistency` piece by piece under `ProjEquiv`: the model respects it too -/

theorem ruleCheck_equiv {p p' : Proj} (hp : ProjEquiv p p') {s s' : Svc} (hs : SvcEquiv s s') (r : Rule) :
    ruleCheck p' s' r = ruleCheck p s r := by
  cases h : ruleCheck p s r with
  | none =>
    exact (ruleCheck_iff p' s' r).mpr (holds_equiv hp hs r ((ruleCheck_iff p s r).mp h))
  | some e =>
    cases h' : ruleCheck p' s' r with
    | none =>
      have := (ruleCheck_iff p s r).mpr (holds_equiv hp.symm hs.symm r ((ruleCheck_iff p' s' r).mp h'))
      rw [this] at h; cases h
    | some e' => rw [ruleCheck_err p s r e h, ruleCheck_err p' s' r e' h']

theorem checkSvc_equiv {p p' : Proj} (hp : ProjEquiv p p') {s s' : Svc} (hs : SvcEquiv s s') :
    checkSvc p' s' = checkSvc p s := by
  rw [checkSvc_findSome, checkSvc_findSome]
  have : ruleCheck p' s' = ruleCheck p s := funext (ruleCheck_equiv hp hs)
  rw [this]

theorem missingClass_equiv {p p' : Proj} (hp : ProjEquiv p p') (x : String) :
    missingClass p'.disabled x = missingClass p.disabled x := by
  have : p'.disabled.contains x = p.disabled.contains x := by
    rw [Bool.eq_iff_iff, List.contains_iff_mem, List.contains_iff_mem]
    exact hp.disabled x
  rw [missingClass, this, missingClass]

theorem depsBuildable_equiv {p p' : Proj} (hp : ProjEquiv p p') (h : DepsBuildable p) : DepsBuildable p' := by
  intro e he d hd
  obtain ⟨s, hs, hse⟩ := hp.bwd e.1 e.2 he
  rcases h (e.1, s) hs d ((hse.deps d).mp hd) with h | h
  · exact .inl ((hp.enabled _).mpr h)
  · exact .inr h

theorem checkCycleProj_equiv {p p' : Proj} (hp : ProjEquiv p p') (hnd : p.enabled.Nodup) (hnd' : p'.enabled.Nodup)
    (hb : DepsBuildable p) : checkCycleProj p' = checkCycleProj p := by
  rw [checkCycleProj_buildable p hb, checkCycleProj_buildable p' (depsBuildable_equiv hp hb)]
  have : acyclicB p' = acyclicB p := Bool.eq_iff_iff.mpr <|
    (acyclicB_iff p' hnd').trans <| Iff.trans ⟨acyclic_equiv hp.symm, acyclic_equiv hp⟩ (acyclicB_iff p hnd).symm
  rw [Bool.not_inj this]

end CV.Consistency
