import ComposeVerif.Lemmas.SelectWalk
/-! C15: the order of the callback sequence of `ForEachService`: what a (sub-)walk newly marks it calls once, in post-order
(`Topo`, step `Topo.visit`, chained along `Dfs`) -/
namespace CV.Sel

variable {svcs : AL Svc} {pol : Policy}

/-- `y` comes strictly before (an occurrence of) `x` in `l` -/
def Before (l : List String) (y x : String) : Prop := ∃ a b, l = a ++ x :: b ∧ y ∈ a

theorem Before.append_right {l : List String} {y x : String} (h : Before l y x) (m : List String) : Before (l ++ m) y x := by
  obtain ⟨a, b, rfl, hy⟩ := h
  exact ⟨a, b ++ m, by simp, hy⟩

theorem Before.append_left {m : List String} {y x : String} (h : Before m y x) (l : List String) : Before (l ++ m) y x := by
  obtain ⟨a, b, rfl, hy⟩ := h
  exact ⟨l ++ a, b, by simp, List.mem_append_right _ hy⟩

theorem Before.of_mem {l m : List String} {y x : String} (hy : y ∈ l) (hx : x ∈ m) : Before (l ++ m) y x := by
  obtain ⟨a, b, rfl⟩ := List.append_of_mem hx
  exact ⟨l ++ a, b, by simp, List.mem_append_left _ hy⟩

theorem before_of_Before {l : List String} (nd : l.Nodup) {y x : String} (h : Before l y x) : before l y x = true := by
  obtain ⟨a, b, rfl, hy⟩ := h
  have hx : x ∉ a := fun c => (List.nodup_append.1 nd).2.2 x c x List.mem_cons_self rfl
  have : (a ++ x :: b).takeWhile (fun z => z != x) = a := by
    rw [List.takeWhile_append_of_pos fun z hz => bne_iff_ne.2 fun e : z = x => hx (e ▸ hz)]
    simp [List.takeWhile]
  rw [before, this]
  simpa using hy

/-- a (sub-)walk calls the newly marked `new`, each once, each after what it pulls in unless that was marked before or
lies on a cycle through it -/
def Topo (svcs : AL Svc) (pol : Policy) (seen calls s2 c2 : List String) : Prop :=
  ∃ new, c2 = calls ++ new ∧ new.Nodup ∧ (∀ x ∈ new, x ∈ s2 ∧ x ∉ seen) ∧ (∀ y ∈ s2, y ∈ seen ∨ y ∈ new) ∧
    ∀ x ∈ new, ∀ y, Edge svcs pol x y → y ∈ seen ∨ Before new y x ∨ Star svcs pol y x

theorem Topo.nil (svcs : AL Svc) (pol : Policy) (seen calls : List String) : Topo svcs pol seen calls seen calls :=
  ⟨[], (List.append_nil _).symm, .nil, nofun, fun _ hy => .inl hy, nofun⟩

theorem Topo.visit (nd : (keys svcs).Nodup) (nk : NamesOKs svcs) {n : String} {s : Svc}
    (hs : lookup n svcs = some s) {ns seen calls s3 c3 s2 c2 : List String} (hseen : n ∉ seen)
    (P1 : Post svcs pol (keys (nextOf svcs pol n s)) (n :: seen) s3) (T1 : Topo svcs pol (n :: seen) calls s3 c3)
    (P2 : Post svcs pol ns s3 s2) (T2 : Topo svcs pol s3 (c3 ++ [n]) s2 c2) : Topo svcs pol seen calls s2 c2 := by
  obtain ⟨new1, rfl, nd1, a1, b1, t1⟩ := T1
  obtain ⟨new2, rfl, nd2, a2, b2, t2⟩ := T2
  have hn3 : n ∈ s3 := P1.mono n List.mem_cons_self
  have split : new1 ++ n :: new2 = (new1 ++ [n]) ++ new2 := by simp
  refine ⟨new1 ++ n :: new2, by simp, ?_, fun x hx => ?_, fun y hy => ?_, fun x hx y hxy => ?_⟩
  · refine List.nodup_append.2 ⟨nd1, List.nodup_cons.2 ⟨fun c => (a2 n c).2 hn3, nd2⟩, fun x hx y hy e => ?_⟩
    rcases List.mem_cons.1 hy with rfl | hy
    · exact (a1 x hx).2 (e ▸ List.mem_cons_self)
    · exact (a2 y hy).2 (e ▸ (a1 x hx).1)
  · rcases List.mem_append.1 hx with e | e
    · exact ⟨P2.mono _ (a1 x e).1, fun c => (a1 x e).2 (List.mem_cons_of_mem _ c)⟩
    · rcases List.mem_cons.1 e with rfl | e'
      · exact ⟨P2.mono _ hn3, hseen⟩
      · exact ⟨(a2 x e').1, fun c => (a2 x e').2 (P1.mono _ (List.mem_cons_of_mem _ c))⟩
  · rcases b2 y hy with e | e
    · rcases b1 y e with e' | e'
      · rcases List.mem_cons.1 e' with rfl | e''
        · exact .inr (by simp)
        · exact .inl e''
      · exact .inr (List.mem_append_left _ e')
    · exact .inr (List.mem_append_right _ (List.mem_cons_of_mem _ e))
  · -- an old successor is `n` itself (on a cycle: `n` reaches `x`) or old for the whole visit
    have old : ∀ {x y}, y ∈ n :: seen → Star svcs pol n x → y ∈ seen ∨ Before (new1 ++ n :: new2) y x ∨ Star svcs pol y x :=
      fun hy st => (List.mem_cons.1 hy).elim (fun e => .inr (.inr (e ▸ st))) .inl
    rcases List.mem_append.1 hx with e | e
    · -- `x` was called by the recursive call on the successors of `n`
      rcases t1 x e y hxy with q | q | q
      · rcases P1.sound x (a1 x e).1 with c | ⟨r, hr1, hr2, hr3⟩
        · exact absurd c (a1 x e).2
        · exact old q (.head ((edge_iff_next nd nk hs).2 ⟨hr1, hr2⟩) hr3)
      · exact .inr (.inl (q.append_right _))
      · exact .inr (.inr q)
    · rcases List.mem_cons.1 e with rfl | e'
      · -- `x = n`: its successors were roots of the recursive call
        have hy := (edge_iff_next nd nk hs).1 hxy
        rcases b1 y (P1.roots y hy.1 hy.2) with c | c
        · exact old c (.refl _)
        · exact .inr (.inl ⟨new1, new2, rfl, c⟩)
      · -- `x` is called later in the loop
        rcases t2 x e' y hxy with q | q | q
        · rcases b1 y q with c | c
          · rcases List.mem_cons.1 c with rfl | c'
            · exact .inr (.inl (split ▸ Before.of_mem (by simp) e'))
            · exact .inl c'
          · exact .inr (.inl (split ▸ Before.of_mem (by simp [c]) e'))
        · exact .inr (.inl (split ▸ q.append_left _))
        · exact .inr (.inr q)

theorem Dfs.topo (nd : (keys svcs).Nodup) (nk : NamesOKs svcs) {ns seen calls : List String} {r : WalkC}
    (h : Dfs svcs pol ns seen calls r) : ∀ s2 c2, r = .ok s2 c2 → Topo svcs pol seen calls s2 c2 := by
  induction h with
  | nil => rintro _ _ ⟨⟩; exact .nil ..
  | skip _ _ ih => exact ih
  | visit hs hseen _ h1 h2 ih1 ih2 =>
    exact fun s2 c2 e => .visit nd nk hs hseen (h1.post nd nk _ _ rfl) (ih1 _ _ rfl) (h2.post nd nk _ _ e) (ih2 _ _ e)
  | failHere => nofun
  | failBelow => nofun

end CV.Sel
