import ComposeVerif.Model.C01Files
/-!
The loops of `Model/C01Files.lean` (`env_file` / `label_file` of a service, of all services): each succeeds iff every
entry passes its own test, one equation per loop with no accumulator on the right (nothing is carried from one entry, or one
service, to the next); and which entry an error names.
-/
namespace CV.C01
open CV.C01.Files

theorem loadMappingFile_err {d : Disk} {p c q : String} (h : loadMappingFile d p = .error (c, q)) :
    q = p ∧ d ≠ .file true := by
  cases d with
  | file b => cases b <;> cases h; exact ⟨rfl, nofun⟩
  | _ => cases h; exact ⟨rfl, nofun⟩

theorem loadEnvFiles_err_names (fs : String → Disk) : ∀ (es : List EnvFile) (acc : List String) (c p : String),
    loadEnvFiles fs es acc = .err c p → ∃ e ∈ es, e.path = p ∧ fs p ≠ .file true ∧ (isMissing (fs p) = true → e.required = true)
  | [], _, _, _, h => by cases h
  | x :: r, acc, c, p, h => by
    have tail : ∀ acc', loadEnvFiles fs r acc' = .err c p →
        ∃ e ∈ x :: r, e.path = p ∧ fs p ≠ .file true ∧ (isMissing (fs p) = true → e.required = true) :=
      fun acc' h' =>
        let ⟨e, he, h123⟩ := loadEnvFiles_err_names fs r acc' c p h'
        ⟨e, List.mem_cons_of_mem _ he, h123⟩
    unfold loadEnvFiles at h
    split at h
    · next hm =>
      split at h
      · next hr =>
        cases h
        exact ⟨x, List.mem_cons_self .., rfl, fun e => (by rw [e] at hm; cases hm), fun _ => hr⟩
      · exact tail _ h
    · next hm =>
      split at h
      · exact tail _ h
      · next hbad =>
        cases h
        obtain ⟨rfl, hne⟩ := loadMappingFile_err hbad
        exact ⟨x, List.mem_cons_self .., rfl, hne, fun h' => absurd h' hm⟩

/-- the test `loadEnvFile` makes of one entry -/
def envGood (fs : String → Disk) (e : EnvFile) : Bool :=
  if isMissing (fs e.path) then !e.required else fs e.path == .file true

theorem envGood_iff {fs : String → Disk} {e : EnvFile} :
    envGood fs e = true ↔ fs e.path = .file true ∨ (e.required = false ∧ isMissing (fs e.path) = true) := by
  unfold envGood
  cases hd : fs e.path with
  | file b => simp [isMissing]
  | _ => simp [isMissing]

theorem loadEnvFiles_isOk (fs : String → Disk) : ∀ (es : List EnvFile) (acc : List String),
    (loadEnvFiles fs es acc).isOk = es.all (envGood fs)
  | [], _ => rfl
  | e :: r, acc => by
    have ih := loadEnvFiles_isOk fs r
    rw [List.all_cons, loadEnvFiles, envGood]
    cases hd : fs e.path with
    | file b => cases b <;> simp [isMissing, loadMappingFile, ih] <;> rfl
    | _ => cases e.required <;> simp [isMissing, loadMappingFile, ih] <;> rfl

theorem loadLabelFiles_isOk (fs : String → Disk) : ∀ (ps acc : List String),
    (loadLabelFiles fs ps acc).isOk = ps.all (fun p => fs p == .file true)
  | [], _ => rfl
  | p :: r, acc => by
    have ih := loadLabelFiles_isOk fs r
    rw [List.all_cons, loadLabelFiles]
    cases hd : fs p with
    | file b => cases b <;> simp [isMissing, loadMappingFile, ih] <;> rfl
    | _ => simp [isMissing, loadMappingFile] <;> rfl

theorem envPass_isOk (fs : String → Disk) : ∀ (svcs : List Svc) (acc : List String),
    (envPass fs svcs acc).isOk = svcs.all fun s => s.envFiles.all (envGood fs)
  | [], _ => rfl
  | s :: r, acc => by
    rw [List.all_cons, ← loadEnvFiles_isOk fs s.envFiles [], envPass]
    cases loadEnvFiles fs s.envFiles [] with
    | ok l => exact envPass_isOk fs r _
    | err c p => rfl

theorem labelPass_isOk (fs : String → Disk) : ∀ (svcs : List Svc) (acc : List String),
    (labelPass fs svcs acc).isOk = svcs.all fun s => s.labelFiles.all fun p => fs p == .file true
  | [], _ => rfl
  | s :: r, acc => by
    rw [List.all_cons, ← loadLabelFiles_isOk fs s.labelFiles [], labelPass]
    cases loadLabelFiles fs s.labelFiles [] with
    | ok l => exact labelPass_isOk fs r _
    | err c p => rfl

theorem resolveProject_isOk (fs : String → Disk) (skipEnv : Bool) (svcs : List Svc) :
    (resolveProject fs skipEnv svcs).isOk =
      ((skipEnv || svcs.all fun s => s.envFiles.all (envGood fs)) && svcs.all fun s => s.labelFiles.all fun p => fs p == .file true) := by
  rw [← envPass_isOk fs svcs [], ← labelPass_isOk fs svcs [], resolveProject]
  cases skipEnv <;> simp only [if_true, Bool.false_eq_true, if_false]
  · cases envPass fs svcs [] <;> cases labelPass fs svcs [] <;> rfl
  · cases labelPass fs svcs [] <;> rfl

end CV.C01
