import ComposeVerif.Lemmas.C02Deep
import ComposeVerif.Lemmas.MapOrderSort
/-! What `mergeYaml` computes from a tree before merging (`%v`, `convertIntoSequence`, `convertIntoMapping`, the depth)
is the same, or two spellings of one result, on two spellings of one tree. -/
namespace CV.Deep
open CV CV.Merge
open CV.Det.Whole (EW)
open CV.Val (lookup insert keys KVs)

theorem insertStr_eq (s : String) (l : List String) : Merge.insertStr s l = Det.insertBy Det.strLe s l := by
  induction l with
  | nil => rfl
  | cons t r ih => simp only [Merge.insertStr, Det.insertBy, Det.strLe, decide_eq_true_eq, ih]

theorem sortStrs_eq (l : List String) : Merge.sortStrs l = Det.sortStrs l := by
  induction l with
  | nil => rfl
  | cons s r ih => simp only [Merge.sortStrs, Det.sortStrs, Det.isort, insertStr_eq] at ih ⊢; rw [ih]

theorem insertKS_eq (e : String × String) (l : List (String × String)) : Merge.insertKS e l = Det.insertBy Det.keyLe e l := by
  induction l with
  | nil => rfl
  | cons t r ih => simp only [Merge.insertKS, Det.insertBy, Det.keyLe, decide_eq_true_eq, ih]

theorem sortKS_eq (l : List (String × String)) : Merge.sortKS l = Det.isort Det.keyLe l := by
  induction l with
  | nil => rfl
  | cons s r ih => simp only [Merge.sortKS, Det.isort, insertKS_eq, ih]

theorem sortKS_perm {l l' : List (String × String)} (hn : (l.map Prod.fst).Nodup) (hp : l'.Perm l) :
    Merge.sortKS l' = Merge.sortKS l := by
  rw [sortKS_eq, sortKS_eq]
  exact Det.isort_keyLe_perm hn hp

theorem fmtKVs_eq_map (a : KVs) : fmtKVs a = a.map (fun kv => (kv.1, fmtV kv.2)) := by
  induction a with
  | nil => rfl
  | cons hd tl ih => obtain ⟨k, v⟩ := hd; simp only [fmtKVs, List.map_cons, ih]

theorem fmtVs_eq_map (xs : List Val) : fmtVs xs = xs.map fmtV := by
  induction xs with
  | nil => rfl
  | cons x r ih => simp only [fmtVs, List.map_cons, ih]

theorem _root_.CV.Deep.MRel.perm_map {γ : Type} (g : String → Val → γ) {a b : KVs} (h : MRel a b)
    (hg : ∀ k x y, lookup k a = some x → lookup k b = some y → g k x = g k y) :
    (a.map (fun kv => (kv.1, g kv.1 kv.2))).Perm (b.map (fun kv => (kv.1, g kv.1 kv.2))) := by
  apply perm_of_find_eq
  · simpa [Det.akeys, keys, Function.comp_def] using h.2.1.1
  · simpa [Det.akeys, keys, Function.comp_def] using h.2.2.1
  · intro k
    rw [Det.find_map_entries, Det.find_map_entries, find_eq_lookup, find_eq_lookup]
    rcases (h.lookups k).none_or_some with ⟨h1, h2⟩ | ⟨x, y, h1, h2, _⟩ <;> rw [h1, h2]
    simp only [Option.map_some]; rw [hg k x y h1 h2]

theorem fmtV_ew {v w : Val} (h : EW v w) : fmtV v = fmtV w := by
  refine EW.induct (P := fun v w => fmtV v = fmtV w) (PL := fun xs ys => fmtVs xs = fmtVs ys) (fun _ _ _ _ => rfl)
    (fun a b hm ih => ?_) (fun xs ys _ h => by simp only [fmtV, h]) rfl (fun x y xs ys _ h1 h2 => by simp only [fmtVs, h1, h2]) h
  have hp := hm.perm_map (fun _ v => fmtV v) ih
  have hn : ((b.map (fun kv => (kv.1, fmtV kv.2))).map Prod.fst).Nodup := by
    simpa [keys, Function.comp_def] using hm.2.2.1
  simp only [fmtV, fmtKVs_eq_map, sortKS_perm hn hp]

theorem fmtV_eqv {v w : Val} (h : Eqv v w) (wv : WF v) (ww : WF w) : fmtV v = fmtV w := fmtV_ew ⟨h, wv, ww⟩

theorem entryStrs_eqv (k : String) {v w : Val} (h : Eqv v w) (wv : WF v) (ww : WF w) : entryStrs k v = entryStrs k w := by
  cases h with
  | seqCons h1 h2 =>
    simp only [entryStrs]
    exact EW.seq_induct (PL := fun xs ys => xs.map (fun x => k ++ "=" ++ fmtV x) = ys.map fun x => k ++ "=" ++ fmtV x) rfl
      (fun x y xs ys e ih => by simp only [List.map_cons, fmtV_ew e, ih]) ⟨.seqCons h1 h2, wv, ww⟩
  | map h1 h2 =>
    simp only [entryStrs]
    rw [fmtV_eqv (.map h1 h2) wv ww]
  | _ => rfl

theorem mapStrs_eq (a : KVs) : mapStrs a = (a.map (fun kv => (kv.1, entryStrs kv.1 kv.2))).flatMap Prod.snd := by
  induction a with
  | nil => rfl
  | cons hd tl ih => obtain ⟨k, v⟩ := hd; simp only [mapStrs, List.map_cons, List.flatMap_cons, ih]

theorem sortedStrs_mrel {a b : KVs} (h : MRel a b) : Merge.sortStrs (mapStrs a) = Merge.sortStrs (mapStrs b) := by
  rw [sortStrs_eq, sortStrs_eq, mapStrs_eq, mapStrs_eq]
  apply Det.sortStrs_perm
  apply List.Perm.flatMap_right
  exact h.perm_map (fun k v => entryStrs k v) fun k x y hx hy =>
    entryStrs_eqv k (h.1.2 k x y hx hy) (h.2.1.2 k x hx) (h.2.2.2 k y hy)

theorem seqOf_ew {v w : Val} (h : EW v w) : EW (.seq (seqOf v)) (.seq (seqOf w)) := by
  cases h.1 with
  | str s => exact EW.refl (.seqCons (.str s) .seqNil)
  | seqCons _ _ => exact h
  | map _ _ =>
    simp only [seqOf, intoSeq, Option.getD]
    rw [sortedStrs_mrel (EW.map_iff.mp h)]
    exact EW.seq_strs _
  | _ => exact EW.refl .seqNil

theorem sameScalar_eqv {x x' y y' : Val} (hx : Eqv x x') (hy : Eqv y y') : sameScalar x y = sameScalar x' y' := by
  cases hx <;> cases hy <;> rfl

theorem any_sameScalar_eqv {v v' : Val} (hv : Eqv v v') {xs ys : List Val} (h : Eqv (.seq xs) (.seq ys)) :
    xs.any (fun x => sameScalar x v) = ys.any (fun x => sameScalar x v') :=
  Eqv.seq_induct (P := fun xs ys => xs.any (fun x => sameScalar x v) = ys.any (fun x => sameScalar x v')) rfl
    (fun hx _ ih => by simp only [List.any_cons, sameScalar_eqv hx hv, ih]) h

theorem keepNew_ew {rs rs' : List Val} (hr : Eqv (.seq rs) (.seq rs')) {ls ls' : List Val} (h : EW (.seq ls) (.seq ls')) :
    EW (.seq (keepNew rs ls)) (.seq (keepNew rs' ls')) := by
  refine EW.seq_induct (PL := fun ls ls' => EW (.seq (keepNew rs ls)) (.seq (keepNew rs' ls'))) (EW.refl .seqNil)
    (fun v v' r r' hv ih => ?_) h
  simp only [keepNew, any_sameScalar_eqv hv.1 hr]
  split
  · exact ih
  · exact EW.seqCons_iff.mpr ⟨hv, ih⟩

theorem listIntoMap_mrel (d : Val) (wd : WF d) {xs xs' : List Val} (h : Eqv (.seq xs) (.seq xs')) :
    ∀ {acc acc' : KVs}, MRel acc acc' → OutEqv MRel (listIntoMap d xs acc) (listIntoMap d xs' acc') :=
  Eqv.seq_induct (P := fun xs xs' => ∀ {acc acc' : KVs}, MRel acc acc' → OutEqv MRel (listIntoMap d xs acc) (listIntoMap d xs' acc'))
    (fun hr => hr) (fun hx _ ih _ _ hr => by cases hx <;> first | exact ih (hr.insert _ (EW.refl wd)) | trivial) h

theorem intoMap_mrel (d : Val) (wd : WF d) {v v' : Val} (h : EW v v') : OutEqv MRel (intoMap d v) (intoMap d v') := by
  cases h.1 with
  | null => exact MRel.nil
  | seqNil => exact MRel.nil
  | seqCons h1 h2 => exact listIntoMap_mrel d wd (.seqCons h1 h2) MRel.nil
  | map _ _ => exact EW.map_iff.mp h
  | _ => trivial

theorem wf_dependsOnDefault : WF dependsOnDefault :=
  Det.Stage.wf_map_cons (.str _) (by decide) (Det.Stage.wf_map_cons (.bool _) (by decide) Det.Stage.wf_map_nil)

theorem toBuild_mrel {v v' : Val} (h : EW v v') : OutEqv MRel (toBuild v) (toBuild v') := by
  cases h.1 with
  | null => exact MRel.nil
  | str s => exact (MRel.nil.insert "context" (EW.refl (.str s)))
  | map _ _ => exact EW.map_iff.mp h
  | _ => trivial

theorem depthKV_eq (a : KVs) : depthKV a = (a.map (fun kv => (kv.1, depth kv.2))).foldr (fun e acc => max e.2 acc) 0 := by
  induction a with
  | nil => rfl
  | cons hd tl ih => obtain ⟨k, v⟩ := hd; simp only [depthKV, List.map_cons, List.foldr_cons, ih]

theorem foldr_max_perm {l l' : List (String × Nat)} (h : l.Perm l') :
    l.foldr (fun e acc => max e.2 acc) 0 = l'.foldr (fun e acc => max e.2 acc) 0 := by
  induction h with
  | nil => rfl
  | cons x _ ih => simp only [List.foldr_cons, ih]
  | swap x y l => simp only [List.foldr_cons]; omega
  | trans _ _ ih1 ih2 => rw [ih1, ih2]

theorem fuelFor_eqv {v w : Val} (h : Eqv v w) (wv : WF v) (ww : WF w) : fuelFor v = fuelFor w := by
  refine congrArg (· + 8) (EW.induct (P := fun v w => depth v = depth w) (PL := fun xs ys => depthL xs = depthL ys)
    (fun _ _ _ _ => rfl) (fun a b hm ih => ?_) (fun xs ys _ h => by simp only [depth, h]) rfl
    (fun x y xs ys _ h1 h2 => by simp only [depthL, h1, h2]) ⟨h, wv, ww⟩)
  simp only [depth, depthKV_eq]
  exact congrArg _ (foldr_max_perm (hm.perm_map (fun _ v => depth v) ih))

end CV.Deep
