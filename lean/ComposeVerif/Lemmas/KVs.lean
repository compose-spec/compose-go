import ComposeVerif.Model.Val
import ComposeVerif.Lemmas.Assoc
/-! Go maps as association lists (`Val.lookup`, `Val.insert`, `Val.erase`, `Val.keys` of `Model/Val.lean`): the four are
the functions of `Lemmas/Assoc.lean` at `String` and `Val` (`Val.lookup_eq`, `insert_eq`, `erase_eq`; `keys` by
`rfl`), and what is read back after a store or a delete, where entries come from, and the key set are instances of the
facts proved there. -/
namespace CV.Val

theorem lookup_eq (k : String) (m : KVs) : lookup k m = Assoc.lookup k m := by
  induction m with
  | nil => rfl
  | cons e r ih => rw [lookup, ih]; rfl

theorem insert_eq (k : String) (v : Val) (m : KVs) : insert k v m = Assoc.insert k v m := by
  induction m with
  | nil => rfl
  | cons e r ih => rw [insert, ih]; rfl

theorem erase_eq (k : String) (m : KVs) : erase k m = Assoc.erase k m := by
  induction m with
  | nil => rfl
  | cons e r ih => rw [erase, ih]; rfl

/-- a fold of `m[k] = v` over a list of entries is `Assoc.insertAll`: what is read back, the key set and the result on
fresh keys are `Assoc.lookup_insertAll_rev`, `nodup_insertAll`, `insertAll_append` -/
theorem foldl_insert_eq (src dst : KVs) :
    src.foldl (fun acc (kv : String × Val) => insert kv.1 kv.2 acc) dst = Assoc.insertAll src dst := by
  simp only [Assoc.insertAll, insert_eq]

theorem lookup_cons_self {k0 : String} {v0 : Val} {r : KVs} : lookup k0 ((k0, v0) :: r) = some v0 := by
  rw [lookup, if_pos rfl]

theorem lookup_cons_ne {k k0 : String} {v0 : Val} {r : KVs} (h : k ≠ k0) : lookup k ((k0, v0) :: r) = lookup k r := by
  rw [lookup, if_neg h]

theorem lookup_append (k : String) (a b : KVs) : lookup k (a ++ b) = (lookup k a).or (lookup k b) := by
  simp only [lookup_eq]; exact Assoc.lookup_append

theorem lookup_append_left {k : String} {v : Val} {a : KVs} (b : KVs) (h : lookup k a = some v) :
    lookup k (a ++ b) = some v := by
  rw [lookup_append, h]; rfl

theorem lookup_append_right {k : String} {a : KVs} (b : KVs) (h : lookup k a = none) :
    lookup k (a ++ b) = lookup k b := by
  rw [lookup_append, h]; rfl

theorem mem_of_lookup {k : String} {v : Val} : ∀ {m : KVs}, lookup k m = some v → (k, v) ∈ m :=
  fun {m} h => Assoc.mem_of_lookup (lookup_eq k m ▸ h)

theorem lookup_eq_none {k : String} {m : KVs} : lookup k m = none ↔ k ∉ keys m := by
  rw [lookup_eq]; exact Assoc.lookup_eq_none

theorem lookup_isSome {k : String} {m : KVs} : (lookup k m).isSome ↔ k ∈ keys m := by
  rw [lookup_eq]; exact Assoc.lookup_isSome

theorem lookup_of_mem {k : String} {v : Val} {m : KVs} (nd : (keys m).Nodup) (h : (k, v) ∈ m) : lookup k m = some v :=
  (lookup_eq k m).trans (Assoc.lookup_of_mem nd h)

theorem lookup_map_val (g : String → Val → Val) {k : String} {m : KVs} :
    lookup k (m.map fun kv => (kv.1, g kv.1 kv.2)) = (lookup k m).map (g k) := by
  simp only [lookup_eq]; exact Assoc.lookup_map_val g

theorem insert_cons_self (k : String) (v v' : Val) (r : KVs) : insert k v ((k, v') :: r) = (k, v) :: r := by
  rw [insert, if_pos rfl]

theorem insert_cons_ne {k k' : String} (h : k ≠ k') (v v' : Val) (r : KVs) :
    insert k v ((k', v') :: r) = (k', v') :: insert k v r := by
  rw [insert, if_neg h]

theorem lookup_insert (k k' : String) (v : Val) (m : KVs) :
    lookup k' (insert k v m) = if k' = k then some v else lookup k' m := by
  simp only [lookup_eq, insert_eq]; exact Assoc.lookup_insert

theorem lookup_insert_self (k : String) (v : Val) (m : KVs) : lookup k (insert k v m) = some v := by
  rw [lookup_insert, if_pos rfl]

theorem lookup_insert_ne {k k' : String} (h : k' ≠ k) (v : Val) (m : KVs) :
    lookup k' (insert k v m) = lookup k' m := by
  rw [lookup_insert, if_neg h]

theorem insert_of_lookup {k : String} {v : Val} {m : KVs} (h : lookup k m = some v) : insert k v m = m := by
  rw [insert_eq]; exact Assoc.insert_of_lookup (lookup_eq k m ▸ h)

theorem insert_of_not_mem {k : String} {v : Val} {m : KVs} (h : k ∉ keys m) : insert k v m = m ++ [(k, v)] := by
  rw [insert_eq]; exact Assoc.insert_of_not_mem h

theorem insert_insert (k : String) (v w : Val) (m : KVs) : insert k v (insert k w m) = insert k v m := by
  simp only [insert_eq]; exact Assoc.insert_insert k v w m

theorem insert_ne_nil (k : String) (v : Val) (m : KVs) : insert k v m ≠ [] := by
  rw [insert_eq]; exact Assoc.insert_ne_nil k v m

theorem mem_insert {k : String} {v : Val} {m : KVs} {kv : String × Val} (h : kv ∈ insert k v m) :
    kv = (k, v) ∨ kv ∈ m :=
  Assoc.mem_insert (insert_eq k v m ▸ h)

theorem keys_insert (k : String) (v : Val) (m : KVs) :
    keys (insert k v m) = if k ∈ keys m then keys m else keys m ++ [k] := by
  rw [insert_eq]; exact Assoc.keys_insert k v m

theorem nodup_insert {k : String} {v : Val} {m : KVs} (h : (keys m).Nodup) : (keys (insert k v m)).Nodup := by
  rw [insert_eq]; exact Assoc.nodup_insert h

theorem lookup_perm {k : String} {a b : KVs} (h : a.Perm b) (nd : (keys a).Nodup) : lookup k a = lookup k b := by
  rw [lookup_eq, lookup_eq]; exact Assoc.lookup_perm h nd

theorem insert_perm (k : String) (v : Val) : ∀ {a b : KVs}, a.Perm b → (keys a).Nodup →
    (insert k v a).Perm (insert k v b) := by
  intro a b h nd; rw [insert_eq, insert_eq]; exact Assoc.insert_perm k v h nd

theorem lookup_erase_self (k : String) (m : KVs) : lookup k (erase k m) = none := by
  rw [lookup_eq, erase_eq, Assoc.lookup_erase, if_pos rfl]

theorem lookup_erase_ne {k k' : String} (h : k ≠ k') (m : KVs) : lookup k (erase k' m) = lookup k m := by
  rw [lookup_eq, erase_eq, Assoc.lookup_erase, if_neg h, lookup_eq]

theorem mem_keys_erase {k x : String} {m : KVs} : x ∈ keys (erase k m) ↔ x ≠ k ∧ x ∈ keys m := by
  rw [erase_eq]; exact Assoc.mem_keys_erase

theorem erase_of_not_mem {k : String} {m : KVs} (h : k ∉ keys m) : erase k m = m := by
  rw [erase_eq]; exact Assoc.erase_of_not_mem h

end CV.Val
