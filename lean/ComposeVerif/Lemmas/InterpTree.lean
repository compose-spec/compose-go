import ComposeVerif.Spec.InterpTree
import ComposeVerif.Lemmas.ValInd
/-! The traversal `walk f` of `Spec/InterpTree.lean`, for any string arm `f`: what it does to related trees, to the escaped
tree, where its errors come from, when it is the identity, that it keeps shape and acts pointwise.  `Lemmas/Interp.lean` instantiates these with `leaf c`
(`recursiveInterpolate`) and `castOnly c` (nothing substituted).

Each fact comes in three — about a tree, the entries of a mapping, the items of a sequence — and is proved by
`Val.induct₃`; entries and items are walked alike, so the two `nil` cases and the two `cons` cases share their proof. -/
namespace CV.Interp
open CV CV.TPath

/-! ## what a success or an error of a non-empty list of entries or items is

`walkKVs`, `walkList` spell their binds as two nested `match`es; these say what `= .ok _` and `= .err _` of a non-empty list
of entries or items come from, so that the inductions below do not take the matches apart. -/

section
variable {f : TPath → String → Out Val} {p : TPath}

theorem walkKVs_cons_ok {k : String} {v : Val} {r l' : List (String × Val)} (h : walkKVs f p ((k, v) :: r) = .ok l') :
    ∃ v' r', walk f (next p k) v = .ok v' ∧ walkKVs f p r = .ok r' ∧ l' = (k, v') :: r' := by
  simp only [walkKVs] at h
  split at h <;> try cases h
  split at h <;> cases h; exact ⟨_, _, ‹_›, ‹_›, rfl⟩

theorem walkList_cons_ok {v : Val} {r l' : List Val} (h : walkList f p (v :: r) = .ok l') :
    ∃ v' r', walk f (next p "[]") v = .ok v' ∧ walkList f p r = .ok r' ∧ l' = v' :: r' := by
  simp only [walkList] at h
  split at h <;> try cases h
  split at h <;> cases h; exact ⟨_, _, ‹_›, ‹_›, rfl⟩

theorem walkKVs_cons_err {k : String} {v : Val} {r : List (String × Val)} {e : Err} (h : walkKVs f p ((k, v) :: r) = .err e) :
    walk f (next p k) v = .err e ∨ ∃ v', walk f (next p k) v = .ok v' ∧ walkKVs f p r = .err e := by
  simp only [walkKVs] at h
  split at h
  · split at h <;> cases h; exact .inr ⟨_, ‹_›, ‹_›⟩
  · cases h; exact .inl ‹_›
  · cases h

theorem walkList_cons_err {v : Val} {r : List Val} {e : Err} (h : walkList f p (v :: r) = .err e) :
    walk f (next p "[]") v = .err e ∨ ∃ v', walk f (next p "[]") v = .ok v' ∧ walkList f p r = .err e := by
  simp only [walkList] at h
  split at h
  · split at h <;> cases h; exact .inr ⟨_, ‹_›, ‹_›⟩
  · cases h; exact .inl ‹_›
  · cases h

end

theorem walk_congr₃ {R : TPath → String → String → Prop} {f g : TPath → String → Out Val}
    (hfg : ∀ q s s', R q s s' → f q s = g q s') :
    (∀ (v v' : Val) (p : TPath), LeafRel R p v v' → walk f p v = walk g p v') ∧
    (∀ (kvs kvs' : List (String × Val)) (p : TPath), LeafRelKVs R p kvs kvs' → walkKVs f p kvs = walkKVs g p kvs') ∧
    (∀ (xs xs' : List Val) (p : TPath), LeafRelList R p xs xs' → walkList f p xs = walkList g p xs') := by
  apply Val.induct₃
  case null | bool | int | float => intros; rename_i h; simp only [LeafRel] at h; subst h; simp only [walk]
  case str =>
    intro s v' p h
    simp only [LeafRel] at h
    obtain ⟨s', rfl, hr⟩ := h
    simp only [walk]; exact hfg p s s' hr
  case seq | map =>
    intro _ ih v' p h
    simp only [LeafRel] at h
    obtain ⟨l', rfl, hr⟩ := h
    simp only [walk, ih l' p hr]
  case nil | nil' => intro l' p h; simp only [LeafRelKVs, LeafRelList] at h; subst h; simp only [walkKVs, walkList]
  case cons | cons' =>
    intros; rename_i ihv ihr l' p h
    simp only [LeafRelKVs, LeafRelList] at h
    obtain ⟨v', r', rfl, hv, hr⟩ := h
    simp only [walkKVs, walkList, ihv v' _ hv, ihr r' p hr]

theorem walk_congr {R : TPath → String → String → Prop} {f g : TPath → String → Out Val}
    (hfg : ∀ q s s', R q s s' → f q s = g q s') : ∀ (v v' : Val) (p : TPath), LeafRel R p v v' → walk f p v = walk g p v' :=
  (walk_congr₃ hfg).1

theorem walkKVs_congr {R : TPath → String → String → Prop} {f g : TPath → String → Out Val}
    (hfg : ∀ q s s', R q s s' → f q s = g q s') : ∀ (kvs kvs' : List (String × Val)) (p : TPath),
    LeafRelKVs R p kvs kvs' → walkKVs f p kvs = walkKVs g p kvs' :=
  (walk_congr₃ hfg).2.1

theorem walkList_congr {R : TPath → String → String → Prop} {f g : TPath → String → Out Val}
    (hfg : ∀ q s s', R q s s' → f q s = g q s') : ∀ (xs xs' : List Val) (p : TPath),
    LeafRelList R p xs xs' → walkList f p xs = walkList g p xs' :=
  (walk_congr₃ hfg).2.2

theorem leafRel_self₃ {R : TPath → String → String → Prop} :
    (∀ (v : Val) (p : TPath), (∀ q s, (q, s) ∈ leaves p v → R q s s) → LeafRel R p v v) ∧
    (∀ (kvs : List (String × Val)) (p : TPath), (∀ q s, (q, s) ∈ leavesKVs p kvs → R q s s) → LeafRelKVs R p kvs kvs) ∧
    (∀ (xs : List Val) (p : TPath), (∀ q s, (q, s) ∈ leavesList p xs → R q s s) → LeafRelList R p xs xs) := by
  apply Val.induct₃
  case null | bool | int | float => intros; simp only [LeafRel]
  case str => intro s p h; simp only [LeafRel]; exact ⟨s, rfl, h p s (by simp [leaves])⟩
  case seq | map => intro l ih p h; simp only [LeafRel]; exact ⟨l, rfl, ih p (by simpa only [leaves] using h)⟩
  case nil | nil' => intros; simp only [LeafRelKVs, LeafRelList]
  case cons | cons' =>
    intros; rename_i v r ihv ihr p h
    simp only [LeafRelKVs, LeafRelList]
    simp only [leavesKVs, leavesList, List.mem_append] at h
    exact ⟨v, r, rfl, ihv _ fun q s hm => h q s (.inl hm), ihr p fun q s hm => h q s (.inr hm)⟩

theorem leafRel_self {R : TPath → String → String → Prop} (v : Val) (p : TPath)
    (h : ∀ q s, (q, s) ∈ leaves p v → R q s s) : LeafRel R p v v :=
  leafRel_self₃.1 v p h

theorem leafRelKVs_self {R : TPath → String → String → Prop} (kvs : List (String × Val)) (p : TPath)
    (h : ∀ q s, (q, s) ∈ leavesKVs p kvs → R q s s) : LeafRelKVs R p kvs kvs :=
  leafRel_self₃.2.1 kvs p h

theorem leafRelList_self {R : TPath → String → String → Prop} : ∀ (xs : List Val) (p : TPath),
    (∀ q s, (q, s) ∈ leavesList p xs → R q s s) → LeafRelList R p xs xs :=
  leafRel_self₃.2.2

theorem leafRel_escapeAll₃ :
    (∀ (v : Val) (p : TPath), LeafRel (fun _ s s' => s = escapeStr s') p (escapeAll v) v) ∧
    (∀ (kvs : List (String × Val)) (p : TPath), LeafRelKVs (fun _ s s' => s = escapeStr s') p (escapeKVs kvs) kvs) ∧
    (∀ (xs : List Val) (p : TPath), LeafRelList (fun _ s s' => s = escapeStr s') p (escapeList xs) xs) := by
  apply Val.induct₃
  case null | bool | int | float => intros; simp only [escapeAll, LeafRel]
  case str => intro s p; simp only [escapeAll, LeafRel]; exact ⟨s, rfl, rfl⟩
  case seq | map => intro l ih p; simp only [escapeAll, LeafRel]; exact ⟨l, rfl, ih p⟩
  case nil | nil' => intros; simp only [escapeKVs, escapeList, LeafRelKVs, LeafRelList]
  case cons | cons' =>
    intros; rename_i v r ihv ihr p
    simp only [escapeKVs, escapeList, LeafRelKVs, LeafRelList]
    exact ⟨v, r, rfl, ihv _, ihr p⟩

theorem leafRelList_escapeAll : ∀ (xs : List Val) (p : TPath),
    LeafRelList (fun _ s s' => s = escapeStr s') p (escapeList xs) xs :=
  leafRel_escapeAll₃.2.2

theorem walk_congr_on {f g : TPath → String → Out Val} (v : Val) (p : TPath)
    (h : ∀ q s, (q, s) ∈ leaves p v → f q s = g q s) : walk f p v = walk g p v :=
  walk_congr (R := fun q s s' => s = s' ∧ f q s = g q s) (fun _ _ _ h => h.1 ▸ h.2) v v p
    (leafRel_self v p fun q s hm => ⟨rfl, h q s hm⟩)

theorem walkKVs_congr_on {f g : TPath → String → Out Val} (kvs : List (String × Val)) (p : TPath)
    (h : ∀ q s, (q, s) ∈ leavesKVs p kvs → f q s = g q s) : walkKVs f p kvs = walkKVs g p kvs :=
  walkKVs_congr (R := fun q s s' => s = s' ∧ f q s = g q s) (fun _ _ _ h => h.1 ▸ h.2) kvs kvs p
    (leafRelKVs_self kvs p fun q s hm => ⟨rfl, h q s hm⟩)

theorem walkList_congr_on {f g : TPath → String → Out Val} (xs : List Val) (p : TPath)
    (h : ∀ q s, (q, s) ∈ leavesList p xs → f q s = g q s) : walkList f p xs = walkList g p xs :=
  walkList_congr (R := fun q s s' => s = s' ∧ f q s = g q s) (fun _ _ _ h => h.1 ▸ h.2) xs xs p
    (leafRelList_self xs p fun q s hm => ⟨rfl, h q s hm⟩)

theorem walk_escapeAll (f : TPath → String → Out Val) (v : Val) (p : TPath) :
    walk f p (escapeAll v) = walk (fun q s => f q (escapeStr s)) p v :=
  walk_congr (R := fun _ s s' => s = escapeStr s') (fun _ _ _ h => h ▸ rfl) _ v p (leafRel_escapeAll₃.1 v p)

theorem walkKVs_escapeAll (f : TPath → String → Out Val) (kvs : List (String × Val)) (p : TPath) :
    walkKVs f p (escapeKVs kvs) = walkKVs (fun q s => f q (escapeStr s)) p kvs :=
  walkKVs_congr (R := fun _ s s' => s = escapeStr s') (fun _ _ _ h => h ▸ rfl) _ kvs p (leafRel_escapeAll₃.2.1 kvs p)

theorem walkList_escapeAll (f : TPath → String → Out Val) (xs : List Val) (p : TPath) :
    walkList f p (escapeList xs) = walkList (fun q s => f q (escapeStr s)) p xs :=
  walkList_congr (R := fun _ s s' => s = escapeStr s') (fun _ _ _ h => h ▸ rfl) _ xs p (leafRelList_escapeAll xs p)

theorem leafRel_keys {R : TPath → String → String → Prop} : ∀ (kvs kvs' : List (String × Val)) (p : TPath),
    LeafRelKVs R p kvs kvs' → kvs'.map Prod.fst = kvs.map Prod.fst
  | [], l', p, h => by simp only [LeafRelKVs] at h; subst h; rfl
  | (k, v) :: r, l', p, h => by
    simp only [LeafRelKVs] at h
    obtain ⟨v', r', rfl, _, hr⟩ := h
    simp only [List.map_cons, leafRel_keys r r' p hr]

theorem walk_id₃ :
    (∀ (v : Val) (p : TPath), walk (fun _ s => .ok (.str s)) p v = .ok v) ∧
    (∀ (kvs : List (String × Val)) (p : TPath), walkKVs (fun _ s => .ok (.str s)) p kvs = .ok kvs) ∧
    (∀ (xs : List Val) (p : TPath), walkList (fun _ s => .ok (.str s)) p xs = .ok xs) := by
  apply Val.induct₃ <;> intros <;> simp only [walk, walkKVs, walkList, *]

theorem walk_fix {f : TPath → String → Out Val} (v : Val) (p : TPath)
    (h : ∀ q s, (q, s) ∈ leaves p v → f q s = .ok (.str s)) : walk f p v = .ok v :=
  (walk_congr_on v p h).trans (walk_id₃.1 v p)

theorem walkKVs_fix {f : TPath → String → Out Val} (kvs : List (String × Val)) (p : TPath)
    (h : ∀ q s, (q, s) ∈ leavesKVs p kvs → f q s = .ok (.str s)) : walkKVs f p kvs = .ok kvs :=
  (walkKVs_congr_on kvs p h).trans (walk_id₃.2.1 kvs p)

theorem walkList_fix {f : TPath → String → Out Val} (xs : List Val) (p : TPath)
    (h : ∀ q s, (q, s) ∈ leavesList p xs → f q s = .ok (.str s)) : walkList f p xs = .ok xs :=
  (walkList_congr_on xs p h).trans (walk_id₃.2.2 xs p)

theorem walk_err_leaf₃ (f : TPath → String → Out Val) :
    (∀ (v : Val) (p : TPath) (e : Err), walk f p v = .err e → ∃ q s, (q, s) ∈ leaves p v ∧ f q s = .err e) ∧
    (∀ (kvs : List (String × Val)) (p : TPath) (e : Err),
      walkKVs f p kvs = .err e → ∃ q s, (q, s) ∈ leavesKVs p kvs ∧ f q s = .err e) ∧
    (∀ (xs : List Val) (p : TPath) (e : Err),
      walkList f p xs = .err e → ∃ q s, (q, s) ∈ leavesList p xs ∧ f q s = .err e) := by
  apply Val.induct₃
  case null | bool | int | float => intros; rename_i h; simp only [walk] at h; cases h
  case str => intro s p e h; exact ⟨p, s, by simp [leaves], h⟩
  case seq | map =>
    intro _ ih p e h
    simp only [walk] at h
    split at h <;> cases h
    simpa only [leaves] using ih p e ‹_›
  case nil | nil' => intro p e h; simp only [walkKVs, walkList] at h; cases h
  case cons | cons' =>
    -- the error of a non-empty list is the error of its head or, the head walked, of its tail
    intros; rename_i ihv ihr p e h
    simp only [leavesKVs, leavesList, List.mem_append]
    rcases (by first | exact walkKVs_cons_err h | exact walkList_cons_err h) with h | ⟨_, _, h⟩
    · obtain ⟨q, s, hm, hl⟩ := ihv _ e h; exact ⟨q, s, .inl hm, hl⟩
    · obtain ⟨q, s, hm, hl⟩ := ihr p e h; exact ⟨q, s, .inr hm, hl⟩

theorem walk_err_leaf (f : TPath → String → Out Val) : ∀ (v : Val) (p : TPath) (e : Err), walk f p v = .err e →
    ∃ q s, (q, s) ∈ leaves p v ∧ f q s = .err e :=
  (walk_err_leaf₃ f).1

theorem walkKVs_err_leaf (f : TPath → String → Out Val) : ∀ (kvs : List (String × Val)) (p : TPath) (e : Err),
    walkKVs f p kvs = .err e → ∃ q s, (q, s) ∈ leavesKVs p kvs ∧ f q s = .err e :=
  (walk_err_leaf₃ f).2.1

theorem walkList_err_leaf (f : TPath → String → Out Val) : ∀ (xs : List Val) (p : TPath) (e : Err),
    walkList f p xs = .err e → ∃ q s, (q, s) ∈ leavesList p xs ∧ f q s = .err e :=
  (walk_err_leaf₃ f).2.2

theorem walk_shape₃ {f : TPath → String → Out Val} (hf : ∀ q s v, f q s = .ok v → isScalar v) :
    (∀ (v : Val) (p : TPath) (v' : Val), walk f p v = .ok v' → SameShape v v') ∧
    (∀ (kvs : List (String × Val)) (p : TPath) (kvs' : List (String × Val)),
      walkKVs f p kvs = .ok kvs' → SameShapeKVs kvs kvs') ∧
    (∀ (xs : List Val) (p : TPath) (xs' : List Val), walkList f p xs = .ok xs' → SameShapeList xs xs') := by
  apply Val.induct₃
  case null | bool | int | float => intros; rename_i h; simp only [walk] at h; cases h; rfl
  case str => intro s p v' h; exact hf p s v' h
  case seq | map =>
    intro _ ih p v' h
    simp only [walk] at h
    split at h <;> cases h
    exact ⟨_, rfl, ih p _ ‹_›⟩
  case nil | nil' => intro p l' h; simp only [walkKVs, walkList] at h; cases h; rfl
  case cons | cons' =>
    intros; rename_i ihv ihr p l' h
    obtain ⟨v', r', hv, hr, rfl⟩ := by first | exact walkKVs_cons_ok h | exact walkList_cons_ok h
    exact ⟨_, _, rfl, ihv _ _ hv, ihr p _ hr⟩

theorem walkKVs_lookup (f : TPath → String → Out Val) (p : TPath) : ∀ (kvs kvs' : List (String × Val)),
    walkKVs f p kvs = .ok kvs' → ∀ k, match Val.lookup k kvs with
      | some v => ∃ v', Val.lookup k kvs' = some v' ∧ walk f (next p k) v = .ok v'
      | none => Val.lookup k kvs' = none
  | [], kvs', h, k => by simp only [walkKVs] at h; cases h; simp [Val.lookup]
  | (k0, v0) :: r, kvs', h, k => by
    obtain ⟨v0', r', hv0, hr, rfl⟩ := walkKVs_cons_ok h
    by_cases hk : k = k0
    · subst hk; simp only [Val.lookup, if_true]; exact ⟨_, rfl, hv0⟩
    · simp only [Val.lookup, hk, if_false]; exact walkKVs_lookup f p r r' hr k

theorem walkList_get (f : TPath → String → Out Val) (p : TPath) : ∀ (xs xs' : List Val), walkList f p xs = .ok xs' →
    ∀ i : Nat, match xs[i]? with
      | some v => ∃ v', xs'[i]? = some v' ∧ walk f (next p "[]") v = .ok v'
      | none => xs'[i]? = none
  | [], xs', h, i => by simp only [walkList] at h; cases h; simp
  | v0 :: r, xs', h, i => by
    obtain ⟨v0', r', hv0, hr, rfl⟩ := walkList_cons_ok h
    cases i with
    | zero => simp only [List.getElem?_cons_zero]; exact ⟨_, rfl, hv0⟩
    | succ j => simp only [List.getElem?_cons_succ]; exact walkList_get f p r r' hr j

end CV.Interp
