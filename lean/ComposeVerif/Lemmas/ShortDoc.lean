import ComposeVerif.Model.ShortTransform
/-!
# Congruence of `transform.Canonical` (C03): the result depends on a sub-tree only through its own transform

And the path the walk takes to an attribute of a service (`attrPath`, `seg`: `.` → 👻 in a name), with the closed
`seg "<key>" = "<key>"` facts for the keys the document-level theorems use.
-/
namespace CV.Short
open CV

theorem services_path : TPath.nextK TPath.root "services" = ["services"] := by decide +kernel
/-- one level of the descent: under a handler that walks into the mapping, the result depends on an entry only through
the transform of that entry -/
theorem transform_key_congr (ign : Bool) (p : TPath) (a b : Val.KVs) (k : String) (v v' : Val)
    (hr : recursesOnMap (TPath.firstMatch CV.Gen.transformers p) = true)
    (h : transform ign (TPath.nextK p k) v = transform ign (TPath.nextK p k) v') :
    transform ign p (.map (a ++ (k, v) :: b)) = transform ign p (.map (a ++ (k, v') :: b)) := by
  have : transformKVs ign p (a ++ (k, v) :: b) = transformKVs ign p (a ++ (k, v') :: b) := by
    induction a with
    | nil => simp only [List.nil_append, transformKVs, h]
    | cons e r ih => simp only [List.cons_append, transformKVs, ih]
  simp only [transform, hr, if_true, this]

/-- the path `transform.Canonical` walks to reach attribute `k` of service `n` (`tree.Path.Next` three times from the root) -/
def attrPath (n k : String) : TPath := TPath.nextK (TPath.nextK (TPath.nextK TPath.root "services") n) k

/-- the service name as a path segment (`.` → 👻) -/
def seg (n : String) : String := String.ofList (TPath.replaceDots n.toList)

theorem replaceDots_of_no_dot : ∀ (l : List Char), '.' ∉ l → TPath.replaceDots l = l
  | [], _ => rfl
  | c :: r, h => by
    simp only [List.mem_cons, not_or] at h
    simp only [TPath.replaceDots, if_neg (Ne.symm h.1), replaceDots_of_no_dot r h.2]

theorem seg_of_no_dot (k : String) (h : '.' ∉ k.toList) : seg k = k := by
  rw [seg, replaceDots_of_no_dot _ h, String.ofList_toList]

theorem attrPath_eq (n k : String) : attrPath n k = ["services", seg n, seg k] := by
  have hne : (["services"] : TPath) ≠ TPath.root := by decide
  have hne2 : (["services", seg n] : TPath) ≠ TPath.root := by simp [TPath.root]
  unfold attrPath
  rw [services_path, TPath.nextK_of_ne_root _ _ hne]
  show TPath.nextK ["services", seg n] k = _
  rw [TPath.nextK_of_ne_root _ _ hne2]
  rfl

theorem seg_depends_on : seg "depends_on" = "depends_on" := seg_of_no_dot _ (by decide +kernel)
theorem seg_networks : seg "networks" = "networks" := seg_of_no_dot _ (by decide +kernel)
theorem seg_build : seg "build" = "build" := seg_of_no_dot _ (by decide +kernel)
theorem seg_extends : seg "extends" = "extends" := seg_of_no_dot _ (by decide +kernel)
theorem seg_ports : seg "ports" = "ports" := seg_of_no_dot _ (by decide +kernel)
theorem seg_env_file : seg "env_file" = "env_file" := seg_of_no_dot _ (by decide +kernel)
theorem seg_dns : seg "dns" = "dns" := seg_of_no_dot _ (by decide +kernel)

theorem seg_ssh : seg "ssh" = "ssh" := seg_of_no_dot _ (by decide +kernel)
theorem seg_additional_contexts : seg "additional_contexts" = "additional_contexts" := seg_of_no_dot _ (by decide +kernel)
theorem seg_item : seg "[]" = "[]" := seg_of_no_dot _ (by decide +kernel)

theorem transform_item_congr (ign : Bool) (p : TPath) (pre post : List Val) (v v' : Val)
    (hk : TPath.firstMatch CV.Gen.transformers p = none) (hne : p ≠ TPath.root)
    (h : transform ign (p ++ ["[]"]) v = transform ign (p ++ ["[]"]) v') :
    transform ign p (.seq (pre ++ v :: post)) = transform ign p (.seq (pre ++ v' :: post)) := by
  have : transformSeq ign p (pre ++ v :: post) = transformSeq ign p (pre ++ v' :: post) := by
    have hn : TPath.nextK p "[]" = p ++ ["[]"] := by
      rw [TPath.nextK_of_ne_root _ _ hne, show String.ofList (TPath.replaceDots "[]".toList) = "[]" from seg_item]
    rw [← hn] at h
    induction pre with
    | nil => simp only [List.nil_append, transformSeq, h]
    | cons e r ih => simp only [List.cons_append, transformSeq, ih]
  simp only [transform, hk, if_true, this]

theorem seg_volumes : seg "volumes" = "volumes" := seg_of_no_dot _ (by decide +kernel)

theorem seg_devices : seg "devices" = "devices" := seg_of_no_dot _ (by decide +kernel)
theorem seg_secrets : seg "secrets" = "secrets" := seg_of_no_dot _ (by decide +kernel)
theorem seg_configs : seg "configs" = "configs" := seg_of_no_dot _ (by decide +kernel)
end CV.Short
