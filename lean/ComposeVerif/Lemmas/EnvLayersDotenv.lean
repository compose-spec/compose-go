import ComposeVerif.Lemmas.EnvLayers
import ComposeVerif.Lemmas.Dotenv
/-!
# C16 ↔ C18: the tokenised lines of `Model/EnvLayers` are files of the dotenv grammar

`toDotenv` maps a tokenised line to the line of C18's grammar it is rendered as by the harness
(`KEY=<rendering of the template>` / `KEY`, no indentation, no `export`, no quotes, no comment).
`parseLines_eq_evalFrom` shows that C18's *specification* of the parser (`Dotenv.evalFrom`) on those lines is
`parseLines`; with C18's refinement theorem `parse_render` (`parse_render_lemma` in Lemmas/Dotenv.lean) this gives `parseLines_is_dotenv_parse` (Props/C16.lean):
C18's model of `dotenv.UnmarshalWithLookup` run on the rendered **text** is the tokenised model.
-/
namespace CV.EnvLayers
open CV.EnvLayers.Spec

def toDotenv : Line → Option CV.Dotenv.Line
  | .assign k v => some (.assign [] none k [] .eq [] (.unq (CV.Template.renderL v)) [] none)
  | .bare k => some (.bare [] none k [])
  | .bad => none

/-- the lines of C18's grammar for a file without rejected line -/
def toDotenvLines (ls : List Line) : List CV.Dotenv.Line := ls.filterMap toDotenv

/-- outcome classes of this model for the outcomes of C18's -/
def ofPOut : CV.Dotenv.POut → Except Err (List (Key × Str))
  | .ok m => .ok m
  | .err (.tmpl _) _ => .error .template
  | .err _ _ => .error .parse
  | .panic _ => .error .panic

theorem put_eq_insert (m : List (Key × Str)) (k v : Str) : CV.Dotenv.put m k v = insert k v m := by
  rw [CV.Dotenv.put_eq, insert_eq]

theorem get_eq_lookup (m : List (Key × Str)) (k : Str) : CV.Dotenv.get m k = lookup k m := by
  rw [CV.Dotenv.get_eq, lookup_eq]

theorem envOf_eq_withFile (look : Look) (m : List (Key × Str)) : CV.Dotenv.envOf look m = withFile look m := by
  funext k
  simp only [CV.Dotenv.envOf, withFile, get_eq_lookup]
  cases look k <;> rfl

theorem parseLines_eq_evalFrom (look : Look) (ls : List Line) (out : List (Key × Str)) (hb : Line.bad ∉ ls) :
    ofPOut (CV.Dotenv.evalFrom look (toDotenvLines ls) out) = parseLines look ls out := by
  induction ls generalizing out with
  | nil => rfl
  | cons x r ih =>
    have hr : Line.bad ∉ r := fun h => hb (List.mem_cons_of_mem _ h)
    cases x with
    | bad => exact absurd List.mem_cons_self hb
    | bare k =>
      simp only [toDotenvLines, List.filterMap_cons, toDotenv, CV.Dotenv.evalFrom, parseLines]
      cases look k with
      | none => exact ih out hr
      | some v => simp only; rw [put_eq_insert]; exact ih _ hr
    | assign k v =>
      simp only [toDotenvLines, List.filterMap_cons, toDotenv, CV.Dotenv.evalFrom, parseLines,
        CV.Dotenv.Value.eval, evalValue, envOf_eq_withFile]
      cases CV.Template.subst (withFile look out) (CV.Template.renderL v) with
      | ok s => simp only; rw [put_eq_insert]; exact ih _ hr
      | err e => rfl
      | panic p => rfl

/-- the rejected line as written by the harness: `A B=1` (a key of two words) -/
def badText : Str := ['A', ' ', 'B', '=', '1']

/-- the file text for tokenised lines (`c16RenderLines` of the harness) -/
def renderText : List Line → Str
  | [] => []
  | .assign k v :: r => k ++ '=' :: (CV.Template.renderL v ++ '\n' :: renderText r)
  | .bare k :: r => k ++ '\n' :: renderText r
  | .bad :: r => badText ++ '\n' :: renderText r

theorem renderText_good (ls : List Line) (hb : Line.bad ∉ ls) :
    renderText ls = CV.Dotenv.render (toDotenvLines ls) := by
  induction ls with
  | nil => rfl
  | cons x r ih =>
    have hr : Line.bad ∉ r := fun h => hb (List.mem_cons_of_mem _ h)
    cases x with
    | bad => exact absurd List.mem_cons_self hb
    | bare k =>
      simp [renderText, toDotenvLines, toDotenv, CV.Dotenv.render, CV.Dotenv.Line.render, CV.Dotenv.renderExp] at ih ⊢
      rw [ih hr]
    | assign k v =>
      simp [renderText, toDotenvLines, toDotenv, CV.Dotenv.render, CV.Dotenv.Line.render, CV.Dotenv.renderExp,
        CV.Dotenv.Value.render, CV.Dotenv.renderCmt, CV.Dotenv.Sep.char] at ih ⊢
      rw [ih hr]

theorem renderText_append (a b : List Line) : renderText (a ++ b) = renderText a ++ renderText b := by
  induction a with
  | nil => rfl
  | cons x r ih => cases x <;> simp [renderText, ih]

theorem parseLines_append (look : Look) (a b : List Line) (out : List (Key × Str)) :
    parseLines look (a ++ b) out =
      match parseLines look a out with
      | .ok m => parseLines look b m
      | .error e => .error e := by
  induction a generalizing out with
  | nil => rfl
  | cons x r ih =>
    cases x with
    | bad => rfl
    | bare k =>
      simp only [List.cons_append, parseLines]
      cases look k <;> exact ih _
    | assign k v =>
      simp only [List.cons_append, parseLines]
      cases evalValue (withFile look out) v with
      | ok val => exact ih _
      | error e => rfl

theorem toDotenvLines_append (a b : List Line) : toDotenvLines (a ++ b) = toDotenvLines a ++ toDotenvLines b := by
  simp [toDotenvLines]

theorem ofPOut_andThen_keySpace (o : CV.Dotenv.POut) :
    ofPOut (o.andThen fun m => .err .keySpace m) =
      match ofPOut o with
      | .ok _ => .error .parse
      | .error e => .error e := by
  cases o with
  | ok m => rfl
  | err e m => cases e <;> rfl
  | panic s => rfl

theorem parse_text_with_bad (look : Look) (pre post : List Line) (hb : Line.bad ∉ pre)
    (hwf : CV.Dotenv.WF (toDotenvLines pre) = true) :
    ofPOut (CV.Dotenv.parse (renderText (pre ++ Line.bad :: post)) look) =
      parseLines look (pre ++ Line.bad :: post) [] := by
  have ht : renderText (pre ++ Line.bad :: post) =
      CV.Dotenv.render (toDotenvLines pre) ++
        ([] ++ (CV.Dotenv.renderExp none ++ (['A'] ++ ([' '] ++ (['B'] ++ ([] ++ CV.Dotenv.Sep.eq.char ::
          ('1' :: '\n' :: renderText post))))))) := by
    rw [renderText_append, renderText_good pre hb]
    simp [renderText, badText, CV.Dotenv.renderExp, CV.Dotenv.Sep.char]
  rw [ht, CV.Dotenv.parse_after look (toDotenvLines pre) hwf,
    funext fun m => CV.Dotenv.parseRun_keyspace [] none ['A'] [' '] ['B'] [] .eq _ m look
      (by decide) (by decide) (by decide) (by decide) (by decide) (by decide) (by decide) (by decide),
    ofPOut_andThen_keySpace, parseLines_append]
  unfold CV.Dotenv.evalLines
  rw [parseLines_eq_evalFrom look pre [] hb]
  cases parseLines look pre [] <;> rfl

end CV.EnvLayers
