import ComposeVerif.Lemmas.TravInvS
/-!
# Liveness: no state satisfying the invariants is stuck, and every step lowers the measure `mu`

`progress_inv`: such a state is terminal, or `walk` itself can move (`internal`), or a visitor callback is in progress.
So the only thing `walk` ever waits for is a visitor — never a lost wake-up, never a full channel, never a semaphore
slot that nobody will free.
-/
namespace CV.Trav

theorem wpc_head (v : V) (pc : WPc) (ws : List (V × WPc)) : wpc ((v, pc) :: ws) v = some pc := by
  simp [wpc, List.find?]

theorem ex_of_isSome {g : Graph} {lim : Option Nat} {s : St} (l : Label)
    (h : (step? g lim s l).isSome = true) : ∃ l s', step? g lim s l = some s' := by
  cases hh : step? g lim s l with
  | some s' => exact ⟨l, s', hh⟩
  | none => simp [hh] at h

theorem Step.enabled {g : Graph} {lim : Option Nat} {s s' : St} {l : Label} (h : Step g lim s l s')
    (hi : internal l = true) : ∃ l s', internal l = true ∧ step? g lim s l = some s' :=
  ⟨l, s', hi, step?_complete h⟩

theorem running_can_return (g : Graph) (lim : Option Nat) (s : St) (v : V) (e : Bool)
    (h : wpc s.workers v = some .running) : ∃ s', step? g lim s (.wReturn v e) = some s' :=
  ⟨_, step?_complete (.work h .ret)⟩

theorem worker_progress (g : Graph) (lim : Option Nat) (s : St) (v : V) (pc : WPc) (ws : List (V × WPc))
    (h : s.workers = (v, pc) :: ws) :
    (∃ l s', internal l = true ∧ step? g lim s l = some s') ∨ wpc s.workers v = some .running := by
  have hw : wpc s.workers v = some pc := by rw [h]; exact wpc_head v pc ws
  cases pc with
  | start =>
    cases hs : g.skip v with
    | true => exact .inl ((Step.work hw (.skip hs)).enabled rfl)
    | false => exact .inl ((Step.work hw (.begin hs)).enabled rfl)
  | running => exact .inr hw
  | returned e => exact .inl ((Step.work hw .done).enabled rfl)
  | marked e => exact .inl ((Step.work hw .send).enabled rfl)
  | sent e => exact .inl ((Step.work hw .exit).enabled rfl)

theorem sched_progress (g : Graph) (lim : Option Nat) (hl : ∀ l, lim = some l → 1 ≤ l) (s : St) (w : Who) (sc : Sched)
    (hs : getSched s w = some sc) (hw : s.workers = []) : ∃ l s', internal l = true ∧ step? g lim s l = some s' := by
  obtain ⟨todo, sub⟩ := sc
  cases sub with
  | next =>
    cases todo with
    | nil => exact (Step.visit hs .last).enabled rfl
    | cons v r => exact (Step.visit hs (.next (List.mem_cons_self ..))).enabled rfl
  | ready v =>
    by_cases hr : ∀ d ∈ g.pre v, s.status d = .visited
    · exact (Step.visit hs (.readyT hr)).enabled rfl
    · exact (Step.visit hs (.readyF hr)).enabled rfl
  | enter v =>
    by_cases hr : s.status v = .absent
    · exact (Step.visit hs (.enterT hr)).enabled rfl
    · exact (Step.visit hs (.enterF hr)).enabled rfl
  | spawn v =>
    -- no worker is left, so at most the coordinator holds a slot
    refine (Step.visit hs (.spawn ?_)).enabled rfl
    cases lim with
    | none => rfl
    | some l =>
      have h1 := hl l rfl
      have : sem s < l + 1 := by
        unfold sem; rw [hw]; simp; split <;> omega
      simp [slotFree, this]

theorem worker_enabled (g : Graph) (lim : Option Nat) (s : St) (v : V) (pc : WPc) (ws : List (V × WPc))
    (h : s.workers = (v, pc) :: ws) : ∃ l s', step? g lim s l = some s' :=
  (worker_progress g lim s v pc ws h).elim (fun ⟨l, s', _, hs⟩ => ⟨l, s', hs⟩)
    (fun hr => ⟨.wReturn v false, running_can_return g lim s v false hr⟩)

theorem sched_enabled (g : Graph) (lim : Option Nat) (hl : ∀ l, lim = some l → 1 ≤ l) (s : St) (w : Who) (sc : Sched)
    (hs : getSched s w = some sc) (hw : s.workers = []) : ∃ l s', step? g lim s l = some s' :=
  let ⟨l, s', _, h⟩ := sched_progress g lim hl s w sc hs hw
  ⟨l, s', h⟩

theorem exists_unreceived (g : Graph) (hg : GraphOK g) (s : St) (hI : InvB g s) (hc : s.cAlive = true) :
    ∃ v ∈ g.verts, v ∉ s.received := by
  have ⟨he, h1⟩ := hI.expectEq hc
  apply Classical.byContradiction
  intro hno
  have hall : g.verts ⊆ s.received := fun v hv => Classical.byContradiction fun hn => hno ⟨v, hv, hn⟩
  have := hg.nodup.length_le_of_subset hall
  omega

/-- among unreceived vertices pick one of minimal rank: all its dependencies are received -/
theorem exists_min_unreceived (g : Graph) (hg : GraphOK g) (s : St) (hI : InvB g s) (hc : s.cAlive = true) :
    ∃ v ∈ g.verts, v ∉ s.received ∧ ∀ d ∈ g.pre v, d ∈ s.received := by
  obtain ⟨rk, hrk⟩ := hg.rank
  obtain ⟨v0, hv0, hn0⟩ := exists_unreceived g hg s hI hc
  have key : ∀ n, ∀ v ∈ g.verts, v ∉ s.received → rk v = n →
      ∃ u ∈ g.verts, u ∉ s.received ∧ ∀ d ∈ g.pre u, d ∈ s.received := by
    intro n
    induction n using Nat.strongRecOn with
    | _ n ih =>
      intro v hv hn hr
      by_cases hall : ∀ d ∈ g.pre v, d ∈ s.received
      · exact ⟨v, hv, hn, hall⟩
      · have ⟨d, hd⟩ := Classical.not_forall.mp hall
        have ⟨hd, hdn⟩ := Classical.not_imp.mp hd
        exact ih (rk d) (hr ▸ hrk v hv d hd) d (hg.pre_mem v hv d hd) hdn rfl
  exact key (rk v0) v0 hv0 hn0 rfl

/-- **no lost wake-up**: nobody is left but the coordinator at its `select`, the channel is empty and nothing is cancelled —
impossible: a vertex of minimal rank among the unreceived ones is absent (nobody holds it), and `wakeM` / `wakeC` say that
somebody still has to try it -/
theorem no_lost_wakeup (g : Graph) (hg : GraphOK g) (s : St) (hA : InvA s) (hI : InvB g s) (hw : s.workers = [])
    (hm : s.m = none) (hc : s.cAlive = true) (hcs : s.cSched = none) (hch : s.ch = []) (hcan : s.cancelled = false) :
    False := by
  have hM : getSched s .M = none := hm
  have hC : getSched s .C = none := (getSched_C_alive hc).trans hcs
  obtain ⟨v, hv, hnr, hpre⟩ := exists_min_unreceived g hg s hI hc
  have habs : s.status v = .absent := by
    cases hst : s.status v with
    | absent => rfl
    | entered =>
      rcases hA.enteredWhere v hst with ⟨pc, hpc⟩ | ⟨w, hp⟩
      · rw [hw] at hpc; cases hpc
      · cases w
        · rw [hM] at hp; cases hp
        · rw [hC] at hp; cases hp
    | visited =>
      rcases hA.visitedWhere v hst with ⟨e, he⟩ | h | h
      · rw [hw] at he; cases he
      · rw [hch] at h; cases h
      · exact absurd h hnr
  by_cases hp : g.pre v = []
  · rcases hI.wakeM v hv hp with h | ⟨x, hx, _⟩
    · exact h habs
    · rw [hM] at hx; cases hx
  · rcases hI.wakeC hcan hc v hv hp hpre with h | ⟨x, hx, _⟩
    · exact h habs
    · rw [hC] at hx; cases hx

/-- peel off who can still move: a worker, the caller, the coordinator in its loop, at a non-empty channel, at a cancelled
context; if nobody can, `no_lost_wakeup` -/
theorem progress_inv (g : Graph) (hg : GraphOK g) (lim : Option Nat) (hl : ∀ l, lim = some l → 1 ≤ l)
    (s : St) (hA : InvA s) (hI : InvB g s) :
    terminal s ∨ (∃ l s', internal l = true ∧ step? g lim s l = some s') ∨ (∃ v, wpc s.workers v = some .running) := by
  cases hw : s.workers with
  | cons p ws =>
    obtain ⟨v, pc⟩ := p
    rcases worker_progress g lim s v pc ws hw with h | h
    · exact .inr (.inl h)
    · exact .inr (.inr ⟨v, hw ▸ h⟩)
  | nil =>
    cases hm : s.m with
    | some sc => exact .inr (.inl (sched_progress g lim hl s .M sc hm hw))
    | none =>
      cases hc : s.cAlive with
      | false => exact .inl ⟨hm, hw, hc⟩
      | true =>
        refine .inr (.inl ?_)
        cases hcs : s.cSched with
        | some sc => exact sched_progress g lim hl s .C sc ((getSched_C_alive hc).trans hcs) hw
        | none =>
          cases hch : s.ch with
          | cons v rest =>
            by_cases h0 : s.expect - 1 = 0
            · exact (Step.coord hc hcs (.recvLast hch h0)).enabled rfl
            · exact (Step.coord hc hcs (.recvMore hch h0)).enabled rfl
          | nil =>
            cases hcan : s.cancelled with
            | true => exact (Step.coord hc hcs (.ctxDone hcan hm)).enabled rfl
            | false => exact (no_lost_wakeup g hg s hA hI hw hm hc hcs hch hcan).elim

/-- steps a worker still has to take, its exit included -/
def remW : WPc → Nat
  | .start => 5 | .running => 4 | .returned _ => 3 | .marked _ => 2 | .sent _ => 1

/-- steps left in the current pass through `visit`; `spawn` also pays for the five steps of the worker it creates -/
def subW : SubPc → Nat
  | .next => 0 | .ready _ => 2 | .enter _ => 1 | .spawn _ => 6

/-- a scheduling goroutine: one step to leave the loop, at most three (`next`, `ready`, `enter`) per vertex still on
its list without a claim, and the current pass -/
def schedW : Option Sched → Nat
  | none => 0
  | some ⟨todo, sub⟩ => 1 + 3 * todo.length + subW sub

def wsum (l : List V) (p : V → Bool) (f : V → Nat) : Nat := ((l.filter p).map f).sum

/-- the steps all live workers still have to take -/
def workW (ws : List (V × WPc)) : Nat := (ws.map (fun p => remW p.2)).sum

/-- the caller, and the coordinator while it lives (one more step: its exit) -/
def schedTotal (s : St) : Nat := schedW s.m + (if s.cAlive then 1 + schedW s.cSched else 0)

/-- steps still to be taken, with room to spare; strictly decreases along every step -/
def mu (g : Graph) (s : St) : Nat :=
  wsum g.verts (fun v => s.status v == .absent) (fun _ => 7)
  + workW s.workers
  + wsum g.verts (fun v => !(s.received.contains v)) (fun v => 3 * (g.post v).length + 2)
  + schedTotal s
  + (if s.extCancelled then 0 else 1)

theorem sum_map_le {α} (l : List α) (f f' : α → Nat) (hle : ∀ a ∈ l, f' a ≤ f a) : (l.map f').sum ≤ (l.map f).sum := by
  induction l with
  | nil => exact Nat.le_refl _
  | cons a r ih =>
    rw [List.map_cons, List.map_cons, List.sum_cons, List.sum_cons]
    exact Nat.add_le_add (hle a (List.mem_cons_self ..)) (ih fun b hb => hle b (List.mem_cons_of_mem _ hb))

theorem sum_map_add_le {α} (l : List α) (f f' : α → Nat) (k : Nat) (hle : ∀ a ∈ l, f' a ≤ f a) (v : α) (hv : v ∈ l)
    (hk : f' v + k ≤ f v) : (l.map f').sum + k ≤ (l.map f).sum := by
  induction l with
  | nil => cases hv
  | cons a r ih =>
    rw [List.map_cons, List.map_cons, List.sum_cons, List.sum_cons]
    have hr : ∀ b ∈ r, f' b ≤ f b := fun b hb => hle b (List.mem_cons_of_mem _ hb)
    rcases List.mem_cons.mp hv with rfl | hv
    · have := sum_map_le r f f' hr; omega
    · have := ih hr hv; have := hle a (List.mem_cons_self ..); omega

theorem sum_filter_map {α} (l : List α) (p : α → Bool) (f : α → Nat) :
    ((l.filter p).map f).sum = (l.map fun a => if p a then f a else 0).sum := by
  induction l with
  | nil => rfl
  | cons a r ih =>
    rw [List.filter_cons, List.map_cons, List.sum_cons, ← ih]
    cases p a
    · exact (Nat.zero_add _).symm
    · rfl

theorem wsum_le (l : List V) (p p' : V → Bool) (f : V → Nat) (hpp : ∀ u, p' u = true → p u = true) :
    wsum l p' f ≤ wsum l p f := by
  rw [wsum, wsum, sum_filter_map, sum_filter_map]
  refine sum_map_le _ _ _ fun a _ => ?_
  cases h : p' a
  · exact Nat.zero_le _
  · rw [hpp a h]; exact Nat.le_refl _

theorem wsum_lt (l : List V) (p p' : V → Bool) (f : V → Nat) (hpp : ∀ u, p' u = true → p u = true)
    (v : V) (hv : v ∈ l) (hp : p v = true) (hp' : p' v = false) :
    wsum l p' f + f v ≤ wsum l p f := by
  rw [wsum, wsum, sum_filter_map, sum_filter_map]
  refine sum_map_add_le _ _ _ _ (fun a _ => ?_) v hv (by rw [hp, hp']; exact Nat.le_of_eq (Nat.zero_add _))
  cases h : p' a
  · exact Nat.zero_le _
  · rw [hpp a h]; exact Nat.le_refl _

theorem workW_moveW {ws : List (V × WPc)} (hn : (ws.map (·.1)).Nodup) {v : V} {pc : WPc} (hm : (v, pc) ∈ ws)
    (pc' : Option WPc) (k : Nat) (hk : pc'.elim 0 remW + k ≤ remW pc) : workW (moveW ws v pc') + k ≤ workW ws := by
  cases pc' with
  | none =>
    rw [workW, moveW, sum_filter_map]
    refine sum_map_add_le _ _ _ _ (fun a _ => ?_) (v, pc) hm ?_
    · split
      · exact Nat.le_refl _
      · exact Nat.zero_le _
    · rw [if_neg (by simp)]; exact hk
  | some p =>
    rw [workW, moveW, setW, List.map_map]
    refine sum_map_add_le _ _ _ _ (fun a ha => ?_) (v, pc) hm ?_
    · show remW (if a.1 = v then (v, p) else a).2 ≤ remW a.2
      split
      · next h =>
        obtain ⟨u, q⟩ := a
        cases (show u = v from h)
        cases pc_unique hn ha hm
        exact Nat.le_trans (Nat.le_add_right _ k) hk
      · exact Nat.le_refl _
    · show remW (if v = v then (v, p) else (v, pc)).2 + k ≤ remW pc
      rw [if_pos rfl]; exact hk

theorem schedTotal_put {s : St} {w : Who} {y : Sched} (x : Option Sched) (h : getSched s w = some y) :
    schedTotal (putSched s w x) + schedW (some y) = schedTotal s + schedW x := by
  cases w with
  | M =>
    have h : s.m = some y := h
    show schedW x + (if s.cAlive = true then 1 + schedW s.cSched else 0) + schedW (some y) =
      schedW s.m + (if s.cAlive = true then 1 + schedW s.cSched else 0) + schedW x
    rw [h]; omega
  | C =>
    have ⟨ha, hc⟩ := getSched_C_some h
    show schedW s.m + (if s.cAlive = true then 1 + schedW x else 0) + schedW (some y) =
      schedW s.m + (if s.cAlive = true then 1 + schedW s.cSched else 0) + schedW x
    rw [if_pos ha, if_pos ha, hc]; omega

theorem schedTotal_congr {s s' : St} (hm : s'.m = s.m) (hc : s'.cSched = s.cSched) (ha : s'.cAlive = s.cAlive) :
    schedTotal s' = schedTotal s := by
  rw [schedTotal, schedTotal, hm, hc, ha]

theorem schedW_lt {todo : List V} {a b : SubPc} (h : subW a < subW b) : schedW (some ⟨todo, a⟩) < schedW (some ⟨todo, b⟩) :=
  Nat.add_lt_add_left h _

theorem Visit.measure {g : Graph} {lim : Option Nat} {s : St} {w : Who} {l : Label} {y : Sched} {x : Option Sched}
    {st : V → Status} {ws : List (V × WPc)} (h : Visit g lim s w l y x st ws) (hy : CV.Trav.subVerts g y) :
    wsum g.verts (fun u => st u == .absent) (fun _ => 7) + workW ws + schedW x <
      wsum g.verts (fun u => s.status u == .absent) (fun _ => 7) + workW s.workers + schedW (some y) := by
  cases h with
  | @next todo v hv =>
    refine Nat.add_lt_add_left ?_ _
    have := List.length_erase_of_mem hv
    have := List.length_pos_of_mem hv
    simp only [schedW, subW]; omega
  | last => exact Nat.add_lt_add_left (by decide) _
  | readyT _ => exact Nat.add_lt_add_left (schedW_lt (by exact Nat.lt_succ_self 1)) _
  | readyF _ => exact Nat.add_lt_add_left (schedW_lt (by exact Nat.zero_lt_succ 1)) _
  | enterF _ => exact Nat.add_lt_add_left (schedW_lt (by exact Nat.zero_lt_succ 0)) _
  | @enterT todo v habs =>
    -- the claim: `v` is no longer absent (−7), the goroutine has the spawn still to do (+5)
    have := wsum_lt g.verts (fun u => s.status u == .absent) (fun u => setStatus s.status v .entered u == .absent)
      (fun _ => 7) (fun u hu => by
        by_cases e : u = v
        · rw [e, setStatus_self] at hu; cases hu
        · rwa [setStatus_ne _ _ e] at hu)
      v (hy.2 v (.inr (.inl rfl))) (by rw [habs]; rfl) (by rw [setStatus_self]; rfl)
    simp only [schedW, subW]; omega
  | spawn _ =>
    -- the new worker has five steps to go, the goroutine six fewer
    simp only [schedW, subW, workW, List.map_cons, List.sum_cons, remW]; omega

theorem Work.remW_lt {g : Graph} {s s1 : St} {v : V} {l : Label} {pc : WPc} {pc' : Option WPc}
    (h : Work g s v l pc pc' s1) : pc'.elim 0 remW + 1 ≤ remW pc := by
  cases h <;> first | decide | exact Nat.le_refl _

theorem mu_decreases {g : Graph} {lim : Option Nat} {s s' : St} {l : Label}
    (hA : InvA s) (hB : InvB g s) (h : Step g lim s l s') : mu g s' < mu g s := by
  cases h with
  | @visit w l y x st ws hs hv =>
    have h1 : schedTotal (putSched { s with status := st, workers := ws } w x) + schedW (some y) =
        schedTotal s + schedW x := schedTotal_put (s := { s with status := st, workers := ws }) x hs
    have h2 := hv.measure (hB.schedVerts w y hs)
    simp only [mu, putSched_status, putSched_workers, putSched_received, putSched_extCancelled]
    omega
  | @work v l pc pc' s1 hw hk =>
    have h1 := workW_moveW hA.wkNodup (mem_of_wpc hw) pc' 1 hk.remW_lt
    have h2 : schedTotal { s1 with workers := moveW s.workers v pc' } = schedTotal s :=
      schedTotal_congr hk.sched.1 hk.sched.2.1 hk.sched.2.2
    have h3 : wsum g.verts (fun u => s1.status u == .absent) (fun _ => 7) ≤
        wsum g.verts (fun u => s.status u == .absent) (fun _ => 7) :=
      wsum_le _ _ _ _ fun u hu => Classical.byContradiction fun hne =>
        hk.status_mono (u := u) (fun e => hne (by rw [e]; rfl)) (eq_of_beq hu)
    simp only [mu]
    rw [h2, hk.handoff.1, hk.errs.1]
    omega
  | coord ha hc hk =>
    cases hk with
    | @recvLast v rest hch _ =>
      have h3 := wsum_le g.verts (fun u => !(s.received.contains u)) (fun u => !((v :: s.received).contains u))
        (fun u => 3 * (g.post u).length + 2) (by intro u; simp)
      simp only [mu, schedTotal, ha, hc, schedW, if_true, Bool.false_eq_true, if_false]
      omega
    | @recvMore v rest hch _ =>
      -- receiving `v` releases its share `3 * |post v| + 2` of the third summand; the coordinator's new loop over
      -- `post v` costs `1 + 3 * |post v|`
      have hv : v ∈ g.verts := hB.recvSub v (.inl (hch ▸ List.mem_cons_self ..))
      have hnr : v ∉ s.received := fun hr => by
        have := hA.chRecvNodup; rw [hch] at this
        exact (List.nodup_cons.mp this).1 (List.mem_append_right _ hr)
      have h3 := wsum_lt g.verts (fun u => !(s.received.contains u)) (fun u => !((v :: s.received).contains u))
        (fun u => 3 * (g.post u).length + 2) (by intro u; simp) v hv (by simpa using hnr) (by simp)
      simp only [mu, schedTotal, ha, hc, schedW, subW, if_true]
      omega
    | ctxDone _ _ =>
      simp only [mu, schedTotal, ha, hc, schedW, if_true, Bool.false_eq_true, if_false]
      omega
  | cancel hx =>
    simp only [mu, schedTotal, hx, if_true, Bool.false_eq_true, if_false]
    omega

theorem mu_step_lt {g : Graph} {lim : Option Nat} (hg : GraphOK g) {s s' : St} {l : Label} (h : Reach g lim s)
    (hs : step? g lim s l = some s') : mu g s' < mu g s :=
  let hI := reach_inv hg h
  mu_decreases hI.a hI.b (step?_sound hs)

end CV.Trav
