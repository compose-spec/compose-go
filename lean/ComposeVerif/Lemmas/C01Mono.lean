import ComposeVerif.Lemmas.C01Dep
import ComposeVerif.Lemmas.C01Inc
import ComposeVerif.Lemmas.C01Ext
import ComposeVerif.Lemmas.FuelLe
/-!
Fuel monotonicity for the three fuelled searches of `Model/C01Cycles.lean` (depends_on, include, extends): once a run does
not run out of fuel, more fuel gives the same answer.  Together with the `…_ne_fuel` lemmas this makes the fuel a proof device only: the model's answer is defined
independently of it.
-/
namespace CV.C01

open CV.Fuel (Le)

namespace Dep

variable {α : Type} [DecidableEq α]

theorem searchCycle_mono (g : G α) : ∀ (fuel : Nat) (path : List α) (v : α),
    Le (· = .outOfFuel) (searchCycle g fuel path v) (searchCycle g (fuel + 1) path v)
  | 0, _, _, h => absurd rfl h
  | fuel + 1, path, v, h => by
    unfold searchCycle at h ⊢
    rw [searchChildren_eq] at h ⊢
    rw [searchChildren_eq]
    refine firstNotOk_congr (fun c _ hc => ?_) h nofun
    split
    · rfl
    · rw [if_neg ‹_›] at hc; exact searchCycle_mono g fuel _ c hc

theorem checkCycle_mono (g : G α) (fuel : Nat) :
    Le (· = .outOfFuel) (checkCycle g fuel) (checkCycle g (fuel + 1)) := by
  unfold checkCycle
  rw [checkFrom_eq, checkFrom_eq]
  exact fun h => firstNotOk_congr (fun v _ hv => searchCycle_mono g fuel [v] v hv) h nofun

end Dep

namespace Inc

theorem loadModel_mono (fs : FS) : ∀ (fuel : Nat) (files included : List String),
    Le (· = .outOfFuel) (loadModel fs fuel files included) (loadModel fs (fuel + 1) files included)
  | 0, _, _, h => absurd rfl h
  | fuel + 1, files, included, h => by
    unfold loadModel at h ⊢
    rw [loadFiles_eq] at h ⊢
    rw [loadFiles_eq]
    refine firstNotOk_congr (fun f _ hf => ?_) h nofun
    cases hl : lookup f fs with
    | none => simp only [file, hl]
    | some es =>
      simp only [file, hl, applyInclude_eq] at hf ⊢
      refine firstNotOk_congr (fun e _ he => ?_) hf nofun
      cases e with
      | nil => rfl
      | cons p0 ps =>
        simp only [entry] at he ⊢
        split
        · rfl
        · rw [if_neg ‹_›] at he; exact loadModel_mono fs fuel _ _ he

end Inc

namespace Ext

theorem resolve_mono (fs : FS) : ∀ (fuel : Nat) (main : String) (svcs : Services) (name : String) (tr : Tracker),
    Le (·.1 = .outOfFuel) (resolve fs main fuel svcs name tr) (resolve fs main (fuel + 1) svcs name tr)
  | 0, _, _, _, _, h => by unfold resolve at h; exact absurd rfl h
  | fuel + 1, main, svcs, name, tr, h => by
    unfold resolve at h ⊢
    split
    · rfl
    · rfl
    · rfl
    · rfl
    · rename_i e hl
      simp only [hl] at h
      split
      · rfl
      · rename_i ref file target hloc
        simp only [hloc] at h
        split
        · rfl
        · rename_i tr' hadd
          simp only [hadd] at h
          have hne : (resolve fs file fuel (target.getD svcs) ref tr').1 ≠ .outOfFuel := by
            intro he
            generalize resolve fs file fuel (target.getD svcs) ref tr' = res at h he
            obtain ⟨r1, b, s'⟩ := res
            simp only at he
            subst he
            simp at h
          rw [resolve_mono fs fuel file (target.getD svcs) ref tr' hne]

end Ext
end CV.C01
