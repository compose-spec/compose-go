import ComposeVerif.Model.C01Pipeline
/-!
Two things about the glue of `Model/C01Pipeline.lean`.  (1) The predicate `PS S o` ("a panic outcome of `o`, if any, is at one
of the sites `S`") with its closure under `bind` and the stage adapters (`ps_bind`, `ps_of*`): what the theorems about
`Pipe.loadModel` are chained from.  (2) The conversions lose nothing where the composition uses them: `toVal ∘ ofVal` is the
identity on every tree, and `ofVal ∘ toVal` is the identity on every `GoVal` without nil slice and without
`map[interface{}]interface{}` — which is what `convert` + `fixEmpty` produce (`walkers_establish_schema_input`).
-/
namespace CV.C01.Pipe
open CV

mutual
theorem toVal_ofVal : ∀ (v : Val), toVal (ofVal v) = v
  | .null => rfl
  | .bool _ => rfl
  | .int _ => rfl
  | .float _ => rfl
  | .str _ => rfl
  | .seq xs => by simp only [ofVal, toVal, toVals_ofVals xs]
  | .map kvs => by simp only [ofVal, toVal, toKVs_ofKVs kvs]
theorem toVals_ofVals : ∀ (xs : List Val), toVals (ofVals xs) = xs
  | [] => rfl
  | v :: r => by simp only [ofVals, toVals, toVal_ofVal v, toVals_ofVals r]
theorem toKVs_ofKVs : ∀ (kvs : List (String × Val)), toKVs (ofKVs kvs) = kvs
  | [] => rfl
  | (k, v) :: r => by simp only [ofKVs, toKVs, toVal_ofVal v, toKVs_ofKVs r]
end

mutual
theorem ofVal_toVal : ∀ (g : GoVal), noNil g = true → stringKeyed g = true → ofVal (toVal g) = g
  | .null, _, _ => rfl
  | .bool _, _, _ => rfl
  | .int _, _, _ => rfl
  | .float _, _, _ => rfl
  | .str _, _, _ => rfl
  | .nilseq, h, _ => by simp [noNil] at h
  | .imap _, _, h => by simp [stringKeyed] at h
  | .seq xs, h1, h2 => by
    simp only [noNil] at h1
    simp only [stringKeyed] at h2
    simp only [toVal, ofVal, ofVals_toVals xs h1 h2]
  | .map kvs, h1, h2 => by
    simp only [noNil] at h1
    simp only [stringKeyed] at h2
    simp only [toVal, ofVal, ofKVs_toKVs kvs h1 h2]
theorem ofVals_toVals : ∀ (xs : List GoVal), noNilList xs = true → stringKeyedList xs = true → ofVals (toVals xs) = xs
  | [], _, _ => rfl
  | v :: r, h1, h2 => by
    simp only [noNilList, Bool.and_eq_true] at h1
    simp only [stringKeyedList, Bool.and_eq_true] at h2
    simp only [toVals, ofVals, ofVal_toVal v h1.1 h2.1, ofVals_toVals r h1.2 h2.2]
theorem ofKVs_toKVs : ∀ (kvs : List (String × GoVal)), noNilKVs kvs = true → stringKeyedKVs kvs = true → ofKVs (toKVs kvs) = kvs
  | [], _, _ => rfl
  | (k, v) :: r, h1, h2 => by
    simp only [noNilKVs, Bool.and_eq_true] at h1
    simp only [stringKeyedKVs, Bool.and_eq_true] at h2
    simp only [toKVs, ofKVs, ofVal_toVal v h1.1 h2.1, ofKVs_toKVs r h1.2 h2.2]
end

/-- a panic outcome, if any, is at one of the sites `S` -/
def PS {α : Type} (S : List String) (o : Out α) : Prop := ∀ s, o = .panic s → s ∈ S

theorem ps_ok {α : Type} (S : List String) (a : α) : PS S (Out.ok a) := by intro s h; cases h
theorem ps_err {α : Type} (S : List String) (e : String) : PS S (Out.err e : Out α) := by intro s h; cases h
theorem ps_nil_mono {α : Type} {S : List String} {o : Out α} (h : PS [] o) : PS S o := fun s e => absurd (h s e) (by simp)
theorem ps_bind {α β : Type} {S : List String} {o : Out α} {f : α → Out β} (ho : PS S o) (hf : ∀ a, PS S (f a)) :
    PS S (o.bind f) := by
  intro s h
  cases o with
  | ok a => exact hf a s h
  | err e => cases h
  | panic t => simp only [Out.bind] at h; cases h; exact ho _ rfl

theorem ps_ofWalker {α : Type} (st : String) (x : C01.Out α) (h : ∀ s, x ≠ .panic s) : PS [] (ofWalker st x) := by
  intro s e; cases x <;> simp only [ofWalker] at e <;> cases e; exact absurd rfl (h _)
theorem ps_ofInterp {α : Type} (x : Interp.Out α) (h : ∀ s, x ≠ .panic s) : PS [] (ofInterp x) := by
  intro s e; cases x <;> simp only [ofInterp] at e <;> cases e; exact absurd rfl (h _)
theorem ps_ofMerge {α : Type} (st : String) (x : Merge.Out α) (h : ∀ s, x ≠ .panic s) : PS [] (ofMerge st x) := by
  intro s e; cases x <;> simp only [ofMerge] at e <;> cases e; exact absurd rfl (h _)
theorem ps_ofShort {α : Type} (x : Short.Out α) (h : ∀ s, x ≠ .panic s) : PS [] (ofShort x) := by
  intro s e; cases x <;> simp only [ofShort] at e <;> cases e; exact absurd rfl (h _)
theorem ps_ofC11 {α : Type} (st : String) (x : C11.Out α) (h : ∀ s, x ≠ .panic s) : PS [] (ofC11 st x) := by
  intro s e; cases x <;> simp only [ofC11] at e <;> cases e; exact absurd rfl (h _)
theorem ps_ofPaths {α : Type} (x : Paths.Out α) (h : ∀ s, x ≠ .panic s) : PS [] (ofPaths x) := by
  intro s e; cases x <;> simp only [ofPaths] at e <;> cases e; exact absurd rfl (h _)

end CV.C01.Pipe
