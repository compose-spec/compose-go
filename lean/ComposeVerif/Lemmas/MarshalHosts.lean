import ComposeVerif.Lemmas.Marshal
/-!
# extra_hosts (`HostsList`): the rendered `host=ip` lines are read back, host by host

`HEnt`, `entVal`, `entLines` are an entry as typed pair, as entry of the mapping and as its rendered lines; `ipOK` / `entOK`
say which entries survive (`C09.custom_roundtrip_HostsList`, `C09.IsHostsList` are stated with them); `insertH` / `sortH`
are the marshaller's ordering on typed entries.
-/
namespace CV.Marshal
open CV

abbrev HEnt := String × List String

def entVal (e : HEnt) : String × Val := (e.1, .seq (e.2.map Val.str))
def entLines (e : HEnt) : List String := e.2.map (joinHost e.1)

/-- a well-formed address: no comma (it would be split) and no enclosing brackets (they would be stripped) -/
def ipOK (ip : String) : Prop := ',' ∉ ip.toList ∧ stripBrackets ip = ip

/-- a well-formed entry: a non-empty host name without `:` or `=`, at least one address, every address well-formed -/
def entOK (e : HEnt) : Prop :=
  e.1 ≠ "" ∧ ':' ∉ e.1.toList ∧ '=' ∉ e.1.toList ∧ e.2 ≠ [] ∧ ∀ ip ∈ e.2, ipOK ip

theorem strsOf_strs : ∀ l : List String, strsOf (l.map Val.str) = l := by
  intro l; induction l with
  | nil => rfl
  | cons x r ih => simp [strsOf, ih]

theorem hostLines_ents : ∀ es : List HEnt, hostLines (es.map entVal) = es.flatMap entLines := by
  intro es; induction es with
  | nil => rfl
  | cons e r ih =>
    obtain ⟨h, ips⟩ := e
    simp [hostLines, entVal, entLines, strsOf_strs, ih]

theorem splitOnChar_eq (c : Char) : ∀ cs : List Char, splitOnChar c cs = cs.splitOn c
  | [] => rfl
  | x :: r => by
    have ih := splitOnChar_eq c r
    unfold splitOnChar at ih ⊢
    rw [List.foldr_cons, ih, List.splitOn_cons_eq_if_modifyHead]
    cases hs : r.splitOn c with
    | nil => exact absurd hs (List.splitOn_ne_nil c r)
    | cons a t => by_cases hx : x = c <;> simp [hx]

theorem splitOnChar_none (c : Char) (cs : List Char) (h : c ∉ cs) : splitOnChar c cs = [cs] :=
  (splitOnChar_eq c cs).trans (List.splitOn_eq_singleton h)

theorem splitComma_none (ip : String) (h : ',' ∉ ip.toList) : splitComma ip = [ip] := by
  simp [splitComma, splitOnChar_none ',' ip.toList h]

theorem cutHost_join (h ip : String) (hh : '=' ∉ h.toList) : cutHost (joinHost h ip) = some (h, ip) := by
  unfold cutHost joinHost
  have h1 : (h ++ "=" ++ ip).toList = h.toList ++ '=' :: ip.toList := by simp [String.toList_append]
  simp only [h1, indexOf_sep '=' h.toList ip.toList hh]
  simp

theorem addHost_fresh (h : String) (l : List String) : ∀ acc : List HEnt, h ∉ acc.map Prod.fst →
    addHost h l acc = acc ++ [(h, l)] := by
  intro acc; induction acc with
  | nil => intro _; rfl
  | cons p r ih =>
    intro hm
    obtain ⟨h', l'⟩ := p
    simp only [List.map_cons, List.mem_cons, not_or] at hm
    simp only [addHost, hm.1, if_false, List.cons_append, ih hm.2]

theorem addHost_last (h : String) (l0 l : List String) : ∀ acc : List HEnt, h ∉ acc.map Prod.fst →
    addHost h l (acc ++ [(h, l0)]) = acc ++ [(h, l0 ++ l)] := by
  intro acc; induction acc with
  | nil => intro _; simp [addHost]
  | cons p r ih =>
    intro hm
    obtain ⟨h', l'⟩ := p
    simp only [List.map_cons, List.mem_cons, not_or] at hm
    simp only [List.cons_append, addHost, hm.1, if_false, ih hm.2]

theorem hostsFromLines_more (h : String) (hh : '=' ∉ h.toList) (rest : List String) :
    ∀ (ips l0 : List String) (acc : List HEnt), h ∉ acc.map Prod.fst → (∀ ip ∈ ips, ipOK ip) →
      hostsFromLines (ips.map (joinHost h) ++ rest) (acc ++ [(h, l0)]) = hostsFromLines rest (acc ++ [(h, l0 ++ ips)]) := by
  intro ips; induction ips with
  | nil => intro l0 acc _ _; simp
  | cons ip r ih =>
    intro l0 acc hm hok
    have hip := hok ip (List.mem_cons_self ..)
    simp only [List.map_cons, List.cons_append, hostsFromLines, cutHost_join h ip hh, splitComma_none ip hip.1,
      addHost_last h l0 [ip] acc hm]
    rw [ih (l0 ++ [ip]) acc hm (fun ip' hm' => hok ip' (List.mem_cons_of_mem _ hm'))]
    simp

theorem hostsFromLines_ent (e : HEnt) (he : entOK e) (rest : List String) (acc : List HEnt) (hm : e.1 ∉ acc.map Prod.fst) :
    hostsFromLines (entLines e ++ rest) acc = hostsFromLines rest (acc ++ [e]) := by
  obtain ⟨h, ips⟩ := e
  obtain ⟨_, _, heq, hne, hok⟩ := he
  cases ips with
  | nil => exact absurd rfl hne
  | cons ip r =>
    have hip := hok ip (List.mem_cons_self ..)
    simp only [entLines, List.map_cons, List.cons_append, hostsFromLines, cutHost_join h ip heq, splitComma_none ip hip.1,
      addHost_fresh h [ip] acc hm]
    have := hostsFromLines_more h heq rest r [ip] acc hm (fun ip' hm' => hok ip' (List.mem_cons_of_mem _ hm'))
    simpa using this

theorem hostsFromLines_ents : ∀ (es acc : List HEnt), (∀ e ∈ es, entOK e) →
    (acc.map Prod.fst ++ es.map Prod.fst).Nodup →
    hostsFromLines (es.flatMap entLines) acc = .ok (acc ++ es) := by
  intro es; induction es with
  | nil => intro acc _ _; simp [hostsFromLines]
  | cons e r ih =>
    intro acc hok hnd
    have hm : e.1 ∉ acc.map Prod.fst := not_mem_of_nodup_append_cons hnd
    simp only [List.flatMap_cons]
    rw [hostsFromLines_ent e (hok e (List.mem_cons_self ..)) _ acc hm]
    rw [ih (acc ++ [e]) (fun e' hm' => hok e' (List.mem_cons_of_mem _ hm'))]
    · simp
    · simpa [List.map_append, List.append_assoc] using hnd

theorem badHost_ok (e : HEnt) (he : entOK e) : badHost e.1 = false := by
  obtain ⟨h1, h2, h3, _, _⟩ := he
  simp only [badHost, Bool.or_eq_false_iff, beq_eq_false_iff_ne, ne_eq, List.any_eq_false]
  refine ⟨h1, ?_⟩
  intro c hc
  simp only [Bool.or_eq_true, beq_iff_eq, not_or]
  exact ⟨fun e => h2 (e ▸ hc), fun e => h3 (e ▸ hc)⟩

theorem cleanupHosts_ok (es : List HEnt) (hok : ∀ e ∈ es, entOK e) : cleanupHosts es = .ok (.map (es.map entVal)) := by
  have hb : es.any (fun p => badHost p.1) = false := by
    simp only [List.any_eq_false]
    intro e he
    simp [badHost_ok e (hok e he)]
  simp only [cleanupHosts, hb, Bool.false_eq_true, if_false]
  congr 2
  apply List.map_congr_left
  intro e he
  obtain ⟨h, ips⟩ := e
  simp only [entVal]
  congr 2
  apply List.map_congr_left
  intro ip hip
  have := (hok (h, ips) he).2.2.2.2 ip hip
  simp [this.2]

theorem strs_scalar : ∀ l : List String, (l.map Val.str).all isScalar = true := by
  intro l; induction l with
  | nil => rfl
  | cons x r ih => simp [isScalar, ih]

theorem sprint_strs : ∀ l : List String, (l.map Val.str).map sprint = l := by
  intro l; induction l with
  | nil => rfl
  | cons x r ih => simpa [sprint, Val.fmtV] using ih

theorem decode_hostLines (es : List HEnt) (hok : ∀ e ∈ es, entOK e) (hnd : (es.map Prod.fst).Nodup) :
    decode_HostsList (.seq ((hostLines (es.map entVal)).map Val.str)) = .ok (.map (es.map entVal)) := by
  simp only [decode_HostsList, strs_scalar, Bool.not_true, Bool.false_eq_true, if_false, sprint_strs, hostLines_ents]
  rw [hostsFromLines_ents es [] hok (by simpa using hnd)]
  simp [cleanupHosts_ok es hok]

/-- the marshaller's ordering of the entries, on typed entries -/
def insertH (e : HEnt) : List HEnt → List HEnt
  | [] => [e]
  | x :: r => if e.1 ++ "=" ≤ x.1 ++ "=" then e :: x :: r else x :: insertH e r

def sortH (l : List HEnt) : List HEnt := l.foldr insertH []

theorem insertEntry_map (e : HEnt) : ∀ l : List HEnt, insertEntry (entVal e) (l.map entVal) = (insertH e l).map entVal := by
  intro l; induction l with
  | nil => rfl
  | cons x r ih =>
    simp only [List.map_cons, insertEntry, insertH]
    by_cases h : e.1 ++ "=" ≤ x.1 ++ "="
    · have h' : (entVal e).1 ++ "=" ≤ (entVal x).1 ++ "=" := h
      simp [h, h']
    · have h' : ¬ ((entVal e).1 ++ "=" ≤ (entVal x).1 ++ "=") := h
      simp [h, h', ih]

theorem sortEntries_map : ∀ l : List HEnt, sortEntries (l.map entVal) = (sortH l).map entVal := by
  intro l; induction l with
  | nil => rfl
  | cons x r ih =>
    simp only [List.map_cons, sortEntries, sortH, List.foldr_cons] at ih ⊢
    rw [ih, insertEntry_map]

theorem insertH_perm (e : HEnt) : ∀ l : List HEnt, (insertH e l).Perm (e :: l) := by
  intro l; induction l with
  | nil => exact List.Perm.refl _
  | cons x r ih =>
    simp only [insertH]
    split
    · exact List.Perm.refl _
    · exact (List.Perm.cons x ih).trans (List.Perm.swap e x r)

theorem sortH_perm : ∀ l : List HEnt, (sortH l).Perm l := by
  intro l; induction l with
  | nil => exact List.Perm.refl _
  | cons x r ih =>
    simp only [sortH, List.foldr_cons] at ih ⊢
    exact (insertH_perm x _).trans (List.Perm.cons x ih)

theorem roundtrip_HostsList (es : List HEnt) (hok : ∀ e ∈ es, entOK e) (hnd : (es.map Prod.fst).Nodup) :
    (marshal_HostsList (.map (es.map entVal))).bind decode_HostsList = .ok (.map ((sortH es).map entVal)) := by
  simp only [marshal_HostsList, Out.bind, sortEntries_map]
  have hp := sortH_perm es
  apply decode_hostLines
  · intro e he; exact hok e (hp.mem_iff.mp he)
  · exact (hp.map Prod.fst).nodup_iff.mpr hnd

end CV.Marshal
