import ComposeVerif.Spec.Consistency
/-! The depth-first search with the path handed down (`graph/cycle.go: searchCycle`) over any successor function: from
`v` it answers `true` iff `v` reaches a cycle, as soon as the fuel covers the vertices not yet on the path.
`searchCycle` / `checkCycle` of `Model/Consistency.lean` and of `Model/DepGraph.lean` are instances. -/
namespace CV.Consistency

theorem Walk.snoc {α : Type} {E : α → α → Prop} {a b c : α} (w : Walk E a b) (e : E b c) : Walk E a c := by
  induction w with
  | single h => exact .cons h (.single e)
  | cons h _ ih => exact .cons h (ih e)

theorem Walk.mono {α : Type} {E E' : α → α → Prop} (h : ∀ a b, E a b → E' a b) {a b : α} (w : Walk E a b) : Walk E' a b := by
  induction w with
  | single e => exact .single (h _ _ e)
  | cons e _ ih => exact .cons (h _ _ e) ih

theorem Walk.snoc' {α : Type} {E : α → α → Prop} {a b c : α} (w : a = b ∨ Walk E a b) (e : E b c) : Walk E a c :=
  w.elim (fun h => h ▸ .single e) (·.snoc e)

theorem Walk.cons' {α : Type} {E : α → α → Prop} {a b c : α} (e : E a b) (w : b = c ∨ Walk E b c) : Walk E a c :=
  w.elim (fun h => h ▸ .single e) (.cons e)

/-- `u` reaches a vertex that lies on a cycle -/
def Bad {α : Type} (E : α → α → Prop) (u : α) : Prop := ∃ w, (u = w ∨ Walk E u w) ∧ Walk E w w

theorem Bad.step {α : Type} {E : α → α → Prop} {u : α} (h : Bad E u) : ∃ c, E u c ∧ Bad E c := by
  obtain ⟨w, hr, hw⟩ := h
  rcases hr with rfl | hr
  · cases hw with
    | single e => exact ⟨u, e, u, .inl rfl, .single e⟩
    | cons e rest => exact ⟨_, e, u, .inr rest, .cons e rest⟩
  · cases hr with
    | single e => exact ⟨w, e, w, .inl rfl, hw⟩
    | cons e rest => exact ⟨_, e, w, .inr rest, hw⟩

namespace Dfs
variable {α : Type} [BEq α]

def search (adj : α → List α) : Nat → List α → α → Bool
  | 0, _, _ => false
  | fuel + 1, path, v => (adj v).any fun c => path.contains c || search adj fuel (path ++ [c]) c

def E (adj : α → List α) (a b : α) : Prop := b ∈ adj a

variable [LawfulBEq α]

/-- a successful search is truthful: the path handed down is a walk that ends in `v`, so a child found on it
closes a cycle that `v` reaches -/
theorem search_bad (adj : α → List α) : ∀ (fuel : Nat) (path : List α) (v : α),
    (∀ u ∈ path, u = v ∨ Walk (E adj) u v) → search adj fuel path v = true → Bad (E adj) v
  | 0, _, _, _, h => by simp [search] at h
  | fuel + 1, path, v, inv, h => by
    rw [search, List.any_eq_true] at h
    obtain ⟨c, hE, h⟩ := h
    have hE : E adj v c := hE
    rcases Bool.or_eq_true .. |>.mp h with h | h
    · exact ⟨c, .inr (.single hE), Walk.snoc' (inv c (List.contains_iff_mem.mp h)) hE⟩
    · obtain ⟨w, hr, hw⟩ := search_bad adj fuel (path ++ [c]) c (fun u hu => by
        rcases List.mem_append.mp hu with hu | hu
        · exact .inr (Walk.snoc' (inv u hu) hE)
        · exact .inl (List.mem_singleton.mp hu)) h
      exact ⟨w, .inr (Walk.cons' hE hr), hw⟩

/-- pigeonhole: the path is duplicate free and inside the vertices, so while `verts.length < fuel + path.length` the
fuel cannot run out before a child is found on the path -/
theorem search_complete (adj : α → List α) (verts : List α) (hcl : ∀ v ∈ verts, ∀ c ∈ adj v, c ∈ verts) :
    ∀ (fuel : Nat) (path : List α) (v : α), Bad (E adj) v → v ∈ verts → path.Nodup → (∀ u ∈ path, u ∈ verts) →
      verts.length < fuel + path.length → search adj fuel path v = true
  | 0, path, _, _, _, hn, hs, hl => by
    have := hn.length_le_of_subset hs
    omega
  | fuel + 1, path, v, hb, hv, hn, hs, hl => by
    obtain ⟨c, hE, hbc⟩ := hb.step
    rw [search, List.any_eq_true]
    refine ⟨c, hE, ?_⟩
    rw [Bool.or_eq_true]
    by_cases hm : c ∈ path
    · exact .inl (List.contains_iff_mem.mpr hm)
    · right
      have hc := hcl v hv c hE
      refine search_complete adj verts hcl fuel (path ++ [c]) c hbc hc ?_ ?_ ?_
      · rw [List.nodup_append]
        exact ⟨hn, by simp, fun a ha b hb' hab => hm (List.mem_singleton.mp hb' ▸ hab ▸ ha)⟩
      · intro u hu
        rcases List.mem_append.mp hu with hu | hu
        · exact hs u hu
        · exact List.mem_singleton.mp hu ▸ hc
      · simp only [List.length_append, List.length_cons, List.length_nil]
        omega

theorem search_iff (adj : α → List α) (verts : List α) (hcl : ∀ v ∈ verts, ∀ c ∈ adj v, c ∈ verts) {v : α}
    (hv : v ∈ verts) {fuel : Nat} (hf : verts.length ≤ fuel) : search adj fuel [v] v = true ↔ Bad (E adj) v :=
  ⟨search_bad adj fuel [v] v (by simp), fun hb => search_complete adj verts hcl fuel [v] v hb hv (by simp) (by simpa using hv)
    (by rw [List.length_singleton]; omega)⟩

theorem any_search_iff (adj : α → List α) (verts : List α) (hcl : ∀ v ∈ verts, ∀ c ∈ adj v, c ∈ verts) {fuel : Nat}
    (hf : verts.length ≤ fuel) : (verts.any fun v => search adj fuel [v] v) = true ↔ ∃ w ∈ verts, Walk (E adj) w w := by
  rw [List.any_eq_true]
  constructor
  · rintro ⟨v, hv, h⟩
    obtain ⟨w, hr, hw⟩ := (search_iff adj verts hcl hv hf).mp h
    refine ⟨w, ?_, hw⟩
    rcases hr with rfl | hr
    · exact hv
    · clear hw h
      induction hr with
      | single e => exact hcl _ hv _ e
      | cons e _ ih => exact ih (hcl _ hv _ e)
  · rintro ⟨w, hk, hw⟩
    exact ⟨w, hk, (search_iff adj verts hcl hk hf).mpr ⟨w, .inl rfl, hw⟩⟩

end Dfs

def Graph.E (g : Graph) (a b : String) : Prop := b ∈ g.children a

def Graph.keys (g : Graph) : List String := g.map Prod.fst

def Graph.Closed (g : Graph) : Prop := ∀ v c, c ∈ g.children v → c ∈ g.keys

theorem search_succ (g : Graph) (fuel : Nat) (path : List String) (v : String) :
    search g (fuel + 1) path v = (g.children v).any fun c => path.contains c || search g fuel (path ++ [c]) c := rfl

theorem search_eq (g : Graph) : ∀ fuel path v, search g fuel path v = Dfs.search g.children fuel path v
  | 0, _, _ => rfl
  | fuel + 1, path, v => by simp only [search, Dfs.search, search_eq g fuel]

theorem Graph.mem_keys_of_E {g : Graph} {a b : String} (h : g.E a b) : a ∈ g.keys := by
  unfold Graph.E Graph.children at h
  cases hl : g.lookup a with
  | none => simp [hl] at h
  | some cs =>
    obtain ⟨l₁, l₂, rfl, -⟩ := List.lookup_eq_some_iff.mp hl
    simp [Graph.keys]

theorem search_iff (g : Graph) (hcl : g.Closed) {v : String} (hv : v ∈ g.keys) {fuel : Nat} (hf : g.length ≤ fuel) :
    search g fuel [v] v = true ↔ Bad g.E v := by
  rw [search_eq]
  exact Dfs.search_iff g.children g.keys (fun v _ => hcl v) hv (by simpa [Graph.keys] using hf)

theorem hasCycle_iff (g : Graph) (hcl : g.Closed) : hasCycle g = true ↔ ∃ w, Walk g.E w w := by
  have := Dfs.any_search_iff g.children g.keys (fun v _ => hcl v) (fuel := g.length) (by simp [Graph.keys])
  simp only [Graph.keys, List.any_map, Function.comp_def, ← search_eq] at this
  rw [hasCycle, this]
  exact ⟨fun ⟨w, _, hw⟩ => ⟨w, hw⟩, fun ⟨w, hw⟩ => ⟨w, by cases hw <;> exact Graph.mem_keys_of_E ‹_›, hw⟩⟩

end CV.Consistency
