import ComposeVerif.Lemmas.C01Dep
import ComposeVerif.Lemmas.Assoc
/-!
The `extends` recursion (`applyServiceExtends`): the universe of `(file, service)` references, the invariant `Inv` that keeps
every services map met on the way inside it, hence termination (the tracker is a duplicate-free list over the universe); a
chain of `extends` that can be followed forever is never accepted.
-/
namespace CV.C01.Ext

def names (s : Services) : List String := s.map Prod.fst

def svcFiles : Svc → List String
  | .ext (.map _ (.str f)) => [f]
  | _ => []

def files (s : Services) : List String := s.flatMap (fun p => svcFiles p.2)

def fsNames (fs : FS) : List String :=
  fs.flatMap (fun p => match p.2 with | .services s => names s | _ => [])

def fsFiles (fs : FS) : List String :=
  fs.flatMap (fun p => match p.2 with | .services s => files s | _ => [])

def allNames (fs : FS) (svcs0 : Services) : List String := names svcs0 ++ fsNames fs

def allFiles (fs : FS) (main : String) (svcs0 : Services) : List String := main :: (files svcs0 ++ fsFiles fs)

/-- every `(file, service)` reference the tracker can ever be handed -/
def refUniverse (fs : FS) (main : String) (svcs0 : Services) : List Ref :=
  (allFiles fs main svcs0).flatMap (fun f => (allNames fs svcs0).map (fun n => (⟨f, n⟩ : Ref)))

theorem mem_universe {fs : FS} {main : String} {svcs0 : Services} {f n : String}
    (hf : f ∈ allFiles fs main svcs0) (hn : n ∈ allNames fs svcs0) : (⟨f, n⟩ : Ref) ∈ refUniverse fs main svcs0 := by
  simp only [refUniverse, List.mem_flatMap, List.mem_map]
  exact ⟨f, hf, n, hn, rfl⟩

def Inv (fs : FS) (main : String) (svcs0 : Services) (s : Services) : Prop :=
  ∀ p ∈ s, p.1 ∈ allNames fs svcs0 ∧ ∀ f ∈ svcFiles p.2, f ∈ allFiles fs main svcs0

theorem lookup_eq {α : Type} (k : String) (s : List (String × α)) : lookup k s = Assoc.lookup k s := by
  induction s with
  | nil => rfl
  | cons e r ih => rw [lookup, ih]; rfl

theorem setKey_eq {α : Type} (k : String) (v : α) (s : List (String × α)) : setKey k v s = Assoc.insert k v s := by
  induction s with
  | nil => rfl
  | cons e r ih => rw [setKey, ih]; rfl

theorem lookup_mem {α : Type} : ∀ (s : List (String × α)) (k : String) (v : α), lookup k s = some v → (k, v) ∈ s :=
  fun s k _ h => Assoc.mem_of_lookup (lookup_eq k s ▸ h)

theorem mem_setKey {α : Type} {k : String} {v : α} : ∀ {s : List (String × α)}, ∀ p ∈ setKey k v s, p = (k, v) ∨ p ∈ s :=
  fun {s} _ h => Assoc.mem_insert (setKey_eq k v s ▸ h)

theorem Inv.setKey_plain {fs : FS} {main : String} {svcs0 s : Services} {k : String}
    (h : Inv fs main svcs0 s) (hk : k ∈ allNames fs svcs0) : Inv fs main svcs0 (setKey k .plain s) := fun p hp =>
  (mem_setKey p hp).elim (fun e => e ▸ ⟨hk, nofun⟩) (h p)

theorem mem_canon : ∀ {raw other : Services}, canonServices raw = .ok other →
    ∀ p ∈ other, ∃ q ∈ raw, q.1 = p.1 ∧ svcFiles q.2 = svcFiles p.2
  | [], other, h, p, hp => by cases h; cases hp
  | (n, s) :: r, other, h, p, hp => by
    have tail : ∀ {r'}, canonServices r = .ok r' → p ∈ r' → ∃ q ∈ (n, s) :: r, q.1 = p.1 ∧ svcFiles q.2 = svcFiles p.2 :=
      fun hr hp => let ⟨q, hq, e⟩ := mem_canon hr p hp; ⟨q, List.mem_cons_of_mem _ hq, e⟩
    unfold canonServices at h
    split at h
    · cases h
    · cases h
    · next hr =>
      cases h
      exact (List.mem_cons.mp hp).elim (fun e => ⟨_, List.mem_cons_self .., e ▸ ⟨rfl, rfl⟩⟩) (tail hr)
    · next hr =>
      cases h
      exact (List.mem_cons.mp hp).elim (fun e => ⟨_, List.mem_cons_self .., e ▸ ⟨rfl, rfl⟩⟩) (tail hr)

theorem parse_file {e : ExtVal} {ref f : String} (h : parse e = .ok (ref, some f)) : e = .map (.str ref) (.str f) := by
  unfold parse at h
  split at h <;> simp_all

/-- `locate` has no panic branch (`absExtendsPath` reports a non-string `extends.file` as an error): every branch that
returns `.error` is split open, and each carries an `.err` -/
theorem locate_error {fs : FS} {main : String} {svcs : Services} {e : ExtVal} {r : Res}
    (h : locate fs main svcs e = .error r) : ∃ c, r = .err c := by
  unfold locate at h
  repeat' split at h
  all_goals first | (cases h; exact ⟨_, rfl⟩) | cases h

theorem locate_ok {fs : FS} {main cur : String} {svcs0 svcs : Services} {name : String} {e : ExtVal}
    {ref file : String} {target : Option Services}
    (hinv : Inv fs main svcs0 svcs) (hcur : cur ∈ allFiles fs main svcs0) (hl : lookup name svcs = some (.ext e))
    (h : locate fs cur svcs e = .ok (ref, file, target)) :
    file ∈ allFiles fs main svcs0 ∧ Inv fs main svcs0 (target.getD svcs) := by
  unfold locate at h
  split at h
  · cases h
  · split at h
    · cases h
    · cases h
      exact ⟨hcur, hinv⟩
  · rename_i ref' f hp
    have he := parse_file hp
    subst he
    have hf : f ∈ allFiles fs main svcs0 := (hinv _ (lookup_mem svcs name _ hl)).2 f (List.mem_singleton.mpr rfl)
    split at h
    · cases h
    · cases h
    · cases h
    · rename_i raw hraw
      split at h
      · cases h
      · rename_i other hcan
        split at h
        · cases h
        · split at h
          · cases h
          · cases h
            refine ⟨hf, fun p hp => ?_⟩
            obtain ⟨q, hq, hn, hfl⟩ := mem_canon hcan p hp
            -- what the services of a file hold, the file system holds (`fsNames`, `fsFiles` with `g` = `names`, `files`)
            have hm : ∀ {x} {g : Services → List String}, x ∈ g raw →
                x ∈ fs.flatMap fun e => match e.2 with | .services s => g s | _ => [] :=
              fun hx => List.mem_flatMap.mpr ⟨_, lookup_mem fs _ _ hraw, hx⟩
            exact ⟨List.mem_append_right _ (hm (g := names) (hn ▸ List.mem_map_of_mem (f := Prod.fst) hq)),
              fun x hx => List.mem_cons_of_mem _ (List.mem_append_right _
                (hm (g := files) (List.mem_flatMap.mpr ⟨q, hq, hfl ▸ hx⟩)))⟩

/-- the recursion never runs out of fuel once the fuel exceeds the room left in the refUniverse,
and the services map it hands back stays inside the refUniverse -/
theorem resolve_ne_fuel (fs : FS) (main : String) (svcs0 : Services) :
    ∀ (fuel : Nat) (cur : String) (svcs : Services) (name : String) (tr : Tracker),
      cur ∈ allFiles fs main svcs0 →
      Inv fs main svcs0 svcs → tr.Nodup → (∀ r ∈ tr, r ∈ refUniverse fs main svcs0) →
      (refUniverse fs main svcs0).length - tr.length < fuel →
      (resolve fs cur fuel svcs name tr).1 ≠ .outOfFuel ∧ Inv fs main svcs0 (resolve fs cur fuel svcs name tr).2.2
  | 0, _, _, _, _, _, _, _, _, hf => by omega
  | fuel + 1, cur, svcs, name, tr, hcur, hinv, hn, hsub, hf => by
    unfold resolve
    split
    · exact ⟨by simp, hinv⟩
    · exact ⟨by simp, hinv⟩
    · exact ⟨by simp, hinv⟩
    · exact ⟨by simp, hinv⟩
    · rename_i e hl
      have hname : name ∈ allNames fs svcs0 := (hinv _ (lookup_mem svcs name _ hl)).1
      split
      · rename_i r hloc
        obtain ⟨c, rfl⟩ := locate_error hloc
        exact ⟨nofun, hinv⟩
      · rename_i ref file target hloc
        obtain ⟨hfile, hinv'⟩ := locate_ok hinv hcur hl hloc
        split
        · exact ⟨by simp, hinv⟩
        · rename_i tr' hadd
          obtain ⟨rfl, hnot⟩ := Tracker.add_some hadd
          obtain ⟨hn', hsub', hlt⟩ := trail_snoc hn hsub hnot (mem_universe hcur hname)
          have ih := resolve_ne_fuel fs main svcs0 fuel file (target.getD svcs) ref _ hfile hinv' hn' hsub' (by omega)
          generalize hres : resolve fs file fuel (target.getD svcs) ref (tr ++ [⟨cur, name⟩]) = res at ih
          obtain ⟨r1, b, s'⟩ := res
          simp only at ih
          have hinvr : Inv fs main svcs0 (if target.isSome = true then svcs else s') := by
            split
            · exact hinv
            · exact ih.2
          cases r1 with
          | ok =>
            cases b with
            | true => exact ⟨by simp, hinvr⟩
            | false => exact ⟨by simp, hinvr.setKey_plain hname⟩
          | err c => exact ⟨by simp, hinvr⟩
          | panic s => exact ⟨by simp, hinvr⟩
          | outOfFuel => exact absurd rfl ih.1

/-- `ApplyExtends` over any order of the services: enough fuel for one service is enough for all -/
theorem applyExtends_ne_fuel (fs : FS) (main : String) (svcs0 : Services) (fuel : Nat)
    (hf : (refUniverse fs main svcs0).length < fuel) :
    ∀ (order : List String) (svcs : Services), Inv fs main svcs0 svcs → applyExtends fs main fuel order svcs ≠ .outOfFuel
  | [], _, _ => by unfold applyExtends; intro h; cases h
  | n :: rest, svcs, hinv => by
    unfold applyExtends
    have h := resolve_ne_fuel fs main svcs0 fuel main svcs n [] (List.mem_cons_self ..) hinv List.nodup_nil (by intro r hr; cases hr) (by simpa using hf)
    generalize resolve fs main fuel svcs n [] = res at h
    obtain ⟨r1, b, s'⟩ := res
    simp only at h
    cases r1 with
    | ok => exact applyExtends_ne_fuel fs main svcs0 fuel hf rest s' h.2
    | err c => intro e; cases e
    | panic s => intro e; cases e
    | outOfFuel => exact absurd rfl h.1

theorem inv_self (fs : FS) (main : String) (svcs0 : Services) : Inv fs main svcs0 svcs0 := fun p hp =>
  ⟨List.mem_append_left _ (List.mem_map_of_mem (f := Prod.fst) hp),
   fun _ hf => List.mem_cons_of_mem _ (List.mem_append_left _ (List.mem_flatMap.mpr ⟨p, hp, hf⟩))⟩

/-! ### a chain of `extends` that never ends is never accepted -/

/-- one step of the chain: the service has an `extends` that can be located -/
def next (fs : FS) (main : String) (st : Services × String) : Option (Services × String) :=
  match lookup st.2 st.1 with
  | some (.ext e) =>
    match locate fs main st.1 e with
    | .ok (ref, _, target) => some (target.getD st.1, ref)
    | .error _ => none
  | _ => none

def iter (fs : FS) (main : String) : Nat → Services × String → Option (Services × String)
  | 0, st => some st
  | k + 1, st => (next fs main st).bind (iter fs main k)

/-- the chain starting at `st` can be followed forever (on finite files: it runs into a cycle) -/
def Forever (fs : FS) (main : String) (st : Services × String) : Prop :=
  ∀ k, (iter fs main k st).isSome

theorem Forever.step {fs : FS} {main : String} {st : Services × String} (h : Forever fs main st) :
    ∃ st', next fs main st = some st' ∧ Forever fs main st' := by
  have h1 := h 1
  simp only [iter] at h1
  cases hn : next fs main st with
  | none => simp [hn] at h1
  | some st' =>
    refine ⟨st', rfl, ?_⟩
    intro k
    have := h (k + 1)
    simpa [iter, hn] using this

/-- where a reference points does not depend on the current file's name (only the tracker key does) -/
theorem next_irrel (fs : FS) (m1 m2 : String) (st : Services × String) : next fs m1 st = next fs m2 st := by
  unfold next
  split
  · next e _ =>
    unfold locate
    cases parse e with
    | error c => rfl
    | ok v =>
      obtain ⟨ref, fo⟩ := v
      cases fo with
      | none => simp only; cases lookup ref st.1 <;> rfl
      | some f => rfl
  · rfl

/-- The chain is followed under a file name `m` of its own: by `next_irrel` it is the same chain under the `main` of every
level of `resolve`, which changes from level to level. -/
theorem resolve_forever (fs : FS) (m : String) : ∀ (fuel : Nat) (main : String) (svcs : Services) (name : String) (tr : Tracker),
    Forever fs m (svcs, name) →
    (resolve fs main fuel svcs name tr).1 = .outOfFuel ∨ (resolve fs main fuel svcs name tr).1 = .err "circular"
  | 0, _, _, _, _, _ => by unfold resolve; exact Or.inl rfl
  | fuel + 1, main, svcs, name, tr, h => by
    obtain ⟨st', hnext, hfor⟩ := h.step
    rw [next_irrel fs m main] at hnext
    unfold next at hnext
    simp only at hnext
    split at hnext
    · rename_i e hl
      split at hnext
      · rename_i ref file target hloc
        cases hnext
        unfold resolve
        rw [hl]
        simp only [hloc]
        split
        · exact Or.inr rfl
        · rename_i tr' _
          have ih := resolve_forever fs m fuel file (target.getD svcs) ref tr' hfor
          generalize resolve fs file fuel (target.getD svcs) ref tr' = res at ih
          obtain ⟨r1, b, s'⟩ := res
          simp only at ih
          rcases ih with ih | ih <;> subst ih <;> simp
      · cases hnext
    · cases hnext

/-! ### a chain that comes back to its start never ends -/

theorem iter_add (fs : FS) (main : String) : ∀ (a b : Nat) (st : Services × String),
    iter fs main (a + b) st = (iter fs main a st).bind (iter fs main b)
  | 0, b, st => by simp [iter]
  | a + 1, b, st => by
    rw [show a + 1 + b = (a + b) + 1 by omega]
    simp only [iter]
    cases hn : next fs main st with
    | none => simp
    | some st' => simp [iter_add fs main a b st']

theorem forever_of_period {fs : FS} {main : String} {st : Services × String} (k : Nat) (hk : 0 < k)
    (h : iter fs main k st = some st) : Forever fs main st := by
  have prefix_some : ∀ j, j ≤ k → (iter fs main j st).isSome := by
    intro j hj
    have e := iter_add fs main j (k - j) st
    rw [show j + (k - j) = k by omega, h] at e
    cases hi : iter fs main j st with
    | none => rw [hi] at e; simp at e
    | some _ => simp
  intro n
  induction n using Nat.strongRecOn with
  | _ n ih =>
    by_cases hlt : n < k
    · exact prefix_some n (Nat.le_of_lt hlt)
    · have e := iter_add fs main k (n - k) st
      rw [show k + (n - k) = n by omega, h] at e
      rw [e]
      simp only [Option.bind_some]
      exact ih (n - k) (by omega)

theorem forever_of_fixpoint {fs : FS} {main : String} {st : Services × String} (h : next fs main st = some st) :
    Forever fs main st :=
  forever_of_period 1 Nat.one_pos (by simp [iter, h])

end CV.C01.Ext
