import ComposeVerif.Lemmas.ExtendsKeys
import ComposeVerif.Lemmas.FuelLe
/-!
# A run of `applySvc`, and the loop of `ApplyExtends`

The model is read through `applySvc_spec` (what one call can do) and `applySvc_of_ext` / `applySvc_done` (what it does at a
given node) of `Lemmas/ExtendsStep.lean`; the specification through `Lemmas/ExtendsGraph.lean` and `Lemmas/ExtendsKeys.lean`.
What connects them is the memo invariant `Inv E orig cur` — every entry of the map being rewritten is still the original one
or its flattened form — carried down a link by `Inv.ext` / `Inv.ext_cur`.

* outcome ⇒ specification, by induction on the fuel: `applySvc_sound` (a result is the `Flat` form), `applySvc_panic_env` (the
  tracker is the termination measure: inside the `Budget` a panic comes from the environment, never from the fuel),
  `applySvc_circular_sound` (`circular` only below a cycle);
* specification ⇒ outcome, along the chain of the original mapping: `applySvc_complete` (distinct keys ⇒ accepted, inside
  the `Budget`), `applySvc_cyclic`, `applySvc_stuck` (the class of the first link that cannot be followed);
* `applySvc_fuel_mono`: the fuel does not matter once it suffices;
* the loop `applyAll`: a failure is the failure of the first service that fails, after a prefix that ran through
  (`applyAll_not_ok`); the other loop lemmas each carry their invariant through their own induction over the visit order;
* `applyExtendsOrd`: the loop under the `services` entry (`applyExtendsOrd_eq`, `_panic`, `_flat`).
-/
namespace CV.Extends
open CV CV.Val

variable {E : Env} {S S' S0 orig cur svcs svc : KVs} {n n' ref cf : String} {file : Option String} {v v' : Val}
  {tr : List Key} {ks : List Key}

def FlatAt (E : Env) (orig cur : KVs) (n : String) : Prop :=
  ∃ v, lookup n cur = some v ∧ Flat E orig n v

/-- the memoisation invariant: every entry is still the original one, or its flattened form -/
def Inv (E : Env) (orig cur : KVs) : Prop :=
  ∀ n, lookup n cur = lookup n orig ∨ FlatAt E orig cur n

theorem Inv.refl (E : Env) (S : KVs) : Inv E S S := fun _ => Or.inl rfl

theorem Inv.noNull (hi : Inv E orig cur) (hn : NoNull orig) : NoNull cur := by
  intro n hc
  rcases hi n with h | ⟨v, h1, h2⟩
  · exact hn n (h ▸ hc)
  · rw [hc] at h1
    obtain ⟨m, hm, _⟩ := h2.shape
    injection h1 with h1
    rw [← h1] at hm; cases hm

theorem Inv.key_iff (hi : Inv E orig cur) (n : String) :
    lookup n cur ≠ none ↔ lookup n orig ≠ none := by
  rcases hi n with h | ⟨v, h1, h2⟩
  · rw [h]
  · obtain ⟨svc, hs⟩ := h2.has_key
    simp [h1, hs]

theorem Inv.orig_of_extends (hi : Inv E orig cur) {e : Val}
    (h1 : lookup n cur = some (.map svc)) (h2 : lookup "extends" svc = some e) :
    lookup n orig = some (.map svc) := by
  rcases hi n with h | ⟨v, g1, g2⟩
  · rw [← h]; exact h1
  · rw [h1] at g1
    injection g1 with g1
    obtain ⟨m, hm, hne⟩ := g2.shape
    rw [← g1] at hm
    injection hm with hm
    rw [hm] at h2; rw [hne] at h2; cases h2

theorem Inv.flat_of_noext (hi : Inv E orig cur)
    (h1 : lookup n cur = some (.map svc)) (h2 : lookup "extends" svc = none) :
    Flat E orig n (.map svc) := by
  rcases hi n with h | ⟨v, g1, g2⟩
  · exact Flat.leaf (h ▸ h1) h2
  · rw [h1] at g1; injection g1 with g1; rw [g1]; exact g2

theorem Inv.insert {E : Env} {orig cur : KVs} (hi : Inv E orig cur) {n : String} {v : Val}
    (hv : Flat E orig n v) : Inv E orig (Val.insert n v cur) := by
  intro n'
  by_cases h : n' = n
  · subst h; exact Or.inr ⟨v, lookup_insert_self _ _ _, hv⟩
  · rcases hi n' with g | ⟨w, g1, g2⟩
    · exact Or.inl (by rw [lookup_insert_ne _ _ h]; exact g)
    · exact Or.inr ⟨w, by rw [lookup_insert_ne _ _ h]; exact g1, g2⟩

theorem FlatAt.insert {E : Env} {orig cur : KVs} {n n' : String} {v : Val}
    (hv : Flat E orig n v) (h : FlatAt E orig cur n') : FlatAt E orig (Val.insert n v cur) n' := by
  by_cases hn : n' = n
  · subst hn; exact ⟨v, lookup_insert_self _ _ _, hv⟩
  · obtain ⟨w, g1, g2⟩ := h
    exact ⟨w, by rw [lookup_insert_ne _ _ hn]; exact g1, g2⟩

theorem Inv.ext (hi : Inv E orig cur)
    (h : Ext E cur n svc ref file svcs) : ∃ S', Ext E orig n svc ref file S' ∧ Inv E S' svcs := by
  obtain ⟨h1, ⟨e, h2, h3⟩, h4⟩ := h
  have horig := hi.orig_of_extends h1 h2
  cases file with
  | none =>
    obtain ⟨rfl, href⟩ := baseMap_none.mp h4
    exact ⟨orig, ⟨horig, ⟨e, h2, h3⟩, baseMap_none.mpr ⟨rfl, (hi.key_iff ref).mp href⟩⟩, hi⟩
  | some f => exact ⟨svcs, ⟨horig, ⟨e, h2, h3⟩, h4⟩, Inv.refl E svcs⟩

theorem Inv.ext_cur (hi : Inv E orig cur)
    (hn : lookup n cur = lookup n orig) (h : Ext E orig n svc ref file S') :
    ∃ svcs, Ext E cur n svc ref file svcs ∧ Inv E S' svcs := by
  obtain ⟨h1, hx, h4⟩ := h
  cases file with
  | none =>
    obtain ⟨rfl, href⟩ := baseMap_none.mp h4
    exact ⟨cur, ⟨hn ▸ h1, hx, baseMap_none.mpr ⟨rfl, (hi.key_iff ref).mpr href⟩⟩, hi⟩
  | some f => exact ⟨S', ⟨hn ▸ h1, hx, h4⟩, Inv.refl E S'⟩

/-- a memoised entry flattens: the entry of a service that does not is still the original one -/
theorem Inv.unmemoised (hi : Inv E orig cur) (h : ∀ v, ¬ Flat E orig n v) : lookup n cur = lookup n orig :=
  (hi n).resolve_right fun ⟨v, _, g⟩ => h v g

theorem Inv.keysSub (hi : Inv E S cur) : KeysSub E S cur :=
  fun k hk => KeysSub.self E S k ((hi.key_iff k).mp hk)

/-- the third conjunct (memoised entries stay memoised) is what lets the loop conclude that every service visited
earlier still holds its flattened form at the end (`applyAll_sound`) -/
theorem applySvc_sound (E : Env) (hfs : NoNullFS E) :
    ∀ (fuel : Nat) (cf n : String) (cur : KVs) (tr : List Key) (orig : KVs) (v : Val) (cur' : KVs),
      NoNull orig → Inv E orig cur → applySvc E fuel cf n cur tr = .ok (v, cur') →
      (lookup n cur ≠ none → Flat E orig n v) ∧ Inv E orig cur' ∧
      (∀ n', FlatAt E orig cur n' → FlatAt E orig cur' n') := by
  intro fuel
  induction fuel with
  | zero => intro cf n cur tr orig v cur' _ _ h; cases h
  | succ fuel ih =>
    intro cf n cur tr orig v cur' hnn hi h
    cases applySvc_spec h with
    | absent hl =>
      rcases hl with hl | hl
      · exact ⟨fun c => absurd hl c, hi, fun _ x => x⟩
      · exact absurd hl (hi.noNull hnn n)
    | noext h1 h2 => exact ⟨fun _ => hi.flat_of_noext h1 h2, hi, fun _ x => x⟩
    | @call svc ref file svcs _ hx _ hfin =>
      obtain ⟨base, svcs', hrec, hfin⟩ := finish_ok hfin
      obtain ⟨S', hxo, hi'⟩ := hi.ext hx
      obtain ⟨r1, r2, r3⟩ := ih _ ref svcs _ S' base svcs' (hxo.noNull hnn hfs) hi' hrec
      have hfb := r1 hx.ref_mem
      rcases hfin with ⟨rfl, _, _⟩ | ⟨b, m, rfl, hext, rfl, rfl⟩
      · obtain ⟨_, hm, _⟩ := hfb.shape; cases hm
      · have hflat := Flat.step' hxo hfb hext
        refine ⟨fun _ => hflat, ?_⟩
        cases file with
        | none =>
          -- same-file step: the recursion ran in the memoised map itself, and the result is memoised there
          obtain ⟨rfl, _⟩ := baseMap_none.mp hxo.2.2
          obtain ⟨rfl, _⟩ := baseMap_none.mp hx.2.2
          exact ⟨r2.insert hflat, fun n' x => FlatAt.insert hflat (r3 n' x)⟩
        | some f => exact ⟨hi, fun _ x => x⟩

/-- a loop that does not come back with a result ran through a prefix and failed at the next service, with that service's
outcome -/
theorem applyAll_not_ok {fuel : Nat} {r : Out KVs} {names : List String} {S : KVs} (h : applyAll E fuel names S = r)
    (hr : ∀ R, r ≠ .ok R) :
    ∃ pre n post cur, names = pre ++ n :: post ∧ applyAll E fuel pre S = .ok cur ∧
      ((∃ c, r = .err c ∧ applySvc E fuel E.mainFile n cur [] = .err c) ∨
       (∃ s, r = .panic s ∧ applySvc E fuel E.mainFile n cur [] = .panic s)) := by
  induction names generalizing S with
  | nil => exact absurd h.symm (hr S)
  | cons n ns ih =>
    simp only [applyAll] at h
    split at h
    · rename_i v S' hs
      obtain ⟨pre, m, post, cur, e, hp, ho⟩ := ih h
      exact ⟨n :: pre, m, post, cur, by rw [e]; rfl, by simp only [applyAll, hs, hp], ho⟩
    · exact ⟨[], n, ns, S, rfl, rfl, .inl ⟨_, h.symm, ‹_›⟩⟩
    · exact ⟨[], n, ns, S, rfl, rfl, .inr ⟨_, h.symm, ‹_›⟩⟩

theorem applyAll_sound (E : Env) (hfs : NoNullFS E) (fuel : Nat) :
    ∀ (names : List String) (cur orig R : KVs),
      NoNull orig → Inv E orig cur → (∀ n ∈ names, lookup n orig ≠ none) →
      applyAll E fuel names cur = .ok R →
      Inv E orig R ∧ (∀ n', FlatAt E orig cur n' → FlatAt E orig R n') ∧
      (∀ n ∈ names, FlatAt E orig R n) := by
  intro names
  induction names with
  | nil =>
    intro cur orig R _ hi _ h
    simp only [applyAll, Out.ok.injEq] at h
    subst h
    exact ⟨hi, fun _ x => x, fun _ hn => by cases hn⟩
  | cons n ns ih =>
    intro cur orig R hnn hi hk h
    simp only [applyAll] at h
    split at h <;> try cases h
    rename_i v S' hs
    have hkn : lookup n orig ≠ none := hk n (List.mem_cons_self ..)
    obtain ⟨r1, r2, r3⟩ := applySvc_sound E hfs fuel E.mainFile n cur [] orig v S' hnn hi hs
    have hflat := r1 ((hi.key_iff n).mpr hkn)
    obtain ⟨q1, q2, q3⟩ := ih (Val.insert n v S') orig R hnn (r2.insert hflat)
      (fun m hm => hk m (List.mem_cons_of_mem _ hm)) h
    refine ⟨q1, fun n' x => q2 n' (FlatAt.insert hflat (r3 n' x)), ?_⟩
    intro m hm
    rcases List.mem_cons.mp hm with rfl | hm'
    · exact q2 _ ⟨v, lookup_insert_self _ _ _, hflat⟩
    · exact q3 m hm'

theorem applySvc_keysSub (E : Env) (S0 : KVs) : ∀ (fuel : Nat) {cf n : String} {cur : KVs} {tr : List Key} {v : Val}
    {cur' : KVs}, cf ∈ allFiles E → KeysSub E S0 cur → applySvc E fuel cf n cur tr = .ok (v, cur') →
    KeysSub E S0 cur' := by
  intro fuel
  induction fuel with
  | zero => intro _ _ _ _ _ _ _ _ h; cases h
  | succ fuel ih =>
    intro cf n cur tr v cur' hcf hk h
    cases applySvc_spec h with
    | absent => exact hk
    | noext => exact hk
    | call hx _ hfin =>
      obtain ⟨base, svcs', hr, hfin⟩ := finish_ok hfin
      obtain ⟨_, hks, hnf⟩ := hx.key hcf hk
      have hks' := ih hnf hks hr
      rcases hfin with ⟨_, _, rfl⟩ | ⟨b, m, _, _, _, rfl⟩ <;> split
      · exact hks'
      · exact hk
      · exact hks'.insert (hk n (by rw [hx.1]; nofun)) _
      · exact hk

/-- a panic of the environment: of the merge step, or of loading a file -/
def EnvPanic (E : Env) (s : String) : Prop := (∃ b svc, E.extend b svc = .panic s) ∨ ∃ f, fsPanics E.fs f s

/-- The tracker is the termination measure: it holds distinct keys of the finite universe and every recursive call adds
one, so inside the `Budget` the fuel never reaches `0`, the one source of the marker; every other panic is passed on from
the merge step or from loading a file. -/
theorem applySvc_panic_env (E : Env) (S0 : KVs) :
    ∀ (fuel : Nat) (cf n : String) (cur : KVs) (tr : List Key) (s : String),
      cf ∈ allFiles E → KeysSub E S0 cur → Budget E S0 fuel tr → applySvc E fuel cf n cur tr = .panic s → EnvPanic E s := by
  intro fuel
  induction fuel with
  | zero => intro cf n cur tr s _ _ hb; exact hb.not_zero.elim
  | succ fuel ih =>
    intro cf n cur tr s hcf hk hb hp
    cases applySvc_spec hp with
    | panic hf => exact .inr hf
    | call hx hnotin hfin =>
      rcases finish_panic (fun _ _ => applySvc_ok_shape) hfin with hr | ⟨b, hb'⟩
      · obtain ⟨hkey, hks, hnf⟩ := hx.key hcf hk
        exact ih _ _ _ (tr ++ [(cf, n)]) _ hnf hks (hb.push hnotin hkey) hr
      · exact .inl ⟨b, _, hb'⟩

theorem applyAll_panic_env (E : Env) (S0 : KVs) :
    ∀ (names : List String) (cur : KVs) (s : String), KeysSub E S0 cur → (∀ n ∈ names, n ∈ allNames E S0) →
      applyAll E (fuelFor E S0) names cur = .panic s → EnvPanic E s := by
  intro names
  induction names with
  | nil => intro cur s _ _; nofun
  | cons n ns ih =>
    intro cur s hk hn
    simp only [applyAll]
    split
    · exact ih _ s ((applySvc_keysSub E S0 _ (List.mem_cons_self ..) hk ‹_›).insert (hn n (List.mem_cons_self ..)) _)
        (fun m hm => hn m (List.mem_cons_of_mem _ hm))
    · nofun
    · rename_i s' hs
      intro h
      cases h
      exact applySvc_panic_env E S0 _ _ n cur [] s (List.mem_cons_self ..) hk (.nil (Nat.le_refl _)) hs

theorem FuelFree.not_envPanic (hE : FuelFree E) : ¬ EnvPanic E fuelMark :=
  fun h => h.elim (fun ⟨b, svc, h⟩ => hE.1 b svc h) fun ⟨f, h⟩ => hE.2 f _ h rfl

theorem applySvc_main_no_fuel (hE : FuelFree E) (hk : KeysSub E S0 cur) (n : String) :
    applySvc E (fuelFor E S0) E.mainFile n cur [] ≠ .panic fuelMark :=
  fun h => hE.not_envPanic (applySvc_panic_env E S0 _ _ n cur [] _ (List.mem_cons_self ..) hk (.nil (Nat.le_refl _)) h)

theorem applyAll_no_fuel (E : Env) (hE : FuelFree E) (S0 : KVs)
    (names : List String) (cur : KVs) (hk : KeysSub E S0 cur) (hn : ∀ n ∈ names, n ∈ allNames E S0) :
      applyAll E (fuelFor E S0) names cur ≠ .panic fuelMark :=
  fun h => hE.not_envPanic (applyAll_panic_env E S0 names cur _ hk hn h)

/-! ### Fuel is irrelevant once it suffices

Whenever a run does not end in the out-of-fuel marker, every run with more fuel gives the same outcome — by induction on the
fuel: the step taken does not depend on the fuel.  Together with `applySvc_main_no_fuel` (the tracker cuts every chain before
`fuelFor` runs out) this removes the fuel from the statements: `Props/C05Fuel.lean`. -/

theorem applySvc_succ_le (E : Env) : ∀ (fuel : Nat) (cf n : String) (cur : KVs) (tr : List Key),
    Fuel.Le (· = .panic fuelMark) (applySvc E fuel cf n cur tr) (applySvc E (fuel + 1) cf n cur tr)
  | 0, _, _, _, _ => .of_bad rfl
  | k + 1, cf, n, cur, tr => by
    rw [applySvc_succ, applySvc_succ]
    -- the step does not look at the fuel; `finish` passes the marker of the recursive call on
    cases step E cf n cur tr with
    | done r => exact .refl
    | call svc ref file svcs =>
      intro h
      simp only at h ⊢
      rw [applySvc_succ_le E k _ _ _ _ fun hp => h (by rw [hp]; rfl)]

theorem applySvc_fuel_mono (E : Env) {fuel fuel' : Nat} (hle : fuel ≤ fuel') (cf n : String) (cur : KVs) (tr : List Key) :
    Fuel.Le (· = .panic fuelMark) (applySvc E fuel cf n cur tr) (applySvc E fuel' cf n cur tr) :=
  .of_succ (run := fun f => applySvc E f cf n cur tr) (fun f => applySvc_succ_le E f cf n cur tr) hle

theorem applyAll_fuel_mono (E : Env) {fuel fuel' : Nat} (hle : fuel ≤ fuel') :
    ∀ (names : List String) (cur : KVs), Fuel.Le (· = .panic fuelMark) (applyAll E fuel names cur) (applyAll E fuel' names cur)
  | [], _ => .refl
  | n :: ns, cur => by
    unfold applyAll
    by_cases hb : applySvc E fuel E.mainFile n cur [] = .panic fuelMark
    · exact .of_bad (by rw [hb])
    · rw [applySvc_fuel_mono E hle _ _ _ _ hb]
      cases applySvc E fuel E.mainFile n cur [] with
      | ok r => exact applyAll_fuel_mono E hle ns _
      | _ => exact .refl

theorem applySvc_complete (E : Env) (S0 : KVs) :
    ∀ {cf : String} {S : KVs} {n : String} {ks : List Key} {v : Val}, FlatK E cf S n ks v →
    ∀ (fuel : Nat) (cur : KVs) (tr : List Key), Inv E S cur → (tr ++ ks).Nodup →
      cf ∈ allFiles E → KeysSub E S0 S → Budget E S0 fuel tr →
      ∃ cur', applySvc E fuel cf n cur tr = .ok (v, cur') ∧ Inv E S cur' := by
  intro cf S n ks v h
  induction h with
  | leaf h1 h2 =>
    rename_i cf S n svc
    intro fuel cur tr hi _ _ _ hb
    cases fuel with
    | zero => exact hb.not_zero.elim
    | succ fuel' =>
      rcases hi n with g | ⟨w, g1, g2⟩
      · exact ⟨cur, applySvc_noext (g ▸ h1) h2, hi⟩
      · cases g2.functional (Flat.leaf h1 h2)
        exact ⟨cur, applySvc_noext g1 h2, hi⟩
  | step h1 h2 h3 h4 h5 h6 ih =>
    rename_i cf S n svc e ref file S' b m ks
    intro fuel cur tr hi hnd hcf hks hb
    cases fuel with
    | zero => exact hb.not_zero.elim
    | succ fuel' =>
      have hx : Ext E S n svc ref file S' := ⟨h1, ⟨e, h2, h3⟩, h4⟩
      have hflat := FlatK.ext_flat hx h5 h6
      rcases hi n with g | ⟨w, g1, g2⟩
      · -- the entry is still the original one: follow the link
        obtain ⟨svcs, hxc, hi'⟩ := hi.ext_cur g hx
        have hkey : (cf, n) ∉ tr := fun hm =>
          (List.nodup_append.mp hnd).2.2 _ hm _ (List.mem_cons_self ..) rfl
        obtain ⟨hu, hks', hnf⟩ := hx.key hcf hks
        obtain ⟨cur₁, hrec, hi₁⟩ := ih fuel' svcs (tr ++ [(cf, n)]) hi' (by rw [List.append_assoc]; exact hnd)
          hnf hks' (hb.push hkey hu)
        rw [applySvc_of_ext hxc hkey, hrec]
        simp only [finish, h6]
        refine ⟨_, rfl, ?_⟩
        cases file with
        | none => obtain ⟨rfl, _⟩ := baseMap_none.mp h4; exact hi₁.insert hflat
        | some f => exact hi
      · -- the entry is already memoised
        cases g2.functional hflat
        exact ⟨cur, applySvc_noext g1 (lookup_erase_self _ _), hi⟩

theorem applyAll_complete (E : Env) (S : KVs) :
    ∀ (names : List String) (cur : KVs), Inv E S cur →
      (∀ n ∈ names, ∃ ks v, FlatK E E.mainFile S n ks v ∧ ks.Nodup) →
      ∃ R, applyAll E (fuelFor E S) names cur = .ok R ∧ Inv E S R := by
  intro names
  induction names with
  | nil => intro cur hi _; exact ⟨cur, rfl, hi⟩
  | cons n ns ih =>
    intro cur hi hall
    obtain ⟨ks, v, hk, hnd⟩ := hall n (List.mem_cons_self ..)
    obtain ⟨cur', hrun, hi'⟩ := applySvc_complete E S hk (fuelFor E S) cur [] hi (by simpa using hnd)
      (List.mem_cons_self ..) (KeysSub.self E S) (.nil (Nat.le_refl _))
    obtain ⟨R, hR, hiR⟩ := ih (Val.insert n v cur') (hi'.insert hk.flat)
      (fun m hm => hall m (List.mem_cons_of_mem _ hm))
    exact ⟨R, by simp [applyAll, hrun, hR], hiR⟩

/-! ### The cycle tracker: soundness and completeness of the error class `circular`

* soundness: `applySvc … = .err "circular"` only if the chain of the service really runs into a cycle — every key the
  tracker holds names a node of the chain that *reaches* the node being resolved (`TrOK`), so a repeated key is a repeated node;
* completeness: on a node whose chain runs into a cycle `applySvc` reports `circular` (or, without enough fuel, the
  out-of-fuel marker) — nothing else can happen first, because along such a chain every base exists and no merge is
  attempted before the recursion returns. -/

theorem applySvc_circular_sound (E : Env) (hE : NoCircularEnv E)
    (hmain : fileServices E.fs E.mainFile = none) (S0 : KVs) :
    ∀ (fuel : Nat) (cf n : String) (cur : KVs) (tr : List Key) (orig : KVs),
      Inv E orig cur → Loc E S0 cf orig → TrOK E S0 tr (orig, n) →
      applySvc E fuel cf n cur tr = .err "circular" → Cyclic E (orig, n) := by
  intro fuel
  induction fuel with
  | zero => intro cf n cur tr orig _ _ _ h; cases h
  | succ fuel ih =>
    intro cf n cur tr orig hi hloc htr h
    cases applySvc_spec h with
    | err hc => obtain ⟨f, hf⟩ := hc rfl; exact absurd hf (hE.2 f)
    | cut hx hmem =>
      -- the key is already in the tracker: the node it names is this node
      obtain ⟨S'', hl'', hr''⟩ := htr _ hmem
      cases Loc.unique hmain hl'' hloc
      exact .inl hr''
    | @call svc ref file svcs _ hx _ hfin =>
      obtain ⟨S', hxo, hi'⟩ := hi.ext hx
      rcases finish_err hfin with hrec | ⟨b, hb⟩
      · exact .of_link hxo.link (ih (nextFile cf file) ref svcs _ S' hi' (hloc.next hxo.2.2)
          (TrOK.push (a := (orig, n)) htr hloc hxo.link) hrec)
      · exact absurd hb (hE.1 b svc)

theorem applyAll_circular_sound (E : Env) (hE : NoCircularEnv E) (hfs : NoNullFS E)
    (hmain : fileServices E.fs E.mainFile = none) (fuel : Nat) (names : List String) (orig : KVs) (hnn : NoNull orig)
    (hk : ∀ n ∈ names, lookup n orig ≠ none) (h : applyAll E fuel names orig = .err "circular") :
    ∃ n ∈ names, Cyclic E (orig, n) := by
  -- the prefix that ran through kept the memo invariant; the service that failed did so below a cycle
  obtain ⟨pre, n, post, cur, rfl, hp, ⟨c, hc, hs⟩ | ⟨s, hc, _⟩⟩ := applyAll_not_ok h nofun <;> cases hc
  obtain ⟨hi, _⟩ := applyAll_sound E hfs fuel pre orig orig cur hnn (Inv.refl E orig)
    (fun m hm => hk m (List.mem_append_left _ hm)) hp
  exact ⟨n, by simp, applySvc_circular_sound E hE hmain orig fuel E.mainFile n cur [] orig hi
    (Or.inl ⟨rfl, rfl⟩) (TrOK.nil E orig (orig, n)) hs⟩

theorem applySvc_cyclic (E : Env) :
    ∀ (fuel : Nat) (cf n : String) (cur : KVs) (tr : List Key) (orig : KVs),
      Inv E orig cur → Cyclic E (orig, n) →
      applySvc E fuel cf n cur tr = .err "circular" ∨ applySvc E fuel cf n cur tr = .panic fuelMark := by
  intro fuel
  induction fuel with
  | zero => intro cf n cur tr orig _ _; exact Or.inr rfl
  | succ fuel ih =>
    intro cf n cur tr orig hi hc
    obtain ⟨⟨S', ref⟩, l, hcb⟩ := hc.link
    obtain ⟨svc, file, hx⟩ := l.ext
    have hn := hi.unmemoised fun _ g => g.not_cyclic hc
    obtain ⟨svcs, hxc, hi'⟩ := hi.ext_cur hn hx
    by_cases hk : (cf, n) ∈ tr
    · exact Or.inl (applySvc_of_ext_mem hxc hk fuel)
    · rw [applySvc_of_ext hxc hk]
      rcases ih (nextFile cf file) ref svcs _ S' hi' hcb with hrec | hrec <;> rw [hrec]
      · exact Or.inl rfl
      · exact Or.inr rfl

theorem applyAll_cyclic (E : Env) (hE : FuelFree E) (hmain : fileServices E.fs E.mainFile = none) (S : KVs) :
    ∀ (names : List String) (cur : KVs), Inv E S cur →
      (∀ n ∈ names, (∃ v, Flat E S n v) ∨ Cyclic E (S, n)) →
      (∃ n ∈ names, Cyclic E (S, n)) →
      applyAll E (fuelFor E S) names cur = .err "circular" := by
  intro names
  induction names with
  | nil => intro cur _ _ ⟨n, hn, _⟩; cases hn
  | cons n ns ih =>
    intro cur hi hall hex
    rcases hall n (List.mem_cons_self ..) with ⟨v, hv⟩ | hc
    · -- this one flattens: it is accepted and memoised, the cyclic one comes later
      obtain ⟨ks, hk⟩ := hv.toK E.mainFile
      obtain ⟨cur', hrun, hi'⟩ := applySvc_complete E S hk (fuelFor E S) cur [] hi
        (by simpa using hk.nodup (S0 := S) hmain (Or.inl ⟨rfl, rfl⟩))
        (List.mem_cons_self ..) (KeysSub.self E S) (.nil (Nat.le_refl _))
      have hex' : ∃ m ∈ ns, Cyclic E (S, m) := by
        obtain ⟨m, hm, hcm⟩ := hex
        rcases List.mem_cons.mp hm with rfl | hm'
        · exact absurd hcm hv.not_cyclic
        · exact ⟨m, hm', hcm⟩
      simp only [applyAll, hrun]
      exact ih _ (hi'.insert hv) (fun m hm => hall m (List.mem_cons_of_mem _ hm)) hex'
    · rcases applySvc_cyclic E (fuelFor E S) E.mainFile n cur [] S hi hc with h | h
      · simp only [applyAll, h]
      · exact absurd h (applySvc_main_no_fuel hE hi.keysSub n)

/-- locating the base fails in the memoised map exactly as in the original one (the key and the file name passed along
do not matter) -/
theorem resolveBase_err_congr (hi : Inv E orig cur) {cf' : String}
     {c : String}
    (h : resolveBase E cf' n' ref file orig = .err c) : resolveBase E cf n ref file cur = .err c := by
  cases file with
  | none =>
    simp only [resolveBase] at h ⊢
    split at h <;> try cases h
    rename_i hl
    have : lookup ref cur = none := Classical.byContradiction fun hc => (hi.key_iff ref).mp hc hl
    simp only [this]
  | some f =>
    simp only [resolveBase] at h ⊢
    cases hb : baseFromFile E.fs f ref <;> rw [hb] at h <;> cases h
    rfl

/-- `circular` and the marker are excluded at top level (`applySvc_circular_sound`, `applySvc_main_no_fuel`).  The induction is on
the fuel `f` of `stuckClass`, i.e. along the links of the original mapping up to the one that cannot be followed; the
fuel of `applySvc` only has to be taken apart beside it -/
theorem applySvc_stuck (E : Env) {c : String} :
    ∀ (f fuel : Nat) (cf n : String) (cur : KVs) (tr : List Key) (orig : KVs),
      Inv E orig cur → stuckClass E f orig n = some c →
      applySvc E fuel cf n cur tr = .err c ∨ applySvc E fuel cf n cur tr = .err "circular" ∨
        applySvc E fuel cf n cur tr = .panic fuelMark := by
  intro f
  induction f with
  | zero => intro fuel cf n cur tr orig _ h; cases h
  | succ f ih =>
    intro fuel cf n cur tr orig hi h
    cases fuel with
    | zero => exact Or.inr (Or.inr rfl)
    | succ fuel =>
      have hnm := hi.unmemoised fun _ g => by rw [g.stuckClass_none] at h; cases h
      simp only [stuckClass] at h
      split at h
      · rename_i svc hsvc
        have hcur := hnm.trans hsvc
        split at h
        · cases h
        · rename_i e he
          split at h
          · rename_i c' hp
            cases h
            exact Or.inl (applySvc_done (by simp only [step, hcur, he, hp]) fuel)
          · cases h
          · rename_i ref file hp
            split at h
            · rename_i c' hr
              cases h
              exact Or.inl (applySvc_done (by simp only [step, hcur, he, hp, resolveBase_err_congr hi hr]) fuel)
            · cases h
            · rename_i S' k sm hr
              obtain ⟨svcs, hxc, hi'⟩ := hi.ext_cur hnm ⟨hsvc, ⟨e, he, hp⟩, (resolveBase_ok hr).1⟩
              by_cases hk : (cf, n) ∈ tr
              · exact Or.inr (Or.inl (applySvc_of_ext_mem hxc hk fuel))
              · rw [applySvc_of_ext hxc hk]
                rcases ih fuel (nextFile cf file) ref svcs _ S' hi' h with hrec | hrec | hrec <;> rw [hrec]
                · exact Or.inl rfl
                · exact Or.inr (Or.inl rfl)
                · exact Or.inr (Or.inr rfl)
      · cases h
      · cases h
      · rename_i x hmap hnull hx
        cases h
        refine Or.inl (applySvc_done ?_ fuel)
        cases x with
        | null => exact absurd rfl hnull
        | map m => exact absurd rfl (hmap m)
        | _ => simp only [step, hnm.trans hx]

theorem applyExtendsOrd_eq {E : Env} {order : List String} {dict S : KVs}
    (hS : lookup "services" dict = some (.map S)) :
    applyExtendsOrd E order dict =
      match applyAll E (fuelFor E S) order S with
      | .ok S' => .ok (Val.insert "services" (.map S') dict)
      | .err c => .err c
      | .panic s => .panic s := by
  simp only [applyExtendsOrd, hS]
  cases applyAll E (fuelFor E S) order S <;> rfl

theorem applyExtendsOrd_panic {E : Env} {order : List String} {dict : KVs} {s : String}
    (h : applyExtendsOrd E order dict = .panic s) :
    ∃ S, lookup "services" dict = some (.map S) ∧ applyAll E (fuelFor E S) order S = .panic s := by
  unfold applyExtendsOrd at h
  split at h <;> try cases h
  rename_i S hS
  split at h <;> cases h
  exact ⟨S, hS, ‹_›⟩

/-- the services of an accepted document: the original names, each with its flattened form -/
def FlatServices (E : Env) (S R : KVs) : Prop :=
  ∀ n, (lookup n S = none → lookup n R = none) ∧ (lookup n S ≠ none → ∃ v, lookup n R = some v ∧ Flat E S n v)

theorem applyExtendsOrd_flat {E : Env} {order : List String} {dict out S : KVs}
    (hS : lookup "services" dict = some (.map S)) (hnn : NoNull S) (hfs : NoNullFS E)
    (hord : Visits order S) (h : applyExtendsOrd E order dict = .ok out) :
    ∃ R, out = Val.insert "services" (.map R) dict ∧ FlatServices E S R := by
  rw [applyExtendsOrd_eq hS] at h
  split at h <;> cases h
  rename_i R hR
  refine ⟨R, rfl, fun n => ?_⟩
  obtain ⟨q1, _, q3⟩ := applyAll_sound E hfs _ order S S R hnn (Inv.refl E S)
    (fun m hm => (hord m).mp hm) hR
  constructor
  · intro hn
    rcases q1 n with g | ⟨v, _, g2⟩
    · rw [g]; exact hn
    · obtain ⟨svc, hs⟩ := g2.has_key; rw [hn] at hs; cases hs
  · intro hn
    exact q3 n ((hord n).mpr hn)

theorem FlatServices.agree {E : Env} {S₁ S₂ R₁ R₂ : KVs} (h₁ : FlatServices E S₁ R₁) (h₂ : FlatServices E S₂ R₂)
    (heq : ∀ k, lookup k S₂ = lookup k S₁) (n : String) : lookup n R₁ = lookup n R₂ := by
  by_cases hn : lookup n S₁ = none
  · rw [(h₁ n).1 hn, (h₂ n).1 (by rw [heq]; exact hn)]
  · obtain ⟨v, hv, hf⟩ := (h₁ n).2 hn
    obtain ⟨w, hw, hg⟩ := (h₂ n).2 (by rw [heq]; exact hn)
    rw [hv, hw, (hf.congr S₂ heq).functional hg]

theorem FlatServices.shape {E : Env} {S R : KVs} (h : FlatServices E S R) {n : String} {v : Val}
    (hv : lookup n R = some v) : ∃ m, v = .map m ∧ lookup "extends" m = none := by
  by_cases hn : lookup n S = none
  · rw [(h n).1 hn] at hv; cases hv
  · obtain ⟨w, hw, hf⟩ := (h n).2 hn
    cases hv.symm.trans hw
    exact hf.shape

end CV.Extends
