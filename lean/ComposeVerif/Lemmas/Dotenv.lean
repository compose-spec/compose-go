import ComposeVerif.Lemmas.DotenvStages
import ComposeVerif.Spec.Dotenv
/-!
# C18 — the statement loop against the line grammar

The parser (in its list form, `Lemmas/DotenvStages.lean`) on the rendering of grammar lines (`Spec/Dotenv.lean`): one lemma
per printed piece and stage, one per line form, the refinement (`parseRun_render`, `parse_after`, `parse_render_lemma`) and
the error shapes (`parseRun_unterminated`, `stepL_badkey`, `parseRun_keyspace`).  The only layer that needs the grammar.
-/
namespace CV.Dotenv
open CV CV.Template

theorem nbAll_spaceU {ws : Str} (h : nbAll ws = true) : ∀ c ∈ ws, isSpaceU c = true := by
  intro c hc
  exact isSpaceNB_isSpaceU (List.all_eq_true.mp h c hc)

theorem trimRightU_append_ws (a ws : Str) (h : ∀ c ∈ ws, isSpaceU c = true) : trimRightU (a ++ ws) = trimRightU a := by
  unfold trimRightU
  rw [List.reverse_append, List.dropWhile_append_of_pos (by intro x hx; exact h x (List.mem_reverse.mp hx))]

theorem trimRightU_id (a : Str) (h : lastNotSpace a = true) : trimRightU a = a := by
  unfold trimRightU
  unfold lastNotSpace at h
  cases hr : a.reverse with
  | nil =>
    have : a = [] := by simpa using hr
    subst this; rfl
  | cons c r =>
    have hl : a.getLast? = some c := by
      rw [List.getLast?_eq_head?_reverse, hr]; rfl
    rw [hl] at h
    simp only [Bool.not_eq_true'] at h
    rw [dropWhile_head_neg h, ← hr, List.reverse_reverse]

theorem key_lastNotSpace {k : Str} (h : k.all isKeyRune = true) : lastNotSpace k = true := by
  unfold lastNotSpace
  cases hl : k.getLast? with
  | none => rfl
  | some c =>
    have hm : c ∈ k := List.mem_of_getLast? hl
    have := key_not_spaceU (List.all_eq_true.mp h c hm)
    simp [this]

/-- a line ends at a line feed or at the end of the input; `T.tail` is what follows the line -/
def LineEnd (T : Str) : Prop := T = [] ∨ ∃ R, T = '\n' :: R

theorem LineEnd.head {T : Str} (h : LineEnd T) {c : Char} (hc : T.head? = some c) : isKeyRune c = false := by
  rcases h with rfl | ⟨R, rfl⟩
  · cases hc
  · cases hc; decide

theorem stmtL_skip_ws (ws r : Str) (h : ∀ c ∈ ws, isSpaceU c = true) : stmtL false (ws ++ r) = stmtL false r := by
  rw [stmtL_dropWhile, List.dropWhile_append_of_pos h, ← stmtL_dropWhile]

theorem stmtL_lineEnd {T : Str} (h : LineEnd T) : stmtL false T = stmtL false T.tail := by
  rcases h with rfl | ⟨R, rfl⟩
  · rfl
  · simp [stmtL, isSpaceU]

theorem stmtL_comment_line (t : Str) {T : Str} (hT : LineEnd T) (h : t.all (· != '\n') = true) :
    stmtL true (t ++ T) = stmtL false T.tail := by
  have hd : T.dropWhile (fun c => !(c == '\n')) = T := by
    rcases hT with rfl | ⟨R, rfl⟩
    · rfl
    · rfl
  rw [stmtL_comment, List.dropWhile_append_of_pos (p := fun c => !(c == '\n')) (fun x hx => List.all_eq_true.mp h x hx), hd,
    stmtL_lineEnd hT]

theorem stmtL_stop {c : Char} (r : Str) (h1 : isSpaceU c = false) (h2 : c ≠ '#') : stmtL false (c :: r) = c :: r := by
  have : (c == '#') = false := by simpa using h2
  simp [stmtL, h1, this]

theorem stmtL_line_tail (trail : Str) (cmt : Option Str) {T : Str} (hT : LineEnd T) (ht : nbAll trail = true)
    (hc : cmtOk cmt = true) : stmtL false (trail ++ (renderCmt cmt ++ T)) = stmtL false T.tail := by
  rw [stmtL_skip_ws _ _ (nbAll_spaceU ht)]
  cases cmt with
  | none => exact stmtL_lineEnd hT
  | some t =>
    simp only [renderCmt, List.cons_append]
    have : isSpaceU '#' = false := by decide
    rw [stmtL, if_neg (by simp [this])]
    simp only [beq_self_eq_true, if_true]
    exact stmtL_comment_line t hT hc

theorem stmtL_dropNB : ∀ X : Str, stmtL false (X.dropWhile isSpaceNB) = stmtL false X
  | [] => rfl
  | c :: X => by
    by_cases h : isSpaceNB c = true
    · rw [List.dropWhile_cons_of_pos h, stmtL_dropNB X, stmtL, if_pos (isSpaceNB_isSpaceU h)]
    · rw [List.dropWhile_cons_of_neg h]

theorem dropExport_key (key X : Str) (hk : validKey key = true) (hX : ∀ c, X.head? = some c → isKeyRune c = false) :
    dropExport (key ++ X) = key ++ X := by
  simp only [validKey, Bool.and_eq_true, Bool.or_eq_true, Bool.not_eq_true', decide_eq_true_eq] at hk
  obtain ⟨⟨_, hall⟩, hexp⟩ := hk
  unfold dropExport
  by_cases hp : exportKw.isPrefixOf (key ++ X) = true
  · rw [if_pos hp]
    rcases Scan.prefix_append_cases (List.isPrefixOf_iff_prefix.mp hp) with h1 | ⟨c, hc, hm⟩
    · have h6 : 6 < key.length := by
        rcases hexp with h | h
        · rw [List.isPrefixOf_iff_prefix.mpr h1] at h; cases h
        · exact h
      have hd : (key ++ X).drop 6 = key.drop 6 ++ X := by
        rw [List.drop_append_of_le_length (by omega)]
      rw [hd]
      cases hkd : key.drop 6 with
      | nil =>
        have := congrArg List.length hkd
        simp at this; omega
      | cons c r =>
        have hc : c ∈ key := List.mem_of_mem_drop (by rw [hkd]; simp)
        have := key_not_spaceRE (List.all_eq_true.mp hall c hc)
        simp [this]
    · have := exportKw_key c hm
      rw [hX c hc] at this; cases this
  · rw [if_neg hp]

theorem dropExport_export (ws X : Str) (hw : expOk (some ws) = true) (hX : X.dropWhile isSpaceNB = X) :
    dropExport (exportKw ++ (ws ++ X)) = X := by
  cases ws with
  | nil => simp [expOk] at hw
  | cons c r =>
    simp only [expOk, Bool.and_eq_true] at hw
    obtain ⟨⟨h1, h2⟩, h3⟩ := hw
    have hall : ∀ x ∈ c :: r, isSpaceNB x = true := by
      intro x hx
      rcases List.mem_cons.mp hx with rfl | hx
      · exact h2
      · exact List.all_eq_true.mp h3 x hx
    have e : dropExport (exportKw ++ (c :: r ++ X)) = (c :: r ++ X).dropWhile isSpaceNB := by
      rw [dropExport, if_pos (List.isPrefixOf_iff_prefix.mpr (List.prefix_append ..)), show (exportKw ++ (c :: r ++ X)).drop 6 = c :: r ++ X from List.drop_left' rfl]
      simp only [List.cons_append, h1, if_true]
    rw [e, List.dropWhile_append_of_pos hall, hX]

theorem validKey_all {k : Str} (h : validKey k = true) : k.all isKeyRune = true := by
  simp only [validKey, Bool.and_eq_true] at h
  exact h.1.2

theorem validKey_ne {k : Str} (h : validKey k = true) : ∃ c r, k = c :: r ∧ isKeyRune c = true := by
  have ha := validKey_all h
  simp only [validKey, Bool.and_eq_true] at h
  cases k with
  | nil => simp at h
  | cons c r =>
    simp only [List.all_cons, Bool.and_eq_true] at ha
    exact ⟨c, r, rfl, ha.1⟩

theorem dropExport_render (exp : Option Str) (key Y : Str) (he : expOk exp = true) (hk : validKey key = true)
    (hY : ∀ c, Y.head? = some c → isKeyRune c = false) :
    dropExport (renderExp exp ++ (key ++ Y)) = key ++ Y := by
  cases exp with
  | none => simpa [renderExp] using dropExport_key key Y hk hY
  | some ws =>
    simp only [renderExp, List.append_assoc]
    apply dropExport_export ws _ he
    obtain ⟨c, r, rfl, hc⟩ := validKey_ne hk
    exact dropWhile_head_neg (key_not_spaceNB hc)

theorem head?_append_all {P : Char → Prop} {a b : Str} (ha : ∀ c ∈ a, P c) (hb : ∀ c, b.head? = some c → P c) :
    ∀ c, (a ++ b).head? = some c → P c := by
  intro c hc
  cases a with
  | nil => exact hb c hc
  | cons x a => cases hc; exact ha _ (List.mem_cons_self ..)

theorem head_ws (ws Y : Str) (hw : nbAll ws = true) (hY : ∀ c, Y.head? = some c → isKeyRune c = false) :
    ∀ c, (ws ++ Y).head? = some c → isKeyRune c = false :=
  head?_append_all (fun c hc => isSpaceU_not_key (isSpaceNB_isSpaceU (List.all_eq_true.mp hw c hc))) hY

theorem nb_all_ok {ws : Str} (h : nbAll ws = true) : ws.all okChar = true := by
  rw [nbAll, List.all_eq_true] at h
  rw [List.all_eq_true]
  intro c hc
  rw [okChar, h c hc, Bool.or_true]

theorem trimRightU_key_ws {key ws : Str} (hk : validKey key = true) (hw : nbAll ws = true) :
    trimRightU (key ++ ws) = key := by
  rw [trimRightU_append_ws _ _ (nbAll_spaceU hw), trimRightU_id _ (key_lastNotSpace (validKey_all hk))]

theorem keyL_render (exp : Option Str) (k1 K T : Str) (he : expOk exp = true) (hk1 : validKey k1 = true)
    (hK : K.all okChar = true) (hhead : ∀ c, (K ++ T).head? = some c → isKeyRune c = false)
    (hT : ∀ c, T.head? = some c → okChar c = false) :
    keyL (renderExp exp ++ (k1 ++ (K ++ T))) =
      match (generalizing := false) T with
      | [] => .ok (trimRightU (k1 ++ K), [], true)
      | d :: X =>
        if d == '=' || d == ':' || d == '\n' then .ok (trimRightU (k1 ++ K), X.dropWhile isSpaceNB, d == '\n')
        else .error .unexpectedChar := by
  have hall : (k1 ++ K).all okChar = true := by rw [List.all_append, key_all_ok (validKey_all hk1), hK]; rfl
  rw [keyL, dropExport_render exp k1 _ he hk1 hhead, ← List.append_assoc]
  obtain ⟨c, r, rfl, _⟩ := validKey_ne hk1
  cases T with
  | nil => simp only [List.append_nil, Scan.span_all hall]; rfl
  | cons d X => simp only [Scan.span_stop hall (hT d rfl) X]

theorem sep_not_key (sep : Sep) : isKeyRune sep.char = false := by cases sep <;> decide

theorem keyL_assign (exp : Option Str) (key ws1 : Str) (sep : Sep) (X : Str)
    (he : expOk exp = true) (hk : validKey key = true) (h1 : nbAll ws1 = true) :
    keyL (renderExp exp ++ (key ++ (ws1 ++ sep.char :: X))) = .ok (key, X.dropWhile isSpaceNB, false) := by
  rw [keyL_render exp key ws1 _ he hk (nb_all_ok h1) (head_ws ws1 _ h1 (fun c hc => by cases hc; exact sep_not_key sep))
    (fun c hc => by cases hc; cases sep <;> rfl), trimRightU_key_ws hk h1]
  cases sep <;> rfl

theorem keyL_bare (exp : Option Str) (key trail : Str) {T : Str} (hT : LineEnd T)
    (he : expOk exp = true) (hk : validKey key = true) (h1 : nbAll trail = true) :
    keyL (renderExp exp ++ (key ++ (trail ++ T))) = .ok (key, T.tail.dropWhile isSpaceNB, true) := by
  rw [keyL_render exp key trail T he hk (nb_all_ok h1) (head_ws trail T h1 (fun c hc => hT.head hc))
    (fun c hc => by rcases hT with rfl | ⟨X, rfl⟩ <;> cases hc; rfl), trimRightU_key_ws hk h1]
  rcases hT with rfl | ⟨X, rfl⟩ <;> rfl

theorem cut_lineEnd (L : Str) {T : Str} (hT : LineEnd T) (hnl : ∀ x ∈ L, x ≠ '\n') : cut ['\n'] (L ++ T) = (L, T.tail) := by
  rcases hT with rfl | ⟨R, rfl⟩
  · rw [List.append_nil]; exact Scan.cut_none '\n' [] L hnl
  · exact Scan.cut_char '\n' L R hnl

theorem head?_append_of_ne {a b : Str} {c : Char} (hb : b.head? ≠ some c) (ha : a.head? ≠ some c) : (a ++ b).head? ≠ some c := by
  cases a with
  | nil => simpa using hb
  | cons x a => simpa using ha

theorem noSpHash_no_start (b : Str) (hb : b.head? ≠ some '#') : ∀ (a : Str), noSpHash a = true →
    ∀ k, k < a.length → [' ', '#'].isPrefixOf (a.drop k ++ b) = false
  | x :: a, h, 0, _ => by
    show [' ', '#'].isPrefixOf (x :: (a ++ b)) = false
    simp only [noSpHash, Bool.and_eq_true, Bool.not_eq_true', Bool.and_eq_false_iff] at h
    rcases h.1 with h1 | h1
    · have : (' ' == x) = false := by simpa using fun e => (beq_eq_false_iff_ne.mp h1) e.symm
      simp [List.isPrefixOf, this]
    · have hne : (a ++ b).head? ≠ some '#' := head?_append_of_ne hb (by simpa using h1)
      cases hab : a ++ b with
      | nil => simp [List.isPrefixOf]
      | cons y r =>
        have : ('#' == y) = false := by
          rw [hab] at hne; simpa using fun e => hne (by rw [← e]; rfl)
        simp [List.isPrefixOf, this]
  | x :: a, h, k + 1, hk => by
    simp only [noSpHash, Bool.and_eq_true] at h
    exact noSpHash_no_start b hb a h.2 k (Nat.lt_of_succ_lt_succ hk)

theorem cut_sphash (a b : Str) (h : noSpHash a = true) : cut [' ', '#'] (a ++ ' ' :: '#' :: b) = (a, b) :=
  Scan.cut_at [' ', '#'] a b (noSpHash_no_start _ (by simp) a h)

theorem cut_sphash_none (a : Str) (h : noSpHash a = true) : cut [' ', '#'] a = (a, []) :=
  Scan.cut_none_of _ a (by simp) (by simpa using noSpHash_no_start [] (by simp) a h)

theorem noSpHash_nohash : ∀ (b : Str), (∀ c ∈ b, c ≠ '#') → noSpHash b = true
  | [], _ => rfl
  | x :: b, h => by
    simp only [noSpHash, Bool.and_eq_true, Bool.not_eq_true', Bool.and_eq_false_iff]
    refine ⟨Or.inr ?_, noSpHash_nohash b (fun c hc => h c (by simp [hc]))⟩
    cases b with
    | nil => simp
    | cons y b =>
      have := h y (by simp)
      simpa using this

theorem noSpHash_append : ∀ (a b : Str), noSpHash a = true → (∀ c ∈ b, c ≠ '#') → noSpHash (a ++ b) = true
  | [], b, _, hb => noSpHash_nohash b hb
  | x :: a, b, h, hb => by
    simp only [noSpHash, Bool.and_eq_true, Bool.not_eq_true', Bool.and_eq_false_iff] at h
    simp only [List.cons_append, noSpHash, Bool.and_eq_true, Bool.not_eq_true', Bool.and_eq_false_iff]
    refine ⟨?_, noSpHash_append a b h.2 hb⟩
    rcases h.1 with h1 | h1
    · exact Or.inl h1
    · refine Or.inr ?_
      cases a with
      | nil =>
        cases b with
        | nil => simp
        | cons y b =>
          have := hb y (by simp)
          simpa using this
      | cons y a => simpa using h1

theorem nb_no_hash {ws : Str} (h : nbAll ws = true) : ∀ c ∈ ws, c ≠ '#' := by
  intro c hc e
  subst e
  have := List.all_eq_true.mp h _ hc
  revert this; decide

theorem nb_no_nl {ws : Str} (h : nbAll ws = true) : ∀ c ∈ ws, c ≠ '\n' := by
  intro c hc e
  subst e
  have := List.all_eq_true.mp h _ hc
  revert this; decide

theorem valueL_plain (L : Str) {T : Str} (hT : LineEnd T) (m : Map) (lk : Env)
    (hq : quotePrefix (L ++ T) = none) (hnl : ∀ x ∈ L, x ≠ '\n') :
    valueL (L ++ T) m lk = liftVars (expandVars (trimRightU (cut [' ', '#'] L).1) m lk) T.tail := by
  rw [valueL, hq, cut_lineEnd L hT hnl]

theorem unqOk_parts {s : Str} (h : unqOk s = true) :
    (∀ x ∈ s, x ≠ '\n') ∧ noSpHash s = true ∧ lastNotSpace s = true ∧
    (∀ c r, s = c :: r → (c == '"' || c == '\'') = false ∧ isSpaceNB c = false) := by
  simp only [unqOk, Bool.and_eq_true] at h
  obtain ⟨⟨⟨h1, h2⟩, h3⟩, h4⟩ := h
  refine ⟨?_, h2, h3, ?_⟩
  · intro x hx
    have := List.all_eq_true.mp h1 x hx
    simpa using this
  · intro c r e
    subst e
    simp only [Bool.and_eq_true, bne_iff_ne, ne_eq, Bool.not_eq_true'] at h4
    refine ⟨?_, h4.2⟩
    simp [h4.1.1, h4.1.2]

theorem cmt_no_nl {cmt : Option Str} (h : cmtOk cmt = true) : ∀ x ∈ renderCmt cmt, x ≠ '\n' := by
  cases cmt with
  | none => simp [renderCmt]
  | some t =>
    intro x hx
    simp only [renderCmt, List.mem_cons] at hx
    rcases hx with rfl | hx
    · decide
    · have := List.all_eq_true.mp h x hx
      simpa using this

/-- what `strings.Cut(value, " #")` and the right trim leave of an unquoted value followed by white space and a comment -/
theorem unq_cut (s trail : Str) (cmt : Option Str) (hsp : noSpHash s = true) (hlast : lastNotSpace s = true)
    (ht : nbAll trail = true) (hcmt : cmt.isSome = true → trail.getLast? = some ' ') :
    trimRightU (cut [' ', '#'] (s ++ (trail ++ renderCmt cmt))).1 = s := by
  cases cmt with
  | none =>
    rw [renderCmt, List.append_nil, cut_sphash_none _ (noSpHash_append _ _ hsp (nb_no_hash ht))]
    exact (trimRightU_append_ws _ _ (nbAll_spaceU ht)).trans (trimRightU_id _ hlast)
  | some t =>
    obtain ⟨t', rfl⟩ : ∃ t', trail = t' ++ [' '] := List.getLast?_eq_some_iff.mp (hcmt rfl)
    have ht2 : nbAll t' = true := by
      rw [nbAll, List.all_append, Bool.and_eq_true] at ht
      exact ht.1
    rw [show s ++ (t' ++ [' '] ++ renderCmt (some t)) = (s ++ t') ++ ' ' :: '#' :: t by
        simp only [renderCmt, List.append_assoc, List.cons_append, List.nil_append],
      cut_sphash _ _ (noSpHash_append _ _ hsp (nb_no_hash ht2))]
    exact (trimRightU_append_ws _ _ (nbAll_spaceU ht2)).trans (trimRightU_id _ hlast)

theorem valueL_unq (s trail : Str) (cmt : Option Str) {T : Str} (hT : LineEnd T) (m : Map) (lk : Env)
    (hs : unqOk s = true) (ht : nbAll trail = true) (hc : cmtOk cmt = true)
    (hcmt : (match cmt with
      | some _ => !s.isEmpty && trail.getLast? == some ' '
      | none => true) = true) :
    valueL ((s ++ (trail ++ (renderCmt cmt ++ T))).dropWhile isSpaceNB) m lk =
      liftVars (expandVars s m lk) T.tail := by
  obtain ⟨hnl, hsp, hlast, hhead⟩ := unqOk_parts hs
  cases s with
  | nil =>
    -- `KEY=` followed by white space only
    cases cmt with
    | some t => simp at hcmt
    | none =>
      have hT' : T.dropWhile isSpaceNB = T ∧ quotePrefix T = none := by
        rcases hT with rfl | ⟨R, rfl⟩
        · exact ⟨rfl, rfl⟩
        · exact ⟨dropWhile_head_neg (by decide), rfl⟩
      simp only [renderCmt, List.nil_append]
      rw [List.dropWhile_append_of_pos (fun x hx => List.all_eq_true.mp ht x hx), hT'.1]
      have := valueL_plain [] hT m lk hT'.2 (by simp)
      rw [List.nil_append] at this
      rw [this, show cut [' ', '#'] ([] : Str) = ([], []) from cut_sphash_none [] rfl]
      rfl
  | cons c r =>
    obtain ⟨hcq, hcnb⟩ := hhead c r rfl
    rw [List.cons_append, dropWhile_head_neg hcnb, ← List.cons_append]
    have hre : (c :: r) ++ (trail ++ (renderCmt cmt ++ T)) = ((c :: r) ++ (trail ++ renderCmt cmt)) ++ T := by
      simp only [List.append_assoc]
    rw [hre, valueL_plain _ hT m lk (by simp [quotePrefix, hcq])
      (by
        intro x hx
        simp only [List.mem_append] at hx
        rcases hx with hx | hx | hx
        · exact hnl x hx
        · exact nb_no_nl ht x hx
        · exact cmt_no_nl hc x hx)]
    rw [unq_cut _ trail cmt hsp hlast ht (by
      intro h
      cases cmt with
      | none => cases h
      | some t => simp only [Bool.and_eq_true, beq_iff_eq] at hcmt; exact hcmt.2)]

theorem qscan_items (q : Char) (hq : q ≠ '\\') (rest : Str) : ∀ (items : List QItem) (acc : Str),
    items.all (QItem.wf q) = true →
    qscan q (renderItems q items ++ rest) false acc = qscan q rest false (acc ++ rawItems q items)
  | [], acc, _ => by simp [renderItems, rawItems]
  | it :: items, acc, hw => by
    rw [List.all_cons, Bool.and_eq_true] at hw
    have hb : ('\\' != q) = true := by simpa using fun e => hq e.symm
    have ih := fun a => qscan_items q hq rest items a hw.2
    rw [renderItems, rawItems, List.append_assoc, ← List.append_assoc acc]
    cases it with
    | chr c =>
      simp only [QItem.wf, Bool.and_eq_true, bne_iff_ne, ne_eq] at hw
      have hc1 : (c != q) = true := by simpa using hw.1.1
      have hc2 : (c == '\\') = false := by simpa using hw.1.2
      simp only [QItem.render, QItem.raw, List.cons_append, List.nil_append, qscan, hc1, hc2, if_true, Bool.and_false,
        Bool.false_eq_true, if_false, ih]
    | quote =>
      simp only [QItem.render, QItem.raw, List.cons_append, List.nil_append, qscan, hb, if_true, Bool.not_false, Bool.true_and,
        beq_self_eq_true, bne_self_eq_false, Bool.false_eq_true, if_false, ih]
    | esc c =>
      have hc1 : (c != q) = true := by simpa [QItem.wf] using hw.1
      simp only [QItem.render, QItem.raw, List.cons_append, List.nil_append, qscan, hb, hc1, if_true, Bool.not_false, Bool.true_and,
        beq_self_eq_true, Bool.not_true, Bool.false_and, Bool.false_eq_true, if_false, ih]

theorem valueL_quoted (q : Char) (hq : q = '"' ∨ q = '\'') (items : List QItem) (T : Str) (m : Map) (lk : Env)
    (hw : items.all (QItem.wf q) = true) :
    valueL (q :: (renderItems q items ++ q :: T)) m lk =
      if q == '"' then liftVars (expandVars (expandEscapes (rawItems q items)) m lk) T
      else .ok (.ok (rawItems q items, T)) := by
  have hqb : q ≠ '\\' := by rcases hq with rfl | rfl <;> decide
  have hqp : quotePrefix (q :: (renderItems q items ++ q :: T)) = some q := by
    rcases hq with rfl | rfl <;> rfl
  rw [valueL, hqp]
  simp only [List.tail_cons, qscan_items q hqb _ items [] hw, qscan, bne_self_eq_false, Bool.false_eq_true, if_false,
    List.nil_append]

theorem valueL_unterminated (q : Char) (hq : q = '"' ∨ q = '\'') (items : List QItem) (t : Str)
    (ht : t = [] ∨ t = ['\\']) (m : Map) (lk : Env) (hw : items.all (QItem.wf q) = true) :
    valueL (q :: (renderItems q items ++ t)) m lk = .ok (.error .unterminated) := by
  have hqb : q ≠ '\\' := by rcases hq with rfl | rfl <;> decide
  have hqp : quotePrefix (q :: (renderItems q items ++ t)) = some q := by
    rcases hq with rfl | rfl <;> rfl
  have hb : ('\\' != q) = true := by simpa using fun e => hqb e.symm
  rw [valueL, hqp]
  simp only [List.tail_cons, qscan_items q hqb _ items [] hw]
  rcases ht with rfl | rfl <;> simp [qscan, hb]

/-- a statement (after the indentation) begins with a key rune: of the key, or of the word `export` -/
theorem stmt_head (exp : Option Str) {k : Str} (Z : Str) (hk : validKey k = true) :
    ∃ d Y, renderExp exp ++ (k ++ Z) = d :: Y ∧ isKeyRune d = true := by
  obtain ⟨c, r, rfl, hc⟩ := validKey_ne hk
  cases exp with
  | none => exact ⟨c, _, rfl, hc⟩
  | some ws => exact ⟨'e', _, rfl, by decide⟩

theorem keyRune_ne_hash {d : Char} (h : isKeyRune d = true) : d ≠ '#' := fun e => by subst e; revert h; decide

theorem stmtL_line_start (indent : Str) (exp : Option Str) (key Z : Str)
    (hi : nbAll indent = true) (hk : validKey key = true) :
    stmtL false (indent ++ (renderExp exp ++ (key ++ Z))) = renderExp exp ++ (key ++ Z) := by
  obtain ⟨d, Y, e, hd⟩ := stmt_head exp Z hk
  rw [stmtL_skip_ws _ _ (nbAll_spaceU hi), e, stmtL_stop _ (key_not_spaceU hd) (keyRune_ne_hash hd)]

theorem line_start_ne (exp : Option Str) (key Z : Str) (hk : validKey key = true) :
    (renderExp exp ++ (key ++ Z)).isEmpty = false := by
  obtain ⟨d, Y, e, _⟩ := stmt_head exp Z hk; rw [e]; rfl

theorem parseRun_bare (indent : Str) (exp : Option Str) (key trail : Str) {T : Str} (hT : LineEnd T)
    (m : Map) (lk : Env)
    (hi : nbAll indent = true) (he : expOk exp = true) (hk : validKey key = true) (ht : nbAll trail = true) :
    parseRun (indent ++ (renderExp exp ++ (key ++ (trail ++ T)))) m lk =
      match lk key with
      | some v => parseRun T.tail (put m key v) lk
      | none => parseRun T.tail m lk := by
  rw [parseRun_step, stepL, stmtL_line_start indent exp key _ hi hk, line_start_ne exp key _ hk,
    keyL_bare exp key trail hT he hk ht]
  simp only [key_no_space (validKey_all hk), Bool.false_eq_true, if_false, if_true]
  cases lk key with
  | none => exact parseRun_congr _ _ (stmtL_dropNB _)
  | some v => exact parseRun_congr _ _ (stmtL_dropNB _)

theorem parseRun_assign_core (indent : Str) (exp : Option Str) (key ws1 : Str) (sep : Sep) (X : Str)
    (m : Map) (lk : Env)
    (hi : nbAll indent = true) (he : expOk exp = true) (hk : validKey key = true) (h1 : nbAll ws1 = true) :
    parseRun (indent ++ (renderExp exp ++ (key ++ (ws1 ++ sep.char :: X)))) m lk =
      match valueL (X.dropWhile isSpaceNB) m lk with
      | .error s => .panic s
      | .ok (.error e) => .err e m
      | .ok (.ok (v, left')) => parseRun left' (put m key v) lk := by
  rw [parseRun_step, stepL, stmtL_line_start indent exp key _ hi hk, line_start_ne exp key _ hk,
    keyL_assign exp key ws1 sep X he hk h1]
  simp only [key_no_space (validKey_all hk), Bool.false_eq_true, if_false]
  rcases valueL (X.dropWhile isSpaceNB) m lk with s | e | ⟨v, left'⟩ <;> rfl

/-- outcome of one assignment line, given the meaning of its value -/
def assignOut (o : Template.Out) (k : Str → POut) (m : Map) : POut :=
  match o with
  | .ok s => k s
  | .err e => .err (.tmpl e) m
  | .panic p => .panic (.tmpl p)

theorem evalFrom_assign (lk : Env) (indent : Str) (exp : Option Str) (key ws1 : Str) (sep : Sep) (ws2 : Str) (v : Value)
    (trail : Str) (cmt : Option Str) (ls : List Line) (m : Map) :
    evalFrom lk (.assign indent exp key ws1 sep ws2 v trail cmt :: ls) m =
      assignOut (v.eval (envOf lk m)) (fun s => evalFrom lk ls (put m key s)) m := by
  rw [evalFrom]
  unfold assignOut
  generalize v.eval (envOf lk m) = o
  cases o <;> rfl

theorem liftVars_step (key s T R : Str) (m : Map) (lk : Env) (hT : stmtL false T = stmtL false R) :
    (match liftVars (expandVars s m lk) T with
      | .error p => POut.panic p
      | .ok (.error e) => .err e m
      | .ok (.ok (v, left')) => parseRun left' (put m key v) lk) =
    assignOut (Template.subst (envOf lk m) s) (fun v => parseRun R (put m key v) lk) m := by
  unfold liftVars expandVars assignOut
  generalize Template.subst (envOf lk m) s = o
  cases o with
  | ok v => exact parseRun_congr _ _ hT
  | err e => rfl
  | panic p => rfl

theorem parseRun_assign (indent : Str) (exp : Option Str) (key ws1 : Str) (sep : Sep) (ws2 : Str) (v : Value)
    (trail : Str) (cmt : Option Str) {T : Str} (hT : LineEnd T) (m : Map) (lk : Env)
    (hwf : (Line.assign indent exp key ws1 sep ws2 v trail cmt).wf = true) :
    parseRun (indent ++ (renderExp exp ++ (key ++ (ws1 ++ sep.char :: (ws2 ++ (v.render ++ (trail ++ (renderCmt cmt ++ T)))))))) m lk =
      assignOut (v.eval (envOf lk m)) (fun s => parseRun T.tail (put m key s) lk) m := by
  simp only [Line.wf, Bool.and_eq_true] at hwf
  obtain ⟨⟨⟨⟨⟨⟨⟨⟨hi, he⟩, hk⟩, h1⟩, h2⟩, hv⟩, ht⟩, hc⟩, hcm⟩ := hwf
  rw [parseRun_assign_core indent exp key ws1 sep _ m lk hi he hk h1]
  rw [List.dropWhile_append_of_pos (fun x hx => List.all_eq_true.mp h2 x hx)]
  cases v with
  | unq s =>
    simp only [Value.render, Value.eval]
    rw [valueL_unq s trail cmt hT m lk hv ht hc (by cases cmt <;> simp at hcm ⊢ <;> exact hcm)]
    exact liftVars_step key s _ _ m lk rfl
  | sq items =>
    simp only [Value.render, Value.eval, List.cons_append, List.append_assoc, List.nil_append]
    rw [dropWhile_head_neg (by decide)]
    rw [valueL_quoted '\'' (Or.inr rfl) items _ m lk hv]
    simp only [show (('\'' : Char) == '"') = false by decide, Bool.false_eq_true, if_false, assignOut]
    exact parseRun_congr _ _ (stmtL_line_tail trail cmt hT ht hc)
  | dq items =>
    simp only [Value.render, Value.eval, List.cons_append, List.append_assoc, List.nil_append]
    rw [dropWhile_head_neg (by decide)]
    rw [valueL_quoted '"' (Or.inl rfl) items _ m lk hv]
    simp only [beq_self_eq_true, if_true]
    exact liftVars_step key _ _ _ m lk (stmtL_line_tail trail cmt hT ht hc)

/-- continue with `k` after a successful prefix -/
def POut.andThen (o : POut) (k : Map → POut) : POut :=
  match o with
  | .ok m => k m
  | .err e m => .err e m
  | .panic s => .panic s

theorem assignOut_andThen (o : Template.Out) (g : Str → POut) (m : Map) (k : Map → POut) :
    (assignOut o g m).andThen k = assignOut o (fun s => (g s).andThen k) m := by
  cases o <;> rfl

theorem POut.andThen_assoc (o : POut) (g k : Map → POut) :
    (o.andThen g).andThen k = o.andThen (fun m => (g m).andThen k) := by
  cases o <;> rfl

theorem POut.andThen_ok (o : POut) : o.andThen .ok = o := by
  cases o <;> rfl

theorem evalFrom_append (lk : Env) : ∀ (a b : List Line) (m : Map),
    evalFrom lk (a ++ b) m = (evalFrom lk a m).andThen (fun m' => evalFrom lk b m')
  | [], b, m => rfl
  | .blank _ :: a, b, m => by simp only [List.cons_append, evalFrom]; exact evalFrom_append lk a b m
  | .comment _ _ :: a, b, m => by simp only [List.cons_append, evalFrom]; exact evalFrom_append lk a b m
  | .bare _ _ key _ :: a, b, m => by
    simp only [List.cons_append, evalFrom]
    cases lk key with
    | none => exact evalFrom_append lk a b m
    | some v => exact evalFrom_append lk a b _
  | .assign i e key w1 s w2 v t c :: a, b, m => by
    rw [List.cons_append, evalFrom_assign, evalFrom_assign, assignOut_andThen]
    congr 1
    funext x
    exact evalFrom_append lk a b _

theorem parseRun_line (lk : Env) (l : Line) {T : Str} (hT : LineEnd T) (m : Map) (hwf : l.wf = true) :
    parseRun (l.render ++ T) m lk = (evalFrom lk [l] m).andThen (fun m' => parseRun T.tail m' lk) := by
  cases l with
  | blank ws => exact parseRun_congr m lk (stmtL_line_tail ws none hT hwf rfl)
  | comment ws t =>
    simp only [Line.wf, Bool.and_eq_true] at hwf
    rw [Line.render, List.append_assoc]
    exact parseRun_congr m lk (stmtL_line_tail ws (some t) hT hwf.1 hwf.2)
  | bare indent exp key trail =>
    simp only [Line.wf, Bool.and_eq_true] at hwf
    obtain ⟨⟨⟨hi, he⟩, hk⟩, ht⟩ := hwf
    simp only [Line.render, List.append_assoc, evalFrom]
    rw [parseRun_bare indent exp key trail hT m lk hi he hk ht]
    cases lk key <;> rfl
  | assign indent exp key ws1 sep ws2 v trail cmt =>
    rw [evalFrom_assign, assignOut_andThen]
    simp only [Line.render, List.append_assoc, List.cons_append, evalFrom, POut.andThen]
    exact parseRun_assign indent exp key ws1 sep ws2 v trail cmt hT m lk hwf

theorem parseRun_render (lk : Env) : ∀ (ls : List Line), WF ls = true → ∀ (tail : Str) (m : Map),
    parseRun (render ls ++ tail) m lk = (evalFrom lk ls m).andThen (fun m' => parseRun tail m' lk)
  | [], _, tail, m => rfl
  | l :: ls, hwf, tail, m => by
    simp only [WF, List.all_cons, Bool.and_eq_true] at hwf
    rw [render, List.append_assoc, List.cons_append, parseRun_line lk l (.inr ⟨_, rfl⟩) m hwf.1,
      show l :: ls = [l] ++ ls from rfl, evalFrom_append, POut.andThen_assoc]
    congr 1
    funext m'
    exact parseRun_render lk ls hwf.2 tail m'

theorem parse_after (lk : Env) (ls : List Line) (hwf : WF ls = true) (tail : Str) :
    parse (render ls ++ tail) lk = (evalLines lk ls).andThen (fun m => parseRun tail m lk) := by
  rw [parse_eq_run, parseRun_render lk ls hwf tail []]; rfl

theorem parse_render_lemma (lk : Env) (ls : List Line) (hwf : WF ls = true) :
    parse (render ls) lk = evalLines lk ls := by
  have := parse_after lk ls hwf []
  rw [List.append_nil] at this
  rw [this]
  simp only [parseRun_nil]
  exact POut.andThen_ok _

theorem renderNoFinalNL_concat : ∀ (a : List Line) (l : Line), renderNoFinalNL (a ++ [l]) = render a ++ l.render
  | [], l => by simp [renderNoFinalNL, render]
  | x :: a, l => by
    have ih := renderNoFinalNL_concat a l
    cases a with
    | nil => simp [renderNoFinalNL, render]
    | cons y a =>
      simp only [List.cons_append, renderNoFinalNL, render, List.append_assoc] at ih ⊢
      rw [ih]

theorem parseRun_unterminated (indent : Str) (exp : Option Str) (key ws1 : Str) (sep : Sep) (ws2 : Str)
    (q : Char) (hq : q = '"' ∨ q = '\'') (items : List QItem) (t : Str) (ht : t = [] ∨ t = ['\\'])
    (m : Map) (lk : Env)
    (hi : nbAll indent = true) (he : expOk exp = true) (hk : validKey key = true) (h1 : nbAll ws1 = true)
    (h2 : nbAll ws2 = true) (hw : items.all (QItem.wf q) = true) :
    parseRun (indent ++ (renderExp exp ++ (key ++ (ws1 ++ sep.char :: (ws2 ++ q :: (renderItems q items ++ t)))))) m lk =
      .err .unterminated m := by
  rw [parseRun_assign_core indent exp key ws1 sep _ m lk hi he hk h1]
  rw [List.dropWhile_append_of_pos (fun x hx => List.all_eq_true.mp h2 x hx)]
  have hnb : isSpaceNB q = false := by rcases hq with rfl | rfl <;> decide
  rw [dropWhile_head_neg hnb, valueL_unterminated q hq items t ht m lk hw]

theorem stepL_badkey (indent : Str) (exp : Option Str) (pre : Str) (c : Char) (rest : Str) (m : Map) (lk : Env)
    (hi : nbAll indent = true) (he : expOk exp = true) (hpre : pre.all okChar = true)
    (hlead : pre.dropWhile isSpaceNB = pre)
    (hc : badChar c = true) (hhash : pre ≠ [] ∨ c ≠ '#') :
    stepL (indent ++ (renderExp exp ++ (pre ++ c :: rest))) m lk = .done (.err .unexpectedChar m) := by
  -- the statement starts at a character that is neither white space nor `#`
  obtain ⟨d, Y, hY, hdU, hdH⟩ : ∃ d Y, renderExp exp ++ (pre ++ c :: rest) = d :: Y ∧ isSpaceU d = false ∧ d ≠ '#' := by
    cases exp with
    | some ws => exact ⟨'e', _, rfl, by decide, by decide⟩
    | none =>
      cases pre with
      | nil => exact ⟨c, rest, rfl, badChar_not_spaceU hc, hhash.resolve_left (fun h => h rfl)⟩
      | cons d pre =>
        have hd : isSpaceNB d = false := by
          cases hs : isSpaceNB d with
          | false => rfl
          | true =>
            rw [List.dropWhile_cons_of_pos hs] at hlead
            have := (List.dropWhile_suffix (l := pre) isSpaceNB).length_le
            rw [hlead] at this; simp at this; omega
        have hk : isKeyRune d = true := by
          simpa [okChar, hd] using (List.all_eq_true.mp hpre) d (List.mem_cons_self ..)
        exact ⟨d, _, rfl, key_not_spaceU hk, keyRune_ne_hash hk⟩
  -- `export` stripping removes only characters the scan steps over: it still stops at the bad character
  have hok : (renderExp exp ++ pre).all okChar = true := by
    rw [List.all_append, hpre, Bool.and_true]
    cases exp with
    | none => rfl
    | some ws =>
      cases ws with
      | nil => cases he
      | cons w ws =>
        simp only [expOk, Bool.and_eq_true] at he
        rw [renderExp, List.all_append, key_all_ok (List.all_eq_true.mpr exportKw_key), List.all_cons,
          nb_all_ok he.2, okChar, he.1.2, Bool.or_true]
        rfl
  have hstop : (dropExport (d :: Y)).dropWhile okChar = c :: rest := by
    rw [dropExport_dropWhile, ← hY, ← List.append_assoc, (Scan.span_stop hok (badChar_not_ok hc).1 rest).2]
  rw [stepL, stmtL_skip_ws _ _ (nbAll_spaceU hi), hY, stmtL_stop _ hdU hdH]
  simp only [List.isEmpty_cons, keyL, hstop, (badChar_not_ok hc).2, Bool.false_eq_true, if_false]

/-- the same at any fuel from 1 on; `hexp` is not needed -/
theorem parseLoop_badkey (f : Nat) (indent : Str) (exp : Option Str) (pre : Str) (c : Char) (rest : Str) (m : Map) (lk : Env)
    (hi : nbAll indent = true) (he : expOk exp = true) (hpre : pre.all okChar = true)
    (hlead : pre.dropWhile isSpaceNB = pre) (hexp : exportKw.isPrefixOf pre = false)
    (hc : badChar c = true) (hhash : pre ≠ [] ∨ c ≠ '#') :
    parseLoop (f + 1) (indent ++ (renderExp exp ++ (pre ++ c :: rest))) m lk = .err .unexpectedChar m := by
  rw [parseLoop_step, stepL_badkey indent exp pre c rest m lk hi he hpre hlead hc hhash]

theorem getLast?_append_ne (a b : Str) (h : b ≠ []) : (a ++ b).getLast? = b.getLast? := by
  simp [List.getLast?_append]
  cases hb : b.getLast? with
  | none => simp [List.getLast?_eq_none_iff] at hb; exact absurd hb h
  | some x => simp

theorem parseRun_keyspace (indent : Str) (exp : Option Str) (k1 ws k2 ws1 : Str) (sep : Sep) (X : Str)
    (m : Map) (lk : Env)
    (hi : nbAll indent = true) (he : expOk exp = true) (hk1 : validKey k1 = true)
    (hws : nbAll ws = true) (hne : ws ≠ []) (hk2 : k2.all isKeyRune = true) (hne2 : k2 ≠ []) (h1 : nbAll ws1 = true) :
    parseRun (indent ++ (renderExp exp ++ (k1 ++ (ws ++ (k2 ++ (ws1 ++ sep.char :: X)))))) m lk =
      .err .keySpace m := by
  obtain ⟨w, ws', rfl⟩ := List.exists_cons_of_ne_nil hne
  have hw : isSpaceNB w = true := by
    simp only [nbAll, List.all_cons, Bool.and_eq_true] at hws; exact hws.1
  -- the scanner steps over `ws ++ k2 ++ ws1`; the key it returns is `k1 ++ ws ++ k2`
  have hK : (w :: ws' ++ (k2 ++ ws1)).all okChar = true := by
    rw [List.all_append, List.all_append, nb_all_ok hws, key_all_ok hk2, nb_all_ok h1]; rfl
  have hloc := keyL_render exp k1 (w :: ws' ++ (k2 ++ ws1)) (sep.char :: X) he hk1 hK
    (fun c hc => by cases hc; exact isSpaceU_not_key (isSpaceNB_isSpaceU hw)) (fun c hc => by cases hc; cases sep <;> rfl)
  simp only [show (sep.char == '=' || sep.char == ':' || sep.char == '\n') = true by cases sep <;> rfl, if_true] at hloc
  have hlast : lastNotSpace (k1 ++ (w :: ws' ++ k2)) = true := by
    rw [← List.append_assoc, lastNotSpace, getLast?_append_ne _ _ hne2]
    exact key_lastNotSpace hk2
  rw [show k1 ++ (w :: ws' ++ (k2 ++ ws1)) = (k1 ++ (w :: ws' ++ k2)) ++ ws1 by simp,
    trimRightU_append_ws _ _ (nbAll_spaceU h1), trimRightU_id _ hlast, List.append_assoc, List.append_assoc] at hloc
  rw [parseRun_step, stepL, stmtL_line_start indent exp k1 _ hi hk1, line_start_ne exp k1 _ hk1, hloc]
  have hany : (k1 ++ (w :: ws' ++ k2)).any isSpaceU = true := by
    simp [List.any_append, isSpaceNB_isSpaceU hw]
  simp only [Bool.false_eq_true, if_false, hany, if_true]

end CV.Dotenv
