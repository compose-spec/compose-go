import ComposeVerif.Spec.Select
import ComposeVerif.Lemmas.SelectAL
/-! C15: the executable closure of `Spec/Select.lean` (`succ`, `expand`, `closureN`, `closure`, the oracle's way to compute the set a
selection keeps).  `succ` lists the `Edge`s (`mem_succ_iff`), so the iteration never leaves `Reach` (`closure_sound`) and a
`Closed` set contains it (`closure_complete`); a duplicate-free set of service names cannot grow more often than there are
services, so `len(services)` rounds saturate (`saturate`, pigeonhole). -/
namespace CV.Sel

variable {svcs : AL Svc} {pol : Policy}


theorem nodup_eraseDups (l : List String) : l.eraseDups.Nodup := by
  suffices ∀ n (l : List String), l.length ≤ n → l.eraseDups.Nodup from this _ l (Nat.le_refl _)
  intro n
  induction n with
  | zero => intro l h; cases l <;> simp_all
  | succ n ih =>
    intro l h
    cases l with
    | nil => simp
    | cons a as =>
      rw [List.eraseDups_cons, List.nodup_cons]
      refine ⟨fun hm => ?_, ih _ ?_⟩
      · rw [List.mem_eraseDups, List.mem_filter] at hm
        simp at hm
      · have := List.length_filter_le (fun b => !b == a) as
        simp only [List.length_cons] at h
        omega

def SuccClosed (svcs : AL Svc) (pol : Policy) (S : List String) : Prop := ∀ x ∈ S, ∀ y ∈ succ svcs pol x, y ∈ S

theorem mem_expand {S : List String} {x : String} :
    x ∈ expand svcs pol S ↔ x ∈ S ∨ ∃ a ∈ S, x ∈ succ svcs pol a := by
  rw [expand, List.mem_eraseDups, List.mem_append, List.mem_flatMap]

theorem succ_subset_keys {x y : String} (h : y ∈ succ svcs pol x) : y ∈ keys svcs := by
  cases pol with
  | deps =>
    simp only [succ] at h
    split at h
    · exact of_decide_eq_true (List.mem_filter.1 h).2
    · cases h
  | dependents =>
    simp only [succ] at h
    split at h
    · exact (keys_filter_sublist _ svcs).subset h
    · cases h
  | ignore => cases h

theorem expand_of_closed {S : List String} (h : SuccClosed svcs pol S) (x : String) :
    x ∈ expand svcs pol S ↔ x ∈ S :=
  mem_expand.trans ⟨fun a => a.elim id fun ⟨b, hb, hx⟩ => h b hb x hx, .inl⟩

theorem succClosed_closureN (k : Nat) {S : List String} (h : SuccClosed svcs pol S) :
    SuccClosed svcs pol (closureN svcs pol k S) := by
  induction k generalizing S with
  | zero => exact h
  | succ k ih =>
    refine ih fun x hx y hy => ?_
    rw [expand_of_closed h] at hx ⊢
    exact h x hx y hy

theorem mem_closureN_of_mem (k : Nat) {S : List String} {x : String} (h : x ∈ S) :
    x ∈ closureN svcs pol k S := by
  induction k generalizing S with
  | zero => exact h
  | succ k ih => exact ih (mem_expand.2 (.inl h))

theorem length_expand_lt {S : List String} (nd : S.Nodup)
    (h : ¬SuccClosed svcs pol S) : S.length < (expand svcs pol S).length := by
  simp only [SuccClosed, Classical.not_forall] at h
  obtain ⟨x, hx, y, hy, hn⟩ := h
  have sub : (y :: S) ⊆ expand svcs pol S := fun z hz =>
    (List.mem_cons.1 hz).elim (fun e => e ▸ mem_expand.2 (.inr ⟨x, hx, hy⟩)) fun e => mem_expand.2 (.inl e)
  exact (List.nodup_cons.2 ⟨hn, nd⟩).length_le_of_subset sub

/-- pigeonhole: a duplicate-free set of service names cannot grow more than `len(services)` times -/
theorem saturate :
    ∀ (k : Nat) (S : List String), S.Nodup → (∀ x ∈ S, x ∈ keys svcs) → (keys svcs).length < k + S.length →
      SuccClosed svcs pol (closureN svcs pol k S) := by
  intro k
  induction k with
  | zero =>
    intro S nd sub hlt
    have := nd.length_le_of_subset (fun x hx => sub x hx)
    omega
  | succ k ih =>
    intro S nd sub hlt
    by_cases hc : SuccClosed svcs pol S
    · exact succClosed_closureN (k + 1) hc
    · have hl := length_expand_lt nd hc
      refine ih (expand svcs pol S) (nodup_eraseDups _) (fun x hx => ?_) (by omega)
      rcases mem_expand.1 hx with a | ⟨a, _, ha⟩
      · exact sub x a
      · exact succ_subset_keys ha

theorem mem_succ_iff {svcs : AL Svc} (nd : (keys svcs).Nodup) (pol : Policy) (x y : String) :
    y ∈ succ svcs pol x ↔ Edge svcs pol x y := by
  cases pol with
  | deps =>
    unfold succ Edge
    cases hs : lookup x svcs with
    | none => simp [hs]
    | some s => simp [hs, List.mem_filter]
  | dependents =>
    unfold succ Edge
    by_cases hx : x ∈ keys svcs
    · simp only [hx, if_true, true_and, mem_keys_filter, decide_eq_true_eq]
      exact ⟨fun ⟨v, hm, hd⟩ => ⟨v, lookup_of_mem nd hm, hd⟩, fun ⟨v, hl, hd⟩ => ⟨v, mem_of_lookup hl, hd⟩⟩
    · simp [hx]
  | ignore => simp [succ, Edge]

/-- the oracle's way of computing the closure (iterated saturation) never leaves `Reach` … -/
theorem closure_sound {svcs : AL Svc} (nd : (keys svcs).Nodup) (pol : Policy) (roots : List String) :
    ∀ x ∈ closure svcs pol roots, Reach svcs pol roots x := by
  have step : ∀ n S, (∀ x ∈ S, Reach svcs pol roots x) → ∀ x ∈ closureN svcs pol n S, Reach svcs pol roots x := by
    intro n
    induction n with
    | zero => exact fun S h => h
    | succ n ih =>
      refine fun S h => ih _ fun x hx => ?_
      rcases mem_expand.1 hx with hx | ⟨a, ha, hxa⟩
      · exact h x hx
      · exact .step (h a ha) ((mem_succ_iff nd pol a x).1 hxa)
  refine step _ _ fun x hx => ?_
  rw [List.mem_eraseDups, List.mem_filter] at hx
  exact .root hx.1 (of_decide_eq_true hx.2)

/-- … and once the run-time check `Closed` (oracle clause `closure-saturated`) passes, it *is* `Reach` -/
theorem closure_complete {svcs : AL Svc} (nd : (keys svcs).Nodup) (pol : Policy) (roots S : List String)
    (hc : Closed svcs pol roots S) (x : String) (hx : Reach svcs pol roots x) : x ∈ S := by
  induction hx with
  | root hr hk => exact hc.1 _ hr hk
  | step _ e ih => exact hc.2 _ ih _ ((mem_succ_iff nd pol _ _).2 e)

theorem selectWanted_eq_some {p : Proj} {names : List String} {pol : Policy} {S : List String}
    (h : selectWanted p names pol = some S) : S = closure p.services pol names := by
  unfold selectWanted at h
  split at h
  · cases h
  · dsimp only at h
    split at h
    · cases h
    · exact (Option.some.inj h).symm

end CV.Sel
