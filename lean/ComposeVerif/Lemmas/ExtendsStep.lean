import ComposeVerif.Spec.Extends
import ComposeVerif.Lemmas.Assoc
/-!
# One step of `applySvc`

`applySvc` either answers at once (`Step.done`) or locates the base, records the tracker key and recurses; what it does
with the answer of the recursive call is `finish`.  `applySvc_succ` is the only place where `applySvc` is unfolded: every
other fact about it is read off `step` (no recursion) and `finish` (a case distinction on one outcome).
-/
namespace CV.Extends
open CV CV.Val

variable {E : Env} {fs : FS} {cf n ref f : String} {file : Option String} {S S' cur svcs svc : KVs}
  {tr : List Key} {fuel : Nat}

theorem fsLookup_eq (f : String) (fs : FS) : fsLookup f fs = Assoc.lookup f fs := by
  induction fs with
  | nil => rfl
  | cons e r ih => rw [fsLookup, ih]; rfl

theorem fsLookup_mem {f : String} {fs : FS} {r : FileRes} (h : fsLookup f fs = some r) : (f, r) ∈ fs :=
  Assoc.mem_of_lookup (fsLookup_eq f fs ▸ h)

theorem fsLookup_map {α : Type} (g : α → FileRes) {f : String} {r : FileRes} :
    ∀ {l : List (String × α)}, fsLookup f (l.map fun p => (p.1, g p.2)) = some r → ∃ a, (f, a) ∈ l ∧ r = g a := by
  intro l h
  rw [fsLookup_eq, Assoc.lookup_map_val fun _ => g, Option.map_eq_some_iff] at h
  exact h.imp fun a ha => ⟨Assoc.mem_of_lookup ha.1, ha.2.symm⟩

theorem parseExtends_cases (e : Val) : (∃ p, parseExtends e = .ok p) ∨
    parseExtends e = .err "extendsFileNotString" ∨ parseExtends e = .err "extendsServiceNotString" := by
  unfold parseExtends
  split
  · exact Or.inl ⟨_, rfl⟩
  · split
    · split <;> first | exact Or.inl ⟨_, rfl⟩ | exact Or.inr (Or.inl rfl)
    · exact Or.inr (Or.inr rfl)
  · exact Or.inl ⟨_, rfl⟩

theorem fileServices_inv (h : fileServices fs f = some S) :
    ∃ doc, fsLookup f fs = some (.ok doc false) ∧ lookup "services" doc = some (.map S) := by
  unfold fileServices at h
  split at h <;> try cases h
  split at h <;> cases h
  exact ⟨_, ‹_›, ‹_›⟩

theorem baseFromFile_cases (fs : FS) (f ref : String) :
    (∃ S, baseFromFile fs f ref = .ok S ∧ fileServices fs f = some S ∧ lookup ref S ≠ none) ∨
    (∃ s, baseFromFile fs f ref = .panic s ∧ fsPanics fs f s) ∨
    (∃ c, baseFromFile fs f ref = .err c ∧ (c = "circular" → fsLookup f fs = some (.err c))) := by
  unfold baseFromFile fileServices
  split
  · exact Or.inr (Or.inr ⟨_, rfl, by simp⟩)
  · exact Or.inr (Or.inr ⟨_, rfl, fun _ => ‹_›⟩)
  · exact Or.inr (Or.inl ⟨_, rfl, _, ‹_›, rfl⟩)
  · rename_i doc rerr _
    split
    · exact Or.inr (Or.inr ⟨_, rfl, by simp⟩)
    · split
      · exact Or.inr (Or.inr ⟨_, rfl, by simp⟩)
      · cases rerr
        · exact Or.inl ⟨_, rfl, by simp only [*], by simp only [*]; nofun⟩
        · exact Or.inr (Or.inr ⟨_, rfl, by simp⟩)
    · exact Or.inr (Or.inr ⟨_, rfl, by simp⟩)
  · split
    · exact Or.inr (Or.inr ⟨_, rfl, by simp⟩)
    · split
      · exact Or.inr (Or.inr ⟨_, rfl, by simp⟩)
      · exact Or.inr (Or.inl ⟨_, rfl, _, ‹_›, rfl⟩)
    · exact Or.inr (Or.inr ⟨_, rfl, by simp⟩)

theorem baseFromFile_of_services (h : fileServices fs f = some S) (href : lookup ref S ≠ none) :
    baseFromFile fs f ref = .ok S := by
  obtain ⟨doc, hd, hs⟩ := fileServices_inv h
  cases hx : lookup ref S with
  | none => exact absurd hx href
  | some x => simp only [baseFromFile, hd, hs, hx]; rfl

theorem baseMap_none : baseMap E S ref none = some S' ↔ S' = S ∧ lookup ref S ≠ none := by
  cases h : lookup ref S <;> simp [baseMap, h, eq_comm]

theorem baseMap_some : baseMap E S ref (some f) = some S' ↔ fileServices E.fs f = some S' ∧ lookup ref S' ≠ none := by
  simp only [baseMap]
  cases hf : fileServices E.fs f with
  | none => simp
  | some S'' => cases h : lookup ref S'' <;> simp [h] <;> intro e <;> subst e <;> simp [h]

theorem resolveBase_cases (E : Env) (cf n ref : String) (file : Option String) (S : KVs) :
    (∃ S', resolveBase E cf n ref file S = .ok (S', (cf, n), file.isNone) ∧ baseMap E S ref file = some S') ∨
    (∃ s, resolveBase E cf n ref file S = .panic s ∧ ∃ f, fsPanics E.fs f s) ∨
    (∃ c, resolveBase E cf n ref file S = .err c ∧ (c = "circular" → ∃ f, fsLookup f E.fs = some (.err c))) := by
  cases file with
  | none =>
    simp only [resolveBase]
    cases h : lookup ref S with
    | none => exact Or.inr (Or.inr ⟨_, rfl, by simp⟩)
    | some x => exact Or.inl ⟨S, rfl, baseMap_none.mpr ⟨rfl, by simp [h]⟩⟩
  | some f =>
    simp only [resolveBase]
    rcases baseFromFile_cases E.fs f ref with ⟨S', h, h1, h2⟩ | ⟨s, h, hp⟩ | ⟨c, h, hc⟩ <;> rw [h]
    · exact Or.inl ⟨S', rfl, baseMap_some.mpr ⟨h1, h2⟩⟩
    · exact Or.inr (Or.inl ⟨s, rfl, f, hp⟩)
    · exact Or.inr (Or.inr ⟨c, rfl, fun e => ⟨f, hc e⟩⟩)

theorem resolveBase_of_baseMap (h : baseMap E S ref file = some S') :
    resolveBase E cf n ref file S = .ok (S', (cf, n), file.isNone) := by
  cases file with
  | none =>
    obtain ⟨rfl, href⟩ := baseMap_none.mp h
    cases hx : lookup ref S' with
    | none => exact absurd hx href
    | some x => simp only [resolveBase, hx]; rfl
  | some f =>
    obtain ⟨h1, h2⟩ := baseMap_some.mp h
    simp only [resolveBase, baseFromFile_of_services h1 h2]; rfl

theorem resolveBase_ok {key : Key} {same : Bool} (h : resolveBase E cf n ref file S = .ok (S', key, same)) :
    baseMap E S ref file = some S' ∧ key = (cf, n) ∧ same = file.isNone := by
  rcases resolveBase_cases E cf n ref file S with ⟨_, h', hb⟩ | ⟨_, h', _⟩ | ⟨_, h', _⟩ <;> rw [h'] at h <;> cases h
  exact ⟨hb, rfl, rfl⟩

/-- what `applySvc` does at a service before it recurses -/
inductive Step where
  | done (r : Out (Val × KVs))
  /-- service `svc` extends `ref` (of `file`); the base is to be resolved in `svcs`, and the key was not in the tracker -/
  | call (svc : KVs) (ref : String) (file : Option String) (svcs : KVs)

def step (E : Env) (cf n : String) (cur : KVs) (tr : List Key) : Step :=
  match lookup n cur with
  | none => .done (.ok (.null, cur))
  | some .null => .done (.ok (.null, cur))
  | some (.map svc) =>
    (match lookup "extends" svc with
    | none => .done (.ok (.map svc, cur))
    | some e =>
      match parseExtends e with
      | .panic s => .done (.panic s)
      | .err c => .done (.err c)
      | .ok (ref, file) =>
        match resolveBase E cf n ref file cur with
        | .panic s => .done (.panic s)
        | .err c => .done (.err c)
        | .ok (svcs, _, _) => if (cf, n) ∈ tr then .done (.err "circular") else .call svc ref file svcs)
  | some _ => .done (.err "serviceNotMapping")

/-- what `applySvc` makes of the outcome of the recursive call: merge the service's own attributes `svc` over the
resolved base, drop `extends`, and memoise the result under `n` on a same-file step -/
def finish (E : Env) (n : String) (svc cur : KVs) (same : Bool) : Out (Val × KVs) → Out (Val × KVs)
  | .panic s => .panic s
  | .err c => .err c
  | .ok (.null, svcs') => .ok (.map svc, if same then svcs' else cur)
  | .ok (.map b, svcs') =>
    (match E.extend b svc with
    | .panic s => .panic s
    | .err c => .err c
    | .ok m => .ok (.map (erase "extends" m), if same then insert n (.map (erase "extends" m)) svcs' else cur))
  | .ok _ => .panic panicSite

theorem applySvc_succ (E : Env) (fuel : Nat) (cf n : String) (cur : KVs) (tr : List Key) :
    applySvc E (fuel + 1) cf n cur tr =
      match step E cf n cur tr with
      | .done r => r
      | .call svc ref file svcs =>
        finish E n svc cur file.isNone (applySvc E fuel (nextFile cf file) ref svcs (tr ++ [(cf, n)])) := by
  simp only [applySvc]
  split
  · simp only [step, *]
  · simp only [step, *]
  · split
    · simp only [step, *]
    · split
      · simp only [step, *]
      · simp only [step, *]
      · split
        · simp only [step, *]
        · simp only [step, *]
        · obtain ⟨_, rfl, rfl⟩ := resolveBase_ok ‹_›
          by_cases hk : (cf, n) ∈ tr
          · simp only [step, trackerAdd, ↓reduceIte, *]
          · simp only [step, trackerAdd, ↓reduceIte, *]
            generalize applySvc E fuel _ _ _ _ = r
            cases r with
            | ok p => obtain ⟨base, svcs'⟩ := p; cases base <;> rfl
            | err c => rfl
            | panic s => rfl
  · rename_i v hnull hmap hv
    cases v with
    | null => exact absurd rfl hnull
    | map m => exact absurd rfl (hmap m)
    | _ => simp only [step, hv]

/-- service `n` of mapping `S` is `svc`, which extends `ref` (of `file`); the reference points into `S'` -/
def Ext (E : Env) (S : KVs) (n : String) (svc : KVs) (ref : String) (file : Option String) (S' : KVs) : Prop :=
  lookup n S = some (.map svc) ∧ (∃ e, lookup "extends" svc = some e ∧ parseExtends e = .ok (ref, file)) ∧
    baseMap E S ref file = some S'

theorem step_of_ext (h : Ext E cur n svc ref file svcs) (cf : String) (tr : List Key) :
    step E cf n cur tr = if (cf, n) ∈ tr then .done (.err "circular") else .call svc ref file svcs := by
  obtain ⟨h1, ⟨e, h2, h3⟩, h4⟩ := h
  simp only [step, h1, h2, h3, resolveBase_of_baseMap h4]

section finish
variable {same : Bool} {r : Out (Val × KVs)}

theorem finish_ok {v : Val} {cur' : KVs} (h : finish E n svc cur same r = .ok (v, cur')) :
    ∃ base svcs', r = .ok (base, svcs') ∧
      ((base = .null ∧ v = .map svc ∧ cur' = if same then svcs' else cur) ∨
       ∃ b m, base = .map b ∧ E.extend b svc = .ok m ∧ v = .map (erase "extends" m) ∧
         cur' = if same then insert n v svcs' else cur) := by
  unfold finish at h
  split at h <;> try cases h
  · exact ⟨_, _, rfl, Or.inl ⟨rfl, rfl, rfl⟩⟩
  · split at h <;> cases h
    exact ⟨_, _, rfl, Or.inr ⟨_, _, rfl, ‹_›, rfl, rfl⟩⟩

theorem finish_err {c : String} (h : finish E n svc cur same r = .err c) :
    r = .err c ∨ ∃ b, E.extend b svc = .err c := by
  unfold finish at h
  split at h <;> try cases h
  · exact Or.inl rfl
  · split at h <;> cases h
    exact Or.inr ⟨_, ‹_›⟩

theorem finish_panic {s : String} (hr : ∀ base svcs', r = .ok (base, svcs') → base = .null ∨ ∃ m, base = .map m)
    (h : finish E n svc cur same r = .panic s) : r = .panic s ∨ ∃ b, E.extend b svc = .panic s := by
  unfold finish at h
  split at h <;> try cases h
  · exact .inl rfl
  · split at h <;> cases h
    exact .inr ⟨_, ‹_›⟩
  · rename_i p hnull hmap
    rcases hr p.1 p.2 rfl with hb | ⟨m, hb⟩
    · exact (hnull p.2 (hb ▸ rfl)).elim
    · exact (hmap m p.2 (hb ▸ rfl)).elim

end finish

theorem applySvc_done {r : Out (Val × KVs)} (h : step E cf n cur tr = .done r) (fuel : Nat) :
    applySvc E (fuel + 1) cf n cur tr = r := by
  rw [applySvc_succ, h]

theorem applySvc_noext (h1 : lookup n cur = some (.map svc)) (h2 : lookup "extends" svc = none) :
    applySvc E (fuel + 1) cf n cur tr = .ok (.map svc, cur) :=
  applySvc_done (by simp only [step, h1, h2]) fuel

theorem applySvc_of_ext (h : Ext E cur n svc ref file svcs) (hk : (cf, n) ∉ tr) (fuel : Nat) :
    applySvc E (fuel + 1) cf n cur tr =
      finish E n svc cur file.isNone (applySvc E fuel (nextFile cf file) ref svcs (tr ++ [(cf, n)])) := by
  rw [applySvc_succ, step_of_ext h, if_neg hk]

theorem applySvc_of_ext_mem (h : Ext E cur n svc ref file svcs) (hk : (cf, n) ∈ tr) (fuel : Nat) :
    applySvc E (fuel + 1) cf n cur tr = .err "circular" :=
  applySvc_done (by rw [step_of_ext h, if_pos hk]) fuel

/-- every way one call of `applySvc` can go: nothing to do (absent, `null`, or no `extends`); a link that can be
followed — cut by the tracker, or followed and `finish`ed; an error — of the class `circular` only if a file is
reported with that class; a panic while loading a file -/
inductive OneCall (E : Env) (fuel : Nat) (cf n : String) (cur : KVs) (tr : List Key) : Out (Val × KVs) → Prop where
  | absent : lookup n cur = none ∨ lookup n cur = some .null → OneCall E fuel cf n cur tr (.ok (.null, cur))
  | noext {svc : KVs} : lookup n cur = some (.map svc) → lookup "extends" svc = none →
      OneCall E fuel cf n cur tr (.ok (.map svc, cur))
  | cut {svc : KVs} {ref : String} {file : Option String} {svcs : KVs} : Ext E cur n svc ref file svcs → (cf, n) ∈ tr → OneCall E fuel cf n cur tr (.err "circular")
  | call {svc : KVs} {ref : String} {file : Option String} {svcs : KVs} {r : Out (Val × KVs)} : Ext E cur n svc ref file svcs → (cf, n) ∉ tr →
      finish E n svc cur file.isNone (applySvc E fuel (nextFile cf file) ref svcs (tr ++ [(cf, n)])) = r →
      OneCall E fuel cf n cur tr r
  | err {c : String} : (c = "circular" → ∃ f, fsLookup f E.fs = some (.err c)) → OneCall E fuel cf n cur tr (.err c)
  | panic {s : String} : (∃ f, fsPanics E.fs f s) → OneCall E fuel cf n cur tr (.panic s)

theorem applySvc_spec {r : Out (Val × KVs)} (h : applySvc E (fuel + 1) cf n cur tr = r) : OneCall E fuel cf n cur tr r := by
  rw [applySvc_succ] at h
  generalize hst : step E cf n cur tr = st at h
  unfold step at hst
  split at hst
  · subst hst; exact h ▸ .absent (.inl ‹_›)
  · subst hst; exact h ▸ .absent (.inr ‹_›)
  · rename_i svc hsvc
    split at hst
    · subst hst; exact h ▸ .noext hsvc ‹_›
    · rename_i e he
      rcases parseExtends_cases e with ⟨⟨ref, file⟩, hp⟩ | hp | hp <;> simp only [hp] at hst
      · rcases resolveBase_cases E cf n ref file cur with ⟨svcs, hr, hb⟩ | ⟨s, hr, hf⟩ | ⟨c, hr, hc⟩ <;>
          simp only [hr] at hst
        · have hx : Ext E cur n svc ref file svcs := ⟨hsvc, ⟨e, he, hp⟩, hb⟩
          by_cases hk : (cf, n) ∈ tr
          · rw [if_pos hk] at hst; subst hst; exact h ▸ .cut hx hk
          · rw [if_neg hk] at hst; subst hst; exact .call hx hk h
        · subst hst; exact h ▸ .panic hf
        · subst hst; exact h ▸ .err hc
      · subst hst; exact h ▸ .err (by simp)
      · subst hst; exact h ▸ .err (by simp)
  · subst hst; exact h ▸ .err (by simp)

theorem applySvc_ok_shape {v : Val} {cur' : KVs} (h : applySvc E fuel cf n cur tr = .ok (v, cur')) :
    v = .null ∨ ∃ m, v = .map m := by
  cases fuel with
  | zero => cases h
  | succ fuel =>
    cases applySvc_spec h with
    | absent => exact .inl rfl
    | noext => exact .inr ⟨_, rfl⟩
    | call _ _ hr =>
      obtain ⟨_, _, _, ⟨_, hv, _⟩ | ⟨_, _, _, _, hv, _⟩⟩ := finish_ok hr <;> exact .inr ⟨_, hv⟩

end CV.Extends
