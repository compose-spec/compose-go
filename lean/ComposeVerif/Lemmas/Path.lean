import ComposeVerif.Model.Path
/-! `Path.Matches` on lists of parts; first-match lookup in a pairwise-exclusive rule table does not depend on the order of
the rows. -/
namespace CV.TPath

theorem overlap_symm : ∀ (p q : List String), overlap p q = overlap q p
  | [], [] => rfl
  | [], _ :: _ => rfl
  | _ :: _, [] => rfl
  | a :: as, b :: bs => by
    simp only [overlap, overlap_symm as bs]
    by_cases h1 : a = "*" <;> by_cases h2 : b = "*" <;> by_cases h3 : a = b <;>
      simp_all [eq_comm]

theorem overlap_of_both_match : ∀ (p q x : List String), pmatch p x = true → pmatch q x = true → overlap p q = true
  | [], [], [], _, _ => rfl
  | [], _ :: _, [], _, h => by simp [pmatch] at h
  | [], _, _ :: _, h, _ => by simp [pmatch] at h
  | _ :: _, _, [], h, _ => by simp [pmatch] at h
  | _ :: _, [], _ :: _, _, h => by simp [pmatch] at h
  | a :: as, b :: bs, c :: cs, h1, h2 => by
    simp only [pmatch, Bool.and_eq_true, Bool.or_eq_true, decide_eq_true_eq] at h1 h2
    simp only [overlap, Bool.and_eq_true, Bool.or_eq_true, decide_eq_true_eq]
    refine ⟨?_, overlap_of_both_match as bs cs h1.2 h2.2⟩
    rcases h1.1 with h | h
    · exact .inl (.inl h)
    · rcases h2.1 with h' | h'
      · exact .inl (.inr h')
      · exact .inr (h.trans h'.symm)

theorem pmatch_refl : ∀ (q : List String), pmatch q q = true
  | [] => rfl
  | a :: r => by simp [pmatch, pmatch_refl r]

theorem pmatch_length : ∀ (pat p : List String), pmatch pat p = true → pat.length = p.length
  | [], [], _ => rfl
  | [], _ :: _, h => by simp [pmatch] at h
  | _ :: _, [], h => by simp [pmatch] at h
  | a :: as, b :: bs, h => by
    simp only [pmatch, Bool.and_eq_true] at h
    simp [pmatch_length as bs h.2]

variable {α : Type}

theorem firstMatch_eq_of_mem {t : List (List String × α)} (hex : PairwiseExclusive t)
    {pat : List String} {h : α} (hm : (pat, h) ∈ t) {x : TPath} (hx : pmatch pat x = true) :
    firstMatch t x = some h := by
  induction t with
  | nil => cases hm
  | cons e r ih =>
    obtain ⟨p0, h0⟩ := e
    simp only [PairwiseExclusive, List.pairwise_cons] at hex
    simp only [firstMatch]
    rcases List.mem_cons.mp hm with heq | hr
    · cases heq; simp [hx]
    · by_cases hp : pmatch p0 x = true
      · have := hex.1 _ hr
        have ov := overlap_of_both_match p0 pat x hp hx
        simp only at this
        rw [ov] at this; cases this
      · simp only [hp]
        exact ih hex.2 hr

theorem firstMatch_none_iff {t : List (List String × α)} {x : TPath} :
    firstMatch t x = none ↔ ∀ e ∈ t, pmatch e.1 x = false := by
  induction t with
  | nil => simp [firstMatch]
  | cons e r ih =>
    obtain ⟨p0, h0⟩ := e
    simp only [firstMatch, List.mem_cons, forall_eq_or_imp]
    by_cases hp : pmatch p0 x = true
    · simp [hp]
    · simp only [hp, Bool.false_eq_true, if_false, ih]
      simp [Bool.not_eq_true _ |>.mp hp]

/-- the negative counterpart of `firstMatch_eq_of_mem` -/
theorem firstMatch_none_of_overlap {t : List (List String × α)} (pat : List String) {x : TPath}
    (hno : ∀ e ∈ t, overlap e.1 pat = false) (hx : pmatch pat x = true) : firstMatch t x = none := by
  refine firstMatch_none_iff.2 fun e he => ?_
  cases h : pmatch e.1 x with
  | false => rfl
  | true => have := hno e he; rw [overlap_of_both_match e.1 pat x h hx] at this; cases this

theorem firstMatch_some_mem {t : List (List String × α)} {x : TPath} {h : α}
    (hs : firstMatch t x = some h) : ∃ pat, (pat, h) ∈ t ∧ pmatch pat x = true := by
  induction t with
  | nil => simp [firstMatch] at hs
  | cons e r ih =>
    obtain ⟨p0, h0⟩ := e
    simp only [firstMatch] at hs
    by_cases hp : pmatch p0 x = true
    · simp only [hp, if_true, Option.some.injEq] at hs
      exact ⟨p0, by simp [hs], hp⟩
    · simp only [hp] at hs
      obtain ⟨pat, hm, hx⟩ := ih hs
      exact ⟨pat, List.mem_cons_of_mem _ hm, hx⟩

theorem pairwiseExclusive_perm {t t' : List (List String × α)} (hp : t'.Perm t)
    (hex : PairwiseExclusive t) : PairwiseExclusive t' := by
  unfold PairwiseExclusive at *
  exact (hp.pairwise_iff (fun {a b} (h : overlap a.1 b.1 = false) => by rw [overlap_symm]; exact h)).mpr hex

/-- **Go may range over a rule table in any order**: with pairwise-exclusive patterns the rule
applied at a path is the same for every iteration order. -/
theorem firstMatch_perm {t t' : List (List String × α)} (hex : PairwiseExclusive t)
    (hp : t'.Perm t) (x : TPath) : firstMatch t' x = firstMatch t x := by
  have hex' := pairwiseExclusive_perm hp hex
  cases h : firstMatch t x with
  | none =>
    rw [firstMatch_none_iff] at h ⊢
    intro e he
    exact h e (hp.subset he)
  | some v =>
    obtain ⟨pat, hm, hx⟩ := firstMatch_some_mem h
    exact firstMatch_eq_of_mem hex' (hp.symm.subset hm) hx

/-! The tables of the loader put `*` where a service, network or volume name stands (`services.*.…`): whatever is
written there, the row found is the same. -/

def secondAny : List String → Bool
  | _ :: b :: _ => b = "*"
  | _ => true

theorem pmatch_second_irrelevant {pat : List String} (h : secondAny pat = true) (a s s' : String) (r : List String) :
    pmatch pat (a :: s :: r) = pmatch pat (a :: s' :: r) := by
  match pat, h with
  | [], _ => rfl
  | [_], _ => rfl
  | _ :: b :: _, h =>
    have hb : b = "*" := by simpa [secondAny] using h
    simp [pmatch, hb]

theorem firstMatch_second_irrelevant {t : List (List String × α)} (h : ∀ e ∈ t, secondAny e.1 = true) (a s s' : String)
    (r : List String) : firstMatch t (a :: s :: r) = firstMatch t (a :: s' :: r) := by
  induction t with
  | nil => rfl
  | cons e t ih =>
    simp only [firstMatch, pmatch_second_irrelevant (h e (by simp)) a s s' r, ih fun e he => h e (by simp [he])]

end CV.TPath
