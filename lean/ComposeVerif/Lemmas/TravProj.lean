import ComposeVerif.Model.TravProj
import ComposeVerif.Lemmas.DepGraphProj
import ComposeVerif.Lemmas.TravRank
import ComposeVerif.Lemmas.TravSpec
/-!
# The graph `CollectInDependencyOrder` hands to `walk` satisfies `GraphOK`

`adjP p` is the adjacency `build` returns on success; `children (adjP p) = depAdj p`, `parents (adjP p)` is its converse
(service names are the keys of a Go map: duplicate-free), so for an accepted non-empty project `graphOf` is a `GraphOK`
graph in both directions and every theorem about `Trav.step?` applies to the walk of the project.  Then: acceptance and
the graph do not depend on the iteration order of the Go maps (`SameMaps`); chains of `depends_on` edges (`DependsVia`) as
prerequisite chains of that graph.
-/
namespace CV.TravProj
open CV.DepGraph CV.Trav

abbrev names (p : Proj) : List Name := p.services.map (·.name)

/-- the adjacency `build` returns when no required dependency is missing -/
def adjP (p : Proj) : List (Name × List Name) := p.services.map (fun s => (s.name, enabledDeps (names p) s))

theorem build_eq (p : Proj) {adj : List (Name × List Name)}
    (h : build (names p) p.disabled p.services [] = (none, adj)) : adj = adjP p := by
  have hb := (build_spec (names p) p.disabled p.services []).2 (by rw [h])
  rw [h] at hb
  exact hb.trans (List.nil_append _)

theorem children_adjP (p : Proj) : children (adjP p) = depAdj p := by
  funext v
  unfold children adjP
  rw [adjOf_map]
  rfl

theorem mem_parents_adjP (p : Proj) (v d : Name) :
    d ∈ parents (adjP p) v ↔ ∃ s ∈ p.services, s.name = d ∧ v ∈ enabledDeps (names p) s := by
  unfold parents adjP
  simp only [List.mem_map, List.mem_filter, List.contains_iff_mem]
  constructor
  · rintro ⟨a, ⟨⟨s, hs, rfl⟩, hv⟩, rfl⟩
    exact ⟨s, hs, rfl, hv⟩
  · rintro ⟨s, hs, rfl, hv⟩
    exact ⟨(s.name, enabledDeps (names p) s), ⟨⟨s, hs, rfl⟩, hv⟩, rfl⟩

/-- `dest.parents[name] = src` is written exactly when `src.children[dep] = dest` is -/
theorem parents_of_depAdj (p : Proj) {v d : Name} (h : v ∈ depAdj p d) : d ∈ parents (adjP p) v :=
  (mem_parents_adjP p v d).mpr (mem_depAdj h)

theorem depAdj_of_parents (p : Proj) (hnd : (names p).Nodup) {v d : Name} (h : d ∈ parents (adjP p) v) :
    v ∈ depAdj p d := by
  rw [mem_parents_adjP] at h
  obtain ⟨s, hs, rfl, hv⟩ := h
  unfold depAdj
  rw [find_of_nodup p.services hnd s hs]
  exact hv

theorem mem_parents_iff (p : Proj) (hnd : (names p).Nodup) (v d : Name) :
    d ∈ parents (adjP p) v ↔ v ∈ depAdj p d :=
  ⟨depAdj_of_parents p hnd, parents_of_depAdj p⟩

theorem parents_mem_names (p : Proj) {v d : Name} (h : d ∈ parents (adjP p) v) : d ∈ names p := by
  rw [mem_parents_adjP] at h
  obtain ⟨s, hs, rfl, _⟩ := h
  exact List.mem_map.mpr ⟨s, hs, rfl⟩

/-- the hypothesis of every traversal theorem holds for what `newGraph` + `checkCycle` accept, in both directions and
for every root selection -/
theorem graphOf_ok (p : Proj) (hnd : (names p).Nodup) (hne : names p ≠ [])
    (hc : checkCycle (names p) (depAdj p) = false) (inverse : Bool) (after : List Name) :
    GraphOK (graphOf (names p) (adjP p) inverse after) := by
  obtain ⟨rk, hrk, hle⟩ := ranked_of_checkCycle_false (depAdj p) (names p) (depAdj_closed p) hc
  cases inverse with
  | false =>
    refine ⟨hnd, hne, ?_, ?_, ?_, ⟨rk, ?_⟩⟩
    · intro v hv d hd
      simp only [graphOf, Bool.false_eq_true, if_false, children_adjP] at hd
      exact depAdj_closed p v hv d hd
    · intro v _ d hd
      simp only [graphOf, Bool.false_eq_true, if_false] at hd
      exact parents_mem_names p hd
    · intro v _ d hd
      simp only [graphOf, Bool.false_eq_true, if_false, children_adjP] at hd ⊢
      exact parents_of_depAdj p hd
    · intro v hv d hd
      simp only [graphOf, Bool.false_eq_true, if_false, children_adjP] at hd
      exact hrk v hv d hd
  | true =>
    refine ⟨hnd, hne, ?_, ?_, ?_, ⟨fun v => (names p).length - rk v, ?_⟩⟩
    · intro v _ d hd
      simp only [graphOf, if_true] at hd
      exact parents_mem_names p hd
    · intro v hv d hd
      simp only [graphOf, if_true, children_adjP] at hd
      exact depAdj_closed p v hv d hd
    · intro v _ d hd
      simp only [graphOf, if_true, children_adjP] at hd ⊢
      exact depAdj_of_parents p hnd hd
    · intro v _ d hd
      simp only [graphOf, if_true] at hd
      have hdv := parents_mem_names p hd
      have := hrk d hdv v (depAdj_of_parents p hnd hd)
      have h1 := hle d
      have h2 := hle v
      show (names p).length - rk d < (names p).length - rk v
      omega

/-- two association-list renderings of the same Go maps: the same services (by name), each with the same `depends_on`
entries, in any order -/
def SameMaps (p q : Proj) : Prop :=
  (∀ s ∈ p.services, ∃ t ∈ q.services, t.name = s.name ∧ ∀ d, d ∈ s.deps ↔ d ∈ t.deps) ∧
  (∀ t ∈ q.services, ∃ s ∈ p.services, s.name = t.name ∧ ∀ d, d ∈ s.deps ↔ d ∈ t.deps)

theorem SameMaps.symm {p q : Proj} (h : SameMaps p q) : SameMaps q p :=
  ⟨fun t ht => by obtain ⟨s, hs, hn, hd⟩ := h.2 t ht; exact ⟨s, hs, hn, fun d => (hd d).symm⟩,
   fun s hs => by obtain ⟨t, ht, hn, hd⟩ := h.1 s hs; exact ⟨t, ht, hn, fun d => (hd d).symm⟩⟩

theorem SameMaps.names_sub {p q : Proj} (h : SameMaps p q) : ∀ v, v ∈ names p → v ∈ names q := by
  intro v hv
  obtain ⟨s, hs, rfl⟩ := List.mem_map.mp hv
  obtain ⟨t, ht, hn, _⟩ := h.1 s hs
  exact List.mem_map.mpr ⟨t, ht, hn⟩

theorem SameMaps.depAdj_sub {p q : Proj} (hq : (names q).Nodup) (h : SameMaps p q)
    (v c : Name) (hc : c ∈ depAdj p v) : c ∈ depAdj q v := by
  rw [mem_depAdj_iff q hq]
  obtain ⟨s, hs, hn, hc⟩ := mem_depAdj hc
  obtain ⟨⟨d, hd, rfl⟩, hen⟩ := mem_enabledDeps_iff.mp hc
  obtain ⟨t, ht, hn', hdeps⟩ := h.1 s hs
  exact ⟨t, ht, hn'.trans hn, ⟨d, (hdeps d).mp hd, rfl⟩, h.names_sub _ hen⟩

theorem Reaches.mono {adj adj' : Name → List Name} (h : ∀ v c, c ∈ adj v → c ∈ adj' v) {n : Nat} {a b : Name}
    (hr : Reaches adj n a b) : Reaches adj' n a b := by
  induction hr with
  | one hb => exact .one (h _ _ hb)
  | step hc _ ih => exact .step (h _ _ hc) ih

theorem accepted_sub {p q : Proj} (hp : (names p).Nodup) (h : SameMaps p q)
    (hok : (run p).cls = "ok") : (run q).cls = "ok" := by
  rw [accepted_iff] at hok ⊢
  obtain ⟨hreq, hacyc⟩ := hok
  constructor
  · intro t ht d hd hr
    obtain ⟨s, hs, _, hdeps⟩ := h.2 t ht
    exact h.names_sub _ (hreq s hs d ((hdeps d).mpr hd) hr)
  · intro v hv n hn
    exact hacyc v (h.symm.names_sub v hv) n (Reaches.mono (h.symm.depAdj_sub hp) hn)

/-- `a` depends on `b` through a chain `a → m₁ → … → b` of `depends_on` edges between enabled services whose
intermediate services satisfy `vis` (are visited, i.e. not skipped by the root selection) -/
inductive DependsVia (p : Proj) (vis : Name → Prop) : Name → Name → Prop
  | one {a b : Name} : b ∈ depAdj p a → DependsVia p vis a b
  | cons {a m b : Name} : m ∈ depAdj p a → vis m → DependsVia p vis m b → DependsVia p vis a b

theorem preChain_of_dependsVia_fwd {p : Proj} {g : Graph} (hpre : ∀ v d, d ∈ g.pre v ↔ d ∈ depAdj p v) {a b : Name}
    (hc : DependsVia p (fun m => g.skip m = false) a b) : PreChain g b a := by
  induction hc with
  | one hab => exact .one ((hpre _ _).mpr hab)
  | cons ham hvis _ ih => exact .cons ih hvis ((hpre _ _).mpr ham)

theorem preChain_of_dependsVia_rev {p : Proj} {g : Graph} (hpre : ∀ v d, d ∈ g.pre v ↔ v ∈ depAdj p d) {a b : Name}
    (hc : DependsVia p (fun m => g.skip m = false) a b) : PreChain g a b := by
  induction hc with
  | one hab => exact .one ((hpre _ _).mpr hab)
  | cons ham hvis _ ih => exact preChain_left ((hpre _ _).mpr ham) hvis ih

end CV.TravProj
