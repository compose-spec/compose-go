import ComposeVerif.Lemmas.C02StageCanonical
import ComposeVerif.Lemmas.C02StageValidate
import ComposeVerif.Lemmas.C02StageInterp
import ComposeVerif.Lemmas.C02StageDefaults
import ComposeVerif.Lemmas.C02StagePaths
/-!
### composing the stage theorems: a pipeline of stages that each respect `Eqv` respects `Eqv`

A stage is a partial function on trees (`none` = the stage failed, whatever the error).  `WFAlong` says that the
input and every intermediate tree has distinct keys at every mapping — true of every Go `map[string]any` by
construction, a hypothesis here because the models are association lists.

Defines `StageFn`, `Respects`, `runStages`, `WFAlong` and the five stages as `StageFn`s, which the statements of
`Props/C02Stages.lean` mention.  `Respects f` is `Resp Eqv id f` with the hypothesis unbundled: the result is compared in
`Eqv` only, so distinct keys of the intermediate trees have to be assumed (`WFAlong`); the composition of
`Props/C02Whole.lean` uses the `EW` form (`RespectsV`), in which they are part of the conclusion.
-/
namespace CV.Det.Stage
open CV CV.Deep
open CV.Val (lookup keys KVs)

abbrev StageFn := Val → Option Val

def Respects (f : StageFn) : Prop := ∀ v w, Eqv v w → WF v → WF w → ORel Eqv (f v) (f w)

/-- `for _, stage := range stages { tree, err = stage(tree); if err != nil { return err } }` -/
def runStages : List StageFn → Val → Option Val
  | [], v => some v
  | f :: r, v => (f v).bind (runStages r)

def WFAlong : List StageFn → Val → Prop
  | [], v => WF v
  | f :: r, v => WF v ∧ ∀ x, f v = some x → WFAlong r x

theorem WFAlong.wf : ∀ {fs : List StageFn} {v : Val}, WFAlong fs v → WF v
  | [], _, h => h
  | _ :: _, _, h => h.1

theorem runStages_respects (fs : List StageFn) (hall : ∀ f ∈ fs, Respects f) :
    ∀ v w, Eqv v w → WFAlong fs v → WFAlong fs w → ORel Eqv (runStages fs v) (runStages fs w) := by
  induction fs with
  | nil => intro v w h _ _; exact h
  | cons f r ih =>
    intro v w h hv hw
    have h1 := hall f List.mem_cons_self v w h hv.1 hw.1
    simp only [runStages]
    cases hx : f v <;> cases hy : f w <;> simp only [hx, hy, ORel, Option.bind] at h1 ⊢ <;> try exact h1.elim
    exact ih (fun g hg => hall g (List.mem_cons_of_mem _ hg)) _ _ h1 (hv.2 _ hx) (hw.2 _ hy)

def interpStage (c : CV.Interp.Cfg) (p : TPath) : StageFn := fun v => optI (CV.Interp.interp c p v)
def canonicalStage (ign : Bool) (p : TPath) : StageFn := fun v => optS (CV.Short.transform ign p v)
def validateStage : StageFn := fun v => if CV.Validate.validate v = .ok then some v else none
def defaultsStage (tbl : List (List String × String)) (p : TPath) : StageFn := fun v => optD (CV.C11.setDefaults tbl p v)
def pathsStage (t : CV.Paths.Table) (cfg : CV.Paths.Cfg) (p : TPath) : StageFn := fun v => optP (CV.Paths.walk t cfg p v)

theorem respects_interp (c : CV.Interp.Cfg) (p : TPath) : Respects (interpStage c p) :=
  fun _ _ h wv ww => interp_eqv c p h wv ww

theorem respects_canonical (ign : Bool) (p : TPath) (hp : NoExt p) : Respects (canonicalStage ign p) :=
  fun _ _ h wv ww => transform_eqv ign p hp h wv ww

theorem respects_validate : Respects validateStage := by
  intro v w h wv ww
  have := validate_eqv h wv ww
  unfold validateStage
  by_cases hv : CV.Validate.validate v = .ok
  · rw [if_pos hv, if_pos (this.mp hv)]; exact h
  · rw [if_neg hv, if_neg (fun hw => hv (this.mpr hw))]; trivial

theorem respects_defaults (tbl : List (List String × String)) (p : TPath) : Respects (defaultsStage tbl p) :=
  fun _ _ h wv ww => (setDefaults_ew tbl p ⟨h, wv, ww⟩).mono (fun _ _ e => e.1)

theorem respects_paths (t : CV.Paths.Table) (cfg : CV.Paths.Cfg) (p : TPath) : Respects (pathsStage t cfg p) :=
  fun _ _ h wv ww => (pathsWalk_ew t cfg p ⟨h, wv, ww⟩).mono (fun _ _ e => e.1)

end CV.Det.Stage
