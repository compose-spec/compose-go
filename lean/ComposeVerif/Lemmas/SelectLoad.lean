import ComposeVerif.Model.SelectLoad
import ComposeVerif.Lemmas.Select
/-! C15: the loader tail of `Model/SelectLoad.lean` by equations: what a successful `loadApply` is, and what its consistency
check (`checkDeps`, `depOffence`) says when it passes. -/
namespace CV.Sel

theorem loadApply_ok {p0 : Proj} {P : List String} {sc sr : Bool} {q : Proj} (hq : loadApply p0 P sc sr = .ok q) :
    q = withProfiles p0 P ∨ q = resolveEnabled (withProfiles p0 P) := by
  unfold loadApply at hq
  simp only [] at hq
  split at hq
  · cases hq
  · cases sr <;> simp at hq <;> simp [hq]

theorem loadApply_checked {p0 : Proj} {P : List String} {sr : Bool} {q : Proj} (hq : loadApply p0 P false sr = .ok q) :
    checkDeps (withProfiles p0 P) = none := by
  unfold loadApply at hq
  simp only [] at hq
  split at hq
  · cases hq
  · rename_i hn; simpa using hn

theorem depOffence_eq_false_iff (p : Proj) (d : String × Dep) :
    depOffence p d = false ↔ d.1 ∈ keys p.services ∨ (d.1 ∈ keys p.disabled ∧ d.2.required = false) := by
  unfold depOffence getService
  rw [has_eq]
  cases hs : lookup d.1 p.services with
  | some s => simp [keys_of_lookup hs]
  | none => by_cases hd : d.1 ∈ keys p.disabled <;> simp [lookup_eq_none.1 hs, hd]

theorem checkDeps_eq_none_iff (p : Proj) :
    checkDeps p = none ↔ ∀ kv ∈ p.services, ∀ d ∈ kv.2.deps, depOffence p d = false := by
  rw [checkDeps, List.head?_eq_none_iff, List.flatMap_eq_nil_iff]
  refine forall₂_congr fun kv _ => ?_
  rw [List.map_eq_nil_iff, List.filter_eq_nil_iff]
  exact forall₂_congr fun d _ => by rw [Bool.not_eq_true]

end CV.Sel
