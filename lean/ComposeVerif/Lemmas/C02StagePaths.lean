import ComposeVerif.Lemmas.C02Walk
import ComposeVerif.Lemmas.PathsTree
/-! `paths.ResolveRelativePaths` is a tree walk whose handlers are the seven resolvers.
Defines `optP`, `PRel`, which `Props/C02Stages.lean` mentions. -/
namespace CV.Det.Stage
open CV CV.Deep CV.Paths
open CV.Det.Whole (EW)
open CV.Val (lookup insert keys KVs)

def optP {α : Type} : CV.Paths.Out α → Option α
  | .ok a => some a
  | _ => none

theorem optP_some {α : Type} {x : CV.Paths.Out α} {a : α} : optP x = some a ↔ x = .ok a := by
  cases x <;> simp [optP]

theorem optP_map {α β : Type} (f : α → β) (x : CV.Paths.Out α) : optP (x.map f) = (optP x).map f := by
  cases x <;> rfl

def PRel {α : Type} (R : α → α → Prop) : CV.Paths.Out α → CV.Paths.Out α → Prop
  | .ok a, .ok b => R a b
  | .ok _, _ => False
  | _, .ok _ => False
  | _, _ => True

theorem PRel.iff_orel {α : Type} {R : α → α → Prop} {x y : CV.Paths.Out α} : PRel R x y ↔ ORel R (optP x) (optP y) := by
  cases x <;> cases y <;> exact Iff.rfl

theorem PRel.refl_str {x : CV.Paths.Out Str} : PRel (fun a b => a = b) x x := by
  cases x <;> simp [PRel]

theorem str_inv {s : String} {y : Val} (h : Eqv (.str s) y) : y = .str s := by cases h; rfl

theorem walkKVs_trav (t : Table) (cfg : Cfg) (p : TPath) (m : KVs) :
    optP (walkKVs t cfg p m) = travOpt (fun k v => optP (walk t cfg (TPath.next p k) v)) m := by
  induction m with
  | nil => simp [walkKVs, travOpt, optP]
  | cons hd tl ih =>
    obtain ⟨k, v⟩ := hd
    rw [walkKVs, travOpt, ← ih]
    cases walk t cfg (TPath.next p k) v <;> simp only [optP]
    cases walkKVs t cfg p tl <;> rfl

theorem walkSeq_trav (t : Table) (cfg : Cfg) (p : TPath) (xs : List Val) :
    optP (walkSeq t cfg p xs) = travList (fun v => optP (walk t cfg (TPath.next p "[]") v)) xs := by
  induction xs with
  | nil => simp [walkSeq, travList, optP]
  | cons v tl ih =>
    rw [walkSeq, travList, ← ih]
    cases walk t cfg (TPath.next p "[]") v <;> simp only [optP]
    cases walkSeq t cfg p tl <;> rfl

def pathsHandler (t : Table) (cfg : Cfg) (p : TPath) (v : Val) : Option (Option Val) :=
  (TPath.firstMatch t p).map (fun n => optP (applyResolver cfg n v))

theorem walk_step (t : Table) (cfg : Cfg) (p : TPath) (v : Val) :
    optP (walk t cfg p v) = walkStep (pathsHandler t cfg) TPath.next (fun p v => optP (walk t cfg p v)) p v := by
  cases v with
  | map kvs =>
    simp only [walk, walkStep, pathsHandler, ← walkKVs_trav, ← optP_map]
    cases TPath.firstMatch t p <;> rfl
  | seq xs =>
    simp only [walk, walkStep, pathsHandler, ← walkSeq_trav, ← optP_map]
    cases TPath.firstMatch t p <;> rfl
  | _ => simp only [walk, walkStep, pathsHandler]; cases TPath.firstMatch t p <;> rfl

theorem absPathList_trav (cfg : Cfg) (xs : List Val) :
    optP (absPathList cfg xs) = travList (fun v => optP (absPath cfg v)) xs := by
  induction xs with
  | nil => rfl
  | cons v tl ih =>
    rw [absPathList, travList, ← ih]
    cases absPath cfg v <;> simp only [optP]
    cases absPathList cfg tl <;> rfl

/-- `absPath` is itself a walk: strings are resolved, sequences walked, everything else refused -/
theorem absPath_ew (cfg : Cfg) : Resp EW optP (absPath cfg) := by
  intro v w e
  refine walk_rel treeRel_ew (h := fun _ v => match v with
      | .str s => some (some (.str (String.ofList (absPathStr cfg s.toList))))
      | .seq _ => none
      | _ => some none)
    (nk := fun p _ => p) (w := fun _ v => optP (absPath cfg v)) (fun _ => True) (fun _ _ _ => trivial) ?_ ?_ e [] trivial
  · intro _ v _
    cases v with
    | seq xs => simp only [absPath, walkStep, ← absPathList_trav, optP_map]
    | _ => rfl
  · intro _ v v' _ e
    cases e.1 with
    | str s => exact EW.refl (.str _)
    | _ => trivial

theorem onStr_ew (f : Str → CV.Paths.Out Str) : Resp EW optP (onStr f) := by
  intro v w e
  cases e.1 with
  | str s => simp only [onStr]; cases f s.toList <;> first | exact EW.refl (.str _) | trivial
  | _ => trivial

theorem maybeUnixPath_ew (cfg : Cfg) : Resp EW optP (maybeUnixPath cfg) := fun v w e => by
  rw [maybeUnixPath_eq, maybeUnixPath_eq]; exact onStr_ew _ v w e

theorem absSymbolicLink_ew (cfg : Cfg) : Resp EW optP (absSymbolicLink cfg) := by
  intro v w e
  have h := absPath_ew cfg v w e
  unfold absSymbolicLink
  cases hx : absPath cfg v <;> cases hy : absPath cfg w <;> rw [hx, hy] at h <;> first | exact h.elim | trivial | skip
  cases h.1 with
  | str s => simp only []; cases cfg.sym s.toList <;> first | exact EW.refl (.str _) | trivial
  | _ => exact h

theorem absVolumeMount_ew (cfg : Cfg) : Resp EW optP (absVolumeMount cfg) := by
  intro v w e
  cases e.1 with
  | @map a b _ _ =>
    have hm := EW.map_iff.mp e
    simp only [absVolumeMount]
    rcases hm.lookup_eq_or "type" with ht | ⟨_, _, h1, h2⟩ | ⟨_, _, h1, h2⟩
    · rw [ht]; split
      · rcases hm.lookup_eq_or "source" with hs | ⟨_, _, h1, h2⟩ | ⟨_, _, h1, h2⟩
        · rw [hs]; split
          · trivial
          · simp only [optP_map]
            cases maybeUnixStr cfg _ <;> first | exact EW.map_iff.mpr (hm.insert "source" (EW.refl (.str _))) | trivial
          · trivial
        · rw [h1, h2]; trivial
        · rw [h1, h2]; trivial
      · exact e
    · rw [h1, h2]; exact e
    · rw [h1, h2]; exact e
  | _ => exact e

theorem volumeDriverOpts_ew (cfg : Cfg) : Resp EW optP (volumeDriverOpts cfg) := by
  intro v w e
  cases e.1 with
  | null => exact e
  | @map a b _ _ =>
    have hm := EW.map_iff.mp e
    simp only [volumeDriverOpts]
    rcases hm.lookup_eq_or "driver" with hd | ⟨_, _, h1, h2⟩ | ⟨_, _, h1, h2⟩
    · rw [hd]; split
      · rcases (hm.lookups "driver_opts").none_or_some with ⟨h1, h2⟩ | ⟨z, z', h1, h2, ezz⟩ <;> rw [h1, h2]
        · exact e
        · cases ezz.1 with
          | null => exact e
          | @map o o' _ _ =>
            have ho := EW.map_iff.mp ezz
            simp only []
            rcases ho.lookup_eq_or "o" with hq | ⟨_, _, h1, h2⟩ | ⟨_, _, h1, h2⟩
            · rw [hq]
              rcases (ho.lookups "device").none_or_some with ⟨h1, h2⟩ | ⟨d, d', h1, h2, edd⟩ <;> rw [h1, h2]
              · split <;> first | exact e | contradiction
              · split
                · rename_i h3 h4; cases h4
                  simp only [h3, optP_map]
                  exact (maybeUnixPath_ew cfg _ _ edd).map fun u u' huu =>
                    EW.map_iff.mpr (hm.insert "driver_opts" (EW.map_iff.mpr (ho.insert "device" huu)))
                · rename_i hne; split
                  · rename_i h3 h4; exact (hne _ h3 rfl).elim
                  · exact e
            · rw [h1, h2]; exact e
            · rw [h1, h2]; exact e
          | _ => trivial
      · exact e
    · rw [h1, h2]; exact e
    · rw [h1, h2]; exact e
  | _ => trivial

theorem applyResolver_ew (cfg : Cfg) (n : String) : Resp EW optP (applyResolver cfg n) :=
  applyResolver_rec (motive := fun f => Resp EW optP (f cfg)) n (absPath_ew cfg)
    (fun v w e => by rw [absContextPath_eq, absContextPath_eq]; exact onStr_ew _ v w e)
    (fun v w e => by rw [absExtendsPath_eq, absExtendsPath_eq]; exact onStr_ew _ v w e)
    (absSymbolicLink_ew cfg) (absVolumeMount_ew cfg) (maybeUnixPath_ew cfg) (volumeDriverOpts_ew cfg)
    (fun _ _ _ _ => trivial)

theorem pathsWalk_ew (t : Table) (cfg : Cfg) (p : TPath) {v w : Val} (h : EW v w) :
    ORel EW (optP (walk t cfg p v)) (optP (walk t cfg p w)) := by
  refine walk_rel treeRel_ew (fun _ => True) (fun _ _ _ => trivial) (fun p v _ => walk_step t cfg p v) ?_ h p trivial
  intro p v v' _ e
  unfold pathsHandler
  cases TPath.firstMatch t p with
  | none => trivial
  | some n => exact applyResolver_ew cfg n v v' e

theorem pathsWalk_eqv (t : Table) (cfg : Cfg) (p : TPath) {v w : Val} (h : Eqv v w) (wv : WF v) (ww : WF w) :
    PRel Eqv (walk t cfg p v) (walk t cfg p w) :=
  PRel.iff_orel.mpr ((pathsWalk_ew t cfg p ⟨h, wv, ww⟩).mono (fun _ _ e => e.1))

end CV.Det.Stage
