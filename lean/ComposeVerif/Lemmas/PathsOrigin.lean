import ComposeVerif.Model.PathsOrigin
import ComposeVerif.Lemmas.PathsStr
/-! The path arithmetic of the origin model (C12): `filepath.Rel` inverts `Join` (`rel_join`: `Join(base, Rel(base, targ)) =
Clean(targ)` for absolute paths), hence what `localResourceLoader.Dir` returns is a non-empty relative path that joins back
onto the loader's directory (`loaderDir_of_file`, `loaderDir_of_dir`); `resolveKind` is total and composes over two stages. -/
namespace CV.Paths

theorem comps_norm_of_abs (p : Str) (h : isAbs p = true) : ∀ c ∈ comps p, Norm c := by
  intro c hc
  have hv := cleanStack_valid p
  rw [h] at hv
  obtain ⟨k, ns, he, hn, hk⟩ := hv
  rw [hk rfl, List.replicate_zero, List.append_nil] at he
  exact hn c (he ▸ List.mem_reverse.mp hc)

theorem comps_noSlash (p : Str) : ∀ c ∈ comps p, '/' ∉ c := fun c hc =>
  cleanStack_noSlash p c (List.mem_reverse.mp hc)

theorem relC_spec : ∀ (B T : List Str), (∀ c ∈ B, c ≠ dotdot) →
    ∃ C B' T', B = C ++ B' ∧ T = C ++ T' ∧ relC B T = some (List.replicate B'.length dotdot ++ T')
  | [], T, _ => ⟨[], [], T, rfl, rfl, rfl⟩
  | b :: B, [], h => ⟨[], b :: B, [], rfl, rfl, by simp [relC, h b (by simp)]⟩
  | b :: B, t :: T, h => by
    by_cases hbt : b = t
    · obtain ⟨C, B', T', h1, h2, h3⟩ := relC_spec B T (fun c hc => h c (by simp [hc]))
      exact ⟨b :: C, B', T', by rw [h1]; rfl, by rw [h2, hbt]; rfl, by simp only [relC, hbt, if_true, h3]⟩
    · exact ⟨[], b :: B, t :: T, rfl, rfl, by simp [relC, hbt, h b (by simp)]⟩

theorem foldl_pop (r : Bool) (B' S : List Str) (hn : ∀ x ∈ B', Norm x) :
    (List.replicate B'.length dotdot).foldl (step r) (B'.reverse ++ S) = S := by
  induction B' using rev_ind with
  | h0 => simp
  | h1 B'' x ih =>
    have hx := hn x (by simp)
    simp only [List.length_append, List.length_singleton, List.replicate_succ, List.reverse_append,
      List.reverse_singleton, List.cons_append, List.foldl_cons]
    rw [step_dotdot_cons, if_neg hx.2.2]
    exact ih (fun y hy => hn y (by simp [hy]))

theorem joinSlash_rel_head (L : List Str) (hne : L ≠ []) (hp : ∀ c ∈ L, c ≠ []) (hs : ∀ c ∈ L, '/' ∉ c) :
    joinSlash L ≠ [] ∧ isAbs (joinSlash L) = false := by
  have h1 := joinSlash_head_not_slash L hp hs
  cases L with
  | nil => exact absurd rfl hne
  | cons a r =>
    constructor
    · intro e
      have := head?_joinSlash_cons a r (hp a (by simp))
      rw [e] at this
      cases a with
      | nil => exact hp [] (by simp) rfl
      | cons ch t => cases this
    · simpa [isAbs] using h1

theorem rel_join (b t : Str) (hb : isAbs b = true) (ht : isAbs t = true) :
    ∃ r, rel b t = some r ∧ r ≠ [] ∧ isAbs r = false ∧ join b r = clean t := by
  have hbne := abs_ne_nil b hb
  have hBn := comps_norm_of_abs b hb
  have hTn := comps_norm_of_abs t ht
  -- joining slash-free components `L` onto `b` feeds them to the machine that has read `b`
  have hjoin : ∀ L : List Str, L ≠ [] → (∀ c ∈ L, '/' ∉ c) →
      L.foldl (step true) (comps b).reverse = (comps t).reverse → join b (joinSlash L) = clean t := by
    intro L hne hs hf
    rw [join_of_ne b _ hbne]
    refine clean_congr (by rw [isAbs_append _ _ hbne, hb, ht]) ?_
    rw [cleanStack_append _ _ hbne, splitSlash_joinSlash L hne hs, hb]
    simpa [comps] using hf
  unfold rel
  simp only [hb, ht, bne_self_eq_false, Bool.false_eq_true, if_false]
  by_cases heq : comps b = comps t
  · simp only [heq, if_true]
    exact ⟨dot, rfl, by simp [dot], by simp [isAbs, dot],
      hjoin [dot] (by simp) (by simp [dot]) (by rw [heq]; exact step_skip true _ dot (.inr rfl))⟩
  · simp only [heq, if_false, Bool.not_true, Bool.false_and]
    obtain ⟨C, B', T', e1, e2, hL⟩ := relC_spec (comps b) (comps t) (fun c hc => (hBn c hc).2.2)
    have hB'n : ∀ x ∈ B', Norm x := fun x hx => hBn x (by rw [e1]; simp [hx])
    have hT'n : ∀ x ∈ T', Norm x := fun x hx => hTn x (by rw [e2]; simp [hx])
    have hLne : List.replicate B'.length dotdot ++ T' ≠ [] := by
      intro e
      obtain ⟨eb, et⟩ := List.append_eq_nil_iff.mp e
      rw [List.replicate_eq_nil_iff, List.length_eq_zero_iff] at eb
      exact heq (by rw [e1, e2, eb, et])
    have hLs : ∀ c ∈ List.replicate B'.length dotdot ++ T', '/' ∉ c := by
      intro c hc
      rcases List.mem_append.mp hc with h | h
      · rw [List.eq_of_mem_replicate h]; simp [dotdot]
      · exact comps_noSlash t c (by rw [e2]; simp [h])
    have hLp : ∀ c ∈ List.replicate B'.length dotdot ++ T', c ≠ [] := by
      intro c hc
      rcases List.mem_append.mp hc with h | h
      · rw [List.eq_of_mem_replicate h]; exact dotdot_ne_nil
      · exact (hT'n c h).1
    have hj := joinSlash_rel_head _ hLne hLp hLs
    refine ⟨_, by simp only [Bool.false_eq_true, if_false, hL, Option.map_some], hj.1, hj.2, hjoin _ hLne hLs ?_⟩
    rw [List.foldl_append, e1, List.reverse_append, foldl_pop true B' _ hB'n, foldl_step_norms true T' _ hT'n, e2,
      List.reverse_append]

theorem isAbs_absIn (lw p : Str) (h : isAbs lw = true) : isAbs (absIn lw p) = true := by
  unfold absIn
  split
  · assumption
  · exact isAbs_join lw p h

theorem loaderDir_of_file (isDir : Str → Bool) (lw orig : Str) (hlw : isAbs lw = true)
    (hnd : isDir (absIn lw orig) = false) :
    loaderDir isDir lw orig ≠ [] ∧ isAbs (loaderDir isDir lw orig) = false ∧
      join lw (loaderDir isDir lw orig) = clean (absIn lw (dir orig)) := by
  obtain ⟨r, hr, h1, h2, h3⟩ := rel_join lw (absIn lw (dir orig)) hlw (isAbs_absIn lw _ hlw)
  have : loaderDir isDir lw orig = r := by simp [loaderDir, hnd, hr]
  rw [this]; exact ⟨h1, h2, h3⟩

theorem loaderDir_of_dir (isDir : Str → Bool) (lw orig : Str) (hlw : isAbs lw = true)
    (hd : isDir (absIn lw orig) = true) :
    loaderDir isDir lw orig ≠ [] ∧ isAbs (loaderDir isDir lw orig) = false ∧
      join lw (loaderDir isDir lw orig) = clean (absIn lw orig) := by
  obtain ⟨r, hr, h1, h2, h3⟩ := rel_join lw (absIn lw orig) hlw (isAbs_absIn lw _ hlw)
  have : loaderDir isDir lw orig = r := by simp [loaderDir, hd, hr]
  rw [this]; exact ⟨h1, h2, h3⟩

theorem absIn_of_abs (lw p : Str) (h : isAbs p = true) : absIn lw p = p := by simp [absIn, h]

/-- the exemption test of a `Nat`-indexed attribute kind -/
def preK : Nat → Str → Bool
  | 1 => urlLike
  | _ => fun _ => false

/-- `resolveKind` is `resolveWith` too (kinds 0 paths, 1 contexts, ≥ 2 mounts) -/
theorem resolveKind_eq (k : Nat) (cfg : Cfg) (s : Str) :
    resolveKind k cfg s = .ok (resolveWith (preK k) (decide (2 ≤ k)) cfg s) := by
  match k with
  | 0 => exact congrArg Out.ok (absPathStr_eq cfg s)
  | 1 => exact congrArg Out.ok (absContextStr_eq cfg s)
  | k + 2 => exact (maybeUnixStr_eq cfg s).trans (by simp [preK])

theorem resolveKind_total (k : Nat) (cfg : Cfg) (s : Str) : ∃ r, resolveKind k cfg s = .ok r := ⟨_, resolveKind_eq k cfg s⟩

theorem resolveKind_compose (k : Nat) (cfg : Cfg) (R W s m : Str) (hW : W ≠ []) (hR : R ≠ []) (hRr : isAbs R = false)
    (h : resolveKind k { cfg with wd := R } s = .ok m) :
    resolveKind k { cfg with wd := W } m = resolveKind k { cfg with wd := join W R } s := by
  match k with
  | 0 => cases h; exact congrArg Out.ok (absPathStr_compose cfg.home cfg.remote cfg.sym W R hW hR hRr s)
  | 1 => cases h; exact congrArg Out.ok (absContextStr_compose cfg.home cfg.remote cfg.sym W R hW hR hRr s)
  | k + 2 => exact maybeUnixStr_compose cfg.home cfg.remote cfg.sym W R hW hR hRr s m h

end CV.Paths
