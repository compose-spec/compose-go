import ComposeVerif.Lemmas.ShortStr
import ComposeVerif.Spec.Short
/-! Lemmas for the port short syntax: cutting a rendered AST into its sections, parsing its numbers (C03). -/
namespace CV.Short
open CV.Short.Spec

theorem Num.render_ne_nil (n : Num) : n.render ≠ [] := by
  simp [Num.render, natToDec_ne_nil]

theorem Num.render_digits (n : Num) : ∀ x ∈ n.render, x.isDigit = true := by
  intro x hx
  simp only [Num.render, List.mem_append, List.mem_replicate] at hx
  rcases hx with ⟨_, hx⟩ | hx
  · subst hx; decide
  · exact natToDec_digits _ x hx

theorem digit_ne {x : Char} (h : x.isDigit = true) : x ≠ '-' ∧ x ≠ ':' ∧ x ≠ '/' := by
  refine ⟨?_, ?_, ?_⟩ <;> (intro he; subst he; revert h; decide)

theorem parseUint16_num (n : Num) : parseUint16 n.render = if n.val ≤ 65535 then some n.val else none := by
  simp only [parseUint16, Num.render_ne_nil, if_false]
  simp only [Num.render, parseDecAux_zeros, parseDecAux_natToDec]

theorem Range.render_ne_nil (r : Range) : r.render ≠ [] := by
  cases h : r.hi with
  | none => simp [Range.render, h, Num.render_ne_nil]
  | some x => simp [Range.render, h]

theorem Range.render_clean (r : Range) : ∀ x ∈ r.render, x ≠ ':' ∧ x ≠ '/' := by
  intro x hx
  cases h : r.hi with
  | none =>
    simp only [Range.render, h] at hx
    exact (digit_ne (Num.render_digits _ x hx)).2
  | some y =>
    simp only [Range.render, h, List.mem_append, List.mem_cons] at hx
    rcases hx with hx | hx | hx
    · exact (digit_ne (Num.render_digits _ x hx)).2
    · subst hx; decide
    · exact (digit_ne (Num.render_digits _ x hx)).2

theorem parsePortRange_bounds (r : Range) :
    parsePortRange r.render =
      if r.lo.val ≤ 65535 ∧ r.last ≤ 65535 ∧ r.lo.val ≤ r.last then some (r.lo.val, r.last) else none := by
  obtain ⟨lo, hi⟩ := r
  cases hi with
  | none =>
    have hnd : lo.render.contains '-' = false :=
      (contains_false_iff _ _).2 (fun x hx => (digit_ne (Num.render_digits _ x hx)).1)
    simp only [parsePortRange, Range.render, Num.render_ne_nil, if_false, hnd, Range.last]
    by_cases h : lo.val ≤ 65535 <;> simp [parseUint16_num, h]
  | some hi =>
    have hc : (lo.render ++ '-' :: hi.render).contains '-' = true := by simp
    have hsplit : splitOn '-' (lo.render ++ '-' :: hi.render) = [lo.render, hi.render] := by
      rw [splitOn_append _ _ _ (fun x hx => (digit_ne (Num.render_digits _ x hx)).1),
        splitOn_clean _ _ (fun x hx => (digit_ne (Num.render_digits _ x hx)).1)]
    simp only [parsePortRange, Range.render, hc, hsplit, Range.last]
    have hne : lo.render ++ '-' :: hi.render ≠ [] := by simp
    simp only [hne, if_false, Bool.not_true, Bool.false_eq_true]
    simp only [parseUint16_num]
    by_cases h1 : lo.val ≤ 65535
    · by_cases h2 : hi.val ≤ 65535
      · by_cases h3 : lo.val ≤ hi.val
        · have : ¬ hi.val < lo.val := by omega
          simp [h1, h2, h3, this]
        · have : hi.val < lo.val := by omega
          simp [h1, h2, h3, this]
      · simp [h1, h2]
    · simp [h1]

/-- `nat.ParsePortRange` on a rendered range -/
theorem parsePortRange_render (r : Range) :
    parsePortRange r.render = if r.wf = true then some (r.lo.val, r.last) else none := by
  rw [parsePortRange_bounds]
  by_cases h : r.wf = true
  · rw [if_pos h]
    simp only [Range.wf, Bool.and_eq_true, decide_eq_true_eq] at h
    rw [if_pos ⟨by omega, h.2, h.1⟩]
  · rw [if_neg h]
    simp only [Range.wf, Bool.and_eq_true, decide_eq_true_eq] at h
    rw [if_neg (by omega)]

/-- the last section: container range and optional protocol -/
def contSection (a : PortSpec) : Str := a.cont.render ++ (match a.proto with | none => [] | some p => '/' :: p)

def protoRaw (a : PortSpec) : Str := match a.proto with | none => ['t', 'c', 'p'] | some [] => ['t', 'c', 'p'] | some p => p

def protoSyn (a : PortSpec) : Bool := match a.proto with | none => true | some p => !p.contains ':' && !p.contains '/'

theorem contSection_clean (a : PortSpec) (h : protoSyn a = true) : ∀ x ∈ contSection a, x ≠ ':' := by
  intro x hx
  cases hp : a.proto with
  | none =>
    simp only [contSection, hp, List.append_nil] at hx
    exact (Range.render_clean _ x hx).1
  | some p =>
    simp only [contSection, hp, List.mem_append, List.mem_cons] at hx
    simp only [protoSyn, hp, Bool.and_eq_true, Bool.not_eq_true'] at h
    rcases hx with hx | hx | hx
    · exact (Range.render_clean _ x hx).1
    · subst hx; decide
    · exact (contains_false_iff _ _).1 h.1 x hx

theorem splitProtoPort_contSection (a : PortSpec) (h : protoSyn a = true) :
    splitProtoPort (contSection a) = (protoRaw a, a.cont.render) := by
  have hc : ∀ x ∈ a.cont.render, x ≠ '/' := fun x hx => (Range.render_clean _ x hx).2
  have hne := Range.render_ne_nil a.cont
  cases hp : a.proto with
  | none =>
    simp [contSection, protoRaw, hp, splitProtoPort, splitOn_clean _ _ hc, hne]
  | some p =>
    simp only [protoSyn, hp, Bool.and_eq_true, Bool.not_eq_true'] at h
    have hp' := (contains_false_iff _ _).1 h.2
    simp only [contSection, protoRaw, hp, splitProtoPort, splitOn_append _ _ _ hc, splitOn_clean _ _ hp', hne, if_false]
    cases p with
    | nil => simp
    | cons c r => simp

theorem splitHostColon_ip (i : IP) (h : i.wf = true) : splitHostColon i.render = some i.addr := by
  simp only [IP.wf, Bool.and_eq_true, Bool.not_eq_true', Bool.or_eq_true] at h
  obtain ⟨⟨⟨hv, h1⟩, h2⟩, h3⟩ := h
  have m1 : ¬ '[' ∈ i.addr := by simpa using h1
  have m2 : ¬ ']' ∈ i.addr := by simpa using h2
  by_cases hb : i.bracket = true
  · simp [IP.render, hb, splitHostColon, m1, m2]
  · have h3' : i.addr.contains ':' = false := by
      rcases h3 with h3 | h3
      · exact absurd h3 hb
      · exact h3
    simp only [IP.render, hb, Bool.false_eq_true, if_false]
    cases ha : i.addr with
    | nil => simp [splitHostColon]
    | cons c r =>
      have : c ≠ '[' := by
        have := (contains_false_iff _ _).1 h1 c (by simp [ha])
        exact this
      have m3 : ¬ ':' ∈ i.addr := by simpa using h3'
      rw [ha] at m1 m2 m3
      simp only [List.mem_cons, not_or] at m1 m2 m3
      unfold splitHostColon
      split
      · rename_i heq
        simp only [List.cons.injEq] at heq
        exact absurd heq.1 this
      · simp [m1, m2, m3]

theorem splitParts_prefix (x h c : Str) :
    splitParts (splitOn ':' x ++ [h, c]) = (x, h, c) := by
  have hj := joinWith_splitOn ':' x
  simp only [splitParts, List.reverse_append, List.reverse_cons, List.reverse_nil, List.nil_append, List.cons_append,
    List.reverse_reverse, hj]

def hostSection (a : PortSpec) : Str := match a.host with | none => [] | some h => h.render

/-- cutting a rendered spec: (rawIP, host, container/proto) -/
theorem splitParts_render (a : PortSpec) (h : protoSyn a = true) :
    splitParts (splitOn ':' a.render) =
      ((match a.ip with | none => [] | some i => i.render), hostSection a, contSection a) := by
  have hc := contSection_clean a h
  have hrender : a.render = match a.ip, a.host with
      | none, none => contSection a
      | none, some h => h.render ++ ':' :: contSection a
      | some i, none => i.render ++ ':' :: ':' :: contSection a
      | some i, some h => i.render ++ ':' :: h.render ++ ':' :: contSection a := by
    simp only [PortSpec.render, contSection]
    cases a.ip <;> cases a.host <;> rfl
  rw [hrender]
  cases hi : a.ip with
  | none =>
    cases hh : a.host with
    | none => simp [hostSection, hh, splitOn_clean _ _ hc, splitParts]
    | some r =>
      have hr : ∀ x ∈ r.render, x ≠ ':' := fun x hx => (Range.render_clean _ x hx).1
      simp [hostSection, hh, splitOn_append _ _ _ hr, splitOn_clean _ _ hc, splitParts, joinWith]
  | some i =>
    cases hh : a.host with
    | none =>
      simp only [hostSection, hh]
      have h2 : splitOn ':' (':' :: contSection a) = [[], contSection a] := by
        simp [splitOn, splitOn_clean _ _ hc]
      rw [splitOn_append_sep, h2]
      exact splitParts_prefix _ _ _
    | some r =>
      have hr : ∀ x ∈ r.render, x ≠ ':' := fun x hx => (Range.render_clean _ x hx).1
      simp only [hostSection, hh, List.append_assoc, List.cons_append]
      rw [splitOn_append_sep, splitOn_append _ _ _ hr, splitOn_clean _ _ hc]
      exact splitParts_prefix _ _ _

def ipAddr (a : PortSpec) : Str := match a.ip with | none => [] | some i => i.addr

theorem parsePortSpec_render (a : PortSpec) (hsyn : protoSyn a = true) (hip : ∀ i, a.ip = some i → i.wf = true) :
    parsePortSpec a.render = portCore (ipAddr a) (hostSection a) a.cont.render (protoRaw a) := by
  unfold parsePortSpec
  rw [splitParts_render a hsyn]
  simp only [splitProtoPort_contSection a hsyn]
  cases hi : a.ip with
  | none => simp [splitHostColon, ipAddr, hi]
  | some i => simp [splitHostColon_ip i (hip i hi), ipAddr, hi]

theorem insertByKey_perm (m : Mapping) (l : List Mapping) : (insertByKey m l).Perm (m :: l) := by
  induction l with
  | nil => exact List.Perm.refl _
  | cons x xs ih =>
    simp only [insertByKey]
    split
    · exact List.Perm.refl _
    · exact (List.Perm.cons x ih).trans (List.Perm.swap m x xs)

theorem sortByKey_perm (l : List Mapping) : (sortByKey l).Perm l := by
  induction l with
  | nil => exact List.Perm.refl _
  | cons x xs ih =>
    simp only [sortByKey, List.foldr_cons]
    exact (insertByKey_perm x _).trans (List.Perm.cons x ih)

theorem protoSyn_of_wf (a : PortSpec) (h : a.wf = true) : protoSyn a = true := by
  simp only [PortSpec.wf, Bool.and_eq_true] at h
  obtain ⟨_, hp⟩ := h
  cases hpr : a.proto with
  | none => simp [protoSyn, hpr]
  | some p =>
    simp only [hpr, Bool.and_eq_true] at hp
    have h1 := hp.1.2
    have h2 := hp.2
    simp only [Bool.not_eq_true'] at h1 h2
    have m1 : ¬ ':' ∈ p := by simpa using h1
    have m2 : ¬ '/' ∈ p := by simpa using h2
    simp [protoSyn, hpr, m1, m2]

theorem lower_protoRaw (a : PortSpec) : lower (protoRaw a) = protoOf a.proto := by
  cases hp : a.proto with
  | none => simp [protoRaw, protoOf, hp]; decide
  | some p =>
    cases p with
    | nil => simp [protoRaw, protoOf, hp]; decide
    | cons c r => simp [protoRaw, protoOf, hp]

theorem validProto_of_wf (a : PortSpec) (h : a.wf = true) : validProto (protoOf a.proto) = true := by
  simp only [PortSpec.wf, Bool.and_eq_true] at h
  obtain ⟨_, hp⟩ := h
  cases hpr : a.proto with
  | none => decide
  | some p =>
    simp only [hpr, Bool.and_eq_true, Bool.or_eq_true, decide_eq_true_eq] at hp
    cases p with
    | nil => decide
    | cons c r =>
      rcases hp.1.1 with h | h
      · cases h
      · simpa [protoOf] using h

/-- what `portCore` builds from the sections of a well-formed spec, before the sort -/
def portMappings (a : PortSpec) : List Mapping :=
  (List.range a.cont.size).map
    (mkMapping (ipAddr a) (protoOf a.proto) a.cont.lo.val
      (match a.host with | none => 0 | some r => r.lo.val) (match a.host with | none => 0 | some r => r.last)
      (a.host.isSome) (a.cont.lo.val = a.cont.last))

theorem portCore_wf (a : PortSpec) (h : a.wf = true) :
    portCore (ipAddr a) (hostSection a) a.cont.render (protoRaw a) = some (portMappings a) := by
  unfold portMappings
  -- every test of `portCore` passes by one conjunct of `wf`: address, container range, host range, range lengths, protocol
  have hvp := validProto_of_wf a h
  simp only [PortSpec.wf, Bool.and_eq_true] at h
  obtain ⟨⟨⟨hc, hh⟩, hi⟩, _⟩ := h
  have hipok : (ipAddr a ≠ [] && !validIP (ipAddr a)) = false := by
    cases hia : a.ip with
    | none => simp [ipAddr, hia]
    | some i =>
      simp only [hia, IP.wf, Bool.and_eq_true] at hi
      simp [ipAddr, hia, hi.1.1.1]
  unfold portCore
  rw [hipok]
  simp only [Bool.false_eq_true, if_false, Range.render_ne_nil, parsePortRange_render, hc, lower_protoRaw, hvp, if_true]
  cases hho : a.host with
  | none =>
    simp [hostSection, hho, Range.size]
  | some r =>
    simp only [hho, Bool.and_eq_true, decide_eq_true_eq, Bool.or_eq_true] at hh
    obtain ⟨hr, hsz⟩ := hh
    simp only [hostSection, hho, Range.render_ne_nil, if_false, parsePortRange_render, hr, if_true]
    simp only [Range.wf, Bool.and_eq_true, decide_eq_true_eq] at hc hr
    simp only [Range.size] at hsz
    simp only [Range.size, Range.render_ne_nil, ne_eq, not_false_eq_true, decide_true, Bool.true_and]
    simp
    intro hne
    omega


theorem cfg_mkMapping (a : PortSpec) (h : a.wf = true) (i : Nat) (hi : i < a.cont.size) :
    (mkMapping (ipAddr a) (protoOf a.proto) a.cont.lo.val
          (match a.host with | none => 0 | some r => r.lo.val) (match a.host with | none => 0 | some r => r.last)
          (a.host.isSome) (a.cont.lo.val = a.cont.last) i).cfg
      = { hostIP := (match a.ip with | none => [] | some i => i.addr), target := a.cont.lo.val + i,
          published := published a i, protocol := protoOf a.proto } := by
  -- cases: no host section; a host range for a single container port (kept as a range); paired ranges
  simp only [PortSpec.wf, Bool.and_eq_true] at h
  obtain ⟨⟨⟨hc, hh⟩, _⟩, _⟩ := h
  simp only [Range.wf, Bool.and_eq_true, decide_eq_true_eq] at hc
  simp only [Range.size] at hi
  cases hho : a.host with
  | none => simp [mkMapping, published, hho, ipAddr]
  | some r =>
    simp only [hho, Bool.and_eq_true, Range.wf, decide_eq_true_eq, Bool.or_eq_true] at hh
    obtain ⟨⟨hr1, hr2⟩, _⟩ := hh
    simp only [mkMapping, published, hho, ipAddr, Range.size, Option.isSome_some, if_true]
    by_cases hs : a.cont.lo.val = a.cont.last
    · have hi0 : i = 0 := by omega
      subst hi0
      by_cases hr : r.lo.val = r.last
      · simp [hs, hr]
      · simp [hs, hr]
        omega
    · simp [hs]
      intro h0
      omega

theorem cfg_portMappings (a : PortSpec) (h : a.wf = true) : (portMappings a).map (·.cfg) = a.long := by
  rw [portMappings, List.map_map]
  exact List.map_congr_left fun i hi => cfg_mkMapping a h i (List.mem_range.1 hi)

theorem portCore_some (ip host cont proto : Str) (l : List Mapping) (h : portCore ip host cont proto = some l) :
    cont ≠ [] ∧ parsePortRange cont ≠ none ∧ (host ≠ [] → parsePortRange host ≠ none) ∧ validProto (lower proto) = true := by
  -- follow the one path of `portCore` that ends in `some`, keeping what each test says
  unfold portCore at h
  split at h
  · cases h
  split at h
  · cases h
  next hcont =>
  split at h
  · cases h
  next hc =>
  split at h
  · next hh => cases h
  next hh =>
  split at h
  · cases h
  split at h
  · cases h
  next hp =>
  refine ⟨hcont, by simp [hc], fun hne => ?_, by simpa using hp⟩
  rw [if_neg hne] at hh
  simp [hh]

/-- read contrapositively: each failed test rejects the spec -/
theorem portCore_eq_none (ip host cont proto : Str)
    (h : cont = [] ∨ parsePortRange cont = none ∨ (host ≠ [] ∧ parsePortRange host = none) ∨ validProto (lower proto) = false) :
    portCore ip host cont proto = none := by
  cases hc : portCore ip host cont proto with
  | none => rfl
  | some l =>
    obtain ⟨h1, h2, h3, h4⟩ := portCore_some _ _ _ _ l hc
    rcases h with h | h | ⟨hne, h⟩ | h
    · exact absurd h h1
    · exact absurd h h2
    · exact absurd h (h3 hne)
    · rw [h4] at h; cases h

theorem splitParts_snoc_nil (P : List Str) (hP : P ≠ []) : (splitParts (P ++ [[]])).2.2 = [] := by
  cases hr : P.reverse with
  | nil => simp at hr; exact absurd hr hP
  | cons x t => simp [splitParts, hr]

end CV.Short
