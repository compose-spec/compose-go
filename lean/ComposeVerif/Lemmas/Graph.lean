import ComposeVerif.Lemmas.Assoc
import ComposeVerif.Lemmas.Cycle
/-! `graph.newGraph` on the typed project: what its two loops compute (the first `isMissing` dependency stops them, otherwise
the edges are `edgeList`), the graph it returns against the specification's `DepRel`, which makes `graph.CheckCycle` decide
`Acyclic`, and the errors it can report (`graphErrs`). -/
namespace CV.Consistency

/-- what `newGraph` needs to succeed -/
def DepsBuildable (p : Proj) : Prop :=
  ∀ e ∈ p.services, ∀ d ∈ e.2.dependsOn, d.1 ∈ p.enabled ∨ d.2 = false

def edgeList (verts : List String) (deps : List (String × Bool)) : List String :=
  (deps.map Prod.fst).filter (verts.contains ·)

/-- the class `newGraph` reports for a required dependency that is not an enabled service -/
def missingClass (disabled : List String) (dep : String) : Err :=
  if disabled.contains dep then .requiredDisabled else .unknownService

/-- a required dependency that is not an enabled service: what makes `newGraph` fail -/
def isMissing (verts : List String) (d : String × Bool) : Bool := !verts.contains d.1 && d.2

theorem isMissing_iff {verts : List String} {d : String × Bool} : isMissing verts d = true ↔ d.1 ∉ verts ∧ d.2 = true := by
  simp [isMissing]

/-- the inner loop of `newGraph`: the first missing dependency stops it -/
theorem edgesOf_eq (verts disabled : List String) : ∀ deps : List (String × Bool),
    edgesOf verts disabled deps =
      match deps.find? (isMissing verts) with
      | some d => .error (missingClass disabled d.1)
      | none => .ok (edgeList verts deps)
  | [] => rfl
  | (dep, req) :: rest => by
    rw [edgesOf, edgesOf_eq verts disabled rest, List.find?_cons]
    by_cases hv : dep ∈ verts <;> cases req <;> cases rest.find? _ <;> simp [hv, isMissing, edgeList, missingClass]

theorem buildGraph_eq (verts disabled : List String) : ∀ l : List (String × Svc),
    buildGraph verts disabled l =
      match (l.flatMap (·.2.dependsOn)).find? (isMissing verts) with
      | some d => .error (missingClass disabled d.1)
      | none => .ok (l.map fun e => (e.1, edgeList verts e.2.dependsOn))
  | [] => rfl
  | (n, s) :: r => by
    rw [buildGraph, edgesOf_eq, buildGraph_eq verts disabled r, List.flatMap_cons, List.find?_append]
    cases s.dependsOn.find? _ <;> cases (r.flatMap _).find? _ <;> rfl

theorem depsBuildable_iff (p : Proj) :
    DepsBuildable p ↔ (p.services.flatMap (·.2.dependsOn)).find? (isMissing p.enabled) = none := by
  simp only [DepsBuildable, List.find?_eq_none, List.mem_flatMap, isMissing_iff, not_and, Bool.not_eq_true]
  exact ⟨fun h d ⟨e, he, hd⟩ => (h e he d hd).resolve_left, fun h e he d hd => Decidable.or_iff_not_imp_left.mpr (h d ⟨e, he, hd⟩)⟩

theorem newGraph_eq_exact (p : Proj) (hb : DepsBuildable p) : newGraph p = .ok (exactGraph p) := by
  rw [newGraph, buildGraph_eq, (depsBuildable_iff p).mp hb]
  rfl

theorem depsBuildable_of_newGraph {p : Proj} {g : Graph} (h : newGraph p = .ok g) : DepsBuildable p := by
  rw [depsBuildable_iff]
  rw [newGraph, buildGraph_eq] at h
  split at h
  · cases h
  · assumption

theorem newGraph_error_iff (p : Proj) : (∃ e, newGraph p = .error e) ↔ ¬ DepsBuildable p := by
  constructor
  · rintro ⟨e, he⟩ hb
    rw [newGraph_eq_exact p hb] at he
    cases he
  · intro h
    cases hg : newGraph p with
    | error e => exact ⟨e, rfl⟩
    | ok g => exact absurd (depsBuildable_of_newGraph hg) h

theorem depsBuildable_of_rules (p : Proj) (h : ∀ e ∈ p.services, Holds p e.2 .dependsOn) : DepsBuildable p :=
  fun e he d hd => (h e he d hd).imp_right (·.2)

/-! ## the graph that is returned, and the dependency relation of the specification -/

theorem exactGraph_eq (p : Proj) : exactGraph p = p.services.map fun e => (e.1, edgeList p.enabled e.2.dependsOn) := rfl

theorem lookup_map_of_mem {β γ : Type} (f : β → γ) (l : List (String × β)) (a : String) (b : β)
    (hn : (l.map Prod.fst).Nodup) (h : (a, b) ∈ l) : (l.map fun e => (e.1, f e.2)).lookup a = some (f b) := by
  rw [← Assoc.lookup_eq_list, Assoc.lookup_map_val fun _ => f, Assoc.lookup_of_mem hn h]; rfl

theorem lookup_map_some {β γ : Type} (f : β → γ) (l : List (String × β)) (a : String) (c : γ)
    (h : (l.map fun e => (e.1, f e.2)).lookup a = some c) : ∃ b, (a, b) ∈ l ∧ c = f b := by
  rw [← Assoc.lookup_eq_list, Assoc.lookup_map_val fun _ => f] at h
  obtain ⟨b, hb, e⟩ := Option.map_eq_some_iff.1 h
  exact ⟨b, Assoc.mem_of_lookup hb, e.symm⟩

theorem mem_edgeList {verts : List String} {deps : List (String × Bool)} {b : String} :
    b ∈ edgeList verts deps ↔ b ∈ verts ∧ ∃ r, (b, r) ∈ deps := by
  simp [edgeList, and_comm]

theorem depRel_of_exactGraph_E {p : Proj} {a b : String} (h : (exactGraph p).E a b) : DepRel p a b := by
  unfold Graph.E Graph.children at h
  rw [exactGraph_eq] at h
  cases hl : (p.services.map fun e => (e.1, edgeList p.enabled e.2.dependsOn)).lookup a with
  | none => simp [hl] at h
  | some cs =>
    simp only [hl] at h
    obtain ⟨s, hs, rfl⟩ := lookup_map_some (fun s : Svc => edgeList p.enabled s.dependsOn) p.services a cs hl
    exact ⟨s, hs, mem_edgeList.mp h⟩

theorem exactGraph_E_iff (p : Proj) (hn : p.enabled.Nodup) (a b : String) :
    (exactGraph p).E a b ↔ DepRel p a b := by
  refine ⟨depRel_of_exactGraph_E, fun ⟨s, hs, hb, r, hr⟩ => ?_⟩
  unfold Graph.E Graph.children
  rw [exactGraph_eq, lookup_map_of_mem (fun s : Svc => edgeList p.enabled s.dependsOn) p.services a s hn hs]
  exact mem_edgeList.mpr ⟨hb, r, hr⟩

theorem exactGraph_closed (p : Proj) : (exactGraph p).Closed := fun v c hc => by
  obtain ⟨_, _, hb, _⟩ := depRel_of_exactGraph_E hc
  simpa [Graph.keys, exactGraph, Proj.enabled, List.map_map] using hb

theorem acyclicB_iff (p : Proj) (hn : p.enabled.Nodup) : acyclicB p = true ↔ Acyclic p := by
  unfold acyclicB Acyclic
  have hc := hasCycle_iff (exactGraph p) (exactGraph_closed p)
  have hE := exactGraph_E_iff p hn
  constructor
  · intro h v w
    have : hasCycle (exactGraph p) = true := hc.mpr ⟨v, w.mono fun a b e => (hE a b).mpr e⟩
    simp [this] at h
  · intro h
    cases hh : hasCycle (exactGraph p)
    · rfl
    · obtain ⟨w, hw⟩ := hc.mp hh
      exact absurd (hw.mono fun a b e => (hE a b).mp e) (h w)

theorem checkCycleProj_buildable (p : Proj) (hb : DepsBuildable p) :
    checkCycleProj p = guard (hasCycle (exactGraph p)) .cycle := by
  rw [checkCycleProj, newGraph_eq_exact p hb]

/-! ## the errors `newGraph` can report (`graphErrs`: one per missing dependency), and the two ways `graph.CheckCycle` goes -/

theorem missing_filterMap (p : Proj) (l : List (String × Bool)) :
    l.filterMap (fun d => if p.enabled.contains d.1 then none
        else if d.2 then some (if p.disabled.contains d.1 then Err.requiredDisabled else Err.unknownService) else none) =
      (l.filter (isMissing p.enabled)).map (fun d => missingClass p.disabled d.1) := by
  induction l with
  | nil => rfl
  | cons d r ih =>
    rw [List.filterMap_cons, List.filter_cons, ih]
    by_cases h1 : d.1 ∈ p.enabled <;> cases h2 : d.2 <;> simp [isMissing, missingClass, h1, h2]

theorem graphErrs_eq (p : Proj) : graphErrs p =
    ((p.services.flatMap (·.2.dependsOn)).filter (isMissing p.enabled)).map (fun d => missingClass p.disabled d.1) := by
  simp only [graphErrs, missing_filterMap, List.flatMap_def, List.filter_flatten, List.map_flatten, List.map_map]
  rfl

theorem mem_graphErrs (p : Proj) (e : Err) :
    e ∈ graphErrs p ↔ ∃ x ∈ p.services, ∃ d ∈ x.2.dependsOn, d.1 ∉ p.enabled ∧ d.2 = true ∧ e = missingClass p.disabled d.1 := by
  simp only [graphErrs_eq, List.mem_map, List.mem_filter, List.mem_flatMap, isMissing_iff]
  exact ⟨fun ⟨d, ⟨⟨x, hx, hd⟩, h1, h2⟩, he⟩ => ⟨x, hx, d, hd, h1, h2, he.symm⟩,
    fun ⟨x, hx, d, hd, h1, h2, he⟩ => ⟨d, ⟨⟨x, hx, hd⟩, h1, h2⟩, he.symm⟩⟩

theorem graphErrs_nil_iff (p : Proj) : graphErrs p = [] ↔ DepsBuildable p := by
  rw [graphErrs_eq, depsBuildable_iff, List.map_eq_nil_iff, List.filter_eq_nil_iff, List.find?_eq_none]

theorem newGraph_error_class (p : Proj) (e : Err) (h : newGraph p = .error e) : e ∈ graphErrs p := by
  rw [newGraph, buildGraph_eq] at h
  split at h
  · rename_i d hf
    cases h
    rw [graphErrs_eq]
    exact List.mem_map.mpr ⟨d, List.mem_filter.mpr ⟨List.mem_of_find?_eq_some hf, List.find?_some hf⟩, rfl⟩
  · cases h

theorem checkCycleProj_cases (p : Proj) :
    (∃ e ∈ graphErrs p, checkCycleProj p = some e) ∨
    (DepsBuildable p ∧ checkCycleProj p = guard (hasCycle (exactGraph p)) .cycle) := by
  cases hg : newGraph p with
  | error e => exact .inl ⟨e, newGraph_error_class p e hg, by rw [checkCycleProj, hg]⟩
  | ok g =>
    have hb := depsBuildable_of_newGraph hg
    exact .inr ⟨hb, checkCycleProj_buildable p hb⟩

end CV.Consistency
