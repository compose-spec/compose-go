import ComposeVerif.Lemmas.C11KV
import ComposeVerif.Model.ShortTransform
/-! Two independent models of the same Go functions agree: C03's model of `transformDependsOn` /
`transformEnvFile` (part of its model of the whole of `transform.Canonical`, `CV.Short.canonical`) and C11's. -/
namespace CV.C11
open CV CV.Val

theorem setIfAbsent_eq_append (k : String) (v : Val) (m : KVs) :
    setIfAbsent k v m = if CV.Short.hasKey k m then m else m ++ [(k, v)] := by
  unfold setIfAbsent CV.Short.hasKey
  cases h : lookup k m with
  | some x => simp
  | none => simp [insert_of_not_mem (lookup_eq_none.1 h)]

theorem dependsDefaults_agrees (d : KVs) : CV.Short.dependsDefaults d = depDefaults d := by
  unfold CV.Short.dependsDefaults depDefaults
  simp only [setIfAbsent_eq_append]

theorem envFileValue_agrees (v : Val) : CV.Short.envFileValue v = envFileValue v := by
  cases v <;> simp [CV.Short.envFileValue, envFileValue, setIfAbsent_eq_append]

theorem transformEnvFile_agrees (v w : Val) :
    CV.Short.transformEnvFile v = .ok w ↔ transformEnvFile v = .ok w := by
  cases v <;> simp [CV.Short.transformEnvFile, transformEnvFile, envFileValue_agrees]
  · rename_i xs
    have : xs.map CV.Short.envFileValue = xs.map envFileValue := by
      apply List.map_congr_left; intro a _; exact envFileValue_agrees a
    rw [this]

theorem dependsMap_agrees : ∀ (m r : KVs),
    CV.Short.dependsMap m = .ok r ↔ ((m.all fun kv => isMap kv.2) = true ∧ r = m.map fun kv => (kv.1, depDefaultsV kv.2))
  | [], r => by simp [CV.Short.dependsMap, eq_comm]
  | (k, v) :: t, r => by
    cases v with
    | map d =>
      have ih := dependsMap_agrees t
      simp only [CV.Short.dependsMap, List.all_cons, show isMap (.map d) = true from rfl, Bool.true_and, List.map_cons,
        depDefaultsV, dependsDefaults_agrees]
      cases ht : CV.Short.dependsMap t with
      | ok r' => obtain ⟨h1, rfl⟩ := (ih r').mp ht; simp only [h1, true_and, CV.Short.Out.ok.injEq]; exact eq_comm
      | _ => simp only [reduceCtorEq, false_iff, not_and]; exact fun hall _ => nomatch ht ▸ (ih _).mpr ⟨hall, rfl⟩
    | _ => simp [CV.Short.dependsMap, isMap]

theorem dependsList_agrees : ∀ (l : List Val) (acc r : KVs),
    CV.Short.dependsList l acc = .ok r ↔
      ((l.all isStr) = true ∧ r = l.foldl (fun acc x => Val.insert (strOf x) shortDep acc) acc)
  | [], acc, r => by simp [CV.Short.dependsList, eq_comm]
  | x :: t, acc, r => by
    cases x with
    | str k =>
      simp only [CV.Short.dependsList, List.all_cons, isStr, Bool.true_and, List.foldl_cons, strOf]
      exact dependsList_agrees t _ r
    | _ => simp [CV.Short.dependsList, isStr]

theorem transformDependsOn_agrees (v w : Val) :
    CV.Short.transformDependsOn v = .ok w ↔ transformDependsOn v = .ok w := by
  -- both models return `ok (map r)` exactly when the shape test passes, with the same `r`
  have key : ∀ (o : CV.Short.Out KVs) (c : Bool) (r0 : KVs) (e : String), (∀ r, o = .ok r ↔ (c = true ∧ r = r0)) →
      ((match o with | .ok r => CV.Short.Out.ok (Val.map r) | .err e => .err e | .panic e => .panic e) = .ok w ↔
        (if c = true then Out.ok (Val.map r0) else .err e) = .ok w) := by
    intro o c r0 e h
    cases o with
    | ok r => obtain ⟨hc, rfl⟩ := (h r).mp rfl; simp [hc]
    | err x => cases c <;> simp; exact fun e' => nomatch (h r0).mpr ⟨rfl, rfl⟩
    | panic x => cases c <;> simp; exact fun e' => nomatch (h r0).mpr ⟨rfl, rfl⟩
  cases v with
  | map m => exact key _ _ _ _ (dependsMap_agrees m)
  | seq l => exact key _ _ _ _ (dependsList_agrees l [])
  | _ => simp [CV.Short.transformDependsOn, transformDependsOn]

end CV.C11
