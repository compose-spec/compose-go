import ComposeVerif.Lemmas.TemplateBrace
/-!
# The scan of the `template.Substitute` model without its fuel

`scanK` / `replK`: one step of `scan` / `repl`, the recursive calls (for `scanK` also the match attempt, so that
`scanC` of Lemmas/TemplateOpts.lean is the same step) as parameters.  `run`, `rrepl`: the scan with
`2·|s|+1` units of fuel, and `repl` over it.  `scan_repl_stable` (one induction on the fuel): with that much fuel or
more, `scan` is `run` under the accumulator and the pending error (`comb`); hence the fuel-free equation `run_step`.
-/
namespace CV.Template

/-- the body of `repl` (Model/Template.lean) typed again with its recursive calls as the parameter `sc`; `repl_succ`
    ties it to the model by `rfl`, so an edit of `repl` there has to be repeated here -/
def replK (env : Env) (m : Str) (sc : Str → Out) : Out :=
  match matchDollar (subOf m) with
  | none => .panic .matchGroups
  | some (.escaped, _, _) => .ok ['$']
  | some (.invalid, _, _) => .err .invalid
  | some (.named n, _, _) => .ok ((env n).getD [])
  | some (.braced body, _, _) =>
    if containsStr (selectOp m).str body then
      match sc (cut (selectOp m).str body).2 with
      | .panic p => .panic p
      | .err e => .err e
      | .ok d =>
        match applyOp (selectOp m) (cut (selectOp m).str body).1 (env (cut (selectOp m).str body).1) d with
        | .ok x =>
          match sc (restOf m) with
          | .ok r => .ok (x ++ r)
          | o => o
        | o => o
    else .ok ((env body).getD [])

theorem repl_succ (env : Env) (f : Nat) (m : Str) :
    repl (f+1) env m = replK env m (fun s => scan f env s [] none) := by
  rw [repl]; rfl

/-- one step of `ReplaceAllStringFunc` with the first-error bookkeeping: `mt` is the match attempt at the current
    position, `rp` the replacement function, `sc` the scan of what is left.  `scan` (with `dollarAt`) and `scanC` (with
    `cfg.matchAt`, Lemmas/TemplateOpts.lean) are both this step over their own recursive calls -/
def scanK (mt : Str → Option (Str × Str)) (s acc : Str) (fe : Option Err) (rp : Str → Out)
    (sc : Str → Str → Option Err → Out) : Out :=
  match s with
  | [] => match fe with
    | none => .ok acc
    | some e => .err e
  | c :: cs =>
    match mt (c :: cs) with
    | none => sc cs (acc ++ [c]) fe
    | some (m, rest) =>
      match rp m with
      | .ok v => sc rest (acc ++ v) fe
      | .err e => sc rest acc (pushErr fe e)
      | .panic p => .panic p

def dollarAt (s : Str) : Option (Str × Str) := (matchDollar s).map fun x => (x.2.1, x.2.2)

theorem scan_succ (env : Env) (f : Nat) (s acc : Str) (fe : Option Err) :
    scan (f+1) env s acc fe = scanK dollarAt s acc fe (repl f env) (scan f env) := by
  cases s with
  | nil => cases fe <;> rfl
  | cons c cs =>
    rw [scan, scanK, dollarAt]
    split
    · cases matchDollar (c :: cs) <;> cases fe <;> rfl
    · rename_i hc
      rw [matchDollar_not_dollar c cs (by simpa using hc)]; rfl

theorem replK_callee_length {m body x y : Str} (h : matchDollar (subOf m) = some (.braced body, x, y)) (sep : Str) :
    (cut sep body).2.length + 1 ≤ m.length ∧ (restOf m).length + 1 ≤ m.length := by
  have h3 := (matchDollar_spec h).2.2 body rfl
  have hx := (matchDollar_length h).2
  have hsub := subOf_length m
  have harg := Scan.cut_snd_length sep body
  have hrest := restOf_length m
  omega

theorem replK_congr (env : Env) (m : Str) (sc sc' : Str → Out)
    (h : ∀ s, s.length + 1 ≤ m.length → sc s = sc' s) : replK env m sc = replK env m sc' := by
  unfold replK
  split <;> try rfl
  rename_i body x y hmd
  have hl := replK_callee_length hmd (selectOp m).str
  rw [h _ hl.1, h _ hl.2]

theorem dollarAt_eq_some {s m rest : Str} (h : dollarAt s = some (m, rest)) : ∃ k, matchDollar s = some (k, m, rest) := by
  unfold dollarAt at h
  cases hm : matchDollar s with
  | none => rw [hm] at h; cases h
  | some x => rw [hm] at h; cases h; exact ⟨x.1, rfl⟩

theorem scanK_congr (s acc : Str) (fe : Option Err) (rp rp' : Str → Out) (sc sc' : Str → Str → Option Err → Out)
    (hr : ∀ k m rest, matchDollar s = some (k, m, rest) → rp m = rp' m)
    (hs : ∀ t a e, t.length < s.length → sc t a e = sc' t a e) :
    scanK dollarAt s acc fe rp sc = scanK dollarAt s acc fe rp' sc' := by
  unfold scanK
  split
  · rfl
  · rename_i c cs
    have hcs : cs.length < (c :: cs).length := Nat.lt_succ_self _
    split
    · exact hs _ _ _ hcs
    · rename_i m rest hd
      obtain ⟨k, hm⟩ := dollarAt_eq_some hd
      have hrest : rest.length < (c :: cs).length := by have := matchDollar_length hm; omega
      rw [hr k m rest hm]
      cases rp' m with
      | panic p => rfl
      | _ => exact hs _ _ _ hrest

/-- the result of scanning the remaining text, seen from a scan with accumulator `acc` and pending error `fe` -/
def comb (acc : Str) (fe : Option Err) (o : Out) : Out :=
  match o with
  | .panic p => .panic p
  | .ok r => match fe with | none => .ok (acc ++ r) | some e => .err e
  | .err e => match fe with | none => .err e | some e0 => .err e0

theorem comb_comb (acc a : Str) (fe : Option Err) (X : Out) :
    comb acc fe (comb a none X) = comb (acc ++ a) fe X := by
  cases X <;> cases fe <;> simp [comb]

theorem comb_pushErr (acc : Str) (fe : Option Err) (e : Err) (X : Out) :
    comb acc fe (comb [] (some e) X) = comb acc (pushErr fe e) X := by
  cases X <;> cases fe <;> rfl

theorem comb_nil_none (X : Out) : comb [] none X = X := by
  cases X <;> simp [comb]

theorem comb_eq_panic {acc : Str} {fe : Option Err} {X : Out} {p : PanicSite} (h : comb acc fe X = .panic p) :
    X = .panic p := by
  cases X <;> cases fe <;> first | exact h | cases h

theorem seq_ok_eq_comb (v : Str) (X : Out) : seq (.ok v) X = comb v none X := by
  cases X <;> rfl

theorem seq_err_eq_comb (e : Err) (X : Out) : seq (.err e) X = comb [] (some e) X := by
  cases X <;> rfl

theorem seq_assoc (a b c : Out) : seq (seq a b) c = seq a (seq b c) := by
  cases a <;> cases b <;> cases c <;> simp [seq]

theorem seq_ok_nil (b : Out) : seq (.ok []) b = b := by cases b <;> rfl

theorem seq_nil_ok (a : Out) : seq a (.ok []) = a := by cases a <;> simp [seq]

theorem seq_ok_ok (a b : Str) (c : Out) : seq (.ok a) (seq (.ok b) c) = seq (.ok (a ++ b)) c := by
  cases c <;> simp [seq]

theorem seq_eq_panic {a b : Out} {p : PanicSite} (h : seq a b = .panic p) : a = .panic p ∨ b = .panic p := by
  cases a <;> cases b <;> first | exact Or.inl h | exact Or.inr h | cases h

theorem seq_err_of_ne_panic (e : Err) (b : Out) (h : ∀ p, b ≠ .panic p) : seq (.err e) b = .err e := by
  cases b with
  | panic p => exact absurd rfl (h p)
  | _ => rfl

theorem scanK_comb (mt : Str → Option (Str × Str)) (s acc : Str) (fe : Option Err) (rp R : Str → Out) :
    scanK mt s acc fe rp (fun t a e => comb a e (R t)) =
      comb acc fe (scanK mt s [] none rp (fun t a e => comb a e (R t))) := by
  unfold scanK
  split
  · cases fe <;> simp [comb]
  · split
    · exact (comb_comb ..).symm
    · split
      · exact (comb_comb ..).symm
      · exact (comb_pushErr ..).symm
      · rfl

def run (env : Env) (s : Str) : Out := scan (2 * s.length + 1) env s [] none

def rrepl (env : Env) (m : Str) : Out := replK env m (run env)

def FuelStable (env : Env) (g : Nat) : Prop :=
  (∀ s acc fe, 2 * s.length + 1 ≤ g → scan g env s acc fe = comb acc fe (run env s)) ∧
  (∀ m, 2 * m.length ≤ g → 1 ≤ g → repl g env m = rrepl env m)

theorem scanK_of_stable {env : Env} {g : Nat} (hg : FuelStable env g) (s : Str) (hs : 2 * s.length ≤ g)
    (acc : Str) (fe : Option Err) :
    scanK dollarAt s acc fe (repl g env) (scan g env) =
      scanK dollarAt s acc fe (rrepl env) (fun t a e => comb a e (run env t)) := by
  refine scanK_congr _ _ _ _ _ _ _ (fun k m rest hm => ?_) (fun t a e ht => hg.1 t a e (by omega))
  have := matchDollar_length hm
  exact hg.2 m (by omega) (by omega)

/-- every amount of fuel is stable: fuel-monotonicity, fuel-irrelevance and the accumulator law in one statement.
    Strong induction, because two amounts of fuel are compared: `scan (f+1)` steps to callees with `f`, while `run env s`
    is by definition `scan (2·|s|+1)` and steps to callees with `2·|s| ≤ f`; both steps are the fuel-free step
    (`scanK_of_stable`).  The clause about `repl` is there only to make the induction go through: a step hands its match
    to `repl`, which hands shorter texts back to `scan`. -/
theorem scan_repl_stable (env : Env) (f : Nat) : FuelStable env f := by
  induction f using Nat.strongRecOn with
  | _ f ih =>
    cases f with
    | zero => exact ⟨fun s _ _ h => absurd h (by omega), fun _ _ h => absurd h (by omega)⟩
    | succ f =>
      refine ⟨fun s acc fe h => ?_, fun m h _ => ?_⟩
      · rw [scan_succ, scanK_of_stable (ih f (Nat.lt_succ_self _)) s (by omega), scanK_comb, run, scan_succ,
          scanK_of_stable (ih (2 * s.length) (by omega)) s (Nat.le_refl _)]
      · rw [repl_succ]
        refine replK_congr _ _ _ _ fun s hs => ?_
        rw [(ih f (Nat.lt_succ_self _)).1 s [] none (by omega), comb_nil_none]

theorem scan_eq_run (env : Env) (s acc : Str) (fe : Option Err) (f : Nat) (h : 2 * s.length + 1 ≤ f) :
    scan f env s acc fe = comb acc fe (run env s) :=
  (scan_repl_stable env f).1 s acc fe h

theorem subst_eq_run (env : Env) (s : Str) : subst env s = run env s :=
  (scan_eq_run env s [] none _ (by unfold fuelFor; omega)).trans (comb_nil_none _)

theorem run_step (env : Env) (s : Str) :
    run env s = scanK dollarAt s [] none (rrepl env) (fun t a e => comb a e (run env t)) := by
  rw [run, scan_succ, scanK_of_stable (scan_repl_stable env _) s (Nat.le_refl _)]

theorem run_nil (env : Env) : run env [] = .ok [] := rfl

theorem run_cons_lit (env : Env) (c : Char) (cs : Str) (hc : c ≠ '$') :
    run env (c :: cs) = seq (.ok [c]) (run env cs) := by
  rw [run_step, seq_ok_eq_comb, scanK, dollarAt, matchDollar_not_dollar c cs hc]; rfl

theorem run_dollar_none (env : Env) (cs : Str) (h : matchDollar ('$' :: cs) = none) :
    run env ('$' :: cs) = seq (.ok ['$']) (run env cs) := by
  rw [run_step, seq_ok_eq_comb, scanK, dollarAt, h]; rfl

theorem run_dollar_some (env : Env) (cs : Str) {k : M} {m rest : Str}
    (h : matchDollar ('$' :: cs) = some (k, m, rest)) :
    run env ('$' :: cs) = seq (rrepl env m) (run env rest) := by
  rw [run_step, scanK, dollarAt, h]
  dsimp only [Option.map_some]
  cases rrepl env m with
  | ok v => exact (seq_ok_eq_comb ..).symm
  | err e => exact (seq_err_eq_comb ..).symm
  | panic p => rfl

end CV.Template
