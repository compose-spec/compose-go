import ComposeVerif.Lemmas.SelectCarried
/-! C15: each operation of `Model/Select.lean` by what `lookup` finds in the two maps of its result, with no hypothesis where
none is needed, and from that: it keeps the partition, it only thins services (`SubProj`), its clause of `Spec/Select.lean`,
and it does not depend on the iteration order of the maps (`LookEq`).  In turn `withProfiles`, `resolveEnabled` /
`withServicesEnabled`, `disableOne` / `withServicesDisabled`, `pick`, the fold of `withSelectedServices` and its closed form
`selectResult`; then `SameProj` / `LookEq`; histories.  The dependency walk is in `Lemmas/SelectWalk.lean`. -/
namespace CV.Sel


theorem hasProfile_iff (s : Svc) (P : List String) : hasProfile s P = true ↔ Active s P := by
  unfold hasProfile Active
  simp only [Bool.or_eq_true, List.isEmpty_iff, List.any_eq_true, beq_iff_eq, List.contains_iff_mem]
  constructor
  · rintro (h | ⟨x, hx, h | h⟩)
    · exact .inl h
    · exact .inr (.inl (h ▸ hx))
    · exact .inr (.inr ⟨x, h, hx⟩)
  · rintro (h | h | ⟨x, h1, h2⟩)
    · exact .inl h
    · exact .inr ⟨"*", h, .inl rfl⟩
    · exact .inr ⟨x, h2, .inr h1⟩

theorem Active.mono {s : Svc} {P P' : List String} (h : Active s P) (sub : ∀ x ∈ P, x ∈ P') : Active s P' :=
  h.imp id (.imp (sub _) fun ⟨x, h1, h2⟩ => ⟨x, h1, sub _ h2⟩)

theorem allServices_eq {p : Proj} (h : Partition p) : allServices p = p.services ++ p.disabled := by
  unfold allServices
  rw [insertAll_append h.1 (fun _ _ => List.not_mem_nil), List.nil_append,
    insertAll_append h.2.1 fun k hk hk' => h.2.2 k hk' hk]

theorem withProfiles_services {p : Proj} (h : Partition p) (P : List String) :
    (withProfiles p P).services = (p.services ++ p.disabled).filter (fun kv => hasProfile kv.2 P) :=
  congrArg (List.filter _) (allServices_eq h)

theorem withProfiles_disabled {p : Proj} (h : Partition p) (P : List String) :
    (withProfiles p P).disabled = (p.services ++ p.disabled).filter (fun kv => !hasProfile kv.2 P) :=
  congrArg (List.filter _) (allServices_eq h)

theorem withProfiles_partition {p : Proj} (h : Partition p) (P : List String) : Partition (withProfiles p P) := by
  unfold Partition
  rw [withProfiles_services h, withProfiles_disabled h]
  exact ⟨nodup_filter (nodup_all h), nodup_filter (nodup_all h), filter_disjoint (nodup_all h)⟩

theorem lookup_withProfiles_services {p : Proj} (h : Partition p) (P : List String) (k : String) :
    lookup k (withProfiles p P).services = (find p k).filter (fun s => hasProfile s P) := by
  rw [withProfiles_services h, lookup_filter (nodup_all h), find_eq_lookup]

theorem lookup_withProfiles_disabled {p : Proj} (h : Partition p) (P : List String) (k : String) :
    lookup k (withProfiles p P).disabled = (find p k).filter (fun s => !hasProfile s P) := by
  rw [withProfiles_disabled h, lookup_filter (nodup_all h), find_eq_lookup]

theorem find_withProfiles {p : Proj} (h : Partition p) (P : List String) (k : String) :
    find (withProfiles p P) k = find p k := by
  rw [find, lookup_withProfiles_services h, lookup_withProfiles_disabled h]
  cases find p k with
  | none => rfl
  | some s => cases hs : hasProfile s P <;> simp [Option.filter, hs]

theorem known_withProfiles {p : Proj} (h : Partition p) (P : List String) (k : String) :
    k ∈ known (withProfiles p P) ↔ k ∈ known p := by
  rw [mem_known_iff_find, mem_known_iff_find, find_withProfiles h]

theorem mem_keys_withProfiles_services {p : Proj} (h : Partition p) (P : List String) {k : String} {s : Svc}
    (hs : find p k = some s) : k ∈ keys (withProfiles p P).services ↔ Active s P := by
  rw [← lookup_isSome, lookup_withProfiles_services h, hs, ← hasProfile_iff]
  simp [Option.filter_some]

theorem withProfiles_profilesOK {p : Proj} (h : Partition p) (P : List String) : ProfilesOK (withProfiles p P) := by
  intro kv hkv
  rw [withProfiles_services h, List.mem_filter] at hkv
  exact (hasProfile_iff _ _).1 hkv.2

theorem withProfiles_fix {q : Proj} (h : Partition q) (hs : ∀ kv ∈ q.services, hasProfile kv.2 q.profiles = true)
    (hd : ∀ kv ∈ q.disabled, hasProfile kv.2 q.profiles = false) : withProfiles q q.profiles = q := by
  have f1 : (q.services ++ q.disabled).filter (fun kv => hasProfile kv.2 q.profiles) = q.services := by
    rw [List.filter_append, List.filter_eq_self.2 hs, List.filter_eq_nil_iff.2 (fun kv hk => by simp [hd kv hk]),
      List.append_nil]
  have f2 : (q.services ++ q.disabled).filter (fun kv => !hasProfile kv.2 q.profiles) = q.disabled := by
    rw [List.filter_append, List.filter_eq_nil_iff.2 (fun kv hk => by simp [hs kv hk]),
      List.filter_eq_self.2 (fun kv hk => by simp [hd kv hk]), List.nil_append]
  have e1 := withProfiles_services h q.profiles
  have e2 := withProfiles_disabled h q.profiles
  rw [f1] at e1; rw [f2] at e2
  have e : withProfiles q q.profiles =
      { q with services := (withProfiles q q.profiles).services, disabled := (withProfiles q q.profiles).disabled } := rfl
  rw [e, e1, e2]

theorem enableProfiles_eq (p : Proj) (names : List String) :
    enableProfiles p names = p.profiles ++ wantedProfiles p names := by
  unfold enableProfiles wantedProfiles
  generalize p.profiles = acc
  induction names generalizing acc with
  | nil => simp
  | cons n ns ih =>
    rw [List.foldl_cons, ih, List.flatMap_cons, has_eq]
    by_cases hn : n ∈ keys p.services <;> simp [hn]
    cases lookup n p.disabled <;> rfl   -- the two `match`es are different auxiliary functions

theorem withServicesEnabled_of_ne {p : Proj} {names : List String} (hn : names ≠ []) :
    withServicesEnabled p names = resolveEnabled (withProfiles p (p.profiles ++ wantedProfiles p names)) := by
  rw [withServicesEnabled, if_neg (by simpa using hn), enableProfiles_eq]

theorem keys_resolveEnabled (p : Proj) : keys (resolveEnabled p).services = keys p.services :=
  keys_map_val (fun _ s => resolveEnvSvc p.environment s) p.services

theorem lookup_resolveEnabled_services (p : Proj) (k : String) :
    lookup k (resolveEnabled p).services = (lookup k p.services).map (resolveEnvSvc p.environment) :=
  lookup_map_val (fun _ s => resolveEnvSvc p.environment s)

theorem mem_resolveEnabled_services {p : Proj} {kv : String × Svc} (h : kv ∈ (resolveEnabled p).services) :
    ∃ s, (kv.1, s) ∈ p.services ∧ kv.2 = resolveEnvSvc p.environment s := by
  obtain ⟨kv0, hm, rfl⟩ := List.mem_map.1 h
  exact ⟨kv0.2, hm, rfl⟩

theorem resolveEnabled_partition {p : Proj} (h : Partition p) : Partition (resolveEnabled p) := by
  unfold Partition; rw [keys_resolveEnabled]; exact h

theorem known_resolveEnabled (p : Proj) : known (resolveEnabled p) = known p :=
  congrArg (· ++ keys p.disabled) (keys_resolveEnabled p)

theorem find_resolveEnabled (p : Proj) (k : String) :
    find (resolveEnabled p) k =
      if k ∈ keys p.services then (find p k).map (resolveEnvSvc p.environment) else find p k := by
  by_cases hk : k ∈ keys p.services
  · obtain ⟨s, hs⟩ := exists_lookup_of_mem_keys hk
    rw [if_pos hk, find_of_services hs, find_of_services (by rw [lookup_resolveEnabled_services, hs]; rfl)]; rfl
  · rw [if_neg hk, find_of_not_services hk, find_of_not_services (by rwa [keys_resolveEnabled])]; rfl

theorem resolvedSvc_eq (penv : AL String) (s : Svc) : resolveEnvSvc penv s = resolvedSvc penv s := rfl

theorem subProj_resolveEnabled (p : Proj) : SubProj p (resolveEnabled p) := fun k => by
  rw [find_resolveEnabled]
  split
  · exact optRel_map _ (SubSvc.resolve _)
  · exact SubProj.refl p k

theorem profilesOK_resolveEnabled {p : Proj} (ok : ProfilesOK p) : ProfilesOK (resolveEnabled p) := by
  intro kv hkv
  obtain ⟨s, hm, e⟩ := mem_resolveEnabled_services hkv
  rw [e]; exact ok _ hm

theorem resolveEnv_idem (penv : AL String) (env : AL (Option String)) :
    resolveEnv penv (resolveEnv penv env) = resolveEnv penv env := by
  unfold resolveEnv
  rw [List.map_map]
  apply List.map_congr_left
  intro kv _
  obtain ⟨k, v⟩ := kv
  cases v with
  | some x => rfl
  | none =>
    simp only [Function.comp]
    cases lookup k penv <;> rfl

theorem resolveEnabled_idem (p : Proj) : resolveEnabled (resolveEnabled p) = resolveEnabled p := by
  unfold resolveEnabled
  simp only [List.map_map]
  congr 1
  apply List.map_congr_left
  intro kv _
  simp [Function.comp, resolveEnvSvc, resolveEnv_idem]

theorem active_of_named {p : Proj} (ok : ProfilesOK p) {names : List String} {n : String} {s : Svc}
    (hnm : n ∈ names) (hs : find p n = some s) :
    Active s (p.profiles ++ wantedProfiles p names) ∧
      (n ∉ keys p.services → ∀ x ∈ s.profiles, x ∈ p.profiles ++ wantedProfiles p names) := by
  by_cases hsv : n ∈ keys p.services
  · refine ⟨?_, fun c => absurd hsv c⟩
    obtain ⟨s', hs'⟩ := exists_lookup_of_mem_keys hsv
    cases (find_of_services hs').symm.trans hs
    exact (ok (n, s) (mem_of_lookup hs')).mono fun x hx => List.mem_append_left _ hx
  · rw [find_of_not_services hsv] at hs
    have sub : ∀ x ∈ s.profiles, x ∈ p.profiles ++ wantedProfiles p names := fun x hx =>
      List.mem_append_right _ (List.mem_flatMap.2 ⟨n, hnm, by simpa [hsv, hs] using hx⟩)
    refine ⟨?_, fun _ => sub⟩
    cases hp : s.profiles with
    | nil => exact .inl hp
    | cons x _ => exact .inr (.inr ⟨x, by simp [hp], sub x (by simp [hp])⟩)

theorem find_withServicesEnabled {p : Proj} (h : Partition p) {names : List String} (hn : names ≠ []) {k : String} {s : Svc}
    (hs : find p k = some s) :
    find (withServicesEnabled p names) k =
      some (if Active s (p.profiles ++ wantedProfiles p names) then resolveEnvSvc p.environment s else s) := by
  rw [withServicesEnabled_of_ne hn, find_resolveEnabled, find_withProfiles h, hs]
  simp only [mem_keys_withProfiles_services h _ hs, Option.map_some]
  split <;> rfl

theorem mem_keys_withServicesEnabled_services {p : Proj} (h : Partition p) {names : List String} (hn : names ≠ []) {k : String}
    {s : Svc} (hs : find p k = some s) :
    k ∈ keys (withServicesEnabled p names).services ↔ Active s (p.profiles ++ wantedProfiles p names) := by
  rw [withServicesEnabled_of_ne hn, keys_resolveEnabled, mem_keys_withProfiles_services h _ hs]

theorem known_withServicesEnabled {p : Proj} (h : Partition p) (names : List String) (k : String) :
    k ∈ known (withServicesEnabled p names) ↔ k ∈ known p := by
  by_cases hn : names = []
  · subst hn; rfl
  · rw [withServicesEnabled_of_ne hn, known_resolveEnabled, known_withProfiles h]

theorem enable_enables_named {p : Proj} (h : Partition p) (ok : ProfilesOK p) {names : List String} {n : String}
    (hn : n ∈ names) (hk : n ∈ known p) : n ∈ keys (withServicesEnabled p names).services := by
  obtain ⟨s, hs⟩ := find_isSome_of_known hk
  exact (mem_keys_withServicesEnabled_services h (List.ne_nil_of_mem hn) hs).2 (active_of_named ok hn hs).1

def dropDeps (names : List String) (s : Svc) : Svc := { s with deps := s.deps.filter (fun d => d.1 ∉ names) }

theorem dropDeps_congr {a b : List String} (e : ∀ x, x ∈ a ↔ x ∈ b) (s : Svc) : dropDeps a s = dropDeps b s := by
  unfold dropDeps; simp only [e]

theorem dropDeps_dropDeps (a b : List String) (s : Svc) : dropDeps b (dropDeps a s) = dropDeps (a ++ b) s := by
  simp only [dropDeps, List.filter_filter, List.mem_append, not_or, Bool.decide_and, Bool.and_comm]

theorem dropDep_eq (n : String) (s : Svc) : dropDep n s = dropDeps [n] s := by
  simp only [dropDep, dropDeps, erase_eq_filter, List.mem_singleton]

theorem dropDeps_nil : dropDeps [] = id := funext fun s => by
  unfold dropDeps; rw [List.filter_eq_self.2 fun _ _ => by simp]; rfl

theorem subSvc_dropDeps (names : List String) (s : Svc) : SubSvc s (dropDeps names s) := .filter s _

theorem mem_keys_dropDeps {ns : List String} {s : Svc} {y : String} (h : y ∈ keys (dropDeps ns s).deps) :
    y ∈ keys s.deps ∧ y ∉ ns := by
  unfold dropDeps at h
  obtain ⟨v, hv⟩ := mem_keys.1 h
  have := List.mem_filter.1 hv
  exact ⟨mem_keys.2 ⟨v, this.1⟩, by simpa using this.2⟩

theorem lookup_dropAll (n k : String) (m : AL Svc) :
    lookup k (m.map fun kv => (kv.1, dropDep n kv.2)) = (lookup k m).map (dropDeps [n]) := by
  rw [lookup_map_val (fun _ s => dropDep n s)]; simp only [dropDep_eq]

theorem keys_dropAll (n : String) (m : AL Svc) : keys (m.map fun kv => (kv.1, dropDep n kv.2)) = keys m :=
  keys_map_val (fun _ s => dropDep n s) m

theorem disableOne_services (p : Proj) (n : String) :
    (disableOne p n).services = erase n (p.services.map fun kv => (kv.1, dropDep n kv.2)) := by
  unfold disableOne; dsimp only
  split
  · rfl
  · rename_i h; exact (erase_of_not_mem (lookup_eq_none.1 h)).symm

theorem disableOne_disabled (p : Proj) (n : String) :
    (disableOne p n).disabled =
      match (lookup n p.services).map (dropDeps [n]) with | some s => insert n s p.disabled | none => p.disabled := by
  rw [← lookup_dropAll]; unfold disableOne; dsimp only; split <;> rename_i h <;> rw [h]

theorem lookup_disableOne_services (p : Proj) (n k : String) :
    lookup k (disableOne p n).services = if k = n then none else (lookup k p.services).map (dropDeps [n]) := by
  rw [disableOne_services, lookup_erase, lookup_dropAll]

theorem lookup_disableOne_disabled (p : Proj) (n k : String) :
    lookup k (disableOne p n).disabled =
      if k = n ∧ n ∈ keys p.services then (lookup n p.services).map (dropDeps [n]) else lookup k p.disabled := by
  rw [disableOne_disabled]
  cases h : lookup n p.services with
  | some s => simp only [Option.map_some, lookup_insert, keys_of_lookup h, and_true]
  | none => rw [if_neg fun c => lookup_eq_none.1 h c.2]; rfl

theorem mem_keys_disableOne_services {p : Proj} {n k : String} :
    k ∈ keys (disableOne p n).services ↔ k ∈ keys p.services ∧ k ≠ n := by
  rw [disableOne_services, mem_keys_erase, keys_dropAll, and_comm]

theorem disableOne_partition {p : Proj} (h : Partition p) (n : String) : Partition (disableOne p n) := by
  refine ⟨?_, ?_, fun k hk hd => ?_⟩
  · rw [disableOne_services]; exact nodup_erase ((keys_dropAll n _).symm ▸ h.1)
  · rw [disableOne_disabled]
    split
    · exact nodup_insert h.2.1
    · exact h.2.1
  · rw [mem_keys_disableOne_services] at hk
    rw [← lookup_isSome, lookup_disableOne_disabled, if_neg fun c => hk.2 c.1, lookup_isSome] at hd
    exact h.2.2 k hk.1 hd

theorem withServicesDisabled_cons (p : Proj) (n : String) (ns : List String) :
    withServicesDisabled p (n :: ns) = withServicesDisabled (disableOne p n) ns := rfl

theorem withServicesDisabled_induct {P : Proj → Prop} (step : ∀ q n, P q → P (disableOne q n)) {p : Proj} (h : P p)
    (names : List String) : P (withServicesDisabled p names) := by
  induction names generalizing p with
  | nil => exact h
  | cons n ns ih => exact ih (step p n h)

theorem withServicesDisabled_partition {p : Proj} (h : Partition p) (names : List String) :
    Partition (withServicesDisabled p names) :=
  withServicesDisabled_induct (P := Partition) (fun _ n hq => disableOne_partition hq n) h names

theorem withServicesDisabled_rest (p : Proj) (names : List String) :
    (withServicesDisabled p names).profiles = p.profiles ∧ sameResources p (withServicesDisabled p names) :=
  withServicesDisabled_induct (P := fun q => q.profiles = p.profiles ∧ sameResources p q)
    (fun q n hq => by unfold disableOne; dsimp only; split <;> exact hq) ⟨rfl, rfl, rfl, rfl, rfl, rfl⟩ names

theorem lookup_withServicesDisabled_services (p : Proj) (names : List String) (k : String) :
    lookup k (withServicesDisabled p names).services =
      if k ∈ names then none else (lookup k p.services).map (dropDeps names) := by
  induction names generalizing p with
  | nil => rw [dropDeps_nil, Option.map_id]; rfl
  | cons n ns ih =>
    rw [withServicesDisabled_cons, ih, lookup_disableOne_services]
    by_cases h1 : k ∈ ns
    · rw [if_pos h1, if_pos (List.mem_cons_of_mem _ h1)]
    · by_cases h2 : k = n
      · rw [if_neg h1, if_pos h2, if_pos (h2 ▸ List.mem_cons_self)]; rfl
      · rw [if_neg h1, if_neg h2, if_neg (by simp [h1, h2]), Option.map_map]
        exact congrArg (Option.map · _) (funext (dropDeps_dropDeps [n] ns))

theorem mem_keys_withServicesDisabled_services {p : Proj} {names : List String} {k : String} :
    k ∈ keys (withServicesDisabled p names).services ↔ k ∈ keys p.services ∧ k ∉ names := by
  rw [← lookup_isSome, lookup_withServicesDisabled_services, ← lookup_isSome]
  split <;> simp [*]

/-- the loop takes the names in order and no longer touches a service once it is moved: hence `upTo` -/
theorem lookup_withServicesDisabled_disabled (p : Proj) (names : List String) (k : String) :
    lookup k (withServicesDisabled p names).disabled =
      if k ∈ names ∧ k ∈ keys p.services then (lookup k p.services).map (dropDeps (upTo k names))
      else lookup k p.disabled := by
  induction names generalizing p with
  | nil => simp [withServicesDisabled]
  | cons n ns ih =>
    rw [withServicesDisabled_cons, ih, lookup_disableOne_services, lookup_disableOne_disabled, upTo]
    simp only [mem_keys_disableOne_services]
    by_cases e : k = n
    · subst e
      simp only [ne_eq, not_true_eq_false, and_false, if_false, true_and, List.mem_cons, true_or, if_true]
    · have e' : ¬n = k := fun c => e c.symm
      simp only [e, e', List.mem_cons, false_or, false_and, if_false, ne_eq, not_false_eq_true, and_true, Option.map_map]
      split
      · exact congrArg (Option.map · _) (funext (dropDeps_dropDeps [n] _))
      · rfl

theorem mem_keys_withServicesDisabled_disabled {p : Proj} {names : List String} {k : String} :
    k ∈ keys (withServicesDisabled p names).disabled ↔ k ∈ keys p.disabled ∨ (k ∈ names ∧ k ∈ keys p.services) := by
  rw [← lookup_isSome, lookup_withServicesDisabled_disabled]
  split <;> rename_i h
  · simp [h, lookup_isSome]
  · simp [h, lookup_isSome]

theorem find_withServicesDisabled (p : Proj) (names : List String) (k : String) :
    find (withServicesDisabled p names) k =
      if k ∈ keys p.services then (find p k).map (dropDeps (if k ∈ names then upTo k names else names)) else find p k := by
  rw [find, lookup_withServicesDisabled_services, lookup_withServicesDisabled_disabled]
  by_cases hk : k ∈ keys p.services
  · obtain ⟨s, hs⟩ := exists_lookup_of_mem_keys hk
    rw [find_of_services hs, hs]
    by_cases hn : k ∈ names <;> simp [hk, hn]
  · rw [find_of_not_services hk, lookup_eq_none.2 hk]
    simp [hk]

theorem subProj_withServicesDisabled (p : Proj) (names : List String) :
    SubProj p (withServicesDisabled p names) := fun k => by
  rw [find_withServicesDisabled]
  split
  · exact optRel_map _ (subSvc_dropDeps _)
  · exact SubProj.refl p k

theorem lookup_withServicesDisabled_services_eq_some {p : Proj} {names : List String} {k : String} {t : Svc} :
    lookup k (withServicesDisabled p names).services = some t ↔
      k ∉ names ∧ ∃ s, lookup k p.services = some s ∧ dropDeps names s = t := by
  rw [lookup_withServicesDisabled_services]
  split <;> simp [*]

theorem of_mem_withServicesDisabled_services {p : Proj} (h : Partition p) {names : List String} {kv : String × Svc}
    (hkv : kv ∈ (withServicesDisabled p names).services) :
    kv.1 ∉ names ∧ ∃ s, lookup kv.1 p.services = some s ∧ dropDeps names s = kv.2 :=
  lookup_withServicesDisabled_services_eq_some.1 (lookup_of_mem (withServicesDisabled_partition h names).1 hkv)

theorem of_mem_withServicesDisabled_disabled {p : Proj} (h : Partition p) {names : List String} {kv : String × Svc}
    (hkv : kv ∈ (withServicesDisabled p names).disabled) (hx : kv.1 ∈ keys p.services) :
    kv.1 ∈ names ∧ ∃ s, lookup kv.1 p.services = some s ∧ kv.2 = dropDeps (upTo kv.1 names) s := by
  have hn : kv.1 ∈ names :=
    (mem_keys_withServicesDisabled_disabled.1 (mem_keys_of_mem hkv)).elim (fun a => absurd a (h.2.2 _ hx)) (·.1)
  have hl := lookup_of_mem (withServicesDisabled_partition h names).2.1 hkv
  rw [lookup_withServicesDisabled_disabled, if_pos ⟨hn, hx⟩] at hl
  obtain ⟨s, hs, e⟩ := Option.map_eq_some_iff.1 hl
  exact ⟨hn, s, hs, e.symm⟩

theorem withServicesDisabled_spec {p : Proj} (h : Partition p) (names : List String) :
    DisableSpec p names (withServicesDisabled p names) := by
  refine ⟨⟨fun x hx => ?_, fun x hx => ?_⟩, fun kv hkv d hd => ?_, fun kv hkv => ?_, fun kv hkv => ?_,
    (withServicesDisabled_rest p names).1⟩
  · simpa [List.mem_filter] using mem_keys_withServicesDisabled_services.1 hx
  · exact mem_keys_withServicesDisabled_services.2 (by simpa [List.mem_filter] using hx)
  · obtain ⟨_, s, _, e⟩ := of_mem_withServicesDisabled_services h hkv
    obtain ⟨v, hv⟩ := mem_keys.1 (e ▸ hd)
    simpa using (List.mem_filter.1 hv).2
  · obtain ⟨_, s, hs, e⟩ := of_mem_withServicesDisabled_services h hkv
    rw [hs, ← e]; rfl
  · rw [lookup_withServicesDisabled_disabled, if_neg fun c => h.2.2 _ c.2 (mem_keys_of_mem hkv)]
    exact lookup_of_mem h.2.1 hkv

theorem lookup_pickStep (m acc : AL String) (r k : String) :
    lookup k (pickStep m acc r) = if k = r then (lookup r m).or (lookup k acc) else lookup k acc := by
  unfold pickStep
  cases lookup r m with
  | none => exact (ite_self _).symm
  | some v => exact lookup_insert

theorem lookup_foldl_pickStep (m : AL String) (req : List String) (acc : AL String) (k : String) :
    lookup k (req.foldl (pickStep m) acc) = if k ∈ req then (lookup k m).or (lookup k acc) else lookup k acc := by
  induction req generalizing acc with
  | nil => rfl
  | cons r rs ih =>
    rw [List.foldl_cons, ih, lookup_pickStep]
    by_cases e : k = r
    · subst e; simp [← Option.or_assoc]
    · simp [e]

theorem lookup_pick (req : List String) (m : AL String) (k : String) :
    lookup k (pick req m) = if k ∈ req then lookup k m else none := by
  rw [pick, lookup_foldl_pickStep, lookup_nil, Option.or_none]

theorem pick_pick (req : List String) (m : AL String) (k : String) :
    lookup k (pick req (pick req m)) = lookup k (pick req m) := by
  rw [lookup_pick, lookup_pick]; split <;> rfl

theorem nodup_pick (req : List String) (m : AL String) : (keys (pick req m)).Nodup := by
  unfold pick
  generalize hacc : ([] : AL String) = acc
  have h : (keys acc).Nodup := hacc ▸ List.nodup_nil
  clear hacc
  induction req generalizing acc with
  | nil => exact h
  | cons r rs ih =>
    refine ih _ ?_
    unfold pickStep
    cases lookup r m with
    | none => exact h
    | some v => exact nodup_insert h

theorem restricted_pick (req : List String) (m : AL String) : Restricted req m (pick req m) := by
  refine ⟨nodup_pick req m, fun kv hkv => ?_, fun kv hkv hr => ?_⟩
  · have := lookup_of_mem (nodup_pick req m) hkv
    rw [lookup_pick] at this
    split at this
    · exact ⟨‹_›, this⟩
    · cases this
  · rw [lookup_pick, if_pos hr, lookup_isSome]
    exact mem_keys_of_mem hkv

theorem volSources_eq : volSources = volRefs := funext fun s => by
  simp only [volSources, volRefs, bne, ne_eq, Bool.decide_and, decide_not]; rfl

theorem secretSources_eq : secretSources = secretRefs := funext fun s => by
  unfold secretSources secretRefs; cases s.build <;> rfl

def nonSelected (set : List String) (l : AL Svc) : List String := (l.filter (fun kv => kv.1 ∉ set)).map Prod.fst
def selectedPruned (set : List String) (l : AL Svc) : AL Svc :=
  (l.filter (fun kv => kv.1 ∈ set)).map (fun kv => (kv.1, pruneDeps set kv.2))

/-- the range loop before and after the `fix:` commit (`g`: what is done with a non-selected name) -/
theorem selectFold_eq {β} (g : β → String → β) (set : List String) (l : AL Svc) (a : β) (e : AL Svc) :
    l.foldl (fun acc kv => if kv.1 ∈ set then (acc.1, insert kv.1 (pruneDeps set kv.2) acc.2) else (g acc.1 kv.1, acc.2))
      (a, e) = ((nonSelected set l).foldl g a, insertAll (selectedPruned set l) e) := by
  induction l generalizing a e with
  | nil => rfl
  | cons hd t ih =>
    rw [List.foldl_cons, ih]
    by_cases h : hd.1 ∈ set <;> simp [h, nonSelected, selectedPruned, insertAll]

theorem foldl_snoc {α} (l u : List α) : l.foldl (fun u k => u ++ [k]) u = u ++ l := by
  induction l generalizing u with
  | nil => exact (List.append_nil u).symm
  | cons x xs ih => rw [List.foldl_cons, ih, List.append_assoc]; rfl

theorem keys_selectedPruned (set : List String) (l : AL Svc) :
    keys (selectedPruned set l) = keys (l.filter (fun kv => kv.1 ∈ set)) :=
  keys_map_val (fun _ s => pruneDeps set s) _

theorem insertAll_selectedPruned {l : AL Svc} (nd : (keys l).Nodup) (set : List String) :
    insertAll (selectedPruned set l) [] = selectedPruned set l := by
  rw [insertAll_append (by rw [keys_selectedPruned]; exact nodup_filter nd) fun _ _ => List.not_mem_nil]; rfl


theorem mem_upTo_sorted {x y : String} {l : List String} (hs : l.Pairwise (· ≤ ·)) (nd : l.Nodup) (hx : x ∈ l) :
    y ∈ upTo x l ↔ y ∈ l ∧ y ≤ x := by
  induction l with
  | nil => cases hx
  | cons n ns ih =>
    rw [List.pairwise_cons] at hs
    rw [List.nodup_cons] at nd
    unfold upTo
    by_cases e : n = x
    · subst e
      rw [if_pos rfl, List.mem_singleton, List.mem_cons]
      refine ⟨fun a => a ▸ ⟨.inl rfl, String.le_refl _⟩, fun ⟨a, b⟩ => a.elim id fun a => ?_⟩
      exact absurd (String.le_antisymm b (hs.1 y a) ▸ a) nd.1
    · have hx' : x ∈ ns := (List.mem_cons.1 hx).resolve_left (Ne.symm e)
      rw [if_neg e, List.mem_cons, List.mem_cons, ih hs.2 nd.2 hx']
      exact ⟨fun a => a.elim (fun a => ⟨.inl a, a ▸ hs.1 x hx'⟩) fun a => ⟨.inr a.1, a.2⟩,
        fun ⟨a, b⟩ => a.imp id fun a => ⟨a, b⟩⟩

/-- the names handed to `WithServicesDisabled` by `WithSelectedServices` -/
def unselected (set : List String) (l : AL Svc) : List String := sortNames (nonSelected set l)

/-- what `WithSelectedServices` returns once the walk has produced `set` -/
def selectResult (p : Proj) (set : List String) : Proj :=
  { withServicesDisabled p (unselected set p.services) with services := selectedPruned set p.services }

/-- what it returned before the `fix:` commit -/
def selectResultPre (p : Proj) (set : List String) : Proj :=
  { withServicesDisabled p (nonSelected set p.services) with services := selectedPruned set p.services }

theorem withSelectedServicesPre_ok {p : Proj} (h : (keys p.services).Nodup) {names : List String} {pol : Policy}
    {set : List String} (hn : names ≠ []) (hw : forEachService p names pol = .ok set) :
    withSelectedServicesPre p names pol = .ok (selectResultPre p set) := by
  have fold : p.services.foldl (selectStepPre set) (p, []) =
      (withServicesDisabled p (nonSelected set p.services), insertAll (selectedPruned set p.services) []) :=
    selectFold_eq disableOne set p.services p []
  rw [withSelectedServicesPre, if_neg (by simpa using hn), hw]
  simp only [fold, insertAll_selectedPruned h]; rfl

theorem withSelectedServices_eq {p : Proj} (nd : (keys p.services).Nodup) {names : List String} (hn : names ≠ [])
    (pol : Policy) :
    withSelectedServices p names pol = match forEachService p names pol with
      | .ok set => .ok (selectResult p set)
      | .noSuchService => .err
      | .outOfFuel => .fuel := by
  rw [withSelectedServices, if_neg (by simpa using hn)]
  split <;> rename_i hw <;> rw [hw]
  rename_i set
  have fold : p.services.foldl (selectStep set) ([], []) =
      (nonSelected set p.services, insertAll (selectedPruned set p.services) []) := by
    rw [← List.nil_append (nonSelected set p.services), ← foldl_snoc]
    exact selectFold_eq (fun u k => u ++ [k]) set p.services [] []
  simp only [fold, insertAll_selectedPruned nd]; rfl

theorem select_ok_shape {p : Proj} (nd : (keys p.services).Nodup) {names : List String} (hn : names ≠ []) {pol : Policy}
    {q : Proj} (hq : withSelectedServices p names pol = .ok q) :
    ∃ S, forEachService p names pol = .ok S ∧ q = selectResult p S := by
  rw [withSelectedServices_eq nd hn] at hq
  split at hq
  · rename_i set hw; cases hq; exact ⟨set, hw, rfl⟩
  · cases hq
  · cases hq

theorem selectResult_congr (p : Proj) {S S' : List String} (e : ∀ x, x ∈ S ↔ x ∈ S') :
    selectResult p S = selectResult p S' := by
  simp only [selectResult, unselected, nonSelected, selectedPruned, pruneDeps, e]

theorem mem_unselected {set : List String} {l : AL Svc} {x : String} :
    x ∈ unselected set l ↔ x ∈ keys l ∧ x ∉ set := by
  rw [unselected, mem_sortNames]
  exact (mem_keys_filter_key (· ∉ set)).trans (and_congr_right fun _ => decide_eq_true_iff)

theorem mem_keys_selectedPruned {set : List String} {l : AL Svc} {x : String} :
    x ∈ keys (selectedPruned set l) ↔ x ∈ keys l ∧ x ∈ set := by
  rw [keys_selectedPruned]
  exact (mem_keys_filter_key (· ∈ set)).trans (and_congr_right fun _ => decide_eq_true_iff)

theorem mem_keys_selectResult_services {p : Proj} {S : List String} (hsub : ∀ x ∈ S, x ∈ keys p.services) {x : String} :
    x ∈ keys (selectResult p S).services ↔ x ∈ S :=
  mem_keys_selectedPruned.trans ⟨(·.2), fun a => ⟨hsub x a, a⟩⟩

theorem mem_selectedPruned {set : List String} {l : AL Svc} {kv : String × Svc} (h : kv ∈ selectedPruned set l) :
    ∃ s, (kv.1, s) ∈ l ∧ kv.1 ∈ set ∧ kv.2 = pruneDeps set s := by
  obtain ⟨⟨k, s⟩, hm, rfl⟩ := List.mem_map.1 h
  rw [List.mem_filter, decide_eq_true_eq] at hm
  exact ⟨s, hm.1, hm.2, rfl⟩

theorem lookup_selectedPruned (set : List String) (l : AL Svc) (k : String) :
    lookup k (selectedPruned set l) = if k ∈ set then (lookup k l).map (pruneDeps set) else none := by
  rw [selectedPruned, lookup_map_val (fun _ s => pruneDeps set s), lookup_filter_key (· ∈ set)]
  by_cases h : k ∈ set <;> simp [h]

theorem find_selectResult (p : Proj) (S : List String) (k : String) :
    find (selectResult p S) k =
      if k ∈ keys p.services then
        (find p k).map (if k ∈ S then pruneDeps S else dropDeps (upTo k (unselected S p.services)))
      else find p k := by
  rw [find]
  show (match lookup k (selectedPruned S p.services) with
    | some s => some s | none => lookup k (withServicesDisabled p (unselected S p.services)).disabled) = _
  rw [lookup_selectedPruned, lookup_withServicesDisabled_disabled]
  by_cases hk : k ∈ keys p.services
  · obtain ⟨s, hs⟩ := exists_lookup_of_mem_keys hk
    rw [find_of_services hs, hs]
    by_cases hS : k ∈ S <;> simp [hk, hS, mem_unselected]
  · rw [find_of_not_services hk, lookup_eq_none.2 hk]
    simp [hk]

theorem subProj_selectResult (p : Proj) (S : List String) : SubProj p (selectResult p S) := fun k => by
  rw [find_selectResult]
  split
  · refine optRel_map _ fun s => ?_
    split
    · exact .filter s _
    · exact subSvc_dropDeps _ s
  · exact SubProj.refl p k

section
variable {p : Proj} (h : Partition p) (S : List String)
include h

theorem selectResult_partition : Partition (selectResult p S) := by
  refine ⟨?_, (withServicesDisabled_partition h _).2.1, fun k hk hd => ?_⟩
  · show (keys (selectedPruned S p.services)).Nodup
    rw [keys_selectedPruned]; exact nodup_filter h.1
  · have hk' := mem_keys_selectedPruned.1 hk
    rcases mem_keys_withServicesDisabled_disabled.1 hd with a | ⟨a, _⟩
    · exact h.2.2 k hk'.1 a
    · exact (mem_unselected.1 a).2 hk'.2

theorem selectResult_spec (hsub : ∀ x ∈ S, x ∈ keys p.services) : SelectSpec p S (selectResult p S) := by
  refine ⟨⟨fun x => (mem_keys_selectResult_services hsub).1, fun x => (mem_keys_selectResult_services hsub).2⟩,
    fun kv hkv d hd => ?_, fun kv hkv => ?_, fun kv hkv => ?_, (withServicesDisabled_rest p _).1⟩
  · obtain ⟨s, _, _, e⟩ := mem_selectedPruned hkv
    obtain ⟨v, hv⟩ := mem_keys.1 (e ▸ hd)
    have hd : d ∈ S := by simpa using (List.mem_filter.1 hv).2
    exact mem_keys_selectedPruned.2 ⟨hsub d hd, hd⟩
  · obtain ⟨s, hm, _, e⟩ := mem_selectedPruned hkv
    rw [lookup_of_mem h.1 hm, e]; rfl
  · exact (withServicesDisabled_spec h _).2.2.2.1 kv hkv

theorem selectResult_movedSpec : SelectMovedSpec p S (selectResult p S) := by
  intro kv hkv hx
  obtain ⟨hn, s, hs, e⟩ := of_mem_withServicesDisabled_disabled h (names := unselected S p.services) hkv hx
  have srt : (unselected S p.services).Pairwise (· ≤ ·) := sortNames_sorted _
  have nd : (unselected S p.services).Nodup :=
    (sortNames_perm _).nodup_iff.2 (nodup_filter (f := fun kv => kv.1 ∉ S) h.1)
  rw [hs, e]
  show dropDeps _ s = _
  simp only [dropDeps, mem_upTo_sorted srt nd hn, mem_unselected, and_assoc]

end

/-- the same Go project: the two service maps listed in another order, the rest equal -/
def SameProj (p p' : Proj) : Prop :=
  p.services.Perm p'.services ∧ p.disabled.Perm p'.disabled ∧ p.profiles = p'.profiles ∧
  p.networks = p'.networks ∧ p.volumes = p'.volumes ∧ p.secrets = p'.secrets ∧ p.configs = p'.configs ∧
  p.environment = p'.environment

/-- the same Go map -/
def LookEq {α} (m m' : AL α) : Prop := ∀ k, lookup k m = lookup k m'

theorem LookEq.symm {α} {m m' : AL α} (e : LookEq m m') : LookEq m' m := fun k => (e k).symm

theorem mem_keys_lookEq {α} {m m' : AL α} (e : LookEq m m') (k : String) : k ∈ keys m ↔ k ∈ keys m' := by
  rw [← lookup_isSome, ← lookup_isSome, e k]

section
variable {p p' : Proj} (h : Partition p) (e : SameProj p p')
include h e

theorem SameProj.lookEq : LookEq p.services p'.services ∧ LookEq p.disabled p'.disabled :=
  ⟨fun _ => lookup_perm e.1 h.1, fun _ => lookup_perm e.2.1 h.2.1⟩

theorem partition_perm : Partition p' :=
  have k1 := e.1.map Prod.fst
  have k2 := e.2.1.map Prod.fst
  ⟨k1.nodup_iff.1 h.1, k2.nodup_iff.1 h.2.1, fun k hk hd => h.2.2 k (k1.mem_iff.2 hk) (k2.mem_iff.2 hd)⟩

theorem find_perm (k : String) : find p k = find p' k := by
  unfold find; rw [(e.lookEq h).1 k, (e.lookEq h).2 k]

end

theorem mem_all_perm {p p' : Proj} (e : SameProj p p') {kv : String × Svc} (hkv : kv ∈ p'.services ++ p'.disabled) :
    kv ∈ p.services ++ p.disabled :=
  (List.mem_append.1 hkv).elim (fun a => List.mem_append_left _ (e.1.mem_iff.2 a))
    fun a => List.mem_append_right _ (e.2.1.mem_iff.2 a)

theorem withServicesDisabled_lookEq {p p' : Proj} (es : LookEq p.services p'.services) (ed : LookEq p.disabled p'.disabled)
    (names : List String) :
    LookEq (withServicesDisabled p names).services (withServicesDisabled p' names).services ∧
    LookEq (withServicesDisabled p names).disabled (withServicesDisabled p' names).disabled := by
  refine ⟨fun k => ?_, fun k => ?_⟩
  · rw [lookup_withServicesDisabled_services, lookup_withServicesDisabled_services, es k]
  · rw [lookup_withServicesDisabled_disabled, lookup_withServicesDisabled_disabled, es k, ed k]
    simp only [mem_keys_lookEq es k]

theorem selectResult_lookEq {p p' : Proj} (h : Partition p) (e : SameProj p p') (S : List String) :
    LookEq (selectResult p S).services (selectResult p' S).services ∧
    LookEq (selectResult p S).disabled (selectResult p' S).disabled := by
  obtain ⟨es, ed⟩ := e.lookEq h
  refine ⟨fun k => ?_, ?_⟩
  · show lookup k (selectedPruned S p.services) = lookup k (selectedPruned S p'.services)
    rw [lookup_selectedPruned, lookup_selectedPruned, es k]
  · show LookEq (withServicesDisabled p (unselected S p.services)).disabled
      (withServicesDisabled p' (unselected S p'.services)).disabled
    rw [show unselected S p.services = unselected S p'.services from sortNames_eq_of_perm ((e.1.filter _).map _)]
    exact (withServicesDisabled_lookEq es ed _).2

theorem step_sub {p q : Proj} (h : Partition p) (o : Op) (hq : applyOp p o = .ok q) :
    Partition q ∧ SubProj p q := by
  cases o with
  | profiles P => cases hq; exact ⟨withProfiles_partition h P, subProj_of_find_eq (find_withProfiles h P)⟩
  | enable ns =>
    cases hq
    by_cases hn : ns = []
    · subst hn; exact ⟨h, .refl p⟩
    · rw [withServicesEnabled_of_ne hn]
      exact ⟨resolveEnabled_partition (withProfiles_partition h _),
        (subProj_of_find_eq (find_withProfiles h _)).trans (subProj_resolveEnabled _)⟩
  | disable ns => cases hq; exact ⟨withServicesDisabled_partition h ns, subProj_withServicesDisabled p ns⟩
  | select ns pol =>
    by_cases hn : ns = []
    · subst hn; cases hq; exact ⟨h, .refl p⟩
    · obtain ⟨S, _, rfl⟩ := select_ok_shape h.1 hn hq
      exact ⟨selectResult_partition h S, subProj_selectResult p S⟩
  | prune => cases hq; exact ⟨h, .refl p⟩

theorem run_cons (p : Proj) (o : Op) (os : List Op) :
    run p (o :: os) = match applyOp p o with | .ok q => run q os | _ => run p os := rfl

theorem run_append (p : Proj) (a b : List Op) : run p (a ++ b) = run (run p a) b := by
  induction a generalizing p with
  | nil => rfl
  | cons o os ih =>
    simp only [List.cons_append, run_cons]
    cases applyOp p o <;> exact ih _

theorem run_snoc_ok {p q : Proj} (ops : List Op) (o : Op) (h : applyOp (run p ops) o = .ok q) : run p (ops ++ [o]) = q := by
  rw [run_append]
  show (match applyOp (run p ops) o with | .ok q => run q [] | _ => run (run p ops) []) = q
  rw [h]; rfl

end CV.Sel
