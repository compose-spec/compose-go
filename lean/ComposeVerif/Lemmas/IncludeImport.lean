import ComposeVerif.Spec.Include
import ComposeVerif.Lemmas.Include
/-! `importResources` storey by storey: the loop over the names of one section (`importEntries`, by its own induction
principle), one section of the document (`importResource`, by the shape of the source section), the five sections
(`importKinds`).  For each: which outcomes there are, when it is a conflict, what a success yields, what it leaves alone.
`s` / `S` is the sameness test. -/
namespace CV.Include
open CV CV.Val

variable {s : Val → Val → Bool} {S : String → Val → Val → Bool}

theorem importEntries_outcome (frm to : KVs) :
    (∃ r, importEntries s frm to = .ok r) ∨ importEntries s frm to = .err "conflict" := by
  fun_induction importEntries s frm to with
  | case1 to => exact .inl ⟨to, rfl⟩
  | case2 _ _ _ _ _ _ _ ih => exact ih
  | case3 => exact .inr rfl
  | case4 _ _ _ _ _ ih => exact ih

theorem importEntries_conflict_iff (frm to : KVs) (hnd : (frm.map Prod.fst).Nodup) :
    importEntries s frm to = .err "conflict" ↔ ∃ n a c, (n, a) ∈ frm ∧ lookup n to = some c ∧ s a c = false := by
  fun_induction importEntries s frm to with
  | case1 to => simp
  | case2 name a rest to c hl hs ih =>
    -- `name` is there with the same value: a conflict is a conflict of the rest
    rw [ih (List.nodup_cons.mp hnd).2]
    constructor
    · rintro ⟨n, a', c', hm, h⟩; exact ⟨n, a', c', List.mem_cons_of_mem _ hm, h⟩
    · rintro ⟨n, a', c', hm, hl', hne⟩
      rcases List.mem_cons.mp hm with e | hm
      · cases e; rw [hl] at hl'; cases hl'; rw [hs] at hne; cases hne
      · exact ⟨n, a', c', hm, hl', hne⟩
  | case3 name a rest to c hl hs =>
    exact iff_of_true rfl ⟨name, a, c, List.mem_cons_self, hl, by simpa using hs⟩
  | case4 name a rest to hl ih =>
    -- `name` is new: the names of the rest differ from it, so they are looked up in `to` as before
    obtain ⟨hnot, hnd⟩ := List.nodup_cons.mp hnd
    have hne : ∀ n a', (n, a') ∈ rest → n ≠ name := fun n a' hm e =>
      hnot (List.mem_map.mpr ⟨(n, a'), hm, e⟩)
    rw [ih hnd]
    constructor
    · rintro ⟨n, a', c', hm, hl', hne'⟩
      exact ⟨n, a', c', List.mem_cons_of_mem _ hm, by rwa [lookup_append_single_ne to (hne n a' hm)] at hl', hne'⟩
    · rintro ⟨n, a', c', hm, hl', hne'⟩
      rcases List.mem_cons.mp hm with e | hm
      · cases e; rw [hl] at hl'; cases hl'
      · exact ⟨n, a', c', hm, by rwa [lookup_append_single_ne to (hne n a' hm)], hne'⟩

theorem importEntries_lookup (frm to r : KVs) (h : importEntries s frm to = .ok r) (k : String) :
    lookup k r = match lookup k to with
      | some c => some c
      | none => lookup k frm := by
  fun_induction importEntries s frm to with
  | case1 to => cases h; cases lookup k r <;> rfl
  | case2 name a rest to c hl hs ih =>
    rw [ih h]
    cases hk : lookup k to with
    | some c' => rfl
    | none => exact (lookup_cons_ne fun e => by rw [e, hl] at hk; cases hk).symm
  | case3 => cases h
  | case4 name a rest to hl ih =>
    rw [ih h, lookup_append]
    cases lookup k to with
    | some c' => rfl
    | none =>
      by_cases hkn : k = name
      · rw [hkn, lookup_cons_self, lookup_cons_self]; rfl
      · rw [lookup_cons_ne hkn, lookup_cons_ne hkn]; rfl

theorem importEntries_ok_mem (hrefl : ∀ a, s a a = true) (frm to r : KVs) (h : importEntries s frm to = .ok r) :
    ∀ n a, (n, a) ∈ frm → ∃ c, lookup n r = some c ∧ s a c = true := by
  fun_induction importEntries s frm to with
  | case1 => nofun
  | case2 name a rest to c hl hs ih =>
    intro n a' hm
    rcases List.mem_cons.mp hm with e | hm
    · cases e; exact ⟨c, by rw [importEntries_lookup rest to r h, hl], hs⟩
    · exact ih h n a' hm
  | case3 => cases h
  | case4 name a rest to hl ih =>
    intro n a' hm
    rcases List.mem_cons.mp hm with e | hm
    · cases e
      exact ⟨a, by rw [importEntries_lookup rest _ r h, lookup_append, hl, Option.none_or, lookup_cons_self], hrefl a⟩
    · exact ih h n a' hm

theorem resourceKinds_nodup : resourceKinds.Nodup := by simp [resourceKinds]

theorem include_not_kind : "include" ∉ resourceKinds := by simp [resourceKinds]

theorem targetSection_congr {k : String} {t t' : KVs} (h : lookup k t' = lookup k t) :
    targetSection k t' = targetSection k t := by
  simp only [targetSection, h]

theorem importResource_ok {src tgt r : KVs} {k : String} (h : importResource S src tgt k = .ok r) :
    (r = tgt ∧ (lookup k src = none ∨ lookup k src = some .null)) ∨
    ∃ f to to', lookup k src = some (.map f) ∧ targetSection k tgt = some to ∧
      importEntries (S k) f to = .ok to' ∧ r = Val.insert k (.map to') tgt := by
  simp only [importResource] at h
  split at h
  · cases h; exact .inl ⟨rfl, .inl ‹_›⟩
  · cases h; exact .inl ⟨rfl, .inr ‹_›⟩
  · split at h
    · cases h
    · split at h
      · obtain ⟨to', h1, h2⟩ := bind_eq_ok h
        cases h2
        exact .inr ⟨_, _, to', ‹_›, ‹_›, h1, rfl⟩
      · cases h

theorem importResource_frame {src tgt tgt' : KVs} {k k' : String} (h : importResource S src tgt k = .ok tgt')
    (hk : k' ≠ k) : lookup k' tgt' = lookup k' tgt := by
  rcases importResource_ok h with ⟨rfl, _⟩ | ⟨_, _, _, _, _, _, rfl⟩
  · rfl
  · exact lookup_insert_ne _ hk _

theorem importResource_skip {src tgt : KVs} {k : String} (h : lookup k src = none ∨ lookup k src = some .null) :
    importResource S src tgt k = .ok tgt ∧ ¬ ConflictAt S src tgt k := by
  have hm : ∀ f, lookup k src ≠ some (.map f) := fun f e => by rcases h with h | h <;> rw [h] at e <;> cases e
  exact ⟨by rcases h with h | h <;> simp only [importResource, h], fun ⟨f, _, _, _, _, hf, _⟩ => hm f hf⟩

theorem importResource_map {src tgt f to : KVs} {k : String} (hs : lookup k src = some (.map f))
    (ht : targetSection k tgt = some to) :
    importResource S src tgt k = (importEntries (S k) f to).bind fun to' => .ok (insert k (.map to') tgt) := by
  simp only [importResource, hs, ht]

theorem importResource_conflict_iff {src tgt : KVs} {k : String}
    (hs : lookup k src = none ∨ lookup k src = some .null ∨ ∃ f, lookup k src = some (.map f) ∧ (f.map Prod.fst).Nodup)
    (ht : ∃ to, targetSection k tgt = some to) :
    importResource S src tgt k = .err "conflict" ↔ ConflictAt S src tgt k := by
  obtain ⟨to, ht⟩ := ht
  rcases or_assoc.mpr hs with hs | ⟨f, hs, hnd⟩
  · obtain ⟨e, hn⟩ := importResource_skip (S := S) (tgt := tgt) hs
    rw [e]; exact iff_of_false nofun hn
  · rw [importResource_map hs ht, bind_ok_eq_err, importEntries_conflict_iff f to hnd, ConflictAt]
    exact ⟨fun ⟨n, a, c, h⟩ => ⟨f, to, n, a, c, hs, ht, h⟩, fun ⟨f', to', n, a, c, hf, hto, h⟩ => by
      rw [hs] at hf; rw [ht] at hto; cases hf; cases hto; exact ⟨n, a, c, h⟩⟩

theorem importResource_outcome {src tgt : KVs} {k : String}
    (hs : lookup k src = none ∨ lookup k src = some .null ∨ ∃ f, lookup k src = some (.map f) ∧ (f.map Prod.fst).Nodup)
    (ht : ∃ to, targetSection k tgt = some to) :
    (∃ r, importResource S src tgt k = .ok r) ∨ importResource S src tgt k = .err "conflict" := by
  obtain ⟨to, ht⟩ := ht
  rcases or_assoc.mpr hs with hs | ⟨f, hs, _⟩
  · exact .inl ⟨tgt, (importResource_skip hs).1⟩
  · rw [importResource_map hs ht]
    rcases importEntries_outcome f to with ⟨r, hr⟩ | hr <;> rw [hr]
    · exact .inl ⟨_, rfl⟩
    · exact .inr rfl

theorem conflictAt_congr {src t t' : KVs} {k : String} (h : lookup k t' = lookup k t) :
    ConflictAt S src t' k ↔ ConflictAt S src t k := by
  simp only [ConflictAt, targetSection_congr h]

theorem importKinds_conflict_iff (src : KVs) (hs : WfSource src) :
    ∀ (ks : List String) (tgt : KVs), ks.Nodup → (∀ k, k ∈ ks → k ∈ resourceKinds) →
      (∀ k, k ∈ ks → ∃ to, targetSection k tgt = some to) →
      (importKinds S src ks tgt = .err "conflict" ↔ ∃ k, k ∈ ks ∧ ConflictAt S src tgt k)
  | [], tgt, _, _, _ => by simp [importKinds]
  | k :: ks, tgt, hnd, hsub, ht => by
    simp only [List.nodup_cons] at hnd
    have hsk := hs k (hsub k List.mem_cons_self)
    have htk := ht k List.mem_cons_self
    simp only [importKinds]
    rcases importResource_outcome hsk htk with ⟨r, hr⟩ | hr
    · rw [hr, bind_ok]
      have hframe : ∀ k', k' ∈ ks → lookup k' r = lookup k' tgt := by
        intro k' hk'
        exact importResource_frame hr (by intro e; subst e; exact hnd.1 hk')
      have ht' : ∀ k', k' ∈ ks → ∃ to, targetSection k' r = some to := by
        intro k' hk'
        rw [targetSection_congr (hframe k' hk')]
        exact ht k' (List.mem_cons_of_mem _ hk')
      rw [importKinds_conflict_iff src hs ks r hnd.2 (fun k' hk' => hsub k' (List.mem_cons_of_mem _ hk')) ht']
      have hnok : ¬ ConflictAt S src tgt k := by
        rw [← importResource_conflict_iff hsk htk, hr]; intro e; cases e
      constructor
      · rintro ⟨k', hk', hc⟩
        exact ⟨k', List.mem_cons_of_mem _ hk', (conflictAt_congr (hframe k' hk')).mp hc⟩
      · rintro ⟨k', hk', hc⟩
        rcases List.mem_cons.mp hk' with h1 | h2
        · subst h1; exact absurd hc hnok
        · exact ⟨k', h2, (conflictAt_congr (hframe k' h2)).mpr hc⟩
    · rw [hr, bind_err]
      simp only [true_iff]
      exact ⟨k, List.mem_cons_self, (importResource_conflict_iff hsk htk).mp hr⟩

theorem resourceOf_congr {m m' : KVs} {k : String} (h : lookup k m' = lookup k m) (n : String) :
    resourceOf m' k n = resourceOf m k n := by
  simp only [resourceOf, h]

theorem targetSection_lookup {tgt to : KVs} {k : String} (h : targetSection k tgt = some to) (n : String) :
    lookup n to = resourceOf tgt k n := by
  simp only [targetSection] at h
  simp only [resourceOf]
  split at h
  · cases h; rename_i hl; simp [hl, lookup]
  · cases h; rename_i hl; simp [hl, lookup]
  · cases h; rename_i hl; simp [hl]
  · cases h

theorem importResource_resource {src tgt r : KVs} {k : String} (h : importResource S src tgt k = .ok r) (n : String) :
    resourceOf r k n = match resourceOf tgt k n with
      | some v => some v
      | none => resourceOf src k n := by
  rcases importResource_ok h with ⟨rfl, hs⟩ | ⟨f, to, to', hs, hto, h1, rfl⟩
  · have hsn : resourceOf src k n = none := by rcases hs with hs | hs <;> simp only [resourceOf, hs]
    rw [hsn]; cases resourceOf r k n <;> rfl
  · have hr : resourceOf (Val.insert k (.map to') tgt) k n = lookup n to' := by
      simp only [resourceOf, lookup_insert_self]
    have hsrc : resourceOf src k n = lookup n f := by simp only [resourceOf, hs]
    rw [hr, importEntries_lookup f to to' h1 n, targetSection_lookup hto n, hsrc]

theorem importKinds_paste (src : KVs) :
    ∀ (ks : List String) (tgt r : KVs), ks.Nodup → importKinds S src ks tgt = .ok r →
      (∀ k, k ∈ ks → ∀ n, resourceOf r k n = match resourceOf tgt k n with
          | some v => some v
          | none => resourceOf src k n) ∧
      (∀ k, k ∉ ks → lookup k r = lookup k tgt)
  | [], tgt, r, _, h => by
    simp only [importKinds] at h; cases h
    exact ⟨fun k hk => absurd hk (List.not_mem_nil), fun _ _ => rfl⟩
  | k0 :: ks, tgt, r, hnd, h => by
    simp only [List.nodup_cons] at hnd
    simp only [importKinds] at h
    obtain ⟨r0, h0, h1⟩ := bind_eq_ok h
    obtain ⟨ih1, ih2⟩ := importKinds_paste src ks r0 r hnd.2 h1
    constructor
    · intro k hk n
      rcases List.mem_cons.mp hk with e | hk'
      · subst e
        rw [resourceOf_congr (ih2 k hnd.1) n]
        exact importResource_resource h0 n
      · have hne : k ≠ k0 := by intro e; subst e; exact hnd.1 hk'
        rw [ih1 k hk' n, resourceOf_congr (importResource_frame h0 hne) n]
    · intro k hk
      have hne : k ≠ k0 := by intro e; subst e; exact hk List.mem_cons_self
      have hk' : k ∉ ks := fun hm => hk (List.mem_cons_of_mem _ hm)
      rw [ih2 k hk', importResource_frame h0 hne]

end CV.Include
