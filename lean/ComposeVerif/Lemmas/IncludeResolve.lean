import ComposeVerif.Model.IncludeResolve
import ComposeVerif.Lemmas.Include
/-! The environment resolvers of `loadYamlModel` (`Model/IncludeResolve.lean`): each is `mapSection k f` (it rewrites the
entries of its own section); the resolver of secrets and configs through its source variable; a second resolution with an
environment that the first one `Extends` changes nothing. -/
namespace CV.Include
open CV CV.Val

/-- what `include_env_precedence` proves about the environment of an included load -/
def Extends (envI envP : Env) : Prop := ∀ k v, Env.get envP k = some v → Env.get envI k = some v

theorem Extends.cases {envI envP : Env} (hx : Extends envI envP) (k : String) :
    Env.get envP k = none ∨ Env.get envP k = Env.get envI k := by
  cases h : Env.get envP k with
  | none => exact .inl rfl
  | some v => exact .inr (hx k v h).symm

theorem extends_trans {a b c : Env} (hab : Extends a b) (hbc : Extends b c) : Extends a c :=
  fun k v h => hab k v (hbc k v h)

theorem mapVals_eq_map (f : Val → Val) : ∀ m : KVs, mapVals f m = m.map fun kv => (kv.1, f kv.2)
  | [] => rfl
  | (_, _) :: r => congrArg _ (mapVals_eq_map f r)

/-- the shape all three resolvers share: rewrite every entry of the mapping under `k` -/
def mapSection (k : String) (f : Val → Val) (dict : KVs) : KVs :=
  match lookup k dict with
  | some (.map os) => insert k (.map (mapVals f os)) dict
  | _ => dict

/-- closed form of a section after its resolver -/
def resolvedSection (f : Val → Val) : Option Val → Option Val
  | some (.map os) => some (.map (mapVals f os))
  | o => o

theorem lookup_mapSection (k k' : String) (f : Val → Val) (dict : KVs) :
    lookup k' (mapSection k f dict) = if k' = k then resolvedSection f (lookup k dict) else lookup k' dict := by
  unfold mapSection
  by_cases hk : k' = k
  · subst hk
    rw [if_pos rfl]
    split
    · next os h => rw [lookup_insert_self, h]; rfl
    · next h =>
      cases hl : lookup k' dict with
      | none => rfl
      | some v =>
        cases v with
        | map os => exact absurd hl (h os)
        | _ => rfl
  · rw [if_neg hk]
    split
    · exact lookup_insert_ne _ hk _
    · rfl

theorem resolveModelEnv_included (env : Env) (dict : KVs) :
    resolveModelEnv true env dict =
      mapSection "secrets" (resolveSource secretCarrier env) (mapSection "services" (resolveService env) dict) := rfl

theorem resolveModelEnv_own (env : Env) (dict : KVs) :
    resolveModelEnv false env dict = mapSection "configs" (resolveSource "content" env) (resolveModelEnv true env dict) := rfl

/-- the variable a secret / config is sourced from: a non-empty string under `environment` -/
def sourceVar (o : KVs) : Option String :=
  match lookup "environment" o with
  | some (.str e) => if e = "" then none else some e
  | _ => none

theorem resolveSource_map (carrier : String) (env : Env) (o : KVs) :
    resolveSource carrier env (.map o) =
      match (sourceVar o).bind env.get with
      | some v => .map (insert carrier (.str v) o)
      | none => .map o := by
  simp only [resolveSource, sourceVar]
  cases lookup "environment" o with
  | none => rfl
  | some x =>
    cases x with
    | str e => by_cases he : e = "" <;> simp [he] <;> rfl
    | _ => rfl

theorem sourceVar_insert {carrier : String} (hc : carrier ≠ "environment") (v : Val) (o : KVs) :
    sourceVar (insert carrier v o) = sourceVar o := by
  simp only [sourceVar, lookup_insert_ne _ (Ne.symm hc)]

/-- a secret (config) resolved with the include's environment is not changed by the
including model's resolver, whose environment the include's extends -/
theorem resolveSource_stable {carrier : String} (hc : carrier ≠ "environment") {envI envP : Env} (hx : Extends envI envP)
    (s : Val) : resolveSource carrier envP (resolveSource carrier envI s) = resolveSource carrier envI s := by
  cases s with
  | map o =>
    rw [resolveSource_map carrier envI o]
    cases hv : sourceVar o with
    | none => simp only [Option.bind_none, resolveSource_map, hv]
    | some e =>
      -- the second resolver finds the same variable (`sourceVar_insert`); its environment gives the same value or none
      -- (`Extends.cases`), so it writes the same value again (`insert_insert`) or nothing
      rcases hx.cases e with hP | hP <;> cases hI : Env.get envI e <;>
        simp [resolveSource_map, sourceVar_insert hc, hv, hI, hP, Val.insert_insert]
  | _ => rfl

/-- no variable of the environment has `=` in its name (names come from `os.Environ` / dotenv keys) -/
def NoEqNames (env : Env) : Prop := ∀ s v : String, Env.get env (s ++ "=" ++ v) = none

theorem resolveEnvList_stable {envI envP : Env} (hx : Extends envI envP) (hn : NoEqNames envP) (l : List Val) :
    resolveEnvList envP (resolveEnvList envI l) = resolveEnvList envI l := by
  induction l with
  | nil => rfl
  | cons x r ih =>
    cases x with
    | str s =>
      cases hI : Env.get envI s with
      | some v => simp [resolveEnvList, hI, hn s v, ih]
      | none =>
        have hP : Env.get envP s = none := (hx.cases s).elim id (·.trans hI)
        simp [resolveEnvList, hI, hP, ih]
    | _ => simpa [resolveEnvList] using ih

theorem resolveService_stable {envI envP : Env} (hx : Extends envI envP) (hn : NoEqNames envP) (s : Val) :
    resolveService envP (resolveService envI s) = resolveService envI s := by
  cases s with
  | map cfg =>
    cases hl : lookup "environment" cfg with
    | none => simp [resolveService, hl]
    | some ev =>
      cases ev with
      | seq l =>
        simp [resolveService, hl, lookup_insert_self, Val.insert_insert, resolveEnvList_stable hx hn]
      | _ => simp [resolveService, hl]
  | _ => rfl

theorem resolvedSection_stable {f g : Val → Val} (h : ∀ v, f (g v) = g v) (o : Option Val) :
    resolvedSection f (resolvedSection g o) = resolvedSection g o := by
  cases o with
  | none => rfl
  | some v =>
    cases v with
    | map os => simp [resolvedSection, mapVals_eq_map, h]
    | _ => rfl

end CV.Include
