import ComposeVerif.Spec.Validate
import ComposeVerif.Lemmas.KVs
import ComposeVerif.Lemmas.ValInd
/-! `validation.Validate` on the untyped tree.  The checkers against their rules (`run_ok_iff`) and what a checker reads of a
mapping (`run_map_congr`); what the walk lists (`mem_failuresAt`: the answers, other than `ok`, of the checkers at the
checked nodes it reaches) with its corollaries; steps of a walk (`Reaches.trans`, `map_step`, `map_plain`, …); the three
resource sections and when a resource fails its row's rule. -/
namespace CV.Validate
open CV CV.TPath

theorem runL_nil_iff (c : Checker) (v : Val) : runL c v = [] ↔ run c v = .ok := by
  unfold runL
  cases run c v <;> simp

theorem checkExternal_ok_iff (kvs : Val.KVs) : checkExternal kvs = .ok ↔ ExternalOK kvs := by
  unfold checkExternal ExternalOK
  cases h : Val.lookup "external" kvs with
  | none => simp
  | some x =>
    cases hb : asBoolean x with
    | none => simp [hb]
    | some b => cases b <;> simp [hb, List.all_eq_true]

theorem run_ok_iff (c : Checker) (w : Val) : run c w = .ok ↔ Passes c w := by
  cases c with
  | volume =>
    simp only [run, Passes]
    cases w <;> simp [checkVolume, checkExternal_ok_iff]
  | fileObject keys =>
    simp only [run, Passes]
    cases w <;> simp [checkFileObject]
    rename_i kvs
    by_cases h1 : countPresent keys kvs > 1
    · simp [h1]; omega
    · by_cases h0 : countPresent keys kvs = 0
      · simp [h0]
        cases has "driver" kvs <;> cases has "external" kvs <;> simp
      · have : countPresent keys kvs = 1 := by omega
        simp [this]
  | path =>
    simp only [run, Passes]
    cases w <;> simp [checkPath]
  | deviceRequest =>
    simp only [run, Passes]
    cases w <;> simp [checkDeviceRequest]

theorem all_keys_iff (P : String → Bool) (m : Val.KVs) :
    m.all (fun e => P e.1) = true ↔ ∀ k, has k m = true → P k = true := by
  simp only [List.all_eq_true, has, Val.lookup_isSome, Val.keys, List.mem_map]
  exact ⟨fun h k ⟨e, he, hk⟩ => hk ▸ h e he, fun h e he => h e.1 ⟨e, he, rfl⟩⟩

/-- **what a checker reads of a mapping**: which keys are present, and the boolean `external` stands for.  Two mappings
that agree on both get the same verdict from every checker (the same mapping in another order, with its `external`
leaf cast, …) -/
theorem run_map_congr (c : Checker) {a b : Val.KVs} (hh : ∀ k, has k a = has k b)
    (he : (Val.lookup "external" a).map asBoolean = (Val.lookup "external" b).map asBoolean) :
    run c (.map a) = run c (.map b) := by
  have hall : a.all (fun e => externalAllowed e.1) = b.all (fun e => externalAllowed e.1) := by
    rw [Bool.eq_iff_iff, all_keys_iff, all_keys_iff]
    simp only [hh]
  have hcount : ∀ keys, countPresent keys a = countPresent keys b := fun keys => by
    unfold countPresent
    exact congrArg _ (List.filter_congr fun k _ => hh k)
  cases c with
  | volume =>
    simp only [run, checkVolume, checkExternal, hall]
    cases ha : Val.lookup "external" a <;> cases hb : Val.lookup "external" b <;> rw [ha, hb] at he <;>
      simp only [Option.map_some, Option.map_none, Option.some.injEq, reduceCtorEq] at he
    simp only [he]
  | fileObject keys => simp only [run, checkFileObject, hcount, hh]
  | path => rfl
  | deviceRequest => simp only [run, checkDeviceRequest, hh]

def AllOK (p : TPath) (v : Val) : Prop :=
  ∀ q w c, Reaches p v q w → firstMatch table q = some c → run c w = .ok

theorem reaches_matched {p q : TPath} {v w : Val} {c : Checker} (hm : firstMatch table p = some c)
    (h : Reaches p v q w) : q = p ∧ w = v := by
  cases h with
  | here => exact ⟨rfl, rfl⟩
  | inMap hn _ _ => rw [hn] at hm; cases hm
  | inSeq hn _ _ => rw [hn] at hm; cases hm

theorem failuresAt_matched {p : TPath} {c : Checker} (h : firstMatch table p = some c) (v : Val) :
    failuresAt p v = runL c v := by
  cases v <;> simp only [failuresAt, h]

theorem failuresKVs_eq (p : TPath) : ∀ kvs : List (String × Val),
    failuresKVs p kvs = kvs.flatMap fun kv => failuresAt (next p kv.1) kv.2
  | [] => rfl
  | (k, v) :: r => by rw [failuresKVs, failuresKVs_eq p r, List.flatMap_cons]

theorem failuresSeq_eq (p : TPath) : ∀ xs : List Val, failuresSeq p xs = xs.flatMap (failuresAt (next p "[]"))
  | [] => rfl
  | v :: r => by rw [failuresSeq, failuresSeq_eq p r, List.flatMap_cons]

/-- **what `check` lists below `(p, v)`**: the answers other than `ok` of the checkers at the checked nodes it reaches.
A fact about the checkers' answers (none is `ok`, a panic names one of three sites, all are `ok` iff …) is thereby a
fact about `Validate`. -/
theorem mem_failuresAt {o : VOut} (v : Val) : ∀ p, o ∈ failuresAt p v ↔
    ∃ q w c, Reaches p v q w ∧ firstMatch table q = some c ∧ o ∈ runL c w := by
  have matched : ∀ {p c} (v : Val), firstMatch table p = some c → (o ∈ failuresAt p v ↔
      ∃ q w c, Reaches p v q w ∧ firstMatch table q = some c ∧ o ∈ runL c w) := fun {p c} v hm => by
    rw [failuresAt_matched hm]
    exact ⟨fun h => ⟨p, v, c, .here, hm, h⟩, fun ⟨q, w, c', hr, hq, h⟩ => by
      obtain ⟨rfl, rfl⟩ := reaches_matched hm hr; cases hm.symm.trans hq; exact h⟩
  induction v using Val.ind with
  | map kvs ih =>
    intro p
    cases hm : firstMatch table p with
    | some c => exact matched _ hm
    | none =>
      simp only [failuresAt, hm, failuresKVs_eq, List.mem_flatMap]
      constructor
      · rintro ⟨kv, hkv, h⟩
        obtain ⟨q, w, c, hr, hq, h⟩ := (ih kv hkv _).mp h
        exact ⟨q, w, c, .inMap hm hkv hr, hq, h⟩
      · rintro ⟨q, w, c, hr, hq, h⟩
        cases hr with
        | here => rw [hm] at hq; cases hq
        | inMap _ hk hr' => exact ⟨_, hk, (ih _ hk _).mpr ⟨q, w, c, hr', hq, h⟩⟩
  | seq xs ih =>
    intro p
    cases hm : firstMatch table p with
    | some c => exact matched _ hm
    | none =>
      simp only [failuresAt, hm, failuresSeq_eq, List.mem_flatMap]
      constructor
      · rintro ⟨x, hx, h⟩
        obtain ⟨q, w, c, hr, hq, h⟩ := (ih x hx _).mp h
        exact ⟨q, w, c, .inSeq hm hx hr, hq, h⟩
      · rintro ⟨q, w, c, hr, hq, h⟩
        cases hr with
        | here => rw [hm] at hq; cases hq
        | inSeq _ hk hr' => exact ⟨_, hk, (ih _ hk _).mpr ⟨q, w, c, hr', hq, h⟩⟩
  | leaf v h1 h2 =>
    intro p
    cases hm : firstMatch table p with
    | some c => exact matched _ hm
    | none =>
      cases v with
      | map m => exact absurd rfl (h1 m)
      | seq l => exact absurd rfl (h2 l)
      | _ =>
        simp only [failuresAt, hm, List.not_mem_nil, false_iff]
        rintro ⟨q, w, c, hr, hq, _⟩
        cases hr; rw [hm] at hq; cases hq

theorem failuresAt_nil_iff (p : TPath) (v : Val) : failuresAt p v = [] ↔ AllOK p v := by
  simp only [List.eq_nil_iff_forall_not_mem, mem_failuresAt, AllOK, ← runL_nil_iff]
  exact ⟨fun h q w c hr hq o ho => h o ⟨q, w, c, hr, hq, ho⟩, fun h o ⟨q, w, c, hr, hq, ho⟩ => h q w c hr hq o ho⟩

theorem failuresKVs_nil_iff : ∀ (p : TPath) (kvs : List (String × Val)),
    failuresKVs p kvs = [] ↔ ∀ k c, (k, c) ∈ kvs → AllOK (next p k) c := fun p kvs => by
  simp only [failuresKVs_eq, List.flatMap_eq_nil_iff, failuresAt_nil_iff, Prod.forall]

theorem failuresSeq_nil_iff : ∀ (p : TPath) (xs : List Val),
    failuresSeq p xs = [] ↔ ∀ c, c ∈ xs → AllOK (next p "[]") c := fun p xs => by
  simp only [failuresSeq_eq, List.flatMap_eq_nil_iff, failuresAt_nil_iff]

theorem ok_not_mem_runL (c : Checker) (v : Val) : VOut.ok ∉ runL c v := by
  unfold runL
  cases run c v <;> simp

theorem failuresAt_sub (p : TPath) (v : Val) (o : VOut) (h : o ∈ failuresAt p v) : ∃ c w, o ∈ runL c w :=
  let ⟨_, w, c, _, _, ho⟩ := (mem_failuresAt v p).mp h; ⟨c, w, ho⟩

theorem failuresKVs_sub (p : TPath) (kvs : List (String × Val)) (o : VOut) (h : o ∈ failuresKVs p kvs) :
    ∃ c w, o ∈ runL c w :=
  let ⟨_, _, ho⟩ := List.mem_flatMap.mp (failuresKVs_eq p kvs ▸ h); failuresAt_sub _ _ o ho

theorem failuresSeq_sub (p : TPath) (xs : List Val) (o : VOut) (h : o ∈ failuresSeq p xs) : ∃ c w, o ∈ runL c w :=
  let ⟨_, _, ho⟩ := List.mem_flatMap.mp (failuresSeq_eq p xs ▸ h); failuresAt_sub _ _ o ho

theorem ok_not_mem_failuresAt (p : TPath) (v : Val) : VOut.ok ∉ failuresAt p v :=
  fun h => let ⟨c, w, ho⟩ := failuresAt_sub p v _ h; ok_not_mem_runL c w ho

theorem validate_eq (t : Val) : validate t = .ok ∨ validate t ∈ failures t := by
  unfold validate
  cases failures t with
  | nil => exact .inl rfl
  | cons o r => exact .inr (List.mem_cons_self ..)

theorem validate_ok_iff_failures (t : Val) : validate t = .ok ↔ failures t = [] := by
  unfold validate
  cases h : failures t with
  | nil => simp
  | cons o r =>
    simp only [reduceCtorEq, iff_false]
    intro ho
    exact ok_not_mem_failuresAt TPath.root t (by unfold failures at h; rw [h, ← ho]; exact List.mem_cons_self ..)

theorem Reaches.trans {p q r : TPath} {v w x : Val} (h1 : Reaches p v q w) (h2 : Reaches q w r x) : Reaches p v r x := by
  induction h1 with
  | here => exact h2
  | inMap hn hk _ ih => exact .inMap hn hk (ih h2)
  | inSeq hn hk _ ih => exact .inSeq hn hk (ih h2)

theorem Reaches.map_step {p : TPath} {kvs : Val.KVs} {k : String} {c : Val} (hn : firstMatch table p = none)
    (hk : (k, c) ∈ kvs) : Reaches p (.map kvs) (next p k) c := .inMap hn hk .here

theorem Reaches.seq_step {p : TPath} {xs : List Val} {c : Val} (hn : firstMatch table p = none)
    (hk : c ∈ xs) : Reaches p (.seq xs) (next p "[]") c := .inSeq hn hk .here

theorem next_nonroot (p : TPath) (hp : p ≠ TPath.root) (k : String) : next p k = p ++ [ghostify k] := by
  unfold next; rw [if_neg hp]

/-- one more step down a walk, below the root, into a mapping at a key that has no dot -/
theorem Reaches.map_plain {p₀ p : TPath} {t : Val} {kvs : Val.KVs} {k : String} {c : Val}
    (h : Reaches p₀ t p (.map kvs)) (hp : p ≠ TPath.root) (hn : firstMatch table p = none) (hg : ghostify k = k)
    (hk : (k, c) ∈ kvs) : Reaches p₀ t (p ++ [k]) c := by
  have := Reaches.map_step hn hk
  rw [next_nonroot p hp, hg] at this
  exact h.trans this

/-- … and into an element of a sequence -/
theorem Reaches.seq_plain {p₀ p : TPath} {t : Val} {xs : List Val} {c : Val}
    (h : Reaches p₀ t p (.seq xs)) (hp : p ≠ TPath.root) (hn : firstMatch table p = none) (hk : c ∈ xs) :
    Reaches p₀ t (p ++ ["[]"]) c := by
  have := Reaches.seq_step hn hk
  rw [next_nonroot p hp, show ghostify "[]" = "[]" by decide +kernel] at this
  exact h.trans this

/-- the three resource sections: keys without a dot, matched by no row themselves, every entry matched by one row -/
theorem resource_section {sec : String} (h : sec ∈ ["volumes", "secrets", "configs"]) :
    next TPath.root sec = [sec] ∧ firstMatch table [sec] = none ∧ ([sec] : TPath) ≠ TPath.root ∧
    ∃ c, ∀ n, firstMatch table [sec, n] = some c := by
  simp only [List.mem_cons, List.not_mem_nil, or_false] at h
  rcases h with rfl | rfl | rfl
  · exact ⟨by decide +kernel, by decide +kernel, by decide, .volume, fun n => by simp [firstMatch, table, pmatch]⟩
  · exact ⟨by decide +kernel, by decide +kernel, by decide, .fileObject ["file", "environment"],
      fun n => by simp [firstMatch, table, pmatch]⟩
  · exact ⟨by decide +kernel, by decide +kernel, by decide, .fileObject ["file", "environment", "content"],
      fun n => by simp [firstMatch, table, pmatch]⟩

theorem reaches_resource {top : Val.KVs} {sec name : String} {entries : Val.KVs} {v : Val}
    (hs : sec ∈ ["volumes", "secrets", "configs"]) (h1 : (sec, Val.map entries) ∈ top) (h2 : (name, v) ∈ entries) :
    Reaches TPath.root (.map top) [sec, ghostify name] v := by
  obtain ⟨hroot, hsec, hne, -⟩ := resource_section hs
  have r1 : Reaches TPath.root (.map top) (next TPath.root sec) (.map entries) := .map_step (by decide) h1
  have r2 : Reaches [sec] (.map entries) (next [sec] name) v := .map_step hsec h2
  rw [hroot] at r1
  rw [next_nonroot _ hne] at r2
  exact r1.trans r2

theorem not_passes_external {kvs : Val.KVs} {k : String} {x y : Val} (hext : Val.lookup "external" kvs = some x)
    (hb : asBoolean x = some true) (hk : (k, y) ∈ kvs) (hbad : externalAllowed k = false) :
    ¬ Passes .volume (.map kvs) := by
  rintro (h | ⟨kvs', h, hx⟩)
  · cases h
  · cases h
    rw [ExternalOK, hext] at hx
    rcases hx with h | ⟨x', h, hb'⟩ | ⟨x', -, -, h⟩
    · cases h
    · cases h; rw [hb] at hb'; cases hb'
    · rw [h (k, y) hk] at hbad; cases hbad

theorem not_passes_fileObject {keys : List String} {kvs : Val.KVs}
    (hbad : countPresent keys kvs > 1 ∨
      (countPresent keys kvs = 0 ∧ has "driver" kvs = false ∧ has "external" kvs = false)) :
    ¬ Passes (.fileObject keys) (.map kvs) := by
  rintro ⟨kvs', h, hx⟩
  cases h
  rcases hbad with hb | ⟨hb, hd, he⟩
  · rcases hx with h | ⟨h, -⟩ <;> omega
  · rcases hx with h | ⟨-, h | h⟩
    · omega
    · rw [hd] at h; cases h
    · rw [he] at h; cases h

end CV.Validate
