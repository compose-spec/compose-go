import ComposeVerif.Lemmas.TravInvS
/-!
# Who handles which vertex

The caller of `walk` loops over the extremities (vertices without prerequisite), the coordinator over the successors of
finished vertices (which have a prerequisite): nobody competes with the caller, so its readiness test always succeeds
and its claim always wins — the branches `ready.M:not-ready` / `enter.M:lost` of `Trav.step?` are unreachable (the label
coverage of the tie leaves exactly these two out).  Needs `post ⊆ pre⁻¹` (`GraphOK` has the other inclusion).
-/
namespace CV.Trav

/-- the vertices a scheduling goroutine still holds: its current one and the rest of its list -/
def schedVs : Option Sched → List V
  | none => []
  | some ⟨t, .next⟩ => t
  | some ⟨t, .ready v⟩ => v :: t
  | some ⟨t, .enter v⟩ => v :: t
  | some ⟨t, .spawn v⟩ => v :: t

/-- the vertices a scheduling goroutine holds and has not claimed yet (`schedVs` without the vertex being spawned) -/
def pendVs : Option Sched → List V
  | none => []
  | some ⟨t, .next⟩ => t
  | some ⟨t, .ready v⟩ => v :: t
  | some ⟨t, .enter v⟩ => v :: t
  | some ⟨t, .spawn _⟩ => t

structure InvM (g : Graph) (s : St) : Prop where
  mExt : ∀ v ∈ schedVs s.m, g.pre v = []
  cInner : ∀ v ∈ schedVs s.cSched, g.pre v ≠ []
  mNodup : (schedVs s.m).Nodup
  mAbsent : ∀ v ∈ pendVs s.m, s.status v = .absent

theorem pendVs_sub (x : Option Sched) : ∀ v ∈ pendVs x, v ∈ schedVs x := by
  intro v hv
  match x, hv with
  | some ⟨t, .next⟩, hv => exact hv
  | some ⟨t, .ready u⟩, hv => exact hv
  | some ⟨t, .enter u⟩, hv => exact hv
  | some ⟨t, .spawn u⟩, hv => exact List.mem_cons_of_mem _ hv

theorem init_invM (g : Graph) (hg : GraphOK g) : InvM g (init g) := by
  refine ⟨fun v hv => ?_, nofun, hg.nodup.filter _, fun _ _ => rfl⟩
  exact List.isEmpty_iff.mp (List.mem_filter.mp hv).2

/-- A step inside `visit` only shortens the list of vertices the goroutine holds; given that the list is duplicate-free
it stays so, and what is still pending afterwards was pending before and has its status untouched.  The three
components of each case are these three facts in this order. -/
theorem Visit.schedVs {g : Graph} {lim : Option Nat} {s : St} {w : Who} {l : Label} {y : Sched} {x : Option Sched}
    {st : V → Status} {ws : List (V × WPc)} (h : Visit g lim s w l y x st ws) :
    (∀ u ∈ schedVs x, u ∈ schedVs (some y)) ∧ ((schedVs (some y)).Nodup → (schedVs x).Nodup ∧
      ∀ u ∈ pendVs x, u ∈ pendVs (some y) ∧ st u = s.status u) := by
  cases h with
  | @next todo v hv =>
    refine ⟨fun u hu => ?_, fun hn => ⟨List.nodup_cons.mpr ⟨fun h => ?_, hn.erase v⟩, fun u hu => ⟨?_, rfl⟩⟩⟩
    · exact (List.mem_cons.mp hu).elim (· ▸ hv) List.mem_of_mem_erase
    · exact (hn.mem_erase_iff.mp h).1 rfl
    · exact (List.mem_cons.mp hu).elim (· ▸ hv) List.mem_of_mem_erase
  | last => exact ⟨nofun, fun _ => ⟨.nil, nofun⟩⟩
  | readyT _ => exact ⟨fun _ h => h, fun hn => ⟨hn, fun _ h => ⟨h, rfl⟩⟩⟩
  | readyF _ => exact ⟨fun _ => List.mem_cons_of_mem _, fun hn => ⟨hn.of_cons, fun _ h => ⟨List.mem_cons_of_mem _ h, rfl⟩⟩⟩
  | enterT _ =>
    refine ⟨fun _ h => h, fun hn => ⟨hn, fun u hu => ⟨List.mem_cons_of_mem _ hu, setStatus_ne _ _ ?_⟩⟩⟩
    rintro rfl; exact (List.nodup_cons.mp hn).1 hu
  | enterF _ => exact ⟨fun _ => List.mem_cons_of_mem _, fun hn => ⟨hn.of_cons, fun _ h => ⟨List.mem_cons_of_mem _ h, rfl⟩⟩⟩
  | spawn _ => exact ⟨fun _ => List.mem_cons_of_mem _, fun hn => ⟨hn.of_cons, fun _ h => ⟨h, rfl⟩⟩⟩

theorem invM_step {g : Graph} {lim : Option Nat} {s s' : St} {l : Label} (hpp : ∀ v u, u ∈ g.post v → v ∈ g.pre u)
    (h : Step g lim s l s') (hA : InvA s) (hI : InvM g s) : InvM g s' := by
  obtain ⟨h1, h2, h3, h4⟩ := hI
  cases h with
  | @visit w l y x st ws hs hv =>
    obtain ⟨hsub, hnd⟩ := hv.schedVs
    cases w with
    | M =>
      have hm : s.m = some y := hs
      rw [hm] at h1 h3 h4
      exact ⟨fun u hu => h1 u (hsub u hu), h2, (hnd h3).1, fun u hu => ((hnd h3).2 u hu).2.trans (h4 u ((hnd h3).2 u hu).1)⟩
    | C =>
      have hc : s.cSched = some y := (getSched_C_some hs).2
      rw [hc] at h2
      refine ⟨h1, fun u hu => h2 u (hsub u hu), h3, fun u hu => ?_⟩
      -- the coordinator claims a vertex with a prerequisite, the caller holds none
      show st u = .absent
      rcases hv.status with e | ⟨t, v, rfl, _, e⟩ <;> rw [e]
      · exact h4 u hu
      · rw [setStatus_ne _ _ fun (e : u = v) => h2 v (List.mem_cons_self ..) (e ▸ h1 u (pendVs_sub _ u hu))]
        exact h4 u hu
  | @work v l pc pc' s1 hw hk =>
    obtain ⟨hm, hc, _⟩ := hk.sched
    refine ⟨hm ▸ h1, hc ▸ h2, hm ▸ h3, fun u hu => ?_⟩
    show s1.status u = .absent
    have hu : u ∈ pendVs s.m := hm ▸ hu
    rcases hk.status with e | ⟨_, _, e⟩ <;> rw [e]
    · exact h4 u hu
    · rw [setStatus_ne _ _ fun (e : u = v) => hA.worker_status (mem_of_wpc hw) (e ▸ h4 u hu)]
      exact h4 u hu
  | coord _ hc hk =>
    cases hk with
    | recvLast _ _ => exact ⟨h1, h2, h3, h4⟩
    | @recvMore v rest _ _ => exact ⟨h1, fun u hu => List.ne_nil_of_mem (hpp v u hu), h3, h4⟩
    | ctxDone _ _ => exact ⟨h1, h2, h3, h4⟩
  | cancel _ => exact ⟨h1, h2, h3, h4⟩

theorem reach_invM {g : Graph} {lim : Option Nat} (hg : GraphOK g) (hpp : ∀ v u, u ∈ g.post v → v ∈ g.pre u) {s : St}
    (h : Reach g lim s) : InvM g s := by
  induction h with
  | init => exact init_invM g hg
  | step hr hs ih => exact invM_step hpp (step?_sound hs) (reach_inv hg hr).a ih

end CV.Trav
