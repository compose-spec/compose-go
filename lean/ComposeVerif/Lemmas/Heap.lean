import ComposeVerif.Spec.Heap
/-! C14, heap model: what `exec` allocates (`exec_fresh`: a deep plan puts the copy in `[n, n')`) and preserves (`exec_copy`),
what a write can reach, and `Layers` (values allocated in successive layers above a frontier are pairwise isolated).  The
theorems about `exec` recurse on the value; in each case the type is split first (`hasTy` leaves one to four shapes), then
the plan (`covers` / `deep` leave one or two). -/
namespace CV.Heap

theorem lookupTy_flat (fs : List (Nat × Ty)) (f : Nat) (t : Ty)
    (hf : flatFields fs = true) (h : lookupTy f fs = some t) : flat t = true := by
  fun_induction lookupTy f fs <;> simp only [flatFields, Bool.and_eq_true] at hf
  case case1 => cases h
  case case2 => cases h; exact hf.1
  case case3 ih => exact ih hf.2 h

theorem hasTyFields_cons {fs : List (Nat × Ty)} {k : Key} {v : GoVal} {r : List (Key × GoVal)}
    (h : hasTyFields fs ((k, v) :: r) = true) :
    ∃ f t, k = .fld f ∧ lookupTy f fs = some t ∧ hasTy t v = true ∧ hasTyFields fs r = true := by
  cases k <;> simp only [hasTyFields, Bool.and_eq_true, Bool.false_eq_true] at h
  rename_i f
  cases hl : lookupTy f fs <;> simp only [hl, Bool.false_eq_true, false_and] at h
  exact ⟨f, _, rfl, hl, h⟩

mutual
theorem flat_addrs : ∀ (v : GoVal) (t : Ty), flat t = true → hasTy t v = true → addrs v = []
  | .scalar _, _, _, _ => rfl
  | .nil, _, _, _ => rfl
  | .opaque _ _, _, _, _ => rfl
  | .ptr _ _, t, hf, ht | .slice _ _, t, hf, ht | .map _ _, t, hf, ht => by cases t <;> simp [flat, hasTy] at hf ht
  | .struct ks, t, hf, ht => by
    cases t <;> simp only [hasTy, Bool.false_eq_true] at ht
    exact flat_addrsKids ks _ hf ht
theorem flat_addrsKids : ∀ (ks : List (Key × GoVal)) (fs : List (Nat × Ty)),
    flatFields fs = true → hasTyFields fs ks = true → addrsKids ks = []
  | [], _, _, _ => rfl
  | (k, v) :: r, fs, hf, ht => by
    obtain ⟨f, t, rfl, hl, hv, hr⟩ := hasTyFields_cons ht
    simp only [addrsKids, flat_addrs v t (lookupTy_flat fs f t hf hl) hv, flat_addrsKids r fs hf hr, List.append_nil]
end

theorem iface_addrs (v : GoVal) (h : hasTy .iface v = true) : addrs v = [] := by
  cases v <;> simp [hasTy, addrs] at h ⊢

mutual
theorem zero_addrs : ∀ (v : GoVal), addrs (zero v) = []
  | .scalar _ | .nil | .opaque _ _ | .ptr _ _ | .slice _ _ | .map _ _ => rfl
  | .struct ks => zeroKids_addrs ks
theorem zeroKids_addrs : ∀ (ks : List (Key × GoVal)), addrsKids (zeroKids ks) = []
  | [] => rfl
  | (k, v) :: r => by simp [zeroKids, addrsKids, zero_addrs v, zeroKids_addrs r]
end

def Within (n m : Nat) (A : List Nat) : Prop := n ≤ m ∧ ∀ a ∈ A, n ≤ a ∧ a < m

theorem Within.nil (n : Nat) : Within n n [] := ⟨Nat.le_refl n, by simp⟩

theorem Within.append {n m k : Nat} {A B : List Nat} (h1 : Within n m A) (h2 : Within m k B) : Within n k (A ++ B) := by
  refine ⟨Nat.le_trans h1.1 h2.1, ?_⟩
  intro a ha
  rcases List.mem_append.mp ha with h | h
  · have := h1.2 a h; have := h2.1; omega
  · have := h2.2 a h; have := h1.1; omega

theorem Within.cons {n m : Nat} {A : List Nat} (h : Within (n+1) m A) : Within n m (n :: A) :=
  Within.append (A := [n]) ⟨Nat.le_succ n, by simp⟩ h

theorem Within.isolated {n m : Nat} {v w : GoVal} (hw : Within n m (addrs w)) (hb : Below n v) : Isolated w v :=
  fun a ha hav => by have := (hw.2 a ha).1; have := hb a hav; omega

theorem Within.below {n m : Nat} {v : GoVal} (h : Within n m (addrs v)) : Below m v := fun a ha => (h.2 a ha).2

theorem Below.mono {n m : Nat} {v : GoVal} (h : Below n v) (hm : n ≤ m) : Below m v :=
  fun a ha => Nat.lt_of_lt_of_le (h a ha) hm

theorem deepFields_lookup (fs : List (Nat × Ty)) (ps : List (Nat × Plan)) (f : Nat) (t : Ty) (p : Plan)
    (hd : deepFields fs ps = true) (h : lookupTy f fs = some t) (hp : lookupPlan f ps = some p) : deep t p = true := by
  fun_induction lookupTy f fs <;> simp only [deepFields, Bool.and_eq_true] at hd
  case case1 => cases h
  case case2 => cases h; simpa only [hp] using hd.1
  case case3 ih => exact ih hd.2 h

mutual
theorem exec_fresh : ∀ (v : GoVal) (p : Plan) (t : Ty) (n : Nat), hasTy t v = true → deep t p = true →
    Within n (exec p v n).2 (addrs (exec p v n).1)
  | .scalar _, p, _, n, _, _ | .nil, p, _, n, _, _ | .opaque _ _, p, _, n, _, _ => by cases p <;> exact Within.nil n
  | .ptr a w, p, t, n, ht, hd => by
    cases t <;> simp only [hasTy, Bool.false_eq_true] at ht
    cases p <;> simp only [deep, flat, Bool.false_eq_true] at hd
    exact Within.cons (exec_fresh w _ _ (n+1) ht hd)
  | .slice a ks, p, t, n, ht, hd | .map a ks, p, t, n, ht, hd => by
    cases t <;> simp only [hasTy, Bool.false_eq_true] at ht
    cases p <;> simp only [deep, flat, Bool.false_eq_true] at hd
    exact Within.cons (execAll_fresh ks _ _ (n+1) ht hd)
  | .struct ks, p, t, n, ht, hd => by
    cases t <;> simp only [hasTy, Bool.false_eq_true] at ht
    cases p <;> simp only [deep, flat, Bool.false_eq_true] at hd
    · simp only [exec, addrs, flat_addrsKids ks _ hd ht]; exact Within.nil n
    · exact execFields_fresh ks _ _ n ht hd
theorem execAll_fresh : ∀ (ks : List (Key × GoVal)) (p : Plan) (t : Ty) (n : Nat), hasTyAll t ks = true → deep t p = true →
    Within n (execAll p ks n).2 (addrsKids (execAll p ks n).1)
  | [], _, _, n, _, _ => Within.nil n
  | (k, v) :: r, p, t, n, ht, hd => by
    simp only [hasTyAll, Bool.and_eq_true] at ht
    exact (exec_fresh v p t n ht.1 hd).append (execAll_fresh r p t (exec p v n).2 ht.2 hd)
theorem execFields_fresh : ∀ (ks : List (Key × GoVal)) (ps : List (Nat × Plan)) (fs : List (Nat × Ty)) (n : Nat),
    hasTyFields fs ks = true → deepFields fs ps = true →
    Within n (execFields ps ks n).2 (addrsKids (execFields ps ks n).1)
  | [], _, _, n, _, _ => Within.nil n
  | (k, v) :: r, ps, fs, n, ht, hd => by
    obtain ⟨f, t, rfl, hl, hv, hr⟩ := hasTyFields_cons ht
    cases hp : lookupPlan f ps with
    | none =>
      simp only [execFields, hp, addrsKids, zero_addrs, List.nil_append]
      exact execFields_fresh r ps fs n hr hd
    | some p =>
      simp only [execFields, hp, addrsKids]
      exact (exec_fresh v p t n hv (deepFields_lookup fs ps f t p hd hl hp)).append
        (execFields_fresh r ps fs (exec p v n).2 hr hd)
end

theorem coversFields_lookup (fs : List (Nat × Ty)) (ps : List (Nat × Plan)) (f : Nat) (t : Ty)
    (hc : coversFields fs ps = true) (h : lookupTy f fs = some t) : ∃ p, lookupPlan f ps = some p ∧ covers t p = true := by
  fun_induction lookupTy f fs <;> simp only [coversFields, Bool.and_eq_true] at hc
  case case1 => cases h
  case case2 =>
    cases h
    cases hp : lookupPlan _ ps with
    | none => simp [hp] at hc
    | some p => exact ⟨p, rfl, by simpa only [hp] using hc.1⟩
  case case3 ih => exact ih hc.2 h

mutual
/-- the copy keeps the type, so that copies can be chained -/
theorem exec_copy : ∀ (v : GoVal) (p : Plan) (t : Ty) (n : Nat), hasTy t v = true → covers t p = true →
    erase (exec p v n).1 = erase v ∧ hasTy t (exec p v n).1 = true
  | .scalar _, p, t, n, ht, hc | .nil, p, t, n, ht, hc | .opaque _ _, p, t, n, ht, hc => by
    cases t <;> simp only [hasTy, Bool.false_eq_true] at ht <;> cases p <;>
      simp only [covers, Bool.false_eq_true] at hc <;> exact ⟨rfl, rfl⟩
  | .ptr a w, p, t, n, ht, hc => by
    cases t <;> simp only [hasTy, Bool.false_eq_true] at ht
    cases p <;> simp only [covers, Bool.false_eq_true] at hc
    · exact ⟨rfl, ht⟩
    · simp only [exec, erase, hasTy, exec_copy w _ _ (n+1) ht hc, and_self]
  | .slice a ks, p, t, n, ht, hc | .map a ks, p, t, n, ht, hc => by
    cases t <;> simp only [hasTy, Bool.false_eq_true] at ht
    cases p <;> simp only [covers, Bool.false_eq_true] at hc
    · exact ⟨rfl, ht⟩
    · simp only [exec, erase, hasTy, execAll_copy ks _ _ (n+1) ht hc, and_self]
  | .struct ks, p, t, n, ht, hc => by
    cases t <;> simp only [hasTy, Bool.false_eq_true] at ht
    cases p <;> simp only [covers, Bool.false_eq_true] at hc
    · exact ⟨rfl, ht⟩
    · simp only [exec, erase, hasTy, execFields_copy ks _ _ n ht hc, and_self]
theorem execAll_copy : ∀ (ks : List (Key × GoVal)) (p : Plan) (t : Ty) (n : Nat), hasTyAll t ks = true → covers t p = true →
    eraseKids (execAll p ks n).1 = eraseKids ks ∧ hasTyAll t (execAll p ks n).1 = true
  | [], _, _, _, _, _ => ⟨rfl, rfl⟩
  | (k, v) :: r, p, t, n, ht, hc => by
    simp only [hasTyAll, Bool.and_eq_true] at ht
    simp only [execAll, eraseKids, hasTyAll, exec_copy v p t n ht.1 hc, execAll_copy r p t (exec p v n).2 ht.2 hc,
      Bool.and_self, and_self]
theorem execFields_copy : ∀ (ks : List (Key × GoVal)) (ps : List (Nat × Plan)) (fs : List (Nat × Ty)) (n : Nat),
    hasTyFields fs ks = true → coversFields fs ps = true →
    eraseKids (execFields ps ks n).1 = eraseKids ks ∧ hasTyFields fs (execFields ps ks n).1 = true
  | [], _, _, _, _, _ => ⟨rfl, rfl⟩
  | (k, v) :: r, ps, fs, n, ht, hc => by
    obtain ⟨f, t, rfl, hl, hv, hr⟩ := hasTyFields_cons ht
    obtain ⟨p, hp, hcp⟩ := coversFields_lookup fs ps f t hc hl
    simp only [execFields, hp, eraseKids, hasTyFields, hl, exec_copy v p t n hv hcp,
      execFields_copy r ps fs (exec p v n).2 hr hc, Bool.and_self, and_self]
end

theorem exec_erase (v : GoVal) (p : Plan) (t : Ty) (n : Nat) (ht : hasTy t v = true) (hc : covers t p = true) :
    erase (exec p v n).1 = erase v :=
  (exec_copy v p t n ht hc).1

theorem execAll_erase : ∀ (ks : List (Key × GoVal)) (p : Plan) (t : Ty) (n : Nat), hasTyAll t ks = true → covers t p = true →
    eraseKids (execAll p ks n).1 = eraseKids ks :=
  fun ks p t n ht hc => (execAll_copy ks p t n ht hc).1

theorem execFields_erase : ∀ (ks : List (Key × GoVal)) (ps : List (Nat × Plan)) (fs : List (Nat × Ty)) (n : Nat),
    hasTyFields fs ks = true → coversFields fs ps = true →
    eraseKids (execFields ps ks n).1 = eraseKids ks :=
  fun ks ps fs n ht hc => (execFields_copy ks ps fs n ht hc).1

theorem exec_hasTy (v : GoVal) (p : Plan) (t : Ty) (n : Nat) (ht : hasTy t v = true) (hc : covers t p = true) :
    hasTy t (exec p v n).1 = true :=
  (exec_copy v p t n ht hc).2

theorem execAll_hasTy : ∀ (ks : List (Key × GoVal)) (p : Plan) (t : Ty) (n : Nat), hasTyAll t ks = true → covers t p = true →
    hasTyAll t (execAll p ks n).1 = true :=
  fun ks p t n ht hc => (execAll_copy ks p t n ht hc).2

theorem execFields_hasTy : ∀ (ks : List (Key × GoVal)) (ps : List (Nat × Plan)) (fs : List (Nat × Ty)) (n : Nat),
    hasTyFields fs ks = true → coversFields fs ps = true →
    hasTyFields fs (execFields ps ks n).1 = true :=
  fun ks ps fs n ht hc => (execFields_copy ks ps fs n ht hc).2

mutual
theorem write_not_mem : ∀ (v : GoVal) (a : Nat) (c : Cell), a ∉ addrs v → write a c v = v
  | .scalar _, _, _, _ | .nil, _, _, _ | .opaque _ _, _, _, _ => rfl
  | .ptr b w, a, c, h => by
    simp only [addrs, List.mem_cons, not_or] at h
    simp only [write, if_neg (h.1 ∘ Eq.symm), write_not_mem w a c h.2]
  | .slice b ks, a, c, h | .map b ks, a, c, h => by
    simp only [addrs, List.mem_cons, not_or] at h
    simp only [write, if_neg (h.1 ∘ Eq.symm), writeKids_not_mem ks a c h.2]
  | .struct ks, a, c, h => by
    simp only [addrs] at h
    simp only [write, writeKids_not_mem ks a c h]
theorem writeKids_not_mem : ∀ (ks : List (Key × GoVal)) (a : Nat) (c : Cell), a ∉ addrsKids ks → writeKids a c ks = ks
  | [], _, _, _ => rfl
  | (k, v) :: r, a, c, h => by
    simp only [addrsKids, List.mem_append, not_or] at h
    simp only [writeKids, write_not_mem v a c h.1, writeKids_not_mem r a c h.2]
end

/- the addresses of a value after a write are its old ones or those of the cell written: where the address matches, the
content is replaced by the cell's (or kept, when the cell is of the other kind); elsewhere the write goes on below -/
mutual
theorem addrs_write : ∀ (v : GoVal) (a : Nat) (c : Cell) (x : Nat),
    x ∈ addrs (write a c v) → x ∈ addrs v ∨ x ∈ cellAddrs c
  | .scalar _, _, _, _, h | .nil, _, _, _, h | .opaque _ _, _, _, _, h => .inl h
  | .ptr b w, a, c, x, h => by
    simp only [write] at h
    split at h
    · cases c <;> simp only [addrs, cellAddrs, List.mem_cons] at h ⊢
      · exact h.elim (fun e => .inl (.inl e)) .inr
      · exact .inl h
    · simp only [addrs, List.mem_cons] at h ⊢
      exact h.elim (fun e => .inl (.inl e)) fun h' => (addrs_write w a c x h').imp .inr id
  | .slice b ks, a, c, x, h | .map b ks, a, c, x, h => by
    simp only [write] at h
    split at h
    · cases c <;> simp only [addrs, cellAddrs, List.mem_cons] at h ⊢
      · exact .inl h
      · exact h.elim (fun e => .inl (.inl e)) .inr
    · simp only [addrs, List.mem_cons] at h ⊢
      exact h.elim (fun e => .inl (.inl e)) fun h' => (addrs_writeKids ks a c x h').imp .inr id
  | .struct ks, a, c, x, h => addrs_writeKids ks a c x h
theorem addrs_writeKids : ∀ (ks : List (Key × GoVal)) (a : Nat) (c : Cell) (x : Nat),
    x ∈ addrsKids (writeKids a c ks) → x ∈ addrsKids ks ∨ x ∈ cellAddrs c
  | [], _, _, _, h => .inl h
  | (k, v) :: r, a, c, x, h => by
    simp only [writeKids, addrsKids, List.mem_append] at h ⊢
    exact h.elim (fun h1 => (addrs_write v a c x h1).imp .inl id) fun h2 => (addrs_writeKids r a c x h2).imp .inr id
end

theorem writes_not_mem : ∀ (ws : List (Nat × Cell)) (v : GoVal), (∀ w ∈ ws, w.1 ∉ addrs v) → writes ws v = v
  | [], _, _ => rfl
  | (a, c) :: r, v, h => by
    simp only [writes, write_not_mem v a c (h (a, c) (List.mem_cons_self ..))]
    exact writes_not_mem r v (fun w hw => h w (List.mem_cons_of_mem _ hw))

theorem writes_below {n : Nat} {ws : List (Nat × Cell)} (h : ∀ w ∈ ws, n ≤ w.1) {u : GoVal} (hu : Below n u) :
    writes ws u = u :=
  writes_not_mem ws u fun w hw hm => Nat.lt_irrefl _ (Nat.lt_of_lt_of_le (hu _ hm) (h w hw))

/-- the property reads "the result shares no mutable model state with the receiver, so mutating either afterwards never
changes the other": this is its "so" -/
theorem Isolated.write {v w : GoVal} (h : Isolated v w) :
    (∀ a ∈ addrs v, ∀ c, write a c w = w) ∧ (∀ a ∈ addrs w, ∀ c, write a c v = v) :=
  ⟨fun a ha c => write_not_mem w a c (h a ha), fun a ha c => write_not_mem v a c fun h' => h a h' ha⟩

theorem addrs_writes : ∀ (ws : List (Nat × Cell)) (v : GoVal) (x : Nat),
    x ∈ addrs (writes ws v) → x ∈ addrs v ∨ ∃ w ∈ ws, x ∈ cellAddrs w.2
  | [], _, _, h => .inl h
  | (a, c) :: r, v, x, h => by
    rcases addrs_writes r (write a c v) x h with h' | ⟨w, hw, hx⟩
    · exact (addrs_write v a c x h').imp_right fun h'' => ⟨(a, c), List.mem_cons_self .., h''⟩
    · exact .inr ⟨w, List.mem_cons_of_mem _ hw, hx⟩

def Layers (n : Nat) (l : List GoVal) : Prop := List.Pairwise Isolated l ∧ ∀ w ∈ l, ∀ a ∈ addrs w, n ≤ a

theorem Layers.nil (n : Nat) : Layers n [] := ⟨.nil, nofun⟩

theorem Layers.append {n n' : Nat} {xs l : List GoVal} (hp : List.Pairwise Isolated xs)
    (hx : ∀ x ∈ xs, Within n n' (addrs x)) (hle : n ≤ n') (h : Layers n' l) : Layers n (xs ++ l) := by
  refine ⟨List.pairwise_append.mpr ⟨hp, h.1, fun x hx' y hy a ha hay => ?_⟩, fun w hw a ha => ?_⟩
  · have := ((hx x hx').2 a ha).2; have := h.2 y hy a hay; omega
  · rcases List.mem_append.mp hw with hx' | hl
    · exact ((hx w hx').2 a ha).1
    · have := h.2 w hl a ha; omega

theorem Layers.cons {n n' : Nat} {w : GoVal} {l : List GoVal} (hw : Within n n' (addrs w)) (h : Layers n' l) :
    Layers n (w :: l) :=
  Layers.append (xs := [w]) (List.pairwise_singleton ..) (by simpa using hw) hw.1 h

theorem Layers.pairwise {n : Nat} {v : GoVal} {l : List GoVal} (hb : Below n v) (h : Layers n l) :
    List.Pairwise Isolated (v :: l) :=
  List.pairwise_cons.mpr ⟨fun w hw a ha haw => by have := hb a ha; have := h.2 w hw a haw; omega, h.1⟩

end CV.Heap
