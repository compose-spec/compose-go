import ComposeVerif.Model.Val
/-! Decidable equality of `Val`.  `Val` is a nested inductive type, to which `deriving DecidableEq` does not apply, so the
comparison is written out.  It exists so that a closed test vector over `Val` (a concrete run of a model against its
expected result) is decided by the kernel alone: `by decide +kernel`. -/
namespace CV.Val

mutual
def decEq : (a b : Val) → Decidable (a = b)
  | .null, .null => isTrue rfl
  | .bool a, .bool b => if h : a = b then isTrue (h ▸ rfl) else isFalse fun e => h (Val.bool.inj e)
  | .int a, .int b => if h : a = b then isTrue (h ▸ rfl) else isFalse fun e => h (Val.int.inj e)
  | .float a, .float b => if h : a = b then isTrue (h ▸ rfl) else isFalse fun e => h (Val.float.inj e)
  | .str a, .str b => if h : a = b then isTrue (h ▸ rfl) else isFalse fun e => h (Val.str.inj e)
  | .seq a, .seq b =>
    match decEqL a b with
    | isTrue h => isTrue (h ▸ rfl)
    | isFalse h => isFalse fun e => h (Val.seq.inj e)
  | .map a, .map b =>
    match decEqKV a b with
    | isTrue h => isTrue (h ▸ rfl)
    | isFalse h => isFalse fun e => h (Val.map.inj e)
  | .null, .bool _ | .null, .int _ | .null, .float _ | .null, .str _ | .null, .seq _ | .null, .map _
  | .bool _, .null | .bool _, .int _ | .bool _, .float _ | .bool _, .str _ | .bool _, .seq _ | .bool _, .map _
  | .int _, .null | .int _, .bool _ | .int _, .float _ | .int _, .str _ | .int _, .seq _ | .int _, .map _
  | .float _, .null | .float _, .bool _ | .float _, .int _ | .float _, .str _ | .float _, .seq _ | .float _, .map _
  | .str _, .null | .str _, .bool _ | .str _, .int _ | .str _, .float _ | .str _, .seq _ | .str _, .map _
  | .seq _, .null | .seq _, .bool _ | .seq _, .int _ | .seq _, .float _ | .seq _, .str _ | .seq _, .map _
  | .map _, .null | .map _, .bool _ | .map _, .int _ | .map _, .float _ | .map _, .str _ | .map _, .seq _ =>
    isFalse fun e => nomatch e
def decEqL : (a b : List Val) → Decidable (a = b)
  | [], [] => isTrue rfl
  | x :: xs, y :: ys =>
    match decEq x y, decEqL xs ys with
    | isTrue h, isTrue h' => isTrue (h ▸ h' ▸ rfl)
    | isFalse h, _ => isFalse fun e => h (List.cons.inj e).1
    | _, isFalse h => isFalse fun e => h (List.cons.inj e).2
  | [], _ :: _ | _ :: _, [] => isFalse fun e => nomatch e
def decEqKV : (a b : List (String × Val)) → Decidable (a = b)
  | [], [] => isTrue rfl
  | (k, x) :: xs, (l, y) :: ys =>
    match decEq x y, decEqKV xs ys with
    | isTrue h, isTrue h' => if hk : k = l then isTrue (hk ▸ h ▸ h' ▸ rfl) else isFalse fun e => hk (Prod.mk.inj (List.cons.inj e).1).1
    | isFalse h, _ => isFalse fun e => h (Prod.mk.inj (List.cons.inj e).1).2
    | _, isFalse h => isFalse fun e => h (List.cons.inj e).2
  | [], _ :: _ | _ :: _, [] => isFalse fun e => nomatch e
end

instance : DecidableEq Val := decEq

end CV.Val
