import ComposeVerif.Lemmas.C02Walk
import ComposeVerif.Lemmas.Interp
/-! `interpolation.Interpolate` is a tree walk whose only handler is the string leaf.
Defines `optI`, which `Props/C02Stages.lean` mentions. -/
namespace CV.Det.Stage
open CV CV.Deep CV.Interp
open CV.Det.Whole (EW)
open CV.Val (lookup insert keys KVs)

def optI {α : Type} : CV.Interp.Out α → Option α
  | .ok a => some a
  | _ => none

theorem optI_some {α : Type} {x : CV.Interp.Out α} {a : α} : optI x = some a ↔ x = .ok a := by
  cases x <;> simp [optI]

theorem interpKVs_trav (c : Cfg) (p : TPath) (m : KVs) :
    optI (interpKVs c p m) = travOpt (fun k v => optI (interp c (TPath.next p k) v)) m := by
  induction m with
  | nil => simp [interpKVs, travOpt, optI]
  | cons hd tl ih =>
    obtain ⟨k, v⟩ := hd
    rw [interpKVs, travOpt, ← ih]
    cases interp c (TPath.next p k) v <;> simp only [optI]
    cases interpKVs c p tl <;> rfl

theorem interpList_trav (c : Cfg) (p : TPath) (xs : List Val) :
    optI (interpList c p xs) = travList (fun v => optI (interp c (TPath.next p "[]") v)) xs := by
  induction xs with
  | nil => simp [interpList, travList, optI]
  | cons v tl ih =>
    rw [interpList, travList, ← ih]
    cases interp c (TPath.next p "[]") v <;> simp only [optI]
    cases interpList c p tl <;> rfl

def interpHandler (c : Cfg) (p : TPath) : Val → Option (Option Val)
  | .str s => some (optI (leaf c p s))
  | _ => none

theorem interp_step (c : Cfg) (p : TPath) (v : Val) :
    optI (interp c p v) = walkStep (interpHandler c) TPath.next (fun p v => optI (interp c p v)) p v := by
  cases v with
  | map kvs => simp only [walkStep, interpHandler, ← interpKVs_trav, interp]; cases interpKVs c p kvs <;> rfl
  | seq xs => simp only [walkStep, interpHandler, ← interpList_trav, interp]; cases interpList c p xs <;> rfl
  | _ => rfl

theorem wf_of_isScalar {z : Val} (h : isScalar z) : WF z := by
  cases z <;> first | exact .str _ | exact .bool _ | exact .int _ | exact .float _ | cases h

theorem leaf_wf (c : Cfg) (p : TPath) (s : String) (z : Val) (h : leaf c p s = .ok z) : WF z :=
  wf_of_isScalar (leaf_scalar h)

theorem interp_ew (c : Cfg) (p : TPath) {v w : Val} (h : EW v w) : ORel EW (optI (interp c p v)) (optI (interp c p w)) := by
  refine walk_rel treeRel_ew (fun _ => True) (fun _ _ _ => trivial) (fun p v _ => interp_step c p v) ?_ h p trivial
  intro p v v' _ e
  cases e.1 with
  | str s =>
    cases hl : leaf c p s with
    | ok z => simp only [interpHandler, hl, optI, ORel]; exact EW.refl (leaf_wf c p s z hl)
    | _ => simp only [interpHandler, hl, optI, ORel]
  | _ => trivial

theorem interp_eqv (c : Cfg) (p : TPath) {v w : Val} (h : Eqv v w) (wv : WF v) (ww : WF w) :
    ORel Eqv (optI (interp c p v)) (optI (interp c p w)) := (interp_ew c p ⟨h, wv, ww⟩).mono (fun _ _ e => e.1)

theorem interp_wf (c : Cfg) (p : TPath) {v r : Val} (wv : WF v) (h : interp c p v = .ok r) : WF r := by
  have := interp_ew c p (EW.refl wv)
  rw [h] at this; exact this.2.1

end CV.Det.Stage
