import ComposeVerif.Lemmas.C11MapM
import ComposeVerif.Lemmas.ValInd
/-! The walker of `SetDefaultValues`: below a node without a row it is `mapM` (`setDefaults_eq`, `setDefaults_induct`), every handler fills keys of a
mapping (`Fills`); hence idempotence and "only adds" (`Extends`) on whole documents. -/
namespace CV.C11
open CV CV.Val CV.C11.Spec

theorem setDefaultsKVs_eq_mapM (tbl : List (List String × String)) (p : TPath) :
    ∀ kvs, setDefaultsKVs tbl p kvs = mapMKVs (fun k => setDefaults tbl (p.next k)) kvs
  | [] => rfl
  | (k, v) :: r => by
    rw [setDefaultsKVs, mapMKVs_cons, ← setDefaultsKVs_eq_mapM tbl p r]
    cases setDefaults tbl (p.next k) v <;> try rfl
    cases setDefaultsKVs tbl p r <;> rfl

theorem setDefaultsList_eq_mapM (tbl : List (List String × String)) (p : TPath) :
    ∀ xs, setDefaultsList tbl p xs = Out.mapM (setDefaults tbl (p.next "[]")) xs
  | [] => rfl
  | v :: r => by
    rw [setDefaultsList, Out.mapM, ← setDefaultsList_eq_mapM tbl p r]
    cases setDefaults tbl (p.next "[]") v <;> try rfl
    cases setDefaultsList tbl p r <;> rfl

def descend (tbl : List (List String × String)) (p : TPath) : Val → Out Val
  | .map kvs => (mapMKVs (fun k => setDefaults tbl (p.next k)) kvs).map .map
  | .seq xs => (Out.mapM (setDefaults tbl (p.next "[]")) xs).map .seq
  | v => .ok v

theorem setDefaults_eq (tbl : List (List String × String)) (p : TPath) (v : Val) :
    setDefaults tbl p v =
      match TPath.firstMatch tbl p with
      | some h => applyHandler h v
      | none => descend tbl p v := by
  unfold setDefaults
  cases TPath.firstMatch tbl p with
  | some h => rfl
  | none =>
    cases v with
    | map kvs => simp only [descend, ← setDefaultsKVs_eq_mapM]; cases setDefaultsKVs tbl p kvs <;> rfl
    | seq xs => simp only [descend, ← setDefaultsList_eq_mapM]; cases setDefaultsList tbl p xs <;> rfl
    | _ => rfl

/-- induction over the walk: where a row matches the handler decides; elsewhere the walker is `descend` -/
theorem setDefaults_induct (tbl : List (List String × String)) {M : TPath → Val → Prop}
    (handler : ∀ p h, TPath.firstMatch tbl p = some h → setDefaults tbl p = applyHandler h → ∀ v, M p v)
    (map : ∀ p kvs, TPath.firstMatch tbl p = none → setDefaults tbl p = descend tbl p →
      (∀ kv ∈ kvs, M (p.next kv.1) kv.2) → M p (.map kvs))
    (seq : ∀ p xs, TPath.firstMatch tbl p = none → setDefaults tbl p = descend tbl p →
      (∀ x ∈ xs, M (p.next "[]") x) → M p (.seq xs))
    (leaf : ∀ p v, TPath.firstMatch tbl p = none → setDefaults tbl p = descend tbl p → (∀ q, descend tbl q v = .ok v) →
      M p v) (p : TPath) (v : Val) : M p v := by
  have split : ∀ p, (∀ v, M p v) ∨ (TPath.firstMatch tbl p = none ∧ setDefaults tbl p = descend tbl p) := fun p => by
    cases hm : TPath.firstMatch tbl p with
    | some h => exact .inl (handler p h hm (funext fun v => by rw [setDefaults_eq, hm]))
    | none => exact .inr ⟨rfl, funext fun v => by rw [setDefaults_eq, hm]⟩
  induction v using Val.ind generalizing p with
  | map kvs ih => exact (split p).elim (· _) fun h => map p kvs h.1 h.2 fun kv hkv => ih kv hkv _
  | seq xs ih => exact (split p).elim (· _) fun h => seq p xs h.1 h.2 fun x hx => ih x hx _
  | leaf v h1 h2 =>
    refine (split p).elim (· _) fun h => leaf p v h.1 h.2 fun q => ?_
    cases v with
    | map m => exact absurd rfl (h1 m)
    | seq l => exact absurd rfl (h2 l)
    | _ => rfl

/-- the shape the four handlers share: fill keys of a mapping; return any other value, or refuse it -/
def fillMap (g : KVs → KVs) (refuse : Option String) : Val → Out Val
  | .map m => .ok (.map (g m))
  | v => match refuse with
    | none => .ok v
    | some cls => .err cls

structure Fills (g : KVs → KVs) : Prop where
  idem : ∀ m, g (g m) = g m
  mem : ∀ m e, e ∈ m → e ∈ g m
  keeps : ∀ m k x, lookup k m = some x → lookup k (g m) = some x

theorem fills_setIfAbsent (k : String) (c : KVs → Val) : Fills fun m => setIfAbsent k (c m) m where
  idem m := setIfAbsent_of_some (lookup_setIfAbsent_self k _ m)
  mem _ _ := mem_setIfAbsent
  keeps _ _ _ h := lookup_setIfAbsent_of_some h k _

theorem fills_setIfAbsent2 (k1 : String) (v1 : Val) (k2 : String) (v2 : Val) :
    Fills fun m => setIfAbsent k2 v2 (setIfAbsent k1 v1 m) where
  idem m := by
    have h1 : setIfAbsent k1 v1 (setIfAbsent k2 v2 (setIfAbsent k1 v1 m)) = setIfAbsent k2 v2 (setIfAbsent k1 v1 m) :=
      setIfAbsent_of_some (lookup_setIfAbsent_of_some (lookup_setIfAbsent_self _ _ m) _ _)
    simp only [h1, setIfAbsent_idem]
  mem _ _ h := mem_setIfAbsent (mem_setIfAbsent h)
  keeps _ _ _ h := lookup_setIfAbsent_of_some (lookup_setIfAbsent_of_some h _ _) _ _

theorem deviceCount_eq (m : KVs) :
    deviceCount m = if lookup "device_ids" m = none then setIfAbsent "count" (.str "all") m else m := by
  unfold deviceCount setIfAbsent
  cases lookup "count" m <;> cases lookup "device_ids" m <;> rfl

theorem fills_deviceCount : Fills deviceCount where
  idem m := by
    rw [deviceCount_eq m]
    split
    · rename_i h
      rw [deviceCount_eq, lookup_setIfAbsent_ne (by simp), if_pos h, setIfAbsent_idem]
    · rename_i h
      rw [deviceCount_eq, if_neg h]
  mem m e h := by
    rw [deviceCount_eq]
    split
    · exact mem_setIfAbsent h
    · exact h
  keeps m k x h := by
    rw [deviceCount_eq]
    split
    · exact lookup_setIfAbsent_of_some h _ _
    · exact h

theorem applyHandler_cases (P : (Val → Out Val) → Prop) (h1 : P defaultBuildContext) (h2 : P defaultSecretMount)
    (h3 : P portDefaults) (h4 : P deviceRequestDefaults) (h5 : ∀ e, P (fun _ => .err e)) (n : String) :
    P (applyHandler n) := by
  unfold applyHandler
  by_cases c1 : n = "defaultBuildContext"
  · subst c1; simpa only [if_true] using h1
  by_cases c2 : n = "defaultSecretMount"
  · subst c2; simpa only [c1, if_true, if_false] using h2
  by_cases c3 : n = "portDefaults"
  · subst c3; simpa only [c1, c2, if_true, if_false] using h3
  by_cases c4 : n = "deviceRequestDefaults"
  · subst c4; simpa only [c1, c2, c3, if_true, if_false] using h4
  · simpa only [c1, c2, c3, c4, if_false] using h5 _

theorem applyHandler_fills (h : String) :
    (∃ g refuse, Fills g ∧ applyHandler h = fillMap g refuse) ∨ ∃ e, applyHandler h = fun _ => .err e :=
  applyHandler_cases (fun f => (∃ g refuse, Fills g ∧ f = fillMap g refuse) ∨ ∃ e, f = fun _ => .err e)
    (.inl ⟨_, none, fills_setIfAbsent "context" fun _ => .str ".", funext fun v => by cases v <;> rfl⟩)
    (.inl ⟨_, some "unsupportedType",
      fills_setIfAbsent "target" fun m => .str ("/run/secrets/" ++ fmtS (lookup "source" m)),
      funext fun v => by cases v <;> rfl⟩)
    (.inl ⟨_, none, fills_setIfAbsent2 "protocol" (.str "tcp") "mode" (.str "ingress"), funext fun v => by cases v <;> rfl⟩)
    (.inl ⟨_, some "invalidType", fills_deviceCount, funext fun v => by cases v <;> rfl⟩)
    (fun e => .inr ⟨e, rfl⟩) h

theorem fillMap_ok {g : KVs → KVs} {refuse : Option String} {v v' : Val} (h : fillMap g refuse v = .ok v') :
    v' = onMap g v := by
  cases v with
  | map m => exact (Out.ok.inj h).symm
  | _ => cases refuse with
    | none => exact (Out.ok.inj h).symm
    | some _ => cases h

theorem applyHandler_idem (h : String) (v v' : Val) (hok : applyHandler h v = .ok v') :
    applyHandler h v' = .ok v' := by
  rcases applyHandler_fills h with ⟨g, refuse, hg, e⟩ | ⟨_, e⟩ <;> rw [e] at hok ⊢
  · cases fillMap_ok hok
    cases v with
    | map m => exact congrArg (fun m => Out.ok (Val.map m)) (hg.idem m)
    | _ => exact hok
  · cases hok

theorem setDefaults_idem (tbl : List (List String × String)) :
    ∀ (p : TPath) (v v' : Val), setDefaults tbl p v = .ok v' → setDefaults tbl p v' = .ok v' := by
  intro p v
  induction p, v using setDefaults_induct tbl with
  | handler p h _ e v => rw [e]; exact applyHandler_idem h v
  | map p kvs _ e ih =>
    intro v' h
    rw [e] at h ⊢
    obtain ⟨r, hr, rfl⟩ := Out.map_eq_ok.mp h
    simp only [descend, mapMKVs_idem (fun kv hkv => ih kv hkv) hr, Out.map]
  | seq p xs _ e ih =>
    intro v' h
    rw [e] at h ⊢
    obtain ⟨r, hr, rfl⟩ := Out.map_eq_ok.mp h
    simp only [descend, Out.mapM_idem (fun x hx => ih x hx) hr, Out.map]
  | leaf p v _ e hl => intro v' h; rw [e, hl] at h; cases h; rw [e]; exact hl p

theorem setDefaultsKVs_idem (tbl : List (List String × String)) (p : TPath) (kvs kvs' : List (String × Val))
    (h : setDefaultsKVs tbl p kvs = .ok kvs') : setDefaultsKVs tbl p kvs' = .ok kvs' := by
  rw [setDefaultsKVs_eq_mapM] at h ⊢
  exact mapMKVs_idem (fun kv _ w => setDefaults_idem tbl _ kv.2 w) h

theorem setDefaultsList_idem (tbl : List (List String × String)) :
    ∀ (p : TPath) (xs xs' : List Val), setDefaultsList tbl p xs = .ok xs' → setDefaultsList tbl p xs' = .ok xs' := by
  intro p xs xs' h
  rw [setDefaultsList_eq_mapM] at h ⊢
  exact Out.mapM_idem (fun x _ w => setDefaults_idem tbl _ x w) h

mutual
/-- `v ≤ v'`: `v'` is `v` with, possibly, more entries in some mappings -/
def Extends : Val → Val → Prop
  | .map kvs, .map kvs' => ExtendsKVs kvs kvs'
  | .seq xs, .seq ys => ExtendsList xs ys
  | .null, .null => True
  | .bool a, .bool b => a = b
  | .int a, .int b => a = b
  | .float a, .float b => a = b
  | .str a, .str b => a = b
  | _, _ => False
def ExtendsKVs : List (String × Val) → List (String × Val) → Prop
  | [], _ => True
  | (k, x) :: r, kvs' => (∃ x', (k, x') ∈ kvs' ∧ Extends x x') ∧ ExtendsKVs r kvs'
def ExtendsList : List Val → List Val → Prop
  | [], [] => True
  | x :: r, y :: s => Extends x y ∧ ExtendsList r s
  | _, _ => False
end

theorem extendsKVs_iff {kvs' : List (String × Val)} : ∀ {kvs : List (String × Val)},
    ExtendsKVs kvs kvs' ↔ ∀ kv ∈ kvs, ∃ x', (kv.1, x') ∈ kvs' ∧ Extends kv.2 x'
  | [] => by simp [ExtendsKVs]
  | (k, x) :: r => by rw [ExtendsKVs, List.forall_mem_cons, extendsKVs_iff]

theorem extendsList_refl_of : ∀ {xs : List Val}, (∀ x ∈ xs, Extends x x) → ExtendsList xs xs
  | [], _ => by unfold ExtendsList; trivial
  | x :: r, h => by
    unfold ExtendsList
    exact ⟨h x List.mem_cons_self, extendsList_refl_of fun y hy => h y (List.mem_cons_of_mem _ hy)⟩

theorem Extends.refl (v : Val) : Extends v v := by
  induction v using Val.ind with
  | map kvs ih => unfold Extends; exact extendsKVs_iff.mpr fun kv hkv => ⟨kv.2, hkv, ih kv hkv⟩
  | seq xs ih => unfold Extends; exact extendsList_refl_of ih
  | leaf v h1 h2 =>
    cases v with
    | map m => exact absurd rfl (h1 m)
    | seq l => exact absurd rfl (h2 l)
    | _ => unfold Extends; trivial

theorem ExtendsList.refl : ∀ xs : List Val, ExtendsList xs xs :=
  fun _ => extendsList_refl_of fun x _ => Extends.refl x

theorem applyHandler_extends (h : String) (v v' : Val) (hok : applyHandler h v = .ok v') : Extends v v' := by
  rcases applyHandler_fills h with ⟨g, refuse, hg, e⟩ | ⟨_, e⟩ <;> rw [e] at hok
  · cases fillMap_ok hok
    cases v with
    | map m =>
      unfold onMap Extends
      exact extendsKVs_iff.mpr fun kv hkv => ⟨kv.2, hg.mem m kv hkv, Extends.refl _⟩
    | _ => exact Extends.refl _
  · cases hok

theorem mapMKVs_extends {g : String → Val → Out Val} : ∀ {kvs kvs' : KVs},
    (∀ kv ∈ kvs, ∀ w, g kv.1 kv.2 = .ok w → Extends kv.2 w) → mapMKVs g kvs = .ok kvs' → ExtendsKVs kvs kvs'
  | [], _, _, _ => by unfold ExtendsKVs; trivial
  | (k, v) :: r, kvs', hg, h => by
    obtain ⟨w, hw, r', hr, rfl⟩ := mapMKVs_cons_ok.mp h
    rw [List.forall_mem_cons] at hg
    unfold ExtendsKVs
    refine ⟨⟨w, List.mem_cons_self, hg.1 w hw⟩, extendsKVs_iff.mpr fun kv hkv => ?_⟩
    obtain ⟨x', hx', he⟩ := extendsKVs_iff.mp (mapMKVs_extends hg.2 hr) kv hkv
    exact ⟨x', List.mem_cons_of_mem _ hx', he⟩

theorem mapM_extends {f : Val → Out Val} : ∀ {xs xs' : List Val},
    (∀ x ∈ xs, ∀ w, f x = .ok w → Extends x w) → Out.mapM f xs = .ok xs' → ExtendsList xs xs'
  | [], _, _, h => by cases h; unfold ExtendsList; trivial
  | x :: r, xs', hf, h => by
    obtain ⟨w, hw, r', hr, rfl⟩ := Out.mapM_cons_ok.mp h
    rw [List.forall_mem_cons] at hf
    unfold ExtendsList
    exact ⟨hf.1 w hw, mapM_extends hf.2 hr⟩

theorem setDefaults_extends (tbl : List (List String × String)) :
    ∀ (p : TPath) (v v' : Val), setDefaults tbl p v = .ok v' → Extends v v' := by
  intro p v
  induction p, v using setDefaults_induct tbl with
  | handler p h _ e v => rw [e]; exact applyHandler_extends h v
  | map p kvs _ e ih =>
    intro v' h
    rw [e] at h
    obtain ⟨r, hr, rfl⟩ := Out.map_eq_ok.mp h
    unfold Extends
    exact mapMKVs_extends (fun kv hkv => ih kv hkv) hr
  | seq p xs _ e ih =>
    intro v' h
    rw [e] at h
    obtain ⟨r, hr, rfl⟩ := Out.map_eq_ok.mp h
    unfold Extends
    exact mapM_extends (fun x hx => ih x hx) hr
  | leaf p v _ e hl => intro v' h; rw [e, hl] at h; cases h; exact Extends.refl _

theorem setDefaultsKVs_extends (tbl : List (List String × String)) :
    ∀ (p : TPath) (kvs kvs' : List (String × Val)), setDefaultsKVs tbl p kvs = .ok kvs' → ExtendsKVs kvs kvs' := by
  intro p kvs kvs' h
  rw [setDefaultsKVs_eq_mapM] at h
  exact mapMKVs_extends (fun kv _ w => setDefaults_extends tbl _ kv.2 w) h

theorem setDefaultsList_extends (tbl : List (List String × String)) :
    ∀ (p : TPath) (xs xs' : List Val), setDefaultsList tbl p xs = .ok xs' → ExtendsList xs xs' := by
  intro p xs xs' h
  rw [setDefaultsList_eq_mapM] at h
  exact mapM_extends (fun x _ w => setDefaults_extends tbl _ x w) h

end CV.C11
