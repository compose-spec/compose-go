import ComposeVerif.Model.ShortTransform
import ComposeVerif.Lemmas.Path
import ComposeVerif.Lemmas.TablesExclusive
/-!
# What the regenerated table `Gen.transformers` says (C03)

The facts about the rows of `transform.transformers` that the C03 lemma files use, with the service / resource name free:
which handler sits at a path (`H`), where the handlers that build structure sit (`H_build`, `H_extends`, `H_external`: an
inversion of the table through one kernel evaluation, `table_rows`), that no row applies three levels below a top-level
resource (`H_below`), the row at each attribute position (`dispatch_<row>`) and the positions without a row
(`no_row_<position>`).  It is a file of its own because it rests on the model and the table alone, so that the
idempotence, order-independence and document-level proofs can all import it.
-/
namespace CV.Short
open CV

abbrev H (p : TPath) : Option String := TPath.firstMatch CV.Gen.transformers p

theorem pmatch_head (a b : String) (as bs : List String) (h : TPath.pmatch (a :: as) (b :: bs) = true) (ha : a ≠ "*") :
    b = a := by
  simp only [TPath.pmatch, ha, decide_false, Bool.false_or, Bool.and_eq_true, decide_eq_true_eq] at h
  exact h.1.symm

theorem pmatch3 (a c : String) (p : TPath) (h : TPath.pmatch [a, "*", c] p = true) (ha : a ≠ "*") (hc : c ≠ "*") :
    ∃ n, p = [a, n, c] := by
  match p, TPath.pmatch_length _ _ h with
  | [x, n, z], _ =>
    simp only [TPath.pmatch, ha, hc, decide_false, Bool.false_or, Bool.and_true, Bool.and_eq_true, decide_eq_true_eq,
      decide_true, Bool.true_or, Bool.true_and] at h
    exact ⟨n, by rw [← h.1, ← h.2]⟩

theorem pmatch2 (a : String) (p : TPath) (h : TPath.pmatch [a, "*"] p = true) (ha : a ≠ "*") : ∃ n, p = [a, n] := by
  match p, TPath.pmatch_length _ _ h with
  | [x, n], _ => exact ⟨n, by rw [pmatch_head _ _ _ _ h ha]⟩

def IsResource (a : String) : Prop := a = "volumes" ∨ a = "networks" ∨ a = "secrets" ∨ a = "configs"

theorem table_rows : ∀ r ∈ CV.Gen.transformers,
    (r.2 = "transformBuild" → r.1 = ["services", "*", "build"]) ∧
    (r.2 = "transformExtends" → r.1 = ["services", "*", "extends"]) ∧
    (r.2 = "transformMaybeExternal" → r.1 ∈ [["volumes", "*"], ["networks", "*"], ["secrets", "*"], ["configs", "*"]]) ∧
    (2 < r.1.length → r.1.head? = some "services") := by
  decide +kernel

theorem H_build (p : TPath) (h : H p = some "transformBuild") : ∃ n, p = ["services", n, "build"] := by
  obtain ⟨pat, hmem, hp⟩ := TPath.firstMatch_some_mem h
  have hpat : pat = ["services", "*", "build"] := (table_rows _ hmem).1 rfl
  subst hpat
  exact pmatch3 _ _ _ hp (by simp) (by simp)

theorem H_extends (p : TPath) (h : H p = some "transformExtends") : ∃ n, p = ["services", n, "extends"] := by
  obtain ⟨pat, hmem, hp⟩ := TPath.firstMatch_some_mem h
  have hpat : pat = ["services", "*", "extends"] := (table_rows _ hmem).2.1 rfl
  subst hpat
  exact pmatch3 _ _ _ hp (by simp) (by simp)

theorem H_external (p : TPath) (h : H p = some "transformMaybeExternal") : ∃ a n, p = [a, n] ∧ IsResource a := by
  obtain ⟨pat, hmem, hp⟩ := TPath.firstMatch_some_mem h
  have hpat := (table_rows _ hmem).2.2.1 rfl
  simp only [List.mem_cons, List.not_mem_nil, or_false] at hpat
  rcases hpat with rfl | rfl | rfl | rfl
  · obtain ⟨n, hn⟩ := pmatch2 _ _ hp (by simp); exact ⟨_, n, hn, Or.inl rfl⟩
  · obtain ⟨n, hn⟩ := pmatch2 _ _ hp (by simp); exact ⟨_, n, hn, Or.inr (Or.inl rfl)⟩
  · obtain ⟨n, hn⟩ := pmatch2 _ _ hp (by simp); exact ⟨_, n, hn, Or.inr (Or.inr (Or.inl rfl))⟩
  · obtain ⟨n, hn⟩ := pmatch2 _ _ hp (by simp); exact ⟨_, n, hn, Or.inr (Or.inr (Or.inr rfl))⟩

def Below (q : TPath) : Prop := ∃ a b c rest, q = a :: b :: c :: rest ∧ IsResource a

theorem H_below (q : TPath) (h : Below q) : H q = none := by
  obtain ⟨a, b, c, rest, rfl, ha⟩ := h
  cases hH : H (a :: b :: c :: rest) with
  | none => rfl
  | some name =>
    -- a matching row would have the path's length (≥ 3), so it starts with `services`: not a resource name
    obtain ⟨pat, hmem, hp⟩ := TPath.firstMatch_some_mem hH
    have hs := (table_rows _ hmem).2.2.2 (by rw [TPath.pmatch_length _ _ hp]; simp)
    match pat, hs with
    | x :: xs, hs =>
      cases hs
      have := pmatch_head _ _ _ _ hp (by simp)
      rcases ha with rfl | rfl | rfl | rfl <;> simp at this

/-! ## the row at a path

A path with a free service / resource name is answered by the row whose pattern it matches: the row is in the table (a
closed fact) and the table is exclusive (`Gen.tables_exclusive`).  `dispatch` (`Props/C03.lean`) collects these. -/

theorem dispatch_row {pat : List String} {h : String} (hm : (pat, h) ∈ CV.Gen.transformers) {x : TPath}
    (hx : TPath.pmatch pat x = true) : TPath.firstMatch CV.Gen.transformers x = some h :=
  TPath.firstMatch_eq_of_mem CV.Gen.tables_exclusive.2.2.1 hm hx

/-- two conjunctions of eight rows: `Decidable` of all sixteen at once exceeds instance synthesis -/
theorem rows_in :
    (["services", "*", "ports"], "transformPorts") ∈ CV.Gen.transformers ∧
    (["services", "*", "volumes", "*"], "transformVolumeMount") ∈ CV.Gen.transformers ∧
    (["services", "*", "devices", "*"], "transformDeviceMapping") ∈ CV.Gen.transformers ∧
    (["services", "*", "secrets", "*"], "transformFileMount") ∈ CV.Gen.transformers ∧
    (["services", "*", "configs", "*"], "transformFileMount") ∈ CV.Gen.transformers ∧
    (["services", "*", "build", "secrets", "*"], "transformFileMount") ∈ CV.Gen.transformers ∧
    (["services", "*", "build"], "transformBuild") ∈ CV.Gen.transformers ∧
    (["services", "*", "build", "ssh"], "transformSSH") ∈ CV.Gen.transformers := by
  decide +kernel

theorem rows_in' :
    (["services", "*", "build", "additional_contexts"], "transformKeyValue") ∈ CV.Gen.transformers ∧
    (["services", "*", "env_file"], "transformEnvFile") ∈ CV.Gen.transformers ∧
    (["services", "*", "depends_on"], "transformDependsOn") ∈ CV.Gen.transformers ∧
    (["services", "*", "networks"], "transformServiceNetworks") ∈ CV.Gen.transformers ∧
    (["services", "*", "extends"], "transformExtends") ∈ CV.Gen.transformers ∧
    (["services", "*", "dns"], "transformStringOrList") ∈ CV.Gen.transformers ∧
    (["services", "*", "ulimits", "*"], "transformUlimits") ∈ CV.Gen.transformers ∧
    (["services", "*"], "transformService") ∈ CV.Gen.transformers := by
  decide +kernel

theorem dispatch_ports (n : String) : TPath.firstMatch CV.Gen.transformers ["services", n, "ports"] = some "transformPorts" :=
  dispatch_row rows_in.1 (by simp [TPath.pmatch])
theorem dispatch_volume (n i : String) : TPath.firstMatch CV.Gen.transformers ["services", n, "volumes", i] = some "transformVolumeMount" :=
  dispatch_row rows_in.2.1 (by simp [TPath.pmatch])
theorem dispatch_device (n i : String) : TPath.firstMatch CV.Gen.transformers ["services", n, "devices", i] = some "transformDeviceMapping" :=
  dispatch_row rows_in.2.2.1 (by simp [TPath.pmatch])
theorem dispatch_secret (n i : String) : TPath.firstMatch CV.Gen.transformers ["services", n, "secrets", i] = some "transformFileMount" :=
  dispatch_row rows_in.2.2.2.1 (by simp [TPath.pmatch])
theorem dispatch_config (n i : String) : TPath.firstMatch CV.Gen.transformers ["services", n, "configs", i] = some "transformFileMount" :=
  dispatch_row rows_in.2.2.2.2.1 (by simp [TPath.pmatch])
theorem dispatch_buildSecret (n i : String) : TPath.firstMatch CV.Gen.transformers ["services", n, "build", "secrets", i] = some "transformFileMount" :=
  dispatch_row rows_in.2.2.2.2.2.1 (by simp [TPath.pmatch])
theorem dispatch_build (n : String) : TPath.firstMatch CV.Gen.transformers ["services", n, "build"] = some "transformBuild" :=
  dispatch_row rows_in.2.2.2.2.2.2.1 (by simp [TPath.pmatch])
theorem dispatch_buildSSH (n : String) : TPath.firstMatch CV.Gen.transformers ["services", n, "build", "ssh"] = some "transformSSH" :=
  dispatch_row rows_in.2.2.2.2.2.2.2 (by simp [TPath.pmatch])
theorem dispatch_additionalContexts (n : String) : TPath.firstMatch CV.Gen.transformers ["services", n, "build", "additional_contexts"] = some "transformKeyValue" :=
  dispatch_row rows_in'.1 (by simp [TPath.pmatch])
theorem dispatch_envFile (n : String) : TPath.firstMatch CV.Gen.transformers ["services", n, "env_file"] = some "transformEnvFile" :=
  dispatch_row rows_in'.2.1 (by simp [TPath.pmatch])
theorem dispatch_dependsOn (n : String) : TPath.firstMatch CV.Gen.transformers ["services", n, "depends_on"] = some "transformDependsOn" :=
  dispatch_row rows_in'.2.2.1 (by simp [TPath.pmatch])
theorem dispatch_networks (n : String) : TPath.firstMatch CV.Gen.transformers ["services", n, "networks"] = some "transformServiceNetworks" :=
  dispatch_row rows_in'.2.2.2.1 (by simp [TPath.pmatch])
theorem dispatch_extends (n : String) : TPath.firstMatch CV.Gen.transformers ["services", n, "extends"] = some "transformExtends" :=
  dispatch_row rows_in'.2.2.2.2.1 (by simp [TPath.pmatch])
theorem dispatch_dns (n : String) : TPath.firstMatch CV.Gen.transformers ["services", n, "dns"] = some "transformStringOrList" :=
  dispatch_row rows_in'.2.2.2.2.2.1 (by simp [TPath.pmatch])
theorem dispatch_ulimit (n i : String) : TPath.firstMatch CV.Gen.transformers ["services", n, "ulimits", i] = some "transformUlimits" :=
  dispatch_row rows_in'.2.2.2.2.2.2.1 (by simp [TPath.pmatch])
theorem dispatch_service (n : String) : TPath.firstMatch CV.Gen.transformers ["services", n] = some "transformService" :=
  dispatch_row rows_in'.2.2.2.2.2.2.2 (by simp [TPath.pmatch])

theorem resource_top : ∀ a ∈ ["volumes", "networks", "secrets", "configs"],
    TPath.nextK TPath.root a = [a] ∧ recursesOnMap (TPath.firstMatch CV.Gen.transformers [a]) = true
    ∧ ([a, "*"], "transformMaybeExternal") ∈ CV.Gen.transformers := by
  decide +kernel

/-- the walk from the root to a top-level resource entry -/
theorem resource_path (a : String) (ha : IsResource a) :
    TPath.nextK TPath.root a = [a] ∧ recursesOnMap (TPath.firstMatch CV.Gen.transformers [a]) = true
    ∧ ∀ r, TPath.firstMatch CV.Gen.transformers [a, r] = some "transformMaybeExternal" := by
  have h := resource_top a (by rcases ha with rfl | rfl | rfl | rfl <;> simp)
  exact ⟨h.1, h.2.1, fun r => dispatch_row h.2.2 (by simp [TPath.pmatch])⟩

theorem root_recurses : recursesOnMap (TPath.firstMatch CV.Gen.transformers TPath.root) = true := by decide +kernel
theorem services_recurses : recursesOnMap (TPath.firstMatch CV.Gen.transformers ["services"]) = true := by decide +kernel
theorem service_recurses (n : String) : recursesOnMap (TPath.firstMatch CV.Gen.transformers ["services", n]) = true := by
  rw [dispatch_service]; rfl

/-! ## positions without a row

No row applies at a path when no pattern of the table overlaps the pattern the path is an instance of (a closed fact). -/

theorem no_row (pat : List String) {x : TPath} (hno : ∀ e ∈ CV.Gen.transformers, TPath.overlap e.1 pat = false)
    (hx : TPath.pmatch pat x = true) : TPath.firstMatch CV.Gen.transformers x = none :=
  TPath.firstMatch_none_of_overlap pat hno hx

theorem rows_out :
    (∀ e ∈ CV.Gen.transformers, TPath.overlap e.1 ["services", "*", "volumes"] = false) ∧
    (∀ e ∈ CV.Gen.transformers, TPath.overlap e.1 ["services", "*", "devices"] = false) ∧
    (∀ e ∈ CV.Gen.transformers, TPath.overlap e.1 ["services", "*", "secrets"] = false) ∧
    (∀ e ∈ CV.Gen.transformers, TPath.overlap e.1 ["services", "*", "configs"] = false) ∧
    (∀ e ∈ CV.Gen.transformers, TPath.overlap e.1 ["services", "*", "build", "secrets"] = false) ∧
    (∀ e ∈ CV.Gen.transformers, TPath.overlap e.1 ["services", "*", "build", "context"] = false) ∧
    (∀ e ∈ CV.Gen.transformers, TPath.overlap e.1 ["services", "*", "extends", "service"] = false) := by
  decide +kernel

theorem no_row_volumes (n : String) : TPath.firstMatch CV.Gen.transformers ["services", n, "volumes"] = none :=
  no_row ["services", "*", "volumes"] rows_out.1 (by simp [TPath.pmatch])
theorem no_row_devices (n : String) : TPath.firstMatch CV.Gen.transformers ["services", n, "devices"] = none :=
  no_row ["services", "*", "devices"] rows_out.2.1 (by simp [TPath.pmatch])
theorem no_row_secrets (n : String) : TPath.firstMatch CV.Gen.transformers ["services", n, "secrets"] = none :=
  no_row ["services", "*", "secrets"] rows_out.2.2.1 (by simp [TPath.pmatch])
theorem no_row_configs (n : String) : TPath.firstMatch CV.Gen.transformers ["services", n, "configs"] = none :=
  no_row ["services", "*", "configs"] rows_out.2.2.2.1 (by simp [TPath.pmatch])
theorem no_row_buildSecrets (n : String) : TPath.firstMatch CV.Gen.transformers ["services", n, "build", "secrets"] = none :=
  no_row ["services", "*", "build", "secrets"] rows_out.2.2.2.2.1 (by simp [TPath.pmatch])
theorem no_row_buildContext (n : String) : TPath.firstMatch CV.Gen.transformers ["services", n, "build", "context"] = none :=
  no_row ["services", "*", "build", "context"] rows_out.2.2.2.2.2.1 (by simp [TPath.pmatch])
theorem no_row_extendsService (n : String) : TPath.firstMatch CV.Gen.transformers ["services", n, "extends", "service"] = none :=
  no_row ["services", "*", "extends", "service"] rows_out.2.2.2.2.2.2 (by simp [TPath.pmatch])

end CV.Short
