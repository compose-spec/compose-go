import ComposeVerif.Model.Trav
/-!
# The small graphs the examples and the counterexample witnesses of C13 run on
-/
namespace CV.Trav

def three : Graph := { verts := [0, 1, 2], pre := fun _ => [], post := fun _ => [], skip := fun _ => false }

/-- 1 depends on 0 -/
def chain2 : Graph :=
  { verts := [0, 1], pre := fun v => if v = 1 then [0] else [], post := fun v => if v = 0 then [1] else [],
    skip := fun _ => false }

/-- diamond: 3 depends on 1 and 2, which depend on 0 -/
def diamond : Graph :=
  { verts := [0, 1, 2, 3]
    pre := fun v => if v = 1 then [0] else if v = 2 then [0] else if v = 3 then [1, 2] else []
    post := fun v => if v = 0 then [1, 2] else if v = 1 then [3] else if v = 2 then [3] else []
    skip := fun _ => false }

/-- 1 depends on 0, the root selection keeps only 1 (0 is skipped) -/
def chainSkip : Graph :=
  { verts := [0, 1], pre := fun v => if v = 1 then [0] else [], post := fun v => if v = 0 then [1] else [],
    skip := fun v => v == 0 }

end CV.Trav
