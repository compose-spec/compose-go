/-! Plain facts about lists, with no import: `nodup_snoc`, `map_update_perm` (the image of a duplicate-free list when the
function changes at one element) with its sum form `sum_map_update`, `dropWhile_ne_split`.  Used by the fan-out and lock
transition systems (C19), the trackers of C01 and C05 and the cycle reports of C01 and C10. -/
namespace CV

theorem nodup_snoc {α : Type} {l : List α} {a : α} (hl : l.Nodup) (ha : a ∉ l) : (l ++ [a]).Nodup :=
  List.nodup_append.mpr ⟨hl, List.nodup_cons.mpr ⟨nofun, List.nodup_nil⟩,
    fun _ hx _ hy e => ha (List.mem_singleton.mp hy ▸ e ▸ hx)⟩

theorem map_update_perm {α β : Type} {l : List α} (hN : l.Nodup) {v : α} (hv : v ∈ l) {f g : α → β}
    (h : ∀ u, u ≠ v → g u = f u) : ∃ r, (l.map g).Perm (g v :: r) ∧ (l.map f).Perm (f v :: r) := by
  obtain ⟨a, b, rfl⟩ := List.append_of_mem hv
  have hne : ∀ u ∈ a ++ b, u ≠ v := fun u hu e =>
    (List.nodup_cons.mp (List.perm_middle.nodup_iff.mp hN)).1 (e ▸ hu)
  refine ⟨(a ++ b).map f, ?_, List.perm_middle.map f⟩
  rw [← List.map_congr_left fun u hu => h u (hne u hu)]
  exact List.perm_middle.map g

/-- the sum of the goroutines' weights when one goroutine moves -/
theorem sum_map_update {α : Type} {l : List α} (hN : l.Nodup) {v : α} (hv : v ∈ l) {f g : α → Nat}
    (h : ∀ u, u ≠ v → g u = f u) : (l.map g).sum + f v = (l.map f).sum + g v := by
  obtain ⟨r, h1, h2⟩ := map_update_perm hN hv h
  rw [h1.sum_nat, h2.sum_nat, List.sum_cons, List.sum_cons]; omega

/-- `p` is any Boolean spelling of `· ≠ c` (`· != c`, `decide (· ≠ c)`) -/
theorem dropWhile_ne_split {α : Type} {p : α → Bool} {c : α} (hp : ∀ x, p x = true ↔ x ≠ c) : ∀ (l : List α), c ∈ l →
    ∃ pre suf, l = pre ++ c :: suf ∧ l.dropWhile p = c :: suf
  | a :: r, h => by
    by_cases hac : a = c
    · subst hac
      exact ⟨[], r, rfl, by rw [List.dropWhile_cons, if_neg (by rw [hp]; exact fun h => h rfl)]⟩
    · obtain ⟨pre, suf, h1, h2⟩ := dropWhile_ne_split hp r ((List.mem_cons.mp h).resolve_left fun e => hac e.symm)
      exact ⟨a :: pre, suf, by rw [h1]; rfl, by rw [List.dropWhile_cons, if_pos ((hp a).2 hac)]; exact h2⟩

end CV
