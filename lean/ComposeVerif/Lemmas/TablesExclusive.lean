import ComposeVerif.Model.Path
import ComposeVerif.Gen.Tables
/-! No two patterns of any of the seven regenerated rule tables match one path: a fact about finite tables, evaluated by
the kernel. -/
namespace CV.Gen
open CV.TPath

theorem tables_exclusive :
    PairwiseExclusive mergeSpecials ∧ PairwiseExclusive unique ∧ PairwiseExclusive transformers ∧
    PairwiseExclusive defaultValues ∧ PairwiseExclusive resolvers ∧ PairwiseExclusive validationChecks ∧
    PairwiseExclusive castTable := by decide +kernel

end CV.Gen
