import ComposeVerif.Spec.Extends
/-!
# The hypotheses of the extends theorems

What a theorem of C05 may assume about the document (`NoNull`, `Visits`) and about the environment `E` — the file system
and the merge step — (`NoNullFS`, `FuelFree`, `PanicFree`, `NoCircularEnv`).  One more hypothesis has no name and is written
out wherever it is needed, as `hmain : fileServices E.fs E.mainFile = none`: the file-system table offers no services under
the main file's own name, so that a file name stands for one mapping only (`Loc.unique`).

Discharged: for the real merge step in `Lemmas/ExtendsMerge.lean` (`realEnv_fuelFree`, `realEnv_panicFree`,
`realEnv_noCircular`: what is left is the file-system half), for canonical files in `Props/C05Anchor.lean`
(`anchoredEnv_panicFree`, `anchoredFS_not_circular`), for raw files in `Props/C05Load.lean` (`loadedEnv_panicFree`,
`loadedFS_not_circular`).
-/
namespace CV.Extends
open CV CV.Val

def NoNull (S : KVs) : Prop := ∀ n, lookup n S ≠ some .null

def NoNullFS (E : Env) : Prop := ∀ f S, fileServices E.fs f = some S → NoNull S

def Visits (order : List String) (S : KVs) : Prop := ∀ n, n ∈ order ↔ lookup n S ≠ none

def FuelFree (E : Env) : Prop :=
  (∀ b s, E.extend b s ≠ .panic fuelMark) ∧ (∀ f s, fsPanics E.fs f s → s ≠ fuelMark)

def PanicFree (E : Env) : Prop :=
  (∀ b svc s, E.extend b svc ≠ .panic s) ∧ (∀ f s, ¬ fsPanics E.fs f s)

theorem PanicFree.fuelFree {E : Env} (h : PanicFree E) : FuelFree E :=
  ⟨fun b s => h.1 b s fuelMark, fun f s hf _ => h.2 f s hf⟩

/-- the class `circular` is the tracker's own: `override.ExtendService` has no such error, and the nested load of an extended
file runs with `SkipExtends` / `SkipInclude` -/
def NoCircularEnv (E : Env) : Prop :=
  (∀ b s, E.extend b s ≠ .err "circular") ∧ (∀ f, fsLookup f E.fs ≠ some (.err "circular"))

end CV.Extends
