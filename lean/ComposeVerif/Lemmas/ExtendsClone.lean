import ComposeVerif.Model.ExtendsClone
/-! lemmas about `deepClone` on the heap: value preserved, every container fresh, writes elsewhere are invisible -/
namespace CV.Extends.Clone
open CV

/-- the addresses `A` were all allocated in the window `[n, m)`, each once -/
def Fresh (n m : Nat) (A : List Nat) : Prop := n ≤ m ∧ (∀ a ∈ A, n ≤ a ∧ a < m) ∧ A.Nodup

theorem Fresh.nil (n : Nat) : Fresh n n [] := ⟨Nat.le_refl n, by simp, List.nodup_nil⟩

theorem Fresh.append {n m k : Nat} {A B : List Nat} (h1 : Fresh n m A) (h2 : Fresh m k B) : Fresh n k (A ++ B) := by
  refine ⟨Nat.le_trans h1.1 h2.1, ?_, ?_⟩
  · intro a ha
    rcases List.mem_append.mp ha with h | h
    · have := h1.2.1 a h; exact ⟨this.1, Nat.lt_of_lt_of_le this.2 h2.1⟩
    · have := h2.2.1 a h; exact ⟨Nat.le_trans h1.1 this.1, this.2⟩
  · rw [List.nodup_append]
    refine ⟨h1.2.2, h2.2.2, ?_⟩
    intro a ha b hb hab
    subst hab
    have x := h1.2.1 a ha
    have y := h2.2.1 a hb
    omega

theorem Fresh.cons {n m : Nat} {A : List Nat} (h : Fresh (n + 1) m A) : Fresh n m (n :: A) := by
  refine ⟨by have := h.1; omega, ?_, ?_⟩
  · intro a ha
    rcases List.mem_cons.mp ha with rfl | h'
    · exact ⟨Nat.le_refl _, by have := h.1; omega⟩
    · have := h.2.1 a h'; exact ⟨by omega, this.2⟩
  · refine List.nodup_cons.mpr ⟨?_, h.2.2⟩
    intro hm
    have := h.2.1 n hm
    omega

mutual
  theorem clone_erase : ∀ (v : HVal) (n : Nat), erase (clone n v).1 = erase v
    | .leaf _, _ => rfl
    | .seq _ xs, n => by simp only [clone, erase, cloneL_erase xs (n + 1)]
    | .map _ kvs, n => by simp only [clone, erase, cloneK_erase kvs (n + 1)]
  theorem cloneL_erase : ∀ (xs : List HVal) (n : Nat), eraseL (cloneL n xs).1 = eraseL xs
    | [], _ => rfl
    | x :: r, n => by simp only [cloneL, eraseL, clone_erase x n, cloneL_erase r _]
  theorem cloneK_erase : ∀ (kvs : List (String × HVal)) (n : Nat), eraseK (cloneK n kvs).1 = eraseK kvs
    | [], _ => rfl
    | (k, x) :: r, n => by simp only [cloneK, eraseK, clone_erase x n, cloneK_erase r _]
end

mutual
  theorem clone_fresh : ∀ (v : HVal) (n : Nat), Fresh n (clone n v).2 (addrs (clone n v).1)
    | .leaf _, n => by simp only [clone, addrs]; exact Fresh.nil n
    | .seq _ xs, n => by simp only [clone, addrs]; exact (cloneL_fresh xs (n + 1)).cons
    | .map _ kvs, n => by simp only [clone, addrs]; exact (cloneK_fresh kvs (n + 1)).cons
  theorem cloneL_fresh : ∀ (xs : List HVal) (n : Nat), Fresh n (cloneL n xs).2 (addrsL (cloneL n xs).1)
    | [], n => by simp only [cloneL, addrsL]; exact Fresh.nil n
    | x :: r, n => by simp only [cloneL, addrsL]; exact (clone_fresh x n).append (cloneL_fresh r _)
  theorem cloneK_fresh : ∀ (kvs : List (String × HVal)) (n : Nat), Fresh n (cloneK n kvs).2 (addrsK (cloneK n kvs).1)
    | [], n => by simp only [cloneK, addrsK]; exact Fresh.nil n
    | (k, x) :: r, n => by simp only [cloneK, addrsK]; exact (clone_fresh x n).append (cloneK_fresh r _)
end

mutual
  /-- one allocation per container -/
  theorem clone_count : ∀ (v : HVal) (n : Nat), (clone n v).2 = n + (addrs v).length
    | .leaf _, n => rfl
    | .seq _ xs, n => by simp only [clone, addrs, List.length_cons, cloneL_count xs (n + 1)]; omega
    | .map _ kvs, n => by simp only [clone, addrs, List.length_cons, cloneK_count kvs (n + 1)]; omega
  theorem cloneL_count : ∀ (xs : List HVal) (n : Nat), (cloneL n xs).2 = n + (addrsL xs).length
    | [], n => rfl
    | x :: r, n => by simp only [cloneL, addrsL, List.length_append, cloneL_count r _, clone_count x n]; omega
  theorem cloneK_count : ∀ (kvs : List (String × HVal)) (n : Nat), (cloneK n kvs).2 = n + (addrsK kvs).length
    | [], n => rfl
    | (k, x) :: r, n => by simp only [cloneK, addrsK, List.length_append, cloneK_count r _, clone_count x n]; omega
end

mutual
  theorem write_not_mem : ∀ (v : HVal) (a : Nat) (c : HVal), a ∉ addrs v → write a c v = v
    | .leaf _, _, _, _ => rfl
    | .seq b xs, a, c, h => by
      simp only [addrs, List.mem_cons, not_or] at h
      have hb : b ≠ a := fun e => h.1 e.symm
      simp only [write, hb, ↓reduceIte, writeL_not_mem xs a c h.2]
    | .map b kvs, a, c, h => by
      simp only [addrs, List.mem_cons, not_or] at h
      have hb : b ≠ a := fun e => h.1 e.symm
      simp only [write, hb, ↓reduceIte, writeK_not_mem kvs a c h.2]
  theorem writeL_not_mem : ∀ (xs : List HVal) (a : Nat) (c : HVal), a ∉ addrsL xs → writeL a c xs = xs
    | [], _, _, _ => rfl
    | x :: r, a, c, h => by
      simp only [addrsL, List.mem_append, not_or] at h
      simp only [writeL, write_not_mem x a c h.1, writeL_not_mem r a c h.2]
  theorem writeK_not_mem : ∀ (kvs : List (String × HVal)) (a : Nat) (c : HVal), a ∉ addrsK kvs → writeK a c kvs = kvs
    | [], _, _, _ => rfl
    | (k, x) :: r, a, c, h => by
      simp only [addrsK, List.mem_append, not_or] at h
      simp only [writeK, write_not_mem x a c h.1, writeK_not_mem r a c h.2]
end

end CV.Extends.Clone

/-! ### the two seeded slips share a container with their argument

Two small bases laid out on the heap, and the address each slip's result has in common with its base: what
`Props/C05Clone.lean` excludes of `clone` and `Neg/C05Clone.lean` follows up with a write. -/
namespace CV.Extends.Clone.Neg
open CV CV.Extends.Clone

/-- base service `{healthcheck: {test: t}}` laid out at addresses 0 (service) and 1 (healthcheck) -/
def base : HVal := .map 0 [("healthcheck", .map 1 [("test", .leaf (.str "t"))])]

/-- the shallow clone's `healthcheck` *is* the base's `healthcheck` (address 1) -/
theorem shallow_shares : 1 ∈ addrs (cloneShallowMap 2 base).1 ∧ 1 ∈ addrs base := by decide

/-- base service `{cap_add: [A, B]}`: service at 0, list at 1 -/
def baseL : HVal := .map 0 [("cap_add", .seq 1 [.leaf (.str "A"), .leaf (.str "B")])]

/-- the "clone" of the list is the base's own backing array -/
theorem inplace_shares : 1 ∈ addrs (cloneInPlaceSeq 2 baseL).1 ∧ 1 ∈ addrs baseL := by decide

end CV.Extends.Clone.Neg
