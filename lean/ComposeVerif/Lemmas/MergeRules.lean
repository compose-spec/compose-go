import ComposeVerif.Model.Unicity
import ComposeVerif.Lemmas.Path
import ComposeVerif.Lemmas.MergeStep
/-!
# Which rule applies at a path: `ruleAt` / `indexerAt` against the regenerated tables

By row (a rule found at a path comes from a row of `Gen.mergeSpecials` of the path's length), by length (the patterns have
three or four parts: no rule at the root, at `services`, at `services.<s>`, nor five deep; the converting mergers sit at
length three), by name (every pattern of both tables has `*` in second place: the service / network / volume name does not
matter); `.unknown` only ever stands for a Go function name the model does not know.
-/
namespace CV.Merge
open CV CV.Val

theorem length_next (p : TPath) (k : String) (h : 2 ≤ p.length) : (next p k).length = p.length + 1 := by
  have : p ≠ TPath.root := by intro hp; subst hp; simp [TPath.root] at h
  simp [next, this]

theorem ruleAt_row {p : TPath} {r : Rule} (h : ruleAt p = some r) :
    ∃ row ∈ CV.Gen.mergeSpecials, row.1.length = p.length ∧ (ruleOfName row.2).getD .unknown = r := by
  unfold ruleAt ruleAtIn at h
  cases hf : TPath.firstMatch CV.Gen.mergeSpecials p with
  | none => simp [hf] at h
  | some n =>
    simp only [hf, Option.some.injEq] at h
    obtain ⟨pat, hm, hx⟩ := TPath.firstMatch_some_mem hf
    exact ⟨(pat, n), hm, TPath.pmatch_length pat p hx, h⟩

/-- table facts (re-checked whenever the Go table changes) -/
theorem rules_at_length_three_or_more : ∀ r ∈ CV.Gen.mergeSpecials, 3 ≤ r.1.length := by decide +kernel
theorem rules_at_length_four_or_less : ∀ r ∈ CV.Gen.mergeSpecials, r.1.length ≤ 4 := by decide +kernel

theorem ruleAt_short (p : TPath) (h : p.length ≤ 2) : ruleAt p = none := by
  cases hr : ruleAt p with
  | none => rfl
  | some r =>
    obtain ⟨row, hm, hl, _⟩ := ruleAt_row hr
    have := rules_at_length_three_or_more row hm
    omega

theorem ruleAt_long (p : TPath) (h : 5 ≤ p.length) : ruleAt p = none := by
  cases hr : ruleAt p with
  | none => rfl
  | some r =>
    obtain ⟨row, hm, hl, _⟩ := ruleAt_row hr
    have := rules_at_length_four_or_less row hm
    omega

theorem conv_rules_at_length_three :
    ∀ r ∈ CV.Gen.mergeSpecials, isConv ((ruleOfName r.2).getD .unknown) = true → r.1.length = 3 := by decide +kernel

theorem ruleAt_conv_length (p : TPath) (r : Rule) (h : ruleAt p = some r) (hc : isConv r = true) : p.length = 3 := by
  obtain ⟨row, hm, hl, hr⟩ := ruleAt_row h
  rw [← hl]; exact conv_rules_at_length_three row hm (hr ▸ hc)

theorem merge_maps (a b : KVs) :
    merge (.map a) (.map b) = (mergeKVs (depth (.map b) + 7) a b TPath.root).bind fun m => .ok (.map m) :=
  mergeYaml_maps _ a b _ (ruleAt_short _ (by decide))

theorem merge_into_empty (cfg : KVs) (h : (cfg.map Prod.fst).Nodup) : merge (.map []) (.map cfg) = .ok (.map cfg) := by
  rw [merge_maps, mergeKVs, mergeKVsWith_fresh _ _ cfg [] (by simpa using h)]; rfl

theorem ruleOfName_ne_unknown (name : String) : ruleOfName name ≠ some .unknown := by
  unfold ruleOfName
  split <;> simp

end CV.Merge

namespace CV.Unicity
open CV CV.Merge

theorem indexerOfName_ne_unknown (name : String) : indexerOfName name ≠ some .unknown := by
  unfold indexerOfName
  split <;> simp

end CV.Unicity

namespace CV.C04
open CV CV.Merge CV.Unicity

/-- every row of both tables has `*` where the service / network / volume name stands -/
theorem ruleAt_name_irrelevant (a s s' : String) (r : List String) : ruleAt (a :: s :: r) = ruleAt (a :: s' :: r) := by
  unfold ruleAt ruleAtIn
  rw [TPath.firstMatch_second_irrelevant (by decide +kernel)]

theorem indexerAt_name_irrelevant (a s s' : String) (r : List String) :
    indexerAt (a :: s :: r) = indexerAt (a :: s' :: r) := by
  unfold indexerAt indexerAtIn
  rw [TPath.firstMatch_second_irrelevant (by decide +kernel)]

end CV.C04
