import ComposeVerif.Lemmas.SecretsFlow
/-! C20: permutations of the keys of one resource object (a Go map: distinct keys) through the hook and the struct decode. -/
namespace CV.Secrets
open CV
open CV.Val hiding lookup_insert_self lookup_insert_ne

/-- a Go map: `(Val.keys kvs).Nodup`, the hypothesis of the permutation lemmas of `Lemmas/KVs.lean` -/
def KeysNodup (kvs : KVs) : Prop := (kvs.map Prod.fst).Nodup

/-- the same predicate as `C11.KeysNodup` and, on its own key type, `EnvLayers.Distinct` -/
theorem KeysNodup_iff {kvs : KVs} : KeysNodup kvs ↔ (Val.keys kvs).Nodup := Iff.rfl

theorem lookup_perm {k : String} : ∀ {a b : KVs}, a.Perm b → KeysNodup a → Val.lookup k a = Val.lookup k b :=
  fun h hn => Val.lookup_perm h hn

theorem KeysNodup_insert (k : String) (v : Val) {kvs : KVs} (h : KeysNodup kvs) : KeysNodup (Val.insert k v kvs) :=
  nodup_insert h

theorem keysInDomain_perm {a b : KVs} (h : a.Perm b) : keysInDomain a = keysInDomain b := by
  unfold keysInDomain
  exact h.all_eq

theorem decodeFields_perm {a b : KVs} (h : a.Perm b) (hn : KeysNodup a) : decodeFields a = decodeFields b :=
  decodeFields_congr (fun _ => lookup_perm h hn) (keysInDomain_perm h)

theorem erase_perm (k : String) {a b : KVs} (h : a.Perm b) : (Val.erase k a).Perm (Val.erase k b) := by
  rw [erase_eq_filter, erase_eq_filter]; exact h.filter _

theorem KeysNodup_erase (k : String) {a : KVs} (h : KeysNodup a) : KeysNodup (Val.erase k a) := by
  rw [erase_eq_filter]
  exact h.sublist ((List.filter_sublist (l := a)).map Prod.fst)

theorem hook_perm {a b : KVs} (h : a.Perm b) (hn : KeysNodup a) : (hook a).Perm (hook b) ∧ KeysNodup (hook a) := by
  unfold hook
  rw [← lookup_perm (k := extKey) h hn]
  split
  · split
    · have h1 := insert_perm "Content" (Val.str ‹String›) h hn
      have n1 := KeysNodup_insert "Content" (Val.str ‹String›) hn
      simp only
      split
      · exact ⟨erase_perm _ h1, KeysNodup_erase _ n1⟩
      · exact ⟨insert_perm _ _ h1 n1, KeysNodup_insert _ _ n1⟩
    · exact ⟨h, hn⟩
  · exact ⟨h, hn⟩

end CV.Secrets
