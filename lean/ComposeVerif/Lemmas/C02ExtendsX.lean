import ComposeVerif.Model.C02ExtendsX
import ComposeVerif.Lemmas.C02Extends
/-! `ApplyExtends` with references into other files (`Model/C02ExtendsX.lean`) is simulated step by step by the same-file
algorithm on the map whose cross-file references are resolved up front (`pre`, `preMap`, `Sim`: these three appear in
the statements of `Props/C02ExtendsX.lean`); a resolved service stays resolved (`Tagged`). -/
namespace CV.Det.ExtX
open CV CV.Det

variable {β : Type}

/-- a main-file entry with its cross-file reference resolved up front (a failing one becomes a reference to the
service `bad`, which does not exist) -/
def pre (mrg : β → β → β) (files : AL (AL (XSvc β))) (bad : String) : XS β → XSvc β
  | (.none, b) => (none, b)
  | (.same r, b) => (some r, b)
  | (.file f r, b) =>
    match fileBase mrg files f r with
    | some base => (none, mrg base b)
    | none => (some bad, b)

def preMap (mrg : β → β → β) (files : AL (AL (XSvc β))) (bad : String) (m : AL (XS β)) : AL (XSvc β) :=
  m.map (fun kv => (kv.1, pre mrg files bad kv.2))

theorem find_preMap (mrg : β → β → β) (files : AL (AL (XSvc β))) (bad : String) (m : AL (XS β)) (k : String) :
    find k (preMap mrg files bad m) = (find k m).map (pre mrg files bad) :=
  find_map_entries (fun _ e => pre mrg files bad e) m k

theorem put_preMap (mrg : β → β → β) (files : AL (AL (XSvc β))) (bad : String) (k : String) (e : XS β) (m : AL (XS β)) :
    preMap mrg files bad (put k e m) = put k (pre mrg files bad e) (preMap mrg files bad m) :=
  put_map (pre mrg files bad) k e m

theorem applyOneX_none (mrg : β → β → β) (files : AL (AL (XSvc β))) {n : Nat} {m : AL (XS β)} {name : String}
    (h : find name m = none) : applyOneX mrg files n m name = none := by
  cases n <;> simp only [applyOneX, h]

theorem applyOneX_find (mrg : β → β → β) (files : AL (AL (XSvc β))) {n : Nat} {m m' : AL (XS β)} {name : String} {r : β}
    (h : applyOneX mrg files n m name = some (m', r)) : (find name m).isSome = true := by
  cases hf : find name m with
  | none => rw [applyOneX_none mrg files hf] at h; cases h
  | some _ => rfl

def Sim (mrg : β → β → β) (files : AL (AL (XSvc β))) (bad : String) :
    Option (AL (XS β) × β) → Option (AL (XSvc β) × β) → Prop
  | none, none => True
  | some (m', r), some (m'', r') => r = r' ∧ m'' = preMap mrg files bad m' ∧ find bad m' = none
  | _, _ => False

theorem Sim.cases {mrg : β → β → β} {files : AL (AL (XSvc β))} {bad : String} {x : Option (AL (XS β) × β)}
    {y : Option (AL (XSvc β) × β)} (h : Sim mrg files bad x y) :
    (x = none ∧ y = none) ∨ ∃ m' r, x = some (m', r) ∧ y = some (preMap mrg files bad m', r) ∧ find bad m' = none := by
  match x, y, h with
  | none, none, _ => exact .inl ⟨rfl, rfl⟩
  | some (m', r), some (_, _), ⟨h1, h2, h3⟩ => subst h1; subst h2; exact .inr ⟨m', r, rfl, rfl, h3⟩

theorem applyOneX_sim (mrg : β → β → β) (files : AL (AL (XSvc β))) (bad : String) :
    ∀ (n : Nat) (m : AL (XS β)) (name : String), find bad m = none →
      Sim mrg files bad (applyOneX mrg files n m name) (applyOne mrg n (preMap mrg files bad m) name) := by
  intro n
  induction n with
  | zero => intro m name _; simp only [applyOneX, applyOne, Sim]
  | succ n ih =>
    intro m name hb
    simp only [applyOneX, applyOne, find_preMap]
    cases hf : find name m with
    | none => simp only [Option.map_none, Sim]
    | some e =>
      obtain ⟨r, b⟩ := e
      have hne : name ≠ bad := by intro e; rw [e, hb] at hf; cases hf
      cases r with
      | none => simp only [Option.map_some, pre, Sim]; exact ⟨trivial, trivial, hb⟩
      | same ref =>
        simp only [Option.map_some, pre]
        rcases (ih m ref hb).cases with ⟨hx, hp⟩ | ⟨m1, base, hx, hp, h3⟩ <;> rw [hx, hp]
        · trivial
        · exact ⟨rfl, by rw [put_preMap]; rfl, by rw [find_put_ne (Ne.symm hne)]; exact h3⟩
      | file f ref =>
        simp only [Option.map_some, pre]
        cases hfb : fileBase mrg files f ref with
        | some base => simp only [Sim]; exact ⟨trivial, trivial, hb⟩
        | none =>
          simp only []
          cases n with
          | zero => simp only [applyOne, Sim]
          | succ k =>
            simp only [applyOne, find_preMap, hb, Option.map_none, Sim]

theorem applyAllX_sim (mrg : β → β → β) (files : AL (AL (XSvc β))) (bad : String) (n : Nat) :
    ∀ (order : List String) (m : AL (XS β)), find bad m = none →
      (applyAllX mrg files n order m).map (preMap mrg files bad) = applyAll mrg n order (preMap mrg files bad m) := by
  intro order
  induction order with
  | nil => intro m _; rfl
  | cons name r ih =>
    intro m hb
    simp only [applyAllX, applyAll]
    rcases (applyOneX_sim mrg files bad n m name hb).cases with ⟨hx, hp⟩ | ⟨m1, b, hx, hp, h3⟩ <;> rw [hx, hp]
    · rfl
    · have hne : name ≠ bad := fun e => by
        have := applyOneX_find mrg files hx; rw [e, hb] at this; cases this
      have := ih (put name (.none, b) m1) (by rw [find_put_ne (Ne.symm hne)]; exact h3)
      simp only []
      rw [this, put_preMap]; rfl

def Tagged (m : AL (XS β)) (x : String) : Prop := ∃ b, find x m = some (.none, b)

theorem tagged_put (m : AL (XS β)) (name x : String) (b : β) (h : Tagged m x ∨ x = name) : Tagged (put name (.none, b) m) x := by
  by_cases e : x = name
  · subst e; exact ⟨b, find_put_self _ _ _⟩
  · rcases h with ⟨b', hb'⟩ | h
    · exact ⟨b', by rw [find_put_ne e]; exact hb'⟩
    · exact (e h).elim

theorem applyOneX_tagged (mrg : β → β → β) (files : AL (AL (XSvc β))) :
    ∀ (n : Nat) (m m' : AL (XS β)) (name : String) (r : β), applyOneX mrg files n m name = some (m', r) →
      ∀ x, Tagged m x → Tagged m' x := by
  intro n
  induction n with
  | zero => intro m m' name r h; cases h
  | succ n ih =>
    intro m m' name r h x hx
    rw [applyOneX] at h
    split at h
    · cases h
    · cases h; exact hx
    · split at h
      · cases h
      · next h1 => cases h; exact tagged_put _ _ _ _ (.inl (ih _ _ _ _ h1 x hx))
    · split at h
      · cases h
      · cases h; exact hx

theorem applyAllX_tagged (mrg : β → β → β) (files : AL (AL (XSvc β))) (n : Nat) :
    ∀ (order : List String) (m mf : AL (XS β)), applyAllX mrg files n order m = some mf →
      ∀ x, (Tagged m x ∨ x ∈ order) → Tagged mf x := by
  intro order
  induction order with
  | nil => intro m mf h x hx; simp only [applyAllX, Option.some.injEq] at h; subst h; rcases hx with h | h; exact h; cases h
  | cons name r ih =>
    intro m mf h x hx
    simp only [applyAllX] at h
    cases h1 : applyOneX mrg files n m name with
    | none => rw [h1] at h; cases h
    | some q =>
      obtain ⟨m1, b⟩ := q
      rw [h1] at h
      apply ih _ _ h x
      rcases hx with hx | hx
      · exact .inl (tagged_put _ _ _ _ (.inl (applyOneX_tagged mrg files n m m1 name b h1 x hx)))
      · rcases List.mem_cons.mp hx with e | e
        · exact .inl (tagged_put _ _ _ _ (.inr e))
        · exact .inr e

end CV.Det.ExtX
