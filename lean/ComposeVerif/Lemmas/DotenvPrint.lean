import ComposeVerif.Spec.DotenvPrint
import ComposeVerif.Lemmas.DotenvValue
import ComposeVerif.Lemmas.DotenvClasses
import ComposeVerif.Lemmas.TemplateRun
/-!
# Lemmas for the canonical printer (C18): the canonical value means itself, canonical lines are well-formed and evaluate to
the map they print
-/
namespace CV.Dotenv
open CV CV.Template

theorem dqEnc_eq : ∀ s : Str, dqEnc s = dqEncode s
  | [] => rfl
  | c :: s => by rw [dqEnc, dqEncode, dqEnc_eq s]

theorem canon_value_eval (env : Env) (v : Str) : (Value.dq (dqEnc (escapeDollars v))).eval env = .ok v := by
  rw [Value.eval, dqEnc_eq, expandEscapes_dqEncode]; rw [subst_eq_run]; exact run_escapeDollars env v

theorem canonLine_wf (kv : Str × Str) (h : validKey kv.1 = true) : (canonLine kv).wf = true := by
  simp only [canonLine, Line.wf, nbAll, List.all_nil, expOk, h, Value.wf, cmtOk, Bool.and_true, Bool.true_and]
  rw [dqEnc_eq]; exact dqEncode_wf _

theorem canon_WF : ∀ m : Map, (∀ kv ∈ m, validKey kv.1 = true) → WF (m.map canonLine) = true
  | [], _ => rfl
  | kv :: m, h => by
    simp only [WF, List.map_cons, List.all_cons, Bool.and_eq_true]
    exact ⟨canonLine_wf kv (h kv (by simp)), canon_WF m (fun x hx => h x (by simp [hx]))⟩

theorem evalFrom_canon (lookup : Env) : ∀ (m acc : Map), evalFrom lookup (m.map canonLine) acc = .ok (mergeInto acc m)
  | [], _ => rfl
  | (k, v) :: m, acc => by
    rw [List.map_cons, canonLine, evalFrom, canon_value_eval]
    exact evalFrom_canon lookup m _

theorem mergeInto_nil (m : Map) (h : (m.map Prod.fst).Nodup) : mergeInto [] m = m := by
  rw [mergeInto_eq, Assoc.insertAll_append h (fun _ _ hk => by cases hk)]; rfl

end CV.Dotenv
