import ComposeVerif.Model.Trav
import ComposeVerif.Lemmas.DepGraph
/-!
# `t.skip`: with roots, exactly the roots and the services that transitively depend on one are visited
-/
namespace CV.Trav
open CV.DepGraph (Reaches)

theorem mem_descendents (deps : V → List V) :
    ∀ (f : Nat) (v r : V), r ∈ descendents deps f v ↔ ∃ n, n ≤ f ∧ Reaches deps n v r := by
  intro f
  induction f with
  | zero =>
    intro v r
    simp only [descendents, List.not_mem_nil, false_iff]
    rintro ⟨n, hn, h⟩
    have := h.pos
    omega
  | succ f ih =>
    intro v r
    simp only [descendents, List.mem_flatMap, List.mem_cons]
    constructor
    · rintro ⟨c, hc, rfl | hr⟩
      · exact ⟨1, by omega, .one hc⟩
      · obtain ⟨n, hn, h⟩ := (ih c r).mp hr
        exact ⟨n + 1, by omega, .step hc h⟩
    · rintro ⟨n, hn, h⟩
      cases h with
      | one hb => exact ⟨r, hb, .inl rfl⟩
      | @step n' _ c _ hc hr => exact ⟨c, hc, .inr ((ih c r).mpr ⟨n', by omega, hr⟩)⟩

/-- `t.skip` lets a service through iff there are no roots, or it is a root, or it depends on a
root through at most `fuel` edges (`TravProj.graphOf` runs it with `fuel` = number of services) -/
theorem skipOf_false_iff (deps : V → List V) (fuel : Nat) (after : List V) (v : V) :
    skipOf deps fuel after v = false ↔
      after = [] ∨ v ∈ after ∨ ∃ r ∈ after, ∃ n, n ≤ fuel ∧ Reaches deps n v r := by
  unfold skipOf
  cases after with
  | nil => simp
  | cons a rest =>
    simp only [List.isEmpty_cons, Bool.false_eq_true, if_false]
    by_cases hv : v ∈ a :: rest
    · simp [hv]
    · have hc : (a :: rest).contains v = false := by simpa using hv
      simp only [hc, Bool.false_eq_true, if_false, Bool.not_eq_false', List.any_eq_true, reduceCtorEq, false_or, hv]
      constructor
      · rintro ⟨r, hr, hm⟩
        exact ⟨r, hr, (mem_descendents deps fuel v r).mp (by simpa using hm)⟩
      · rintro ⟨r, hr, hn⟩
        exact ⟨r, hr, by simpa using (mem_descendents deps fuel v r).mpr hn⟩

/-- on a graph whose rank function stays below the fuel the bound on the number of edges is immaterial -/
theorem reaches_le_rank {deps : V → List V} {rk : V → Nat} (hrk : ∀ v c, c ∈ deps v → rk c < rk v)
    {n : Nat} {a b : V} (h : Reaches deps n a b) : n ≤ rk a :=
  Nat.le_trans (Nat.le_add_left ..) (h.rank_add_le (S := fun _ => True) (fun _ _ _ _ => trivial) (fun v _ => hrk v) trivial)

end CV.Trav
