import ComposeVerif.Model.UnicityLoop
import ComposeVerif.Lemmas.Unicity
/-! The loop of `enforceUnicity` as written (`seq`, `keys : string → position in seq`) refines `foldl insert []`:
representation invariant `Rep` and its preservation by one iteration.  A key that has a position cuts the list at its
first entry (`cut_of_pos`); what `insert` does to positions is read off that cut (`Assoc.insert_middle`). -/
namespace CV.Unicity
open CV CV.Val CV.Merge

/-- position of the (first) entry with key `k` -/
def pos (k : String) : KVs → Option Nat
  | [] => none
  | (k', _) :: r => if k = k' then some 0 else (pos k r).map (· + 1)

/-- the loop variables *represent* the association list `acc`: `seq` holds its values in order and `keys` maps every
key to its position in `seq` (and nothing else) -/
def Rep (acc : KVs) (st : LoopSt) : Prop :=
  st.seq = acc.map Prod.snd ∧ ∀ k, idxLookup k st.keys = pos k acc

theorem rep_empty : Rep [] LoopSt.empty := ⟨rfl, fun _ => rfl⟩

theorem pos_eq_none_iff {k : String} : ∀ {acc : KVs}, pos k acc = none ↔ k ∉ keys acc
  | [] => by simp [pos, keys]
  | (k', _) :: tl => by
    simp only [pos, keys, List.map_cons, List.mem_cons, not_or]
    by_cases hk : k = k'
    · simp [hk]
    · simp only [hk, if_false, Option.map_eq_none_iff, not_false_eq_true, true_and]; exact pos_eq_none_iff

theorem pos_middle {k : String} (w : Val) : ∀ {l₁ : KVs} (l₂ : KVs), k ∉ keys l₁ → pos k (l₁ ++ (k, w) :: l₂) = some l₁.length
  | [], _, _ => by simp [pos]
  | (k', _) :: tl, l₂, h => by
    simp only [keys, List.map_cons, List.mem_cons, not_or] at h
    simp only [List.cons_append, pos, h.1, if_false, pos_middle w l₂ h.2, Option.map_some, List.length_cons]

theorem pos_congr (k : String) : ∀ {a b : KVs}, keys a = keys b → pos k a = pos k b
  | [], [], _ => rfl
  | [], _ :: _, h | _ :: _, [], h => by simp [keys] at h
  | (ka, _) :: ta, (kb, _) :: tb, h => by
    simp only [keys, List.map_cons, List.cons.injEq] at h
    simp only [pos, h.1, pos_congr k (a := ta) (b := tb) h.2]

theorem cut_of_pos {k : String} {m : KVs} {j : Nat} (h : pos k m = some j) :
    ∃ l₁ w l₂, m = l₁ ++ (k, w) :: l₂ ∧ k ∉ keys l₁ ∧ j = l₁.length := by
  have hm : k ∈ keys m := Decidable.not_not.mp fun hn => by rw [pos_eq_none_iff.mpr hn] at h; cases h
  obtain ⟨l₁, w, l₂, rfl, hn, _⟩ := Assoc.insert_of_mem (v := Val.null) hm
  rw [pos_middle w l₂ hn] at h
  exact ⟨l₁, w, l₂, rfl, hn, by cases h; rfl⟩

theorem loopStep_rep {acc : KVs} {st : LoopSt} (h : Rep acc st) (i : Nat) (k : String) (x : Val) :
    ∃ st', loopStep .outLen st i k x = some st' ∧ Rep (insert k x acc) st' := by
  obtain ⟨hs, hk⟩ := h
  unfold loopStep
  rw [hk k]
  cases hp : pos k acc with
  | none =>
    have hm := pos_eq_none_iff.mp hp
    rw [insert_of_not_mem hm]
    refine ⟨_, rfl, by simp [hs], fun k' => ?_⟩
    simp only [idxLookup, Slot.value, hs, List.length_append, List.length_map, List.length_cons, List.length_nil,
      Nat.add_sub_cancel, hk k']
    by_cases hkk : k' = k
    · subst hkk; rw [if_pos rfl, pos_middle x [] hm]
    · rw [if_neg hkk]
      cases hq : pos k' acc with
      | none =>
        refine (pos_eq_none_iff.mpr ?_).symm
        simpa [keys, hkk] using pos_eq_none_iff.mp hq
      | some j' =>
        obtain ⟨l₁, w, l₂, rfl, hn, rfl⟩ := cut_of_pos hq
        rw [List.append_assoc, List.cons_append, pos_middle w _ hn]
  | some j =>
    -- `acc = l₁ ++ (k, w) :: l₂`, overwritten in place: the keys, hence all positions, stay
    obtain ⟨l₁, w, l₂, rfl, hn, rfl⟩ := cut_of_pos hp
    rw [insert_eq, Assoc.insert_middle x w l₂ hn]
    have hj : l₁.length < st.seq.length := by simp [hs]
    simp only [hj, if_true]
    refine ⟨_, rfl, by simp [hs], fun k' => ?_⟩
    rw [hk k']; exact pos_congr k' (by simp [keys])

theorem pos_some_lookup {k : String} {m : KVs} {j : Nat} (h : pos k m = some j) : (m.map Prod.snd)[j]? = lookup k m := by
  obtain ⟨l₁, w, l₂, rfl, hn, rfl⟩ := cut_of_pos h
  rw [lookup_append_right _ (lookup_eq_none.mpr hn), lookup_cons_self]
  simp

theorem pos_lt {k : String} {acc : KVs} {j : Nat} (h : pos k acc = some j) : j < acc.length := by
  obtain ⟨l₁, w, l₂, rfl, _, rfl⟩ := cut_of_pos h
  simp

theorem loopRun_rep : ∀ (l : List (String × Val)) (i : Nat) (acc : KVs) (st : LoopSt), Rep acc st →
    ∃ st', loopRun .outLen l i st = some st' ∧ Rep (l.foldl step acc) st' := by
  intro l
  induction l with
  | nil => intro i acc st h; exact ⟨st, rfl, h⟩
  | cons hd tl ih =>
    obtain ⟨k, x⟩ := hd
    intro i acc st h
    obtain ⟨st1, h1, r1⟩ := loopStep_rep h i k x
    obtain ⟨st2, h2, r2⟩ := ih (i + 1) (insert k x acc) st1 r1
    exact ⟨st2, by simp only [loopRun, h1, h2], by simpa only [List.foldl_cons, step] using r2⟩

theorem loopGo_rep (ix : Indexer) : ∀ (xs : List Val) (i : Nat) (acc : KVs) (st : LoopSt), Rep acc st →
    loopGo .outLen ix xs i st =
      (indexAll ix xs).bind fun ks => .ok (((ks.zip xs).foldl step acc).map Prod.snd) := by
  intro xs
  induction xs with
  | nil => intro i acc st h; simp [loopGo, indexAll, Out.bind, h.1]
  | cons x r ih =>
    intro i acc st h
    simp only [loopGo, indexAll]
    cases hx : index ix x with
    | ok key =>
      obtain ⟨st1, h1, r1⟩ := loopStep_rep h i key x
      simp only [h1, Out.bind, ih (i + 1) _ st1 r1]
      cases indexAll ix r with
      | ok ks => simp [step]
      | err e => rfl
      | panic s => rfl
    | err e => rfl
    | panic s => rfl

end CV.Unicity
