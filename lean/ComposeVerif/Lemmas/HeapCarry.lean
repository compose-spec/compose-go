import ComposeVerif.Lemmas.Heap
import ComposeVerif.Spec.HeapCarry
/-! C14, the carry clause: field access commutes with `erase` (`erase_getFld`), with a write (`kidOf_writeKids`), and hence
with writes that keep the field (`Keeps.carries`) -/
namespace CV.Heap

theorem kidOf_eraseKids (k : Key) : ∀ ks : List (Key × GoVal), kidOf k (eraseKids ks) = (kidOf k ks).map erase
  | [] => by simp [eraseKids, kidOf]
  | (j, w) :: r => by
    simp only [eraseKids, kidOf]
    split
    · simp
    · exact kidOf_eraseKids k r

theorem erase_getFld (f : Nat) (v : GoVal) : erase (getFld f v) = getFld f (erase v) := by
  cases v with
  | struct ks =>
    simp only [getFld, erase, kidOf_eraseKids]
    cases kidOf (.fld f) ks <;> simp [erase]
  | ptr b w =>
    cases w with
    | struct ks =>
      simp only [getFld, erase, kidOf_eraseKids]
      cases kidOf (.fld f) ks <;> simp [erase]
    | _ => simp [getFld, erase]
  | _ => simp [getFld, erase]

theorem kidOf_writeKids (k : Key) (a : Nat) (c : Cell) : ∀ ks : List (Key × GoVal),
    kidOf k (writeKids a c ks) = (kidOf k ks).map (write a c)
  | [] => by simp [writeKids, kidOf]
  | (j, w) :: r => by
    simp only [writeKids, kidOf]
    split
    · simp
    · exact kidOf_writeKids k a c r

theorem Keeps.carries {a0 g : Nat} : ∀ {ws : List (Nat × Cell)} {ks : List (Key × GoVal)}, Keeps a0 g ws ks →
    getFld g (writes ws (.ptr a0 (.struct ks))) = getFld g (.ptr a0 (.struct ks)) := by
  intro ws ks h
  induction h with
  | nil ks => rfl
  | @other a cell r ks hne hnot _ ih =>
    have hw : write a cell (.ptr a0 (.struct ks)) = .ptr a0 (.struct (writeKids a cell ks)) := by
      simp only [write]
      rw [if_neg (fun h => hne h.symm)]
    simp only [writes, hw, ih]
    simp only [getFld, kidOf_writeKids]
    cases hk : kidOf (.fld g) ks with
    | none => rfl
    | some v =>
      simp only [hk, Option.getD_some] at hnot
      simp [write_not_mem v a cell hnot]
  | @root ks' r ks hk _ ih =>
    have hw : write a0 (.pointee (.struct ks')) (.ptr a0 (.struct ks)) = .ptr a0 (.struct ks') := by
      simp [write]
    simp only [writes, hw, ih]
    simp only [getFld, hk]

end CV.Heap
