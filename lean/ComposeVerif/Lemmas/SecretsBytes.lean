import ComposeVerif.Model.SecretsBytes
import ComposeVerif.Lemmas.SecretsRender
import ComposeVerif.Lemmas.ScanRun
/-!
C20, byte level: a word none of whose characters the encoder ever writes by itself (quotes, escapes, punctuation,
indentation, keywords, digits) occurs in the encoder's output only where it occurs in a key or string of the tree.
-/
namespace CV.Enc

/-- `o` is a rendering of `s` in which every source character is either copied, or replaced by a non-empty
word over the alphabet `A`, and where non-empty words over `A` may be inserted anywhere -/
inductive Rend (A : Char → Prop) : List Char → List Char → Prop
  | nil : Rend A [] []
  | copy (x : Char) {s o : List Char} : Rend A s o → Rend A (x :: s) (x :: o)
  | subst (x : Char) (w : List Char) {s o : List Char} : w ≠ [] → (∀ ch ∈ w, A ch) → Rend A s o → Rend A (x :: s) (w ++ o)
  | ins (w : List Char) {s o : List Char} : w ≠ [] → (∀ ch ∈ w, A ch) → Rend A s o → Rend A s (w ++ o)

theorem eq_nil_of_prefix_word {A : Char → Prop} {c w o : List Char} (hc : ∀ ch ∈ c, ¬ A ch) (hw : w ≠ [])
    (hA : ∀ ch ∈ w, A ch) (hp : c <+: w ++ o) : c = [] := by
  cases c with
  | nil => rfl
  | cons y c' =>
    cases w with
    | nil => exact absurd rfl hw
    | cons z w' =>
      obtain ⟨rfl, _⟩ := List.cons_prefix_cons.1 hp
      exact absurd (hA _ List.mem_cons_self) (hc _ List.mem_cons_self)

theorem infix_of_infix_word {A : Char → Prop} {c : List Char} (hne : c ≠ []) (hc : ∀ ch ∈ c, ¬ A ch) :
    ∀ (w : List Char), (∀ ch ∈ w, A ch) → ∀ {o : List Char}, c <:+: w ++ o → c <:+: o
  | [], _, _, h => h
  | z :: w', hA, _, h => by
    rcases List.infix_cons_iff.1 h with hp | h'
    · exact absurd (eq_nil_of_prefix_word (w := z :: w') hc (List.cons_ne_nil _ _) hA hp) hne
    · exact infix_of_infix_word hne hc w' (fun ch h => hA ch (List.mem_cons_of_mem _ h)) h'

theorem prefix_of_rend {A : Char → Prop} {c : List Char} (hc : ∀ ch ∈ c, ¬ A ch) :
    ∀ {s o : List Char}, Rend A s o → c <+: o → c <+: s := by
  intro s o h
  induction h generalizing c with
  | nil => exact id
  | copy x _ ih =>
    intro hp
    cases c with
    | nil => exact List.nil_prefix
    | cons y c' =>
      obtain ⟨rfl, hp'⟩ := List.cons_prefix_cons.1 hp
      exact List.cons_prefix_cons.2 ⟨rfl, ih (fun ch h => hc ch (List.mem_cons_of_mem _ h)) hp'⟩
  | subst x w hw hA _ _ => intro hp; rw [eq_nil_of_prefix_word hc hw hA hp]; exact List.nil_prefix
  | ins w hw hA _ _ => intro hp; rw [eq_nil_of_prefix_word hc hw hA hp]; exact List.nil_prefix

theorem Rend.insA {A : Char → Prop} (w : List Char) (hA : ∀ ch ∈ w, A ch) {s o : List Char} (h : Rend A s o) : Rend A s (w ++ o) := by
  cases w with
  | nil => simpa using h
  | cons z w' => exact Rend.ins (z :: w') (by simp) hA h

theorem Rend.append {A : Char → Prop} {s1 o1 : List Char} (h1 : Rend A s1 o1) :
    ∀ {s2 o2 : List Char}, Rend A s2 o2 → Rend A (s1 ++ s2) (o1 ++ o2) := by
  induction h1 with
  | nil => intro s2 o2 h2; simpa using h2
  | copy x _ ih => intro s2 o2 h2; exact Rend.copy x (ih h2)
  | subst x w hw hA _ ih => intro s2 o2 h2; rw [List.cons_append, List.append_assoc]; exact Rend.subst x w hw hA (ih h2)
  | ins w hw hA _ ih => intro s2 o2 h2; rw [List.append_assoc]; exact Rend.ins w hw hA (ih h2)

theorem Rend.word {A : Char → Prop} (w : List Char) (hA : ∀ ch ∈ w, A ch) : Rend A [] w := by
  have := Rend.insA w hA (Rend.nil (A := A))
  simpa using this

/-- what may stand for the source character `ch` in a rendering: the character itself, or a non-empty word over `A` -/
def EscOk (A : Char → Prop) (ch : Char) (w : List Char) : Prop := w = [ch] ∨ (w ≠ [] ∧ ∀ x ∈ w, A x)

theorem EscOk.ite {A : Char → Prop} {ch : Char} {c : Prop} [Decidable c] {a b : List Char} (ha : EscOk A ch a)
    (hb : EscOk A ch b) : EscOk A ch (if c then a else b) := by
  split <;> assumption

theorem EscOk.word {A : Char → Prop} {ch : Char} {w : List Char} (hw : w ≠ []) (hA : ∀ x ∈ w, A x) : EscOk A ch w :=
  .inr ⟨hw, hA⟩

theorem Rend.flatMap {A : Char → Prop} {f : Char → List Char} (hf : ∀ ch, EscOk A ch (f ch)) :
    ∀ s : List Char, Rend A s (s.flatMap f)
  | [] => Rend.nil
  | x :: s => by
    rw [List.flatMap_cons]
    rcases hf x with h | ⟨hne, hA⟩
    · rw [h]; exact Rend.copy x (Rend.flatMap hf s)
    · exact Rend.subst x _ hne hA (Rend.flatMap hf s)

end CV.Enc

namespace CV.Bytes
open CV CV.Enc CV.Secrets

def JA (ch : Char) : Prop := ch ∈ jsonAlphabet

instance : DecidablePred JA := fun ch => by unfold JA; infer_instance

theorem hexDigit_JA (n : Nat) : JA (hexDigit n) := by
  unfold hexDigit
  split <;> decide

theorem uEscape_JA (n : Nat) : ∀ ch ∈ uEscape n, JA ch := by
  simp only [uEscape, List.forall_mem_cons, hexDigit_JA]
  decide

/-- no branch of `jsonEscChar` needs its test: each value is `[ch]` or a non-empty word over the alphabet -/
theorem jsonEscChar_ok (ch : Char) : EscOk JA ch (jsonEscChar ch) :=
  have esc (c : Char) (hc : JA c) : EscOk JA ch ['\\', c] :=
    .word (List.cons_ne_nil _ _) (List.forall_mem_cons.2 ⟨by decide, List.forall_mem_cons.2 ⟨hc, nofun⟩⟩)
  .ite (esc '"' (by decide)) <| .ite (esc '\\' (by decide)) <| .ite (esc 'n' (by decide)) <|
  .ite (esc 'r' (by decide)) <| .ite (esc 't' (by decide)) <| .ite (esc 'b' (by decide)) <| .ite (esc 'f' (by decide)) <|
  .ite (.word (List.cons_ne_nil _ _) (uEscape_JA _)) (.inl rfl)

theorem rend_jsonString (s : List Char) : Rend JA ('"' :: s) (jsonString s) := by
  have h := (Rend.flatMap jsonEscChar_ok s).append (Rend.word ['"'] (by decide))
  rw [List.append_nil] at h
  exact Rend.copy '"' h

mutual
def strs : Val → List String
  | .str s => [s]
  | .seq xs => strsL xs
  | .map kvs => strsKV kvs
  | .null => []
  | .bool _ => []
  | .int _ => []
  | .float _ => []
def strsL : List Val → List String
  | [] => []
  | x :: xs => strs x ++ strsL xs
def strsKV : List (String × Val) → List String
  | [] => []
  | (k, v) :: r => k :: (strs v ++ strsKV r)
end

mutual
/-- numbers are written with characters of the alphabet only (true of what Go's formatters produce) -/
def NumOk : Val → Prop
  | .int i => ∀ ch ∈ (toString i).toList, JA ch
  | .float r => ∀ ch ∈ r.toList, JA ch
  | .seq xs => NumOkL xs
  | .map kvs => NumOkKV kvs
  | .str _ => True
  | .null => True
  | .bool _ => True
def NumOkL : List Val → Prop
  | [] => True
  | x :: xs => NumOk x ∧ NumOkL xs
def NumOkKV : List (String × Val) → Prop
  | [] => True
  | (_, v) :: r => NumOk v ∧ NumOkKV r
end

/-- the source the rendering is compared with: every key / string, each preceded by a quote -/
def srcOf (l : List String) : List Char := l.flatMap fun s => '"' :: s.toList

theorem srcOf_append (a b : List String) : srcOf (a ++ b) = srcOf a ++ srcOf b := by simp [srcOf]

theorem indent_JA : ∀ d ch, ch ∈ indent d → JA ch
  | 0, _, h => by simp [indent] at h
  | d + 1, ch, h => by
    simp only [indent, List.mem_cons] at h
    rcases h with rfl | rfl | h
    · decide
    · decide
    · exact indent_JA d ch h

theorem newline_JA (d : Nat) : ∀ ch ∈ newline d, JA ch := by
  intro ch h
  simp only [newline, List.mem_cons] at h
  rcases h with rfl | h
  · decide
  · exact indent_JA d ch h

theorem cons_newline_JA {c : Char} (hc : JA c) (d : Nat) : ∀ ch ∈ c :: newline d, JA ch :=
  List.forall_mem_cons.2 ⟨hc, newline_JA d⟩

theorem newline_snoc_JA (d : Nat) {c : Char} (hc : JA c) : ∀ ch ∈ newline d ++ [c], JA ch := by
  intro ch h
  rcases List.mem_append.1 h with h | h
  · exact newline_JA d ch h
  · rw [List.mem_singleton.1 h]; exact hc

theorem rend_key (k : String) : Rend JA ('"' :: k.toList) (jsonString k.toList ++ [':', ' ']) := by
  simpa using (rend_jsonString k.toList).append (Rend.word [':', ' '] (by decide))

theorem srcOf_cons (k : String) (l : List String) : srcOf (k :: l) = '"' :: (k.toList ++ srcOf l) := by simp [srcOf]

mutual
theorem rend_json : ∀ (d : Nat) (v : Val), NumOk v → Rend JA (srcOf (strs v)) (jsonRender d v)
  | _, .null, _ => Rend.word "null".toList (by decide)
  | _, .bool true, _ => Rend.word "true".toList (by decide)
  | _, .bool false, _ => Rend.word "false".toList (by decide)
  | _, .int i, h => Rend.word (toString i).toList h
  | _, .float r, h => Rend.word r.toList h
  | _, .str s, _ => by simpa [strs, srcOf, jsonRender] using rend_jsonString s.toList
  | _, .seq [], _ => Rend.word ['[', ']'] (by decide)
  | d, .seq (x :: xs), h => by
    have h3 := (((rend_json (d + 1) x h.1).append (rend_jsonSeqTail (d + 1) xs h.2)).append
      (Rend.word _ (newline_snoc_JA d (c := ']') (by decide)))).insA _ (cons_newline_JA (c := '[') (by decide) (d + 1))
    simpa [strs, strsL, srcOf_append, jsonRender, List.append_assoc] using h3
  | _, .map [], _ => Rend.word ['{', '}'] (by decide)
  | d, .map ((k, v) :: r), h => by
    have h3 := ((((rend_key k).append (rend_json (d + 1) v h.1)).append (rend_jsonMapTail (d + 1) r h.2)).append
      (Rend.word _ (newline_snoc_JA d (c := '}') (by decide)))).insA _ (cons_newline_JA (c := '{') (by decide) (d + 1))
    simpa [strs, strsKV, srcOf_cons, srcOf_append, jsonRender, List.append_assoc] using h3
theorem rend_jsonSeqTail : ∀ (d : Nat) (xs : List Val), NumOkL xs → Rend JA (srcOf (strsL xs)) (jsonSeqTail d xs)
  | _, [], _ => Rend.nil
  | d, x :: xs, h => by
    have h3 := ((rend_json d x h.1).append (rend_jsonSeqTail d xs h.2)).insA _ (cons_newline_JA (c := ',') (by decide) d)
    simpa [strsL, srcOf_append, jsonSeqTail, List.append_assoc] using h3
theorem rend_jsonMapTail : ∀ (d : Nat) (r : List (String × Val)), NumOkKV r → Rend JA (srcOf (strsKV r)) (jsonMapTail d r)
  | _, [], _ => Rend.nil
  | d, (k, v) :: r, h => by
    have h3 := (((rend_key k).append (rend_json d v h.1)).append (rend_jsonMapTail d r h.2)).insA _
      (cons_newline_JA (c := ',') (by decide) d)
    simpa [strsKV, srcOf_cons, srcOf_append, jsonMapTail, List.append_assoc] using h3
end

theorem prefix_of_prefix_sep {q : Char} {c a b : List Char} (hq : q ∉ c) (h : c <+: a ++ q :: b) : c <+: a :=
  (Scan.prefix_append_cases h).resolve_right fun ⟨_, hx, hm⟩ => hq (Option.some.inj hx ▸ hm)

theorem infix_of_infix_sep {q : Char} {c : List Char} (hq : q ∉ c) :
    ∀ {a b : List Char}, c <:+: a ++ q :: b → c <:+: a ∨ c <:+: b
  | [], _, h => by
    rcases List.infix_cons_iff.1 h with hp | hi
    · exact .inl (prefix_of_prefix_sep (a := []) hq hp).isInfix
    · exact .inr hi
  | x :: a, b, h => by
    rcases List.infix_cons_iff.1 h with hp | hi
    · exact .inl (prefix_of_prefix_sep (a := x :: a) hq hp).isInfix
    · exact (infix_of_infix_sep hq hi).imp (fun h => List.infix_cons_iff.2 (.inr h)) id

theorem infix_srcOf {c : List Char} (hne : c ≠ []) (hq : '"' ∉ c) :
    ∀ l : List String, c <:+: srcOf l → ∃ s ∈ l, c <:+: s.toList
  | [], h => absurd (List.infix_nil.1 h) hne
  | s :: l, h => by
    rw [srcOf_cons] at h
    rcases infix_of_infix_sep (a := []) hq h with h0 | h1
    · exact absurd (List.infix_nil.1 h0) hne
    · have h2 : c <:+: s.toList ∨ c <:+: srcOf l := by
        cases l with
        | nil => exact .inl (by simpa [srcOf] using h1)
        | cons t l' =>
          rw [srcOf_cons] at h1 ⊢
          exact (infix_of_infix_sep hq h1).imp id (fun h => List.infix_cons_iff.2 (.inr h))
      rcases h2 with h2 | h2
      · exact ⟨s, List.mem_cons_self, h2⟩
      · obtain ⟨t, ht, hc⟩ := infix_srcOf hne hq l h2
        exact ⟨t, List.mem_cons_of_mem _ ht, hc⟩

theorem AllStr_strs₃ {P : String → Prop} : (∀ (v : Val), AllStr P v → ∀ s ∈ strs v, P s) ∧
    (∀ (kvs : List (String × Val)), AllStrKV P kvs → ∀ s ∈ strsKV kvs, P s) ∧
    (∀ (xs : List Val), AllStrL P xs → ∀ s ∈ strsL xs, P s) := by
  apply Val.induct₃
  case null | bool | int | float => intros; simp [strs] at *
  case str => intro s h; simpa [strs, AllStr] using h
  case seq | map => intro _ ih h; simp only [strs]; exact ih (by simpa [AllStr] using h)
  case nil | nil' => intros; simp [strsKV, strsL] at *
  case cons =>
    intro k v r ihv ihr h s hs
    simp only [AllStrKV] at h
    simp only [strsKV, List.mem_cons, List.mem_append] at hs
    rcases hs with rfl | hs | hs
    · exact h.1
    · exact ihv h.2.1 s hs
    · exact ihr h.2.2 s hs
  case cons' =>
    intro x xs ihx ihxs h s hs
    simp only [AllStrL] at h
    simp only [strsL, List.mem_append] at hs
    exact hs.elim (ihx h.1 s) (ihxs h.2 s)

theorem AllStr_strs {P : String → Prop} : ∀ (v : Val), AllStr P v → ∀ s ∈ strs v, P s := AllStr_strs₃.1
theorem AllStr_strsKV {P : String → Prop} : ∀ (kvs : List (String × Val)), AllStrKV P kvs → ∀ s ∈ strsKV kvs, P s :=
  AllStr_strs₃.2.1

-- as for `AllStrKV` in `Lemmas/Secrets.lean`: `fields` opaque, or every `exact` has `whnf` unfold its nine appends
attribute [local irreducible] optStr optBool optStrMap FileObj.fields

theorem NumOkKV_append : ∀ {a b : List (String × Val)}, NumOkKV a → NumOkKV b → NumOkKV (a ++ b)
  | [], _, _, hb => by simpa using hb
  | (k, v) :: r, b, ha, hb => by
    simp only [NumOkKV] at ha
    simp only [List.cons_append, NumOkKV]
    exact ⟨ha.1, NumOkKV_append ha.2 hb⟩

theorem NumOkKV_strMap : ∀ m : List (String × String), NumOkKV (m.map fun kv => (kv.1, Val.str kv.2))
  | [] => by simp [NumOkKV]
  | (k, v) :: r => by simp only [List.map, NumOkKV, NumOk]; exact ⟨trivial, NumOkKV_strMap r⟩

theorem NumOkKV_fields (o : FileObj) : NumOkKV o.fields := by
  unfold FileObj.fields
  have hs : ∀ k s, NumOkKV (optStr k s) := by intro k s; unfold optStr; split <;> simp [NumOkKV, NumOk]
  have hb : ∀ k b, NumOkKV (optBool k b) := by intro k b; unfold optBool; split <;> simp [NumOkKV, NumOk]
  have hm : ∀ k m, NumOkKV (optStrMap k m) := by
    intro k m; unfold optStrMap; split
    · simp [NumOkKV]
    · simp only [NumOkKV, NumOk]; exact ⟨NumOkKV_strMap m, trivial⟩
  exact NumOkKV_append (NumOkKV_append (NumOkKV_append (NumOkKV_append (NumOkKV_append (NumOkKV_append
    (NumOkKV_append (NumOkKV_append (hs _ _) (hs _ _)) (hs _ _)) (hs _ _)) (hb _ _)) (hm _ _)) (hs _ _)) (hm _ _)) (hs _ _)

theorem NumOkKV_mapVals_json (f : FileObj → FileObj) : ∀ l : List (String × FileObj),
    NumOkKV (mapVals (fun o => (f o).toJson) l)
  | [] => by simp [mapVals, NumOkKV]
  | (n, o) :: r => by
    simp only [mapVals, List.map, NumOkKV, FileObj.toJson, NumOk]
    exact ⟨NumOkKV_fields _, NumOkKV_mapVals_json f r⟩

theorem NumOk_render_json (b : Bool) (p : Proj) : NumOk (render .json b p) := by
  simp only [render, NumOk]
  have hsec : ∀ k m, NumOkKV m → NumOkKV (sectionKV k m) := by
    intro k m h; unfold sectionKV; split
    · simp [NumOkKV]
    · simp only [NumOkKV, NumOk]; exact ⟨h, trivial⟩
  exact NumOkKV_append (hsec _ _ (NumOkKV_mapVals_json secretBlank _)) (hsec _ _ (NumOkKV_mapVals_json configBlank _))

end CV.Bytes
