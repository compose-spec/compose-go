import ComposeVerif.Lemmas.C02Walk
import ComposeVerif.Lemmas.ShortTable
/-!
### `transform.Canonical` respects the equivalence at every nesting level (below `services`)

All leaf transformers of the regenerated table (`transformKeyValue`, `transformDependsOn` with `dependsMap`,
`transformEnvFile` with `envFileValue`, `transformServiceNetworks`, `transformPorts`, `transformSSH`, …) and the
recursive handlers (`transformService`, `transformBuild`, `transformExtends`, no handler) map trees that differ only in
the order of mapping entries to such trees, or fail on both.  `transformMaybeExternal` (`volumes.*`, `networks.*`,
`secrets.*`, `configs.*`) compares `external.name` with `name`, two untyped values: by `reflect.DeepEqual` in Go (`fix:`
886eefe; the `!=` before it panicked on two mappings), by the derived `BEq` of `Val` in C03's model (opaque: nothing can
be proved about it).  The theorem is stated for the paths where that handler cannot match.

This is the one stage proved in `Eqv` form only (`Resp Eqv optS`, `treeRel_eqv`): preservation of distinct keys by
`Canonical` is not proved, so `Residual.canonical` of `Props/C02Whole.lean` is not discharged even below `services`.
-/
namespace CV.Det.Stage
open CV CV.Deep CV.Short
open CV.Val (lookup insert keys KVs lookup_cons_self lookup_cons_ne)

def optS {α : Type} : CV.Short.Out α → Option α
  | .ok a => some a
  | _ => none

theorem optS_some {α : Type} {x : CV.Short.Out α} {a : α} : optS x = some a ↔ x = .ok a := by
  cases x <;> simp [optS]

theorem transformKVs_trav (ign : Bool) (p : TPath) (m : KVs) :
    optS (transformKVs ign p m) = travOpt (fun k e => optS (transform ign (TPath.nextK p k) e)) m := by
  induction m with
  | nil => simp [transformKVs, travOpt, optS]
  | cons hd tl ih =>
    obtain ⟨k, e⟩ := hd
    rw [transformKVs, travOpt, ← ih]
    cases transform ign (TPath.nextK p k) e <;> simp only [optS]
    cases transformKVs ign p tl <;> rfl

theorem transformSeq_trav (ign : Bool) (p : TPath) (xs : List Val) :
    optS (transformSeq ign p xs) = travList (fun e => optS (transform ign (TPath.nextK p "[]") e)) xs := by
  induction xs with
  | nil => simp [transformSeq, travList, optS]
  | cons e tl ih =>
    rw [transformSeq, travList, ← ih]
    cases transform ign (TPath.nextK p "[]") e <;> simp only [optS]
    cases transformSeq ign p tl <;> rfl

theorem orel_refl (x : Short.Out Val) : ORel Eqv (optS x) (optS x) := by
  cases x <;> simp only [optS, ORel]
  exact eqvRefl _

theorem orel_of_eq {x y : Short.Out Val} (h : x = y) : ORel Eqv (optS x) (optS y) := by
  subst h; exact orel_refl x

/-- `if _, ok := m[k]; !ok { m[k] = v }` -/
def addIfAbsent (k : String) (v : Val) (m : KVs) : KVs := if hasKey k m then m else m ++ [(k, v)]

theorem addIfAbsent_meqv {a b : KVs} (h : MEqv a b) (k : String) (v : Val) :
    MEqv (addIfAbsent k v a) (addIfAbsent k v b) := by
  unfold addIfAbsent
  rw [show hasKey k b = hasKey k a from (h.isSome_eq k).symm]
  cases hk : hasKey k a with
  | true => simpa using h
  | false =>
    have ha : lookup k a = none := by unfold hasKey at hk; cases hl : lookup k a <;> simp_all
    have hb : lookup k b = none := (h.1 k).mp ha
    simp only [Bool.false_eq_true, if_false]
    rw [← Val.insert_of_not_mem (Val.lookup_eq_none.1 ha), ← Val.insert_of_not_mem (Val.lookup_eq_none.1 hb)]
    exact h.insert k (eqvRefl v)

theorem dependsDefaults_meqv {a b : KVs} (h : MEqv a b) : MEqv (dependsDefaults a) (dependsDefaults b) :=
  addIfAbsent_meqv (addIfAbsent_meqv h "condition" (.str "service_started")) "required" (.bool true)

/-- one entry of a long-form `depends_on` -/
def dependsEntry : Val → Option Val
  | .map d => some (.map (dependsDefaults d))
  | _ => none

theorem dependsMap_trav (m : KVs) : optS (dependsMap m) = travOpt (fun _ v => dependsEntry v) m := by
  induction m with
  | nil => rfl
  | cons hd tl ih =>
    obtain ⟨k, v⟩ := hd
    cases v with
    | map d =>
      simp only [dependsMap, travOpt]
      rw [← ih]
      cases dependsMap tl <;> rfl
    | _ => rfl

theorem dependsEntry_eqv {x y : Val} (h : Eqv x y) : ORel Eqv (dependsEntry x) (dependsEntry y) := by
  cases h <;> simp only [dependsEntry, ORel]
  rename_i a b hn hv
  exact Eqv.map_iff.mpr (dependsDefaults_meqv ⟨hn, hv⟩)

theorem envFileValue_eqv {x y : Val} (h : Eqv x y) : Eqv (envFileValue x) (envFileValue y) := by
  cases h <;> simp only [envFileValue] <;> try exact eqvRefl _
  rename_i a b hn hv
  exact Eqv.map_iff.mpr (addIfAbsent_meqv ⟨hn, hv⟩ "required" (.bool true))

theorem map_envFileValue_eqv {l l' : List Val} (h : Eqv (.seq l) (.seq l')) :
    Eqv (.seq (l.map envFileValue)) (.seq (l'.map envFileValue)) :=
  Eqv.seq_induct (P := fun l l' => Eqv (.seq (l.map envFileValue)) (.seq (l'.map envFileValue))) .seqNil
    (fun hxy _ ih => .seqCons (envFileValue_eqv hxy) ih) h

theorem networksList_eqv {l l' : List Val} (h : Eqv (.seq l) (.seq l')) : ∀ acc, networksList l acc = networksList l' acc :=
  Eqv.seq_induct (P := fun l l' => ∀ acc, networksList l acc = networksList l' acc) (fun _ => rfl)
    (fun hxy _ ih acc => by cases hxy <;> simp only [networksList]; exact ih _) h

theorem dependsList_eqv {l l' : List Val} (h : Eqv (.seq l) (.seq l')) : ∀ acc, dependsList l acc = dependsList l' acc :=
  Eqv.seq_induct (P := fun l l' => ∀ acc, dependsList l acc = dependsList l' acc) (fun _ => rfl)
    (fun hxy _ ih acc => by cases hxy <;> simp only [dependsList]; exact ih _) h

theorem sshList_eqv {l l' : List Val} (h : Eqv (.seq l) (.seq l')) : ∀ acc, sshList l acc = sshList l' acc :=
  Eqv.seq_induct (P := fun l l' => ∀ acc, sshList l acc = sshList l' acc) (fun _ => rfl)
    (fun hxy _ ih acc => by
      cases hxy <;> simp only [sshList]
      split
      · split <;> first | rfl | exact ih _
      · exact ih _) h

theorem kvList_eqv (ign : Bool) {l l' : List Val} (h : Eqv (.seq l) (.seq l')) : ∀ acc, kvList ign l acc = kvList ign l' acc :=
  Eqv.seq_induct (P := fun l l' => ∀ acc, kvList ign l acc = kvList ign l' acc) (fun _ => rfl)
    (fun hxy _ ih acc => by cases hxy <;> simp only [kvList]; split <;> first | rfl | exact ih _) h

def PortsRel : Option (Short.Out (List Val)) → Option (Short.Out (List Val)) → Prop
  | none, none => True
  | some (.ok r), some (.ok r') => Eqv (.seq r) (.seq r')
  | some (.err _), some (.err _) => True
  | some (.err _), some (.panic _) => True
  | some (.panic _), some (.err _) => True
  | some (.panic _), some (.panic _) => True
  | _, _ => False

theorem portsRel_of_eq (x : Option (Short.Out (List Val))) : PortsRel x x := by
  cases x with
  | none => trivial
  | some o => cases o <;> simp only [PortsRel]; exact eqvReflSeq _

theorem portEntries_eqv (ign : Bool) {l l' : List Val} (h : Eqv (.seq l) (.seq l')) : ∀ acc acc',
    Eqv (.seq acc) (.seq acc') → PortsRel (portEntries ign l acc) (portEntries ign l' acc') := by
  refine Eqv.seq_induct (P := fun l l' => ∀ acc acc', Eqv (.seq acc) (.seq acc') →
    PortsRel (portEntries ign l acc) (portEntries ign l' acc'))
    (fun acc acc' ha => by simpa only [portEntries, PortsRel] using ha) (fun hxy _ ih acc acc' ha => ?_) h
  cases hxy <;> simp only [portEntries, PortsRel]
  · rename_i i
    cases parsePort (intToDec i) with
    | none => trivial
    | some ps => exact ih _ _ (Eqv.seq_append ha (eqvReflSeq _))
  · rename_i s
    cases parsePort s.toList with
    | none => cases ign <;> simp
    | some ps => exact ih _ _ (Eqv.seq_append ha (eqvReflSeq _))
  · rename_i a b hn hv
    exact ih _ _ (Eqv.seq_append ha (.seqCons (.map hn hv) .seqNil))

theorem cong_id : Resp Eqv optS (fun v => .ok v) := fun _ _ h => h.1

theorem cong_ite (c : Prop) [Decidable c] {f g : Val → Short.Out Val} (hf : Resp Eqv optS f) (hg : Resp Eqv optS g) :
    Resp Eqv optS (fun v => if c then f v else g v) := by
  by_cases hc : c
  · simpa only [hc, if_true] using hf
  · simpa only [hc, if_false] using hg

/-- two equivalent scalars (or empty sequences) are the same value: a transformer has to be looked at on mappings and on
non-empty sequences only -/
theorem cong_of {f : Val → Short.Out Val}
    (hmap : ∀ a b, Eqv (.map a) (.map b) → WF (.map a) → WF (.map b) → ORel Eqv (optS (f (.map a))) (optS (f (.map b))))
    (hseq : ∀ l l', Eqv (.seq l) (.seq l') → ORel Eqv (optS (f (.seq l))) (optS (f (.seq l')))) : Resp Eqv optS f := by
  intro v w ⟨h, wv, ww⟩
  cases h with
  | map hn hv => exact hmap _ _ (.map hn hv) wv ww
  | seqCons a b => exact hseq _ _ (.seqCons a b)
  | _ => exact orel_refl _

theorem cong_keepMap {f : Val → Short.Out Val} (hm : ∀ m, f (.map m) = .ok (.map m)) (hs : ∀ l, optS (f (.seq l)) = none) :
    Resp Eqv optS f :=
  cong_of (fun a b h _ _ => by rw [hm, hm]; exact h) (fun l l' _ => by rw [hs, hs]; trivial)

theorem cong_scalarOnly {f : Val → Short.Out Val} (hm : ∀ m, optS (f (.map m)) = none) (hs : ∀ l, optS (f (.seq l)) = none) :
    Resp Eqv optS f :=
  cong_of (fun a b _ _ _ => by rw [hm, hm]; trivial) (fun l l' _ => by rw [hs, hs]; trivial)

theorem cong_envFile : Resp Eqv optS transformEnvFile :=
  cong_of (fun _ _ _ _ _ => trivial) (fun _ _ h => map_envFileValue_eqv h)

theorem cong_serviceNetworks : Resp Eqv optS transformServiceNetworks :=
  cong_of (fun _ _ h _ _ => h) (fun l l' h => by
    simp only [transformServiceNetworks]; rw [networksList_eqv h []]; exact orel_refl _)

theorem cong_ssh : Resp Eqv optS transformSSH :=
  cong_of (fun _ _ h _ _ => h) (fun l l' h => by simp only [transformSSH]; rw [sshList_eqv h []]; exact orel_refl _)

theorem cong_keyValue (ign : Bool) : Resp Eqv optS (transformKeyValue ign) :=
  cong_of (fun _ _ h _ _ => h) (fun l l' h => by
    simp only [transformKeyValue]
    rw [kvList_eqv ign h []]
    cases kvList ign l' [] with
    | none => exact h
    | some o => cases o <;> first | exact eqvRefl _ | trivial)

theorem cong_ports (ign : Bool) : Resp Eqv optS (transformPorts ign) :=
  cong_of (fun _ _ _ _ _ => trivial) (fun l l' h => by
    have hp := portEntries_eqv ign h [] [] .seqNil
    simp only [transformPorts]
    cases h1 : portEntries ign l [] <;> cases h2 : portEntries ign l' [] <;> rw [h1, h2] at hp
    · exact h
    · exact hp.elim
    · rename_i o; cases o <;> exact hp.elim
    · rename_i o o'
      cases o <;> cases o' <;> first | exact hp | exact hp.elim | trivial)

theorem cong_dependsOn : Resp Eqv optS transformDependsOn :=
  cong_of (fun a b h wa wb => by
    have hm := Eqv.map_iff.mp h
    have hk := travOpt_meqv (fun _ v => dependsEntry v) (fun _ v => dependsEntry v) hm
      (WF.map_iff.mp wa) (WF.map_iff.mp wb) (fun k x y hx hy => dependsEntry_eqv (hm.2 k x y hx hy))
    rw [← dependsMap_trav, ← dependsMap_trav] at hk
    simp only [transformDependsOn]
    cases h1 : dependsMap a <;> cases h2 : dependsMap b <;> rw [h1, h2] at hk <;>
      first | exact Eqv.map_iff.mpr hk | exact hk.elim | trivial)
    (fun l l' h => by simp only [transformDependsOn]; rw [dependsList_eqv h []]; exact orel_refl _)

/-- one line per handler, in the order of the `if h = "…"` chain of `Short.leaf` -/
theorem cong_leaf (h : Option String) (ign : Bool) : Resp Eqv optS (leaf h ign) := by
  cases h with
  | none => exact cong_id
  | some h =>
    show Resp Eqv optS (fun v => leaf (some h) ign v)
    simp only [leaf]
    have scalarOnly : ∀ f : String → Short.Out Val,
        Resp Eqv optS (fun v => match v with | .str s => f s | _ => .err "type") := fun f =>
      cong_scalarOnly (fun _ => rfl) (fun _ => rfl)
    refine
      cong_ite (h = "transformService") cong_id <|
      cong_ite (h = "transformBuild") (scalarOnly _) <|
      cong_ite (h = "transformExtends") (scalarOnly _) <|
      cong_ite (h = "transformMaybeExternal") (cong_scalarOnly (fun _ => rfl) (fun _ => rfl)) <|
      cong_ite (h = "transformFileMount") (cong_keepMap (fun _ => rfl) (fun _ => rfl)) <|
      cong_ite (h = "transformKeyValue") (cong_keyValue ign) <|
      cong_ite (h = "transformDependsOn") cong_dependsOn <|
      cong_ite (h = "transformEnvFile") cong_envFile <|
      cong_ite (h = "transformServiceNetworks") cong_serviceNetworks <|
      cong_ite (h = "transformVolumeMount") (cong_keepMap (fun _ => rfl) (fun _ => rfl)) <|
      cong_ite (h = "transformStringOrList") (cong_of (fun _ _ h _ _ => h) (fun _ _ h => h)) <|
      cong_ite (h = "transformDeviceMapping") (cong_keepMap (fun _ => rfl) (fun _ => rfl)) <|
      cong_ite (h = "transformPorts") (cong_ports ign) <|
      cong_ite (h = "transformSSH") cong_ssh <|
      cong_ite (h = "transformUlimits") (cong_keepMap (fun _ => rfl) (fun _ => rfl)) <|
      cong_ite (h = "transformInclude") (cong_keepMap (fun _ => rfl) (fun _ => rfl)) ?_
    intro v w _
    trivial

/-- `transformMaybeExternal` (the handler that compares two untyped values, `externalFix`) cannot match at or below `p` -/
def NoExt (p : TPath) : Prop :=
  (p ≠ TPath.root ∧ p ≠ []) ∧ ∀ ks, TPath.firstMatch CV.Gen.transformers (p ++ ks) ≠ some "transformMaybeExternal"

theorem NoExt.here {p : TPath} (h : NoExt p) : TPath.firstMatch CV.Gen.transformers p ≠ some "transformMaybeExternal" := by
  have := h.2 []
  rwa [List.append_nil] at this

theorem NoExt.next {p : TPath} (h : NoExt p) (k : String) : NoExt (TPath.nextK p k) := by
  rw [TPath.nextK_of_ne_root p k h.1.1]
  have hne := h.1.2
  refine ⟨⟨?_, by simp⟩, fun ks => ?_⟩
  · cases p with
    | nil => exact (hne rfl).elim
    | cons a as => cases as <;> simp [TPath.root]
  rw [List.append_assoc]
  exact h.2 _

theorem postMap_noExt {h : Option String} (hne : h ≠ some "transformMaybeExternal") :
    postMap h = fun r => .ok (.map r) := by
  funext r
  simp only [postMap, hne, if_false]

theorem noExt_services (rest : List String) : NoExt ("services" :: rest) := by
  refine ⟨⟨by simp [TPath.root], by simp⟩, fun ks hs => ?_⟩
  obtain ⟨a, n, hp, ha⟩ := H_external _ hs
  injection hp with h1 _
  subst h1
  rcases ha with h | h | h | h <;> simp at h

/-- where the walk goes on into the children: `transformMapping` under the four recursing handlers (or no row),
`transformSequence` where there is no row -/
def descends (h : Option String) : Val → Bool
  | .map _ => recursesOnMap h
  | .seq _ => h = none
  | _ => false

theorem descends_eqv (h : Option String) {v w : Val} (e : Eqv v w) : descends h v = descends h w := by
  cases e <;> rfl

def canonicalHandler (ign : Bool) (p : TPath) (v : Val) : Option (Option Val) :=
  if descends (TPath.firstMatch CV.Gen.transformers p) v then none
  else some (optS (leaf (TPath.firstMatch CV.Gen.transformers p) ign v))

theorem transform_step (ign : Bool) (p : TPath) (hp : NoExt p) (v : Val) :
    optS (transform ign p v) =
      walkStep (canonicalHandler ign) TPath.nextK (fun p v => optS (transform ign p v)) p v := by
  cases v with
  | map m =>
    simp only [transform, walkStep, canonicalHandler, descends, ← transformKVs_trav, postMap_noExt hp.here]
    by_cases c : recursesOnMap (TPath.firstMatch CV.Gen.transformers p) = true
    · simp only [c, if_true]; cases transformKVs ign p m <;> rfl
    · simp only [c, Bool.false_eq_true, if_false]
  | seq l =>
    simp only [transform, walkStep, canonicalHandler, descends, decide_eq_true_eq, ← transformSeq_trav]
    by_cases c : TPath.firstMatch CV.Gen.transformers p = none
    · simp only [c, if_true]; cases transformSeq ign p l <;> rfl
    · simp only [c, if_false]
  | _ => rfl

theorem transform_eqv (ign : Bool) (p : TPath) (hp : NoExt p) {v w : Val} (h : Eqv v w) (wv : WF v) (ww : WF w) :
    ORel Eqv (optS (transform ign p v)) (optS (transform ign p w)) := by
  refine walk_rel treeRel_eqv NoExt (fun p k hp => hp.next k) (fun p v hp => transform_step ign p hp v) ?_ ⟨h, wv, ww⟩ p hp
  intro p v v' _ e
  unfold canonicalHandler
  rw [descends_eqv _ e.1]
  split
  · trivial
  · exact cong_leaf _ ign v v' e

end CV.Det.Stage
