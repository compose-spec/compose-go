import ComposeVerif.Lemmas.Marshal
/-!
# ssh keys (`SSHKey` / `SSHConfig`): the short syntax is read back

`sshVal`, `sshLine`, `sshEnt` are a key as typed value, as rendered line and as the entry `transformSSH` makes of that
line; `roundtrip_SSHConfig` (stated with `sshVal`, as `C09.custom_roundtrip_SSHConfig` is) composes them.
-/
namespace CV.Marshal
open CV

theorem cutEq_join (a b : String) (h : '=' ∉ a.toList) : cutEq (a ++ "=" ++ b) = (a, b, true) := by
  unfold cutEq
  have h1 : (a ++ "=" ++ b).toList = a.toList ++ '=' :: b.toList := by
    simp [String.toList_append]
  simp only [h1, indexOf_sep '=' a.toList b.toList h]
  simp

def sshVal (k : String × String) : Val := mkSSHKey k.1 k.2
def sshLine (k : String × String) : Val := .str (sshShort k.1 k.2)
def sshEnt (k : String × String) : String × Val := (k.1, if k.2 = "" ∧ k.1 = "default" then .null else .str k.2)

theorem marshalY_SSHKey_val (k : String × String) : marshalY_SSHKey (sshVal k) = .ok (sshLine k) := by
  simp [marshalY_SSHKey, sshVal, sshLine, mkSSHKey, getStr, Val.lookup]

theorem cutEq_default : cutEq "default" = ("default", "", false) := by decide

theorem sshEntry_line (k : String × String) (h : '=' ∉ k.1.toList) : sshEntry (sshLine k) = .ok (sshEnt k) := by
  obtain ⟨i, p⟩ := k
  simp only [sshLine, sshShort, sshEnt]
  by_cases hd : p = "" ∧ i = "default"
  · obtain ⟨hp, hi⟩ := hd
    subst hp hi
    simp [sshEntry, cutEq_default]
  · simp only [hd, if_false, sshEntry, cutEq_join i p h]
    simp

theorem sshEntries_lines : ∀ ks : List (String × String), (∀ k ∈ ks, '=' ∉ k.1.toList) →
    sshEntries (ks.map sshLine) = .ok (ks.map sshEnt) := by
  intro ks
  induction ks with
  | nil => intro _; rfl
  | cons k r ih =>
    intro h
    have h1 := sshEntry_line k (h k (List.mem_cons_self ..))
    have h2 := ih (fun k' hm => h k' (List.mem_cons_of_mem _ hm))
    simp [sshEntries, h1, h2, bind, Except.bind, pure, Except.pure]

theorem sshEnt_back (k : String × String) :
    (fun (x : String × Val) => mkSSHKey x.1 (match x.2 with | .null => "" | p => sprint p)) (sshEnt k) = sshVal k := by
  obtain ⟨i, p⟩ := k
  simp only [sshEnt, sshVal]
  by_cases hd : p = "" ∧ i = "default"
  · simp [hd]
  · simp [hd, sprint, Val.fmtV]

theorem roundtrip_SSHConfig (ks : List (String × String)) (hnd : (ks.map Prod.fst).Nodup)
    (heq : ∀ k ∈ ks, '=' ∉ k.1.toList) :
    (marshalY_SSHConfig (.seq (ks.map sshVal))).bind decode_SSHConfig = .ok (.seq (ks.map sshVal)) := by
  have hm := mapOut_map marshalY_SSHKey sshVal sshLine marshalY_SSHKey_val ks
  simp only [marshalY_SSHConfig, hm, Out.bind, decode_SSHConfig, sshEntries_lines ks heq]
  have hk : ((ks.map sshEnt).map Prod.fst).Nodup := by
    have : (ks.map sshEnt).map Prod.fst = ks.map Prod.fst := by
      simp [List.map_map, sshEnt, Function.comp_def]
    rw [this]; exact hnd
  rw [assignAll_nodup _ hk]
  congr 2
  rw [List.map_map]
  apply List.map_congr_left
  intro k _
  exact sshEnt_back k

end CV.Marshal
