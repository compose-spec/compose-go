import ComposeVerif.Lemmas.TravInvB
/-!
# Log invariant (`InvL`): what the visitor entry / return log can contain
-/
namespace CV.Trav

/-- every visitor entry in the log (newest first) has, further down, the return of every prerequisite
that is visited at all -/
def LogOK (g : Graph) : List Ev → Prop
  | [] => True
  | .start v :: l => (∀ d ∈ g.pre v, g.skip d = false → d ∈ finishes l) ∧ LogOK g l
  | .finish _ _ :: l => LogOK g l

def pendEnter (s : St) (v : V) : Prop := ∃ w t, getSched s w = some ⟨t, .enter v⟩

def Fresh (s : St) (v : V) : Prop := s.status v = .absent ∨ pendSpawn s v ∨ (v, WPc.start) ∈ s.workers

structure InvL (g : Graph) (s : St) : Prop where
  startsNodup : (starts s.log).Nodup
  finishesNodup : (finishes s.log).Nodup
  freshNotStarted : ∀ v, Fresh s v → v ∉ starts s.log
  runningStarted : ∀ v, (v, WPc.running) ∈ s.workers → v ∈ starts s.log ∧ v ∉ finishes s.log
  finSubStarts : ∀ v, v ∈ finishes s.log → v ∈ starts s.log
  startedWhere : ∀ v, v ∈ starts s.log → g.skip v = false ∧ (v ∈ finishes s.log ∨ (v, WPc.running) ∈ s.workers)
  returnedFin : ∀ v e, (v, WPc.returned e) ∈ s.workers → g.skip v = true ∨ Ev.finish v e ∈ s.log
  visitedFin : ∀ v, s.status v = .visited → g.skip v = true ∨ v ∈ finishes s.log
  depsVisited : ∀ v, (pendEnter s v ∨ s.status v ≠ .absent) → ∀ d ∈ g.pre v, s.status d = .visited
  logOK : LogOK g s.log
  startedVerts : ∀ v, v ∈ starts s.log → v ∈ g.verts

theorem init_invL (g : Graph) : InvL g (init g) := by
  refine ⟨.nil, .nil, fun _ _ => nofun, nofun, nofun, nofun, nofun, nofun, ?_, trivial, nofun⟩
  rintro v (⟨w, t, h⟩ | h)
  · cases w <;> cases h
  · exact absurd rfl h

/-- what the log invariant needs to know of a step that writes nothing to the log -/
theorem invL_same_log {g : Graph} {s s' : St} (hL : InvL g s) (hlog : s'.log = s.log)
    (hfresh : ∀ u, Fresh s' u → Fresh s u)
    (hrun : ∀ u, (u, WPc.running) ∈ s'.workers ↔ (u, WPc.running) ∈ s.workers)
    (hret : ∀ u e, (u, WPc.returned e) ∈ s'.workers → (u, WPc.returned e) ∈ s.workers ∨ g.skip u = true)
    (hvis : ∀ u, s'.status u = .visited → s.status u = .visited ∨ ∃ e, (u, WPc.returned e) ∈ s.workers)
    (hmono : ∀ u, s.status u = .visited → s'.status u = .visited)
    (hclaim : ∀ u, (pendEnter s' u ∨ s'.status u ≠ .absent) →
      (pendEnter s u ∨ s.status u ≠ .absent) ∨ ∀ d ∈ g.pre u, s.status d = .visited) : InvL g s' := by
  have hfin : ∀ u e, (u, WPc.returned e) ∈ s.workers → g.skip u = true ∨ u ∈ finishes s.log := fun u e h =>
    (hL.returnedFin u e h).imp id mem_finishes_of
  refine ⟨?_, ?_, ?_, ?_, ?_, ?_, ?_, ?_, ?_, ?_, ?_⟩
  · rw [hlog]; exact hL.startsNodup
  · rw [hlog]; exact hL.finishesNodup
  · intro u hu; rw [hlog]; exact hL.freshNotStarted u (hfresh u hu)
  · intro u hu; rw [hlog]; exact hL.runningStarted u ((hrun u).mp hu)
  · rw [hlog]; exact hL.finSubStarts
  · intro u hu; rw [hlog] at hu ⊢
    exact ⟨(hL.startedWhere u hu).1, (hL.startedWhere u hu).2.imp id (hrun u).mpr⟩
  · intro u e hu; rw [hlog]
    exact (hret u e hu).elim (hL.returnedFin u e) .inl
  · intro u hu; rw [hlog]
    rcases hvis u hu with h | ⟨e, h⟩
    · exact hL.visitedFin u h
    · exact hfin u e h
  · intro u hu d hd
    exact hmono d ((hclaim u hu).elim (fun h => hL.depsVisited u h d hd) (fun h => h d hd))
  · rw [hlog]; exact hL.logOK
  · rw [hlog]; exact hL.startedVerts

theorem Work.fresh {g : Graph} {s s1 : St} {v : V} {l : Label} {pc : WPc} {pc' : Option WPc}
    (h : Work g s v l pc pc' s1) (hm : (v, pc) ∈ s.workers) {u : V}
    (hu : Fresh { s1 with workers := moveW s.workers v pc' } u) : Fresh s u := by
  rcases hu with hu | ⟨w, hw⟩ | hu
  · exact .inl (Classical.byContradiction fun hne => h.status_mono hne hu)
  · exact .inr (.inl ⟨w, h.getSched w ▸ hw⟩)
  · rcases mem_moveW_cases hm hu with hu | ⟨_, e⟩
    · exact .inr (.inr hu.2)
    · cases h <;> cases e

theorem invL_visit {g : Graph} {lim : Option Nat} {s : St} {w0 : Who} {l : Label} {y : Sched} {x : Option Sched}
    {st : V → Status} {ws : List (V × WPc)} (hs : getSched s w0 = some y) (hv : Visit g lim s w0 l y x st ws)
    (hL : InvL g s) : InvL g (putSched { s with status := st, workers := ws } w0 x) := by
  have hs1 : getSched { s with status := st, workers := ws } w0 = some y := hs
  have hst : ∀ u, (putSched { s with status := st, workers := ws } w0 x).status u = st u :=
    congrFun (putSched_status ..)
  have hws : (putSched { s with status := st, workers := ws } w0 x).workers = ws := putSched_workers ..
  obtain ⟨hen, hsp⟩ := hv.next_sub
  have hwk : ∀ u q, q ≠ .start → ((u, q) ∈ ws ↔ (u, q) ∈ s.workers) := by
    intro u q hq
    rcases hv.workers with e | ⟨_, _, _, _, e⟩ <;> rw [e]
    exact List.mem_cons.trans (or_iff_right fun h => hq (Prod.mk.inj h).2)
  refine invL_same_log hL (putSched_log ..) ?_ ?_ ?_ ?_ ?_ ?_
  · -- fresh afterwards: absent before, or claimed before, or the vertex whose claim is turned into a worker
    rintro u (hu | ⟨w, hw⟩ | hu)
    · rw [hst] at hu
      exact .inl (Classical.byContradiction fun hne => hv.status_mono hne hu)
    · by_cases e : w = w0
      · subst e; rw [getSched_put_same x hs1] at hw
        match x, hw with
        | some ⟨t, .spawn _⟩, rfl => exact .inl (hsp t u rfl)
      · rw [getSched_put_ne x e] at hw; exact .inr (.inl ⟨w, hw⟩)
    · rw [hws] at hu
      rcases hv.workers with e | ⟨_, _, rfl, _, e⟩ <;> rw [e] at hu
      · exact .inr (.inr hu)
      · rcases List.mem_cons.mp hu with e | hu
        · cases e; exact .inr (.inl ⟨w0, by rw [hs]; rfl⟩)
        · exact .inr (.inr hu)
  · intro u; rw [hws]; exact hwk u .running nofun
  · intro u e hu; rw [hws] at hu; exact .inl ((hwk u (.returned e) nofun).mp hu)
  · intro u hu
    rw [hst] at hu
    rcases hv.status with e | ⟨_, v, _, _, e⟩ <;> rw [e] at hu
    · exact .inl hu
    · by_cases e : u = v
      · subst e; rw [setStatus_self] at hu; cases hu
      · rw [setStatus_ne _ _ e] at hu; exact .inl hu
  · intro u hu
    rw [hst]
    rcases hv.status with e | ⟨_, v, _, habs, e⟩ <;> rw [e]
    · exact hu
    · rw [setStatus_ne _ _ (fun e => by rw [e, habs] at hu; cases hu)]; exact hu
  · -- claimed (or about to be) only after the readiness test succeeded
    rintro u (⟨w, t, hw⟩ | hu)
    · by_cases e : w = w0
      · subst e; rw [getSched_put_same x hs1] at hw; exact .inr (hen t u hw)
      · rw [getSched_put_ne x e] at hw; exact .inl (.inl ⟨w, t, hw⟩)
    · rw [hst] at hu
      rcases hv.status with e | ⟨t, v, rfl, _, e⟩ <;> rw [e] at hu
      · exact .inl (.inr hu)
      · by_cases e : u = v
        · subst e; exact .inl (.inl ⟨w0, t, hs⟩)
        · rw [setStatus_ne _ _ e] at hu; exact .inl (.inr hu)

theorem invL_work {g : Graph} {s s1 : St} {v : V} {l : Label} {pc : WPc} {pc' : Option WPc}
    (hw : wpc s.workers v = some pc) (hk : Work g s v l pc pc' s1) (hA : InvA s) (hB : InvB g s) (hL : InvL g s) :
    InvL g { s1 with workers := moveW s.workers v pc' } := by
  have hm := mem_of_wpc hw
  have hn := hA.wkNodup
  have hother : ∀ {u q}, (u, q) ∈ s.workers → q ≠ pc → u ≠ v := fun hu hq e => hq (pc_unique hn (e ▸ hu) hm)
  -- `t.done`, the hand-off and the exit: only the status of `v` and its program counter past `returned` move
  have quiet : s1.log = s.log → pc ≠ .running → pc' ≠ some .running →
      (∀ e, pc' = some (.returned e) → g.skip v = true) →
      InvL g { s1 with workers := moveW s.workers v pc' } := by
    intro hlog h1 h2 h3
    refine invL_same_log hL hlog (fun u => hk.fresh hm) (fun u => mem_moveW_other hn hm (Ne.symm h1) h2) ?_ ?_ ?_ ?_
    · intro u e hu
      rcases mem_moveW_cases hm hu with hu | ⟨rfl, e⟩
      · exact .inl hu.2
      · exact .inr (h3 _ e)
    · intro u hu
      rcases hk.status with e | ⟨e0, rfl, e⟩
      · exact .inl (e ▸ hu)
      · have hu : setStatus s.status v .visited u = .visited := e ▸ hu
        by_cases e' : u = v
        · exact .inr ⟨e0, e' ▸ hm⟩
        · rw [setStatus_ne _ _ e'] at hu; exact .inl hu
    · intro u hu
      show s1.status u = .visited
      rcases hk.status with e | ⟨_, _, e⟩ <;> rw [e]
      · exact hu
      · unfold setStatus; split
        · rfl
        · exact hu
    · rintro u (⟨w, t, hw⟩ | hu)
      · exact .inl (.inl ⟨w, t, hk.getSched w ▸ hw⟩)
      · by_cases e : u = v
        · exact .inl (.inr (e ▸ hA.worker_status hm))
        · exact .inl (.inr ((hk.elsewhere e).1 ▸ hu))
  cases hk with
  | skip hsk => exact quiet rfl nofun nofun (fun _ _ => hsk)
  | done => exact quiet rfl nofun nofun nofun
  | send => exact quiet rfl nofun nofun nofun
  | exit => exact quiet rfl nofun nofun nofun
  | begin hsk =>
    -- the visitor of `v` is entered: `v` was fresh, its prerequisites are visited
    have hns : v ∉ starts s.log := hL.freshNotStarted v (.inr (.inr hm))
    have hfr : ∀ u, Fresh { s with log := .start v :: s.log, workers := setW s.workers v .running } u →
        Fresh s u ∧ u ≠ v := fun u hu =>
      ⟨Work.fresh (.begin hsk) hm hu, by
        rintro rfl
        rcases hu with hu | hu | hu
        · exact hA.worker_status hm hu
        · exact hA.pendNoWorker u _ hu hm
        · cases (mem_moveW_self (pc' := some .running) hm).mp hu⟩
    refine ⟨List.nodup_cons.mpr ⟨hns, hL.startsNodup⟩, hL.finishesNodup, ?_, ?_, ?_, ?_, ?_, hL.visitedFin,
      hL.depsVisited, ⟨?_, hL.logOK⟩, ?_⟩
    · intro u hu
      exact List.not_mem_cons_of_ne_of_not_mem (hfr u hu).2 (hL.freshNotStarted u (hfr u hu).1)
    · intro u hu
      rcases mem_moveW_cases (pc' := some .running) hm hu with hu | ⟨rfl, _⟩
      · exact ⟨List.mem_cons_of_mem _ (hL.runningStarted u hu.2).1, (hL.runningStarted u hu.2).2⟩
      · exact ⟨List.mem_cons_self .., fun hf => hns (hL.finSubStarts u hf)⟩
    · exact fun u hu => List.mem_cons_of_mem _ (hL.finSubStarts u hu)
    · intro u hu
      rcases List.mem_cons.mp hu with rfl | hu
      · exact ⟨hsk, .inr (mem_setW_self hm)⟩
      · exact ⟨(hL.startedWhere u hu).1, (hL.startedWhere u hu).2.imp id
          fun h => mem_setW_of_ne (hother (q := .running) h nofun) h⟩
    · intro u e hu
      exact (hL.returnedFin u e ((mem_moveW_other (q := .returned e) (pc' := some .running) hn hm nofun nofun).mp hu)).imp id
        (List.mem_cons_of_mem _)
    · intro d hd hk
      exact (hL.visitedFin d (hL.depsVisited v (.inr (hA.worker_status hm)) d hd)).resolve_left
        (fun h => by rw [hk] at h; cases h)
    · intro u hu
      rcases List.mem_cons.mp hu with rfl | hu
      · exact hB.wkVerts _ _ hm
      · exact hL.startedVerts u hu
  | @ret e =>
    have ⟨hvs, hvf⟩ := hL.runningStarted v hm
    refine ⟨hL.startsNodup, List.nodup_cons.mpr ⟨hvf, hL.finishesNodup⟩, ?_, ?_, ?_, ?_, ?_, ?_, hL.depsVisited,
      hL.logOK, hL.startedVerts⟩
    · exact fun u hu => hL.freshNotStarted u (Work.fresh (.ret (g := g) (e := e)) hm hu)
    · intro u hu
      rcases mem_moveW_cases (pc' := some (.returned e)) hm hu with hu | ⟨_, h⟩
      · exact ⟨(hL.runningStarted u hu.2).1, List.not_mem_cons_of_ne_of_not_mem hu.1 (hL.runningStarted u hu.2).2⟩
      · cases h
    · intro u hu
      rcases List.mem_cons.mp hu with rfl | hu
      · exact hvs
      · exact hL.finSubStarts u hu
    · intro u hu
      refine ⟨(hL.startedWhere u hu).1, ?_⟩
      rcases (hL.startedWhere u hu).2 with h | h
      · exact .inl (List.mem_cons_of_mem _ h)
      · by_cases e' : u = v
        · exact .inl (e' ▸ List.mem_cons_self ..)
        · exact .inr (mem_setW_of_ne e' h)
    · intro u b hu
      rcases mem_moveW_cases (pc' := some (.returned e)) hm hu with hu | ⟨rfl, h⟩
      · exact (hL.returnedFin u b hu.2).imp id (List.mem_cons_of_mem _)
      · cases h; exact .inr (List.mem_cons_self ..)
    · exact fun u hu => (hL.visitedFin u hu).imp id (List.mem_cons_of_mem _)

theorem invL_step {g : Graph} {lim : Option Nat} {s s' : St} {l : Label}
    (h : Step g lim s l s') (hA : InvA s) (hB : InvB g s) (hL : InvL g s) : InvL g s' := by
  cases h with
  | visit hs hv => exact invL_visit hs hv hL
  | work hw hk => exact invL_work hw hk hA hB hL
  | coord ha hc hk =>
    obtain ⟨hst, hwk, hlog, hm⟩ := hk.frame
    -- the schedulers hold the same claims: the caller is untouched, the coordinator has none
    have hgs : ∀ w z, getSched s' w = some z → z.sub ≠ .next → getSched s w = some z := by
      intro w z hz hne
      cases w
      · exact hm.symm.trans hz
      · rcases hk.getSched_C ha with e | ⟨_, _, _, e⟩ <;> rw [e] at hz <;> cases hz
        exact absurd rfl hne
    refine invL_same_log hL hlog ?_ (fun u => by rw [hwk]) (fun u e hu => .inl (hwk ▸ hu)) (fun u hu => .inl (hst ▸ hu))
      (fun u hu => by rw [hst]; exact hu) ?_
    · rintro u (hu | ⟨w, hw⟩ | hu)
      · exact .inl (hst ▸ hu)
      · exact .inr (.inl ⟨w, hk.spawnOf ha hc w ▸ hw⟩)
      · exact .inr (.inr (hwk ▸ hu))
    · rintro u (⟨w, t, hw⟩ | hu)
      · exact .inl (.inl ⟨w, t, hgs w _ hw nofun⟩)
      · exact .inl (.inr (hst ▸ hu))
  | cancel _ => exact invL_same_log hL rfl (fun _ => id) (fun _ => .rfl) (fun _ _ => .inl) (fun _ => .inl) (fun _ => id) (fun _ => .inl)

/-- state form of the transitive visit order (`visit_order_extends_prerequisite_order`) -/
theorem InvL.chain_finished {g : Graph} {s : St} (hL : InvL g s) {d v : V} (hc : PreChain g d v) (hd : g.skip d = false)
    (hv : s.status v ≠ .absent) : d ∈ finishes s.log := by
  induction hc with
  | one hp => exact (hL.visitedFin _ (hL.depsVisited _ (.inr hv) _ hp)).resolve_left (by rw [hd]; nofun)
  | cons _ _ hpu ih => exact ih (by rw [hL.depsVisited _ (.inr hv) _ hpu]; nofun)

end CV.Trav
