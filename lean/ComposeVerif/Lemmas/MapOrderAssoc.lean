import ComposeVerif.Model.MapOrder
import ComposeVerif.Lemmas.Assoc
/-! `Det.find / put / akeys` (Go maps with any value type, `Model/MapOrder.lean`) are the functions of `Lemmas/Assoc.lean`
at `String` keys; the three loops that range over a map and store under the same key (`rangeWrite` into a fresh map,
`rangeUpdate` in place, `rangeCheck` returning the first error). -/
namespace CV.Det
open CV CV.Val

variable {α β ε : Type}

theorem find_eq (k : String) (m : AL α) : find k m = Assoc.lookup k m := by
  induction m with
  | nil => rfl
  | cons e r ih => rw [find, ih]; rfl

theorem put_eq (k : String) (v : α) (m : AL α) : put k v m = Assoc.insert k v m := by
  induction m with
  | nil => rfl
  | cons e r ih => rw [put, ih]; rfl

theorem find_put_self (k : String) (v : α) (m : AL α) : find k (put k v m) = some v := by
  rw [find_eq, put_eq]; exact Assoc.lookup_insert_self k v m

theorem find_put_ne {k k' : String} (h : k ≠ k') (v : α) (m : AL α) :
    find k (put k' v m) = find k m := by
  rw [find_eq, put_eq, find_eq]; exact Assoc.lookup_insert_ne h v m

theorem find_none_of_not_mem {k : String} {m : AL α} (h : k ∉ akeys m) : find k m = none := by
  rw [find_eq]; exact Assoc.lookup_eq_none.2 h

theorem find_some_of_mem {k : String} {v : α} {m : AL α} (hn : (akeys m).Nodup) (h : (k, v) ∈ m) :
    find k m = some v := by
  rw [find_eq]; exact Assoc.lookup_of_mem hn h

theorem mem_of_find_some {k : String} {v : α} {m : AL α} (h : find k m = some v) : (k, v) ∈ m :=
  Assoc.mem_of_lookup (find_eq k m ▸ h)

theorem put_of_not_mem {k : String} (v : α) {m : AL α} (h : k ∉ akeys m) : put k v m = m ++ [(k, v)] := by
  rw [put_eq]; exact Assoc.insert_of_not_mem h

theorem find_perm {m m' : AL α} (hn : (akeys m).Nodup) (hp : m'.Perm m) (k : String) :
    find k m' = find k m := by
  rw [find_eq, find_eq]; exact Assoc.lookup_perm hp ((hp.map Prod.fst).nodup_iff.2 hn)

theorem rangeWrite_eq_map (f : String → α → β) (m : AL α) (hn : (akeys m).Nodup) :
    rangeWrite f m = m.map (fun kv => (kv.1, f kv.1 kv.2)) := by
  have e : rangeWrite f m = Assoc.insertAll (m.map fun kv => (kv.1, f kv.1 kv.2)) [] := by
    simp only [rangeWrite, Assoc.insertAll, List.foldl_map, put_eq]
  rw [e, Assoc.insertAll_append (by rwa [Assoc.keys, List.map_map]) (fun _ _ => List.not_mem_nil), List.nil_append]

theorem akeys_rangeWrite (f : String → α → β) (m : AL α) (hn : (akeys m).Nodup) :
    akeys (rangeWrite f m) = akeys m := by
  rw [rangeWrite_eq_map f m hn]; simp [akeys, Function.comp_def]

theorem find_map_entries (f : String → α → β) (m : AL α) (k : String) :
    find k (m.map (fun kv => (kv.1, f kv.1 kv.2))) = (find k m).map (f k) := by
  rw [find_eq, find_eq]; exact Assoc.lookup_map_val f

theorem put_map {α γ : Type} (f : α → γ) (k : String) (v : α) (m : AL α) :
    (put k v m).map (fun kv => (kv.1, f kv.2)) = put k (f v) (m.map (fun kv => (kv.1, f kv.2))) := by
  induction m with
  | nil => rfl
  | cons hd tl ih =>
    obtain ⟨k', v'⟩ := hd
    simp only [put, List.map_cons]
    by_cases e : k = k'
    · simp only [e, if_true, List.map_cons]
    · simp only [e, if_false, List.map_cons, ih]

theorem find_rangeWrite (f : String → α → β) (m : AL α) (hn : (akeys m).Nodup) (k : String) :
    find k (rangeWrite f m) = (find k m).map (f k) := by
  rw [rangeWrite_eq_map f m hn, find_map_entries]

theorem rangeWrite_perm' (f : String → α → β) {m m' : AL α} (hn : (akeys m).Nodup) (hp : m'.Perm m) :
    (rangeWrite f m').Perm (rangeWrite f m) := by
  have hn' : (akeys m').Nodup := (hp.map Prod.fst).nodup_iff.mpr hn
  rw [rangeWrite_eq_map f m hn, rangeWrite_eq_map f m' hn']
  exact hp.map _

theorem mem_akeys_of_find {α : Type} {k : String} {m : AL α} (h : (find k m).isSome = true) : k ∈ akeys m := by
  obtain ⟨v, hv⟩ := Option.isSome_iff_exists.mp h
  exact List.mem_map.mpr ⟨(k, v), mem_of_find_some hv, rfl⟩

theorem akeys_map_entries (f : String → α → β) (m : AL α) : akeys (m.map fun kv => (kv.1, f kv.1 kv.2)) = akeys m := by
  simp only [akeys, List.map_map]; rfl

theorem rangeUpdate_eq (f : String → α → α) (m : AL α) :
    rangeUpdate f m = Assoc.insertAll (m.map fun kv => (kv.1, f kv.1 kv.2)) m := by
  simp only [rangeUpdate, Assoc.insertAll, List.foldl_map, put_eq]

theorem rangeCheck_isSome (f : String → α → Option ε) (m : AL α) :
    (rangeCheck f m).isSome = m.any (fun kv => (f kv.1 kv.2).isSome) := by
  induction m with
  | nil => rfl
  | cons hd tl ih =>
    obtain ⟨k, v⟩ := hd
    simp only [rangeCheck, List.any_cons]
    cases f k v with
    | some e => simp
    | none => simpa using ih

end CV.Det
