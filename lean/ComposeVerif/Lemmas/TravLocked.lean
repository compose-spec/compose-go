import ComposeVerif.Lemmas.TravStep
import ComposeVerif.Model.Locked
/-!
# The status map of the traversal model as the lock-guarded state of `Model/Locked.lean`

`stL s` is `s.status` in `Locked.Status`; it follows `s.status` (`stL_congr`, `stL_setStatus`), which is all
`Props/C19Traversal.traversal_status_written_only_by_sections` needs beside the rules of `Lemmas/TravStep.lean`.
-/
namespace CV.C19
open CV.Trav

def toL : Trav.Status → Locked.Status
  | .absent => .absent | .entered => .entered | .visited => .visited

def stL (s : St) : Nat → Locked.Status := fun u => toL (s.status u)

theorem putSched_status (s : St) (w : Who) (x : Option Sched) : (putSched s w x).status = s.status :=
  Trav.putSched_status s w x

theorem stL_congr {s s' : St} (h : s'.status = s.status) : stL s' = stL s := by unfold stL; rw [h]

theorem stL_setStatus {s s' : St} {v : Nat} {x : Trav.Status} (h : s'.status = setStatus s.status v x) :
    stL s' = Locked.setSt (stL s) v (toL x) :=
  funext fun u => by unfold stL setStatus Locked.setSt at *; rw [h]; dsimp only; split <;> rfl

end CV.C19
