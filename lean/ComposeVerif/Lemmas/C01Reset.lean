import ComposeVerif.Model.C01Reset
import ComposeVerif.Lemmas.C01Dep
/-!
Alias expansion (`resolveReset`) terminates on EVERY arena: its stack guard lets no node be nested more than twice on the
recursion stack, so the stack is at most twice as long as the arena.
-/
namespace CV.C01.Reset

theorem length_le_of_count_le (k : Nat) : ∀ (N : Nat) (l : List Nat),
    (∀ x, l.count x ≤ k) → (∀ x ∈ l, x < N) → l.length ≤ k * N
  | 0, l, _, hb => by
    cases l with
    | nil => simp
    | cons a t => exact absurd (hb a (List.mem_cons_self ..)) (Nat.not_lt_zero _)
  | N + 1, l, hc, hb => by
    have hsplit := List.length_eq_countP_add_countP (fun x => x == N) (l := l)
    have h1 : List.countP (fun x => x == N) l = l.count N := by
      simp [List.count]
    have h2 : List.countP (fun a => decide ¬((a == N) = true)) l = (l.filter (fun x => !(x == N))).length := by
      rw [List.countP_eq_length_filter]
      congr 1
      apply List.filter_congr
      intro x _
      by_cases hx : x = N <;> simp [hx]
    have ih := length_le_of_count_le k N (l.filter (fun x => !(x == N)))
      (by
        intro x
        exact Nat.le_trans (List.Sublist.count_le x List.filter_sublist) (hc x))
      (by
        intro x hx
        rw [List.mem_filter] at hx
        have hlt := hb x hx.1
        have hne : x ≠ N := by simpa using hx.2
        omega)
    have hcN := hc N
    rw [Nat.mul_succ]
    omega

theorem length_setNode : ∀ (a : List Node) (n : Nat) (nd : Node), (setNode n nd a).length = a.length
  | [], _, _ => by simp [setNode]
  | h :: t, 0, nd => by simp [setNode]
  | h :: t, n + 1, nd => by simp [setNode, length_setNode t n nd]

def StackOk (N : Nat) (active : List Nat) : Prop :=
  (∀ x, active.count x ≤ 2) ∧ (∀ x ∈ active, x < N)

theorem StackOk.length_le {N : Nat} {active : List Nat} (h : StackOk N active) : active.length ≤ 2 * N :=
  length_le_of_count_le 2 N active h.1 h.2

theorem StackOk.push {N : Nat} {active : List Nat} {n : Nat} (h : StackOk N active)
    (hc : ¬ 2 ≤ active.count n) (hn : n < N) : StackOk N (n :: active) := by
  refine ⟨?_, ?_⟩
  · intro x
    rw [List.count_cons]
    by_cases hx : n = x
    · subst hx; simp; omega
    · have := h.1 x
      simp [hx]
      exact this
  · intro x hx
    rcases List.mem_cons.mp hx with rfl | h'
    · exact hn
    · exact h.2 x h'

def PostN {α : Type} (N : Nat) : Except Err (St × α) → Prop
  | .error e => e ≠ .outOfFuel
  | .ok (st', _) => st'.arena.length = N

theorem checkForCycle_spec (st : St) (t : Nat) (path : P) :
    checkForCycle st t path = .error .cycle ∨ ∃ st', checkForCycle st t path = .ok st' ∧ st'.arena = st.arena := by
  unfold checkForCycle
  simp only
  split
  · exact Or.inl rfl
  · exact Or.inr ⟨_, rfl, rfl⟩

theorem resolveItems_total (N : Nat) (rec : St → Nat → P → Except Err (St × Option Nat))
    (hrec : ∀ st c p, st.arena.length = N → PostN N (rec st c p)) (path : P) :
    ∀ (items : List Nat) (st : St) (idx : Nat), st.arena.length = N → PostN N (resolveItems rec path st items idx)
  | [], st, idx, hl => hl
  | c :: rest, st, idx, hl => by
    have h1 := hrec st c (path ++ [toString idx]) hl
    unfold resolveItems
    split
    · next hres => rwa [hres] at h1
    · next st1 r hres =>
      rw [hres] at h1
      have h2 := resolveItems_total N rec hrec path rest st1 (idx + 1) h1
      split
      · next hres2 => rwa [hres2] at h2
      · next hres2 => rwa [hres2] at h2

theorem resolveEntries_total (N : Nat) (rec : St → Nat → P → Except Err (St × Option Nat))
    (hrec : ∀ st c p, st.arena.length = N → PostN N (rec st c p)) (path : P) :
    ∀ (entries : List (String × Nat)) (st : St), st.arena.length = N → PostN N (resolveEntries rec path st entries)
  | [], st, hl => hl
  | (key, c) :: rest, st, hl => by
    have h1 := hrec st c (path ++ [key]) hl
    unfold resolveEntries
    split
    · next hres => rwa [hres] at h1
    · next st1 r hres =>
      rw [hres] at h1
      have h2 := resolveEntries_total N rec hrec path rest st1 h1
      split
      · next hres2 => rwa [hres2] at h2
      · next hres2 => rwa [hres2] at h2

theorem resolve_total (N : Nat) : ∀ (fuel : Nat) (st : St) (active : List Nat) (n : Nat) (path : P),
    st.arena.length = N → StackOk N active → 2 * N - active.length < fuel →
    PostN N (resolve fuel st active n path)
  | 0, _, _, _, _, _, _, hf => by omega
  | fuel + 1, st, active, n, path, hl, hs, hf => by
    have ite {c : Prop} [Decidable c] {a b : Except Err (St × Option Nat)} (ha : c → PostN N a) (hb : ¬c → PostN N b) :
        PostN N (if c then a else b) := by
      split
      · exact ha ‹_›
      · exact hb ‹_›
    unfold resolve
    refine ite (fun _ => nofun) fun hc => ?_
    cases hn : st.arena[n]? with
    | none => nofun
    | some node =>
      have hs' := hs.push hc (by have := (List.getElem?_eq_some_iff.mp hn).1; omega)
      have hlen := hs'.length_le
      simp only [List.length_cons] at hlen
      have ih : ∀ st' c p, st'.arena.length = N → PostN N (resolve fuel st' (n :: active) c p) :=
        fun st' c p hl' => resolve_total N fuel st' (n :: active) c p hl' hs' (by simp only [List.length_cons]; omega)
      -- tagged: returned as it is; untagged: the loops, then the kept children are written back (same length)
      cases node with
      | alias t =>
        rcases checkForCycle_spec st t (normPath path) with hck | ⟨st', hck, harena⟩
        · simp only [hck]; nofun
        · simp only [hck]; exact ih st' t _ (harena ▸ hl)
      | scalar tag => exact ite (fun _ => hl) fun _ => ite (fun _ => hl) fun _ => hl
      | seq tag items =>
        refine ite (fun _ => hl) fun _ => ite (fun _ => hl) fun _ => ?_
        have hloop := resolveItems_total N _ ih (normPath path) items st 0 hl
        simp only
        split
        · next h => rwa [h] at hloop
        · next h => rw [h] at hloop; exact (length_setNode ..).trans hloop
      | map tag entries =>
        refine ite (fun _ => hl) fun _ => ite (fun _ => hl) fun _ => ?_
        have hloop := resolveEntries_total N _ ih (normPath path) entries st hl
        simp only
        split
        · next h => rwa [h] at hloop
        · next h => rw [h] at hloop; exact (length_setNode ..).trans hloop

theorem checkAcyclic_total (arena : List Node) (fuel root : Nat) (hf : arena.length < fuel) :
    checkAcyclic arena fuel root ≠ .outOfFuel :=
  Dep.searchCycle_ne_fuel (graphOf arena) fuel [] root (by simp) nofun
    (by simpa [Dep.verts, graphOf] using hf)

end CV.C01.Reset
