/-!
Comparing a computed string with a long string literal in the kernel.  `String.decEq` turns a literal into its UTF-8
byte array through a loop of `push`, quadratic in the length; what is cheap is to check `"lit" = String.ofList cs` (the
kernel expands the literal) and to walk lists.  So a text is first spelled (the elaborator finds `cs` by unification) and
the computed string is compared with it byte list by byte list.
-/
namespace CV.StringLit

def utf8 (s : String) : List UInt8 := s.toByteArray.data.toList

theorem utf8_ofList (cs : List Char) : utf8 (String.ofList cs) = cs.flatMap String.utf8EncodeChar := by
  simp [utf8, List.utf8Encode]

theorem utf8_inj {s t : String} (h : utf8 s = utf8 t) : s = t :=
  String.toByteArray_inj.1 (ByteArray.ext (Array.toList_inj.1 h))

theorem eq_of_spelled {s t : String} {cs : List Char} (ht : t = String.ofList cs)
    (h : utf8 s = cs.flatMap String.utf8EncodeChar) : s = t :=
  ht ▸ utf8_inj (h.trans (utf8_ofList cs).symm)

/-- `Spelled ts cs`: `cs` is the table of texts `ts` with every text written out as its list of characters -/
inductive Spelled : List (String × String) → List (String × List Char) → Prop
  | nil : Spelled [] []
  | cons {ts cs n c} : Spelled ts cs → Spelled ((n, String.ofList c) :: ts) ((n, c) :: cs)

theorem Spelled.eq_of_utf8 {ts cs} (h : Spelled ts cs) : ∀ {ds : List (String × String)},
    ds.map (fun d => (d.1, utf8 d.2)) = cs.map (fun c => (c.1, c.2.flatMap String.utf8EncodeChar)) → ds = ts := by
  induction h with
  | nil => intro ds hb; simpa using hb
  | @cons ts cs n c _ ih =>
    intro ds hb
    cases ds with
    | nil => simp at hb
    | cons d ds =>
      obtain ⟨m, s⟩ := d
      simp only [List.map_cons, List.cons.injEq, Prod.mk.injEq] at hb
      rw [ih hb.2, hb.1.1, eq_of_spelled rfl hb.1.2]

end CV.StringLit
