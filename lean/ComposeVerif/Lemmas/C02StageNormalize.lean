import ComposeVerif.Lemmas.C11Shape
/-! `loader.Normalize` on two models that differ only in the order of the top-level mapping and of the `services` mapping
(`TopPerm`): the shape tests and the pure part see them alike.  Defines `TopPerm`, `NormRel`, which `Props/C02Stages.lean`
mentions. -/
namespace CV.Det.Stage
open CV CV.Val CV.C11

/-- equal lookups: the top-level mapping itself may be ranged in any order -/
structure TopPerm (d' d : KVs) : Prop where
  other : ∀ k, k ≠ "services" → lookup k d' = lookup k d
  services : lookup "services" d' = lookup "services" d ∨
    ∃ s s', lookup "services" d = some (.map s) ∧ lookup "services" d' = some (.map s') ∧ s'.Perm s

variable {d d' : KVs}

theorem uses_eq (h : TopPerm d' d) : usesDefaultNetwork d' = usesDefaultNetwork d := by
  unfold usesDefaultNetwork
  rcases h.services with e | ⟨s, s', hs, hs', hp⟩
  · rw [e]
  · rw [hs, hs']; exact hp.any_eq

theorem nnNetworks_eq (h : TopPerm d' d) : nnNetworks d' = nnNetworks d := by
  unfold nnNetworks declaredNetworks; rw [h.other "networks" (by decide), uses_eq h]

theorem shapeNN_eq (h : TopPerm d' d) : shapeNN d' = shapeNN d := by
  unfold shapeNN
  rw [h.other "networks" (by decide)]
  rcases h.services with e | ⟨s, s', hs, hs', hp⟩
  · rw [e]
  · rw [hs, hs']; simp only []; rw [hp.all_eq]

theorem shapeServices_eq (h : TopPerm d' d) : shapeServices d' = shapeServices d := by
  unfold shapeServices
  rcases h.services with e | ⟨s, s', hs, hs', hp⟩
  · rw [e]
  · rw [hs, hs']; simp only []; rw [hp.all_eq]

theorem shapeNames_eq (h : TopPerm d' d) : shapeNames d' = shapeNames d := by
  unfold shapeNames resourceNames
  simp only [List.all_cons, List.all_nil, shapeSection]
  rw [h.other "networks" (by decide), h.other "volumes" (by decide), h.other "configs" (by decide),
    h.other "secrets" (by decide)]

theorem normalizePure_topPerm (clean : String → String) (env : Env) (h : TopPerm d' d) :
    TopPerm (normalizePure clean env d') (normalizePure clean env d) := by
  have hname : lookup "name" d' = lookup "name" d := h.other "name" (by decide)
  constructor
  · intro k hk
    by_cases hnet : k = "networks"
    · subst hnet
      rw [lookup_networks_normalizePure, lookup_networks_normalizePure, nnNetworks_eq h, hname,
        h.other "networks" (by decide)]
    · rw [lookup_normalizePure clean env d' hnet, lookup_normalizePure clean env d hnet, hname, h.other k hk]
  · rcases h.services with e | ⟨s, s', hs, hs', hp⟩
    · left
      rw [lookup_normalizePure clean env d' (by decide), lookup_normalizePure clean env d (by decide), hname, e]
    · exact .inr ⟨_, _, lookup_services_normalizePure clean env hs, lookup_services_normalizePure clean env hs',
        (hp.map _).map _⟩

def NormRel : Out KVs → Out KVs → Prop
  | .ok r', .ok r => TopPerm r' r
  | .panic s', .panic s => s' = s
  | .err e', .err e => e' = e
  | _, _ => False

theorem normalize_topPerm (clean : String → String) (env : Env) (h : TopPerm d' d) :
    NormRel (normalize clean env d') (normalize clean env d) := by
  unfold normalize
  rw [shapeNN_eq h, shapeServices_eq h, shapeNames_eq h]
  split
  · rfl
  · split
    · rfl
    · split
      · rfl
      · exact normalizePure_topPerm clean env h

end CV.Det.Stage
