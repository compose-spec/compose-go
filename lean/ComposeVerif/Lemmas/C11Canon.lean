import ComposeVerif.Lemmas.C11Walk
import ComposeVerif.Lemmas.C11Norm
/-! The modelled part of `transform.Canonical` (`canonicalLite`: the two transformers with a defaulting half): it rewrites the services mapping and
nothing else (`canonicalLite_eq`), its loops are `mapMKVs` (`canonAttr` per attribute, `canonSvc` per service), and `transformDependsOn` returns — and leaves
alone — exactly the mappings whose entries all carry `condition` and `required` (`CanonDeps`).  The theorems of `Props/C11.lean` and `Props/C11Lift.lean`
about Canonical are built from these; the agreement with C03's model of the same functions is `Lemmas/C11CanonAgree.lean`. -/
namespace CV.C11
open CV CV.Val

/-- the canonical transformer registered for attribute `k` of a service (the two with a defaulting half) -/
def canonAttr (k : String) (v : Val) : Out Val :=
  if k = "depends_on" then transformDependsOn v
  else if k = "env_file" then transformEnvFile v
  else .ok v

theorem canonSvcAttrs_eq_mapM : ∀ s, canonSvcAttrs s = mapMKVs canonAttr s
  | [] => rfl
  | (k, v) :: r => by
    rw [canonSvcAttrs, mapMKVs_cons, ← canonSvcAttrs_eq_mapM r]
    show (match canonAttr k v with | .ok v' => _ | .err e => _ | .panic s => _) = _
    cases canonAttr k v <;> try rfl
    cases canonSvcAttrs r <;> rfl

theorem canonAttr_other {k : String} (h1 : k ≠ "depends_on") (h2 : k ≠ "env_file") (v : Val) : canonAttr k v = .ok v := by
  simp only [canonAttr, h1, h2, if_false]

def canonSvc : Val → Out Val
  | .map s => (canonSvcAttrs s).map .map
  | v => .ok v

theorem canonServices_eq_mapM : ∀ m, canonServices m = mapMKVs (fun _ => canonSvc) m
  | [] => rfl
  | (k, v) :: r => by
    rw [mapMKVs_cons, ← canonServices_eq_mapM r]
    cases v with
    | map s =>
      rw [canonServices, canonSvc]
      cases canonSvcAttrs s <;> try rfl
      cases canonServices r <;> rfl
    | _ => simp only [canonServices, canonSvc]; cases canonServices r <;> rfl

theorem canonSvc_fixed_iff (v : Val) : canonSvc v = .ok v ↔ ∀ s, v = .map s → canonSvcAttrs s = .ok s := by
  cases v with
  | map s =>
    rw [canonSvc, Out.map_eq_ok]
    exact ⟨fun ⟨a, ha, e⟩ s' hs => by cases hs; cases e; exact ha, fun h => ⟨s, h s rfl, rfl⟩⟩
  | _ => exact ⟨fun _ _ hs => (nomatch hs), fun _ => rfl⟩

/-- every entry is a mapping that already has `condition` and `required` -/
def CanonDeps (deps : KVs) : Prop := ∀ kv ∈ deps, ∃ d, kv.2 = .map d ∧ depDefaults d = d

/-- on a mapping `transformDependsOn` is `map depDefaultsV` behind the test that every entry is a mapping, so it returns
its argument iff every entry is a mapping that `depDefaults` leaves alone -/
theorem transformDependsOn_fixed_iff (deps : KVs) :
    transformDependsOn (.map deps) = .ok (.map deps) ↔ CanonDeps deps := by
  simp only [transformDependsOn]
  unfold CanonDeps
  constructor
  · intro h
    by_cases hall : (deps.all fun kv => isMap kv.2) = true
    · simp only [hall, if_true, Out.ok.injEq, Val.map.injEq] at h
      have hp := (mapAt_eq_self_iff (f := fun _ => depDefaultsV)).mp h
      intro kv hkv
      have h1 := hp kv hkv
      have h2 := List.all_eq_true.mp hall kv hkv
      cases hv : kv.2 with
      | map d => rw [hv] at h1; exact ⟨d, rfl, Val.map.inj h1⟩
      | _ => rw [hv] at h2; cases h2
    · simp only [hall] at h
      simp at h
  · intro h
    have hall : (deps.all fun kv => isMap kv.2) = true := by
      apply List.all_eq_true.mpr
      intro kv hkv
      obtain ⟨d, hd, _⟩ := h kv hkv
      rw [hd]; rfl
    simp only [hall, if_true, Out.ok.injEq, Val.map.injEq]
    refine (mapAt_eq_self_iff (f := fun _ => depDefaultsV)).mpr fun kv hkv => ?_
    obtain ⟨d, hd, hdd⟩ := h kv hkv
    rw [hd, depDefaultsV, hdd]

theorem depDefaults_idem (d : KVs) : depDefaults (depDefaults d) = depDefaults d :=
  (fills_setIfAbsent2 "condition" (.str "service_started") "required" (.bool true)).idem d

theorem transformDependsOn_ok_canon {v v' : Val} (h : transformDependsOn v = .ok v') :
    ∃ deps, v' = .map deps ∧ CanonDeps deps := by
  unfold transformDependsOn at h
  split at h
  · split at h
    · rename_i kvs hall
      cases h
      refine ⟨_, rfl, fun kv hkv => ?_⟩
      obtain ⟨kv0, hkv0, rfl⟩ := List.mem_map.mp hkv
      have := List.all_eq_true.mp hall kv0 hkv0
      cases hv : kv0.2 with
      | map d => exact ⟨depDefaults d, by simp only [depDefaultsV], depDefaults_idem d⟩
      | _ => rw [hv] at this; cases this
    · cases h
  · split at h
    · rename_i xs _
      cases h
      refine ⟨_, rfl, ?_⟩
      -- every entry the loop stores is the complete short-form entry
      have inv : ∀ (l : List Val) (acc : KVs), CanonDeps acc →
          CanonDeps (l.foldl (fun acc x => Val.insert (strOf x) shortDep acc) acc) := by
        intro l
        induction l with
        | nil => exact fun _ h => h
        | cons x r ih =>
          refine fun acc hacc => ih _ fun e he => ?_
          rcases mem_insert he with h1 | h1
          · rw [h1]; exact ⟨_, rfl, by simp [depDefaults, setIfAbsent, lookup]⟩
          · exact hacc e h1
      exact inv xs [] nofun
    · cases h
  · cases h

theorem canonicalLite_eq (d : KVs) :
    canonicalLite d =
      match lookup "services" d with
      | some (.map svcs) => (canonServices svcs).map fun s' => .map (Val.insert "services" (.map s') d)
      | _ => .ok (.map d) := by
  unfold canonicalLite
  split
  · rename_i svcs hl; simp only [hl]; cases canonServices svcs <;> rfl
  · rename_i hn
    split
    · exact absurd ‹_› (hn _)
    · rfl

end CV.C11
