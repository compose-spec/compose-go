import ComposeVerif.Lemmas.Merge
/-!
# What one level of `mergeYaml` does with its recursive call

`mergeStep mk e o p` either answers by itself (a value, or one of three error classes) or calls `mk _ b p` and wraps the
result; `b` is the override's own mapping, the override converted by `mergeBuild` / `mergeDependsOn` / `mergeNetworks`,
or a pool of an ipam override (`Arg`).  So any relation between outcomes that holds of the answers (`leaf`) and goes
through `bind` lifts from `mk` to `mergeStep mk` (`mergeStep_lift`): this is how "never panics", "more fuel changes
nothing" and "never the error class `circular`" get from one level of the merge to the next.
-/
namespace CV.Merge
open CV CV.Val

def isConv (r : Rule) : Bool := r == .build || r == .dependsOn || r == .networks

/-- the conversion a converting merger applies to both sides -/
def convOf : Rule → Val → Out KVs
  | .build => toBuild
  | .dependsOn => intoMap dependsOnDefault
  | _ => intoMap .null

/-- the mappings `mergeStep mk e o p` hands to `mk` as the override -/
inductive Arg (o : Val) (p : TPath) (b : KVs) : Prop
  | self (h : o = .map b)
  | conv (r : Rule) (hr : ruleAt p = some r) (hc : isConv r = true) (h : convOf r o = .ok b)
  | pool (other : List KVs) (h : ipamPools o = .ok other) (hb : b ∈ other)

/-- an outcome a merger produces by itself -/
def IsLeaf {α : Type} : Out α → Prop
  | .ok _ => True
  | .err e => e = "cannotOverride" ∨ e = "unexpectedType" ∨ e = "unknown-merger"
  | .panic _ => False

theorem IsLeaf.bind {α β : Type} {x : Out α} {f : α → Out β} (hx : IsLeaf x) (hf : ∀ a, IsLeaf (f a)) : IsLeaf (x.bind f) := by
  cases x with
  | ok a => exact hf a
  | err e => exact hx
  | panic s => exact hx

theorem listIntoMap_leaf (d : Val) : ∀ (xs : List Val) (acc : KVs), IsLeaf (listIntoMap d xs acc)
  | [], _ => trivial
  | x :: r, acc => by
    cases x <;> first | exact listIntoMap_leaf d r _ | exact .inr (.inl rfl)

theorem intoMap_leaf (d v : Val) : IsLeaf (intoMap d v) := by
  cases v <;> first | exact listIntoMap_leaf d _ _ | trivial | exact .inl rfl

theorem toBuild_leaf (v : Val) : IsLeaf (toBuild v) := by
  cases v <;> first | trivial | exact .inl rfl

theorem convOf_leaf (r : Rule) (v : Val) : IsLeaf (convOf r v) := by
  cases r <;> first | exact toBuild_leaf v | exact intoMap_leaf _ v

theorem poolsOf_leaf : ∀ xs : List Val, IsLeaf (poolsOf xs)
  | [] => trivial
  | x :: r => (intoMap_leaf _ x).bind fun _ => (poolsOf_leaf r).bind fun _ => trivial

theorem ipamPools_leaf (v : Val) : IsLeaf (ipamPools v) := by
  cases v <;> first | exact poolsOf_leaf _ | trivial | exact .inl rfl

section Lift
variable {R : ∀ {α : Type}, Out α → Out α → Prop}
  (leaf : ∀ {α : Type} {x : Out α}, IsLeaf x → R x x)
  (bind : ∀ {α β : Type} {x x' : Out α} {f f' : α → Out β},
    R x x' → (∀ a, x = .ok a → R (f a) (f' a)) → R (x.bind f) (x'.bind f'))
include leaf bind

theorem mergeKVsWith_lift {f g : Val → Val → TPath → Out Val} (p : TPath) : ∀ (b a : KVs),
    (∀ kv ∈ b, ∀ e, R (f e kv.2 (next p kv.1)) (g e kv.2 (next p kv.1))) → R (mergeKVsWith f a b p) (mergeKVsWith g a b p)
  | [], _, _ => leaf trivial
  | (k, v) :: r, a, h => by
    have ih := fun a => mergeKVsWith_lift p r a fun kv hkv => h kv (List.mem_cons_of_mem _ hkv)
    simp only [mergeKVsWith]
    cases lookup k a with
    | none => exact ih _
    | some e =>
      simp only
      split
      · exact ih _
      · exact bind (h (k, v) List.mem_cons_self e) fun m _ => ih _

theorem ipamFold_lift {mk mk' : KVs → KVs → TPath → Out KVs} (p : TPath) : ∀ (lefts cfgs : List KVs),
    (∀ left ∈ lefts, ∀ a, R (mk a left p) (mk' a left p)) → R (ipamFold mk cfgs lefts p) (ipamFold mk' cfgs lefts p)
  | [], _, _ => leaf trivial
  | left :: rest, cfgs, h => by
    have ih := fun cfgs => ipamFold_lift p rest cfgs fun l hl => h l (List.mem_cons_of_mem _ hl)
    simp only [ipamFold]
    cases ipamIndex (subnetOf left) cfgs 0 with
    | none => exact ih _
    | some i => exact bind (h left List.mem_cons_self _) fun m _ => ih _

theorem mergeStep_lift {mk mk' : KVs → KVs → TPath → Out KVs} (e o : Val) (p : TPath)
    (h : ∀ a b, Arg o p b → R (mk a b p) (mk' a b p)) : R (mergeStep mk e o p) (mergeStep mk' e o p) := by
  have call : ∀ a b, Arg o p b → R ((mk a b p).bind fun m => .ok (Val.map m)) ((mk' a b p).bind fun m => .ok (Val.map m)) :=
    fun a b hb => bind (h a b hb) fun _ _ => leaf trivial
  unfold mergeStep
  cases hr : ruleAt p with
  | none =>
    simp only [defaultStep]
    split
    · exact leaf trivial
    · split
      · exact call _ _ (.self rfl)
      all_goals first | exact leaf trivial | exact leaf (.inl rfl)
  | some r =>
    have conv : isConv r = true → R (convMerge mk (convOf r) e o p) (convMerge mk' (convOf r) e o p) := fun hc =>
      bind (leaf (convOf_leaf r e)) fun a _ => bind (leaf (convOf_leaf r o)) fun b hb => call a b (.conv r hr hc hb)
    cases r with
    | toSeq | override | extraHosts => exact leaf trivial
    | unknown => exact leaf (.inr (.inr rfl))
    | dependsOn | networks | build => exact conv rfl
    | ipam =>
      exact bind (leaf (ipamPools_leaf e)) fun base _ => bind (leaf (ipamPools_leaf o)) fun other ho =>
        bind (ipamFold_lift leaf bind p other base fun left hl a => h a left (.pool other ho hl)) fun _ _ => leaf trivial
    | ulimit =>
      simp only [specialStep]
      split
      · exact call _ _ (.self rfl)
      · exact leaf trivial
    | logging =>
      simp only [specialStep, loggingStep]
      split
      · exact leaf trivial
      · exact leaf trivial
      · split
        · exact call _ _ (.self rfl)
        · exact leaf trivial
      · exact leaf (.inl rfl)

end Lift
end CV.Merge
