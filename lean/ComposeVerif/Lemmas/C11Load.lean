import ComposeVerif.Lemmas.Pipeline
import ComposeVerif.Lemmas.C11Walk
/-! The two places where the composed loader (`Model/Pipeline.lean`) calls this property's stages, past their guards: the tail of `load` is `Normalize` on the
model with `name` forced (`named`, `finishLoad_eq`, `finishLoad_ok_ne`), the error-class adapter `ofC11` keeps successes (`ofC11_eq_ok`), and
`SetDefaultValues` returns a mapping for a mapping (`setDefaultValues_ok_map`).  They need the walker's lemmas and the loader's, so they sit above both. -/
namespace CV.C11.Whole
open CV CV.Val CV.C11 CV.Pipeline

/-- the model `Normalize` receives in `load`: the merged model with `name` forced -/
def named (c : Cfg) (dict : KVs) : KVs := insert "name" (.str c.projectName) dict

theorem ofC11_eq_ok {α : Type} {st : String} {r : C11.Out α} {a : α} : ofC11 st r = .ok a ↔ r = .ok a := by
  cases r <;> simp [ofC11]

/-- the walker's result `Extends` its argument, so it is a mapping when that is -/
theorem setDefaultValues_ok_map {tbl : List (List String × String)} {d : KVs} {v : Val}
    (h : setDefaultValues tbl d = .ok v) : ∃ d', v = .map d' := by
  have := setDefaults_extends _ _ _ _ h
  cases v <;> simp [Extends] at this
  exact ⟨_, rfl⟩

theorem finishLoad_eq (c : Cfg) {dict : KVs} (hd : dict ≠ []) :
    finishLoad c dict =
      if c.projectName = "" then .err "name"
      else if c.opts.skipNormalization then .ok dict
      else ofC11 "normalize" (normalize c.clean c.env (named c dict)) := by
  cases dict with
  | nil => exact absurd rfl hd
  | cons x r => rfl

theorem finishLoad_ok_ne (c : Cfg) {dict e : KVs} (h : finishLoad c dict = .ok e) : dict ≠ [] ∧ c.projectName ≠ "" := by
  have hd : dict ≠ [] := by rintro rfl; cases h
  rw [finishLoad_eq c hd] at h
  exact ⟨hd, fun hp => by rw [if_pos hp] at h; cases h⟩

end CV.C11.Whole
