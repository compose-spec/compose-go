import ComposeVerif.Lemmas.MapOrderAssoc
/-! `mergeMappings` for an abstract per-key combiner (`mergeKVs`, `mergeKVsE`, `mergeGenericKVs` of `Model/MapOrder.lean`):
what is stored under a key depends on that key's entries alone, so the loop is `Assoc.insertAll` of a list computed from the
map as it was before the loop (`mergeKVs_eq`). -/
namespace CV.Det
open CV CV.Val

variable {α β ε : Type}

def entryVal (f : String → Val → Val → Val) (a : KVs) (k : String) (v : Val) : Val :=
  match find k a with
  | none => v
  | some e => f k e v

theorem mergeKVs_cons (f : String → Val → Val → Val) (a : KVs) (k : String) (v : Val) (r : KVs) :
    mergeKVs f a ((k, v) :: r) = mergeKVs f (put k (entryVal f a k v) a) r := by
  simp only [mergeKVs, entryVal]; cases find k a <;> rfl

theorem entryVal_put_ne (f : String → Val → Val → Val) (a : KVs) {k k' : String} (h : k ≠ k') (w v : Val) :
    entryVal f (put k' w a) k v = entryVal f a k v := by
  simp only [entryVal, find_put_ne h]

theorem mergeKVs_eq (f : String → Val → Val → Val) : ∀ (b a : KVs), (akeys b).Nodup →
    mergeKVs f a b = Assoc.insertAll (b.map fun kv => (kv.1, entryVal f a kv.1 kv.2)) a
  | [], _, _ => rfl
  | (k, v) :: r, a, hn => by
    have hn' : k ∉ akeys r ∧ (akeys r).Nodup := by simpa only [akeys, List.map_cons, List.nodup_cons] using hn
    rw [mergeKVs_cons, mergeKVs_eq f r _ hn'.2, List.map_cons, Assoc.insertAll_cons, put_eq]
    congr 1
    refine List.map_congr_left fun kv hkv => ?_
    rw [← put_eq, entryVal_put_ne]
    rintro rfl
    exact hn'.1 (List.mem_map.mpr ⟨_, hkv, rfl⟩)

theorem find_mergeKVs (f : String → Val → Val → Val) (a b : KVs) (hb : (akeys b).Nodup) (k : String) :
    find k (mergeKVs f a b) =
      match find k a, find k b with
      | some x, some y => some (f k x y)
      | some x, none => some x
      | none, some y => some y
      | none, none => none := by
  rw [mergeKVs_eq f b a hb, find_eq, Assoc.lookup_insertAll _ (by rwa [← akeys_map_entries (entryVal f a) b] at hb),
    ← find_eq, ← find_eq, find_map_entries]
  unfold entryVal
  cases find k a <;> cases find k b <;> rfl

theorem mergeKVs_perm' (f : String → Val → Val → Val) (a b b' : KVs) (hb : (akeys b).Nodup) (hp : b'.Perm b)
    (k : String) : find k (mergeKVs f a b') = find k (mergeKVs f a b) := by
  have hb' : (akeys b').Nodup := (hp.map Prod.fst).nodup_iff.mpr hb
  rw [find_mergeKVs f a b' hb' k, find_mergeKVs f a b hb k, find_perm hb hp k]

def entryOk {ε : Type} (f : String → Val → Val → Except ε Val) (a : KVs) (kv : String × Val) : Bool :=
  match find kv.1 a with
  | none => true
  | some e => (f kv.1 e kv.2).toBool

theorem entryOk_put {ε : Type} (f : String → Val → Val → Except ε Val) (a : KVs) (k : String) (v : Val)
    (kv : String × Val) (h : kv.1 ≠ k) : entryOk f (put k v a) kv = entryOk f a kv := by
  simp only [entryOk, find_put_ne h]

theorem all_entryOk_put {ε : Type} (f : String → Val → Val → Except ε Val) (a : KVs) (k : String) (v : Val)
    (r : KVs) (h : k ∉ akeys r) : r.all (entryOk f (put k v a)) = r.all (entryOk f a) := by
  induction r with
  | nil => rfl
  | cons x xs ih =>
    simp only [akeys, List.map_cons, List.mem_cons, not_or] at h
    simp only [List.all_cons]
    rw [entryOk_put f a k v x (fun e => h.1 e.symm), ih h.2]

theorem mergeKVsE_ok_iff {ε : Type} (f : String → Val → Val → Except ε Val) (a b : KVs) (hb : (akeys b).Nodup) :
    (mergeKVsE f a b).toBool = b.all (entryOk f a) := by
  induction b generalizing a with
  | nil => simp [mergeKVsE, Except.toBool]
  | cons hd tl ih =>
    obtain ⟨k, v⟩ := hd
    simp only [akeys, List.map_cons, List.nodup_cons] at hb
    simp only [mergeKVsE, List.all_cons]
    cases ha : find k a with
    | none =>
      simp only [entryOk, ha, Bool.true_and]
      rw [ih _ hb.2]
      exact all_entryOk_put f a k v tl hb.1
    | some e =>
      simp only [entryOk, ha]
      cases hf : f k e v with
      | error x => simp [Except.toBool]
      | ok m =>
        have h1 := ih (put k m a) hb.2
        simp only [Except.toBool, Bool.true_and] at h1 ⊢
        rw [h1]
        exact all_entryOk_put f a k m tl hb.1

theorem mergeKVsE_eq_pure {ε : Type} (f : String → Val → Val → Except ε Val) (g : String → Val → Val → Val)
    (hg : ∀ k e v m, f k e v = .ok m → g k e v = m) (a b : KVs) (m : KVs)
    (h : mergeKVsE f a b = .ok m) : m = mergeKVs g a b := by
  induction b generalizing a with
  | nil => simp only [mergeKVsE] at h; cases h; rfl
  | cons hd tl ih =>
    obtain ⟨k, v⟩ := hd
    simp only [mergeKVsE] at h
    rw [mergeKVs_cons, entryVal]
    cases ha : find k a with
    | none => simp only [ha] at h; exact ih _ h
    | some e =>
      simp only [ha] at h
      cases hf : f k e v with
      | error x => simp [hf] at h
      | ok m' => simp only [hf] at h; simp only [hg k e v m' hf]; exact ih _ h

def genericCombiner (k : String) (e v : Val) : Except Unit Val :=
  if isExtKey k then .ok v else mergeGeneric e v

theorem mergeGenericKVs_eq (a b : KVs) : mergeGenericKVs a b = mergeKVsE genericCombiner a b := by
  induction b generalizing a with
  | nil => simp [mergeGenericKVs, mergeKVsE]
  | cons hd tl ih =>
    obtain ⟨k, v⟩ := hd
    rw [mergeGenericKVs, mergeKVsE]
    cases ha : find k a with
    | none => simp only []; exact ih _
    | some e =>
      simp only [genericCombiner]
      by_cases hx : isExtKey k = true
      · simp only [hx, if_true]; exact ih _
      · simp only [hx, Bool.false_eq_true, if_false]
        cases mergeGeneric e v with
        | error x => rfl
        | ok m => simp only []; exact ih _

end CV.Det
