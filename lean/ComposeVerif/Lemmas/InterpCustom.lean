import ComposeVerif.Model.InterpCustom
import ComposeVerif.Spec.Interp
/-! The casters read every text that yaml.v3 resolves as an integer (`parseInt_of_yamlInt`); on canonical
decimal numerals the base-0 reading of the casters and the decimal reading (the casters before `fix:` 3a17a23, `DeviceCount`'s
own decoder) coincide. -/
namespace CV.Interp

theorem parseInt_of_yamlInt {s : String} {i : Int} (h : yamlInt s = some i) : parseInt s = some i := by
  unfold yamlInt at h
  unfold parseInt
  split at h
  · split at h
    · rw [h]
    · cases h
  · cases h

theorem digitOf_digit (c : Char) (h : c.isDigit = true) : digitOf c = some (digitVal c) ∧ digitVal c < 10 := by
  simp only [digitOf, h, if_true, digitVal, true_and]
  simp only [Char.isDigit, Bool.and_eq_true, decide_eq_true_eq] at h
  have h1 : '0'.toNat ≤ c.toNat := h.1
  have h2 : c.toNat ≤ '9'.toNat := h.2
  have : '0'.toNat = 48 := by decide
  have : '9'.toNat = 57 := by decide
  omega

theorem digitsVal_digits (ds : List Char) (a : Nat) (h : allDigits ds = true) :
    digitsVal 10 ds a = some (ds.foldl (fun n c => 10 * n + digitVal c) a) := by
  induction ds generalizing a with
  | nil => rfl
  | cons c cs ih =>
    simp only [allDigits, List.all_cons, Bool.and_eq_true] at h
    obtain ⟨hd, hlt⟩ := digitOf_digit c h.1
    simp only [digitsVal, hd, hlt, if_true, List.foldl_cons]
    exact ih _ (by simpa [allDigits] using h.2)

theorem strip_digits (ds : List Char) (h : allDigits ds = true) : stripUnderscores ds = ds := by
  unfold stripUnderscores
  rw [List.filter_eq_self]
  intro c hc
  simp only [allDigits, List.all_eq_true] at h
  have := h c hc
  simp only [bne_iff_ne, ne_eq]
  intro e; subst e; revert this; decide

/-- base 0 on a canonical numeral is base 10: no prefix, and a leading zero only for `0` itself -/
theorem parseUint0_canonical (ds : List Char) (h : CanonicalDecimal ds) :
    parseUint0 ds = if natOfDigits ds < 18446744073709551616 then some (natOfDigits ds) else none := by
  obtain ⟨hall, c, cs, rfl, h0⟩ := h
  by_cases hc : c = '0'
  · subst hc; rw [h0 rfl]; rfl
  · have hdef : parseUint0 (c :: cs) = parseUintBase 10 (c :: cs) := by
      -- every clause of `parseUint0` but the last needs an empty text or a leading `0`
      unfold parseUint0
      split <;> first | rfl | (rename_i heq; cases heq; try exact absurd rfl hc)
    simp only [hdef, parseUintBase, List.isEmpty_cons, Bool.false_eq_true, if_false, digitsVal_digits _ 0 hall]
    rfl

theorem head_digit_not_sign (c : Char) (h : c.isDigit = true) : c ≠ '+' ∧ c ≠ '-' := by
  constructor <;> (intro e; subst e; revert h; decide)

theorem yamlIntCore_canonical (ds : List Char) (h : CanonicalDecimal ds) : yamlIntCore ds = parseIntDecimal ds := by
  have hu := parseUint0_canonical ds h
  obtain ⟨hall, c, cs, rfl, h0⟩ := h
  obtain ⟨hp, hm⟩ := head_digit_not_sign c (by simp only [allDigits, List.all_cons, Bool.and_eq_true] at hall; exact hall.1)
  -- both readers: no sign, then the range of int64
  have h1 : parseInt0 (c :: cs) =
      if natOfDigits (c :: cs) ≤ 9223372036854775807 then some (natOfDigits (c :: cs) : Int) else none := by
    unfold parseInt0 signed
    split
    · rename_i heq; cases heq
    · rename_i heq; cases heq; exact absurd rfl hp
    · rename_i heq; cases heq; exact absurd rfl hm
    · by_cases hlt : natOfDigits (c :: cs) < 18446744073709551616
      · simp only [hu, hlt, if_true, Bool.false_eq_true, if_false]
      · simp only [hu, hlt, if_false]; rw [if_neg (by omega)]
  have h2 : parseIntDecimal (c :: cs) =
      if natOfDigits (c :: cs) ≤ 9223372036854775807 then some (natOfDigits (c :: cs) : Int) else none := by
    unfold parseIntDecimal
    split
    · rename_i heq; cases heq; exact absurd rfl hp
    · rename_i heq; cases heq; exact absurd rfl hm
    · simp only [List.isEmpty_cons, hall, Bool.not_true, Bool.or_self, Bool.false_eq_true, if_false]
  -- the prefix branches of `yamlIntCore` need `0b…`, `0o…` or a sign
  unfold yamlIntCore
  rw [h1, h2]
  split
  · rename_i heq; rw [heq]
  · rename_i heq; rw [heq]
    split <;> first | rfl | (rename_i heq; cases heq; first | exact absurd rfl hm | cases h0 rfl)

end CV.Interp
