import ComposeVerif.Lemmas.HeapProg
import ComposeVerif.Spec.Heap
import ComposeVerif.Model.HeapVisit
/-! C14, the `withServices` walk (`Model/HeapVisit.lean`): its invariant `VInv`, one lemma per primitive of the walk
(`markSeen_inv`, `depsFor_inv`, `handOut_inv`), `walk_inv`, and the readout for the entry point, `forEachService_inv`. -/
namespace CV.Heap.Visit
open CV.Heap CV.Heap.Deriv

/-- what holds of every state of a walk over receiver `p` whose memory lies below `n`:
the maps the walk writes to were allocated since `n`; every write goes through such an address; every value handed to the
visitor lies in `[n, next)`, is well typed, and is deep-equal to the service of that name in the receiver; the values
handed out are pairwise isolated.  Unlike `Confined`, `log` says nothing of the cells stored: `dependentStores` stores
`ServiceDependency` values read from the receiver into the fresh `dependent` map, which is never handed out -/
structure VInv (t : Ty) (n seenA : Nat) (p : GoVal) (st : VSt) : Prop where
  lo : n ≤ seenA ∧ n ≤ st.next
  log : ∀ w ∈ st.log, n ≤ w.1
  out : ∀ e ∈ st.out, In n st.next e.2 ∧ hasTy t e.2 = true ∧
          ∃ s a, kidOf (.str e.1) (kidsOf (getFld fServices p)) = some s ∧ DeepEq e.2 (.ptr a s)
  pw : List.Pairwise (fun a b : String × GoVal => Isolated a.2 b.2) st.out

theorem VInv.err {t : Ty} {n seenA : Nat} {p : GoVal} {st : VSt} (h : VInv t n seenA p st) (e : Option String) :
    VInv t n seenA p { st with err := e } :=
  ⟨h.lo, h.log, h.out, h.pw⟩

theorem markSeen_inv {t : Ty} {n seenA : Nat} {p : GoVal} {st : VSt} (name : String) (h : VInv t n seenA p st) :
    VInv t n seenA p (markSeen seenA name st) := by
  refine ⟨h.lo, ?_, h.out, h.pw⟩
  intro w hw
  simp only [markSeen, List.mem_append, List.mem_singleton] at hw
  rcases hw with hw | rfl
  · exact h.log w hw
  · exact h.lo.1

theorem dependentStores_log (a : Nat) (target : String) (l : List (String × GoVal))
    (acc : List (Key × GoVal) × List (Nat × Cell)) (w : Nat × Cell)
    (hw : w ∈ (dependentStores a target l acc).2) : w ∈ acc.2 ∨ w.1 = a := by
  fun_induction dependentStores a target l acc
  case case1 => exact .inl hw
  case case2 ih =>
    rcases ih hw with h | h
    · exact (List.mem_append.mp h).imp_right fun h' => congrArg Prod.fst (List.mem_singleton.mp h')
    · exact .inr h
  case case3 ih => exact ih hw

theorem depsFor_inv {t : Ty} {n seenA : Nat} {p : GoVal} {st : VSt} (policy : String) (svc : GoVal)
    (h : VInv t n seenA p st) : VInv t n seenA p (depsFor p policy svc st).2 := by
  unfold depsFor
  split
  · refine ⟨⟨h.lo.1, Nat.le_succ_of_le h.lo.2⟩, fun w hw => ?_, fun e he => ?_, h.pw⟩
    · rcases List.mem_append.mp hw with hw | hw
      · exact h.log w hw
      · rcases dependentStores_log _ _ _ _ w hw with h1 | h1
        · cases h1
        · rw [h1]; exact h.lo.2
    · obtain ⟨h1, h2, h3⟩ := h.out e he
      exact ⟨h1.mono (Nat.le_succ _), h2, h3⟩
  · split <;> exact h

theorem addrs_service {p svc : GoVal} {name : String} (hs : kidOf (.str name) (kidsOf (getFld fServices p)) = some svc)
    (a : Nat) (ha : a ∈ addrs svc) : a ∈ addrs p := by
  apply addrs_getFld fServices p a
  generalize getFld fServices p = m at hs
  cases m with
  | map b ks =>
    simp only [kidsOf] at hs
    simp only [addrs, List.mem_cons]
    exact Or.inr (addrs_kidOf hs ha)
  | _ => simp [kidsOf, kidOf] at hs

theorem handOut_inv {t : Ty} {plan : Plan} {n seenA : Nat} {p : GoVal} {st : VSt} (name : String) (svc : GoVal)
    (hd : deep t plan = true) (hc : covers t plan = true)
    (hs : kidOf (.str name) (kidsOf (getFld fServices p)) = some svc)
    (h : VInv t n seenA p st) : VInv t n seenA p (handOut t plan name svc st) := by
  by_cases ht : hasTy t (.ptr st.next svc) = true
  case neg =>
    simp only [handOut, ht]
    exact h.err _
  case pos =>
    simp only [handOut, ht, if_true]
    have hf := exec_fresh (.ptr st.next svc) plan t (st.next + 1) ht hd
    have hle : st.next ≤ (exec plan (.ptr st.next svc) (st.next + 1)).2 := Nat.le_of_succ_le hf.1
    refine ⟨⟨h.lo.1, Nat.le_trans h.lo.2 hle⟩, h.log, fun e he => ?_, ?_⟩
    · rcases List.mem_append.mp he with he | he
      · obtain ⟨h1, h2, h3⟩ := h.out e he
        exact ⟨h1.mono hle, h2, h3⟩
      · rw [List.mem_singleton.mp he]
        refine ⟨fun a ha => ⟨?_, (hf.2 a ha).2⟩, exec_hasTy _ plan t _ ht hc, svc, st.next, hs, exec_erase _ plan t _ ht hc⟩
        have := (hf.2 a ha).1; have := h.lo; omega
    · refine List.pairwise_append.mpr ⟨h.pw, List.pairwise_singleton .., fun e he e' he' a ha ha' => ?_⟩
      rw [List.mem_singleton.mp he'] at ha'
      have := ((h.out e he).1 a ha).2
      have := (hf.2 a ha').1
      omega

theorem seededDelete_false (name : String) (deps : GoVal) (st : VSt) : seededDelete false name deps st = st := rfl

/-- the code in the tree is `del = false`.  Induction along `walk`: seven of its nine branches return the state (with or
without an error) or only recurse, the two that visit a service go through the primitives -/
theorem walk_inv {t : Ty} {plan : Plan} {n seenA : Nat} {p : GoVal} (policy : String)
    (hd : deep t plan = true) (hc : covers t plan = true)
    (fuel : Nat) (names : List String) (deps : GoVal) (st : VSt) (h : VInv t n seenA p st) :
    VInv t n seenA p (walk t plan p seenA policy false fuel names deps st) := by
  fun_induction walk t plan p seenA policy false fuel names deps st
  case case8 name _ _ st _ svc hs _ r st3 _ ih =>
    have h2 : VInv t n seenA p r.2 := depsFor_inv policy svc (markSeen_inv name h)
    unfold st3; split
    · exact h2
    · exact ih h2
  case case9 name _ _ st _ svc hs _ r st3 _ ih2 ih1 =>
    have h2 : VInv t n seenA p r.2 := depsFor_inv policy svc (markSeen_inv name h)
    refine ih1 (handOut_inv name svc hd hc hs ?_)
    unfold st3; split
    · exact h2
    · exact ih2 h2
  all_goals first
    | exact h
    | exact h.err _
    | (rename_i ih; exact ih h)

theorem forEachService_inv {t : Ty} {plan : Plan} (hd : deep t plan = true) (hc : covers t plan = true)
    (p : GoVal) (policy : String) (names : List String) (n : Nat) :
    VInv t n n p (forEachService t plan p policy false names n) :=
  walk_inv policy hd hc _ _ _ _ ⟨⟨Nat.le_refl n, Nat.le_add_right n 2⟩, nofun, nofun, .nil⟩

end CV.Heap.Visit
