import ComposeVerif.Spec.ShortShell
/-! lemmas for `Props/C03Shell.lean`: the loop of `shellwords.Parse` on the segments of the shell-words grammar -/
namespace CV.Short
open CV CV.Short.Spec

/-- the state outside every quote -/
abbrev shN (a : List Str) (b : Str) (g : Got) : Sh := { args := a, buf := b, got := g }

theorem shStep_ordinary (s : Sh) (c : Char) (he : s.esc = false) (h : ordinary c = true) :
    shStep s c = .cont (s.push c) := by
  simp only [ordinary, Bool.and_eq_true, Bool.not_eq_true', decide_eq_true_eq, and_assoc] at h
  obtain ⟨h1, h2, h3, h4, h5, h6, h7, h8⟩ := h
  simp [shStep, he, h1, h2, h3, h4, h5, h6, h7, h8]

theorem shLoop_plain (rest : Str) : ∀ (p : Str) (a : List Str) (b : Str) (g : Got), p ≠ [] → p.all ordinary = true →
    shLoop (shN a b g) (p ++ rest) = shLoop (shN a (b ++ p) .single) rest
  | [], _, _, _, h, _ => absurd rfl h
  | [c], a, b, g, _, ho => by
    simp only [List.all_cons, List.all_nil, Bool.and_true] at ho
    have hs : shStep (shN a b g) c = .cont ((shN a b g).push c) := shStep_ordinary _ c rfl ho
    simp only [List.cons_append, List.nil_append, shLoop, hs, Sh.push]
  | c :: d :: p, a, b, g, _, ho => by
    simp only [List.all_cons, Bool.and_eq_true] at ho
    have ih := shLoop_plain rest (d :: p) a (b ++ [c]) .single (by simp) (by simp [ho.2])
    have hs : shStep (shN a b g) c = .cont ((shN a b g).push c) := shStep_ordinary _ c rfl ho.1
    rw [List.cons_append, shLoop, hs]
    simp only [Sh.push]
    rw [ih]
    simp

theorem shLoop_esc (rest : Str) (c : Char) (a : List Str) (b : Str) (g : Got) :
    shLoop (shN a b g) ('\\' :: c :: rest) = shLoop (shN a (b ++ [c]) .single) rest := by
  simp [shLoop, shStep]

/-- inside single quotes every character but `'` is appended -/
theorem shStep_sq (a : List Str) (b : Str) (g : Got) (c : Char) (h : c ≠ '\'') :
    ∃ g', shStep { args := a, buf := b, got := g, sq := true } c = .cont { args := a, buf := b ++ [c], got := g', sq := true } := by
  unfold shStep
  simp only [Bool.false_eq_true, if_false]
  by_cases h1 : c = '\\'
  · exact ⟨g, by simp [h1]⟩
  by_cases h2 : shIsSpace c = true
  · exact ⟨g, by simp [h1, h2]⟩
  · refine ⟨.single, ?_⟩
    -- with `sq` set every remaining branch of `shStep` pushes `c`
    simp [h1, h2, h, Sh.push]

theorem shLoop_sq (rest : Str) : ∀ (t : Str) (a : List Str) (b : Str) (g : Got), t.all (· ≠ '\'') = true →
    shLoop { args := a, buf := b, got := g, sq := true } (t ++ '\'' :: rest) = shLoop (shN a (b ++ t) .quoted) rest
  | [], a, b, g, _ => by
    have : shIsSpace '\'' = false := by decide
    simp [shLoop, shStep, this]
  | c :: t, a, b, g, h => by
    simp only [List.all_cons, Bool.and_eq_true, decide_eq_true_eq] at h
    obtain ⟨g', hs⟩ := shStep_sq a b g c h.1
    have ih := shLoop_sq rest t a (b ++ [c]) g' (by simpa using h.2)
    simp only [List.cons_append, shLoop, hs]
    simpa using ih

theorem shLoop_sq_open : ∀ (t : Str) (a : List Str) (b : Str) (g : Got), t.all (· ≠ '\'') = true →
    ∃ b' g', shLoop { args := a, buf := b, got := g, sq := true } t = some { args := a, buf := b', got := g', sq := true }
  | [], a, b, g, _ => ⟨b, g, rfl⟩
  | c :: t, a, b, g, h => by
    simp only [List.all_cons, Bool.and_eq_true, decide_eq_true_eq] at h
    obtain ⟨g', hs⟩ := shStep_sq a b g c h.1
    obtain ⟨b2, g2, e⟩ := shLoop_sq_open t a (b ++ [c]) g' (by simpa using h.2)
    exact ⟨b2, g2, by simp only [shLoop, hs, e]⟩

/-- inside double quotes every character but `"` and `\` is appended -/
theorem shStep_dq (a : List Str) (b : Str) (g : Got) (c : Char) (h : c ≠ '"') (hb : c ≠ '\\') :
    ∃ g', shStep { args := a, buf := b, got := g, dq := true } c = .cont { args := a, buf := b ++ [c], got := g', dq := true } := by
  unfold shStep
  simp only [Bool.false_eq_true, if_false]
  by_cases h2 : shIsSpace c = true
  · exact ⟨g, by simp [hb, h2]⟩
  · refine ⟨.single, ?_⟩
    -- with `dq` set every remaining branch of `shStep` pushes `c`
    simp [hb, h2, h, Sh.push]

theorem dqWf_cons {c : Char} {r : Str} (hc : c ≠ '\\') : dqWf (c :: r) = (decide (c ≠ '\\') && decide (c ≠ '"') && dqWf r) := by
  rw [dqWf]
  intro c' r' h
  exact fun _ => hc h

theorem dqValue_cons {c : Char} {r : Str} (hc : c ≠ '\\') : dqValue (c :: r) = c :: dqValue r := by
  rw [dqValue]
  intro c' r' h
  exact fun _ => hc h

/-- the text between double quotes: escapes and plain characters, then the closing quote -/
theorem shLoop_dq (rest : Str) : ∀ (n : Nat) (t : Str), t.length ≤ n → ∀ (a : List Str) (b : Str) (g : Got), dqWf t = true →
    shLoop { args := a, buf := b, got := g, dq := true } (t ++ '"' :: rest) = shLoop (shN a (b ++ dqValue t) .quoted) rest
  | _, [], _, a, b, g, _ => by
    have : shIsSpace '"' = false := by decide
    simp [shLoop, shStep, this, dqValue]
  | 0, _ :: _, hl, _, _, _, _ => by simp at hl
  | n + 1, c :: r, hl, a, b, g, h => by
    by_cases hc : c = '\\'
    · subst hc
      cases r with
      | nil => simp [dqWf] at h
      | cons d r' =>
        have h' : dqWf r' = true := by simpa [dqWf] using h
        have ih := shLoop_dq rest n r' (by simp at hl; omega) a (b ++ [d]) .single h'
        have s1 : shStep { args := a, buf := b, got := g, dq := true } '\\' = .cont { args := a, buf := b, got := g, dq := true, esc := true } := by
          simp [shStep]
        have s2 : shStep { args := a, buf := b, got := g, dq := true, esc := true } d = .cont { args := a, buf := b ++ [d], got := .single, dq := true } := by
          simp [shStep]
        simp only [List.cons_append, shLoop, s1, s2, ih, dqValue]
        simp
    · rw [dqWf_cons hc] at h
      simp only [Bool.and_eq_true, decide_eq_true_eq] at h
      obtain ⟨g', hs⟩ := shStep_dq a b g c h.1.2 hc
      have ih := shLoop_dq rest n r (by simp at hl; omega) a (b ++ [c]) g' h.2
      simp only [List.cons_append, shLoop, hs, ih, dqValue_cons hc]
      simp

/-- one well-formed segment outside quotes: its value is appended to the buffer and an argument is under way -/
theorem shLoop_seg (rest : Str) (sg : ShSeg) (h : sg.wf = true) (a : List Str) (b : Str) (g : Got) :
    ∃ g', g' ≠ Got.no ∧ shLoop (shN a b g) (sg.render ++ rest) = shLoop (shN a (b ++ sg.value) g') rest := by
  cases sg with
  | plain p =>
    simp only [ShSeg.wf, Bool.and_eq_true, decide_eq_true_eq] at h
    exact ⟨.single, by decide, shLoop_plain rest p a b g h.1 h.2⟩
  | esc c => exact ⟨.single, by decide, shLoop_esc rest c a b g⟩
  | sq t =>
    refine ⟨.quoted, by decide, ?_⟩
    have h0 : shStep (shN a b g) '\'' = .cont { args := a, buf := b, got := g, sq := true } := by
      have : shIsSpace '\'' = false := by decide
      simp [shStep, this]
    simp only [ShSeg.render, ShSeg.value, List.cons_append, List.append_assoc, shLoop, h0]
    exact shLoop_sq rest t a b g h
  | dq t =>
    refine ⟨.quoted, by decide, ?_⟩
    have h0 : shStep (shN a b g) '"' = .cont { args := a, buf := b, got := g, dq := true } := by
      have : shIsSpace '"' = false := by decide
      simp [shStep, this]
    simp only [ShSeg.render, ShSeg.value, List.cons_append, List.append_assoc, shLoop, h0]
    exact shLoop_dq rest t.length t (Nat.le_refl _) a b g h

theorem shLoop_segs (rest : Str) : ∀ (segs : List ShSeg), segs.all ShSeg.wf = true → ∀ (a : List Str) (b : Str) (g : Got),
    (segs ≠ [] ∨ g ≠ Got.no) →
    ∃ g', g' ≠ Got.no ∧ shLoop (shN a b g) ((segs.map ShSeg.render).flatten ++ rest) = shLoop (shN a (b ++ (segs.map ShSeg.value).flatten) g') rest
  | [], _, a, b, g, hg => ⟨g, by simpa using hg, by simp⟩
  | sg :: r, h, a, b, g, _ => by
    simp only [List.all_cons, Bool.and_eq_true] at h
    obtain ⟨g1, hg1, e1⟩ := shLoop_seg ((r.map ShSeg.render).flatten ++ rest) sg h.1 a b g
    obtain ⟨g2, hg2, e2⟩ := shLoop_segs rest r h.2 a (b ++ sg.value) g1 (Or.inr hg1)
    exact ⟨g2, hg2, by simp only [List.map_cons, List.flatten_cons, List.append_assoc] at e1 e2 ⊢; rw [e1, e2]⟩

/-- blanks with no argument under way do nothing -/
theorem shLoop_blanks_idle (rest : Str) : ∀ (sep : Str) (a : List Str), blanks sep = true →
    shLoop (shN a [] .no) (sep ++ rest) = shLoop (shN a [] .no) rest
  | [], _, _ => rfl
  | c :: r, a, h => by
    simp only [blanks, List.all_cons, Bool.and_eq_true] at h
    have hb : c ≠ '\\' := by intro e; rw [e] at h; exact absurd h.1 (by decide)
    have hs : shStep (shN a [] .no) c = .cont (shN a [] .no) := by simp [shStep, hb, h.1]
    simp only [List.cons_append, shLoop, hs]
    exact shLoop_blanks_idle rest r a h.2

theorem shLoop_blanks_flush (rest : Str) (sep : Str) (a : List Str) (b : Str) (g : Got) (hb : blanks sep = true)
    (hne : sep ≠ []) (hg : g ≠ Got.no) :
    shLoop (shN a b g) (sep ++ rest) = shLoop (shN (a ++ [b]) [] .no) rest := by
  cases sep with
  | nil => exact absurd rfl hne
  | cons c r =>
    simp only [blanks, List.all_cons, Bool.and_eq_true] at hb
    have hc : c ≠ '\\' := by intro e; rw [e] at hb; exact absurd hb.1 (by decide)
    have hs : shStep (shN a b g) c = .cont (shN (a ++ [b]) [] .no) := by simp [shStep, hc, hb.1, hg]
    simp only [List.cons_append, shLoop, hs]
    exact shLoop_blanks_idle rest r _ hb.2

/-- the words from any state outside quotes: with nothing under way (`g = .no`, empty buffer) the first separator may be
empty, otherwise it closes the argument under way -/
theorem shell_words (trail : Str) (ht : blanks trail = true) : ∀ (ws : List ShWord) (a : List Str) (b : Str) (g : Got),
    wordsWf (g = .no) ws = true → (g = .no → b = []) →
    (shLoop (shN a b g) ((ws.map ShWord.render).flatten ++ trail)).bind shFinish
      = some ((if g = .no then a else a ++ [b]) ++ ws.map ShWord.value)
  | [], a, b, g, _, hb => by
    by_cases hg : g = .no
    · subst hg
      have := shLoop_blanks_idle [] trail a ht
      simp only [List.append_nil] at this
      simp [hb rfl, this, shLoop, shFinish]
    · cases trail with
      | nil => simp [shLoop, shFinish, hg]
      | cons c r =>
        have := shLoop_blanks_flush [] (c :: r) a b g ht (by simp) hg
        simp only [List.append_nil] at this
        simp [this, shLoop, shFinish, hg]
  | w :: r, a, b, g, h, hb => by
    simp only [wordsWf, Bool.and_eq_true, Bool.or_eq_true, decide_eq_true_eq] at h
    obtain ⟨⟨⟨⟨hsep, hne⟩, hsegs⟩, hwf⟩, hr⟩ := h
    have e1 : shLoop (shN a b g) (w.sep ++ (w.body ++ ((r.map ShWord.render).flatten ++ trail)))
        = shLoop (shN (if g = .no then a else a ++ [b]) [] .no) (w.body ++ ((r.map ShWord.render).flatten ++ trail)) := by
      by_cases hg : g = .no
      · subst hg; rw [hb rfl]; simpa using shLoop_blanks_idle _ w.sep a hsep
      · simpa [hg] using shLoop_blanks_flush _ w.sep a b g hsep (hne.resolve_left hg) hg
    obtain ⟨g', hg', e2⟩ := shLoop_segs ((r.map ShWord.render).flatten ++ trail) w.segs hwf
      (if g = .no then a else a ++ [b]) [] .no (Or.inl hsegs)
    have ih := shell_words trail ht r (if g = .no then a else a ++ [b]) w.value g' (by simpa [hg'] using hr) (fun h => absurd h hg')
    simp only [List.map_cons, List.flatten_cons, ShWord.render, List.append_assoc, ShWord.body, ShWord.value, List.nil_append] at e1 e2 ih ⊢
    rw [e1, e2, ih]
    simp [hg']

end CV.Short
