import ComposeVerif.Model.ShortTransform
/-!
The class of a `Short.Out` read off a Boolean test, so that a test vector is checked by the kernel alone
(`decide +kernel`), not evaluated by the elaborator first.
-/
namespace CV.Short

theorem Out.eq_err_of_beq {α : Type} [BEq α] {o : Out α} {e : String} (h : (o == .err e) = true) : o = .err e := by
  cases o with
  | err e' => exact congrArg _ (eq_of_beq h)
  | ok a => cases h
  | panic s => cases h

theorem Out.exists_ok_of {α : Type} {o : Out α} (h : (match o with | .ok _ => true | _ => false) = true) :
    ∃ r, o = .ok r := by
  cases o with
  | ok a => exact ⟨a, rfl⟩
  | err e => cases h
  | panic s => cases h

end CV.Short
