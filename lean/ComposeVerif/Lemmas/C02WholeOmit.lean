import ComposeVerif.Model.Pipeline
import ComposeVerif.Lemmas.C02Walk
/-! `loader.OmitEmpty` on `Val` trees (what `Pipeline.omitEmpty` computes through the embedding into C01's `GoVal`).
Defines `omitV`, `omitListV`, `isEmptyV` (the function on `Val`), proved equal to the model through the embedding. -/
namespace CV.Det.Whole
open CV CV.Deep CV.Pipeline
open CV.Val (lookup insert keys KVs)

def isEmptyV : Val → Bool
  | .null => true
  | .str s => s = ""
  | _ => false

mutual
def omitV (pats : List (List String)) : Val → TPath → Val
  | .map kvs, p => .map (omitKVsV pats kvs p)
  | .seq xs, p => .seq (omitListV pats xs p)
  | v, _ => v
def omitKVsV (pats : List (List String)) : List (String × Val) → TPath → List (String × Val)
  | [], _ => []
  | (k, v) :: r, p =>
      if isEmptyV v && C01.mustOmit pats p then omitKVsV pats r p
      else (k, omitV pats v (p.next k)) :: omitKVsV pats r p
def omitListV (pats : List (List String)) : List Val → TPath → List Val
  | [], _ => []
  | v :: r, p =>
      if isEmptyV v && C01.mustOmit pats p then omitListV pats r p
      else omitV pats v (p.next "[]") :: omitListV pats r p
end

theorem isEmpty_ofVal : ∀ v : Val, C01.isEmpty (ofVal v) = isEmptyV v
  | .null => rfl
  | .bool _ => rfl
  | .int _ => rfl
  | .float _ => rfl
  | .str _ => rfl
  | .seq _ => by simp only [ofVal, C01.isEmpty, isEmptyV]
  | .map _ => by simp only [ofVal, C01.isEmpty, isEmptyV]

mutual
theorem omit_ofVal (pats : List (List String)) : ∀ (v : Val) (p : TPath), toVal (C01.omitEmpty pats (ofVal v) p) = omitV pats v p
  | .null, _ => rfl
  | .bool _, _ => rfl
  | .int _, _ => rfl
  | .float _, _ => rfl
  | .str _, _ => rfl
  | .seq xs, p => by simp only [ofVal, C01.omitEmpty, toVal, omitV, omitList_ofVals pats xs p]
  | .map kvs, p => by simp only [ofVal, C01.omitEmpty, toVal, omitV, omitKVs_ofKVs pats kvs p]
theorem omitList_ofVals (pats : List (List String)) : ∀ (xs : List Val) (p : TPath),
    toVals (C01.omitList pats (ofVals xs) p) = omitListV pats xs p
  | [], _ => rfl
  | v :: r, p => by
    simp only [ofVals, C01.omitList, omitListV, isEmpty_ofVal]
    split
    · exact omitList_ofVals pats r p
    · simp only [toVals, omit_ofVal pats v, omitList_ofVals pats r p]
theorem omitKVs_ofKVs (pats : List (List String)) : ∀ (kvs : List (String × Val)) (p : TPath),
    toKVs (C01.omitKVs pats (ofKVs kvs) p) = omitKVsV pats kvs p
  | [], _ => rfl
  | (k, v) :: r, p => by
    simp only [ofKVs, C01.omitKVs, omitKVsV, isEmpty_ofVal]
    split
    · exact omitKVs_ofKVs pats r p
    · simp only [toKVs, omit_ofVal pats v, omitKVs_ofKVs pats r p]
end

theorem omitEmpty_eq (pats : List (List String)) (kvs : KVs) :
    Pipeline.omitEmpty pats (.map kvs) = .ok (.map (omitKVsV pats kvs TPath.root)) := by
  simp only [Pipeline.omitEmpty, C01.omitEmptyTop, C01.omitEmpty, omitKVs_ofKVs]

/-! the loop shape: drop some entries by their value, rewrite the others -/

def fm (drop : Val → Bool) (g : String → Val → Val) : KVs → KVs
  | [] => []
  | (k, v) :: r => if drop v then fm drop g r else (k, g k v) :: fm drop g r

theorem omitKVsV_fm (pats : List (List String)) (p : TPath) : ∀ kvs : KVs,
    omitKVsV pats kvs p = fm (fun v => isEmptyV v && C01.mustOmit pats p) (fun k v => omitV pats v (p.next k)) kvs
  | [] => rfl
  | (k, v) :: r => by simp only [omitKVsV, fm, omitKVsV_fm pats p r]

theorem fm_eq (drop : Val → Bool) (g : String → Val → Val) : ∀ m : KVs,
    fm drop g m = (m.filter fun kv => !drop kv.2).map fun kv => (kv.1, g kv.1 kv.2)
  | [] => rfl
  | (k, v) :: r => by
    simp only [fm, List.filter_cons, fm_eq drop g r]
    cases drop v <;> rfl

theorem keys_fm (drop : Val → Bool) (g : String → Val → Val) (m : KVs) :
    keys (fm drop g m) = keys (m.filter fun kv => !drop kv.2) := by
  rw [fm_eq]; simp only [keys, List.map_map]; rfl

theorem keys_fm_sub (drop : Val → Bool) (g : String → Val → Val) : ∀ m : KVs, ∀ k, k ∈ keys (fm drop g m) → k ∈ keys m :=
  fun m _ h => (Assoc.keys_filter_sublist _ m).subset (keys_fm drop g m ▸ h)

theorem keys_fm_keep (drop : Val → Bool) (g : String → Val → Val) (h : ∀ v, drop v = false) : ∀ m : KVs,
    keys (fm drop g m) = keys m := fun m => by
  rw [keys_fm, List.filter_eq_self.mpr fun kv _ => by rw [h]; rfl]

theorem nodup_fm (drop : Val → Bool) (g : String → Val → Val) : ∀ m : KVs, (keys m).Nodup → (keys (fm drop g m)).Nodup :=
  fun m h => keys_fm drop g m ▸ Assoc.nodup_filter h

theorem lookup_fm (drop : Val → Bool) (g : String → Val → Val) : ∀ m : KVs, (keys m).Nodup → ∀ k,
    lookup k (fm drop g m) = (match lookup k m with
      | some v => if drop v then none else some (g k v)
      | none => none) := fun m h k => by
  rw [fm_eq, Val.lookup_eq, Assoc.lookup_map_val, Assoc.lookup_filter h, ← Val.lookup_eq]
  cases lookup k m with
  | none => rfl
  | some v => cases hd : drop v <;> simp [Option.filter, hd]

theorem isEmptyV_eqv {v w : Val} (h : Eqv v w) : isEmptyV v = isEmptyV w := by
  cases h <;> rfl

theorem fm_mrel (drop : Val → Bool) (g : String → Val → Val) (hdrop : ∀ x y, Eqv x y → drop x = drop y) {a b : KVs}
    (h : MRel a b) (hg : ∀ k x y, lookup k a = some x → lookup k b = some y → EW (g k x) (g k y)) :
    MRel (fm drop g a) (fm drop g b) := by
  refine MRel.of_lookup (nodup_fm drop g a h.2.1.1) (nodup_fm drop g b h.2.2.1) (fun k => ?_)
  rw [lookup_fm drop g a h.2.1.1, lookup_fm drop g b h.2.2.1]
  rcases (h.lookups k).none_or_some with ⟨h1, h2⟩ | ⟨x, y, h1, h2, e⟩ <;> rw [h1, h2]
  · trivial
  · simp only [hdrop x y e.1]
    split
    · trivial
    · exact hg k x y h1 h2

theorem omitV_ew (pats : List (List String)) {v w : Val} (h : EW v w) : ∀ p, EW (omitV pats v p) (omitV pats w p) := by
  refine (EW.induct (P := fun v w => ∀ p, EW (omitV pats v p) (omitV pats w p))
    (PL := fun xs ys => ∀ p, EW (.seq (omitListV pats xs p)) (.seq (omitListV pats ys p)))
    (fun v wv h1 h2 p => ?_) (fun a b hm ih p => ?_) (fun xs ys _ h p => by simpa only [omitV] using h p)
    (fun _ => EW.refl .seqNil) (fun x y xs ys e h1 h2 p => ?_) h)
  · cases v <;> first | exact EW.refl wv | exact absurd rfl (h1 _) | exact absurd rfl (h2 _)
  · simp only [omitV, omitKVsV_fm]
    exact EW.map_iff.mpr (fm_mrel _ _ (fun x y e => by simp only [isEmptyV_eqv e]) hm (fun k x y hx hy => ih k x y hx hy _))
  · simp only [omitListV, isEmptyV_eqv e.1]
    split
    · exact h2 p
    · exact EW.seqCons_iff.mpr ⟨h1 _, h2 p⟩

end CV.Det.Whole
