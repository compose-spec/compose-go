import ComposeVerif.Lemmas.MapOrderAssoc
/-! `ApplyExtends` with same-file references (`applyOne`, `applyAll`, `val` of `Model/MapOrder.lean`): the memoising
algorithm returns the denotation `val` of the map it is run on, with the same fuel (`applyOne_val`), and a partially resolved
map (`Res`) gives every service the denotation it has in the original, so the visit order does not show; `length` steps of
fuel suffice. -/
namespace CV.Det
open CV CV.Val

variable {α β ε : Type}

theorem val_eq_some (mrg : β → β → β) (k : Nat) (m : AL (XSvc β)) (x : String) (r : β) :
    val mrg (k + 1) m x = some r ↔
      find x m = some (none, r) ∨
      ∃ ref b base, find x m = some (some ref, b) ∧ val mrg k m ref = some base ∧ mrg base b = r := by
  rw [val]
  cases find x m with
  | none => simp
  | some e =>
    obtain ⟨ext, b⟩ := e
    cases ext with
    | none => simp
    | some ref =>
      constructor
      · intro h
        obtain ⟨base, hb, hr⟩ := Option.map_eq_some_iff.mp h
        exact .inr ⟨ref, b, base, rfl, hb, hr⟩
      · rintro (h | ⟨_, _, base, h, hb, hr⟩) <;> cases h
        exact Option.map_eq_some_iff.mpr ⟨base, hb, hr⟩

theorem val_mono (mrg : β → β → β) (m : AL (XSvc β)) : ∀ (k : Nat) (x : String) (r : β),
    val mrg k m x = some r → val mrg (k + 1) m x = some r := by
  intro k
  induction k with
  | zero => intro x r h; simp [val] at h
  | succ k ih =>
    intro x r h
    rw [val_eq_some] at h ⊢
    rcases h with h | ⟨ref, b, base, hf, hb, hr⟩
    · exact .inl h
    · exact .inr ⟨ref, b, base, hf, ih ref base hb, hr⟩

theorem val_le (mrg : β → β → β) (m : AL (XSvc β)) {k k' : Nat} (hle : k ≤ k') (x : String) (r : β)
    (h : val mrg k m x = some r) : val mrg k' m x = some r := by
  induction hle with
  | refl => exact h
  | step _ ih => exact val_mono mrg m _ x r ih

theorem val_det (mrg : β → β → β) (m : AL (XSvc β)) (k k' : Nat) (x : String) (r r' : β)
    (h : val mrg k m x = some r) (h' : val mrg k' m x = some r') : r = r' := by
  have a := val_le mrg m (Nat.le_max_left k k') x r h
  rw [val_le mrg m (Nat.le_max_right k k') x r' h'] at a
  exact (Option.some.inj a).symm

theorem val_some_find (mrg : β → β → β) (k : Nat) (m : AL (XSvc β)) (x : String) (r : β)
    (h : val mrg k m x = some r) : (find x m).isSome = true := by
  cases k with
  | zero => simp [val] at h
  | succ k =>
    rcases (val_eq_some mrg k m x r).mp h with h | ⟨_, _, _, h, _⟩ <;> rw [h] <;> rfl

def Res (mrg : β → β → β) (m0 m : AL (XSvc β)) : Prop :=
  ∀ x, find x m = find x m0 ∨ ∃ r k, find x m = some (none, r) ∧ val mrg k m0 x = some r

theorem Res.refl (mrg : β → β → β) (m0 : AL (XSvc β)) : Res mrg m0 m0 := fun _ => .inl rfl

theorem Res.put (mrg : β → β → β) {m0 m : AL (XSvc β)} (h : Res mrg m0 m) (name : String) (r : β) (k : Nat)
    (hv : val mrg k m0 name = some r) : Res mrg m0 (put name (none, r) m) := by
  intro x
  by_cases hx : x = name
  · subst hx; exact .inr ⟨r, k, find_put_self _ _ _, hv⟩
  · rw [find_put_ne hx]; exact h x

/-- holds at `n = m0.length` (`val_within_length`): a chain of distinct references cannot be longer -/
def FuelEnough (mrg : β → β → β) (n : Nat) (m0 : AL (XSvc β)) : Prop :=
  ∀ x r k, val mrg k m0 x = some r → val mrg n m0 x = some r

/-- the memoising algorithm returns what the service denotes in the map it is run on, with the same fuel -/
theorem applyOne_val (mrg : β → β → β) : ∀ (k : Nat) (m : AL (XSvc β)) (name : String),
    (applyOne mrg k m name).map Prod.snd = val mrg k m name := by
  intro k
  induction k with
  | zero => intro m name; rfl
  | succ k ih =>
    intro m name
    rw [applyOne, val]
    cases find name m with
    | none => rfl
    | some e =>
      obtain ⟨ext, b⟩ := e
      cases ext with
      | none => rfl
      | some ref =>
        simp only []
        rw [← ih m ref]
        cases applyOne mrg k m ref <;> rfl

theorem val_of_applyOne {mrg : β → β → β} {k : Nat} {m m' : AL (XSvc β)} {name : String} {r : β}
    (h : applyOne mrg k m name = some (m', r)) : val mrg k m name = some r := by
  rw [← applyOne_val, h]; rfl

theorem val_resolved {mrg : β → β → β} {k : Nat} {m : AL (XSvc β)} {x : String} {e r : β}
    (hx : find x m = some (none, e)) (h : val mrg k m x = some r) : r = e := by
  cases k with
  | zero => simp [val] at h
  | succ k => rcases (val_eq_some ..).mp h with h | ⟨_, _, _, h, _⟩ <;> rw [hx] at h <;> cases h; rfl

/-- memoising does not cost fuel … -/
theorem Res.val_of {mrg : β → β → β} {m0 m : AL (XSvc β)} (h : Res mrg m0 m) : ∀ (k : Nat) (x : String) (r : β),
    val mrg k m0 x = some r → val mrg k m x = some r := by
  intro k
  induction k with
  | zero => intro x r hv; simp [val] at hv
  | succ k ih =>
    intro x r hv
    rcases h x with hs | ⟨r', k', hf, hv'⟩
    · rw [val_eq_some] at hv ⊢
      rw [hs]
      exact hv.imp_right fun ⟨ref, b, base, hf, hb, hr⟩ => ⟨ref, b, base, hf, ih ref base hb, hr⟩
    · rw [val_det mrg m0 k' (k + 1) x r' r hv' hv] at hf
      exact (val_eq_some ..).mpr (.inl hf)

/-- … nor does it change what a service denotes -/
theorem Res.val_to {mrg : β → β → β} {m0 m : AL (XSvc β)} (h : Res mrg m0 m) : ∀ (k : Nat) (x : String) (r : β),
    val mrg k m x = some r → ∃ j, val mrg j m0 x = some r := by
  intro k
  induction k with
  | zero => intro x r hv; simp [val] at hv
  | succ k ih =>
    intro x r hv
    rcases h x with hs | ⟨r', k', hf, hv'⟩
    · rw [val_eq_some, hs] at hv
      rcases hv with hv | ⟨ref, b, base, hf, hb, hr⟩
      · exact ⟨1, (val_eq_some ..).mpr (.inl hv)⟩
      · obtain ⟨j, hj⟩ := ih ref base hb
        exact ⟨j + 1, (val_eq_some ..).mpr (.inr ⟨ref, b, base, hf, hj, hr⟩)⟩
    · exact ⟨k', val_resolved hf hv ▸ hv'⟩

/-- what a run leaves behind: every entry is as it was, or holds what its service denotes in the map the run started from -/
theorem applyOne_frame (mrg : β → β → β) : ∀ (k : Nat) (m m' : AL (XSvc β)) (name : String) (r : β),
    applyOne mrg k m name = some (m', r) →
    ∀ x, find x m' = find x m ∨ ∃ r', find x m' = some (none, r') ∧ val mrg k m x = some r' := by
  intro k
  induction k with
  | zero => intro m m' name r h; cases h
  | succ k ih =>
    intro m m' name r h x
    have hv := val_of_applyOne h
    rw [applyOne] at h
    split at h
    · cases h
    · cases h; exact .inl rfl
    · split at h
      · cases h
      · next h1 =>
        cases h
        by_cases e : x = name
        · subst e; exact .inr ⟨_, find_put_self _ _ _, hv⟩
        · rw [find_put_ne e]
          exact (ih _ _ _ _ h1 x).imp_right fun ⟨r', hf, hv'⟩ => ⟨r', hf, val_mono mrg m k x r' hv'⟩

theorem applyOne_sound (mrg : β → β → β) (m0 : AL (XSvc β)) : ∀ (k : Nat) (m m' : AL (XSvc β)) (name : String) (r : β),
    Res mrg m0 m → applyOne mrg k m name = some (m', r) →
    (∃ j, val mrg j m0 name = some r) ∧ Res mrg m0 m' := by
  intro k m m' name r hres h
  refine ⟨Res.val_to hres k name r (val_of_applyOne h), fun x => ?_⟩
  rcases applyOne_frame mrg k m m' name r h x with e | ⟨r', e, hv'⟩
  · rw [e]; exact hres x
  · obtain ⟨j, hj⟩ := Res.val_to hres k x r' hv'
    exact .inr ⟨r', j, e, hj⟩

theorem applyAll_round_keeps {mrg : β → β → β} {n : Nat} {m m1 : AL (XSvc β)} {name : String} {b : β}
    (h1 : applyOne mrg n m name = some (m1, b)) {x : String} {e : β} (hx : find x m = some (none, e)) :
    find x (put name (none, b) m1) = some (none, e) := by
  by_cases hxe : x = name
  · subst hxe; rw [find_put_self, val_resolved hx (val_of_applyOne h1)]
  · rw [find_put_ne hxe]
    rcases applyOne_frame mrg n m m1 name b h1 x with e1 | ⟨r', e1, hv'⟩
    · rw [e1, hx]
    · rw [e1, val_resolved hx hv']

/-- with enough fuel, every partially resolved map gives every service the denotation it has in `m0` -/
theorem Res.val_eq {mrg : β → β → β} {n : Nat} {m0 m : AL (XSvc β)} (hf : FuelEnough mrg n m0) (h : Res mrg m0 m)
    (x : String) : val mrg n m x = val mrg n m0 x := by
  cases hv : val mrg n m0 x with
  | some r => exact Res.val_of h n x r hv
  | none =>
    cases hv' : val mrg n m x with
    | none => rfl
    | some r => obtain ⟨j, hj⟩ := Res.val_to h n x r hv'; rw [hf x r j hj] at hv; cases hv

/-- the loop: it succeeds iff every visited service denotes something; then every visited service holds what it denotes,
what was resolved stays, and the map is still a partial resolution of `m0` -/
theorem applyAll_spec (mrg : β → β → β) (n : Nat) (m0 : AL (XSvc β)) (hf : FuelEnough mrg n m0) :
    ∀ (order : List String) (m : AL (XSvc β)), Res mrg m0 m →
    (applyAll mrg n order m).isSome = order.all (fun x => (val mrg n m0 x).isSome) ∧
    ∀ mf, applyAll mrg n order m = some mf → Res mrg m0 mf ∧
      (∀ x e, find x m = some (none, e) → find x mf = some (none, e)) ∧
      ∀ x ∈ order, ∃ r, val mrg n m0 x = some r ∧ find x mf = some (none, r) := by
  intro order
  induction order with
  | nil => intro m hres; exact ⟨rfl, fun mf h => by cases h; exact ⟨hres, fun _ _ h => h, nofun⟩⟩
  | cons name rest ih =>
    intro m hres
    rw [applyAll, List.all_cons, ← Res.val_eq hf hres, ← applyOne_val]
    cases h1 : applyOne mrg n m name with
    | none => exact ⟨rfl, nofun⟩
    | some q =>
      obtain ⟨m1, b⟩ := q
      have hb : val mrg n m0 name = some b := by rw [← Res.val_eq hf hres]; exact val_of_applyOne h1
      obtain ⟨hs, hr⟩ := ih _ (Res.put mrg (applyOne_sound mrg m0 n m m1 name b hres h1).2 name b n hb)
      refine ⟨by simp only [Option.map_some, Option.isSome_some, Bool.true_and]; exact hs, fun mf h => ?_⟩
      obtain ⟨hresf, hk, hall⟩ := hr mf h
      refine ⟨hresf, fun x e hx => hk x e (applyAll_round_keeps h1 hx), fun x hx => ?_⟩
      rcases List.mem_cons.mp hx with rfl | hx
      · exact ⟨b, hb, hk x b (find_put_self _ _ _)⟩
      · exact hall x hx

theorem applyAll_perm (mrg : β → β → β) (n : Nat) (m0 : AL (XSvc β)) (hf : FuelEnough mrg n m0)
    {order order' : List String} (hp : order'.Perm order) (hall : ∀ x, (find x m0).isSome = true → x ∈ order) :
    (applyAll mrg n order' m0).isSome = (applyAll mrg n order m0).isSome ∧
    ∀ mf mf', applyAll mrg n order m0 = some mf → applyAll mrg n order' m0 = some mf' →
      ∀ x, find x mf' = find x mf := by
  have s := applyAll_spec mrg n m0 hf order m0 (Res.refl mrg m0)
  have s' := applyAll_spec mrg n m0 hf order' m0 (Res.refl mrg m0)
  refine ⟨by rw [s.1, s'.1, hp.all_eq], fun mf mf' h h' x => ?_⟩
  obtain ⟨hres, _, hv⟩ := s.2 mf h
  obtain ⟨hres', _, hv'⟩ := s'.2 mf' h'
  cases hx : find x m0 with
  | some e =>
    have hxo : x ∈ order := hall x (by rw [hx]; rfl)
    obtain ⟨r, hj, hfx⟩ := hv x hxo
    obtain ⟨r', hj', hfx'⟩ := hv' x (hp.symm.subset hxo)
    rw [hfx, hfx', Option.some.inj (hj.symm.trans hj')]
  | none =>
    have none_of : ∀ m, Res mrg m0 m → find x m = none := fun m hr => by
      rcases hr x with hs | ⟨r, k, _, hk⟩
      · rw [hs, hx]
      · have := val_some_find mrg k m0 x r hk
        rw [hx] at this; cases this
    rw [none_of mf hres, none_of mf' hres']

/-- an evaluation with the least possible fuel `k` goes through `k` different services: each next one on the chain
already denotes something with less fuel, the ones before it do not -/
theorem val_chain (mrg : β → β → β) (m : AL (XSvc β)) : ∀ (k : Nat) (x : String) (r : β),
    val mrg k m x = some r → (∀ j, j < k → val mrg j m x = none) →
    ∃ c : List String, c.length = k ∧ c.Nodup ∧ ∀ s ∈ c, (val mrg k m s).isSome = true := by
  intro k
  induction k with
  | zero => intro x r h; simp [val] at h
  | succ k ih =>
    intro x r h hmin
    have hx : ∀ s, (val mrg k m s).isSome = true → (val mrg (k + 1) m s).isSome = true := fun s hs => by
      obtain ⟨b, hb⟩ := Option.isSome_iff_exists.mp hs
      rw [val_mono mrg m k s b hb]; rfl
    rcases (val_eq_some ..).mp h with hres | ⟨ref, b, base, hf, hb, _⟩
    · cases k with
      | zero => exact ⟨[x], rfl, List.pairwise_singleton _ x, fun s hs => by rw [List.mem_singleton.mp hs, h]; rfl⟩
      | succ k =>
        have := hmin 1 (by omega)
        rw [(val_eq_some ..).mpr (.inl hres)] at this; cases this
    · obtain ⟨c, hl, hn, hc⟩ := ih ref base hb fun j hj => by
        cases hv : val mrg j m ref with
        | none => rfl
        | some b' =>
          have := hmin (j + 1) (Nat.succ_lt_succ hj)
          rw [(val_eq_some ..).mpr (.inr ⟨ref, b, b', hf, hv, rfl⟩)] at this; cases this
      refine ⟨x :: c, by rw [List.length_cons, hl], List.nodup_cons.mpr ⟨fun hm => ?_, hn⟩, fun s hs => ?_⟩
      · have := hc x hm
        rw [hmin k (Nat.lt_succ_self k)] at this; cases this
      · rcases List.mem_cons.mp hs with rfl | hs
        · rw [h]; rfl
        · exact hx s (hc s hs)

/-- pigeonhole: the chain of a shortest evaluation names different services, so it is no longer than the map -/
theorem val_within_length (mrg : β → β → β) (m : AL (XSvc β)) : ∀ (k : Nat) (x : String) (r : β),
    val mrg k m x = some r → val mrg m.length m x = some r := by
  intro k
  induction k using Nat.strongRecOn with
  | _ k ihk =>
    intro x r h
    by_cases hex : ∃ j, j < k ∧ (val mrg j m x).isSome = true
    · obtain ⟨j, hj, hs⟩ := hex
      obtain ⟨r', hr'⟩ := Option.isSome_iff_exists.mp hs
      exact ihk j hj x r (val_det mrg m j k x r' r hr' h ▸ hr')
    · obtain ⟨c, hl, hn, hc⟩ := val_chain mrg m k x r h fun j hj => by
        cases hv : val mrg j m x with
        | none => rfl
        | some r' => exact absurd ⟨j, hj, by rw [hv]; rfl⟩ hex
      have : c.length ≤ (akeys m).length := hn.length_le_of_subset fun s hs =>
        mem_akeys_of_find (by obtain ⟨b, hb⟩ := Option.isSome_iff_exists.mp (hc s hs); exact val_some_find mrg k m s b hb)
      exact val_le mrg m (by simpa [akeys, hl] using this) x r h

theorem fuelEnough_length (mrg : β → β → β) (m0 : AL (XSvc β)) (j : Nat) : FuelEnough mrg (m0.length + j) m0 := by
  intro x r k h
  exact val_le mrg m0 (Nat.le_add_right _ j) x r (val_within_length mrg m0 k x r h)

end CV.Det
