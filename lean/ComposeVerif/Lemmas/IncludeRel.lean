import ComposeVerif.Model.Include
import ComposeVerif.Lemmas.PathsOrigin
/-! Path lemmas of the include model.  `Include.relC` (this model's port of `filepath.Rel`) agrees with C12's `Paths.rel` on
absolute paths, so that what `Lemmas/PathsOrigin.lean` proves of `Paths.rel` holds of it; `Dir`, `Join` and
`localResourceLoader.abs` keep a path absolute. -/
namespace CV.Include
open CV CV.Paths

theorem stripCommon_spec : ∀ (a b : List Str), ∃ c, a = c ++ (stripCommon a b).1 ∧ b = c ++ (stripCommon a b).2
  | [], b => ⟨[], by simp [stripCommon]⟩
  | x :: xs, [] => ⟨[], by simp [stripCommon]⟩
  | x :: xs, y :: ys => by
    simp only [stripCommon]
    split
    · rename_i h; subst h
      obtain ⟨c, h1, h2⟩ := stripCommon_spec xs ys
      exact ⟨x :: c, by simp [← h1], by simp [← h2]⟩
    · exact ⟨[], by simp⟩

/-- C12's recursion on the two component lists is: strip the common prefix, refuse a base that continues with `..`,
answer one `..` per remaining base component followed by the rest of the target -/
theorem relC_stripCommon : ∀ (B T : List Str), Paths.relC B T =
    if (stripCommon B T).1.head? = some dotdot then none
    else some ((stripCommon B T).1.map (fun _ => dotdot) ++ (stripCommon B T).2)
  | [], T => rfl
  | b :: B, [] => by
    simp only [Paths.relC, stripCommon, List.head?_cons, Option.some.injEq, List.map_const', List.length_cons,
      List.append_nil]
  | b :: B, t :: T => by
    simp only [Paths.relC, stripCommon]
    split
    · exact relC_stripCommon B T
    · simp only [List.head?_cons, Option.some.injEq, List.map_const', List.length_cons]

theorem clean_ne_dot_of_abs (p : Str) (h : Paths.isAbs p = true) : Paths.clean p ≠ dot := by
  intro e
  have := isAbs_clean p
  rw [e, h] at this
  cases this

theorem relSegs_clean_abs (p : Str) (h : Paths.isAbs p = true) : relSegs (Paths.clean p) = comps p := by
  have hne := valid_ne_nil (cleanStack_valid p)
  rw [relSegs, if_neg (clean_ne_dot_of_abs p h)]
  simp only [Paths.clean, h, render, if_true, splitSlash_cons_slash]
  rw [List.filter_cons_of_neg (by simp)]
  cases hl : comps p with
  | nil => simp [comps] at hl; simp [hl, joinSlash, splitSlash]
  | cons a r =>
    have hc : (cleanStack p).reverse = a :: r := hl
    rw [hc, splitSlash_joinSlash _ (by simp) (fun c hc' => comps_noSlash p c (hl ▸ hc'))]
    exact List.filter_eq_self.mpr fun c hc' => by
      simpa using hne c (List.mem_reverse.mp (hc ▸ hc'))

theorem relC_eq_rel (L X : Str) (hL : Paths.isAbs L = true) (hX : Paths.isAbs X = true) :
    relC L X = Paths.rel L X := by
  have hclean : ∀ p, Paths.isAbs p = true → Paths.clean p = render true (comps p) := fun p hp => by
    simp [Paths.clean, hp, comps]
  have hXd := clean_ne_dot_of_abs X hX
  -- both ports become: `some dot` if the components agree, else the answer computed from the two component lists
  simp only [relC, Paths.rel, isAbs_clean, hL, hX, relSegs_clean_abs, hXd, bne_self_eq_false, ne_eq, not_true,
    Bool.false_eq_true, if_false, Bool.not_true, Bool.false_and]
  by_cases hc : comps L = comps X
  · rw [if_pos hc, if_pos (by rw [hclean L hL, hclean X hX, hc])]
  · have hne : Paths.clean L ≠ Paths.clean X := fun e => hc (by
      have := congrArg cleanStack e
      rw [cleanStack_clean, cleanStack_clean] at this
      simp [comps, this])
    rw [if_neg hc, if_neg hne, relC_stripCommon]
    split
    · rfl
    · obtain ⟨c, h1, h2⟩ := stripCommon_spec (comps L) (comps X)
      generalize stripCommon (comps L) (comps X) = st at h1 h2 ⊢
      have hout : (st.1.map (fun _ => dotdot) ++ st.2).isEmpty = false := by
        cases hb : st.1 with
        | cons _ _ => rfl
        | nil =>
          cases ht : st.2 with
          | cons _ _ => rfl
          | nil => exact absurd (by rw [h1, h2, hb, ht]) hc
      simp [hout]

theorem dropWhile_snoc_slash (a : Str) :
    ∃ s, (a ++ ['/']).dropWhile (fun c => c ≠ '/') = s ++ ['/'] := by
  induction a with
  | nil => exact ⟨[], rfl⟩
  | cons x r ih =>
    rw [List.cons_append, List.dropWhile_cons]
    split
    · exact ih
    · exact ⟨x :: r, rfl⟩

theorem isAbs_dirC (p : Str) (h : Paths.isAbs p = true) : Paths.isAbs (dirC p) = true := by
  cases p with
  | nil => simp [Paths.isAbs] at h
  | cons c q =>
    have hc : c = '/' := by simpa [Paths.isAbs] using h
    subst hc
    simp only [dirC, isAbs_clean, List.reverse_cons]
    obtain ⟨s, hs⟩ := dropWhile_snoc_slash q.reverse
    rw [hs]
    simp [Paths.isAbs]

theorem isAbs_dir (p : String) (h : Include.isAbs p = true) : Include.isAbs (dir p) = true := by
  simp only [Include.isAbs, dir, String.toList_ofList] at *
  exact isAbs_dirC _ h

theorem isAbs_join_left (a b : String) (h : Include.isAbs a = true) : Include.isAbs (Include.join a b) = true := by
  simp only [Include.isAbs, Include.join, String.toList_ofList] at *
  exact Paths.isAbs_join _ _ h

theorem isAbs_localAbs (L p : String) (hL : Include.isAbs L = true) : Include.isAbs (localAbs L p) = true := by
  simp only [localAbs]
  split
  · assumption
  · exact isAbs_join_left L p hL

theorem localAbs_of_abs (L p : String) (h : Include.isAbs p = true) : localAbs L p = p := by
  simp only [localAbs, h, if_true]

end CV.Include
