import ComposeVerif.Spec.Dotenv
/-!
# Lemmas for C18: escape processing — the table of single-character escapes, text between double quotes (`dqEncode` is
inverted by escape processing), the `\0` escape
-/
namespace CV.Dotenv
open CV CV.Template

/-- the single-character escapes as an association list -/
def escTable : List (Char × Str) :=
  [('$', ['$', '$']), ('a', ['\x07']), ('b', ['\x08']), ('f', ['\x0c']), ('n', ['\n']), ('r', ['\r']), ('t', ['\t']),
   ('v', ['\x0b']), ('"', ['"']), ('\\', ['\\'])]

theorem lookup_cons_ite {α β : Type} [BEq α] (a k : α) (b : β) (es : List (α × β)) :
    List.lookup a ((k, b) :: es) = if a == k then some b else List.lookup a es := by
  rw [List.lookup_cons]; cases a == k <;> rfl

theorem simpleEscape_eq_lookup (c : Char) : simpleEscape c = escTable.lookup c := by
  simp only [simpleEscape, escTable, lookup_cons_ite, List.lookup_nil]

theorem simpleEscape_mem {c : Char} {x : Str} (h : simpleEscape c = some x) : (c, x) ∈ escTable := by
  rw [simpleEscape_eq_lookup] at h
  obtain ⟨l₁, l₂, e, _⟩ := List.lookup_eq_some_iff.mp h
  rw [e]; exact List.mem_append_right _ (List.mem_cons_self ..)

/-- XSI octal escapes `\\0ddd` (exactly three octal digits, value ≤ 255) -/
example : expandEscapes ['\\', '0', '1', '2', '3', 'Z'] = ['S', 'Z'] := by decide +kernel
example : expandEscapes ['\\', '0', '1', '2'] = ['\\', '1', '2'] := by decide +kernel
example : expandEscapes ['\\', '0', '7', '7', '7'] = ['\\', '7', '7', '7'] := by decide +kernel

theorem isOct_isDigit {c : Char} (h : isOct c = true) : c.isDigit = true := by
  simp only [isOct, Bool.and_eq_true, decide_eq_true_eq] at h
  simp only [Char.isDigit, Bool.and_eq_true, decide_eq_true_eq]
  obtain ⟨h1, h2⟩ := h
  rw [Char.le_def] at h1 h2
  have a1 : (48 : Nat) ≤ c.val.toNat := by simpa [UInt32.le_iff_toNat_le] using h1
  have a2 : c.val.toNat ≤ 55 := by simpa [UInt32.le_iff_toNat_le] using h2
  constructor
  · rw [ge_iff_le, UInt32.le_iff_toNat_le]; simpa using a1
  · rw [UInt32.le_iff_toNat_le]; simp; have : c.toNat = c.val.toNat := rfl; omega

theorem rawItems_chr (q : Char) : ∀ s : Str, rawItems q (s.map QItem.chr) = s
  | [] => rfl
  | c :: s => by simp [rawItems, QItem.raw, rawItems_chr q s]

/-- write arbitrary text between double quotes: the quote as `\"`, the backslash as `\\`, everything else as it is
    (in particular `$`, so that substitutions stay substitutions) -/
def dqEncode : Str → List QItem
  | [] => []
  | c :: s => (if c == '"' then QItem.quote else if c == '\\' then QItem.esc '\\' else QItem.chr c) :: dqEncode s

theorem dqEncode_wf : ∀ s : Str, (dqEncode s).all (QItem.wf '"') = true
  | [] => rfl
  | c :: s => by
    rw [dqEncode, List.all_cons, dqEncode_wf s, Bool.and_true]
    by_cases h1 : (c == '"') = true
    · simp [h1, QItem.wf]
    · by_cases h2 : (c == '\\') = true
      · simp only [h1, h2, Bool.false_eq_true, if_false, if_true, QItem.wf]; decide
      · simp only [h1, h2, Bool.false_eq_true, if_false, QItem.wf]
        simp only [beq_iff_eq] at h1 h2
        simp [h1, h2]

theorem expandEscapes_cons_ne {c : Char} (h : c ≠ '\\') (s : Str) : expandEscapes (c :: s) = c :: expandEscapes s := by
  have : (c == '\\') = false := by simpa using h
  simp only [expandEscapes, expEsc, this, Bool.false_eq_true, if_false]

theorem expandEscapes_dqEncode : ∀ s : Str, expandEscapes (rawItems '"' (dqEncode s)) = s
  | [] => rfl
  | c :: s => by
    have ih := expandEscapes_dqEncode s
    rw [dqEncode, rawItems]
    by_cases h1 : c = '"'
    · subst h1
      simp only [beq_self_eq_true, if_true, QItem.raw, List.cons_append, List.nil_append]
      rw [expandEscapes_cons_ne (by decide), ih]
    · by_cases h2 : c = '\\'
      · subst h2
        simp only [show (('\\' : Char) == '"') = false by decide, Bool.false_eq_true, if_false, beq_self_eq_true, if_true,
          QItem.raw, List.cons_append, List.nil_append]
        simp only [expandEscapes, expEsc, beq_self_eq_true, if_true, show simpleEscape '\\' = some ['\\'] by decide,
          List.cons_append, List.nil_append]
        exact congrArg _ ih
      · have e1 : (c == '"') = false := by simpa using h1
        have e2 : (c == '\\') = false := by simpa using h2
        simp only [e1, e2, Bool.false_eq_true, if_false, QItem.raw, List.cons_append, List.nil_append]
        rw [expandEscapes_cons_ne h2, ih]

theorem expEsc_skip : ∀ (n : Nat) (s : Str), expEsc n s = expEsc 0 (s.drop n)
  | 0, s => by simp
  | n + 1, [] => by simp [expEsc]
  | n + 1, c :: cs => by
    rw [expEsc, List.drop_succ_cons]
    exact expEsc_skip n cs

end CV.Dotenv
