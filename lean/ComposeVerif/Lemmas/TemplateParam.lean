import ComposeVerif.Lemmas.TemplateFuel
/-!
# The template model cannot observe a renaming of the code points it does not mention

`special`: the code points some character test of the env-file scanner or of the `${…}` matcher mentions (Latin-1,
U+4E16, U+FEFF, U+017F, U+212A); `Renaming φ`: `φ` is injective and fixes them.  Function by function
(`f (s.map φ) = (f s)` renamed): the name classes, `spanName`, `lastCloseLen`, `afterName`, `matchBraced`, `matchDollar`,
`firstCloseGo`, `selectOp`, `applyOp`, one step of the replacement function (`replK_map`), and the scan without its fuel
(`run_map`, from the three equations `run_cons_lit`, `run_dollar_none`, `run_dollar_some`).  `SubstCommutes φ` is the statement
for `Template.subst`; `template_parametric` (`Props/C18.lean`) is `run_map` through `subst_eq_run`.  The names are
`CV.Dotenv.*`: the env-file parser (`Lemmas/DotenvParam.lean`) is the user, and its theorems mention them.
-/
namespace CV.Dotenv
open CV CV.Template

def special (c : Char) : Bool :=
  decide (c.toNat < 256) || c == '\u4e16' || c == '\uFEFF' || c == '\u017f' || c == '\u212a'

structure Renaming (φ : Char → Char) : Prop where
  inj : ∀ a b, φ a = φ b → a = b
  fix : ∀ c, special c = true → φ c = c

namespace Renaming
variable {φ : Char → Char} (R : Renaming φ)
include R

theorem pres (p : Char → Bool) (hp : ∀ c, p c = true → special c = true) (c : Char) : p (φ c) = p c := by
  cases h : p c
  · cases h' : p (φ c)
    · rfl
    · have hs := hp _ h'
      have h1 : φ (φ c) = φ c := R.fix _ hs
      have h2 : φ c = c := R.inj _ _ h1
      rw [h2, h] at h'; cases h'
  · rw [R.fix c (hp c h)]; exact h

theorem lit (a : Char) (ha : special a = true) (c : Char) : (φ c == a) = (c == a) :=
  R.pres (· == a) (fun c h => by rw [beq_iff_eq] at h; rw [h]; exact ha) c

theorem eq_iff {a : Char} (ha : special a = true) {c : Char} : φ c = a ↔ c = a := by
  rw [← beq_iff_eq, R.lit a ha c, beq_iff_eq]

end Renaming

def Err.ren (φ : Char → Char) : Template.Err → Template.Err
  | .invalid => .invalid
  | .required v m => .required (v.map φ) (m.map φ)

def Out.ren (φ : Char → Char) : Template.Out → Template.Out
  | .ok s => .ok (s.map φ)
  | .err e => .err (Err.ren φ e)
  | .panic p => .panic p

def EnvRel (φ : Char → Char) (lk lk' : Env) : Prop := ∀ k, lk' (k.map φ) = (lk k).map (List.map φ)

/-- the corresponding statement about the C07 template model (its scanner tests ASCII only): the hypothesis of
    `parseLoop_map`, discharged by `template_parametric` (`Props/C18.lean`) -/
def SubstCommutes (φ : Char → Char) : Prop :=
  ∀ env env', EnvRel φ env env' → ∀ v, Template.subst env' (v.map φ) = Out.ren φ (Template.subst env v)

theorem special_of_lt {c : Char} (h : c.toNat < 128) : special c = true := by
  have : c.toNat < 256 := by omega
  simp [special, this]

theorem isAlphanum_special {c : Char} (h : c.isAlphanum = true) : special c = true := by
  apply special_of_lt
  simp only [Char.isAlphanum, Char.isAlpha, Char.isUpper, Char.isLower, Char.isDigit, Bool.or_eq_true, Bool.and_eq_true,
    decide_eq_true_eq, UInt32.le_iff_toNat_le, ge_iff_le] at h
  have : c.toNat = c.val.toNat := rfl
  rcases h with (h | h) | h <;> (rw [this]; have := h.2; simp at this; omega)

theorem isDigit_special {c : Char} (h : c.isDigit = true) : special c = true := by
  apply isAlphanum_special
  simp [Char.isAlphanum, h]

section
variable {φ : Char → Char} (R : Renaming φ)
include R

theorem dropWhile_map (p : Char → Bool) (hp : ∀ c, p (φ c) = p c) (s : Str) :
    (s.map φ).dropWhile p = (s.dropWhile p).map φ := by
  rw [List.dropWhile_map, show p ∘ φ = p from funext hp]

theorem takeWhile_map (p : Char → Bool) (hp : ∀ c, p (φ c) = p c) (s : Str) :
    (s.map φ).takeWhile p = (s.takeWhile p).map φ := by
  rw [List.takeWhile_map, show p ∘ φ = p from funext hp]

theorem isPrefixOf_map : ∀ (w s : Str), (∀ c ∈ w, special c = true) → w.isPrefixOf (s.map φ) = w.isPrefixOf s
  | [], _, _ => by simp
  | _ :: _, [], _ => by simp
  | a :: w, c :: s, h => by
    simp only [List.map_cons, List.isPrefixOf_cons₂]
    have h1 : (a == φ c) = (a == c) := by
      have := R.lit a (h a (List.mem_cons_self ..)) c
      rw [Bool.beq_comm] at this; rw [this, Bool.beq_comm]
    rw [h1, isPrefixOf_map w s (fun x hx => h x (List.mem_cons_of_mem _ hx))]

theorem map_fix (l : Str) (h : ∀ c ∈ l, special c = true) : l.map φ = l := by
  induction l with
  | nil => rfl
  | cons c r ih =>
    rw [List.map_cons, R.fix c (h c (List.mem_cons_self ..)), ih (fun x hx => h x (List.mem_cons_of_mem _ hx))]

theorem indexOfGo_map (sep : Str) (hs : ∀ c ∈ sep, special c = true) : ∀ (s : Str) (i : Nat),
    indexOfGo sep (s.map φ) i = indexOfGo sep s i
  | [], _ => rfl
  | c :: cs, i => by
    rw [List.map_cons]
    unfold indexOfGo
    rw [← List.map_cons, isPrefixOf_map R sep (c :: cs) hs, indexOfGo_map sep hs cs (i + 1)]

theorem cut_map (sep : Str) (hs : ∀ c ∈ sep, special c = true) (s : Str) :
    cut sep (s.map φ) = ((cut sep s).1.map φ, (cut sep s).2.map φ) := by
  unfold cut indexOf
  rw [indexOfGo_map R sep hs s 0]
  cases indexOfGo sep s 0 with
  | none => rfl
  | some i => simp [List.map_take, List.map_drop]

omit R in
theorem map_ren_inj (R : Renaming φ) : ∀ (a b : Str), a.map φ = b.map φ → a = b
  | [], [], _ => rfl
  | [], _ :: _, h => by cases h
  | _ :: _, [], h => by cases h
  | x :: a, y :: b, h => by
    simp only [List.map_cons, List.cons.injEq] at h
    rw [R.inj _ _ h.1, map_ren_inj R a b h.2]

end

def M.ren (φ : Char → Char) : M → M
  | .escaped => .escaped
  | .named n => .named (n.map φ)
  | .braced b => .braced (b.map φ)
  | .invalid => .invalid

def MRes.ren (φ : Char → Char) (x : M × Str × Str) : M × Str × Str := (M.ren φ x.1, x.2.1.map φ, x.2.2.map φ)

theorem isAlphaFold_special {c : Char} (h : isAlphaFold c = true) : special c = true := by
  simp only [isAlphaFold, Bool.or_eq_true, beq_iff_eq] at h
  rcases h with (h | h) | h
  · exact isAlphanum_special (by simp [Char.isAlphanum, h])
  · rw [h]; decide
  · rw [h]; decide

theorem isNameChar_special {c : Char} (h : isNameChar c = true) : special c = true := by
  simp only [isNameChar, Bool.or_eq_true, beq_iff_eq] at h
  rcases h with (h | h) | h
  · rw [h]; decide
  · exact isAlphaFold_special h
  · exact isDigit_special h

theorem isNameStart_special {c : Char} (h : isNameStart c = true) : special c = true := by
  simp only [isNameStart, Bool.or_eq_true, beq_iff_eq] at h
  rcases h with h | h
  · rw [h]; decide
  · exact isAlphaFold_special h

theorem isOpChar_special {c : Char} (h : isOpChar c = true) : special c = true := by
  simp only [isOpChar, Bool.or_eq_true, beq_iff_eq] at h
  rcases h with (h | h) | h <;> (rw [h]; decide)

section
variable {φ : Char → Char} (R : Renaming φ)
include R

theorem isNameChar_map (c : Char) : isNameChar (φ c) = isNameChar c := R.pres _ (fun _ h => isNameChar_special h) c
theorem isNameStart_map (c : Char) : isNameStart (φ c) = isNameStart c := R.pres _ (fun _ h => isNameStart_special h) c
theorem isOpChar_map (c : Char) : isOpChar (φ c) = isOpChar c := R.pres _ (fun _ h => isOpChar_special h) c

theorem spanName_map : ∀ s : Str, spanName (s.map φ) = ((spanName s).1.map φ, (spanName s).2.map φ)
  | [] => rfl
  | c :: cs => by
    simp only [List.map_cons, spanName, isNameChar_map R]
    split
    · rw [spanName_map cs]; rfl
    · rfl

theorem lastCloseLen_map (s : Str) : lastCloseLen (s.map φ) = lastCloseLen s := by
  unfold lastCloseLen
  have hnl : ∀ c, (φ c != '\n') = (c != '\n') := fun c => by simp only [bne, R.lit '\n' (by decide) c]
  have hcl : ∀ c, (φ c != '}') = (c != '}') := fun c => by simp only [bne, R.lit '}' (by decide) c]
  rw [takeWhile_map R (· != '\n') hnl, ← List.map_reverse, dropWhile_map R (· != '}') hcl]
  cases ((s.takeWhile (· != '\n')).reverse.dropWhile (· != '}')) with
  | nil => rfl
  | cons a b => simp

theorem afterName_map (n r r2 : Str) :
    afterName (n.map φ) (r.map φ) (r2.map φ) = MRes.ren φ (afterName n r r2) := by
  have hcb : φ '}' = '}' := R.fix _ (by decide)
  have hco : φ ':' = ':' := R.fix _ (by decide)
  cases r2 with
  | nil => rfl
  | cons x r3 =>
    simp only [List.map_cons, afterName, R.lit '}' (by decide) x, R.lit ':' (by decide) x, isOpChar_map R]
    by_cases h1 : (x == '}') = true
    · simp only [h1, if_true, MRes.ren, M.ren, List.map_append, List.map_cons, List.map_nil, hcb]
    · simp only [h1, Bool.false_eq_true, if_false]
      by_cases h2 : (x == ':') = true
      · simp only [h2, if_true]
        cases r3 with
        | nil => rfl
        | cons o r4 =>
          simp only [List.map_cons, isOpChar_map R, lastCloseLen_map R]
          cases isOpChar o with
          | false => rfl
          | true =>
            cases lastCloseLen r4 with
            | none => rfl
            | some k => simp only [if_true, MRes.ren, M.ren, List.map_append, List.map_cons, List.map_take, List.map_drop, hco]
      · simp only [h2, Bool.false_eq_true, if_false, lastCloseLen_map R]
        cases isOpChar x with
        | false => rfl
        | true =>
          cases lastCloseLen r3 with
          | none => rfl
          | some k => simp only [if_true, MRes.ren, M.ren, List.map_append, List.map_cons, List.map_take, List.map_drop]

theorem matchBraced_map (r : Str) : matchBraced (r.map φ) = MRes.ren φ (matchBraced r) := by
  cases r with
  | nil => rfl
  | cons c t =>
    rw [List.map_cons, matchBraced_eq, matchBraced_eq]
    dsimp only
    rw [isNameStart_map R, ← List.map_cons, spanName_map R]
    split
    · exact afterName_map R _ _ _
    · rfl

/-- through `matchDelim '$'`, which is written with tests: sixteen Boolean cases on the first two characters -/
theorem matchDollar_map (s : Str) : matchDollar (s.map φ) = (matchDollar s).map (MRes.ren φ) := by
  have hd : φ '$' = '$' := R.fix _ (by decide)
  have hb : φ '{' = '{' := R.fix _ (by decide)
  rw [← matchDelim_dollar, ← matchDelim_dollar]
  match s with
  | [] => rfl
  | [a] => rfl
  | a :: b :: r =>
    have hsp := spanName_map R (b :: r)
    rw [List.map_cons] at hsp
    simp only [List.map_cons, matchDelim, R.lit '$' (by decide), R.lit '{' (by decide), isNameStart_map R]
    cases a == '$' <;> cases b == '$' <;> cases b == '{' <;> cases isNameStart b <;>
      simp [MRes.ren, M.ren, hd, hb, matchBraced_map R, hsp]

theorem firstCloseGo_map : ∀ (s : Str) (i : Nat) (o : Int), firstCloseGo (s.map φ) i o = firstCloseGo s i o
  | [], _, _ => rfl
  | c :: cs, i, o => by
    rw [List.map_cons]
    by_cases h1 : c = '}'
    · subst h1
      rw [R.fix '}' (by decide), firstCloseGo_close, firstCloseGo_close, firstCloseGo_map cs]
    · by_cases h2 : c = '{'
      · subst h2
        rw [R.fix '{' (by decide), firstCloseGo, firstCloseGo, firstCloseGo_map cs]
      · have h1' : φ c ≠ '}' := fun e => h1 ((R.eq_iff (by decide)).mp e)
        have h2' : φ c ≠ '{' := fun e => h2 ((R.eq_iff (by decide)).mp e)
        have a := firstCloseGo_skip [c] cs i o (by simp [NoBrace, h1, h2])
        have b := firstCloseGo_skip [φ c] (cs.map φ) i o (by simp [NoBrace, h1', h2'])
        rw [List.singleton_append] at a b
        rw [a, b, firstCloseGo_map cs]
        rfl

theorem firstClose_map (s : Str) : firstClose (s.map φ) = firstClose s := firstCloseGo_map R s 0 0

omit R in
theorem opStr_special (o : Op) : ∀ c ∈ o.str, special c = true := by
  cases o <;> decide

theorem indexOf_op_map (o : Op) (s : Str) : indexOf o.str (s.map φ) = indexOf o.str s :=
  indexOfGo_map R o.str (opStr_special o) s 0

theorem selectOp_map (s : Str) : selectOp (s.map φ) = selectOp s := by
  unfold selectOp opTable
  simp only [List.foldl, pickEarlier, indexOf_op_map R]

theorem containsStr_op_map (o : Op) (s : Str) : containsStr o.str (s.map φ) = containsStr o.str s := by
  unfold containsStr
  rw [indexOf_op_map R]

omit R in
theorem applyOp_ren (op : Op) (name : Str) (v : Option Str) (d : Str) :
    applyOp op (name.map φ) (v.map (List.map φ)) (d.map φ) = Out.ren φ (applyOp op name v d) := by
  cases op <;> cases v <;> simp [applyOp, Out.ren, Err.ren] <;> split <;> simp [Out.ren, Err.ren]

omit R in
theorem getD_map (v : Option Str) : (v.map (List.map φ)).getD [] = (v.getD []).map φ := by
  cases v <;> rfl

omit R in
theorem ren_ok (s : Str) : Out.ren φ (.ok s) = .ok (s.map φ) := rfl
omit R in
theorem ren_err (e : Template.Err) : Out.ren φ (.err e) = .err (Err.ren φ e) := rfl
omit R in
theorem ren_panic (p : PanicSite) : Out.ren φ (.panic p) = .panic p := rfl
omit R in
theorem ren_seq (a b : Template.Out) : Out.ren φ (seq a b) = seq (Out.ren φ a) (Out.ren φ b) := by
  cases a <;> cases b <;> simp [seq, Out.ren]

end

section
variable {φ : Char → Char} (R : Renaming φ)
include R

theorem subOf_map (m : Str) : subOf (m.map φ) = (subOf m).map φ := by
  unfold subOf
  rw [firstClose_map R]
  cases firstClose m <;> simp [List.map_take]

theorem restOf_map (m : Str) : restOf (m.map φ) = (restOf m).map φ := by
  unfold restOf
  rw [firstClose_map R]
  cases firstClose m <;> simp [List.map_drop]

/-- the callee is constrained only where `replK` calls it, on shorter texts (`replK_callee_length`): what the induction on
    the length in `run_map` supplies -/
theorem replK_map {env env' : Env} (h : EnvRel φ env env') (sf sf' : Str → Template.Out) (m : Str)
    (hs : ∀ s : Str, s.length + 1 ≤ m.length → sf' (s.map φ) = Out.ren φ (sf s)) :
    replK env' (m.map φ) sf' = Out.ren φ (replK env m sf) := by
  unfold replK
  rw [subOf_map R, restOf_map R, selectOp_map R, matchDollar_map R]
  cases hmd : matchDollar (subOf m) with
  | none => rfl
  | some x =>
    obtain ⟨k, mm, rr⟩ := x
    cases k with
    | escaped => simp [MRes.ren, M.ren, Out.ren, R.fix '$' (by decide)]
    | invalid => simp [MRes.ren, M.ren, Out.ren, Err.ren]
    | named n =>
      simp only [Option.map_some, MRes.ren, M.ren]
      rw [h n, getD_map, ren_ok]
    | braced body =>
      have hl := replK_callee_length hmd (selectOp m).str
      simp only [Option.map_some, MRes.ren, M.ren]
      rw [containsStr_op_map R]
      split
      · rw [cut_map R _ (opStr_special _)]
        simp only
        rw [hs _ hl.1]
        cases sf (cut (selectOp m).str body).2 with
        | panic p => rfl
        | err e => rfl
        | ok d =>
          simp only [ren_ok]
          rw [h (cut (selectOp m).str body).1, applyOp_ren]
          cases applyOp (selectOp m) (cut (selectOp m).str body).1 (env (cut (selectOp m).str body).1) d with
          | ok x =>
            simp only [ren_ok]
            rw [hs _ hl.2]
            cases sf (restOf m) with
            | ok r => simp [ren_ok]
            | err e => rfl
            | panic p => rfl
          | err e => rfl
          | panic p => rfl
      · rw [h body, getD_map, ren_ok]

theorem run_map {env env' : Env} (h : EnvRel φ env env') (s : Str) :
    run env' (s.map φ) = Out.ren φ (run env s) := by
  have hd : φ '$' = '$' := R.fix _ (by decide)
  induction hn : s.length using Nat.strongRecOn generalizing s with
  | _ n ih =>
    subst hn
    cases s with
    | nil => rfl
    | cons c cs =>
      have hcs := ih _ (Nat.lt_succ_self _) cs rfl
      have hm' := matchDollar_map R (c :: cs)
      rw [List.map_cons] at hm' ⊢
      by_cases hc : c = '$'
      · subst hc
        rw [hd] at hm' ⊢
        cases hm : matchDollar ('$' :: cs) with
        | none =>
          rw [hm] at hm'
          rw [run_dollar_none env' _ hm', run_dollar_none env _ hm, ren_seq, hcs, ren_ok, List.map_cons, hd]; rfl
        | some x =>
          obtain ⟨k, m, rest⟩ := x
          rw [hm] at hm'
          have hl := matchDollar_length hm
          rw [List.length_cons] at hl
          rw [run_dollar_some env' _ hm', run_dollar_some env _ hm, ren_seq,
            ih _ (by simp only [List.length_cons]; omega) rest rfl]
          exact congrArg (seq · _) (replK_map R h _ _ m fun t ht => ih _ (by simp only [List.length_cons]; omega) t rfl)
      · rw [run_cons_lit env' _ _ (fun e => hc ((R.eq_iff (by decide)).1 e)), run_cons_lit env c cs hc, ren_seq, hcs]; rfl

end

end CV.Dotenv
