import ComposeVerif.Lemmas.ShortStr
import ComposeVerif.Model.ShortDecode
/-!
# Helper lemmas for the scalar-or-mapping decoders of C03 (`DeviceCount`, `UlimitsConfig`, `ShellCommand`)
-/
namespace CV.Short
open CV

theorem toLower_digit (c : Char) (h : c.isDigit = true) : c.toLower = c := by
  simp only [Char.isDigit, Bool.and_eq_true, decide_eq_true_eq] at h
  simp only [Char.toLower]
  split
  · rename_i hu
    exfalso
    have h1 : c.val.toNat ≤ 57 := by have := h.2; simpa [UInt32.le_iff_toNat_le] using this
    have h2 : 65 ≤ c.val.toNat := by have := hu.1; simpa [GE.ge, UInt32.le_iff_toNat_le] using this
    omega
  · rfl

theorem lower_digits (s : Str) (h : ∀ x ∈ s, x.isDigit = true) : lower s = s := by
  induction s with
  | nil => rfl
  | cons c r ih =>
    simp only [lower, List.map_cons] at ih ⊢
    rw [toLower_digit c (h c (by simp)), ih (fun x hx => h x (by simp [hx]))]

theorem digits_ne_all (s : Str) (h : ∀ x ∈ s, x.isDigit = true) : lower s ≠ ['a', 'l', 'l'] := by
  rw [lower_digits s h]
  intro he
  subst he
  have := h 'a' (by simp)
  simp at this

/-- the sign split of `strconv.ParseInt` on a string that starts with a digit -/
theorem sign_split_digit (c : Char) (r : Str) (hc : c.isDigit = true) :
    (match c :: r with | '-' :: r => (true, r) | '+' :: r => (false, r) | r => (false, r)) = (false, c :: r) := by
  split
  · rename_i heq; simp only [List.cons.injEq] at heq; rw [heq.1] at hc; simp at hc
  · rename_i heq; simp only [List.cons.injEq] at heq; rw [heq.1] at hc; simp at hc
  · rfl

/-- `decodeDeviceCount` on a string that starts with a digit: `strconv.ParseInt` without a sign -/
theorem decodeDeviceCount_digit_head (s : String) (c : Char) (r : Str) (hs : s.toList = c :: r) (hc : c.isDigit = true)
    (hall : lower (c :: r) ≠ ['a', 'l', 'l']) :
    decodeDeviceCount (.str s) =
      match parseDecAux 0 (c :: r) with
      | some n => if n ≤ 9223372036854775807 then some (.int n) else none
      | none => none := by
  simp only [decodeDeviceCount, hs, hall, if_false]
  split
  · rename_i heq; simp only [List.cons.injEq] at heq; rw [heq.1] at hc; simp at hc
  · rename_i heq; simp only [List.cons.injEq] at heq; rw [heq.1] at hc; simp at hc
  · simp
    cases parseDecAux 0 (c :: r) <;> rfl

theorem decodeDeviceCount_plus (s : String) (ds : Str) (hs : s.toList = '+' :: ds) :
    decodeDeviceCount (.str s) =
      if ds = [] then none else
      match parseDecAux 0 ds with
      | some n => if n ≤ 9223372036854775807 then some (.int n) else none
      | none => none := by
  have hall : lower ('+' :: ds) ≠ ['a', 'l', 'l'] := by simp [lower]
  simp only [decodeDeviceCount, hs, hall, if_false]
  simp
  by_cases hd : ds = []
  · simp [hd]
  · simp only [hd, if_false]
    cases parseDecAux 0 ds <;> rfl

theorem decodeDeviceCount_minus (s : String) (ds : Str) (hs : s.toList = '-' :: ds) :
    decodeDeviceCount (.str s) =
      if ds = [] then none else
      match parseDecAux 0 ds with
      | some n => if n ≤ 9223372036854775808 then some (.int (-(n : Int))) else none
      | none => none := by
  have hall : lower ('-' :: ds) ≠ ['a', 'l', 'l'] := by simp [lower]
  simp only [decodeDeviceCount, hs, hall, if_false]
  simp
  by_cases hd : ds = []
  · simp [hd]
  · simp only [hd, if_false]
    cases parseDecAux 0 ds <;> rfl

theorem allStrs_map_str (l : List String) : allStrs (l.map Val.str) = some (l.map Val.str) := by
  induction l with
  | nil => rfl
  | cons s r ih => simp [allStrs, ih]

/-- the soft / hard reader inside `decodeUlimit` -/
def ulimitField (k : String) (m : Val.KVs) : Option Val :=
  match Val.lookup k m with
  | none => some (.int 0)
  | some (.int i) => some (.int i)
  | some _ => none

theorem decodeUlimit_map (m : Val.KVs) :
    decodeUlimit (.map m) =
      match ulimitField "soft" m, ulimitField "hard" m with
      | some s, some h => some (.map [("single", .int 0), ("soft", s), ("hard", h)])
      | _, _ => none := rfl

end CV.Short
