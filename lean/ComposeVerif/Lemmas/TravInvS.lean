import ComposeVerif.Lemmas.TravInvL
import ComposeVerif.Lemmas.Runs
/-!
# Error bookkeeping (`InvE`) and the errgroup semaphore (`InvS`); the combined invariant `Inv`; reachable states satisfy it
-/
namespace CV.Trav

def ErrPc (pc : WPc) : Prop := pc = .returned true ∨ pc = .marked true ∨ pc = .sent true

structure InvE (s : St) : Prop where
  errLate : ∀ v pc, (v, pc) ∈ s.workers → ErrPc pc → Ev.finish v true ∈ s.log
  errExitsFin : ∀ v ∈ s.errExits, Ev.finish v true ∈ s.log
  firstErrLast : s.firstErr = s.errExits.getLast?
  cancelledIff : s.cancelled = (s.extCancelled || !s.errExits.isEmpty)
  errAccounted : ∀ v, Ev.finish v true ∈ s.log → (∃ pc, (v, pc) ∈ s.workers ∧ ErrPc pc) ∨ v ∈ s.errExits

theorem init_invE (g : Graph) : InvE (init g) := by
  refine ⟨?_, ?_, rfl, rfl, ?_⟩
  · intro v pc h; simp [init] at h
  · intro v h; simp [init] at h
  · intro v h; simp [init] at h

theorem InvE.firstErr_none_iff {s : St} (hE : InvE s) : s.firstErr = none ↔ s.errExits = [] := by
  rw [hE.firstErrLast]; exact List.getLast?_eq_none_iff

theorem InvE.not_cancelled {s : St} (hE : InvE s) (hok : s.firstErr = none) (hext : s.extCancelled = false) :
    s.cancelled = false := by
  rw [hE.cancelledIff, hext, hE.firstErr_none_iff.mp hok]; rfl

theorem invE_same {s s' : St} (hE : InvE s) (hlog : s'.log = s.log) (hx : s'.errExits = s.errExits)
    (hf : s'.firstErr = s.firstErr) (hc : s'.cancelled = s.cancelled) (hxc : s'.extCancelled = s.extCancelled)
    (hw : ∀ u pc, ErrPc pc → ((u, pc) ∈ s'.workers ↔ (u, pc) ∈ s.workers)) : InvE s' := by
  refine ⟨?_, ?_, ?_, ?_, ?_⟩
  · intro u pc hu he; rw [hlog]; exact hE.errLate u pc ((hw u pc he).mp hu) he
  · rw [hx, hlog]; exact hE.errExitsFin
  · rw [hf, hx]; exact hE.firstErrLast
  · rw [hc, hxc, hx]; exact hE.cancelledIff
  · intro u hu; rw [hlog] at hu; rw [hx]
    exact (hE.errAccounted u hu).imp (fun ⟨pc, hpc, he⟩ => ⟨pc, (hw u pc he).mpr hpc, he⟩) id

theorem invE_step {g : Graph} {lim : Option Nat} {s s' : St} {l : Label}
    (h : Step g lim s l s') (hA : InvA s) (hE : InvE s) : InvE s' := by
  cases h with
  | @visit w0 l y x st ws hs hv =>
    refine invE_same hE (putSched_log ..) (putSched_errExits ..) (putSched_firstErr ..) (putSched_cancelled ..)
      (putSched_extCancelled ..) fun u pc he => ?_
    rw [putSched_workers]
    rcases hv.workers with e | ⟨_, _, _, _, e⟩ <;> rw [e]
    exact List.mem_cons.trans (or_iff_right fun h => by cases h; rcases he with h | h | h <;> cases h)
  | @work v l pc pc' s1 hw hk =>
    have hm := mem_of_wpc hw
    have hsub : ∀ x, x ∈ s.log → x ∈ s1.log := fun x hx => by
      rcases hk.log with e | ⟨_, _, _, e⟩ | ⟨_, _, _, e⟩ <;> rw [e]
      · exact hx
      · exact List.mem_cons_of_mem _ hx
      · exact List.mem_cons_of_mem _ hx
    -- the worker's own error: still held after the step, or just recorded
    have carry : ErrPc pc → (∃ q, pc' = some q ∧ ErrPc q) ∨ v ∈ s1.errExits := by
      intro he
      cases hk <;> rcases he with h | h | h <;> cases h
      · exact .inl ⟨_, rfl, .inr (.inl rfl)⟩
      · exact .inl ⟨_, rfl, .inr (.inr rfl)⟩
      · exact .inr (List.mem_cons_self ..)
    -- an error held after the step: held before, or the visitor has just returned it
    have fresh : ∀ q, pc' = some q → ErrPc q → Ev.finish v true ∈ s1.log := by
      intro q e he
      cases hk <;> cases e <;> rcases he with h | h | h <;> cases h
      · exact List.mem_cons_self ..
      · exact hE.errLate v _ hm (.inl rfl)
      · exact hE.errLate v _ hm (.inr (.inl rfl))
    refine ⟨?_, ?_, ?_, ?_, ?_⟩
    · intro u q hu he
      rcases mem_moveW_cases hm hu with hu | ⟨rfl, e⟩
      · exact hsub _ (hE.errLate u q hu.2 he)
      · exact fresh q e he
    · intro u hu
      rcases hk.errs.2 with ⟨e, _⟩ | ⟨rfl, _, e, _⟩
      · exact hsub _ (hE.errExitsFin u (e ▸ hu))
      · have hu : u ∈ v :: s.errExits := e ▸ hu
        rcases List.mem_cons.mp hu with rfl | hu
        · exact hsub _ (hE.errLate _ _ hm (.inr (.inr rfl)))
        · exact hsub _ (hE.errExitsFin u hu)
    · show s1.firstErr = s1.errExits.getLast?
      rcases hk.errs.2 with ⟨e1, e2, _⟩ | ⟨_, _, e1, e2, _⟩ <;> rw [e1, e2, hE.firstErrLast]
      cases hx : s.errExits with
      | nil => rfl
      | cons b r =>
        rw [List.getLast?_cons_cons]
        cases hl : (b :: r).getLast? with
        | some x => rfl
        | none => exact absurd (List.getLast?_eq_none_iff.mp hl) (List.cons_ne_nil _ _)
    · show s1.cancelled = (s1.extCancelled || !s1.errExits.isEmpty)
      rw [hk.errs.1]
      rcases hk.errs.2 with ⟨e1, _, e3⟩ | ⟨_, _, e1, _, e3⟩ <;> rw [e1, e3]
      · exact hE.cancelledIff
      · exact (Bool.or_true _).symm
    · intro u hu
      show (∃ q, (u, q) ∈ moveW s.workers v pc' ∧ ErrPc q) ∨ u ∈ s1.errExits
      have old : Ev.finish u true ∈ s.log → (∃ q, (u, q) ∈ moveW s.workers v pc' ∧ ErrPc q) ∨ u ∈ s1.errExits := by
        intro h0
        rcases hE.errAccounted u h0 with ⟨q, hq, he⟩ | hx
        · by_cases e : u = v
          · subst e
            cases pc_unique hA.wkNodup hq hm
            exact (carry he).imp (fun ⟨q', e, he'⟩ => ⟨q', (mem_moveW_self hm).mpr e, he'⟩) id
          · exact .inl ⟨q, (mem_moveW_ne pc' e).mpr hq, he⟩
        · right
          rcases hk.errs.2 with ⟨e, _⟩ | ⟨_, _, e, _⟩ <;> rw [e]
          · exact hx
          · exact List.mem_cons_of_mem _ hx
      rcases hk.log with e | ⟨_, _, _, e⟩ | ⟨b, e', _, e⟩ <;> rw [e] at hu
      · exact old hu
      · exact old ((List.mem_cons.mp hu).resolve_left nofun)
      · rcases List.mem_cons.mp hu with h | hu
        · cases h; exact .inl ⟨_, (mem_moveW_self hm).mpr e', .inl rfl⟩
        · exact old hu
  | coord ha hc hk =>
    obtain ⟨_, hwk, hlog, _⟩ := hk.frame
    obtain ⟨h1, h2, h3, h4⟩ := hk.errs
    exact invE_same hE hlog h1 h2 h3 h4 fun _ _ _ => by rw [hwk]
  | cancel _ => exact ⟨hE.errLate, hE.errExitsFin, hE.firstErrLast, rfl, hE.errAccounted⟩

structure InvS (g : Graph) (lim : Option Nat) (s : St) : Prop where
  semLe : ∀ l, lim = some l → sem s ≤ l + 1
  /-- the coordinator ends only on cancellation or after it has received every vertex -/
  cDeadWhy : s.cAlive = false → s.cancelled = true ∨ ∀ v ∈ g.verts, v ∈ s.received
  /-- … and when it ends on cancellation the caller has already left the extremities loop (`<-spawned`), so nobody
  can start a worker any more and the workers alive then fit the limit -/
  cDeadBound : s.cAlive = false → (∀ v ∈ g.verts, v ∈ s.received) ∨ (s.m = none ∧ ∀ l, lim = some l → s.workers.length ≤ l)

theorem init_invS (g : Graph) (lim : Option Nat) : InvS g lim (init g) := by
  refine ⟨?_, ?_, ?_⟩
  · intro l _; simp [sem, init]
  · intro h; simp [init] at h
  · intro h; simp [init] at h

theorem all_of_length {verts l : List V} (hl : l.Nodup) (hsub : ∀ v ∈ l, v ∈ verts)
    (hlen : verts.length ≤ l.length) : ∀ v ∈ verts, v ∈ l := by
  intro x hx
  apply Classical.byContradiction
  intro hn
  have hsub' : l ⊆ verts.erase x := by
    intro y hy
    have hne : y ≠ x := by rintro rfl; exact hn hy
    exact (List.mem_erase_of_ne hne).mpr (hsub y hy)
  have h1 := hl.length_le_of_subset hsub'
  rw [List.length_erase_of_mem hx] at h1
  have := List.length_pos_of_mem hx
  omega

theorem invS_step {g : Graph} {lim : Option Nat} {s s' : St} {l : Label}
    (h : Step g lim s l s') (hA : InvA s) (hB : InvB g s) (hS : InvS g lim s) : InvS g lim s' := by
  cases h with
  | @visit w0 l y x st ws hs hv =>
    refine ⟨?_, ?_, ?_⟩
    · intro n hn
      have := hS.semLe n hn
      show (putSched _ w0 x).workers.length + (if (putSched _ w0 x).cAlive = true then 1 else 0) ≤ n + 1
      rw [putSched_workers, putSched_cAlive]
      rcases hv.workers with e | ⟨_, _, _, hfree, e⟩ <;> rw [e]
      · exact this
      · subst hn
        have hfree : s.workers.length + (if s.cAlive = true then 1 else 0) < n + 1 := of_decide_eq_true hfree
        show s.workers.length + 1 + (if s.cAlive = true then 1 else 0) ≤ n + 1
        omega
    · rw [putSched_cAlive, putSched_cancelled, putSched_received]; exact hS.cDeadWhy
    · -- once the coordinator has left on cancellation nobody is inside `visit`
      rw [putSched_cAlive, putSched_received]
      intro ha
      refine (hS.cDeadBound ha).imp id fun ⟨hm, _⟩ => ?_
      cases w0
      · exact absurd (hm ▸ hs : none = some y) nofun
      · exact absurd ((getSched_C_dead ha).symm.trans hs) nofun
  | @work v l pc pc' s1 hw hk =>
    obtain ⟨hm, _, hal⟩ := hk.sched
    have hlen := moveW_length_le s.workers v pc'
    refine ⟨?_, ?_, ?_⟩
    · intro n hn
      have := hS.semLe n hn
      show (moveW s.workers v pc').length + (if s1.cAlive = true then 1 else 0) ≤ n + 1
      rw [hal]
      exact Nat.le_trans (Nat.add_le_add_right hlen _) this
    · show s1.cAlive = false → s1.cancelled = true ∨ ∀ u ∈ g.verts, u ∈ s1.received
      rw [hal, hk.handoff.1]
      intro ha
      refine (hS.cDeadWhy ha).imp (fun hc => ?_) id
      rcases hk.errs.2 with e | e
      · exact e.2.2 ▸ hc
      · exact e.2.2.2.2
    · show s1.cAlive = false → (∀ u ∈ g.verts, u ∈ s1.received) ∨ (s1.m = none ∧ ∀ n, lim = some n → (moveW s.workers v pc').length ≤ n)
      rw [hal, hk.handoff.1, hm]
      exact fun ha => (hS.cDeadBound ha).imp id fun ⟨h1, h2⟩ => ⟨h1, fun n hn => Nat.le_trans hlen (h2 n hn)⟩
  | coord ha hc hk =>
    cases hk with
    | @recvLast v rest hch hex =>
      -- the last vertex: with `v` everything has been received
      have hall : ∀ u ∈ g.verts, u ∈ v :: s.received := by
        have ⟨he, h1⟩ := hB.expectEq ha
        have hnd : (v :: s.received).Nodup := by
          have := hA.chRecvNodup
          rw [hch] at this
          exact (List.nodup_append.mp (recv_nodup rfl this)).2.1
        refine all_of_length hnd (fun u hu => hB.recvSub u ?_) (by simp only [List.length_cons]; omega)
        rcases List.mem_cons.mp hu with rfl | hu
        · exact .inl (hch ▸ List.mem_cons_self ..)
        · exact .inr hu
      refine ⟨fun n hn => ?_, fun _ => .inr hall, fun _ => .inl hall⟩
      have := hS.semLe n hn
      show s.workers.length + 0 ≤ n + 1
      exact Nat.le_trans (Nat.le_add_right ..) this
    | recvMore _ _ => exact ⟨hS.semLe, fun h => absurd (ha.symm.trans h) nofun, fun h => absurd (ha.symm.trans h) nofun⟩
    | ctxDone hcan hm =>
      refine ⟨fun n hn => ?_, fun _ => .inl hcan, fun _ => .inr ⟨hm, fun n hn => ?_⟩⟩
      · exact Nat.le_trans (Nat.le_add_right ..) (hS.semLe n hn)
      · have := hS.semLe n hn
        unfold sem at this; rw [if_pos ha] at this
        exact Nat.le_of_succ_le_succ this
  | cancel _ => exact ⟨hS.semLe, fun ha => .inl rfl, hS.cDeadBound⟩

structure Inv (g : Graph) (lim : Option Nat) (s : St) : Prop where
  a : InvA s
  b : InvB g s
  l : InvL g s
  e : InvE s
  s : InvS g lim s

theorem init_inv (g : Graph) (hg : GraphOK g) (lim : Option Nat) : Inv g lim (init g) :=
  ⟨init_invA g, init_invB g hg, init_invL g, init_invE g, init_invS g lim⟩

theorem inv_step {g : Graph} {lim : Option Nat} {s s' : St} {l : Label} (hg : GraphOK g)
    (h : Step g lim s l s') (hI : Inv g lim s) : Inv g lim s' :=
  ⟨invA_step h hI.a, invB_step hg h hI.a hI.b, invL_step h hI.a hI.b hI.l, invE_step h hI.a hI.e, invS_step h hI.a hI.b hI.s⟩

/-- the workers share the errgroup's `n + 1` slots with the coordinator; once it is gone either every vertex has been
handed off (no worker is still inside its visitor) or nobody can spawn any more -/
theorem Inv.running_le {g : Graph} {n : Nat} {s : St} (hI : Inv g (some n) s) : running s ≤ n := by
  have h2 : running s ≤ s.workers.length := List.length_filter_le ..
  cases ha : s.cAlive with
  | true =>
    have := hI.s.semLe n rfl
    unfold sem at this; rw [if_pos ha] at this
    omega
  | false =>
    rcases hI.s.cDeadBound ha with hall | ⟨_, hlen⟩
    · refine Nat.le_trans (Nat.le_of_eq (List.length_eq_zero_iff.mpr (List.filter_eq_nil_iff.mpr ?_))) (Nat.zero_le _)
      rintro ⟨v, pc⟩ hm
      obtain ⟨e, rfl⟩ := hI.a.handedPc v pc (.inr (hall v (hI.b.wkVerts v pc hm))) hm
      nofun
    · exact Nat.le_trans h2 (hlen n rfl)

theorem reach_inv {g : Graph} {lim : Option Nat} (hg : GraphOK g) {s : St} (h : Reach g lim s) : Inv g lim s := by
  induction h with
  | init => exact init_inv g hg lim
  | step _ hs ih => exact inv_step hg (step?_sound hs) ih

theorem runL_replays (g : Graph) (lim : Option Nat) : CV.Runs.Replays (step? g lim) (runL g lim) :=
  ⟨fun _ => rfl, fun _ _ _ => rfl⟩

theorem reach_runL {g : Graph} {lim : Option Nat} {s s' : St} (h : Reach g lim s) (ls : List Label)
    (hr : runL g lim s ls = some s') : Reach g lim s' :=
  CV.Runs.run_preserves (runL_replays g lim) (R := Reach g lim) (fun h hs => .step h hs) h hr

theorem Step.log_grows {g : Graph} {lim : Option Nat} {s s' : St} {l : Label} (h : Step g lim s l s') :
    s'.log = s.log ∨ ∃ e, s'.log = e :: s.log := by
  cases h with
  | visit _ _ => exact .inl (putSched_log ..)
  | work _ hk =>
    rcases hk.log with e | ⟨_, _, _, e⟩ | ⟨_, _, _, e⟩
    · exact .inl e
    · exact .inr ⟨_, e⟩
    · exact .inr ⟨_, e⟩
  | coord _ _ hk => exact .inl hk.frame.2.2.1
  | cancel _ => exact .inl rfl

/-- The log is written by `cons` only, so each of its suffixes was the whole log at some earlier moment: a statement
about a position in the log is a statement about the state in which the event at that position had just happened. -/
theorem reach_log_suffix {g : Graph} {lim : Option Nat} {s : St} (h : Reach g lim s) :
    ∀ l1 l2, s.log = l1 ++ l2 → ∃ s0, Reach g lim s0 ∧ s0.log = l2 := by
  induction h with
  | init => intro l1 l2 e; exact ⟨_, .init, (List.append_eq_nil_iff.mp e.symm).2.symm⟩
  | @step _ s' _ hr hs ih =>
    intro l1 l2 e
    cases l1 with
    | nil => exact ⟨s', .step hr hs, e⟩
    | cons a l1 =>
      rcases Step.log_grows (step?_sound hs) with e' | ⟨_, e'⟩ <;> rw [e'] at e
      · exact ih _ _ e
      · exact ih _ _ (List.cons.inj e).2

end CV.Trav
