import ComposeVerif.Lemmas.C11Top
/-! The result of `Normalize` satisfies again every type assertion `Normalize` makes: `shapeNN_normalizePure`,
`shapeServices_normalizePure`, `shapeNames_normalizePure` (with these `normalize d = ok d'` implies `normalize d' = ok d'`).

Each assertion has the form "if the key is there, its value is a mapping (a list) and …": `mapShape` / `seqShape`.  What
`Normalize` does to such a value is `onMap g`, so one lemma (`mapShape_onMap`) carries every assertion across. -/
namespace CV.C11
open CV CV.Val CV.C11.Spec

/-- `if x, ok := m[k]; ok { y, ok := x.(map[string]any); if !ok { return err }; … P(y) … }` -/
def mapShape (P : KVs → Bool) : Option Val → Bool
  | none => true
  | some (.map m) => P m
  | some _ => false

def seqShape (P : List Val → Bool) : Option Val → Bool
  | none => true
  | some (.seq l) => P l
  | some _ => false

theorem mapShape_onMap {P Q : KVs → Bool} {g : KVs → KVs} (h : ∀ m, P m = true → Q (g m) = true) {o : Option Val}
    (ho : mapShape P o = true) : mapShape Q (o.map (onMap g)) = true := by
  cases o with
  | none => rfl
  | some v => cases v with
    | map m => exact h m ho
    | _ => cases ho

theorem all_mapAt {P : Val → Bool} {f : String → Val → Val} (h : ∀ k v, P v = true → P (f k v) = true) (m : KVs)
    (hm : (m.all fun kv => P kv.2) = true) : ((mapAt f m).all fun kv => P kv.2) = true := by
  simp only [mapAt, List.all_map, List.all_eq_true, Function.comp] at hm ⊢
  exact fun kv hkv => h _ _ (hm kv hkv)

theorem all_mapVals {P : Val → Bool} {f : Val → Val} (h : ∀ v, P v = true → P (f v) = true) (m : KVs)
    (hm : (m.all fun kv => P kv.2) = true) : ((mapVals f m).all fun kv => P kv.2) = true :=
  all_mapAt (f := fun _ => f) (fun _ => h) m hm

theorem shapeNNService_map (s : KVs) :
    shapeNNService (.map s) = ((lookup "network_mode" s).isSome || mapShape (fun _ => true) (lookup "networks" s)) := rfl

theorem shapeService_map (s : KVs) :
    shapeService (.map s) =
      (mapShape (fun _ => true) (lookup "build" s) && mapShape (fun _ => true) (lookup "depends_on" s) &&
        seqShape (fun l => l.all isStr) (lookup "links" s) && seqShape (fun l => l.all shapeVolume) (lookup "volumes" s) &&
        seqShape (fun l => l.all isStr) (lookup "volumes_from" s)) := rfl

theorem shapeNNService_step (clean : String → String) (env : Env) (x : Val) (h : shapeNNService x = true) :
    shapeNNService (onMap (normSvc clean env) x) = true := by
  cases x with
  | map s =>
    have hnn : shapeNNService (.map (nnService s)) = true := by
      rw [nnService_eq]
      split
      · rw [shapeNNService_map, lookup_insert_self]; exact Bool.or_true _
      · exact h
    rw [shapeNNService_map] at hnn
    rwa [onMap, shapeNNService_map, normSvc, lookup_normService_read clean env (k := "network_mode") (by simp [svcRead, namespaces]),
      lookup_normService_read clean env (k := "networks") (by simp [svcRead])]
  | _ => cases h

theorem shapeVolume_clean (clean : String → String) (v : Val) (h : shapeVolume v = true) :
    shapeVolume (cleanVolume clean v) = true := by
  cases v with
  | map vol => simp only [cleanVolume, shapeVolume, lookup_insert_self]
  | _ => cases h

theorem seqShape_normVolumesV (clean : String → String) {o : Option Val}
    (ho : seqShape (fun l => l.all shapeVolume) o = true) :
    seqShape (fun l => l.all shapeVolume) (o.map (normVolumesV clean)) = true := by
  cases o with
  | none => rfl
  | some v => cases v with
    | seq l =>
      simp only [seqShape, Option.map_some, normVolumesV, List.all_map, List.all_eq_true, Function.comp] at ho ⊢
      exact fun x hx => shapeVolume_clean clean x (ho x hx)
    | _ => cases ho

theorem shapeService_step (clean : String → String) (env : Env) (x : Val) (h : shapeService x = true) :
    shapeService (onMap (normSvc clean env) x) = true := by
  cases x with
  | map s =>
    simp only [shapeService_map, Bool.and_eq_true] at h
    obtain ⟨⟨⟨⟨hb, hd⟩, hl⟩, hv⟩, hvf⟩ := h
    have eb : lookup "build" (normSvc clean env s) = (lookup "build" s).map (onMap (normBuild env)) := by
      rw [lookup_normSvc_attr clean env (by simp) (by simp), funext (svcAttr_build clean env)]
    have ev : lookup "volumes" (normSvc clean env s) = (lookup "volumes" s).map (normVolumesV clean) := by
      rw [lookup_normSvc_attr clean env (by simp) (by simp), funext (svcAttr_volumes clean env)]
    have hdep : mapShape (fun _ => true) (lookup "depends_on" (normSvc clean env s)) = true := by
      unfold normSvc
      rw [lookup_normService_depends_on]
      split
      · rwa [lookup_nnService_ne (by simp)]
      · rfl
    rw [onMap, shapeService_map, eb, ev, hdep, lookup_normSvc_read clean env (k := "links") (by simp [svcRead]) (by simp),
      lookup_normSvc_read clean env (k := "volumes_from") (by simp [svcRead]) (by simp), hl, hvf,
      mapShape_onMap (fun _ _ => rfl) hb, seqShape_normVolumesV clean hv]
    rfl
  | _ => cases h

theorem shapeResource_named (pj : Option Val) (k : String) (v : Val) (h : shapeResource v = true) :
    shapeResource (nameResource pj k v) = true := by
  cases v with
  | map _ => rfl
  | null => rfl
  | _ => cases h

theorem all_shapeResource_nnNetworks (d : KVs) (h : shapeSection d "networks" = true) :
    ((nnNetworks d).all fun kv => shapeResource kv.2) = true := by
  have hdecl : ((declaredNetworks d).all fun kv => shapeResource kv.2) = true := by
    unfold declaredNetworks
    unfold shapeSection at h
    cases hl : lookup "networks" d with
    | none => rfl
    | some v =>
      rw [hl] at h
      cases v with
      | map m => exact h
      | _ => rfl
  rw [nnNetworks_eq]
  split
  · simp only [List.all_eq_true] at hdecl ⊢
    intro kv hkv
    rcases mem_of_mem_setIfAbsent hkv with h1 | h1
    · rw [h1]; rfl
    · exact hdecl kv h1
  · exact hdecl

theorem shapeNames_normalizePure (clean : String → String) (env : Env) (d : KVs) (h : shapeNames d = true) :
    shapeNames (normalizePure clean env d) = true := by
  unfold shapeNames at h ⊢
  rw [List.all_eq_true] at h ⊢
  intro r hr
  have hsec : mapShape (fun top => top.all fun kv => shapeResource kv.2) (lookup r d) = true := h r hr
  have hnamed := mapShape_onMap (Q := fun top => top.all fun kv => shapeResource kv.2)
    (fun m => all_mapAt (shapeResource_named (lookup "name" d)) m) hsec
  rw [← nameSectionV_eq] at hnamed
  show mapShape (fun top => top.all fun kv => shapeResource kv.2) (lookup r (normalizePure clean env d)) = true
  by_cases hn : r = "networks"
  · subst hn
    rw [lookup_networks_normalizePure]
    split
    · exact hnamed
    · rename_i e t hnn
      rw [← hnn]
      exact all_mapAt (shapeResource_named _) _ (all_shapeResource_nnNetworks d (h _ hr))
  · rwa [lookup_normalizePure clean env d hn, funext (topH_resource clean env _ (List.contains_iff_mem.mpr hr))]

theorem shapeNN_normalizePure (clean : String → String) (env : Env) (d : KVs) (h : shapeNN d = true) :
    shapeNN (normalizePure clean env d) = true := by
  have h' : (mapShape (fun _ => true) (lookup "networks" d) &&
      mapShape (fun svcs => svcs.all fun kv => shapeNNService kv.2) (lookup "services" d)) = true := h
  rw [Bool.and_eq_true] at h'
  show (mapShape (fun _ => true) (lookup "networks" (normalizePure clean env d)) &&
      mapShape (fun svcs => svcs.all fun kv => shapeNNService kv.2) (lookup "services" (normalizePure clean env d))) = true
  rw [Bool.and_eq_true]
  constructor
  · rw [lookup_networks_normalizePure]
    split
    · rw [nameSectionV_eq]; exact mapShape_onMap (fun _ _ => rfl) h'.1
    · rfl
  · rw [lookup_normalizePure clean env d (by simp), funext (topH_services_eq clean env _)]
    exact mapShape_onMap (fun m => all_mapVals (shapeNNService_step clean env) m) h'.2

theorem shapeServices_normalizePure (clean : String → String) (env : Env) (d : KVs) (h : shapeServices d = true) :
    shapeServices (normalizePure clean env d) = true := by
  have h' : mapShape (fun svcs => svcs.all fun kv => shapeService kv.2) (lookup "services" d) = true := h
  show mapShape (fun svcs => svcs.all fun kv => shapeService kv.2) (lookup "services" (normalizePure clean env d)) = true
  rw [lookup_normalizePure clean env d (by simp), funext (topH_services_eq clean env _)]
  exact mapShape_onMap (fun m => all_mapVals (shapeService_step clean env) m) h'

end CV.C11
