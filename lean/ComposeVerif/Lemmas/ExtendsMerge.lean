import ComposeVerif.Model.ExtendsMerge
import ComposeVerif.Lemmas.ExtendsEnv
import ComposeVerif.Lemmas.MergeFuel
/-!
# The real merge step (`mergeExtend` = C04's `Merge.extendService`) as an environment of the extends model

It never panics (C04's `extendService_never_panics`; the `yaml.(map[string]any)` assertion holds), which gives `FuelFree` /
`PanicFree`, and it never reports the cycle tracker's class: every error the merge model can return is one of the literals
`cannotOverride`, `unexpectedType`, `unknown-merger` (`Merge.IsLeaf`), `top-level`, and `bind` only propagates
(`Merge.mergeStep_lift`) — which gives `NoCircularEnv`, the hypothesis of `circular_sound`.
-/
namespace CV.Extends
open CV CV.Val

/-- `ExtendService` of two mappings, when it succeeds, yields a mapping (the `yaml.(map[string]any)` assertion holds): no
rule sits at `services.x`, so the merge is `mergeMappings` (`Merge.mergeYaml_maps`) -/
theorem extendService_ok_is_map (b o : KVs) (v : Val)
    (h : CV.Merge.extendService (.map b) (.map o) = .ok v) : ∃ m, v = .map m := by
  unfold CV.Merge.extendService at h
  simp only [CV.Merge.fuelFor] at h
  rw [show CV.Merge.depth (Val.map o) + 8 = (CV.Merge.depth (Val.map o) + 7) + 1 from rfl,
    CV.Merge.mergeYaml_maps _ _ _ _ (CV.Merge.ruleAt_short _ (by decide))] at h
  cases hk : CV.Merge.mergeKVs (CV.Merge.depth (Val.map o) + 7) b o ["services", "x"] with
  | ok m => rw [hk] at h; simp only [CV.Merge.Out.bind, CV.Merge.Out.ok.injEq] at h; exact ⟨m, h.symm⟩
  | err e => rw [hk] at h; simp [CV.Merge.Out.bind] at h
  | panic s => rw [hk] at h; simp [CV.Merge.Out.bind] at h

theorem mergeExtend_never_panics (b o : KVs) (s : String) : mergeExtend b o ≠ .panic s := by
  unfold mergeExtend
  split
  · simp
  · rename_i v hnm hv
    obtain ⟨m, hm⟩ := extendService_ok_is_map b o _ hv
    exact absurd hm (hnm m)
  · simp
  · rename_i s' hp
    exact absurd hp (CV.Merge.extendService_never_panics _ _ s')

open CV.Merge

def NC {α : Type} (r : Merge.Out α) : Prop := r ≠ .err "circular"

theorem NC.leaf {α : Type} {x : Merge.Out α} (h : IsLeaf x) : NC x := by
  cases x with
  | err e => rintro ⟨⟩; simp [IsLeaf] at h
  | _ => nofun

theorem NC.bind {α β : Type} {x : Merge.Out α} {f : α → Merge.Out β} (hx : NC x) (hf : ∀ a, x = .ok a → NC (f a)) : NC (x.bind f) := by
  cases x with
  | ok a => exact hf a rfl
  | err e => rintro ⟨⟩; exact hx rfl
  | panic s => nofun

theorem nc_mergeYaml : ∀ (n : Nat) (e o : Val) (p : TPath), NC (mergeYaml n e o p)
  | 0, _, _, _ => nofun
  | n + 1, e, o, p =>
    mergeStep_lift (R := fun x _ => NC x) (mk' := mergeKVs n) NC.leaf NC.bind e o p fun a b _ =>
      mergeKVsWith_lift (R := fun x _ => NC x) (g := mergeYaml n) NC.leaf NC.bind p b a fun kv _ e' => nc_mergeYaml n e' kv.2 _

theorem mergeExtend_not_circular (b s : KVs) : mergeExtend b s ≠ .err "circular" := by
  have h : NC (extendService (.map b) (.map s)) := by
    simp only [extendService]
    exact nc_mergeYaml _ _ _ _
  unfold mergeExtend
  split
  · intro h'; cases h'
  · intro h'; cases h'
  · rename_i e he
    intro h'
    simp only [Out.err.injEq] at h'
    subst h'
    exact h he
  · intro h'; cases h'

/-! ### `realEnv`: the three environment hypotheses, as far as the merge step is concerned

`simp only [realEnv]` comes first in each: `exact` alone would unfold the merge model to compare `extend` with `mergeExtend`. -/

theorem realEnv_fuelFree (mainFile : String) (fs : FS)
    (hfs : ∀ f s, fsPanics fs f s → s ≠ fuelMark) : FuelFree (realEnv mainFile fs) := by
  simp only [FuelFree, realEnv]
  exact ⟨fun b s => mergeExtend_never_panics b s fuelMark, hfs⟩

theorem realEnv_panicFree (mainFile : String) (fs : FS) (hfs : ∀ f s, ¬ fsPanics fs f s) :
    PanicFree (realEnv mainFile fs) := by
  simp only [PanicFree, realEnv]
  exact ⟨mergeExtend_never_panics, hfs⟩

/-- what is left is the file-system half of `NoCircularEnv` -/
theorem realEnv_noCircular (mainFile : String) (fs : FS) (hfs : ∀ f, fsLookup f fs ≠ some (.err "circular")) :
    NoCircularEnv (realEnv mainFile fs) := by
  simp only [NoCircularEnv, realEnv]
  exact ⟨mergeExtend_not_circular, hfs⟩


end CV.Extends
