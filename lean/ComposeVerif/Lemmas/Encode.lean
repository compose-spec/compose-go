import ComposeVerif.Model.Encode
import ComposeVerif.Spec.RoundTrip
import ComposeVerif.Lemmas.KVs
/-! The tag-driven struct encoding (C09): one step of the field loop, then: every field is rendered under its own key. -/
namespace CV.Encode
open CV CV.TypeDesc CV.Marshal

/-- the field takes part in the keyed rendering (not skipped, not an inlined extension map) -/
def keyed (fmt : Fmt) (fd : FieldDesc) : Bool := !skipOf fmt fd && !(fmt == .yaml && fd.yamlInline)

/-- no inlined extension map contributes entries (JSON: always; YAML: the extension maps are nil) -/
def NoInline (fmt : Fmt) (fds : List FieldDesc) (fs : List (String × Val)) : Prop :=
  ∀ fd ∈ fds, skipOf fmt fd = false → fmt = .yaml → fd.yamlInline = true → field fs fd.goName = .null

/-- is the field left out of the rendering by `omitempty`? -/
def omitted (fmt : Fmt) (zero : TyExpr → Val → Bool) (fs : List (String × Val)) (fd : FieldDesc) : Bool :=
  omitOf fmt fd && zero fd.ty (field fs fd.goName)

theorem keyed_iff (fmt : Fmt) (fd : FieldDesc) :
    keyed fmt fd = true ↔ skipOf fmt fd = false ∧ ¬ (fmt = .yaml ∧ fd.yamlInline = true) := by
  cases fmt <;> simp [keyed]

theorem NoInline.tail {fmt : Fmt} {fd : FieldDesc} {rest : List FieldDesc} {fs : List (String × Val)}
    (h : NoInline fmt (fd :: rest) fs) : NoInline fmt rest fs :=
  fun fd' hm => h fd' (List.mem_cons_of_mem _ hm)

variable (fmt : Fmt) (enc : TyExpr → Val → Out) (zero : TyExpr → Val → Bool)

theorem encodeFields_skip {fd : FieldDesc} {rest : List FieldDesc} {fs : List (String × Val)}
    (hni : NoInline fmt (fd :: rest) fs) (h : keyed fmt fd = false ∨ omitted fmt zero fs fd = true) :
    encodeFieldsWith fmt enc zero (fd :: rest) fs = encodeFieldsWith fmt enc zero rest fs := by
  simp only [encodeFieldsWith]
  by_cases hs : skipOf fmt fd = true
  · rw [if_pos hs]
  rw [if_neg hs]
  by_cases hin : fmt = .yaml ∧ fd.yamlInline = true
  · rw [if_pos hin, hni fd List.mem_cons_self (by simpa using hs) hin.1 hin.2]
    cases encodeFieldsWith fmt enc zero rest fs with
    | ok v => cases v <;> rfl
    | _ => rfl
  rw [if_neg hin]
  have hk : keyed fmt fd = true := (keyed_iff fmt fd).mpr ⟨by simpa using hs, hin⟩
  rw [hk] at h
  exact if_pos (h.resolve_left (by simp))

theorem encodeFields_keep {fd : FieldDesc} {rest : List FieldDesc} {fs : List (String × Val)}
    (hk : keyed fmt fd = true) (ho : omitted fmt zero fs fd = false) (out : List (String × Val)) :
    encodeFieldsWith fmt enc zero (fd :: rest) fs = .ok (.map out) ↔
      ∃ t out', enc fd.ty (field fs fd.goName) = .ok t ∧ encodeFieldsWith fmt enc zero rest fs = .ok (.map out') ∧
        out = (keyOf fmt fd, t) :: out' := by
  obtain ⟨hs, hin⟩ := (keyed_iff fmt fd).mp hk
  simp only [encodeFieldsWith, hs, Bool.false_eq_true, if_false, if_neg hin, show (omitOf fmt fd && zero fd.ty (field fs fd.goName)) = false from ho]
  cases enc fd.ty (field fs fd.goName) with
  | ok t =>
    cases encodeFieldsWith fmt enc zero rest fs with
    | ok v => cases v <;> simp [eq_comm]
    | _ => simp
  | _ => simp

theorem encodeFields_cons (fd : FieldDesc) (rest : List FieldDesc) (fs out : List (String × Val))
    (hni : NoInline fmt (fd :: rest) fs)
    (h : encodeFieldsWith fmt enc zero (fd :: rest) fs = .ok (.map out)) :
    ∃ out', encodeFieldsWith fmt enc zero rest fs = .ok (.map out') ∧
      ((keyed fmt fd = true ∧ omitted fmt zero fs fd = false ∧
          ∃ t, enc fd.ty (field fs fd.goName) = .ok t ∧ out = (keyOf fmt fd, t) :: out')
       ∨ ((keyed fmt fd = false ∨ omitted fmt zero fs fd = true) ∧ out = out')) := by
  by_cases hsk : keyed fmt fd = false ∨ omitted fmt zero fs fd = true
  · rw [encodeFields_skip fmt enc zero hni hsk] at h
    exact ⟨out, h, Or.inr ⟨hsk, rfl⟩⟩
  · simp only [not_or, Bool.not_eq_false, Bool.not_eq_true] at hsk
    obtain ⟨t, out', he, hr, ho⟩ := (encodeFields_keep fmt enc zero hsk.1 hsk.2 out).mp h
    exact ⟨out', hr, Or.inl ⟨hsk.1, hsk.2, t, he, ho⟩⟩

theorem encodeFields_keys :
    ∀ (fds : List FieldDesc) (fs out : List (String × Val)), NoInline fmt fds fs →
      encodeFieldsWith fmt enc zero fds fs = .ok (.map out) →
      ∀ k ∈ out.map Prod.fst, k ∈ (fds.filter (keyed fmt)).map (keyOf fmt)
  | [], fs, out, _, h, k, hk => by
    simp only [encodeFieldsWith, Out.ok.injEq, Val.map.injEq] at h
    subst h
    cases hk
  | fd :: rest, fs, out, hni, h, k, hk => by
    obtain ⟨out', hr, hcase⟩ := encodeFields_cons fmt enc zero fd rest fs out hni h
    have ih := encodeFields_keys rest fs out' hni.tail hr k
    rw [List.filter_cons]
    rcases hcase with ⟨hkd, _, t, _, ho⟩ | ⟨_, ho⟩
    · subst ho
      rw [if_pos hkd]
      rcases List.mem_cons.mp hk with rfl | hk'
      · exact List.mem_cons_self
      · exact List.mem_cons_of_mem _ (ih hk')
    · subst ho
      split
      · exact List.mem_cons_of_mem _ (ih hk)
      · exact ih hk

theorem encodeFields_ok :
    ∀ (fds : List FieldDesc) (fs : List (String × Val)), NoInline fmt fds fs →
      (∀ fd ∈ fds, keyed fmt fd = true → omitted fmt zero fs fd = false → ∃ t, enc fd.ty (field fs fd.goName) = .ok t) →
      ∃ out, encodeFieldsWith fmt enc zero fds fs = .ok (.map out)
  | [], _, _, _ => ⟨[], rfl⟩
  | fd :: rest, fs, hni, h => by
    obtain ⟨out', hr⟩ := encodeFields_ok rest fs hni.tail (fun fd' hm => h fd' (List.mem_cons_of_mem _ hm))
    by_cases hsk : keyed fmt fd = false ∨ omitted fmt zero fs fd = true
    · exact ⟨out', by rw [encodeFields_skip fmt enc zero hni hsk]; exact hr⟩
    · simp only [not_or, Bool.not_eq_false, Bool.not_eq_true] at hsk
      obtain ⟨t, ht⟩ := h fd List.mem_cons_self hsk.1 hsk.2
      exact ⟨_, (encodeFields_keep fmt enc zero hsk.1 hsk.2 _).mpr ⟨t, out', ht, hr, rfl⟩⟩

theorem encodeFields_field :
    ∀ (fds : List FieldDesc) (fs out : List (String × Val)), NoInline fmt fds fs →
      ((fds.filter (keyed fmt)).map (keyOf fmt)).Nodup →
      encodeFieldsWith fmt enc zero fds fs = .ok (.map out) →
      ∀ fd ∈ fds, keyed fmt fd = true →
        (omitted fmt zero fs fd = true ∧ Val.lookup (keyOf fmt fd) out = none) ∨
        (omitted fmt zero fs fd = false ∧ ∃ t, enc fd.ty (field fs fd.goName) = .ok t ∧ Val.lookup (keyOf fmt fd) out = some t) := by
  intro fds
  induction fds with
  | nil => intro fs out _ _ _ fd hm; cases hm
  | cons hd rest ih =>
    intro fs out hni hnd h fd hm hk
    obtain ⟨out', hrest, hcase⟩ := encodeFields_cons fmt enc zero hd rest fs out hni h
    have hkeys := encodeFields_keys fmt enc zero rest fs out' hni.tail hrest
    -- the keys of the rest are distinct, and the head's key (when the head is keyed) is not among them
    rw [List.filter_cons] at hnd
    have hnd_rest : ((rest.filter (keyed fmt)).map (keyOf fmt)).Nodup := by
      split at hnd
      · exact (List.nodup_cons.mp hnd).2
      · exact hnd
    have hhead : keyed fmt hd = true → keyOf fmt hd ∉ (rest.filter (keyed fmt)).map (keyOf fmt) := by
      intro hkh
      rw [if_pos hkh] at hnd
      exact (List.nodup_cons.mp hnd).1
    rcases List.mem_cons.mp hm with rfl | hmr
    · rcases hcase with ⟨_, hom, t, het, rfl⟩ | ⟨hor, rfl⟩
      · exact Or.inr ⟨hom, t, het, Val.lookup_cons_self⟩
      · rcases hor with hnk | hom
        · rw [hk] at hnk; cases hnk
        · exact Or.inl ⟨hom, Val.lookup_eq_none.mpr (fun hin => hhead hk (hkeys _ hin))⟩
    · -- the field is further down: the head's entry (if any) has another key
      have hrec := ih fs out' hni.tail hnd_rest hrest fd hmr hk
      rcases hcase with ⟨hkh, _, t, _, rfl⟩ | ⟨_, rfl⟩
      · have hne : keyOf fmt fd ≠ keyOf fmt hd := fun heq =>
          hhead hkh (heq ▸ List.mem_map.mpr ⟨fd, List.mem_filter.mpr ⟨hmr, hk⟩, rfl⟩)
        rw [Val.lookup_cons_ne hne]
        exact hrec
      · exact hrec

theorem setField_same (k : String) (x : Val) :
    ∀ fs : List (String × Val), (∀ p ∈ fs, p.1 = k → p.2 = x) → setField k x fs = fs := by
  intro fs; induction fs with
  | nil => intro _; rfl
  | cons p r ih =>
    intro h
    have hr := ih (fun q hq => h q (List.mem_cons_of_mem _ hq))
    simp only [setField, List.map_cons] at hr ⊢
    rw [hr]
    by_cases hk : p.1 = k
    · have hx := h p (List.mem_cons_self ..) hk
      obtain ⟨a, b⟩ := p
      simp only at hk hx
      subst hk hx
      simp
    · simp [hk]

open CV.RoundTrip

theorem nodupB_iff : ∀ l : List String, nodupB l = true ↔ l.Nodup
  | [] => by simp [nodupB]
  | x :: r => by
    simp only [nodupB, Bool.and_eq_true, Bool.not_eq_true', List.contains_eq_mem, decide_eq_false_iff_not, List.nodup_cons,
      nodupB_iff r]

/-- `nodupB` for the kernel: byte sizes are compared before the strings (comparing two strings that share a prefix costs the
    kernel about a thousand steps per shared character) -/
def nodupS : List String → Bool
  | [] => true
  | x :: r => r.all (fun y => x.utf8ByteSize != y.utf8ByteSize || x != y) && nodupS r

theorem nodupS_nodup : ∀ l : List String, nodupS l = true → l.Nodup
  | [], _ => List.nodup_nil
  | x :: r, h => by
    simp only [nodupS, Bool.and_eq_true, List.all_eq_true, Bool.or_eq_true, bne_iff_ne, ne_eq] at h
    exact List.nodup_cons.mpr ⟨fun hm => (h.1 x hm).elim (fun h' => h' rfl) (fun h' => h' rfl), nodupS_nodup r h.2⟩

theorem filterMap_ite {α β : Type} (p : α → Bool) (g : α → β) (l : List α) :
    l.filterMap (fun a => if p a then some (g a) else none) = (l.filter p).map g := by
  induction l with
  | nil => rfl
  | cons a r ih => simp only [List.filterMap_cons, List.filter_cons]; cases p a <;> simp [ih]

/-- `keyed`, spelled as the specification of the rendered keys spells it -/
theorem keyed_yaml (fd : FieldDesc) : keyed .yaml fd = (fd.exported && !fd.yamlSkip && !fd.yamlInline) := by
  cases h1 : fd.exported <;> cases h2 : fd.yamlSkip <;> cases h3 : fd.yamlInline <;> simp [keyed, skipOf, h1, h2, h3]

theorem keyed_json (fd : FieldDesc) : keyed .json fd = (fd.exported && !fd.jsonSkip) := by
  cases h1 : fd.exported <;> cases h2 : fd.jsonSkip <;> simp [keyed, skipOf, h1, h2]

theorem renderedYamlKeys_eq (s : StructDesc) :
    renderedYamlKeys s = (s.fields.filter (keyed .yaml)).map (keyOf .yaml) := by
  rw [show keyed .yaml = fun fd => fd.exported && !fd.yamlSkip && !fd.yamlInline from funext keyed_yaml]
  exact filterMap_ite _ _ _

theorem renderedJsonKeys_eq (s : StructDesc) :
    renderedJsonKeys s = (s.fields.filter (keyed .json)).map (keyOf .json) := by
  rw [show keyed .json = fun fd => fd.exported && !fd.jsonSkip from funext keyed_json]
  exact filterMap_ite _ _ _

end CV.Encode
