/-! More fuel never changes a defined answer: the one order every fuelled function of the model is monotone for.
`bad` says which outcomes stand for "out of fuel" (a constructor of its own, a panic with a marker, an unresolved leaf
inside the result).  A loop that takes its recursive call as a parameter owes one lemma "`Le` callees give `Le` loops";
the function itself is then `Le` from `n` to `n + 1` by recursion on `n`, and `Le.of_succ` does the rest. -/
namespace CV.Fuel
variable {β : Type} {bad : β → Prop}

def Le (bad : β → Prop) (x y : β) : Prop := ¬ bad x → y = x

theorem Le.refl {x : β} : Le bad x x := fun _ => rfl

theorem Le.of_bad {x y : β} (h : bad x) : Le bad x y := fun hx => absurd h hx

theorem Le.trans {x y z : β} (h : Le bad x y) (h' : Le bad y z) : Le bad x z :=
  fun hx => have hy := h hx; (h' (hy ▸ hx)).trans hy

theorem Le.of_succ {run : Nat → β} (step : ∀ n, Le bad (run n) (run (n + 1))) {n m : Nat} (h : n ≤ m) :
    Le bad (run n) (run m) := by
  induction h with
  | refl => exact .refl
  | step _ ih => exact ih.trans (step _)

/-- fuel independence: once the run at `b` has not run out, every two fuels above `b` give the same answer -/
theorem eq_of_le {run : Nat → β} (step : ∀ n, Le bad (run n) (run (n + 1))) {b f1 f2 : Nat} (hb : ¬ bad (run b))
    (h1 : b ≤ f1) (h2 : b ≤ f2) : run f1 = run f2 :=
  (Le.of_succ step h1 hb).trans (Le.of_succ step h2 hb).symm

end CV.Fuel
