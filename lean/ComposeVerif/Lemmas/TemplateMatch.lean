import ComposeVerif.Model.TemplateOpts
import ComposeVerif.Lemmas.TemplateSpec
import ComposeVerif.Lemmas.Scan
/-!
# The regexp matcher of the `template.Substitute` model

`spanName`, `lastCloseLen` (the greedy `.*}`), `matchBraced` through `afterName` (what follows the name) and
`matchDollar`: their equations, the shapes they accept (`matchBraced_cases`, `matchBraced_invalid_iff`), the lengths of what
they return, the greedy match of an operator substitution (`matchDollar_op_greedy`), and locality: after a `}` that is the
last one of its line, a match does not depend on the text that follows (`matchDollar_local`).  Nothing here mentions the scan.
-/
namespace CV.Template

theorem isNameChar_of_start {c : Char} (h : isNameStart c = true) : isNameChar c = true := by
  simp only [isNameStart, isNameChar, Bool.or_eq_true] at h ⊢
  exact Or.inl h

theorem nameChar_ne {c d : Char} (hc : isNameChar c = true) (hd : isNameChar d = false) : c ≠ d :=
  fun e => by rw [e, hd] at hc; cases hc

theorem spanName_cons {c : Char} (h : isNameChar c = true) (r : Str) :
    spanName (c :: r) = (c :: (spanName r).1, (spanName r).2) := by
  rw [spanName, if_pos h]

theorem spanName_stop {c : Char} (h : isNameChar c = false) (r : Str) : spanName (c :: r) = ([], c :: r) := by
  rw [spanName, if_neg (by rw [h]; decide)]

theorem spanName_eq : ∀ r : Str, spanName r = (r.takeWhile isNameChar, r.dropWhile isNameChar)
  | [] => rfl
  | c :: cs => by
    cases h : isNameChar c
    · rw [spanName_stop h, List.takeWhile_cons_of_neg (by simp [h]), List.dropWhile_cons_of_neg (by simp [h])]
    · rw [spanName_cons h, spanName_eq cs, List.takeWhile_cons_of_pos h, List.dropWhile_cons_of_pos h]

theorem spanName_append (r : Str) : (spanName r).1 ++ (spanName r).2 = r := by
  rw [spanName_eq]; exact List.takeWhile_append_dropWhile

theorem spanName_fst_all (r : Str) : ∀ c ∈ (spanName r).1, isNameChar c = true := by
  rw [spanName_eq]; exact fun _ => Scan.mem_takeWhile

theorem noNameHead_iff (X : Str) : noNameHead X = true ↔ ∀ c, X.head? = some c → isNameChar c = false := by
  cases X <;> simp [noNameHead]

theorem spanName_snd_head (r : Str) : noNameHead (spanName r).2 = true := by
  rw [spanName_eq, noNameHead_iff]
  intro c hc
  obtain ⟨t, ht⟩ := List.head?_eq_some_iff.mp hc
  exact Scan.dropWhile_head ht

theorem spanName_name (n t : Str) (hn : ∀ c ∈ n, isNameChar c = true)
    (ht : ∀ c, t.head? = some c → isNameChar c = false) : spanName (n ++ t) = (n, t) := by
  have := Scan.span_head (List.all_eq_true.mpr hn) ht
  rw [spanName_eq, this.1, this.2]

theorem spanName_local (A B : Str) (h : (spanName A).2 ≠ []) :
    spanName (A ++ B) = ((spanName A).1, (spanName A).2 ++ B) := by
  induction A with
  | nil => exact absurd rfl h
  | cons a A ih =>
    cases ha : isNameChar a
    · rw [List.cons_append, spanName_stop ha, spanName_stop ha]; rfl
    · rw [List.cons_append, spanName_cons ha, spanName_cons ha]
      rw [spanName_cons ha] at h
      rw [ih h]

theorem validName_cases {n : Str} (h : validName n = true) :
    ∃ c cs, n = c :: cs ∧ isNameStart c = true ∧ ∀ x ∈ n, isNameChar x = true := by
  cases n with
  | nil => cases h
  | cons c cs =>
    simp only [validName, Bool.and_eq_true, List.all_eq_true] at h
    refine ⟨c, cs, rfl, h.1, fun x hx => ?_⟩
    cases hx with
    | head => exact isNameChar_of_start h.1
    | tail _ hx => exact h.2 x hx

theorem validName_all {n : Str} (h : validName n = true) : ∀ x ∈ n, isNameChar x = true := by
  obtain ⟨_, _, _, _, hall⟩ := validName_cases h
  exact hall

theorem noNL_tail {c : Char} {Y : Str} (h : noNL (c :: Y)) : noNL Y := fun x hx => h x (List.mem_cons_of_mem _ hx)

theorem noNL_suffix {A B : Str} (h : noNL (A ++ B)) : noNL B := fun x hx => h x (List.mem_append_right _ hx)

theorem noNL_prefix {A B : Str} (h : noNL (A ++ B)) : noNL A := fun x hx => h x (List.mem_append_left _ hx)

theorem noNL_name {n : Str} (hall : ∀ x ∈ n, isNameChar x = true) : noNL n :=
  fun c hc => nameChar_ne (hall c hc) rfl

theorem noNL_op (o : Op) : noNL o.str := by
  unfold noNL; cases o <;> decide

theorem lastCloseLen_nil : lastCloseLen [] = none := rfl

theorem lastCloseLen_cons (c : Char) (X : Str) (hc : c ≠ '\n') :
    lastCloseLen (c :: X) = match lastCloseLen X with
      | some k => some (k + 1)
      | none => if c = '}' then some 1 else none := by
  unfold lastCloseLen
  rw [List.takeWhile_cons_of_pos (by simpa using hc), List.reverse_cons, List.dropWhile_append]
  cases (List.takeWhile (fun x => x != '\n') X).reverse.dropWhile (fun x => x != '}') with
  | nil =>
    by_cases hb : c = '}'
    · subst hb; rfl
    · have : (c != '}') = true := by simpa using hb
      simp [List.dropWhile, this, hb]
  | cons d D => simp

theorem lastCloseLen_append_none (A Z : Str) (hA : noNL A) (hZ : lastCloseLen Z = none) :
    lastCloseLen (A ++ Z) = lastCloseLen A := by
  induction A with
  | nil => exact hZ
  | cons c A ih =>
    have hc := hA c (List.mem_cons_self ..)
    rw [List.cons_append, lastCloseLen_cons _ _ hc, lastCloseLen_cons _ _ hc, ih (noNL_tail hA)]

theorem lastCloseLen_close (P Z : Str) (hP : noNL P) (hZ : lastCloseLen Z = none) :
    lastCloseLen (P ++ '}' :: Z) = some (P.length + 1) := by
  induction P with
  | nil => rw [List.nil_append, lastCloseLen_cons _ _ (by decide), hZ]; rfl
  | cons c cs ih =>
    rw [List.cons_append, lastCloseLen_cons _ _ (hP c (List.mem_cons_self ..)), ih (noNL_tail hP)]; rfl

theorem lastCloseLen_cases (X : Str) :
    lastCloseLen X = none ∨
    ∃ Y Z, X = Y ++ '}' :: Z ∧ noNL Y ∧ lastCloseLen Z = none ∧ lastCloseLen X = some (Y.length + 1) := by
  induction X with
  | nil => exact Or.inl rfl
  | cons c X ih =>
    by_cases hc : c = '\n'
    · subst hc; exact Or.inl rfl
    · rw [lastCloseLen_cons c X hc]
      rcases ih with h | ⟨Y, Z, hX, hY, hZ, hk⟩
      · rw [h]
        by_cases hb : c = '}'
        · subst hb; exact Or.inr ⟨[], X, rfl, (fun x hx => by cases hx), h, rfl⟩
        · exact Or.inl (if_neg hb)
      · refine Or.inr ⟨c :: Y, Z, by rw [hX]; rfl, fun x hx => ?_, hZ, by rw [hk]; rfl⟩
        cases hx with
        | head => exact hc
        | tail _ h => exact hY x h

theorem lastCloseLen_le {X : Str} {k : Nat} (h : lastCloseLen X = some k) : 1 ≤ k ∧ k ≤ X.length := by
  rcases lastCloseLen_cases X with h0 | ⟨Y, Z, hX, _, _, hk⟩
  · rw [h0] at h; cases h
  · rw [hk] at h; cases h
    rw [hX, List.length_append, List.length_cons]; omega

theorem lastCloseLen_none_iff (s : Str) : lastCloseLen s = none ↔ ¬ closesOnLine s := by
  induction s with
  | nil => exact ⟨fun _ ⟨_, hc, _⟩ => (by cases hc), fun _ => rfl⟩
  | cons c s ih =>
    by_cases hc : c = '\n'
    · subst hc; exact ⟨fun _ ⟨_, hc, _⟩ => (by cases hc), fun _ => rfl⟩
    · have hcl : closesOnLine (c :: s) ↔ c = '}' ∨ closesOnLine s := by
        unfold closesOnLine
        rw [List.takeWhile_cons_of_pos (by simpa using hc)]
        simp only [List.mem_cons, exists_eq_or_imp]
      rw [lastCloseLen_cons c s hc, hcl, not_or, ← ih]
      cases lastCloseLen s with
      | none => by_cases hb : c = '}' <;> simp [hb]
      | some k => simp

/-- `matchBraced` once the name `n` has been split off: `r2` is what follows it, `r` the whole text after `${`.
    The inner `match` of `matchBraced` (Model/Template.lean) written with tests instead of literal patterns (a proof
    about a renaming of the characters needs the tests: Lemmas/TemplateParam.lean) and tied to it by
    `matchBraced_eq`: an edit there has to be repeated here -/
def afterName (n r : Str) : Str → M × Str × Str
  | [] => (.invalid, [], r)
  | x :: r3 =>
    if x == '}' then (.braced n, n ++ ['}'], r3)
    else if x == ':' then
      match r3 with
      | [] => (.invalid, [], r)
      | o :: r4 =>
        if isOpChar o then
          match lastCloseLen r4 with
          | some k => (.braced (n ++ ':' :: o :: (r4.take (k - 1))), n ++ ':' :: o :: r4.take k, r4.drop k)
          | none => (.invalid, [], r)
        else (.invalid, [], r)
    else if isOpChar x then
      match lastCloseLen r3 with
      | some k => (.braced (n ++ x :: (r3.take (k - 1))), n ++ x :: r3.take k, r3.drop k)
      | none => (.invalid, [], r)
    else (.invalid, [], r)

theorem matchBraced_eq (r : Str) : matchBraced r =
    match r with
    | [] => (.invalid, [], r)
    | c :: _ => if isNameStart c then afterName (spanName r).1 r (spanName r).2 else (.invalid, [], r) := by
  cases r with
  | nil => rfl
  | cons c t =>
    unfold matchBraced
    dsimp only
    split
    · generalize (spanName (c :: t)).2 = r2
      generalize (spanName (c :: t)).1 = n
      unfold afterName
      split
      · rfl
      · rename_i o r3
        simp only [show ((':' : Char) == '}') = false by decide, beq_self_eq_true, if_true, if_false, Bool.false_eq_true]
        cases isOpChar o <;> cases lastCloseLen r3 <;> rfl
      · rename_i o r3 h1 h2
        have e1 : (o == '}') = false := by simpa using h1
        by_cases hx2 : o = ':'
        · subst hx2
          cases r3 with
          | nil => rfl
          | cons o2 r4 => exact (h2 o2 r4 rfl rfl).elim
        · have e2 : (o == ':') = false := by simpa using hx2
          simp only [e1, e2, if_false, Bool.false_eq_true]
          cases isOpChar o <;> cases lastCloseLen r3 <;> rfl
      · rfl
    · rfl

theorem afterName_op (n r : Str) (o : Op) (r3 : Str) :
    afterName n r (o.str ++ r3) = match lastCloseLen r3 with
      | some k => (.braced (n ++ (o.str ++ r3.take (k - 1))), n ++ (o.str ++ r3.take k), r3.drop k)
      | none => (.invalid, [], r) := by
  cases o <;> rfl

theorem opChar_cases {o : Char} (h : isOpChar o = true) : o = '-' ∨ o = '+' ∨ o = '?' := by
  simpa [isOpChar, or_assoc] using h

theorem op_head_not_name (o : Op) (X : Str) : noNameHead (o.str ++ X) = true := by
  cases o <;> rfl

theorem matchBraced_var (n X : Str) (hn : validName n = true) :
    matchBraced (n ++ '}' :: X) = (.braced n, n ++ ['}'], X) := by
  obtain ⟨c, cs, rfl, hc, hall⟩ := validName_cases hn
  rw [matchBraced_eq, spanName_name (c :: cs) ('}' :: X) hall (by intro x hx; cases hx; rfl)]
  exact if_pos hc

theorem matchBraced_op (n : Str) (o : Op) (r3 : Str) (hn : validName n = true) :
    matchBraced (n ++ (o.str ++ r3)) = match lastCloseLen r3 with
      | some k => (.braced (n ++ (o.str ++ r3.take (k - 1))), n ++ (o.str ++ r3.take k), r3.drop k)
      | none => (.invalid, [], n ++ (o.str ++ r3)) := by
  obtain ⟨c, cs, rfl, hc, hall⟩ := validName_cases hn
  rw [matchBraced_eq, spanName_name (c :: cs) (o.str ++ r3) hall ((noNameHead_iff _).1 (op_head_not_name o r3))]
  exact (if_pos hc).trans (afterName_op ..)

/-- what can follow the name: `}`, an operator, or — decided by at most two characters — something the regexp
    rejects whatever comes after it -/
theorem afterName_cases (n r2 : Str) :
    (∃ r3, r2 = '}' :: r3) ∨ (∃ (o : Op) (r3 : Str), r2 = o.str ++ r3) ∨
    r2 = [] ∨ r2 = [':'] ∨ ∀ r Z, afterName n r (r2 ++ Z) = (.invalid, [], r) := by
  have op : ∀ (o : Op) (r3 : Str), r2 = o.str ++ r3 → ∃ (o : Op) (r3 : Str), r2 = o.str ++ r3 :=
    fun o r3 h => ⟨o, r3, h⟩
  cases r2 with
  | nil => exact Or.inr (Or.inr (Or.inl rfl))
  | cons a t =>
    by_cases h1 : a = '}'
    · subst h1; exact Or.inl ⟨t, rfl⟩
    · refine Or.inr ?_
      by_cases h2 : a = ':'
      · subst h2
        cases t with
        | nil => exact Or.inr (Or.inr (Or.inl rfl))
        | cons o r3 =>
          cases ho : isOpChar o with
          | false => exact Or.inr (Or.inr (Or.inr fun r Z => by simp only [List.cons_append, afterName, ho]; rfl))
          | true =>
            rcases opChar_cases ho with rfl | rfl | rfl
            · exact Or.inl (op .colonDash r3 rfl)
            · exact Or.inl (op .colonPlus r3 rfl)
            · exact Or.inl (op .colonQ r3 rfl)
      · cases ho : isOpChar a with
        | false =>
          exact Or.inr (Or.inr (Or.inr fun r Z => by
            unfold afterName
            rw [List.cons_append]
            dsimp only
            rw [if_neg (by simpa using h1), if_neg (by simpa using h2), if_neg (by rw [ho]; decide)]))
        | true =>
          rcases opChar_cases ho with rfl | rfl | rfl
          · exact Or.inl (op .dash t rfl)
          · exact Or.inl (op .plus t rfl)
          · exact Or.inl (op .q t rfl)

theorem matchBraced_cases (r : Str) :
    (∃ n X, validName n = true ∧ r = n ++ '}' :: X) ∨
    (∃ (n : Str) (o : Op) (r3 : Str), validName n = true ∧ r = n ++ (o.str ++ r3)) ∨
    matchBraced r = (.invalid, [], r) := by
  cases r with
  | nil => exact Or.inr (Or.inr rfl)
  | cons c cs =>
    rw [matchBraced_eq]
    dsimp only
    cases hc : isNameStart c with
    | false => exact Or.inr (Or.inr rfl)
    | true =>
      have hv : validName (spanName (c :: cs)).1 = true := by
        have hall := spanName_fst_all (c :: cs)
        rw [spanName_cons (isNameChar_of_start hc)] at hall ⊢
        simp only [validName, hc, Bool.true_and, List.all_eq_true]
        exact fun x hx => hall x (List.mem_cons_of_mem _ hx)
      have happ := spanName_append (c :: cs)
      rw [if_pos rfl]
      rcases afterName_cases (spanName (c :: cs)).1 (spanName (c :: cs)).2 with
        ⟨r3, h⟩ | ⟨o, r3, h⟩ | h | h | h
      · exact Or.inl ⟨_, r3, hv, by rw [← h, happ]⟩
      · exact Or.inr (Or.inl ⟨_, o, r3, hv, by rw [← h, happ]⟩)
      · rw [h]; exact Or.inr (Or.inr rfl)
      · rw [h]; exact Or.inr (Or.inr rfl)
      · have := h (c :: cs) []
        rw [List.append_nil] at this
        exact Or.inr (Or.inr this)

theorem matchBraced_spec (r : Str) :
    (matchBraced r).2.1 ++ (matchBraced r).2.2 = r ∧
    (∀ body, (matchBraced r).1 = .braced body → body.length ≤ (matchBraced r).2.1.length) := by
  rcases matchBraced_cases r with ⟨n, X, hn, rfl⟩ | ⟨n, o, r3, hn, rfl⟩ | h
  · rw [matchBraced_var n X hn]
    refine ⟨List.append_assoc .., fun body hb => ?_⟩
    cases hb; rw [List.length_append]; exact Nat.le_add_right ..
  · rw [matchBraced_op n o r3 hn]
    cases lastCloseLen r3 with
    | none => exact ⟨rfl, nofun⟩
    | some k =>
      refine ⟨?_, fun body hb => ?_⟩
      · rw [List.append_assoc, List.append_assoc, List.take_append_drop]
      · cases hb
        have : (r3.take (k - 1)).length ≤ (r3.take k).length := by
          rw [List.length_take, List.length_take]
          exact Nat.le_min.2 ⟨Nat.le_trans (Nat.min_le_left ..) (Nat.sub_le ..), Nat.min_le_right ..⟩
        simp only [List.length_append]
        exact Nat.add_le_add_left (Nat.add_le_add_left this _) _
  · rw [h]; exact ⟨rfl, nofun⟩

theorem matchDollar_esc (r : Str) : matchDollar ('$' :: '$' :: r) = some (.escaped, ['$', '$'], r) := rfl

theorem matchDollar_brace (r : Str) :
    matchDollar ('$' :: '{' :: r) = some ((matchBraced r).1, '$' :: '{' :: (matchBraced r).2.1, (matchBraced r).2.2) := rfl

theorem matchDollar_start (c : Char) (r : Str) (hc : isNameStart c = true) :
    matchDollar ('$' :: c :: r) =
      some (.named (spanName (c :: r)).1, '$' :: (spanName (c :: r)).1, (spanName (c :: r)).2) := by
  unfold matchDollar
  split
  · rename_i heq; cases heq; cases hc
  · rename_i heq; cases heq; cases hc
  · rename_i heq; cases heq; exact if_pos hc
  · rename_i h; exact absurd rfl (h c r)

theorem matchDollar_other (c : Char) (r : Str) (h1 : c ≠ '$') (h2 : c ≠ '{') (hc : isNameStart c = false) :
    matchDollar ('$' :: c :: r) = none := by
  unfold matchDollar
  split
  · rename_i heq; cases heq; exact absurd rfl h1
  · rename_i heq; cases heq; exact absurd rfl h2
  · rename_i heq; cases heq; exact if_neg (by rw [hc]; decide)
  · rfl

theorem matchDollar_not_dollar (a : Char) (r : Str) (h : a ≠ '$') : matchDollar (a :: r) = none := by
  unfold matchDollar
  split <;> first | rfl | (rename_i heq; cases heq; exact absurd rfl h)

/-- the model's own test-style twin of `matchDollar`: the delimiter-parametric matcher at `$` -/
theorem matchDelim_dollar (s : Str) : matchDelim '$' s = matchDollar s := by
  cases s with
  | nil => rfl
  | cons a t =>
    by_cases ha : a = '$'
    · subst ha
      cases t with
      | nil => rfl
      | cons b r =>
        simp only [matchDelim, beq_self_eq_true, if_true, beq_iff_eq]
        by_cases h1 : b = '$'
        · subst h1; rfl
        · by_cases h2 : b = '{'
          · subst h2; rfl
          · rw [if_neg h1, if_neg h2]
            cases hc : isNameStart b with
            | true => rw [matchDollar_start b r hc]; rfl
            | false => rw [matchDollar_other b r h1 h2 hc]; rfl
    · rw [matchDollar_not_dollar a t ha]
      cases t with
      | nil => rfl
      | cons b r => simp only [matchDelim, beq_iff_eq, if_neg ha]

theorem matchDollar_inv {s : Str} {k : M} {m rest : Str} (h : matchDollar s = some (k, m, rest)) :
    (s = '$' :: '$' :: rest ∧ k = .escaped ∧ m = ['$', '$']) ∨
    (∃ r, s = '$' :: '{' :: r ∧ k = (matchBraced r).1 ∧ m = '$' :: '{' :: (matchBraced r).2.1 ∧
      rest = (matchBraced r).2.2) ∨
    (∃ c r, s = '$' :: c :: r ∧ isNameStart c = true ∧ k = .named (spanName (c :: r)).1 ∧
      m = '$' :: (spanName (c :: r)).1 ∧ rest = (spanName (c :: r)).2) := by
  unfold matchDollar at h
  split at h
  · cases h; exact Or.inl ⟨rfl, rfl, rfl⟩
  · cases h; exact Or.inr (Or.inl ⟨_, rfl, rfl, rfl, rfl⟩)
  · split at h
    · rename_i hc; cases h; exact Or.inr (Or.inr ⟨_, _, rfl, hc, rfl, rfl, rfl⟩)
    · cases h
  · cases h

theorem matchDollar_spec {s : Str} {k : M} {m rest : Str} (h : matchDollar s = some (k, m, rest)) :
    m ++ rest = s ∧ 2 ≤ m.length ∧ (∀ body, k = .braced body → body.length + 2 ≤ m.length) := by
  rcases matchDollar_inv h with ⟨rfl, rfl, rfl⟩ | ⟨r, rfl, rfl, rfl, rfl⟩ | ⟨c, r, rfl, hc, rfl, rfl, rfl⟩
  · exact ⟨rfl, Nat.le_refl _, fun _ hb => by cases hb⟩
  · have := matchBraced_spec r
    exact ⟨congrArg (fun x => '$' :: '{' :: x) this.1, by simp,
      fun body hb => Nat.add_le_add_right (this.2 body hb) 2⟩
  · refine ⟨congrArg ('$' :: ·) (spanName_append _), ?_, fun _ hb => by cases hb⟩
    rw [spanName_cons (isNameChar_of_start hc)]; simp

theorem matchDollar_length {s : Str} {k : M} {m rest : Str} (h : matchDollar s = some (k, m, rest)) :
    2 ≤ m.length ∧ m.length + rest.length = s.length := by
  obtain ⟨h1, h2, _⟩ := matchDollar_spec h
  exact ⟨h2, by rw [← h1, List.length_append]⟩

theorem matchDollar_isSome_of_head {m : Str} (h : DollarHead m) : matchDollar m ≠ none := by
  obtain ⟨c, r, rfl, rfl | rfl | hc⟩ := h
  · rw [matchDollar_esc]; exact Option.some_ne_none _
  · rw [matchDollar_brace]; exact Option.some_ne_none _
  · rw [matchDollar_start c r hc]; exact Option.some_ne_none _

theorem dollarHead_of_match {s : Str} {k : M} {m rest : Str} (h : matchDollar s = some (k, m, rest)) : DollarHead m := by
  rcases matchDollar_inv h with ⟨_, _, rfl⟩ | ⟨r, _, _, rfl, _⟩ | ⟨c, r, _, hc, _, rfl, _⟩
  · exact ⟨'$', [], rfl, Or.inl rfl⟩
  · exact ⟨'{', _, rfl, Or.inr (Or.inl rfl)⟩
  · rw [spanName_cons (isNameChar_of_start hc)]
    exact ⟨c, _, rfl, Or.inr (Or.inr hc)⟩

theorem matchDollar_named (n X : Str) (hn : validName n = true) (hX : noNameHead X = true) :
    matchDollar ('$' :: (n ++ X)) = some (.named n, '$' :: n, X) := by
  obtain ⟨c, cs, rfl, hc, hall⟩ := validName_cases hn
  have := matchDollar_start c (cs ++ X) hc
  rwa [← List.cons_append, spanName_name (c :: cs) X hall ((noNameHead_iff X).1 hX)] at this

theorem matchDollar_lone (X : Str) (hX : loneAfter X) : matchDollar ('$' :: X) = none := by
  cases X with
  | nil => rfl
  | cons c r => exact matchDollar_other c r (hX c rfl).1 (hX c rfl).2.1 (hX c rfl).2.2

theorem matchBraced_invalid_iff (r : Str) : (matchBraced r).1 = .invalid ↔ ¬ WellFormedBrace r := by
  constructor
  · rintro h ⟨n, tail, rfl, hn, _, ht | ⟨o, r3, rfl, hcl⟩⟩
    · cases tail with
      | nil => cases ht
      | cons c X =>
        cases ht
        rw [matchBraced_var n X hn] at h; cases h
    · rw [matchBraced_op n o r3 hn] at h
      cases hl : lastCloseLen r3 with
      | none => exact (lastCloseLen_none_iff r3).1 hl hcl
      | some k => rw [hl] at h; cases h
  · intro hw
    rcases matchBraced_cases r with ⟨n, X, hn, rfl⟩ | ⟨n, o, r3, hn, rfl⟩ | h
    · exact absurd ⟨n, '}' :: X, rfl, hn, rfl, Or.inl rfl⟩ hw
    · rw [matchBraced_op n o r3 hn]
      cases hl : lastCloseLen r3 with
      | none => rfl
      | some k =>
        refine absurd ⟨n, o.str ++ r3, rfl, hn, op_head_not_name o r3, Or.inr ⟨o, r3, rfl, ?_⟩⟩ hw
        exact Classical.not_not.1 fun hn => by rw [(lastCloseLen_none_iff r3).2 hn] at hl; cases hl
    · rw [h]

/-- the `invalid` alternative matches the empty string -/
theorem matchBraced_invalid_shape (r : Str) (h : (matchBraced r).1 = .invalid) : matchBraced r = (.invalid, [], r) := by
  rcases matchBraced_cases r with ⟨n, X, hn, rfl⟩ | ⟨n, o, r3, hn, rfl⟩ | h'
  · rw [matchBraced_var n X hn] at h; cases h
  · rw [matchBraced_op n o r3 hn] at h ⊢
    cases hl : lastCloseLen r3 with
    | none => rfl
    | some k => rw [hl] at h; cases h
  · exact h'

theorem matchDollar_groups_nonempty {s : Str} {k : M} {m rest : Str} (h : matchDollar s = some (k, m, rest)) :
    (∀ n, k = .named n → n ≠ []) ∧ (∀ b, k = .braced b → b ≠ []) := by
  rcases matchDollar_inv h with ⟨_, rfl, _⟩ | ⟨r, _, rfl, _, _⟩ | ⟨c, r, _, hc, rfl, _, _⟩
  · exact ⟨nofun, nofun⟩
  · rcases matchBraced_cases r with ⟨n, X, hn, rfl⟩ | ⟨n, o, r3, hn, rfl⟩ | h'
    · obtain ⟨c, cs, rfl, _, _⟩ := validName_cases hn
      rw [matchBraced_var _ X hn]
      exact ⟨nofun, fun _ h => by cases h; exact List.cons_ne_nil _ _⟩
    · obtain ⟨c, cs, rfl, _, _⟩ := validName_cases hn
      rw [matchBraced_op _ o r3 hn]
      cases lastCloseLen r3 with
      | none => exact ⟨nofun, nofun⟩
      | some k => exact ⟨nofun, fun _ h => by cases h; exact List.cons_ne_nil _ _⟩
    · rw [h']; exact ⟨nofun, nofun⟩
  · rw [spanName_cons (isNameChar_of_start hc)]
    exact ⟨fun _ h => by cases h; exact List.cons_ne_nil _ _, nofun⟩

theorem endsClose_tail {c : Char} {Y : Str} (h : EndsClose (c :: Y)) : EndsClose Y := by
  rcases h with h | ⟨P, hP⟩
  · cases h
  · cases P with
    | nil => exact Or.inl (List.cons.inj hP).2
    | cons p P => exact Or.inr ⟨P, (List.cons.inj hP).2⟩

theorem endsClose_suffix {A B : Str} (h : EndsClose (A ++ B)) : EndsClose B := by
  induction A with
  | nil => exact h
  | cons a A ih => exact ih (endsClose_tail h)

theorem endsClose_ne_nil_last {Y : Str} (h : EndsClose Y) (hne : Y ≠ []) : ∃ P, Y = P ++ ['}'] :=
  h.resolve_left hne

theorem endsClose_cons_ne {c : Char} {Y : Str} (h : EndsClose (c :: Y)) (hc : c ≠ '}') : Y ≠ [] := by
  rintro rfl
  obtain ⟨P, hP⟩ := endsClose_ne_nil_last h (List.cons_ne_nil _ _)
  cases P with
  | nil => exact hc (List.cons.inj hP).1
  | cons p P => cases P <;> cases (List.cons.inj hP).2

theorem spanName_snd_ne_nil {A : Str} (hne : A ≠ []) (h : EndsClose A) : (spanName A).2 ≠ [] := by
  intro h2
  obtain ⟨P, hP⟩ := endsClose_ne_nil_last h hne
  have hall := spanName_fst_all A
  have happ := spanName_append A
  rw [h2, List.append_nil] at happ
  rw [happ, hP] at hall
  exact absurd (hall '}' (List.mem_append_right _ (List.mem_singleton.2 rfl))) (by decide)

def appRest (Z : Str) (x : M × Str × Str) : M × Str × Str := (x.1, x.2.1, x.2.2 ++ Z)

theorem afterName_local (n r r2 Z : Str) (hne : r2 ≠ []) (hnl : noNL r2) (hend : EndsClose r2)
    (hZ : lastCloseLen Z = none) : afterName n (r ++ Z) (r2 ++ Z) = appRest Z (afterName n r r2) := by
  rcases afterName_cases n r2 with ⟨r3, rfl⟩ | ⟨o, r3, rfl⟩ | rfl | rfl | h
  · rfl
  · rw [List.append_assoc, afterName_op, afterName_op, lastCloseLen_append_none r3 Z (noNL_suffix hnl) hZ]
    cases hl : lastCloseLen r3 with
    | none => rfl
    | some k =>
      have hk := (lastCloseLen_le hl).2
      simp only [appRest]
      rw [List.take_append_of_le_length hk, List.take_append_of_le_length (by omega),
        List.drop_append_of_le_length hk]
  · exact absurd rfl hne
  · exact absurd rfl (endsClose_cons_ne hend (by decide))
  · have h0 := h r []
    rw [List.append_nil] at h0
    rw [h, h0]; rfl

theorem matchBraced_local (Y Z : Str) (hne : Y ≠ []) (hnl : noNL Y) (hend : EndsClose Y)
    (hZ : lastCloseLen Z = none) : matchBraced (Y ++ Z) = appRest Z (matchBraced Y) := by
  cases Y with
  | nil => exact absurd rfl hne
  | cons c Y' =>
    rw [matchBraced_eq (c :: Y'), List.cons_append, matchBraced_eq]
    dsimp only
    cases hc : isNameStart c with
    | false => rfl
    | true =>
      have h2 := spanName_snd_ne_nil hne hend
      have happ := spanName_append (c :: Y')
      rw [if_pos rfl, if_pos rfl, ← List.cons_append, spanName_local _ Z h2]
      exact afterName_local _ _ _ Z h2 (noNL_suffix (happ ▸ hnl)) (endsClose_suffix (happ ▸ hend)) hZ

theorem matchDollar_local (Y1 Z : Str) (hnl : noNL ('$' :: Y1)) (hend : EndsClose ('$' :: Y1))
    (hZ : lastCloseLen Z = none) :
    matchDollar ('$' :: (Y1 ++ Z)) = (matchDollar ('$' :: Y1)).map (appRest Z) := by
  have hne := endsClose_cons_ne hend (by decide)
  cases Y1 with
  | nil => exact absurd rfl hne
  | cons c Y2 =>
    have hend1 := endsClose_tail hend
    have hnl1 := noNL_tail hnl
    rw [List.cons_append]
    by_cases h1 : c = '$'
    · subst h1; rfl
    · by_cases h2 : c = '{'
      · subst h2
        rw [matchDollar_brace, matchDollar_brace,
          matchBraced_local Y2 Z (endsClose_cons_ne hend1 (by decide)) (noNL_tail hnl1) (endsClose_tail hend1) hZ]
        rfl
      · cases hc : isNameStart c with
        | true =>
          rw [matchDollar_start c _ hc, matchDollar_start c _ hc, ← List.cons_append,
            spanName_local (c :: Y2) Z (spanName_snd_ne_nil (List.cons_ne_nil _ _) hend1)]
          rfl
        | false => rw [matchDollar_other c _ h1 h2 hc, matchDollar_other c _ h1 h2 hc]; rfl

theorem split_lastClose (X : Str) : ∃ Y Z, X = Y ++ Z ∧ noNL Y ∧ EndsClose Y ∧ lastCloseLen Z = none := by
  rcases lastCloseLen_cases X with h | ⟨Y, Z, hX, hY, hZ, _⟩
  · exact ⟨[], X, rfl, fun _ hc => (by cases hc), Or.inl rfl, h⟩
  · exact ⟨Y ++ ['}'], Z, by rw [hX, List.append_assoc]; rfl, List.forall_mem_append.2 ⟨hY, by decide⟩,
      Or.inr ⟨Y, rfl⟩, hZ⟩

theorem matchDollar_op_greedy (n : Str) (o : Op) (a Y Z : Str) (hn : validName n = true)
    (ha : noNL a) (hY : noNL Y) (hYe : EndsClose Y) (hZ : lastCloseLen Z = none) :
    ∃ k, matchDollar ('$' :: '{' :: (n ++ (o.str ++ (a ++ '}' :: (Y ++ Z))))) =
      some (k, '$' :: '{' :: (n ++ (o.str ++ (a ++ '}' :: Y))), Z) := by
  have hnl : noNL (a ++ '}' :: Y) := List.forall_mem_append.2 ⟨ha, List.forall_mem_cons.2 ⟨by decide, hY⟩⟩
  have hP : ∃ P, a ++ '}' :: Y = P ++ ['}'] := by
    rcases hYe with rfl | ⟨P, rfl⟩
    · exact ⟨a, rfl⟩
    · exact ⟨a ++ '}' :: P, by rw [List.append_assoc]; rfl⟩
  have hk : lastCloseLen ((a ++ '}' :: Y) ++ Z) = some (a ++ '}' :: Y).length := by
    rw [lastCloseLen_append_none _ Z hnl hZ]
    obtain ⟨P, hP⟩ := hP
    rw [hP] at hnl ⊢
    rw [lastCloseLen_close P [] (noNL_prefix hnl) rfl, List.length_append]; rfl
  have hm := matchDollar_brace (n ++ (o.str ++ ((a ++ '}' :: Y) ++ Z)))
  rw [matchBraced_op n o _ hn, hk] at hm
  simp only [List.take_left', List.drop_left'] at hm
  exact ⟨_, by rw [List.append_assoc, List.cons_append] at hm; exact hm⟩

end CV.Template
