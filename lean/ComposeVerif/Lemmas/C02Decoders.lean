import ComposeVerif.Lemmas.MapOrderSort
/-! The map→sequence decoders and renderers (`convertIntoSequence`, `HostsList`, `Mapping`, `SSHConfig`): collect, then sort. -/
namespace CV.Det
open CV CV.Val

theorem intoSeq_map_perm {kvs kvs' : KVs} (hp : kvs'.Perm kvs) : intoSeq (.map kvs') = intoSeq (.map kvs) := by
  simp only [intoSeq]
  rw [sortStrs_perm (hp.flatMap_right entryStrs)]

theorem append_eq_sep_cancel {a b : String} (h : a ++ "=" = b ++ "=") : a = b := by
  have h1 : (a ++ "=").toList = (b ++ "=").toList := by rw [h]
  simp only [String.toList_append] at h1
  exact String.toList_inj.mp (List.append_cancel_right h1)

theorem hostsRender_perm' {m m' : AL (List String)} (hn : (akeys m).Nodup) (hp : m'.Perm m) :
    hostsRender m' = hostsRender m := by
  simp only [hostsRender]
  rw [isort_byKey_perm hostLe_byKey (fun a b ha hb h => Assoc.eq_of_mem_of_fst_eq hn ha hb (append_eq_sep_cancel h)) hp]

theorem mappingValues_perm' {m m' : AL String} (hp : m'.Perm m) : mappingValues m' = mappingValues m := by
  simp only [mappingValues]
  exact sortStrs_perm (hp.map _)

theorem sshKeys_fst (kvs : KVs) : (kvs.map sshKey).map Prod.fst = akeys kvs := by
  simp [akeys, sshKey, Function.comp_def]

theorem hostsCleanup_perm {m m' : AL (List String)} (hn : (akeys m).Nodup) (hp : m'.Perm m) :
    (hostsCleanup m').map hostsRender = (hostsCleanup m).map hostsRender := by
  simp only [hostsCleanup]
  rw [hp.any_eq]
  split
  · rfl
  · simp only [Except.map]
    congr 1
    refine hostsRender_perm' ?_ (hp.map _)
    simpa [akeys, List.map_map, Function.comp_def] using hn

end CV.Det
