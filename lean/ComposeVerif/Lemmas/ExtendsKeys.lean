import ComposeVerif.Lemmas.ExtendsGraph
import ComposeVerif.Lemmas.ListFacts
/-!
# Tracker keys: the finite universe, and what a key says about a node

The cycle tracker holds keys `(file, name)`; the nodes of the link graph are `(mapping, name)`.  `keyUniverse` is finite
(`KeysSub`, `Ext.key`: every key a run can record is in it), `Loc` says which mapping a file name stands for (`Loc.unique`:
only one, under `hmain`), and `TrOK` is the tracker's invariant — every key held names a
node that reaches the present one — so that a key met again is a node met again.  From these: the keys along a
flattening chain are pairwise distinct and new to the tracker (`FlatK.fresh`), and a tracker of distinct keys of the
universe stays within its `Budget`: the fuel `fuelFor` never runs out, and a link walk longer than the universe runs into a
cycle (`walkChain_long_keys`).
-/
namespace CV.Extends
open CV CV.Val

variable {E : Env} {S S' S0 orig cur svcs svc : KVs} {n n' ref cf : String} {file : Option String} {v v' : Val}
  {tr : List Key} {ks : List Key}

theorem mem_keys_iff {k : String} {m : KVs} : k ∈ keys m ↔ lookup k m ≠ none := by
  rw [Ne, lookup_eq_none, Classical.not_not]

theorem lookup_mem_keys {k : String} {m : KVs} (h : lookup k m ≠ none) : k ∈ keys m := mem_keys_iff.mpr h

def KeysSub (E : Env) (S0 cur : KVs) : Prop := ∀ k, lookup k cur ≠ none → k ∈ allNames E S0

theorem KeysSub.self (E : Env) (S0 : KVs) : KeysSub E S0 S0 := by
  intro k hk
  simp only [allNames, List.mem_append]
  exact Or.inl (lookup_mem_keys hk)

theorem KeysSub.insert {E : Env} {S0 cur : KVs} (h : KeysSub E S0 cur) {n : String} (hn : n ∈ allNames E S0) (v : Val) :
    KeysSub E S0 (Val.insert n v cur) := by
  intro k hk
  by_cases e : k = n
  · subst e; exact hn
  · rw [lookup_insert_ne _ _ e] at hk; exact h k hk

theorem fileServices_keysSub {f : String} (h : fileServices E.fs f = some S) :
    KeysSub E S0 S ∧ f ∈ allFiles E := by
  obtain ⟨doc, hd, hs⟩ := fileServices_inv h
  have hm := fsLookup_mem hd
  constructor
  · intro k hk
    simp only [allNames, List.mem_append, List.mem_flatMap]
    refine Or.inr ⟨(f, .ok doc false), hm, ?_⟩
    simp only [fileNames, hs]
    exact lookup_mem_keys hk
  · simp only [allFiles, List.mem_cons, List.mem_map]
    exact Or.inr ⟨(f, .ok doc false), hm, rfl⟩

theorem mem_keyUniverse {f : String} (hf : f ∈ allFiles E) (hn : n ∈ allNames E S0) :
    (f, n) ∈ keyUniverse E S0 := by
  simp only [keyUniverse, List.mem_flatMap, List.mem_map]
  exact ⟨f, hf, n, hn, rfl⟩

theorem Ext.key (h : Ext E cur n svc ref file svcs) (hcf : cf ∈ allFiles E) (hk : KeysSub E S0 cur) :
    (cf, n) ∈ keyUniverse E S0 ∧ KeysSub E S0 svcs ∧ nextFile cf file ∈ allFiles E := by
  have hkey := mem_keyUniverse hcf (hk n (by rw [h.1]; nofun))
  cases file with
  | none => exact ⟨hkey, (baseMap_none.mp h.2.2).1 ▸ hk, hcf⟩
  | some f =>
    obtain ⟨a, b⟩ := fileServices_keysSub (S0 := S0) (baseMap_some.mp h.2.2).1
    exact ⟨hkey, a, b⟩

/-- the mapping `S` is the one the file name `cf` stands for: the main file's services `S0`, or the services
of the extended file referenced as `cf` -/
def Loc (E : Env) (S0 : KVs) (cf : String) (S : KVs) : Prop :=
  (cf = E.mainFile ∧ S = S0) ∨ fileServices E.fs cf = some S

theorem Loc.unique {E : Env} {S0 : KVs} (hmain : fileServices E.fs E.mainFile = none) {cf : String} {S S' : KVs}
    (h : Loc E S0 cf S) (h' : Loc E S0 cf S') : S = S' := by
  rcases h with ⟨a, b⟩ | a <;> rcases h' with ⟨a', b'⟩ | a'
  · rw [b, b']
  · rw [a, hmain] at a'; cases a'
  · rw [a', hmain] at a; cases a
  · rw [a] at a'; injection a'

theorem Loc.next (h : Loc E S0 cf S) (hb : baseMap E S ref file = some S') : Loc E S0 (nextFile cf file) S' := by
  cases file with
  | none => exact (baseMap_none.mp hb).1 ▸ h
  | some f => exact Or.inr (baseMap_some.mp hb).1

/-- every key the tracker holds names a node of the chain that reaches the node being resolved -/
def TrOK (E : Env) (S0 : KVs) (tr : List Key) (node : KVs × String) : Prop :=
  ∀ k ∈ tr, ∃ S', Loc E S0 k.1 S' ∧ Reach E (S', k.2) node

theorem TrOK.nil (E : Env) (S0 : KVs) (node : KVs × String) : TrOK E S0 [] node := fun _ hk => by cases hk

theorem TrOK.push {a b : KVs × String}
    (h : TrOK E S0 tr a) (hloc : Loc E S0 cf a.1) (l : Link E a b) : TrOK E S0 (tr ++ [(cf, a.2)]) b := by
  intro k hk
  rcases List.mem_append.mp hk with hk | hk
  · obtain ⟨S', h1, h2⟩ := h k hk
    exact ⟨S', h1, h2.snoc l⟩
  · simp only [List.mem_singleton] at hk
    subst hk
    exact ⟨a.1, hloc, Reach.one l⟩

/-- along a flattening chain the tracker never meets a key again: a key it holds names a node that reaches the present
one (`TrOK`), so meeting it again would close a cycle -/
theorem FlatK.fresh (hmain : fileServices E.fs E.mainFile = none) (h : FlatK E cf S n ks v) :
    ∀ {tr}, Loc E S0 cf S → TrOK E S0 tr (S, n) → tr.Nodup → (tr ++ ks).Nodup := by
  induction h with
  | leaf => intro tr _ _ hnd; rwa [List.append_nil]
  | step h1 h2 h3 h4 h5 h6 ih =>
    rename_i cf S n svc e ref file S' b m ks
    intro tr hloc htr hnd
    have hx : Ext E S n svc ref file S' := ⟨h1, ⟨e, h2, h3⟩, h4⟩
    have hk : (cf, n) ∉ tr := fun hm => by
      obtain ⟨S'', hl, hr⟩ := htr _ hm
      cases Loc.unique hmain hl hloc
      exact (FlatK.ext_flat hx h5 h6).not_cyclic (.inl hr)
    have := ih (hloc.next h4) (htr.push (a := (S, n)) hloc hx.link)
      (nodup_snoc hnd hk)
    rwa [List.append_assoc] at this

theorem FlatK.nodup (hmain : fileServices E.fs E.mainFile = none) (h : FlatK E cf S n ks v) (hloc : Loc E S0 cf S) :
    ks.Nodup := by
  simpa using h.fresh hmain hloc (TrOK.nil E S0 (S, n)) List.nodup_nil

/-- the tracker within its budget: pairwise distinct keys of the universe which, together with the fuel that is left, exceed
what the universe holds.  The termination measure of `applySvc` (`applySvc_panic_env`) and of the link walk
(`walkChain_long_keys`): every call pushes a new key and gives up one unit of fuel, and at fuel `0` the pigeonhole says no -/
def Budget (E : Env) (S0 : KVs) (fuel : Nat) (tr : List Key) : Prop :=
  tr.Nodup ∧ (∀ k ∈ tr, k ∈ keyUniverse E S0) ∧ (keyUniverse E S0).length < fuel + tr.length

theorem Budget.nil {fuel : Nat} (h : (keyUniverse E S0).length + 1 ≤ fuel) : Budget E S0 fuel [] :=
  ⟨List.nodup_nil, nofun, by simp only [List.length_nil]; omega⟩

theorem Budget.not_zero (h : Budget E S0 0 tr) : False := by
  have := h.1.length_le_of_subset h.2.1
  have := h.2.2
  omega

theorem Budget.push {fuel : Nat} {k : Key} (h : Budget E S0 (fuel + 1) tr) (hk : k ∉ tr) (hu : k ∈ keyUniverse E S0) :
    Budget E S0 fuel (tr ++ [k]) :=
  ⟨nodup_snoc h.1 hk, fun k' hk' => (List.mem_append.mp hk').elim (h.2.1 k') fun e => List.mem_singleton.mp e ▸ hu,
    by have := h.2.2; simp only [List.length_append, List.length_singleton]; omega⟩

/-- `tr` holds the keys of the nodes passed, within the `Budget` and under the tracker's invariant `TrOK`.  A walk that is
still going cannot push new keys for ever: it meets one of them again, and a key met again is a node met again -/
theorem walkChain_long_keys (E : Env) (hmain : fileServices E.fs E.mainFile = none) (S0 : KVs) :
    ∀ (fuel : Nat) (cf : String) (S : KVs) (n : String) (tr : List Key),
    Loc E S0 cf S → cf ∈ allFiles E → KeysSub E S0 S → Budget E S0 fuel tr → TrOK E S0 tr (S, n) →
    walkChain E fuel S n = .long → Cyclic E (S, n) := by
  intro fuel
  induction fuel with
  | zero => intro cf S n tr _ _ _ hb _ _; exact hb.not_zero.elim
  | succ fuel ih =>
    intro cf S n tr hloc hcf hks hb htr h
    rcases walkChain_succ_cases E fuel S n with ⟨_, _, _, h'⟩ | ⟨svc, ref, file, S', hx, h'⟩ | h' <;> rw [h'] at h <;>
      try cases h
    by_cases hm : (cf, n) ∈ tr
    · obtain ⟨S'', hl, hr⟩ := htr _ hm
      cases Loc.unique hmain hl hloc
      exact .inl hr
    · obtain ⟨hkey, hks', hnf⟩ := hx.key hcf hks
      exact Cyclic.of_link hx.link (ih _ S' ref (tr ++ [(cf, n)]) (hloc.next hx.2.2) hnf hks' (hb.push hm hkey)
        (htr.push (a := (S, n)) hloc hx.link) h)

end CV.Extends
