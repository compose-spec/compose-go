import ComposeVerif.Model.C01Stages
import ComposeVerif.Lemmas.ExceptDecEq
/-!
The tree walkers that run before schema validation, one mutual block each: `convert` leaves only string-keyed mappings
(`convert_stringKeyed`, and `convert_map_shape`: a mapping stays a mapping), `fixEmpty` then leaves no nil slice and keeps
the keys (`fixEmpty_noNil`, `fixEmpty_stringKeyed`), `omitEmpty` leaves no nil slice (`omitEmpty_noNil`).
-/
namespace CV.C01

/-! ## `convertToStringKeysRecursive` -/

theorem bind_ok {ε α β : Type} {x : Except ε α} {f : α → Except ε β} {b : β} (h : x >>= f = .ok b) :
    ∃ a, x = .ok a ∧ f a = .ok b :=
  Except.bind_eq_ok.1 h

mutual
theorem convert_stringKeyed : ∀ (v v' : GoVal), convert v = .ok v' → stringKeyed v' = true
  | .map kvs, v', h => by
    unfold convert at h
    obtain ⟨kvs', hk, h⟩ := bind_ok h
    cases h
    exact convertKVs_stringKeyed kvs kvs' hk
  | .imap kvs, v', h => by
    unfold convert at h
    obtain ⟨kvs', hk, h⟩ := bind_ok h
    cases h
    exact convertIKVs_stringKeyed kvs kvs' hk
  | .seq xs, v', h => by
    unfold convert at h
    obtain ⟨ys, hk, h⟩ := bind_ok h
    cases h
    cases ys with
    | nil => rfl
    | cons a b => exact convertList_stringKeyed xs _ hk
  | .null, _, h => by cases h; rfl
  | .bool _, _, h => by cases h; rfl
  | .int _, _, h => by cases h; rfl
  | .float _, _, h => by cases h; rfl
  | .str _, _, h => by cases h; rfl
  | .nilseq, _, h => by cases h; rfl
termination_by structural v => v
theorem convertKVs_stringKeyed : ∀ (kvs kvs' : List (String × GoVal)), convertKVs kvs = .ok kvs' → stringKeyedKVs kvs' = true
  | [], _, h => by cases h; rfl
  | (k, v) :: r, kvs', h => by
    unfold convertKVs at h
    obtain ⟨v', hv, h⟩ := bind_ok h
    obtain ⟨r', hr, h⟩ := bind_ok h
    cases h
    simp only [stringKeyedKVs, convert_stringKeyed v v' hv, convertKVs_stringKeyed r r' hr, Bool.and_self]
termination_by structural kvs => kvs
theorem convertIKVs_stringKeyed : ∀ (kvs : List (GoVal × GoVal)) (kvs' : List (String × GoVal)), convertIKVs kvs = .ok kvs' → stringKeyedKVs kvs' = true
  | [], _, h => by cases h; rfl
  | (k, v) :: r, kvs', h => by
    unfold convertIKVs at h
    split at h
    · obtain ⟨v', hv, h⟩ := bind_ok h
      obtain ⟨r', hr, h⟩ := bind_ok h
      cases h
      simp only [stringKeyedKVs, convert_stringKeyed v v' hv, convertIKVs_stringKeyed r r' hr, Bool.and_self]
    · cases h
termination_by structural kvs => kvs
theorem convertList_stringKeyed : ∀ (xs ys : List GoVal), convertList xs = .ok ys → stringKeyedList ys = true
  | [], _, h => by cases h; rfl
  | v :: r, ys, h => by
    unfold convertList at h
    obtain ⟨v', hv, h⟩ := bind_ok h
    obtain ⟨r', hr, h⟩ := bind_ok h
    cases h
    simp only [stringKeyedList, convert_stringKeyed v v' hv, convertList_stringKeyed r r' hr, Bool.and_self]
termination_by structural xs => xs
end

theorem convert_map_shape (raw v' : GoVal) (hraw : (∃ kvs, raw = .map kvs) ∨ (∃ kvs, raw = .imap kvs))
    (h : convert raw = .ok v') : ∃ kvs', v' = .map kvs' := by
  rcases hraw with ⟨kvs, rfl⟩ | ⟨kvs, rfl⟩ <;>
  · unfold convert at h
    obtain ⟨kvs', _, h⟩ := bind_ok h
    cases h
    exact ⟨kvs', rfl⟩

/-! ## `fixEmptyNotNull` -/

mutual
theorem fixEmpty_noNil : ∀ (v : GoVal), stringKeyed v = true → noNil (fixEmpty v) = true
  | .nilseq, _ => rfl
  | .seq xs, h => fixEmptyList_noNil xs h
  | .map kvs, h => fixEmptyKVs_noNil kvs h
  | .imap _, h => by cases h
  | .null, _ => rfl
  | .bool _, _ => rfl
  | .int _, _ => rfl
  | .float _, _ => rfl
  | .str _, _ => rfl
theorem fixEmptyList_noNil : ∀ (xs : List GoVal), stringKeyedList xs = true → noNilList (fixEmptyList xs) = true
  | [], _ => rfl
  | v :: r, h =>
    have h := Bool.and_eq_true_iff.mp h
    Bool.and_eq_true_iff.mpr ⟨fixEmpty_noNil v h.1, fixEmptyList_noNil r h.2⟩
theorem fixEmptyKVs_noNil : ∀ (kvs : List (String × GoVal)), stringKeyedKVs kvs = true → noNilKVs (fixEmptyKVs kvs) = true
  | [], _ => rfl
  | (_, v) :: r, h =>
    have h := Bool.and_eq_true_iff.mp h
    Bool.and_eq_true_iff.mpr ⟨fixEmpty_noNil v h.1, fixEmptyKVs_noNil r h.2⟩
end

mutual
theorem fixEmpty_stringKeyed : ∀ (v : GoVal), stringKeyed v = true → stringKeyed (fixEmpty v) = true
  | .nilseq, _ => rfl
  | .seq xs, h => fixEmptyList_stringKeyed xs h
  | .map kvs, h => fixEmptyKVs_stringKeyed kvs h
  | .imap _, h => by cases h
  | .null, _ => rfl
  | .bool _, _ => rfl
  | .int _, _ => rfl
  | .float _, _ => rfl
  | .str _, _ => rfl
theorem fixEmptyList_stringKeyed : ∀ (xs : List GoVal), stringKeyedList xs = true → stringKeyedList (fixEmptyList xs) = true
  | [], _ => rfl
  | v :: r, h =>
    have h := Bool.and_eq_true_iff.mp h
    Bool.and_eq_true_iff.mpr ⟨fixEmpty_stringKeyed v h.1, fixEmptyList_stringKeyed r h.2⟩
theorem fixEmptyKVs_stringKeyed : ∀ (kvs : List (String × GoVal)), stringKeyedKVs kvs = true → stringKeyedKVs (fixEmptyKVs kvs) = true
  | [], _ => rfl
  | (_, v) :: r, h =>
    have h := Bool.and_eq_true_iff.mp h
    Bool.and_eq_true_iff.mpr ⟨fixEmpty_stringKeyed v h.1, fixEmptyKVs_stringKeyed r h.2⟩
end

/-! ## `omitEmpty` -/

mutual
theorem omitEmpty_noNil (pats : List (List String)) : ∀ (v : GoVal) (p : TPath), noNil (omitEmpty pats v p) = true
  | .map kvs, p => omitKVs_noNil pats kvs p
  | .seq xs, p => omitList_noNil pats xs p
  | .nilseq, _ => rfl
  | .imap _, _ => rfl
  | .null, _ => rfl
  | .bool _, _ => rfl
  | .int _, _ => rfl
  | .float _, _ => rfl
  | .str _, _ => rfl
theorem omitKVs_noNil (pats : List (List String)) : ∀ (kvs : List (String × GoVal)) (p : TPath), noNilKVs (omitKVs pats kvs p) = true
  | [], _ => rfl
  | (k, v) :: r, p => by
    unfold omitKVs
    split
    · exact omitKVs_noNil pats r p
    · exact Bool.and_eq_true_iff.mpr ⟨omitEmpty_noNil pats v (p.next k), omitKVs_noNil pats r p⟩
theorem omitList_noNil (pats : List (List String)) : ∀ (xs : List GoVal) (p : TPath), noNilList (omitList pats xs p) = true
  | [], _ => rfl
  | v :: r, p => by
    unfold omitList
    split
    · exact omitList_noNil pats r p
    · exact Bool.and_eq_true_iff.mpr ⟨omitEmpty_noNil pats v (p.next "[]"), omitList_noNil pats r p⟩
end

end CV.C01
