import ComposeVerif.Lemmas.PathsTree
/-!
# What a successful walk did: nothing off the rows, at every row an output of its resolver  (C12)

`Frame` (Lemmas/PathsTree.lean) says what resolution does NOT touch.  `RowsAre t Q p v` is the complement: every node
of `v` the walker treats as a row `hn` satisfies `Q hn node`.  `walk_ok_spec` proves both of a successful walk in one
induction, since they invert the same equations: the output is framed by the input (`walk_frame`) and every row node is
in the image of its resolver (`walk_rows`, `ImageOf`).  `image_pathOK`: a string in the image of `absPath` /
`absContextPath` / `maybeUnixPath` under an absolute base is absolute, empty, or one of the exemptions (`PathOK`).
-/
namespace CV.Paths
open CV CV.TPath

mutual
def RowsAre (t : Table) (Q : String → Val → Prop) : TPath → Val → Prop
  | p, .map kvs => match firstMatch t p with
    | some hn => Q hn (.map kvs)
    | none => RowsAreKVs t Q p kvs
  | p, .seq xs => match firstMatch t p with
    | some hn => Q hn (.seq xs)
    | none => RowsAreSeq t Q p xs
  | p, v => match firstMatch t p with
    | some hn => Q hn v
    | none => True
def RowsAreKVs (t : Table) (Q : String → Val → Prop) : TPath → List (String × Val) → Prop
  | _, [] => True
  | p, (k, v) :: r => RowsAre t Q (TPath.next p k) v ∧ RowsAreKVs t Q p r
def RowsAreSeq (t : Table) (Q : String → Val → Prop) : TPath → List Val → Prop
  | _, [] => True
  | p, x :: r => RowsAre t Q (TPath.next p "[]") x ∧ RowsAreSeq t Q p r
end

theorem rowsAre_of_match (t : Table) (Q : String → Val → Prop) (p : TPath) (v : Val) (hn : String)
    (hm : firstMatch t p = some hn) (h : Q hn v) : RowsAre t Q p v := by
  cases v <;> simp only [RowsAre, hm] <;> exact h

theorem rowsAre_at_match (t : Table) (Q : String → Val → Prop) (p : TPath) (v : Val) (hn : String)
    (hm : firstMatch t p = some hn) (h : RowsAre t Q p v) : Q hn v := by
  cases v <;> simpa only [RowsAre, hm] using h

theorem rowsAre_scalar (t : Table) (Q : String → Val → Prop) (p : TPath) (v : Val)
    (hm : firstMatch t p = none) (hs : (∀ kvs, v ≠ .map kvs) ∧ (∀ xs, v ≠ .seq xs)) : RowsAre t Q p v := by
  cases v with
  | map kvs => exact absurd rfl (hs.1 kvs)
  | seq xs => exact absurd rfl (hs.2 xs)
  | _ => simp [RowsAre, hm]

def ImageOf (cfg : Cfg) (hn : String) (out : Val) : Prop := ∃ inp, applyResolver cfg hn inp = .ok out

/-- what a successful walk did: nothing off the rows (`Frame`), and at every row the output of its resolver -/
theorem walk_ok_spec (t : Table) (cfg : Cfg) :
    (∀ p v v', walk t cfg p v = .ok v' → Frame t p v v' ∧ RowsAre t (ImageOf cfg) p v') ∧
    (∀ p kvs kvs', walkKVs t cfg p kvs = .ok kvs' → FrameKVs t p kvs kvs' ∧ RowsAreKVs t (ImageOf cfg) p kvs') ∧
    (∀ p xs xs', walkSeq t cfg p xs = .ok xs' → FrameSeq t p xs xs' ∧ RowsAreSeq t (ImageOf cfg) p xs') := by
  refine walk_induction t ?row ?leaf ?map ?seq ?knil ?kcons ?snil ?scons
  case row =>
    intro p v hn hm v' h
    rw [walk_of_match t cfg p v hn hm] at h
    exact ⟨frame_of_match t p v v' (by simp [hm]), rowsAre_of_match t _ p v' hn hm ⟨_, h⟩⟩
  case leaf =>
    intro p v hm h1 h2 v' h
    rw [walk_scalar t cfg p v hm ⟨h1, h2⟩] at h
    cases h; exact ⟨frame_refl_leaf t p v h1 h2, rowsAre_scalar t _ p v hm ⟨h1, h2⟩⟩
  case map =>
    intro p kvs hm ih v' h
    rw [walk_map t cfg p kvs hm] at h
    obtain ⟨kvs', hk, rfl⟩ := Out.map_ok _ _ _ h
    simp only [Frame, RowsAre, hm]
    exact ⟨.inr ⟨kvs', rfl, (ih kvs' hk).1⟩, (ih kvs' hk).2⟩
  case seq =>
    intro p xs hm ih v' h
    rw [walk_seq t cfg p xs hm] at h
    obtain ⟨xs', hk, rfl⟩ := Out.map_ok _ _ _ h
    simp only [Frame, RowsAre, hm]
    exact ⟨.inr ⟨xs', rfl, (ih xs' hk).1⟩, (ih xs' hk).2⟩
  case knil => intro p kvs' h; cases h; simp [FrameKVs, RowsAreKVs]
  case kcons =>
    intro p k v r ihv ihr kvs' h
    rw [walkKVs_cons] at h
    obtain ⟨v', r', hv, hr, rfl⟩ := Out.bind_map_ok h
    simp only [FrameKVs, RowsAreKVs]
    exact ⟨⟨v', r', rfl, (ihv v' hv).1, (ihr r' hr).1⟩, (ihv v' hv).2, (ihr r' hr).2⟩
  case snil => intro p xs' h; cases h; simp [FrameSeq, RowsAreSeq]
  case scons =>
    intro p x r ihx ihr xs' h
    rw [walkSeq_cons] at h
    obtain ⟨x', r', hx, hr, rfl⟩ := Out.bind_map_ok h
    simp only [FrameSeq, RowsAreSeq]
    exact ⟨⟨x', r', rfl, (ihx x' hx).1, (ihr r' hr).1⟩, (ihx x' hx).2, (ihr r' hr).2⟩

theorem walk_frame (t : Table) (cfg : Cfg) :
    ∀ (p : TPath) (v v' : Val), walk t cfg p v = .ok v' → Frame t p v v' :=
  fun p v v' h => ((walk_ok_spec t cfg).1 p v v' h).1

theorem walkKVs_frame (t : Table) (cfg : Cfg) :
    ∀ (p : TPath) (kvs kvs' : List (String × Val)), walkKVs t cfg p kvs = .ok kvs' → FrameKVs t p kvs kvs' :=
  fun p kvs kvs' h => ((walk_ok_spec t cfg).2.1 p kvs kvs' h).1

theorem walkSeq_frame (t : Table) (cfg : Cfg) :
    ∀ (p : TPath) (xs xs' : List Val), walkSeq t cfg p xs = .ok xs' → FrameSeq t p xs xs' :=
  fun p xs xs' h => ((walk_ok_spec t cfg).2.2 p xs xs' h).1

theorem walk_rows (t : Table) (cfg : Cfg) :
    ∀ (p : TPath) (v v' : Val), walk t cfg p v = .ok v' → RowsAre t (ImageOf cfg) p v' :=
  fun p v v' h => ((walk_ok_spec t cfg).1 p v v' h).2

theorem walkKVs_rows (t : Table) (cfg : Cfg) :
    ∀ (p : TPath) (kvs kvs' : List (String × Val)), walkKVs t cfg p kvs = .ok kvs' → RowsAreKVs t (ImageOf cfg) p kvs' :=
  fun p kvs kvs' h => ((walk_ok_spec t cfg).2.1 p kvs kvs' h).2

theorem walkSeq_rows (t : Table) (cfg : Cfg) :
    ∀ (p : TPath) (xs xs' : List Val), walkSeq t cfg p xs = .ok xs' → RowsAreSeq t (ImageOf cfg) p xs' :=
  fun p xs xs' h => ((walk_ok_spec t cfg).2.2 p xs xs' h).2

theorem rowsAre_mono_all (t : Table) (Q Q' : String → Val → Prop) (hq : ∀ hn v, Q hn v → Q' hn v) :
    (∀ p v, RowsAre t Q p v → RowsAre t Q' p v) ∧ (∀ p kvs, RowsAreKVs t Q p kvs → RowsAreKVs t Q' p kvs) ∧
    (∀ p xs, RowsAreSeq t Q p xs → RowsAreSeq t Q' p xs) := by
  refine walk_induction t ?row ?leaf ?map ?seq ?knil ?kcons ?snil ?scons
  case row =>
    intro p v hn hm h
    exact rowsAre_of_match t Q' p v hn hm (hq _ _ (rowsAre_at_match t Q p v hn hm h))
  case leaf => intro p v hm h1 h2 _; exact rowsAre_scalar t Q' p v hm ⟨h1, h2⟩
  case map => intro p kvs hm ih h; simp only [RowsAre, hm] at h ⊢; exact ih h
  case seq => intro p xs hm ih h; simp only [RowsAre, hm] at h ⊢; exact ih h
  case knil => intro p _; trivial
  case kcons => intro p k v r ihv ihr h; exact ⟨ihv h.1, ihr h.2⟩
  case snil => intro p _; trivial
  case scons => intro p x r ihx ihr h; exact ⟨ihx h.1, ihr h.2⟩

theorem rowsAre_mono (t : Table) (Q Q' : String → Val → Prop) (hq : ∀ hn v, Q hn v → Q' hn v) :
    ∀ (p : TPath) (v : Val), RowsAre t Q p v → RowsAre t Q' p v := (rowsAre_mono_all t Q Q' hq).1

theorem rowsAreKVs_mono (t : Table) (Q Q' : String → Val → Prop) (hq : ∀ hn v, Q hn v → Q' hn v) :
    ∀ (p : TPath) (kvs : List (String × Val)), RowsAreKVs t Q p kvs → RowsAreKVs t Q' p kvs :=
  (rowsAre_mono_all t Q Q' hq).2.1

theorem rowsAreSeq_mono (t : Table) (Q Q' : String → Val → Prop) (hq : ∀ hn v, Q hn v → Q' hn v) :
    ∀ (p : TPath) (xs : List Val), RowsAreSeq t Q p xs → RowsAreSeq t Q' p xs :=
  (rowsAre_mono_all t Q Q' hq).2.2

theorem image_absPath_str (cfg : Cfg) (x : String) (h : ImageOf cfg "absPath" (.str x)) :
    ∃ s : String, x = String.ofList (absPathStr cfg s.toList) := by
  obtain ⟨inp, h⟩ := h
  have e : applyResolver cfg "absPath" inp = absPath cfg inp := by simp [applyResolver]
  rw [e] at h
  cases inp with
  | str s => simp only [absPath, Out.ok.injEq, Val.str.injEq] at h; exact ⟨s, h.symm⟩
  | seq xs => obtain ⟨ys, e⟩ := absPath_seq_ok cfg xs _ h; cases e
  | _ => cases h

theorem image_context (cfg : Cfg) (out : Val) (h : ImageOf cfg "absContextPath" out) :
    ∃ s : String, out = .str (String.ofList (absContextStr cfg s.toList)) := by
  obtain ⟨inp, h⟩ := h
  have e : applyResolver cfg "absContextPath" inp = absContextPath cfg inp := by simp [applyResolver]
  rw [e, absContextPath_eq] at h
  obtain ⟨s, r, _, hr, rfl⟩ := onStr_ok h
  cases hr; exact ⟨s, rfl⟩

theorem image_mount (cfg : Cfg) (out : Val) (h : ImageOf cfg "maybeUnixPath" out) :
    ∃ (s : String) (r : Str), maybeUnixStr cfg s.toList = .ok r ∧ out = .str (String.ofList r) := by
  obtain ⟨inp, h⟩ := h
  have e : applyResolver cfg "maybeUnixPath" inp = maybeUnixPath cfg inp := by simp [applyResolver]
  rw [e, maybeUnixPath_eq] at h
  obtain ⟨s, r, _, hr, rfl⟩ := onStr_ok h
  exact ⟨s, r, hr, rfl⟩

/-- a string node at a resolver row of a resolved tree: absolute, or one of the exemptions the property names (empty
values stay empty) -/
def PathOK (hn : String) (out : Val) : Prop :=
  ∀ x, out = .str x →
    (hn = "absPath" → isAbs x.toList = true ∨ x.toList = []) ∧
    (hn = "absContextPath" → isAbs x.toList = true ∨ x.toList = [] ∨ urlLike x.toList = true) ∧
    (hn = "maybeUnixPath" → isAbs x.toList = true ∨ isWindowsAbs? x.toList = some true)

theorem image_pathOK (cfg : Cfg) (hwd : isAbs cfg.wd = true) (hn : String) (out : Val) (h : ImageOf cfg hn out) :
    PathOK hn out := by
  intro x hx
  subst hx
  refine ⟨?_, ?_, ?_⟩
  · intro e; subst e
    obtain ⟨s, rfl⟩ := image_absPath_str cfg x h
    simpa using absPathStr_abs_or_nil cfg s.toList hwd
  · intro e; subst e
    obtain ⟨s, hs⟩ := image_context cfg _ h
    simp only [Val.str.injEq] at hs
    subst hs
    cases hu : urlLike s.toList with
    | true => rw [absContextStr_url cfg _ hu]; simp [hu]
    | false =>
      rw [absContextStr_local cfg _ hu]
      rcases absPathStr_abs_or_nil cfg s.toList hwd with h1 | h1
      · simp [h1]
      · simp [h1]
  · intro e; subst e
    obtain ⟨s, r, hr, hs⟩ := image_mount cfg _ h
    simp only [Val.str.injEq] at hs
    subst hs
    simpa using maybeUnixStr_result cfg s.toList r hwd hr

end CV.Paths
