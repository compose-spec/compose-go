import ComposeVerif.Model.Trav
import ComposeVerif.Lemmas.Assoc
/-!
# `Trav.step?` in rule form

Three kinds of goroutine move: one inside `visit` (`Visit`: the caller's loop over the extremities and the coordinator's
loop over the adjacent vertices run the same code), a worker (`Work`), the coordinator at its `select` (`Coord`); the
fourth rule of `Step` is the environment cancelling the context.  `step?_sound`, `step?_complete`: the successful
`step?`s are exactly these.
-/
namespace CV.Trav

/-- scheduler `w` moves from `y` to `x`; the status map and the worker list afterwards (nothing else changes) -/
inductive Visit (g : Graph) (lim : Option Nat) (s : St) (w : Who) :
    Label → Sched → Option Sched → (V → Status) → List (V × WPc) → Prop
  | next {todo : List V} {v : V} : v ∈ todo →
      Visit g lim s w (.schedNext w v) ⟨todo, .next⟩ (some ⟨todo.erase v, .ready v⟩) s.status s.workers
  | last : Visit g lim s w (.schedEnd w) ⟨[], .next⟩ none s.status s.workers
  | readyT {todo : List V} {v : V} : (∀ d ∈ g.pre v, s.status d = .visited) →
      Visit g lim s w (.ready w) ⟨todo, .ready v⟩ (some ⟨todo, .enter v⟩) s.status s.workers
  | readyF {todo : List V} {v : V} : (¬ ∀ d ∈ g.pre v, s.status d = .visited) →
      Visit g lim s w (.ready w) ⟨todo, .ready v⟩ (some ⟨todo, .next⟩) s.status s.workers
  | enterT {todo : List V} {v : V} : s.status v = .absent →
      Visit g lim s w (.enter w) ⟨todo, .enter v⟩ (some ⟨todo, .spawn v⟩) (setStatus s.status v .entered) s.workers
  | enterF {todo : List V} {v : V} : s.status v ≠ .absent →
      Visit g lim s w (.enter w) ⟨todo, .enter v⟩ (some ⟨todo, .next⟩) s.status s.workers
  | spawn {todo : List V} {v : V} : slotFree lim s = true →
      Visit g lim s w (.spawn w) ⟨todo, .spawn v⟩ (some ⟨todo, .next⟩) s.status ((v, .start) :: s.workers)

/-- the worker of `v` moves from `pc` to `pc'` (`none`: it returns to the errgroup); the worker list itself is updated
in `Step.work` -/
inductive Work (g : Graph) (s : St) (v : V) : Label → WPc → Option WPc → St → Prop
  | skip : g.skip v = true → Work g s v (.wBegin v) .start (some (.returned false)) s
  | begin : g.skip v = false → Work g s v (.wBegin v) .start (some .running) { s with log := .start v :: s.log }
  | ret {e : Bool} : Work g s v (.wReturn v e) .running (some (.returned e)) { s with log := .finish v e :: s.log }
  | done {e : Bool} :
      Work g s v (.wDone v) (.returned e) (some (.marked e)) { s with status := setStatus s.status v .visited }
  | send {e : Bool} : Work g s v (.wSend v) (.marked e) (some (.sent e)) { s with ch := s.ch ++ [v] }
  | exit {e : Bool} :
      Work g s v (.wExit v) (.sent e) none
        { s with cancelled := s.cancelled || e,
                 firstErr := if e then (match s.firstErr with | some x => some x | none => some v) else s.firstErr,
                 errExits := if e then v :: s.errExits else s.errExits }

def moveW (ws : List (V × WPc)) (v : V) : Option WPc → List (V × WPc)
  | some pc' => setW ws v pc'
  | none => ws.filter (·.1 ≠ v)

inductive Coord (g : Graph) (s : St) : Label → St → Prop
  | recvLast {v : V} {rest : List V} : s.ch = v :: rest → s.expect - 1 = 0 →
      Coord g s .cRecv { s with ch := rest, received := v :: s.received, expect := s.expect - 1, cAlive := false }
  | recvMore {v : V} {rest : List V} : s.ch = v :: rest → s.expect - 1 ≠ 0 →
      Coord g s .cRecv { s with ch := rest, received := v :: s.received, expect := s.expect - 1,
                                cSched := some ⟨g.post v, .next⟩ }
  | ctxDone : s.cancelled = true → s.m = none → Coord g s .cCtxDone { s with cAlive := false }

inductive Step (g : Graph) (lim : Option Nat) (s : St) : Label → St → Prop
  | visit {w : Who} {l : Label} {y : Sched} {x : Option Sched} {st : V → Status} {ws : List (V × WPc)} :
      getSched s w = some y → Visit g lim s w l y x st ws →
      Step g lim s l (putSched { s with status := st, workers := ws } w x)
  | work {v : V} {l : Label} {pc : WPc} {pc' : Option WPc} {s1 : St} :
      wpc s.workers v = some pc → Work g s v l pc pc' s1 →
      Step g lim s l { s1 with workers := moveW s.workers v pc' }
  | coord {l : Label} {s' : St} : s.cAlive = true → s.cSched = none → Coord g s l s' → Step g lim s l s'
  | cancel : s.extCancelled = false → Step g lim s .extCancel { s with cancelled := true, extCancelled := true }

/-- Each label unfolds `step?` to its own `match`/`if`; every branch that returns `some` is exactly one rule, the
others return `none`. -/
theorem step?_sound {g : Graph} {lim : Option Nat} {s s' : St} {l : Label}
    (h : step? g lim s l = some s') : Step g lim s l s' := by
  cases l with
  | schedNext w v =>
    simp only [step?] at h
    split at h
    · split at h
      · cases h; exact .visit ‹_› (.next ‹_›)
      · cases h
    · cases h
  | schedEnd w =>
    simp only [step?] at h
    split at h
    · cases h; exact .visit ‹_› .last
    · cases h
  | ready w =>
    simp only [step?, List.all_eq_true, beq_iff_eq] at h
    split at h
    · split at h
      · cases h; exact .visit ‹_› (.readyT ‹_›)
      · cases h; exact .visit ‹_› (.readyF ‹_›)
    · cases h
  | enter w =>
    simp only [step?] at h
    split at h
    · split at h
      · cases h; exact .visit ‹_› (.enterT ‹_›)
      · cases h; exact .visit ‹_› (.enterF ‹_›)
    · cases h
  | spawn w =>
    simp only [step?] at h
    split at h
    · split at h
      · cases h; exact .visit ‹_› (.spawn ‹_›)
      · cases h
    · cases h
  | wBegin v =>
    simp only [step?] at h
    split at h
    · split at h
      · cases h; exact .work ‹_› (.skip ‹_›)
      · cases h; exact .work ‹_› (.begin (Bool.eq_false_iff.mpr ‹_›))
    · cases h
  | wReturn v e =>
    simp only [step?] at h
    split at h
    · cases h; exact .work ‹_› .ret
    · cases h
  | wDone v =>
    simp only [step?] at h
    split at h
    · cases h; exact .work ‹_› .done
    · cases h
  | wSend v =>
    simp only [step?] at h
    split at h
    · cases h; exact .work ‹_› .send
    · cases h
  | wExit v =>
    simp only [step?] at h
    split at h
    · cases h; exact .work ‹_› .exit
    · cases h
  | cRecv =>
    simp only [step?, Bool.and_eq_true, Option.isNone_iff_eq_none] at h
    split at h
    · rename_i hsel
      split at h
      · split at h
        · cases h; exact .coord hsel.1 hsel.2 (.recvLast ‹_› ‹_›)
        · cases h; exact .coord hsel.1 hsel.2 (.recvMore ‹_› ‹_›)
      · cases h
    · cases h
  | cCtxDone =>
    simp only [step?, Bool.and_eq_true, Option.isNone_iff_eq_none] at h
    split at h
    · rename_i hsel
      cases h; exact .coord hsel.1.1.1 hsel.1.1.2 (.ctxDone hsel.1.2 hsel.2)
    · cases h
  | extCancel =>
    simp only [step?] at h
    split at h
    · cases h
    · cases h; exact .cancel (Bool.eq_false_iff.mpr ‹_›)

/-- … and every rule is a successful `step?`: to show that a step is enabled, name its rule. -/
theorem step?_complete {g : Graph} {lim : Option Nat} {s s' : St} {l : Label}
    (h : Step g lim s l s') : step? g lim s l = some s' := by
  cases h with
  | visit hs hv =>
    cases hv with
    | readyF hn => simp only [step?, hs, List.all_eq_true, beq_iff_eq, if_neg hn]
    | _ => simp_all [step?]
  | work hw hk =>
    cases hk with
    | exit => simp only [step?, hw, moveW]; rfl
    | _ => simp_all [step?, moveW]
  | coord ha hc hk => cases hk <;> simp_all [step?]
  | cancel hx => simp_all [step?]

namespace Visit
variable {g : Graph} {lim : Option Nat} {s : St} {w : Who} {l : Label} {y : Sched} {x : Option Sched}
  {st : V → Status} {ws : List (V × WPc)}

theorem status (h : Visit g lim s w l y x st ws) :
    st = s.status ∨ ∃ t v, y = ⟨t, .enter v⟩ ∧ s.status v = .absent ∧ st = setStatus s.status v .entered := by
  cases h
  case enterT h => exact .inr ⟨_, _, rfl, h, rfl⟩
  all_goals exact .inl rfl

theorem workers (h : Visit g lim s w l y x st ws) :
    ws = s.workers ∨ ∃ t v, y = ⟨t, .spawn v⟩ ∧ slotFree lim s = true ∧ ws = (v, .start) :: s.workers := by
  cases h
  case spawn h => exact .inr ⟨_, _, rfl, h, rfl⟩
  all_goals exact .inl rfl

theorem next_sub (h : Visit g lim s w l y x st ws) :
    (∀ t u, x = some ⟨t, .enter u⟩ → ∀ d ∈ g.pre u, s.status d = .visited) ∧
    (∀ t u, x = some ⟨t, .spawn u⟩ → s.status u = .absent) := by
  cases h
  case readyT h => exact ⟨fun _ _ e => by cases e; exact h, nofun⟩
  case enterT h => exact ⟨nofun, fun _ _ e => by cases e; exact h⟩
  all_goals exact ⟨nofun, nofun⟩

end Visit

/-! what a worker's step does to each part of the state (`s1` still has the old worker list) -/

namespace Work
variable {g : Graph} {s s1 : St} {v : V} {l : Label} {pc : WPc} {pc' : Option WPc}

theorem sched (h : Work g s v l pc pc' s1) : s1.m = s.m ∧ s1.cSched = s.cSched ∧ s1.cAlive = s.cAlive := by
  cases h <;> exact ⟨rfl, rfl, rfl⟩

theorem status (h : Work g s v l pc pc' s1) :
    s1.status = s.status ∨ ∃ e, pc = .returned e ∧ s1.status = setStatus s.status v .visited := by
  cases h
  case done => exact .inr ⟨_, rfl, rfl⟩
  all_goals exact .inl rfl

theorem handoff (h : Work g s v l pc pc' s1) :
    s1.received = s.received ∧ s1.expect = s.expect ∧ (s1.ch = s.ch ∨ s1.ch = s.ch ++ [v]) := by
  cases h
  case send => exact ⟨rfl, rfl, .inr rfl⟩
  all_goals exact ⟨rfl, rfl, .inl rfl⟩

theorem log (h : Work g s v l pc pc' s1) :
    s1.log = s.log ∨ (pc = .start ∧ pc' = some .running ∧ g.skip v = false ∧ s1.log = .start v :: s.log) ∨
    ∃ e, pc' = some (.returned e) ∧ pc = .running ∧ s1.log = .finish v e :: s.log := by
  cases h
  case begin hk => exact .inr (.inl ⟨rfl, rfl, hk, rfl⟩)
  case ret => exact .inr (.inr ⟨_, rfl, rfl, rfl⟩)
  all_goals exact .inl rfl

theorem errs (h : Work g s v l pc pc' s1) :
    s1.extCancelled = s.extCancelled ∧
    ((s1.errExits = s.errExits ∧ s1.firstErr = s.firstErr ∧ s1.cancelled = s.cancelled) ∨
     (pc = .sent true ∧ pc' = none ∧ s1.errExits = v :: s.errExits ∧
      s1.firstErr = (match s.firstErr with | some x => some x | none => some v) ∧ s1.cancelled = true)) := by
  cases h
  case exit e =>
    cases e
    · exact ⟨rfl, .inl ⟨rfl, rfl, Bool.or_false _⟩⟩
    · exact ⟨rfl, .inr ⟨rfl, rfl, rfl, rfl, Bool.or_true _⟩⟩
  all_goals exact ⟨rfl, .inl ⟨rfl, rfl, rfl⟩⟩

end Work

theorem getSched_C_alive {s : St} (ha : s.cAlive = true) : getSched s .C = s.cSched := if_pos ha

theorem getSched_C_dead {s : St} (ha : s.cAlive = false) : getSched s .C = none := if_neg (by rw [ha]; nofun)

theorem getSched_C_some {s : St} {sc : Sched} (h : getSched s .C = some sc) : s.cAlive = true ∧ s.cSched = some sc := by
  simp only [getSched] at h
  split at h
  · exact ⟨‹_›, h⟩
  · cases h

namespace Coord
variable {g : Graph} {s s' : St} {l : Label}

theorem frame (h : Coord g s l s') :
    s'.status = s.status ∧ s'.workers = s.workers ∧ s'.log = s.log ∧ s'.m = s.m := by
  cases h <;> exact ⟨rfl, rfl, rfl, rfl⟩

theorem errs (h : Coord g s l s') :
    s'.errExits = s.errExits ∧ s'.firstErr = s.firstErr ∧ s'.cancelled = s.cancelled ∧
    s'.extCancelled = s.extCancelled := by
  cases h <;> exact ⟨rfl, rfl, rfl, rfl⟩

theorem getSched_M (h : Coord g s l s') : getSched s' .M = getSched s .M := h.frame.2.2.2

theorem getSched_C (h : Coord g s l s') (ha : s.cAlive = true) :
    getSched s' .C = none ∨ ∃ v rest, s.ch = v :: rest ∧ getSched s' .C = some ⟨g.post v, .next⟩ := by
  cases h with
  | recvMore hch _ => exact .inr ⟨_, _, hch, if_pos ha⟩
  | _ => exact .inl rfl

end Coord

theorem getSched_put_same {s : St} {w : Who} {y : Sched} (x : Option Sched) (h : getSched s w = some y) :
    getSched (putSched s w x) w = x := by
  cases w with
  | M => rfl
  | C => have := (getSched_C_some h).1; simp [getSched, putSched, this]

theorem getSched_put_ne {s : St} {w w' : Who} (x : Option Sched) (h : w' ≠ w) :
    getSched (putSched s w x) w' = getSched s w' := by
  cases w <;> cases w' <;> first | (exact absurd rfl h) | rfl

@[simp] theorem putSched_status (s : St) (w : Who) (x) : (putSched s w x).status = s.status := by cases w <;> rfl
@[simp] theorem putSched_ch (s : St) (w : Who) (x) : (putSched s w x).ch = s.ch := by cases w <;> rfl
@[simp] theorem putSched_received (s : St) (w : Who) (x) : (putSched s w x).received = s.received := by cases w <;> rfl
@[simp] theorem putSched_workers (s : St) (w : Who) (x) : (putSched s w x).workers = s.workers := by cases w <;> rfl
@[simp] theorem putSched_cancelled (s : St) (w : Who) (x) : (putSched s w x).cancelled = s.cancelled := by cases w <;> rfl
@[simp] theorem putSched_cAlive (s : St) (w : Who) (x) : (putSched s w x).cAlive = s.cAlive := by cases w <;> rfl
@[simp] theorem putSched_expect (s : St) (w : Who) (x) : (putSched s w x).expect = s.expect := by cases w <;> rfl
@[simp] theorem putSched_log (s : St) (w : Who) (x) : (putSched s w x).log = s.log := by cases w <;> rfl
@[simp] theorem putSched_firstErr (s : St) (w : Who) (x) : (putSched s w x).firstErr = s.firstErr := by cases w <;> rfl
@[simp] theorem putSched_extCancelled (s : St) (w : Who) (x) : (putSched s w x).extCancelled = s.extCancelled := by cases w <;> rfl
@[simp] theorem putSched_errExits (s : St) (w : Who) (x) : (putSched s w x).errExits = s.errExits := by cases w <;> rfl

theorem getSched_congr {s s' : St} (hm : s'.m = s.m) (hc : s'.cSched = s.cSched) (ha : s'.cAlive = s.cAlive) (w : Who) :
    getSched s' w = getSched s w := by
  cases w <;> simp [getSched, hm, hc, ha]

theorem Work.getSched {g : Graph} {s s1 : St} {v : V} {l : Label} {pc : WPc} {pc' : Option WPc}
    (h : Work g s v l pc pc' s1) (w : Who) : getSched s1 w = getSched s w :=
  getSched_congr h.sched.1 h.sched.2.1 h.sched.2.2 w

theorem setStatus_self (f : V → Status) (v : V) (st : Status) : setStatus f v st v = st := if_pos rfl

theorem setStatus_ne (f : V → Status) {u v : V} (st : Status) (h : u ≠ v) : setStatus f v st u = f u := if_neg h

theorem mem_of_wpc {ws : List (V × WPc)} {v : V} {pc : WPc} (h : wpc ws v = some pc) : (v, pc) ∈ ws := by
  unfold wpc at h
  cases hf : ws.find? (·.1 = v) with
  | none => simp [hf] at h
  | some p =>
    simp [hf] at h
    have hm := List.mem_of_find?_eq_some hf
    have hp := List.find?_some hf
    simp at hp
    obtain ⟨a, b⟩ := p
    simp at hp h
    subst hp; subst h; exact hm

theorem setW_keys (ws : List (V × WPc)) (v : V) (pc : WPc) : (setW ws v pc).map (·.1) = ws.map (·.1) := by
  rw [setW, List.map_map]
  refine List.map_congr_left fun p _ => ?_
  show (if p.1 = v then (v, pc) else p).1 = p.1
  split
  · next h => exact h.symm
  · rfl

theorem mem_setW {ws : List (V × WPc)} {v u : V} {pc q : WPc} (h : (u, q) ∈ setW ws v pc) :
    (u = v ∧ q = pc ∧ ∃ q', (v, q') ∈ ws) ∨ (u ≠ v ∧ (u, q) ∈ ws) := by
  simp only [setW, List.mem_map] at h
  obtain ⟨⟨a, b⟩, hm, he⟩ := h
  by_cases hav : a = v
  · simp [hav] at he
    left; exact ⟨he.1.symm, he.2.symm, b, hav ▸ hm⟩
  · simp [hav] at he
    right; obtain ⟨h1, h2⟩ := he; subst h1; subst h2; exact ⟨hav, hm⟩

theorem mem_setW_of_ne {ws : List (V × WPc)} {v u : V} {pc q : WPc} (hne : u ≠ v) (h : (u, q) ∈ ws) :
    (u, q) ∈ setW ws v pc := by
  simp only [setW, List.mem_map]
  exact ⟨(u, q), h, by simp [hne]⟩

theorem mem_setW_self {ws : List (V × WPc)} {v : V} {pc q : WPc} (h : (v, q) ∈ ws) : (v, pc) ∈ setW ws v pc := by
  simp only [setW, List.mem_map]
  exact ⟨(v, q), h, by simp⟩

theorem mem_filter_ne {ws : List (V × WPc)} {v u : V} {q : WPc} : (u, q) ∈ ws.filter (·.1 ≠ v) ↔ (u, q) ∈ ws ∧ u ≠ v := by
  rw [List.mem_filter, decide_eq_true_eq]

theorem mem_moveW_ne {ws : List (V × WPc)} {v u : V} {q : WPc} (pc' : Option WPc) (hu : u ≠ v) :
    (u, q) ∈ moveW ws v pc' ↔ (u, q) ∈ ws := by
  cases pc' with
  | none => exact mem_filter_ne.trans (and_iff_left hu)
  | some p => exact ⟨fun h => (mem_setW h).elim (fun h => absurd h.1 hu) (·.2), mem_setW_of_ne hu⟩

theorem mem_moveW_self {ws : List (V × WPc)} {v : V} {pc q : WPc} {pc' : Option WPc} (hm : (v, pc) ∈ ws) :
    (v, q) ∈ moveW ws v pc' ↔ pc' = some q := by
  cases pc' with
  | none => exact ⟨fun h => absurd rfl (mem_filter_ne.mp h).2, nofun⟩
  | some p =>
    refine ⟨fun h => (mem_setW h).elim (fun h => h.2.1 ▸ rfl) (fun h => absurd rfl h.1), fun h => ?_⟩
    cases h; exact mem_setW_self hm

theorem pc_unique {ws : List (V × WPc)} (hn : (ws.map (·.1)).Nodup) {v : V} {p q : WPc}
    (hp : (v, p) ∈ ws) (hq : (v, q) ∈ ws) : p = q :=
  (Prod.mk.inj (Assoc.eq_of_mem_of_fst_eq hn hp hq rfl)).2

theorem moveW_keys (ws : List (V × WPc)) (v : V) (pc' : Option WPc) :
    ((moveW ws v pc').map (·.1)).Sublist (ws.map (·.1)) := by
  cases pc' with
  | none => exact List.filter_sublist.map _
  | some p => rw [moveW, setW_keys]; exact .refl _

theorem moveW_length_le (ws : List (V × WPc)) (v : V) (pc' : Option WPc) : (moveW ws v pc').length ≤ ws.length := by
  cases pc' with
  | none => exact List.length_filter_le ..
  | some p => exact Nat.le_of_eq (List.length_map ..)

theorem mem_moveW_cases {ws : List (V × WPc)} {v u : V} {pc q : WPc} {pc' : Option WPc} (hm : (v, pc) ∈ ws)
    (h : (u, q) ∈ moveW ws v pc') : (u ≠ v ∧ (u, q) ∈ ws) ∨ (u = v ∧ pc' = some q) := by
  by_cases e : u = v
  · subst e; exact .inr ⟨rfl, (mem_moveW_self hm).mp h⟩
  · exact .inl ⟨e, (mem_moveW_ne pc' e).mp h⟩

/-- entries at a program counter that `v`'s move neither leaves nor reaches -/
theorem mem_moveW_other {ws : List (V × WPc)} (hn : (ws.map (·.1)).Nodup) {v u : V} {pc q : WPc} {pc' : Option WPc}
    (hm : (v, pc) ∈ ws) (h1 : q ≠ pc) (h2 : pc' ≠ some q) : (u, q) ∈ moveW ws v pc' ↔ (u, q) ∈ ws := by
  by_cases e : u = v
  · subst e
    rw [mem_moveW_self hm]
    exact ⟨fun h => absurd h h2, fun h => absurd (pc_unique hn h hm) h1⟩
  · exact mem_moveW_ne pc' e

end CV.Trav
