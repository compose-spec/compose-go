import ComposeVerif.Model.Template
import ComposeVerif.Spec.Template
/-!
# The definitions the statements of `Props/C07*.lean` are written with, beyond `Spec/Template.lean`

Outcomes and their composition (`seq`, `pushErr`, `toOut`, `opOut`) and the shapes of text the theorems outside `WF` speak
about (`noNL`, `EndsClose`, `DollarHead`).  Definitions only.
-/
namespace CV.Template

def noNL (s : Str) : Prop := ∀ c ∈ s, c ≠ '\n'

/-- what the regexp can hand to the replacement function: `$` followed by `$`, `{` or the start of a name -/
def DollarHead (m : Str) : Prop := ∃ c r, m = '$' :: c :: r ∧ (c = '$' ∨ c = '{' ∨ isNameStart c = true)

def EndsClose (Y : Str) : Prop := Y = [] ∨ ∃ P, Y = P ++ ['}']

def pushErr (fe : Option Err) (e : Err) : Option Err := match fe with | none => some e | some e0 => some e0

/-- sequential composition of two outcomes: concatenation, first error wins, a panic anywhere is a panic -/
def seq (a b : Out) : Out :=
  match a with
  | .panic p => .panic p
  | .ok x => (match b with | .ok y => .ok (x ++ y) | o => o)
  | .err e => (match b with | .panic p => .panic p | _ => .err e)

def toOut : Except Err Str → Out
  | .ok s => .ok s
  | .error e => .err e

/-- what one `${NAME op arg}` contributes, given the outcome of the argument -/
def opOut (env : Env) (n : Str) (o : Op) (r : Out) : Out :=
  match r with
  | .panic p => .panic p
  | .err e => .err e
  | .ok d => applyOp o n (env n) d

end CV.Template
