import ComposeVerif.Lemmas.FanoutInv
import ComposeVerif.Lemmas.Runs
/-! What follows from `Inv` for the fan-out: progress, the termination measure, the outcome of a returned call, and which
accesses of `newProject.Services` can be enabled. -/
namespace CV.Fanout

variable {cfg : Cfg} {s s' : St} {l : Label}

theorem ex_of_isSome (l : Label) (h : (step? cfg s l).isSome = true) : ∃ l s', step? cfg s l = some s' := by
  cases hh : step? cfg s l with
  | some s' => exact ⟨l, s', hh⟩
  | none => simp [hh] at h

/-- the buffer has room for the result of every worker that has not sent yet -/
theorem send_room (hI : Inv cfg s) {v : V} (hv : v ∈ cfg.svcs) (hw : s.w v = .returned) :
    s.ch.length < cfg.svcs.length := by
  have h1 := hI.chCount
  have h2 := hI.expectCount
  have h3 : (cfg.svcs.filter (fun u => sentOrExited (s.w u))).length < cfg.svcs.length :=
    List.length_filter_lt_length_iff_exists.mpr ⟨v, hv, by simp [hw, sentOrExited]⟩
  omega

theorem worker_enabled (hI : Inv cfg s) {v : V} (hv : v ∈ cfg.svcs) (hl : live (s.w v) = true) :
    ∃ l s', step? cfg s l = some s' := by
  cases hw : s.w v with
  | idle | exited | failed => rw [hw] at hl; cases hl
  | start => exact ⟨_, _, step?_of_step (.wBegin hw)⟩
  | running => exact ⟨_, _, step?_of_step (.wReturn hw)⟩
  | sent => exact ⟨_, _, step?_of_step (.wExit hw)⟩
  | returned =>
    cases hf : cfg.fn v with
    | none => exact ⟨_, _, step?_of_step (.wFail hw hf rfl)⟩
    | some r => exact ⟨_, _, step?_of_step (.wSend hw hf (send_room hI hv hw))⟩

theorem sent_of_not_live {y : WPc} (h₁ : y ≠ .idle) (h₂ : live y = false) (h₃ : y ≠ .failed) : sentOrExited y = true := by
  cases y <;> first | rfl | contradiction

theorem collector_enabled (h0 : s.c ≠ .notStarted) (h1 : s.c ≠ .gone) (hsel : s.c = .sel → s.ch ≠ [] ∨ s.cancelled = true) :
    ∃ l s', step? cfg s l = some s' := by
  cases hc : s.c with
  | notStarted => exact absurd hc h0
  | gone => exact absurd hc h1
  | got v r => exact ⟨_, _, step?_of_step (.cStore hc rfl)⟩
  | done => exact ⟨_, _, step?_of_step (.cReturn hc)⟩
  | fin => exact ⟨_, _, step?_of_step (.cExit hc)⟩
  | sel =>
    rcases hsel hc with hch | hcan
    · cases hch' : s.ch with
      | nil => exact absurd hch' hch
      | cons x rest => exact ⟨_, _, step?_of_step (.cRecv (v := x.1) (r := x.2) hc hch')⟩
    · exact ⟨_, _, step?_of_step (.cCtxDone hc hcan)⟩

/-- the caller moves unless it waits; then a live worker does; then the collector -/
theorem deadlock_free_of_inv (hI : Inv cfg s) : terminal s ∨ ∃ l s', step? cfg s l = some s' := by
  cases hm : s.m with
  | returned => exact .inl hm
  | read => exact .inr ⟨_, _, step?_of_step (.mRead hm rfl)⟩
  | spawnC => exact .inr ⟨_, _, step?_of_step (.mSpawnC hm (hI.cStart.mp (.inr hm)) rfl)⟩
  | spawning todo =>
    cases todo with
    | nil => exact .inr ⟨_, _, step?_of_step (.mWait hm)⟩
    | cons v t => exact .inr ⟨_, _, step?_of_step (.mSpawn hm List.mem_cons_self)⟩
  | waiting =>
    right
    by_cases hall : (cfg.svcs.all fun v => !(live (s.w v))) = true
    · by_cases hg : s.c = .gone
      · exact ⟨_, _, step?_of_step (.mReturn hm hg hall)⟩
      · refine collector_enabled (fun hc => by simpa [hm] using hI.cStart.mpr hc) hg fun hc => ?_
        -- nobody failed and nobody is live, so all have sent; nothing is in the collector's hand and something is expected:
        -- the channel cannot be empty
        refine Decidable.or_iff_not_imp_right.mpr fun hcan hch => ?_
        have hnf : s.fails = [] := by
          have h1 := hI.errFails
          rw [Decidable.not_not.mp (mt hI.cancelIff.mpr hcan)] at h1
          exact List.head?_eq_none_iff.mp h1.symm
        have hex : ∀ v ∈ cfg.svcs, sentOrExited (s.w v) = true := fun v hv =>
          sent_of_not_live (hI.waitAll (.inl hm) v hv) (by simpa using List.all_eq_true.mp hall v hv)
            fun hf => by have := (hI.failsW v).mpr hf; rw [hnf] at this; cases this
        have h4 := hI.chCount
        have h5 := hI.cPos (.inl hc)
        rw [hch, hc, List.filter_eq_self.mpr hex] at h4
        simp only [List.length_nil, gotBit] at h4
        omega
    · obtain ⟨v, hv, hl⟩ : ∃ v, v ∈ cfg.svcs ∧ live (s.w v) = true := by simpa using hall
      exact worker_enabled hI hv hl

theorem cMu_counted (e : Nat) : cMu (if e = 0 then .fin else .sel) e ≤ 2 * e + 3 := by
  split
  · exact Nat.le_add_left ..
  · exact Nat.le_refl _

/-- every step lowers the weight of the goroutine that takes it and leaves the other weights alone -/
theorem mu_decreases (hN : cfg.svcs.Nodup) (hI : Inv cfg s) (h : step? cfg s l = some s') : mu cfg s' < mu cfg s := by
  have hM : ∀ {m'}, mMu m' < mMu s.m → mu cfg { s with m := m' } < mu cfg s :=
    fun h => Nat.add_lt_add_right (Nat.add_lt_add_right h _) _
  have hC : ∀ {c' e'}, cMu c' e' < cMu s.c s.expect → mu cfg { s with c := c', expect := e' } < mu cfg s :=
    fun h => Nat.add_lt_add_right (Nat.add_lt_add_left h _) _
  have hW : ∀ {v y} x, v ∈ cfg.svcs → s.w v = y → wMu x < wMu y → mu cfg { s with w := set s.w v x } < mu cfg s :=
    fun {v y} x hv hy hlt => by
      have := sum_map_update hN hv (f := fun u => wMu (s.w u)) (g := fun u => wMu (set s.w v x u))
        fun u e => by rw [set_other _ _ e]
      simp only [set_same, hy] at this
      exact Nat.add_lt_add_left (show (cfg.svcs.map fun u => wMu (set s.w v x u)).sum < _ by omega) _
  cases step_of_step? h with
  | mRead hm hm' => rw [hm', if_pos (hI.cStart.mp (.inl hm))]; exact hM (by rw [hm]; decide)
  | mSpawnC hm hc hc' =>
    have h1 : cMu s.c s.expect = 2 * s.expect + 4 := by rw [hc]; rfl
    have := cMu_counted s.expect
    rw [hc']
    simp only [mu, hm, mMu]; omega
  | mSpawn hm hv =>
    have h1 := (hI.todo _ hm).2 _ hv
    have := hW .start h1.1 h1.2 (by decide)
    simp only [mu, hm, mMu] at this ⊢; omega
  | mWait hm => exact hM (by rw [hm]; decide)
  | mReturn hm => exact hM (by rw [hm]; decide)
  | wBegin hw => exact hW .running (hI.wSvcs _ (by simp [hw])) hw (by decide)
  | wReturn hw => exact hW .returned (hI.wSvcs _ (by simp [hw])) hw (by decide)
  | wSend hw => exact hW .sent (hI.wSvcs _ (by simp [hw])) hw (by decide)
  | wFail hw => exact hW .failed (hI.wSvcs _ (by simp [hw])) hw (by decide)
  | wExit hw => exact hW .exited (hI.wSvcs _ (by simp [hw])) hw (by decide)
  | cRecv hc => exact hC (by rw [hc]; exact Nat.lt_succ_self _)
  | cCtxDone hc => exact hC (by rw [hc]; exact Nat.lt_add_left _ (by decide : 1 < 3))
  | cStore hc hc' =>
    have h1 : cMu s.c s.expect = 2 * s.expect + 2 := by rw [hc]; rfl
    have := hI.cPos (.inr ⟨_, _, hc⟩)
    have := cMu_counted (s.expect - 1)
    rw [hc']
    exact hC (by omega)
  | cReturn hc => exact hC (by rw [hc]; exact Nat.zero_lt_one)
  | cExit hc => exact hC (by rw [hc]; exact Nat.zero_lt_one)

theorem mu_init (cfg : Cfg) : mu cfg (init cfg) = 7 * cfg.svcs.length + 8 := by
  simp only [mu, init, mMu, cMu, wMu, List.map_const', List.sum_replicate_nat]; omega

theorem replays (cfg : Cfg) : Runs.Replays (step? cfg) (run cfg) := ⟨fun _ => rfl, fun _ _ _ => rfl⟩

theorem reach_run {s' : St} : ∀ (ls : List Label) (s : St), Reach cfg s → run cfg s ls = some s' → Reach cfg s' :=
  fun _ _ => Runs.run_preserves (replays cfg) .step

theorem all_stored (hI : Inv cfg s) (he : s.expect = 0) : ∀ v ∈ cfg.svcs, s.item v = .stored := by
  have h := hI.expectCount
  rw [he] at h
  intro v hv
  simpa using List.length_filter_eq_length_iff.mp (by omega : (cfg.svcs.filter fun v => s.item v == .stored).length = _) v hv

theorem mem_of_acc (hI : Inv cfg s) {v : V} (h : s.acc v ≠ none) : v ∈ cfg.svcs :=
  hI.wSvcs v fun e => by rcases hI.itemW v (by simp [(hI.accItem v).mp h]) with h | h <;> rw [e] at h <;> cases h

theorem firstErr_failed (hI : Inv cfg s) {v : V} (h : s.firstErr = some v) : v ∈ cfg.svcs ∧ cfg.fn v = none := by
  have hw := (hI.failsW v).mp (List.mem_of_mem_head? (h ▸ hI.errFails).symm)
  exact ⟨hI.wSvcs v (by simp [hw]), hI.failedFn v hw⟩

/-- whether a returned call has recorded an error is decided by the function alone, and so is what it leaves in
    `newProject.Services`: the function's result for every service, or (with an error) what was there -/
theorem returned_outcome (hI : Inv cfg s) (ht : terminal s) :
    (s.firstErr = none ↔ ∀ v ∈ cfg.svcs, cfg.fn v ≠ none) ∧
    s.services = if s.firstErr = none then some fun v => if v ∈ cfg.svcs then cfg.fn v else none else none := by
  rcases hI.gone (hI.ret ht).1 with ⟨hs, h0⟩ | ⟨hs, hcan⟩
  · have hacc : ∀ v ∈ cfg.svcs, ∃ r, s.acc v = some r ∧ cfg.fn v = some r := fun v hv => by
      cases ha : s.acc v with
      | none => exact absurd ha ((hI.accItem v).mpr (all_stored hI h0 v hv))
      | some r => exact ⟨r, rfl, hI.accFn v r ha⟩
    have he : s.firstErr = none := by
      cases he : s.firstErr with
      | none => rfl
      | some v =>
        obtain ⟨hv, hf⟩ := firstErr_failed hI he
        obtain ⟨r, _, hr⟩ := hacc v hv
        rw [hf] at hr; cases hr
    refine ⟨iff_of_true he fun v hv => ?_, ?_⟩
    · obtain ⟨r, _, hr⟩ := hacc v hv
      rw [hr]; nofun
    · rw [hs, if_pos he]
      congr 1; funext v
      by_cases hv : v ∈ cfg.svcs
      · obtain ⟨r, ha, hr⟩ := hacc v hv
        rw [if_pos hv, ha, hr]
      · rw [if_neg hv]; exact Decidable.not_not.mp (mt (mem_of_acc hI) hv)
  · have hne := hI.cancelIff.mp hcan
    refine ⟨iff_of_false hne fun hall => ?_, by rw [hs, if_neg hne]⟩
    cases he : s.firstErr with
    | none => exact hne he
    | some v => exact hall v (firstErr_failed hI he).1 (firstErr_failed hI he).2

/-- an enabled access to the field is the collector's final store, or a read by the caller while the collector does
    not exist yet or has gone -/
theorem enabled_fieldAccess (hI : Inv cfg s) {w : Bool} (ha : fieldAccess l = some w) (he : (step? cfg s l).isSome = true) :
    (l = .cExit ∧ s.c = .fin) ∨ (w = false ∧ (s.c = .notStarted ∨ s.c = .gone)) := by
  obtain ⟨s', h⟩ := Option.isSome_iff_exists.mp he
  cases step_of_step? h <;> cases ha
  case mRead hm _ => exact .inr ⟨rfl, .inl (hI.cStart.mp (.inl hm))⟩
  case mReturn hc _ => exact .inr ⟨rfl, .inr hc⟩
  case cExit hc => exact .inl ⟨rfl, hc⟩

end CV.Fanout
