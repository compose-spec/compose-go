import ComposeVerif.Model.Locked
import ComposeVerif.Lemmas.ListFacts
/-!
# The mutex-protected critical sections of `Model/Locked.lean`

`step?` as a relation (`Step`), the invariant `Inv` of the locked system (nobody inside, or exactly the holder), whose last
clause says the guarded state is what the serial specification `serial` yields; then the invariance rule of `serial`, which
through that clause is one for every reachable state; then what the sections of `warnObsoleteVersion` and of `t.status` keep.
-/
namespace CV.Locked

variable {σ Tid : Type} [DecidableEq Tid]

def inCS : Pc σ → Bool
  | .out => false
  | _ => true

@[simp] theorem upd_same {α : Type} (f : Tid → α) (t : Tid) (x : α) : upd f t x t = x := by simp [upd]
theorem upd_other {α : Type} (f : Tid → α) {t u : Tid} (x : α) (h : u ≠ t) : upd f t x u = f u := by simp [upd, h]

theorem serial_append (prog : Tid → List (σ → σ)) (a b : List Tid) (m : σ) :
    serial prog (a ++ b) m = serial (serial prog a m).2 b (serial prog a m).1 := by
  induction a generalizing prog m with
  | nil => rfl
  | cons t a ih =>
    simp only [List.cons_append, serial]
    split
    · exact ih _ _
    · exact ih _ _

/-- the holder is the goroutine inside a section, its copy is current, `mem` is what the serial execution yields -/
structure Inv (prog : Tid → List (σ → σ)) (m0 : σ) (s : St σ Tid) : Prop where
  held : ∀ t, inCS (s.pc t) = true → s.holder = some t
  holderIn : ∀ t, s.holder = some t → inCS (s.pc t) = true
  loaded : ∀ t x, s.pc t = .loaded x → x = s.mem
  restNe : ∀ t, inCS (s.pc t) = true → s.rest t ≠ []
  ser : serial prog s.hist m0 = (s.mem, restAbs s)

inductive Step (locked : Bool) (s : St σ Tid) : Label Tid → St σ Tid → Prop
  | lock {t f r} : s.pc t = .out → s.rest t = f :: r → ¬(locked && s.holder.isSome) = true →
      Step locked s (.lock t) { s with holder := some t, pc := upd s.pc t .holding }
  | read {t} : s.pc t = .holding → Step locked s (.read t) { s with pc := upd s.pc t (.loaded s.mem) }
  | write {t x f r} : s.pc t = .loaded x → s.rest t = f :: r →
      Step locked s (.write t) { s with mem := f x, pc := upd s.pc t .written, hist := s.hist ++ [t] }
  | unlock {t} : s.pc t = .written →
      Step locked s (.unlock t) { s with holder := none, pc := upd s.pc t .out, rest := upd s.rest t (s.rest t).tail }

variable {locked : Bool} {prog : Tid → List (σ → σ)} {m0 : σ} {s s' : St σ Tid} {l : Label Tid} {t : Tid}

theorem step_of_step? (h : step? locked s l = some s') : Step locked s l s' := by
  -- the branch of `step?` that returns a state is the label's constructor
  cases l <;> dsimp only [step?] at h <;> (repeat' split at h) <;> cases h <;> constructor <;> assumption

theorem step?_of_step (h : Step locked s l s') : step? locked s l = some s' := by
  cases h <;> simp [step?, *]

theorem Inv.of_outside (hh : s.holder = none) (hp : ∀ u, s.pc u = .out) (hs : serial prog s.hist m0 = (s.mem, restAbs s)) :
    Inv prog m0 s where
  held u hu := by rw [hp u] at hu; cases hu
  holderIn u hu := by rw [hh] at hu; cases hu
  loaded u x hu := by rw [hp u] at hu; cases hu
  restNe u hu := by rw [hp u] at hu; cases hu
  ser := hs

theorem Inv.of_inside (hh : s.holder = some t) (hin : inCS (s.pc t) = true) (hp : ∀ u, u ≠ t → s.pc u = .out)
    (hl : ∀ x, s.pc t = .loaded x → x = s.mem) (hr : s.rest t ≠ [])
    (hs : serial prog s.hist m0 = (s.mem, restAbs s)) : Inv prog m0 s := by
  have key : ∀ u, inCS (s.pc u) = true → u = t := fun u hu =>
    Decidable.byContradiction fun e => by rw [hp u e] at hu; cases hu
  exact {
    held := fun u hu => key u hu ▸ hh
    holderIn := fun u hu => by cases hh.symm.trans hu; exact hin
    loaded := fun u x hu => by cases key u (by rw [hu]; rfl); exact hl x hu
    restNe := fun u hu => key u hu ▸ hr
    ser := hs }

theorem Inv.others_out (hI : Inv prog m0 s) (hin : inCS (s.pc t) = true) (u : Tid) (e : u ≠ t) : s.pc u = .out := by
  cases hu : s.pc u <;> first
    | rfl
    | exact absurd (Option.some.inj ((hI.held u (by rw [hu]; rfl)).symm.trans (hI.held t hin))) e

theorem Inv.out_of_no_holder (hI : Inv prog m0 s) (hh : s.holder = none) (u : Tid) : s.pc u = .out := by
  cases hu : s.pc u <;> first | rfl | (have := hI.held u (by rw [hu]; rfl); rw [hh] at this; cases this)

theorem inv_init (prog : Tid → List (σ → σ)) (m0 : σ) : Inv prog m0 (init prog m0) :=
  .of_outside rfl (fun _ => rfl) rfl

/-- a step of `t` that stores nothing leaves the serial execution where it was -/
theorem ser_step {p : Pc σ} (hI : Inv prog m0 s) (hh : s'.hist = s.hist) (hm : s'.mem = s.mem) (hpc : s'.pc = upd s.pc t p)
    (hr : ∀ u, u ≠ t → s'.rest u = s.rest u) (ht : restAbs s' t = restAbs s t) :
    serial prog s'.hist m0 = (s'.mem, restAbs s') := by
  have : restAbs s' = restAbs s := funext fun u => by
    by_cases e : u = t
    · exact e ▸ ht
    · simp only [restAbs, hpc, upd_other _ _ e, hr u e]
  rw [hh, hm, this]; exact hI.ser

theorem inv_step (hI : Inv prog m0 s) (h : step? true s l = some s') : Inv prog m0 s' := by
  cases step_of_step? h with
  | @lock t f r hpc hr hh =>
    have hnone : s.holder = none := by cases hs : s.holder <;> simp [hs] at hh ⊢
    have hout := hI.out_of_no_holder hnone
    exact .of_inside (t := t) rfl (by simp [inCS]) (fun u e => by simp [upd_other _ _ e, hout u]) (by simp) (by simp [hr])
      (ser_step hI rfl rfl rfl (fun _ _ => rfl) (by simp [restAbs, hpc]))
  | @read t hpc =>
    have hin : inCS (s.pc t) = true := by rw [hpc]; rfl
    exact .of_inside (t := t) (hI.held t hin) (by simp [inCS]) (fun u e => by simp [upd_other _ _ e, hI.others_out hin u e])
      (fun x hx => by simpa using hx.symm) (hI.restNe t hin)
      (ser_step hI rfl rfl rfl (fun _ _ => rfl) (by simp [restAbs, hpc]))
  | @write t x f r hpc hr =>
    have hin : inCS (s.pc t) = true := by rw [hpc]; rfl
    refine .of_inside (t := t) (hI.held t hin) (by simp [inCS]) (fun u e => by simp [upd_other _ _ e, hI.others_out hin u e])
      (by simp) (hI.restNe t hin) ?_
    have hra : restAbs s t = f :: r := by simp [restAbs, hpc, hr]
    simp only [serial_append, hI.ser, serial, hra, hI.loaded t x hpc]
    congr 1
    funext u
    by_cases e : u = t
    · subst e; simp [restAbs, hr]
    · simp [restAbs, upd_other _ _ e]
  | @unlock t hpc =>
    have hin : inCS (s.pc t) = true := by rw [hpc]; rfl
    refine .of_outside rfl (fun u => ?_) (ser_step hI rfl rfl rfl (fun u e => upd_other _ _ e) (by simp [restAbs, hpc]))
    by_cases e : u = t
    · subst e; simp
    · simp [upd_other _ _ e, hI.others_out hin u e]

theorem inv_reach (h : Reach true prog m0 s) : Inv prog m0 s := by
  induction h with
  | init => exact inv_init prog m0
  | step _ hs ih => exact inv_step ih hs

theorem enabled_access_inCS {w : Bool} (ha : access l = some (t, w)) (he : (step? locked s l).isSome = true) :
    inCS (s.pc t) = true := by
  obtain ⟨s', h⟩ := Option.isSome_iff_exists.mp he
  cases step_of_step? h <;> cases ha <;> simp [inCS, *]

theorem flatMap_upd_perm {α : Type} (threads : List Tid) (hN : threads.Nodup) (ops : Tid → List α) (t : Tid) (a : α)
    (r : List α) (ht : t ∈ threads) (h : ops t = a :: r) :
    (a :: threads.flatMap (upd ops t r)).Perm (threads.flatMap ops) := by
  obtain ⟨_, h1, h2⟩ := map_update_perm hN ht (f := ops) (g := upd ops t r) fun u e => upd_other ops r e
  rw [List.flatMap_def, List.flatMap_def]
  refine ((h1.flatten).cons a).trans (.trans ?_ h2.flatten.symm)
  rw [upd_same, List.flatten_cons, List.flatten_cons, h]; rfl

/-! ### the serial specification: one induction over the schedule -/

theorem mem_upd_tail {rest : Tid → List (σ → σ)} {t u : Tid} {f g : σ → σ} {r : List (σ → σ)} (hf : rest t = f :: r) :
    g ∈ rest u ↔ (u = t ∧ g = f) ∨ g ∈ upd rest t r u := by
  by_cases e : u = t
  · subst e; rw [upd_same, hf, List.mem_cons]; simp
  · rw [upd_other _ _ e]; simp [e]

/-- **invariance rule of the serial specification**: what running the next whole section of any goroutine keeps true of
    (guarded state, sections still to run) holds after every serial execution -/
theorem serial_inv {prog₀ : Tid → List (σ → σ)} (P : σ → (Tid → List (σ → σ)) → Prop)
    (hP : ∀ m rest t f r, f ∈ prog₀ t → rest t = f :: r → P m rest → P (f m) (upd rest t r))
    (sched : List Tid) {prog : Tid → List (σ → σ)} {m : σ} (hsub : ∀ t, ∀ f ∈ prog t, f ∈ prog₀ t) (h : P m prog) :
    P (serial prog sched m).1 (serial prog sched m).2 := by
  induction sched generalizing prog m with
  | nil => exact h
  | cons t sched ih =>
    simp only [serial]
    split
    · next f r hf =>
      exact ih (fun u g hg => hsub u g ((mem_upd_tail hf).mpr (.inr hg))) (hP _ _ _ _ _ (hsub t f (hf ▸ List.mem_cons_self)) hf h)
    · exact ih hsub h

/-- … and so, the fine-grained system being serialisable, in every reachable state under every interleaving -/
theorem locked_inv (P : σ → (Tid → List (σ → σ)) → Prop)
    (hP : ∀ m rest t f r, f ∈ prog t → rest t = f :: r → P m rest → P (f m) (upd rest t r))
    (h0 : P m0 prog) (hR : Reach true prog m0 s) : P s.mem (restAbs s) := by
  have := serial_inv P hP s.hist (fun _ _ h => h) h0
  rwa [(inv_reach hR).ser] at this

omit [DecidableEq Tid] in
theorem restAbs_of_quiescent (hq : quiescent s) (t : Tid) : restAbs s t = [] := by
  have := hq t
  simp only [restAbs]; split <;> simp [this]

theorem locked_establishes (P : σ → Prop) (hS : ∀ t, ∀ f ∈ prog t, ∀ m, P m → P (f m)) {t0 : Tid} {f0 : σ → σ}
    (hf0 : f0 ∈ prog t0) (hE : ∀ m, P (f0 m)) (hR : Reach true prog m0 s) (hdone : restAbs s t0 = []) : P s.mem := by
  refine (locked_inv (fun m rest => f0 ∈ rest t0 ∨ P m) ?_ (.inl hf0) hR).resolve_left (hdone ▸ List.not_mem_nil)
  intro m rest t f r hf hr h
  rcases h with h | h
  · rcases (mem_upd_tail hr).mp h with ⟨_, rfl⟩ | h
    · exact .inr (hE m)
    · exact .inl h
  · exact .inr (hS t f hf m h)

/-! ### `warnObsoleteVersion` -/

/-- what one call of `warnObsoleteVersion` keeps true: a warning was logged exactly for the files recorded, once each -/
def LoggedOnce (m : VW) : Prop := m.2.Nodup ∧ ∀ f, f ∈ m.2 ↔ f ∈ m.1

theorem warn_loggedOnce (file : String) (m : VW) (h : LoggedOnce m) : LoggedOnce (warn file m) := by
  obtain ⟨w, l⟩ := m
  obtain ⟨hn, hm⟩ := h
  simp only [LoggedOnce, warn] at hn hm ⊢
  by_cases hc : file ∈ w
  · rw [if_pos (List.contains_iff_mem.mpr hc)]
    exact ⟨hn, fun f => by rw [hm f, List.mem_append, List.mem_singleton]; exact ⟨.inl, fun h => h.elim id (· ▸ hc)⟩⟩
  · rw [if_neg (mt List.contains_iff_mem.mp hc)]
    exact ⟨nodup_snoc hn (mt (hm file).mp hc), fun f => by simp only [List.mem_append, hm f]⟩

/-! ### `t.status`: no section makes a vertex absent again or a visited one unvisited -/

theorem enterF_of_ne_absent {u v : Nat} {st : Nat → Status} (h : st v ≠ .absent) : enterF u st v = st v := by
  unfold enterF
  split
  · next habs => exact if_neg fun e : v = u => h (e ▸ habs)
  · rfl

theorem enterF_visited {u v : Nat} {st : Nat → Status} (h : st v = .visited) : enterF u st v = .visited :=
  (enterF_of_ne_absent (by rw [h]; nofun)).trans h

theorem doneF_self (u : Nat) (st : Nat → Status) : doneF u st u = .visited := if_pos rfl

theorem doneF_of_ne {u v : Nat} (st : Nat → Status) (h : v ≠ u) : doneF u st v = st v := if_neg h

theorem doneF_visited {u v : Nat} {st : Nat → Status} (h : st v = .visited) : doneF u st v = .visited := by
  by_cases e : v = u
  · exact e ▸ doneF_self u st
  · exact (doneF_of_ne st e).trans h

end CV.Locked
