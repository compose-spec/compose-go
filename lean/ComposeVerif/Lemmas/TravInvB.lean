import ComposeVerif.Lemmas.TravInvA
import ComposeVerif.Lemmas.TravSpec
/-!
# The coordination invariant `InvB`: the coordinator's counter, the lost-wake-up invariants, vertex ranges
-/
namespace CV.Trav

/-- `v` is still going to be tried by scheduler `w` in its current loop -/
def pendIn (s : St) (w : Who) (v : V) : Prop :=
  ∃ x, getSched s w = some x ∧ (v ∈ x.todo ∨ x.sub = .ready v ∨ x.sub = .enter v)

def Wake (s : St) (w : Who) (v : V) : Prop := s.status v ≠ .absent ∨ pendIn s w v

def subVerts (g : Graph) (x : Sched) : Prop :=
  (∀ v ∈ x.todo, v ∈ g.verts) ∧ (∀ v, (x.sub = .ready v ∨ x.sub = .enter v ∨ x.sub = .spawn v) → v ∈ g.verts)

structure InvB (g : Graph) (s : St) : Prop where
  recvSub : ∀ v, v ∈ s.ch ∨ v ∈ s.received → v ∈ g.verts
  expectEq : s.cAlive = true → s.expect + s.received.length = g.verts.length ∧ 1 ≤ s.expect
  /-- every vertex whose dependencies have all been *received* is claimed or still on the coordinator's list -/
  wakeC : s.cancelled = false → s.cAlive = true → ∀ v ∈ g.verts, g.pre v ≠ [] →
            (∀ d ∈ g.pre v, d ∈ s.received) → Wake s .C v
  wakeM : ∀ v ∈ g.verts, g.pre v = [] → Wake s .M v
  schedVerts : ∀ w x, getSched s w = some x → subVerts g x
  wkVerts : ∀ v pc, (v, pc) ∈ s.workers → v ∈ g.verts

theorem init_invB (g : Graph) (hg : GraphOK g) : InvB g (init g) := by
  refine ⟨fun _ h => h.elim nofun nofun, fun _ => ⟨rfl, ?_⟩, ?_, ?_, ?_, nofun⟩
  · exact List.length_pos_iff.mpr hg.nonempty
  · -- nothing has been received: a vertex with all prerequisites received has none
    intro _ _ v _ hp hall
    cases hpv : g.pre v with
    | nil => exact absurd hpv hp
    | cons d r => exact nomatch hall d (hpv ▸ List.mem_cons_self ..)
  · exact fun v hv hp => .inr ⟨_, rfl, .inl (List.mem_filter.mpr ⟨hv, by rw [hp]; rfl⟩)⟩
  · intro w x h
    cases w
    · cases h; exact ⟨fun v hv => (List.mem_filter.mp hv).1, nofun⟩
    · cases h

theorem wake_mono {s s' : St} {w : Who} {u : V}
    (hst : s.status u ≠ .absent → s'.status u ≠ .absent) (hgs : getSched s' w = getSched s w) :
    Wake s w u → Wake s' w u := by
  rintro (h | ⟨x, hx, h⟩)
  · exact .inl (hst h)
  · exact .inr ⟨x, by rw [hgs]; exact hx, h⟩

theorem setStatus_ne_absent {f : V → Status} {v u : V} {st : Status} (hst : st ≠ .absent)
    (h : f u ≠ .absent) : setStatus f v st u ≠ .absent := by
  unfold setStatus; split <;> assumption

theorem subVerts_of {g : Graph} {todo : List V} {sub : SubPc} (h1 : ∀ v ∈ todo, v ∈ g.verts)
    (h2 : ∀ v, (sub = .ready v ∨ sub = .enter v ∨ sub = .spawn v) → v ∈ g.verts) : subVerts g ⟨todo, sub⟩ := ⟨h1, h2⟩

namespace Visit
variable {g : Graph} {lim : Option Nat} {s : St} {w : Who} {l : Label} {y : Sched} {x : Option Sched}
  {st : V → Status} {ws : List (V × WPc)}

theorem status_mono (h : Visit g lim s w l y x st ws) {u : V} (hu : s.status u ≠ .absent) : st u ≠ .absent := by
  rcases h.status with e | ⟨_, _, _, _, e⟩ <;> rw [e]
  · exact hu
  · exact setStatus_ne_absent (by decide) hu

theorem subVerts (h : Visit g lim s w l y x st ws) (hy : subVerts g y) {z : Sched} (hz : x = some z) : subVerts g z := by
  cases h <;> cases hz
  case next hv => exact ⟨fun u hu => hy.1 u (List.mem_of_mem_erase hu), fun u hu => by simp at hu; exact hu ▸ hy.1 _ hv⟩
  case readyT => exact ⟨hy.1, fun u hu => hy.2 u (by simp at hu; exact .inl (hu ▸ rfl))⟩
  case enterT => exact ⟨hy.1, fun u hu => hy.2 u (by simp at hu; exact .inr (.inl (hu ▸ rfl)))⟩
  all_goals exact ⟨hy.1, fun u hu => by simp at hu⟩

/-- what a step of scheduler `w` does to the vertices pending in its own loop: nothing is forgotten except a vertex
whose readiness test just failed -/
theorem pendIn (h : Visit g lim s w l y x st ws) {u : V} (hp : u ∈ y.todo ∨ y.sub = .ready u ∨ y.sub = .enter u)
    (hfail : ∀ todo, y = ⟨todo, .ready u⟩ → ∀ d ∈ g.pre u, s.status d = .visited) :
    st u ≠ .absent ∨ ∃ z, x = some z ∧ (u ∈ z.todo ∨ z.sub = .ready u ∨ z.sub = .enter u) := by
  cases h with
  | @next todo v hv =>
    rcases hp with hp | hp | hp
    · by_cases e : u = v
      · exact .inr ⟨_, rfl, .inr (.inl (e ▸ rfl))⟩
      · exact .inr ⟨_, rfl, .inl ((List.mem_erase_of_ne e).mpr hp)⟩
    · cases hp
    · cases hp
  | last => rcases hp with hp | hp | hp <;> cases hp
  | readyT _ =>
    rcases hp with hp | hp | hp
    · exact .inr ⟨_, rfl, .inl hp⟩
    · cases hp; exact .inr ⟨_, rfl, .inr (.inr rfl)⟩
    · cases hp
  | readyF hn =>
    rcases hp with hp | hp | hp
    · exact .inr ⟨_, rfl, .inl hp⟩
    · cases hp; exact absurd (hfail _ rfl) hn
    · cases hp
  | enterT _ =>
    rcases hp with hp | hp | hp
    · exact .inr ⟨_, rfl, .inl hp⟩
    · cases hp
    · cases hp; exact .inl (by rw [setStatus_self]; decide)
  | enterF hna =>
    rcases hp with hp | hp | hp
    · exact .inr ⟨_, rfl, .inl hp⟩
    · cases hp
    · cases hp; exact .inl hna
  | spawn _ =>
    rcases hp with hp | hp | hp
    · exact .inr ⟨_, rfl, .inl hp⟩
    · cases hp
    · cases hp

end Visit

theorem Work.status_mono {g : Graph} {s s1 : St} {v : V} {l : Label} {pc : WPc} {pc' : Option WPc}
    (h : Work g s v l pc pc' s1) {u : V} (hu : s.status u ≠ .absent) : s1.status u ≠ .absent := by
  rcases h.status with e | ⟨_, _, e⟩ <;> rw [e]
  · exact hu
  · exact setStatus_ne_absent (by decide) hu

theorem invB_visit {g : Graph} {lim : Option Nat} {s : St} {w0 : Who} {l : Label} {y : Sched} {x : Option Sched}
    {st : V → Status} {ws : List (V × WPc)} (hs : getSched s w0 = some y) (hv : Visit g lim s w0 l y x st ws)
    (hA : InvA s) (hB : InvB g s) : InvB g (putSched { s with status := st, workers := ws } w0 x) := by
  have hs1 : getSched { s with status := st, workers := ws } w0 = some y := hs
  -- a vertex that `w` still has to wake stays so: by `Visit.pendIn` under `w`'s own step; the other scheduler's step does not touch it
  have wake : ∀ w u, (∀ todo, getSched s w = some ⟨todo, .ready u⟩ → ∀ d ∈ g.pre u, s.status d = .visited) →
      Wake s w u → Wake (putSched { s with status := st, workers := ws } w0 x) w u := by
    intro w u hfail hW
    by_cases e : w = w0
    · subst e
      rcases hW with h | ⟨y', hy', hp⟩
      · exact .inl (by rw [putSched_status]; exact hv.status_mono h)
      · cases hs.symm.trans hy'
        rcases hv.pendIn hp (fun todo e => hfail todo (hs.trans (congrArg some e))) with h | ⟨z, rfl, hz⟩
        · exact .inl (by rw [putSched_status]; exact h)
        · exact .inr ⟨z, getSched_put_same _ hs1, hz⟩
    · exact wake_mono (s := s) (by rw [putSched_status]; exact hv.status_mono) (getSched_put_ne x e) hW
  refine ⟨?_, ?_, ?_, ?_, ?_, ?_⟩
  · rw [putSched_ch, putSched_received]; exact hB.recvSub
  · rw [putSched_cAlive, putSched_expect, putSched_received]; exact hB.expectEq
  · rw [putSched_cancelled, putSched_cAlive, putSched_received]
    intro hcan ha u hu hpre hall
    exact wake .C u (fun _ _ d hd => hA.handed d (.inr (hall d hd))) (hB.wakeC hcan ha u hu hpre hall)
  · intro u hu hpre
    exact wake .M u (fun _ _ d hd => by rw [hpre] at hd; cases hd) (hB.wakeM u hu hpre)
  · intro w' z hz
    by_cases e : w' = w0
    · subst e; rw [getSched_put_same x hs1] at hz
      exact hv.subVerts (hB.schedVerts _ _ hs) hz
    · rw [getSched_put_ne x e] at hz; exact hB.schedVerts w' z hz
  · intro u pc hu
    rw [putSched_workers] at hu
    rcases hv.workers with e | ⟨t, v, rfl, _, e⟩ <;> rw [e] at hu
    · exact hB.wkVerts u pc hu
    · rcases List.mem_cons.mp hu with e | hu
      · cases e; exact (hB.schedVerts w0 _ hs).2 u (.inr (.inr rfl))
      · exact hB.wkVerts u pc hu

theorem invB_work {g : Graph} {s s1 : St} {v : V} {l : Label} {pc : WPc} {pc' : Option WPc}
    (hw : wpc s.workers v = some pc) (hk : Work g s v l pc pc' s1) (hB : InvB g s) :
    InvB g { s1 with workers := moveW s.workers v pc' } := by
  have hv : v ∈ g.verts := hB.wkVerts v pc (mem_of_wpc hw)
  obtain ⟨hrc, hex, hch⟩ := hk.handoff
  have ha := hk.sched.2.2
  have wake : ∀ w u, Wake s w u → Wake { s1 with workers := moveW s.workers v pc' } w u := fun w u =>
    wake_mono hk.status_mono (hk.getSched w)
  refine ⟨?_, ?_, ?_, ?_, ?_, ?_⟩
  · intro u hu
    have hu : u ∈ s1.ch ∨ u ∈ s.received := hrc ▸ hu
    rcases hch with e | e <;> rw [e] at hu
    · exact hB.recvSub u hu
    · rcases hu with hu | hu
      · rcases List.mem_append.mp hu with hu | hu
        · exact hB.recvSub u (.inl hu)
        · exact List.mem_singleton.mp hu ▸ hv
      · exact hB.recvSub u (.inr hu)
  · show s1.cAlive = true → s1.expect + s1.received.length = _ ∧ _
    rw [ha, hex, hrc]; exact hB.expectEq
  · intro hcan ha' u hu hpre hall
    refine wake .C u (hB.wakeC ?_ (ha ▸ ha') u hu hpre (hrc ▸ hall))
    rcases hk.errs.2 with e | e
    · exact e.2.2 ▸ hcan
    · exact absurd (e.2.2.2.2.symm.trans hcan) nofun
  · exact fun u hu hpre => wake .M u (hB.wakeM u hu hpre)
  · intro w z hz
    exact hB.schedVerts w z ((hk.getSched w).symm.trans hz)
  · intro u q hu
    by_cases e : u = v
    · exact e ▸ hv
    · exact hB.wkVerts u q ((mem_moveW_ne pc' e).mp hu)

theorem invB_step {g : Graph} {lim : Option Nat} {s s' : St} {l : Label} (hg : GraphOK g)
    (h : Step g lim s l s') (hA : InvA s) (hB : InvB g s) : InvB g s' := by
  cases h with
  | visit hs hv => exact invB_visit hs hv hA hB
  | work hw hk => exact invB_work hw hk hB
  | coord ha hc hk =>
    have hnoC : getSched s .C = none := (getSched_C_alive ha).trans hc
    -- the caller is untouched; the coordinator holds nothing or the successors of the vertex it has just received
    have hsv : ∀ w z, getSched s' w = some z → subVerts g z := by
      intro w z hz
      cases w
      · exact hB.schedVerts .M z (hk.getSched_M ▸ hz)
      · rcases hk.getSched_C ha with e | ⟨v, _, hch, e⟩ <;> rw [e] at hz <;> cases hz
        exact ⟨hg.post_mem v (hB.recvSub v (.inl (hch ▸ List.mem_cons_self ..))), nofun⟩
    cases hk with
    | @recvLast v rest hch _ =>
      exact ⟨fun u hu => hB.recvSub u ((recv_mem hch u).mp hu), nofun, fun _ => nofun, hB.wakeM, hsv, hB.wkVerts⟩
    | @recvMore v rest hch hne =>
      refine ⟨fun u hu => hB.recvSub u ((recv_mem hch u).mp hu), fun _ => ?_, ?_, hB.wakeM, hsv, hB.wkVerts⟩
      · have := hB.expectEq ha
        show s.expect - 1 + (s.received.length + 1) = _ ∧ 1 ≤ s.expect - 1
        omega
      · -- a vertex whose last dependency is `v` is on the list the coordinator starts now
        intro hcan _ u hu hpre hall
        by_cases hvu : v ∈ g.pre u
        · exact .inr ⟨⟨g.post v, .next⟩, if_pos ha, .inl (hg.pre_post u hu v hvu)⟩
        · rcases hB.wakeC hcan ha u hu hpre (fun d hd => (List.mem_cons.mp (hall d hd)).resolve_left
            (fun e => hvu (e ▸ hd))) with h | ⟨z, hz, _⟩
          · exact .inl h
          · rw [hnoC] at hz; cases hz
    | ctxDone _ _ => exact ⟨hB.recvSub, nofun, fun _ => nofun, hB.wakeM, hsv, hB.wkVerts⟩
  | cancel _ => exact ⟨hB.recvSub, hB.expectEq, nofun, hB.wakeM, hB.schedVerts, hB.wkVerts⟩

end CV.Trav
