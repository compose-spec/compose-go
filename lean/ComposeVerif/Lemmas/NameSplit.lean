import ComposeVerif.Lemmas.NameSpec
import ComposeVerif.Lemmas.Scan
/-! `strings.Split` (`splitOn`) over `strings.Index` (`Lemmas/Scan.lean`); the property-level statements are in `Props/C17.lean`. -/
namespace CV.Name.SplitLemmas
open CV CV.Name

theorem joinWith_eq_joinSep (c : Char) : ∀ ps : List Str, joinWith c ps = joinSep [c] ps
  | [] => rfl
  | [_] => rfl
  | p :: q :: ps => by
    show p ++ c :: joinWith c (q :: ps) = p ++ [c] ++ joinSep [c] (q :: ps)
    rw [joinWith_eq_joinSep c (q :: ps), List.append_assoc, List.singleton_append]

theorem splitOnFuel_ne_nil (sep : Str) (n : Nat) (s : Str) : splitOnFuel sep n s ≠ [] := by
  cases n with
  | zero => simp [splitOnFuel]
  | succ n => unfold splitOnFuel; split <;> simp

theorem joinSep_cons (sep p : Str) (ps : List Str) (h : ps ≠ []) : joinSep sep (p :: ps) = p ++ sep ++ joinSep sep ps := by
  cases ps with
  | nil => exact absurd rfl h
  | cons q qs => rfl

theorem splitOnFuel_join_inv (sep : Str) (n : Nat) (s : Str) : joinSep sep (splitOnFuel sep n s) = s := by
  induction n generalizing s with
  | zero => rfl
  | succ n ih =>
    unfold splitOnFuel
    cases hi : indexOf sep s with
    | none => rfl
    | some i =>
      simp only
      rw [joinSep_cons _ _ _ (splitOnFuel_ne_nil _ _ _), ih]
      exact (Scan.indexOf_some_spec sep s i hi).2.symm

/-- separator non-empty: every cut shortens the rest -/
theorem splitOnFuel_enough (sep : Str) (hsep : sep ≠ []) (n m : Nat) (s : Str) (hn : s.length ≤ n) (hm : s.length ≤ m) :
    splitOnFuel sep n s = splitOnFuel sep m s := by
  have hnil : ∀ k, splitOnFuel sep k [] = [[]] := by
    intro k
    cases k with
    | zero => rfl
    | succ k => cases sep with
      | nil => exact absurd rfl hsep
      | cons c cs => simp [splitOnFuel, indexOf, indexOfGo]
  induction n generalizing m s with
  | zero => rw [List.eq_nil_of_length_eq_zero (Nat.le_zero.mp hn), hnil, hnil]
  | succ n ih =>
    cases m with
    | zero => rw [List.eq_nil_of_length_eq_zero (Nat.le_zero.mp hm), hnil, hnil]
    | succ m =>
      simp only [splitOnFuel]
      cases hi : indexOf sep s with
      | none => rfl
      | some i =>
        have hl := (Scan.indexOf_some_spec sep s i hi).1
        have hpos : 0 < sep.length := List.length_pos_iff.mpr hsep
        simp only [List.cons.injEq, true_and]
        apply ih <;> (simp only [List.length_drop]; omega)

theorem asEqualsMap_snoc (l : List Str) (s : Str) :
    asEqualsMap (l ++ [s]) = match splitEq s with | some kv => kv :: asEqualsMap l | none => asEqualsMap l := by
  simp only [asEqualsMap, List.foldl_append, List.foldl_cons, List.foldl_nil]
  cases splitEq s <;> rfl

end CV.Name.SplitLemmas
