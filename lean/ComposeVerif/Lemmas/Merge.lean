import ComposeVerif.Model.Merge
import ComposeVerif.Lemmas.KVs
import ComposeVerif.Lemmas.ValDecEq
/-!
# Lemmas about the pieces of `override/merge.go` below `mergeYaml`

The outcome type (`bind` inversion, associativity, where a panic of a `bind` comes from); the pointwise law of
`mergeMappings` for an arbitrary recursive merger `f` (`PointwiseAt`, `mergeKVsWith_pointwise`); what the conversions and
the loops of the special mergers compute (`listIntoMap_names`, `keepNew_eq_filter`, `listSet_eq_set`, `ipamIndex_spec`).
-/
namespace CV.Merge
open CV CV.Val

-- a closed run of `mergeYaml`, `enforce`, `loadDocs` … is compared with its expected result by `decide +kernel`
deriving instance DecidableEq for Out

theorem bind_eq_ok {α β : Type} {x : Out α} {f : α → Out β} {b : β} (h : x.bind f = .ok b) :
    ∃ a, x = .ok a ∧ f a = .ok b := by
  cases x with
  | ok a => exact ⟨a, rfl, h⟩
  | err e => cases h
  | panic s => cases h

theorem bind_assoc {α β γ : Type} (x : Out α) (f : α → Out β) (g : β → Out γ) :
    (x.bind f).bind g = x.bind fun a => (f a).bind g := by
  cases x <;> rfl

theorem ok_ne_panic {α : Type} {a : α} {s : String} : Out.ok a ≠ .panic s := nofun

theorem bind_ne_panic {α β : Type} {x : Out α} {f : α → Out β} (hx : ∀ s, x ≠ .panic s)
    (hf : ∀ a, x = .ok a → ∀ s, f a ≠ .panic s) : ∀ s, x.bind f ≠ .panic s := by
  intro s
  cases x with
  | ok a => exact hf a rfl s
  | err e => exact nofun
  | panic s' => exact absurd rfl (hx s')

theorem Out.bind_congr {α β : Type} {x : Out α} {f g : α → Out β} (h : ∀ a, x = .ok a → f a = g a) : x.bind f = x.bind g := by
  cases x with
  | ok a => exact h a rfl
  | _ => rfl

theorem bind_ok_right {α : Type} (x : Out α) : x.bind .ok = x := by cases x <;> rfl

theorem lookup_insert_self (k : String) (v : Val) (m : KVs) : lookup k (insert k v m) = some v :=
  Val.lookup_insert_self k v m

theorem lookup_insert_ne {k k' : String} (h : k ≠ k') (v : Val) (m : KVs) :
    lookup k (insert k' v m) = lookup k m :=
  Val.lookup_insert_ne h v m

/-! ## the pointwise law of `mergeMappings` -/

/-- what `mergeMappings` leaves at key `k`, given what the two sides held there (`f` = the recursive merge) -/
def PointwiseAt (f : Val → Val → TPath → Out Val) (p : TPath) (k : String) (la lb lm : Option Val) : Prop :=
  match la, lb with
  | some x, some y => if hasXPrefix k then lm = some y else ∃ z, f x y (next p k) = .ok z ∧ lm = some z
  | some x, none => lm = some x
  | none, some y => lm = some y
  | none, none => lm = none

theorem pointwiseAt_none_right {f : Val → Val → TPath → Out Val} {p : TPath} {k : String} {la lm : Option Val} :
    PointwiseAt f p k la none lm ↔ lm = la := by
  cases la <;> simp [PointwiseAt]

theorem lookup_none_of_nodup_cons {k : String} {v : Val} {r : KVs} (h : (keys ((k, v) :: r)).Nodup) :
    lookup k r = none := by
  simp only [keys, List.map_cons, List.nodup_cons] at h
  exact lookup_eq_none.mpr h.1

theorem mergeKVsWith_cons_ok {f : Val → Val → TPath → Out Val} {p : TPath} {a tl m : KVs} {k : String} {v : Val}
    (h : mergeKVsWith f a ((k, v) :: tl) p = .ok m) :
    ∃ w, mergeKVsWith f (insert k w a) tl p = .ok m ∧ PointwiseAt f p k (lookup k a) (some v) (some w) := by
  simp only [mergeKVsWith] at h
  cases ha : lookup k a with
  | none => exact ⟨v, by simpa only [ha] using h, rfl⟩
  | some e =>
    simp only [ha] at h
    by_cases hx : hasXPrefix k = true
    · exact ⟨v, by simpa only [hx, if_true] using h, by simp [PointwiseAt, hx]⟩
    · simp only [hx, Bool.false_eq_true, if_false] at h
      obtain ⟨z, hz, h⟩ := bind_eq_ok h
      exact ⟨z, h, by simp only [PointwiseAt, hx, Bool.false_eq_true, if_false]; exact ⟨z, hz, rfl⟩⟩

/-- **pointwise law of `mergeMappings`**: for an override with distinct keys, the merged mapping holds at every key
exactly the combination of what the two sides held there — whatever order the override is ranged over -/
theorem mergeKVsWith_pointwise (f : Val → Val → TPath → Out Val) (p : TPath) :
    ∀ (b a m : KVs), (keys b).Nodup → mergeKVsWith f a b p = .ok m →
      ∀ k, PointwiseAt f p k (lookup k a) (lookup k b) (lookup k m) := by
  intro b
  induction b with
  | nil =>
    intro a m _ h k
    cases h
    exact pointwiseAt_none_right.mpr rfl
  | cons hd tl ih =>
    obtain ⟨k', v⟩ := hd
    intro a m hb h k
    obtain ⟨w, h, hw⟩ := mergeKVsWith_cons_ok h
    have := ih _ _ (List.nodup_cons.mp hb).2 h k
    by_cases hk : k = k'
    · -- the later entries do not mention `k'`, so what this iteration stored is still there
      subst hk
      rw [lookup_insert_self, lookup_none_of_nodup_cons hb, pointwiseAt_none_right] at this
      simpa only [lookup, if_true, this] using hw
    · rw [lookup_insert_ne hk] at this
      simpa only [lookup, hk, if_false] using this

theorem mergeKVsWith_fresh (f : Val → Val → TPath → Out Val) (p : TPath) : ∀ (cfg acc : KVs),
    ((acc ++ cfg).map Prod.fst).Nodup → mergeKVsWith f acc cfg p = .ok (acc ++ cfg)
  | [], acc, _ => by simp [mergeKVsWith]
  | (k, v) :: r, acc, h => by
    have hk : k ∉ acc.map Prod.fst := by
      simp only [List.map_append, List.map_cons, List.nodup_append, List.nodup_cons] at h
      intro hm
      exact h.2.2 k hm k (by simp) rfl
    have hl : lookup k acc = none := Val.lookup_eq_none.2 hk
    have := mergeKVsWith_fresh f p r (acc ++ [(k, v)]) (by simpa using h)
    simp only [mergeKVsWith, hl, Val.insert_of_not_mem hk, this, List.append_assoc, List.singleton_append]

theorem lookup_perm {b b' : KVs} (hb : (keys b).Nodup) (hp : b'.Perm b) (k : String) :
    lookup k b' = lookup k b :=
  (Val.lookup_perm hp.symm hb).symm

theorem pointwiseAt_unique {f : Val → Val → TPath → Out Val} {p : TPath} {k : String} {la lb lm lm' : Option Val}
    (h : PointwiseAt f p k la lb lm) (h' : PointwiseAt f p k la lb lm') : lm = lm' := by
  cases la <;> cases lb <;> simp only [PointwiseAt] at h h'
  · rw [h, h']
  · rw [h, h']
  · rw [h, h']
  · by_cases hx : hasXPrefix k = true
    · simp only [hx, if_true] at h h'
      rw [h, h']
    · simp only [hx, Bool.false_eq_true, if_false] at h h'
      obtain ⟨z, hz, hm⟩ := h
      obtain ⟨z', hz', hm'⟩ := h'
      rw [hz] at hz'
      cases hz'; rw [hm, hm']

theorem mergeYaml_succ_special {p : TPath} {r : Rule} (hp : ruleAt p = some r) (n : Nat) (e o : Val) :
    mergeYaml (n + 1) e o p = specialStep (mergeKVs n) r e o p := by
  rw [mergeYaml, mergeStep, hp]; rfl

theorem mergeYaml_succ_default {p : TPath} (hp : ruleAt p = none) (n : Nat) (e o : Val) :
    mergeYaml (n + 1) e o p = defaultStep (mergeKVs n) e o p := by
  rw [mergeYaml, mergeStep, hp]; rfl

theorem mergeYaml_maps (n : Nat) (a b : KVs) (p : TPath) (hp : ruleAt p = none) :
    mergeYaml (n + 1) (.map a) (.map b) p = (mergeKVs n a b p).bind fun m => .ok (.map m) :=
  mergeYaml_succ_default hp n _ _

/-! ## conversions and loops of the special mergers -/

theorem listIntoMap_names (dflt : Val) : ∀ (names : List String) (acc : KVs),
    listIntoMap dflt (names.map Val.str) acc = .ok (names.foldl (fun m s => Val.insert s dflt m) acc) := by
  intro names
  induction names with
  | nil => intro acc; rfl
  | cons s r ih => intro acc; simp only [List.map_cons, listIntoMap, List.foldl_cons, ih]

theorem lookup_foldl_insert (dflt : Val) (k : String) : ∀ (names : List String) (acc : KVs),
    lookup k (names.foldl (fun m s => Val.insert s dflt m) acc) = if k ∈ names then some dflt else lookup k acc := by
  intro names
  induction names with
  | nil => intro acc; simp
  | cons s r ih =>
    intro acc
    simp only [List.foldl_cons, ih, List.mem_cons]
    by_cases hr : k ∈ r
    · simp [hr]
    · by_cases hs : k = s
      · subst hs; simp [hr, Val.lookup_insert_self]
      · simp [hr, hs, Val.lookup_insert_ne hs]

theorem keepNew_eq_filter (right : List Val) : ∀ l : List Val,
    keepNew right l = l.filter fun v => !right.any fun x => sameScalar x v
  | [] => rfl
  | v :: r => by
    simp only [keepNew, List.filter_cons, keepNew_eq_filter right r]
    cases right.any fun x => sameScalar x v <;> rfl

/-- Go's `s[i] = x` on a slice, as the model spells it, is `List.set` -/
theorem listSet_eq_set {α : Type} : ∀ (l : List α) (i : Nat) (x : α), listSet l i x = l.set i x
  | [], _, _ => rfl
  | _ :: _, 0, _ => rfl
  | _ :: r, i + 1, x => by simp only [listSet, List.set_cons_succ, listSet_eq_set r i x]

theorem ipamIndex_spec (s : Val) : ∀ (l : List KVs) (k i : Nat), ipamIndex s l k = some i →
    ∃ m, l[i - k]? = some m ∧ k ≤ i ∧ sameScalar (subnetOf m) s = true := by
  intro l
  induction l with
  | nil => intro k i h; simp [ipamIndex] at h
  | cons m r ih =>
    intro k i h
    simp only [ipamIndex] at h
    by_cases hs : sameScalar (subnetOf m) s = true
    · simp only [hs, if_true, Option.some.injEq] at h
      subst h; exact ⟨m, by simp, Nat.le_refl _, hs⟩
    · simp only [hs, Bool.false_eq_true, if_false] at h
      obtain ⟨m', h1, h2, h3⟩ := ih (k + 1) i h
      refine ⟨m', ?_, by omega, h3⟩
      have : i - k = (i - (k + 1)) + 1 := by omega
      rw [this, List.getElem?_cons_succ]; exact h1

end CV.Merge
