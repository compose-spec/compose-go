import ComposeVerif.Model.SecretsOpts
import ComposeVerif.Lemmas.Secrets
/-! C20: the loops over the entries of a section are one traversal; what `setNameFromKey` and `processExtensions` do to
one look-up; the link between a config's content and its source variable. -/
namespace CV.Secrets
open CV
open CV.Val hiding lookup_insert_self lookup_insert_ne

@[simp] theorem Out.bind_ok {α β : Type} (a : α) (f : α → Out β) : (Out.ok a).bind f = f a := rfl
@[simp] theorem Out.bind_err {α β : Type} (e : String) (f : α → Out β) : (Out.err e : Out α).bind f = .err e := rfl
@[simp] theorem Out.bind_panic {α β : Type} (e : String) (f : α → Out β) : (Out.panic e : Out α).bind f = .panic e := rfl

theorem Out.bind_eq_ok {α β : Type} {x : Out α} {f : α → Out β} {b : β} :
    x.bind f = .ok b ↔ ∃ a, x = .ok a ∧ f a = .ok b := by
  cases x <;> simp

/-- the loop of `setNameFromKey` over a section, of the decode of a section and of its variant under options: `f` on
every entry; the first panic, else the first error, else all results -/
def travKV {β : Type} (f : String → Val → Out β) : KVs → Out (List (String × β))
  | [] => .ok []
  | (k, v) :: r =>
    match f k v, travKV f r with
    | .ok b, .ok r' => .ok ((k, b) :: r')
    | .panic s, _ => .panic s
    | _, .panic s => .panic s
    | .err e, _ => .err e
    | _, .err e => .err e

theorem setNameObjs_eq (pname : String) : ∀ objs : KVs, setNameObjs pname objs = travKV (setNameObj pname) objs
  | [] => rfl
  | (k, v) :: r => by
    simp only [setNameObjs, travKV, setNameObjs_eq pname r]
    cases setNameObj pname k v <;> cases travKV (setNameObj pname) r <;> rfl

theorem decodeObjs_eq (f : Val → Out FileObj) : ∀ objs : KVs, decodeObjs f objs = travKV (fun _ v => f v) objs
  | [] => rfl
  | (k, v) :: r => by
    simp only [decodeObjs, travKV, decodeObjs_eq f r]
    cases f v <;> cases travKV (fun _ v => f v) r <;> rfl

theorem decodeObjsK_eq (g : Bool) (k : KnownExt) (f : Val → Out FileObj) (p : TPath) : ∀ objs : KVs,
    decodeObjsK g k f p objs = travKV (fun n v => (pxEntryK g k p n v).bind f) objs
  | [] => rfl
  | (n, v) :: r => by
    simp only [decodeObjsK, travKV, decodeObjsK_eq g k f p r]
    cases (pxEntryK g k p n v).bind f <;> cases travKV (fun n v => (pxEntryK g k p n v).bind f) r <;> rfl

theorem travKV_cons_ok {β : Type} {f : String → Val → Out β} {k : String} {v : Val} {r : KVs} {l : List (String × β)} :
    travKV f ((k, v) :: r) = .ok l ↔ ∃ b r', f k v = .ok b ∧ travKV f r = .ok r' ∧ l = (k, b) :: r' := by
  simp only [travKV]
  cases f k v <;> cases travKV f r <;> simp [eq_comm]

theorem travKV_map {β : Type} (f : String → Val → Out β) (g : String → Val → Val) : ∀ objs : KVs,
    travKV f (objs.map fun kv => (kv.1, g kv.1 kv.2)) = travKV (fun n v => f n (g n v)) objs
  | [] => rfl
  | (k, v) :: r => by simp only [List.map_cons, travKV, travKV_map f g r]

theorem mem_travKV {β : Type} {f : String → Val → Out β} : ∀ {objs : KVs} {l : List (String × β)}, travKV f objs = .ok l →
    ∀ {n : String} {v : Val}, (n, v) ∈ objs → ∃ b, f n v = .ok b ∧ (n, b) ∈ l
  | [], _, _, _, _, h => by cases h
  | (k, w) :: r, l, hs, n, v, h => by
    obtain ⟨b, r', h1, h2, rfl⟩ := travKV_cons_ok.1 hs
    rcases List.mem_cons.1 h with h | h
    · cases h; exact ⟨b, h1, List.mem_cons_self⟩
    · obtain ⟨b', hb, hm⟩ := mem_travKV h2 h
      exact ⟨b', hb, List.mem_cons_of_mem _ hm⟩

theorem travKV_mem {β : Type} {f : String → Val → Out β} : ∀ {objs : KVs} {l : List (String × β)}, travKV f objs = .ok l →
    ∀ {n : String} {b : β}, (n, b) ∈ l → ∃ v, (n, v) ∈ objs ∧ f n v = .ok b
  | [], l, hs, _, _, h => by simp only [travKV, Out.ok.injEq] at hs; subst hs; cases h
  | (k, w) :: r, l, hs, n, b, h => by
    obtain ⟨b0, r', h1, h2, rfl⟩ := travKV_cons_ok.1 hs
    rcases List.mem_cons.1 h with h | h
    · cases h; exact ⟨w, List.mem_cons_self, h1⟩
    · obtain ⟨v, hv, hb⟩ := travKV_mem h2 h
      exact ⟨v, List.mem_cons_of_mem _ hv, hb⟩

theorem travKV_perm {β : Type} {f : String → Val → Out β} {objs objs' : KVs} (h : objs.Perm objs') :
    ∀ {l : List (String × β)}, travKV f objs = .ok l → ∃ l', travKV f objs' = .ok l' ∧ l.Perm l' := by
  induction h with
  | nil => exact fun hl => ⟨_, hl, .refl _⟩
  | cons x _ ih =>
    intro l hl
    obtain ⟨b, r', h1, h2, rfl⟩ := travKV_cons_ok.1 hl
    obtain ⟨l', hl', hp⟩ := ih h2
    exact ⟨_, travKV_cons_ok.2 ⟨b, l', h1, hl', rfl⟩, hp.cons _⟩
  | swap x y r =>
    intro l hl
    obtain ⟨by', _, h1, h2, rfl⟩ := travKV_cons_ok.1 hl
    obtain ⟨bx, r', h3, h4, rfl⟩ := travKV_cons_ok.1 h2
    exact ⟨_, travKV_cons_ok.2 ⟨bx, _, h3, travKV_cons_ok.2 ⟨by', r', h1, h4, rfl⟩, rfl⟩, .swap _ _ _⟩
  | trans _ _ ih1 ih2 =>
    intro l hl
    obtain ⟨l1, h1, p1⟩ := ih1 hl
    obtain ⟨l2, h2, p2⟩ := ih2 h1
    exact ⟨l2, h2, p1.trans p2⟩

theorem resolveObjs_eq_map (c : String) (env : Env) : ∀ objs : KVs,
    resolveObjs c env objs = objs.map (fun kv => (kv.1, resolveObj c env kv.2))
  | [] => rfl
  | (k, v) :: r => by simp [resolveObjs, resolveObjs_eq_map c env r]

theorem pxKVs_true_eq_map (p : TPath) : ∀ objs : KVs,
    pxKVs p true objs = objs.map (fun kv => (kv.1, pxVal (childPath p kv.1 kv.2) kv.2))
  | [] => rfl
  | (k, v) :: r => by simp [pxKVs, pxKVs_true_eq_map p r]

theorem lookup_setNameKVs_ne {k pname n : String} (hk : k ≠ "name") (kvs : KVs) :
    Val.lookup k (setNameKVs pname n kvs) = Val.lookup k kvs := by
  unfold setNameKVs
  split
  · exact lookup_insert_ne hk _ _
  · rfl

theorem setNameObj_ok {pname n : String} {v v' : Val} (h : setNameObj pname n v = .ok v') :
    ∃ kvs, v' = .map (setNameKVs pname n kvs) ∧ (v = .map kvs ∨ (v = .null ∧ kvs = [])) := by
  cases v with
  | null => simp only [setNameObj] at h; cases h; exact ⟨[], rfl, .inr ⟨rfl, rfl⟩⟩
  | map kvs => simp only [setNameObj] at h; cases h; exact ⟨kvs, rfl, .inl rfl⟩
  | _ => simp [setNameObj] at h

theorem ValOkF_setNameObj {P : String → Prop} {c : String} (hcn : c ≠ "name") (hn : P "name") {pname key : String}
    (hkey : P key) (hgen : P (pname ++ "_" ++ key)) {v v' : Val} (h : ValOkF P c v)
    (hs : setNameObj pname key v = .ok v') : ValOkF P c v' := by
  obtain ⟨kvs, rfl, hk⟩ := setNameObj_ok hs
  rcases hk with rfl | ⟨rfl, rfl⟩
  · exact ObjOkF_setNameKVs hcn hn hkey hgen h
  · exact ObjOkF_setNameKVs hcn hn hkey hgen (by simp [ObjOkF])

theorem lookup_pxKVs (p : TPath) (skip : Bool) {k : String} (hk : isExtKey k = false) :
    ∀ kvs : KVs, Val.lookup k (pxKVs p skip kvs) = (Val.lookup k kvs).map (fun v => pxVal (childPath p k v) v)
  | [] => by simp [pxKVs, Val.lookup]
  | (k', v) :: r => by
    simp only [pxKVs]
    split
    · rename_i hdrop
      have hne : k ≠ k' := by
        intro h; subst h
        simp [hk] at hdrop
      simp only [Val.lookup, if_neg hne]
      exact lookup_pxKVs p skip hk r
    · by_cases hkk : k = k'
      · subst hkk; simp [Val.lookup]
      · simp only [Val.lookup, if_neg hkk]
        exact lookup_pxKVs p skip hk r

theorem lookup_withExtras_pxKVs {k : String} (h1 : k ≠ extKey) (h2 : isExtKey k = false) (ex : KVs) (p : TPath) (skip : Bool)
    (kvs : KVs) : Val.lookup k (withExtras ex (pxKVs p skip kvs)) = (Val.lookup k kvs).map fun v => pxVal (childPath p k v) v := by
  rw [lookup_withExtras_ne h1, lookup_pxKVs p skip h2]

theorem isExtKey_content : isExtKey "content" = false := by decide +kernel
theorem isExtKey_environment : isExtKey "environment" = false := by decide +kernel
theorem isExtKey_Content : isExtKey "Content" = false := by decide +kernel

/-- the content of a config is clean, or its source variable has a name -/
def CfgLink (P : String → Prop) : Val → Prop
  | .map kvs => (∀ v, Val.lookup "content" kvs = some v → AllStr P v) ∨
      (∃ e, Val.lookup "environment" kvs = some (.str e) ∧ e ≠ "")
  | _ => True

theorem CfgLink_resolveObj {P : String → Prop} (env : Env) {v : Val} (h : AllStr P v) :
    CfgLink P (resolveObj "content" env v) := by
  cases v with
  | map kvs =>
    rcases resolveObj_map_cases "content" env kvs with ⟨h', _⟩ | ⟨e, _, he, hne, _, h'⟩ <;> rw [h']
    · exact .inl fun _ hl => AllStrKV_lookup h hl
    · exact .inr ⟨e, by rw [lookup_insert_ne (by simp)]; exact he, hne⟩
  | _ => trivial

theorem CfgLink_setNameObj {P : String → Prop} {pname n : String} {v v' : Val} (h : CfgLink P v)
    (hs : setNameObj pname n v = .ok v') : CfgLink P v' := by
  obtain ⟨kvs, rfl, hk⟩ := setNameObj_ok hs
  have h' : CfgLink P (.map kvs) := by
    rcases hk with rfl | ⟨-, rfl⟩
    · exact h
    · exact .inl (by simp [Val.lookup])
  simp only [CfgLink, lookup_setNameKVs_ne (k := "content") (by simp), lookup_setNameKVs_ne (k := "environment") (by simp)]
  exact h'

end CV.Secrets
