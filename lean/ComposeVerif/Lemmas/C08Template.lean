import ComposeVerif.Lemmas.Interp
import ComposeVerif.Lemmas.TemplateRefine
/-! The string arm `leaf` on the three kinds of text the property speaks of — the escaped text, a text without `$`, a
well-formed template: with interpolation on each denotes what `castOnly` makes of the original, of itself, of the text the
template evaluates to.  Each through C07's lemma about the scanner on such a text (`run_escapeDollars`, `run_lit_ok`, the
refinement `run_render` of `Lemmas/TemplateRefine.lean`; `subst_eq_run`). -/
namespace CV.Interp
open CV CV.TPath

theorem leaf_escape (c : Cfg) (p : TPath) (s : String) : leaf c p (escapeStr s) = castOnly c p s := by
  rw [leaf_of_subst (s' := s.toList), String.ofList_toList]
  rw [escapeStr, String.toList_ofList]
  rw [CV.Template.subst_eq_run]; exact CV.Template.run_escapeDollars c.env s.toList

theorem leaf_dollar_free (c : Cfg) (p : TPath) (s : String) (h : '$' ∉ s.toList) : leaf c p s = castOnly c p s := by
  rw [leaf_of_subst ((CV.Template.subst_eq_run c.env _).trans (CV.Template.run_lit_ok c.env _ fun ch hc he => h (he ▸ hc))),
    String.ofList_toList]

theorem leaf_isTemplateOf (c : Cfg) (p : TPath) (s t : String) (h : IsTemplateOf c.env s t) : leaf c p s = castOnly c p t := by
  obtain ⟨tm, hwf, rfl, he⟩ := h
  have hs := (CV.Template.subst_eq_run c.env _).trans (CV.Template.run_render c.env tm hwf)
  simp only [CV.Template.evalOut, he] at hs
  rw [leaf_of_subst (by rw [String.toList_ofList]; exact hs), String.ofList_toList]

end CV.Interp
