import ComposeVerif.Model.Paths
/-! The project directory and the home directory of the worked examples of C12 (`Props/C12.lean`, `Neg/C12.lean`). -/
namespace CV.Paths.Neg

def W : Str := ['/', 'w']
def H : Option Str := some ['/', 'h']

end CV.Paths.Neg
