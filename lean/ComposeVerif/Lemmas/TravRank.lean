import ComposeVerif.Model.Trav
import ComposeVerif.Lemmas.DepGraph
/-!
# An acyclic finite graph has a rank function (bounded by the number of vertices)

`rk v` = number of vertices reachable from `v`.  Along an edge `v → c` the reachable set shrinks strictly: everything
reachable from `c` is reachable from `v`, `c` itself is reachable from `v`, and `c` is not reachable from `c` (no closed
walk).  This closes the gap between the two formulations of acyclicity used for C13: "no closed walk" (what
`checkCycle` decides, `DepGraph.cyclic_refused`) and "a rank function exists" (`Trav.GraphOK.rank`).
-/
namespace CV.Trav
open CV.DepGraph (Reaches checkCycle checkCycle_false_iff)

theorem filter_length_lt {α} (l : List α) (p q : α → Bool) (hpq : ∀ u ∈ l, p u = true → q u = true)
    (c : α) (hc : c ∈ l) (hqc : q c = true) (hpc : p c = false) : (l.filter p).length < (l.filter q).length := by
  have hsub : (l.filter p).Sublist (l.filter q) := by
    have : l.filter p = (l.filter q).filter p := by
      rw [List.filter_filter]
      refine List.filter_congr fun a ha => ?_
      cases h : p a
      · rfl
      · rw [hpq a ha h]; rfl
    rw [this]; exact List.filter_sublist
  refine Nat.lt_of_le_of_ne hsub.length_le fun he => ?_
  have hm : c ∈ l.filter p := hsub.eq_of_length he ▸ List.mem_filter.mpr ⟨hc, hqc⟩
  rw [List.mem_filter, hpc] at hm
  exact absurd hm.2 nofun

open Classical in
noncomputable def reachCount (adj : V → List V) (verts : List V) (v : V) : Nat :=
  (verts.filter (fun u => decide (∃ n, Reaches adj n v u))).length

theorem rank_of_acyclic (adj : V → List V) (verts : List V)
    (hclosed : ∀ v ∈ verts, ∀ c ∈ adj v, c ∈ verts) (hacyc : ∀ v ∈ verts, ∀ n, ¬ Reaches adj n v v) :
    ∃ rk : V → Nat, (∀ v ∈ verts, ∀ c ∈ adj v, rk c < rk v) ∧ ∀ v, rk v ≤ verts.length := by
  refine ⟨reachCount adj verts, ?_, ?_⟩
  · intro v hv c hc
    unfold reachCount
    apply filter_length_lt verts _ _ _ c (hclosed v hv c hc)
    · simp only [decide_eq_true_eq]; exact ⟨1, .one hc⟩
    · simp only [decide_eq_false_iff_not]
      rintro ⟨n, hn⟩
      exact hacyc c (hclosed v hv c hc) n hn
    · intro u _ hu
      simp only [decide_eq_true_eq] at hu ⊢
      obtain ⟨n, hn⟩ := hu
      exact ⟨n + 1, .step hc hn⟩
  · intro v
    exact List.length_filter_le _ _

theorem Reaches.mem_verts {adj : V → List V} {verts : List V} (hclosed : ∀ v ∈ verts, ∀ c ∈ adj v, c ∈ verts)
    {n : Nat} {a b : V} (h : Reaches adj n a b) (ha : a ∈ verts) : b ∈ verts := by
  induction h with
  | one hb => exact hclosed _ ha _ hb
  | step hc _ ih => exact ih (hclosed _ ha _ hc)

theorem acyclic_iff_ranked (adj : V → List V) (verts : List V) (hclosed : ∀ v ∈ verts, ∀ c ∈ adj v, c ∈ verts) :
    (∀ v ∈ verts, ∀ n, ¬ Reaches adj n v v) ↔ ∃ rk : V → Nat, ∀ v ∈ verts, ∀ c ∈ adj v, rk c < rk v := by
  constructor
  · intro h
    obtain ⟨rk, h1, _⟩ := rank_of_acyclic adj verts hclosed h
    exact ⟨rk, h1⟩
  · rintro ⟨rk, hrk⟩ v hv n hn
    have h1 := hn.rank_add_le (S := (· ∈ verts)) hclosed hrk hv
    have h2 := hn.pos
    omega

/-- what `checkCycle` accepts has a rank function: the hypothesis `GraphOK.rank` of the traversal theorems holds for
every graph that reaches `walk` -/
theorem ranked_of_checkCycle_false (adj : V → List V) (verts : List V) (hclosed : ∀ v ∈ verts, ∀ c ∈ adj v, c ∈ verts)
    (h : checkCycle verts adj = false) :
    ∃ rk : V → Nat, (∀ v ∈ verts, ∀ c ∈ adj v, rk c < rk v) ∧ ∀ v, rk v ≤ verts.length :=
  rank_of_acyclic adj verts hclosed ((checkCycle_false_iff adj verts hclosed).mp h)

end CV.Trav
