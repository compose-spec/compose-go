import ComposeVerif.Model.C11Normalize
import ComposeVerif.Spec.C11
import ComposeVerif.Lemmas.KVs
/-! The two conditional stores of the model, `setIfAbsent` and `setIfNil`: what is read back after them, pointwise and as the
Spec's `filled` / `filledNil` of the whole lookup function (`look`), membership, idempotence. -/
namespace CV.C11
open CV CV.Val CV.C11.Spec

abbrev look (m : KVs) : Look := fun k => lookup k m

theorem setIfAbsent_of_some {k : String} {v x : Val} {m : KVs} (h : lookup k m = some x) :
    setIfAbsent k v m = m := by
  simp [setIfAbsent, h]

theorem setIfAbsent_of_none {k : String} {v : Val} {m : KVs} (h : lookup k m = none) :
    setIfAbsent k v m = Val.insert k v m := by
  simp [setIfAbsent, h]

theorem lookup_setIfAbsent_ne {k k' : String} (h : k' ≠ k) (v : Val) (m : KVs) :
    lookup k' (setIfAbsent k v m) = lookup k' m := by
  unfold setIfAbsent
  cases lookup k m with
  | some x => rfl
  | none => exact lookup_insert_ne h v m

theorem lookup_setIfAbsent_self (k : String) (v : Val) (m : KVs) :
    lookup k (setIfAbsent k v m) = some ((lookup k m).getD v) := by
  cases h : lookup k m with
  | some x => rw [setIfAbsent_of_some h, h]; rfl
  | none => rw [setIfAbsent_of_none h, lookup_insert_self]; rfl

theorem lookup_setIfAbsent (k : String) (v : Val) (m : KVs) (k' : String) :
    lookup k' (setIfAbsent k v m) = filled k v (fun x => lookup x m) k' := by
  unfold filled
  by_cases hk : k' = k
  · subst hk
    rw [lookup_setIfAbsent_self, if_pos rfl]
    cases h : lookup k' m <;> simp only [h, Option.getD]
  · rw [lookup_setIfAbsent_ne hk, if_neg hk]

theorem look_setIfAbsent (k : String) (v : Val) (m : KVs) : look (setIfAbsent k v m) = filled k v (look m) :=
  funext (lookup_setIfAbsent k v m)

theorem setIfAbsent_idem (k : String) (v : Val) (m : KVs) :
    setIfAbsent k v (setIfAbsent k v m) = setIfAbsent k v m :=
  setIfAbsent_of_some (lookup_setIfAbsent_self k v m)

theorem lookup_setIfAbsent_of_some {k' : String} {x : Val} {m : KVs} (h : lookup k' m = some x) (k : String) (v : Val) :
    lookup k' (setIfAbsent k v m) = some x := by
  by_cases hk : k' = k
  · rw [hk] at h ⊢; rw [setIfAbsent_of_some h, h]
  · rw [lookup_setIfAbsent_ne hk, h]

theorem mem_setIfAbsent {k : String} {v : Val} {m : KVs} {e : String × Val} (he : e ∈ m) :
    e ∈ setIfAbsent k v m := by
  cases h : lookup k m with
  | some x => rw [setIfAbsent_of_some h]; exact he
  | none => rw [setIfAbsent_of_none h, insert_of_not_mem (lookup_eq_none.1 h)]; exact List.mem_append_left _ he

theorem mem_of_mem_setIfAbsent {k : String} {v : Val} {m : KVs} {x : String × Val} (h : x ∈ setIfAbsent k v m) :
    x = (k, v) ∨ x ∈ m := by
  unfold setIfAbsent at h
  split at h
  · exact .inr h
  · exact mem_insert h

theorem lookup_setIfNil (k : String) (v : Val) (m : KVs) (k' : String) :
    lookup k' (setIfNil k v m) = filledNil k v (fun x => lookup x m) k' := by
  unfold setIfNil filledNil
  by_cases hk : k' = k
  · subst hk
    cases h : lookup k' m with
    | none => simp [h, lookup_insert_self]
    | some x => cases x <;> simp [h, lookup_insert_self]
  · cases h : lookup k m with
    | none => simp [hk, lookup_insert_ne hk]
    | some x => cases x <;> simp [hk, lookup_insert_ne hk]

theorem look_setIfNil (k : String) (v : Val) (m : KVs) : look (setIfNil k v m) = filledNil k v (look m) :=
  funext (lookup_setIfNil k v m)

/-- `m[k] == nil` -/
def unset : Option Val → Bool
  | none => true
  | some .null => true
  | some _ => false

theorem unset_of_nonnull {x : Val} (h : x ≠ .null) : unset (some x) = false := by
  cases x <;> first | rfl | exact absurd rfl h

theorem setIfNil_of_nonnull {k : String} {v x : Val} {m : KVs} (h : lookup k m = some x) (hx : x ≠ .null) :
    setIfNil k v m = m := by
  unfold setIfNil
  cases x <;> simp_all

theorem lookup_setIfNil_self_nonnull (k : String) (v : Val) (hv : v ≠ .null) (m : KVs) :
    ∃ x, lookup k (setIfNil k v m) = some x ∧ x ≠ .null := by
  unfold setIfNil
  cases h : lookup k m with
  | none => exact ⟨v, by simp [lookup_insert_self], hv⟩
  | some x =>
    cases x <;> simp [lookup_insert_self, h, hv]

theorem setIfNil_idem (k : String) (v : Val) (hv : v ≠ .null) (m : KVs) :
    setIfNil k v (setIfNil k v m) = setIfNil k v m := by
  obtain ⟨x, hx, hn⟩ := lookup_setIfNil_self_nonnull k v hv m
  exact setIfNil_of_nonnull hx hn

end CV.C11
