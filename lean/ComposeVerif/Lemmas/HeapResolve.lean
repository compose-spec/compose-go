import ComposeVerif.Model.Heap
import ComposeVerif.Lemmas.FuelLe
/-! C14: the fuel of `Plan.resolve` / `Ty.resolve` is immaterial once the result contains no `unknown` / unresolved node -/
namespace CV.Heap

mutual
def Plan.closed : Plan → Bool
  | .assign => true
  | .newPtr p => p.closed
  | .newSlice p => p.closed
  | .newMap p => p.closed
  | .fields ps => closedFields ps
  | .call _ _ => false
  | .unknown _ => false
def closedFields : List (Nat × Plan) → Bool
  | [] => true
  | (_, p) :: r => p.closed && closedFields r
end

mutual
def Ty.closed : Ty → Bool
  | .scalar => true
  | .iface => true
  | .ptr t => t.closed
  | .slice t => t.closed
  | .map t => t.closed
  | .struct fs => closedTyFields fs
  | .named _ => false
  | .unknown _ => false
def closedTyFields : List (Nat × Ty) → Bool
  | [] => true
  | (_, t) :: r => t.closed && closedTyFields r
end

theorem closedFields_map (g : Nat × Plan → Plan) : ∀ (ps : List (Nat × Plan)),
    closedFields (ps.map fun fp => (fp.1, g fp)) = true → ∀ fp ∈ ps, (g fp).closed = true
  | [], _, fp, h => by cases h
  | (f, q) :: r, hc, fp, hm => by
    simp only [List.map_cons, closedFields, Bool.and_eq_true] at hc
    rcases List.mem_cons.mp hm with rfl | hm'
    · exact hc.1
    · exact closedFields_map g r hc.2 fp hm'

theorem closedTyFields_map (g : Nat × Ty → Ty) : ∀ (fs : List (Nat × Ty)),
    closedTyFields (fs.map fun ft => (ft.1, g ft)) = true → ∀ ft ∈ fs, (g ft).closed = true
  | [], _, ft, h => by cases h
  | (f, q) :: r, hc, ft, hm => by
    simp only [List.map_cons, closedTyFields, Bool.and_eq_true] at hc
    rcases List.mem_cons.mp hm with rfl | hm'
    · exact hc.1
    · exact closedTyFields_map g r hc.2 ft hm'

theorem Plan.resolve_succ (fns : List (Nat × Nat × Plan)) (n : Nat) (p : Plan)
    (h : (Plan.resolve fns n p).closed = true) : Plan.resolve fns (n+1) p = Plan.resolve fns n p := by
  fun_induction Plan.resolve fns n p
  case case2 hl ih => simpa only [Plan.resolve, hl, if_true] using ih h
  case case5 ih | case6 ih | case7 ih => simp only [Plan.resolve, ih h]
  case case8 ps ih =>
    simp only [Plan.resolve, Plan.closed] at h ⊢
    congr 1
    exact List.map_congr_left fun fp hfp => by rw [ih fp (closedFields_map (fun fp => Plan.resolve fns _ fp.2) ps h fp hfp)]
  -- a plan returned as it is: `assign` or `unknown`; the case's hypotheses exclude the other forms
  case case9 p _ _ _ _ _ => cases p <;> first | rfl | simp_all
  -- out of fuel, wrong call kind, undeclared function: the result is not closed
  all_goals simp [Plan.closed] at h

theorem Plan.resolve_ge (fns : List (Nat × Nat × Plan)) (n : Nat) (p : Plan)
    (h : (Plan.resolve fns n p).closed = true) : ∀ m, n ≤ m → Plan.resolve fns m p = Plan.resolve fns n p :=
  fun _ hm => Fuel.Le.of_succ (bad := (Plan.closed · ≠ true)) (fun k hk => Plan.resolve_succ fns k p (Decidable.not_not.1 hk)) hm
    (not_not_intro h)

theorem Ty.resolve_succ (tbl : List (Nat × Ty)) (n : Nat) (t : Ty)
    (h : (Ty.resolve tbl n t).closed = true) : Ty.resolve tbl (n+1) t = Ty.resolve tbl n t := by
  fun_induction Ty.resolve tbl n t
  case case2 hl ih => simpa only [Ty.resolve, hl] using ih h
  case case4 ih | case5 ih | case6 ih => simp only [Ty.resolve, ih h]
  case case7 fs ih =>
    simp only [Ty.resolve, Ty.closed] at h ⊢
    congr 1
    exact List.map_congr_left fun ft hft => by rw [ih ft (closedTyFields_map (fun ft => Ty.resolve tbl _ ft.2) fs h ft hft)]
  case case8 t _ _ _ _ _ => cases t <;> first | rfl | simp_all
  all_goals simp [Ty.closed] at h

theorem Ty.resolve_ge (tbl : List (Nat × Ty)) (n : Nat) (t : Ty)
    (h : (Ty.resolve tbl n t).closed = true) : ∀ m, n ≤ m → Ty.resolve tbl m t = Ty.resolve tbl n t :=
  fun _ hm => Fuel.Le.of_succ (bad := (Ty.closed · ≠ true)) (fun k hk => Ty.resolve_succ tbl k t (Decidable.not_not.1 hk)) hm
    (not_not_intro h)

end CV.Heap
