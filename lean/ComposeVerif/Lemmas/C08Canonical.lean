import ComposeVerif.Lemmas.ShortTransform
import ComposeVerif.Lemmas.ValInd
/-!
# `transform.Canonical(dict, ignoreParseError)`: the flag only forgives (C08)

`opts.SkipInterpolation` is handed to `transform.Canonical` as `ignoreParseError` (a short form that still holds `${…}`
cannot be parsed yet).  Over C03's model `CV.Short.transform` (read-only use): whatever the strict walk (`ign = false`)
accepts, the lenient walk (`ign = true`) accepts with the same result.
-/
namespace CV.Short
open CV

theorem transformVolumeMount_mono (v r : Val) (h : transformVolumeMount false v = .ok r) :
    transformVolumeMount true v = .ok r := by
  -- only the string case reads the flag, and there only where the strict reading fails
  cases v <;> simp only [transformVolumeMount] at h ⊢ <;> try exact h
  split at h
  · simp at h
  · exact h

theorem transformDeviceMapping_mono (v r : Val) (h : transformDeviceMapping false v = .ok r) :
    transformDeviceMapping true v = .ok r := by
  cases v <;> simp only [transformDeviceMapping] at h ⊢ <;> try exact h
  split at h <;> first | exact h | simp at h

/-- the strict reading of a port list never gives up (`none` = "return data, nil"), and what it accepts the lenient
    reading accepts with the same result -/
theorem portEntries_strict (l acc : List Val) : ∃ o, portEntries false l acc = some o ∧
    ∀ res, o = .ok res → portEntries true l acc = some (.ok res) := by
  -- the cases follow the clauses of `portEntries`, each `match` on `parsePort` giving `none` before `some`: 1 `[]`;
  -- 2, 3 an `.int` entry; 4, 5, 6 a `.str` entry (4: unparsable under the lenient flag, impossible here; 5: unparsable,
  -- strict); 7 a `.map` entry; 8 any other entry.  Cases 2, 5 and 8 are errors of the strict reading.
  fun_induction portEntries false l acc
  case case1 => exact ⟨_, rfl, fun _ h => by cases h; rfl⟩
  case case3 h ih => simpa only [portEntries, h] using ih
  case case4 h => cases h
  case case6 h ih => simpa only [portEntries, h] using ih
  case case7 ih => simpa only [portEntries] using ih
  all_goals exact ⟨_, rfl, fun _ h => nomatch h⟩

theorem transformPorts_mono (v r : Val) (h : transformPorts false v = .ok r) : transformPorts true v = .ok r := by
  -- only the sequence case reads the flag
  cases v <;> simp only [transformPorts] at h ⊢ <;> try exact h
  rename_i l
  obtain ⟨o, ho, hm⟩ := portEntries_strict l []
  rw [ho] at h
  cases o with
  | ok res => rw [hm res rfl]; exact h
  | err e => cases h
  | panic e => cases h

theorem kvList_strict (l : List Val) (acc : Val.KVs) : ∃ o, kvList false l acc = some o ∧
    ∀ res, o = .ok res → kvList true l acc = some (.ok res) := by
  -- cases, by the clauses of `kvList`: 1 `[]`; 2, 3, 4 a `.str` entry (2: no `=`, lenient flag, impossible here; 3: no `=`,
  -- strict, an error; 4: `key=value`); 5 any other entry, an error
  fun_induction kvList false l acc
  case case1 => exact ⟨_, rfl, fun _ h => by cases h; rfl⟩
  case case2 h => cases h
  case case4 h ih => simpa only [kvList, h] using ih
  all_goals exact ⟨_, rfl, fun _ h => nomatch h⟩

theorem transformKeyValue_mono (v r : Val) (h : transformKeyValue false v = .ok r) : transformKeyValue true v = .ok r := by
  cases v <;> simp only [transformKeyValue] at h ⊢ <;> try exact h
  rename_i l
  obtain ⟨o, ho, hm⟩ := kvList_strict l []
  rw [ho] at h
  cases o with
  | ok res => rw [hm res rfl]; exact h
  | err e => cases h
  | panic e => cases h

theorem leaf_mono (hd : Option String) (v r : Val) (h : leaf hd false v = .ok r) : leaf hd true v = .ok r := by
  cases hd with
  | none => exact h
  | some n =>
    -- of the branches of the dispatch on the handler's name, in the order of `leaf`, four read the flag
    revert h
    unfold leaf
    exact if_ok_imp (fun _ => id) <| if_ok_imp (fun _ => id) <| if_ok_imp (fun _ => id) <| if_ok_imp (fun _ => id) <|
      if_ok_imp (fun _ => id) <| if_ok_imp (fun _ => transformKeyValue_mono v r) <| if_ok_imp (fun _ => id) <|
      if_ok_imp (fun _ => id) <| if_ok_imp (fun _ => id) <| if_ok_imp (fun _ => transformVolumeMount_mono v r) <|
      if_ok_imp (fun _ => id) <| if_ok_imp (fun _ => transformDeviceMapping_mono v r) <|
      if_ok_imp (fun _ => transformPorts_mono v r) id

theorem transform_mono₃ :
    (∀ (v : Val) (p : TPath) (r : Val), transform false p v = .ok r → transform true p v = .ok r) ∧
    (∀ (m : Val.KVs) (p : TPath) (r : Val.KVs), transformKVs false p m = .ok r → transformKVs true p m = .ok r) ∧
    (∀ (l : List Val) (p : TPath) (r : List Val), transformSeq false p l = .ok r → transformSeq true p l = .ok r) := by
  apply Val.induct₃
  case null | bool | int | float | str => intros; rename_i h; simp only [transform] at h ⊢; exact leaf_mono _ _ _ h
  case seq | map =>
    -- either the handler walks into the children, or the whole node is a leaf of the dispatch
    intro _ ih p r h
    simp only [transform] at h ⊢
    split at h
    · rename_i hr
      simp only [hr, if_true]
      obtain ⟨l', hl, hp⟩ := bindOut_ok h
      rw [ih p l' hl]; exact hp
    · rename_i hr
      simp only [hr, if_false]
      exact leaf_mono _ _ _ h
  case nil | nil' => intro p r h; simpa only [transformKVs, transformSeq] using h
  case cons =>
    intro k e t ihe iht p r h
    obtain ⟨e', t', he, ht, rfl⟩ := transformKVs_cons_ok h
    simp only [transformKVs, ihe _ _ he, iht p _ ht]
  case cons' =>
    intro e t ihe iht p r h
    obtain ⟨e', t', he, ht, rfl⟩ := transformSeq_cons_ok h
    simp only [transformSeq, ihe _ _ he, iht p _ ht]

theorem transformKVs_mono : ∀ (m : Val.KVs) (p : TPath) (r : Val.KVs), transformKVs false p m = .ok r →
    transformKVs true p m = .ok r :=
  transform_mono₃.2.1

theorem transformSeq_mono : ∀ (l : List Val) (p : TPath) (r : List Val), transformSeq false p l = .ok r →
    transformSeq true p l = .ok r :=
  transform_mono₃.2.2

/-- **`Canonical`'s flag only forgives**: a tree the strict walk accepts is accepted by the lenient walk, same result -/
theorem canonical_mono (v r : Val) (h : canonical false v = .ok r) : canonical true v = .ok r :=
  transform_mono₃.1 v TPath.root r h

end CV.Short
