import ComposeVerif.Lemmas.NameSpec
/-! Lemmas for C17: character classes, `normalize`, the name scan, environment lookups, the option machine. -/
namespace CV.Name
open CV

theorem map_ofList_strs (l : List String) : (strs l).map String.ofList = l := by
  simp [strs]

theorem contains_toNat (L : List Char) (c : Char) : L.contains c = (L.map Char.toNat).contains c.toNat := by
  simp [Char.toNat_inj]

theorem isNameChar_iff (c : Char) : isNameChar c = true ↔ (c.isLower || c.isDigit) = true ∨ isSep c = true := by
  simp [isNameChar, isSep, or_assoc]

theorem lead_not_sep (c : Char) (h : (c.isLower || c.isDigit) = true) : isSep c = false := by
  simp only [isSep, Bool.or_eq_false_iff, beq_eq_false_iff_ne]
  constructor <;> (rintro rfl; revert h; decide)

theorem toLowerGo_nameChar (c : Char) (h : isNameChar c = true) : toLowerGo c = c := by
  -- a lower-case letter, a digit, `_` or `-` is neither U+212A, U+0130 nor upper-case, so `toLower` leaves it alone
  have h1 : c ≠ '\u212A' := by rintro rfl; revert h; decide
  have h2 : c ≠ '\u0130' := by rintro rfl; revert h; decide
  have hu : c.isUpper = false := by
    rcases (isNameChar_iff c).mp h with h | h
    · grind [Char.isLower, Char.isDigit, Char.isUpper]
    · simp only [isSep, Bool.or_eq_true, beq_iff_eq] at h
      rcases h with rfl | rfl <;> decide
  rw [toLowerGo, if_neg h1, if_neg h2]
  grind [Char.toLower, Char.isUpper]

theorem validName_dropWhile (l : Str) (h : ∀ c ∈ l, isNameChar c = true) :
    l.dropWhile isSep = [] ∨ validName (l.dropWhile isSep) = true := by
  induction l with
  | nil => left; rfl
  | cons c l ih =>
    by_cases hs : isSep c = true
    · rw [List.dropWhile_cons_of_pos hs]
      exact ih (fun d hd => h d (List.mem_cons_of_mem _ hd))
    · right
      rw [List.dropWhile_cons_of_neg hs]
      simp only [validName, Bool.and_eq_true, List.all_eq_true]
      exact ⟨((isNameChar_iff c).mp (h c List.mem_cons_self)).resolve_right hs,
        fun d hd => h d (List.mem_cons_of_mem _ hd)⟩

theorem norm_valid (s : Str) : normalize s = [] ∨ validName (normalize s) = true :=
  validName_dropWhile _ fun _ hc => (List.mem_filter.mp hc).2

theorem normalize_of_valid (s : Str) (h : validName s = true) : normalize s = s := by
  cases s with
  | nil => rfl
  | cons a as =>
    simp only [validName, Bool.and_eq_true, List.all_eq_true] at h
    have hall : ∀ c ∈ a :: as, isNameChar c = true := by
      intro c hc
      rcases List.mem_cons.mp hc with rfl | e
      · exact (isNameChar_iff c).mpr (Or.inl h.1)
      · exact h.2 c e
    unfold normalize
    rw [List.map_congr_left (fun c hc => toLowerGo_nameChar c (hall c hc)), List.map_id', List.filter_eq_self.mpr hall]
    exact List.dropWhile_cons_of_neg (by simp [lead_not_sep a h.1])

theorem normalize_nil : normalize [] = [] := rfl

theorem norm_idem (s : Str) : normalize (normalize s) = normalize s := by
  rcases norm_valid s with h | h
  · rw [h]; rfl
  · exact normalize_of_valid _ h

theorem norm_fixed_iff (s : Str) : normalize s = s ↔ (s = [] ∨ validName s = true) := by
  constructor
  · intro h
    have := norm_valid s
    rwa [h] at this
  · rintro (h | h)
    · subst h; rfl
    · exact normalize_of_valid s h

open CV.Name.Spec

theorem lastNameDocs_eq (ds : List (Option Str)) (acc : Str) :
    lastNameDocs ds acc = (((ds.filterMap id).filter (· ≠ [])).getLast?).getD acc := by
  induction ds generalizing acc with
  | nil => rfl
  | cons d ds ih =>
    cases d with
    | none => simpa [lastNameDocs] using ih acc
    | some n =>
      by_cases hn : n = [] <;> simp [lastNameDocs, ih, hn, List.getLast?_cons]

theorem lastName_eq (fs : List (List (Option Str))) (acc : Str) :
    lastName fs acc = (((fs.flatten.filterMap id).filter (· ≠ [])).getLast?).getD acc := by
  induction fs generalizing acc with
  | nil => rfl
  | cons f fs ih =>
    simp only [lastName, ih, lastNameDocs_eq, List.flatten_cons, List.filterMap_append, List.filter_append,
      List.getLast?_append]
    cases ((List.filterMap id fs.flatten).filter (· ≠ [])).getLast? <;> rfl

theorem lastName_selected (fs : List (List (Option Str))) : lastName fs [] = selectedName fs :=
  lastName_eq fs []

theorem Agrees.ok_name {d : Decision} {n : Str} (h : Agrees d (.ok n)) (hn : n ≠ []) : d = .name n := by
  cases d with
  | name m => cases h.1; rfl
  | rejected => cases h
  | failed => rcases h with h | h <;> cases h
  | noName => exact absurd (Except.ok.inj h) hn

theorem normalize_ne (n : Str) (hn : n ≠ []) (hv : validName n ≠ true) : normalize n ≠ n :=
  fun h => ((norm_fixed_iff n).mp h).elim hn hv

theorem tk : tmpl.take 23 = tmpl := by decide +kernel
theorem cs : containsStr Template.Op.colonQ.str cpn = false := by decide +kernel

theorem get_append (a b : Env) (k : Str) : (a ++ b).get k = (a.get k).or (b.get k) :=
  List.lookup_append

theorem get_cons_self (e : Env) (k v : Str) : Env.get ((k, v) :: e) k = some v := by
  simp [Env.get]

theorem get_cons_ne (e : Env) (k k' v : Str) (h : k ≠ k') : Env.get ((k', v) :: e) k = e.get k := by
  simp [Env.get, List.lookup_cons, beq_eq_false_iff_ne.mpr h]

theorem runOpts_cons_ok {w : World} {x : Opt} {xs : List Opt} {o o' : PO} (h : runOpts w (x :: xs) o = .ok o') :
    ∃ o1, applyOpt w o x = .ok o1 ∧ runOpts w xs o1 = .ok o' := by
  simp only [runOpts] at h
  split at h
  · exact ⟨_, ‹_›, h⟩
  · cases h

theorem runOpts_append (w : World) (a b : List Opt) (o : PO) :
    runOpts w (a ++ b) o = match runOpts w a o with
      | .ok o1 => runOpts w b o1
      | .error e => .error e := by
  induction a generalizing o with
  | nil => rfl
  | cons x xs ih =>
    simp only [List.cons_append, runOpts]
    cases applyOpt w o x with
    | ok o1 => exact ih o1
    | error e => rfl

theorem runOpts_append_ok {w : World} {a b : List Opt} {o o' : PO} (h : runOpts w (a ++ b) o = .ok o') :
    ∃ o1, runOpts w a o = .ok o1 ∧ runOpts w b o1 = .ok o' := by
  rw [runOpts_append] at h
  split at h
  · exact ⟨_, ‹_›, h⟩
  · cases h

theorem withDotEnv_ok {w : World} {o o' : PO} (h : applyOpt w o .withDotEnv = .ok o') :
    ∃ m, getEnvFromFile w o.env o.envFiles [] = .ok m ∧ o' = { o with env := o.env ++ m } := by
  simp only [applyOpt] at h
  split at h
  · cases h; exact ⟨_, ‹_›, rfl⟩
  · cases h

theorem requestedName_cons (x : Opt) (xs : List Opt) (init : Str) :
    requestedName (x :: xs) init = requestedName xs (requestedName [x] init) := by
  cases x <;> rfl

/-- `WithEnvFiles()`: `COMPOSE_DISABLE_ENV_FILE` of the OS environment decides -/
theorem withEnvFiles_nil (w : World) (o : PO) :
    withEnvFiles w o [] =
      match disableVar w with
      | some v =>
        match parseBool v with
        | none => .error .disableParse
        | some true => .ok o
        | some false => .ok (defaultEnvFile w o)
      | none => .ok (defaultEnvFile w o) := rfl

theorem withEnvFiles_frame (w : World) (o o' : PO) (fs : List Str) (h : withEnvFiles w o fs = .ok o') :
    o'.env = o.env ∧ o'.name = o.name := by
  have hd : (defaultEnvFile w o).env = o.env ∧ (defaultEnvFile w o).name = o.name := by
    unfold defaultEnvFile; split <;> exact ⟨rfl, rfl⟩
  unfold withEnvFiles at h
  split at h
  · cases h; exact ⟨rfl, rfl⟩
  · split at h
    · split at h
      · cases h
      · cases h; exact ⟨rfl, rfl⟩
      · cases h; exact hd
    · cases h; exact hd

theorem withConfigFileEnv_frame (w : World) (o o' : PO) (h : withConfigFileEnv w o = .ok o') :
    o'.env = o.env ∧ o'.name = o.name := by
  unfold withConfigFileEnv at h
  split at h
  · cases h; exact ⟨rfl, rfl⟩
  · simp only at h
    split at h
    · cases h; exact ⟨rfl, rfl⟩
    · split at h
      · cases h; exact ⟨rfl, rfl⟩
      · cases h

theorem withDefaultConfigPath_frame (w : World) (o : PO) :
    (withDefaultConfigPath w o).env = o.env ∧ (withDefaultConfigPath w o).name = o.name := by
  unfold withDefaultConfigPath
  split <;> exact ⟨rfl, rfl⟩

theorem applyOpt_frame (w : World) (o o' : PO) (x : Opt) (h : applyOpt w o x = .ok o') :
    o'.env = overOf x ++ o.env ++ underStep w o x ∧ o'.name = requestedName [x] o.name := by
  cases x with
  | withName n =>
    simp only [applyOpt] at h
    split at h
    · cases h; exact ⟨(List.append_nil _).symm, rfl⟩
    · cases h
  | withEnv l => cases h; exact ⟨(List.append_nil _).symm, rfl⟩
  | withOsEnv => cases h; exact ⟨rfl, rfl⟩
  | withEnvFiles fs =>
    obtain ⟨h1, h2⟩ := withEnvFiles_frame w o o' fs h
    exact ⟨h1.trans (List.append_nil _).symm, h2⟩
  | withDotEnv =>
    obtain ⟨m, hm, rfl⟩ := withDotEnv_ok h
    exact ⟨by simp only [overOf, underStep, hm, List.nil_append], rfl⟩
  | withWorkDir b => cases h; cases b <;> exact ⟨(List.append_nil _).symm, rfl⟩
  | withConfigFileEnv =>
    obtain ⟨h1, h2⟩ := withConfigFileEnv_frame w o o' h
    exact ⟨h1.trans (List.append_nil _).symm, h2⟩
  | withDefaultConfigPath =>
    cases h
    obtain ⟨h1, h2⟩ := withDefaultConfigPath_frame w o
    exact ⟨h1.trans (List.append_nil _).symm, h2⟩

theorem runOpts_name (w : World) (opts : List Opt) (o o' : PO) (h : runOpts w opts o = .ok o') :
    o'.name = requestedName opts o.name := by
  induction opts generalizing o with
  | nil => cases h; rfl
  | cons x xs ih =>
    obtain ⟨o1, h1, h2⟩ := runOpts_cons_ok h
    rw [ih o1 h2, requestedName_cons, (applyOpt_frame w o o1 x h1).2]

theorem explicitLayer_cons (x : Opt) (xs : List Opt) :
    explicitLayer (x :: xs) = explicitLayer xs ++ overOf x := by
  cases x <;> simp [explicitLayer, overOf]

theorem explicitLayer_append_dot (pre : List Opt) :
    explicitLayer (pre ++ [.withDotEnv]) = explicitLayer pre := by
  simp [explicitLayer]

theorem lookupLayers_flatten (ls : List Env) (k : Str) : lookupLayers ls k = Env.get ls.flatten k := by
  induction ls with
  | nil => rfl
  | cons l ls ih =>
    simp only [lookupLayers, List.flatten_cons, get_append, ih]
    cases l.get k <;> rfl

theorem lookupLayers_three (a b c : Env) (k : Str) : lookupLayers [a, b, c] k = (a ++ b ++ c).get k := by
  simp [lookupLayers_flatten]

theorem underOf_noDot (w : World) (pre : List Opt) (o o1 : PO)
    (hpre : ∀ x ∈ pre, x ≠ .withDotEnv) (h : runOpts w pre o = .ok o1) (k : Str) :
    (underOf w pre o).get k = (osLayer w pre).get k := by
  induction pre generalizing o with
  | nil => rfl
  | cons x xs ih =>
    obtain ⟨o2, h2, h⟩ := runOpts_cons_ok h
    have ih' := ih o2 (fun y hy => hpre y (List.mem_cons_of_mem _ hy)) h
    simp only [underOf, h2, get_append, ih']
    cases x with
    | withOsEnv =>
      -- a second `WithOsEnv` adds a copy that no lookup reaches
      simp only [underStep, osLayer, List.contains_cons, BEq.rfl, Bool.true_or, if_true]
      cases hos : (asEqualsMap w.os).get k with
      | some v => rfl
      | none =>
        rw [Option.none_or]
        split
        · exact hos
        · rfl
    | withDotEnv => exact absurd rfl (hpre _ List.mem_cons_self)
    | _ => simp [underStep, osLayer, Env.get]

end CV.Name
