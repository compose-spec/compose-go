import ComposeVerif.Lemmas.C11KV
import ComposeVerif.Lemmas.ValDecEq
/-! A loop over a Go map or slice that stops at the first error is `Out.mapM` (`mapMKVs` when it rewrites the values of a
mapping): the model spells it out as `setDefaultsKVs`, `setDefaultsList` (equations in `Lemmas/C11Walk.lean`), `canonSvcAttrs`,
`canonServices` (in `Lemmas/C11Canon.lean`).
`switch v := x.(type) { case map[string]any: … default: return x }` is `onMap`. -/
namespace CV.C11
open CV CV.Val

deriving instance DecidableEq for Out

namespace Out
variable {α β : Type}

def bind (o : Out α) (f : α → Out β) : Out β :=
  match o with
  | .ok a => f a
  | .err e => .err e
  | .panic s => .panic s

theorem bind_eq_ok {o : Out α} {f : α → Out β} {b : β} : o.bind f = .ok b ↔ ∃ a, o = .ok a ∧ f a = .ok b := by
  cases o <;> simp [bind]

theorem map_eq_ok {o : Out α} {f : α → β} {b : β} : o.map f = .ok b ↔ ∃ a, o = .ok a ∧ f a = b := by
  cases o <;> simp [map]

/-- `for _, a := range l { b, err := f(a); if err != nil { return err }; … }` -/
def mapM (f : α → Out β) : List α → Out (List β)
  | [] => .ok []
  | a :: r => (f a).bind fun b => (mapM f r).bind fun r' => .ok (b :: r')

theorem mapM_cons_ok {f : α → Out β} {a : α} {r : List α} {l : List β} :
    mapM f (a :: r) = .ok l ↔ ∃ b, f a = .ok b ∧ ∃ r', mapM f r = .ok r' ∧ l = b :: r' := by
  simp only [mapM, bind_eq_ok, ok.injEq, eq_comm (a := l)]

theorem mapM_congr {f g : α → Out β} : ∀ {l : List α}, (∀ a ∈ l, f a = g a) → mapM f l = mapM g l
  | [], _ => rfl
  | a :: r, h => by
    rw [mapM, mapM, h a List.mem_cons_self, mapM_congr fun x hx => h x (List.mem_cons_of_mem _ hx)]

theorem mapM_fixed_iff {f : α → Out α} : ∀ {l : List α}, mapM f l = .ok l ↔ ∀ a ∈ l, f a = .ok a
  | [] => by simp [mapM]
  | a :: r => by
    rw [mapM_cons_ok, List.forall_mem_cons, ← mapM_fixed_iff]
    constructor
    · rintro ⟨b, hb, r', hr, e⟩
      cases e
      exact ⟨hb, hr⟩
    · rintro ⟨ha, hr⟩
      exact ⟨a, ha, r, hr, rfl⟩

theorem mapM_mem {f : α → Out β} : ∀ {l : List α} {l' : List β}, mapM f l = .ok l' → ∀ b ∈ l', ∃ a ∈ l, f a = .ok b
  | [], l', h, b, hb => by cases h; cases hb
  | a :: r, l', h, b, hb => by
    obtain ⟨b0, h0, r', hr, rfl⟩ := mapM_cons_ok.mp h
    rcases List.mem_cons.mp hb with rfl | hb
    · exact ⟨a, List.mem_cons_self, h0⟩
    · obtain ⟨x, hx, hfx⟩ := mapM_mem hr b hb
      exact ⟨x, List.mem_cons_of_mem _ hx, hfx⟩

theorem mapM_idem {f : α → Out α} {l l' : List α} (hf : ∀ a ∈ l, ∀ b, f a = .ok b → f b = .ok b)
    (h : mapM f l = .ok l') : mapM f l' = .ok l' :=
  mapM_fixed_iff.mpr fun b hb => by
    obtain ⟨a, ha, hab⟩ := mapM_mem h b hb
    exact hf a ha b hab

end Out

/-- `for k, v := range m { w, err := g(k, v); …; m[k] = w }` in list order -/
def mapMKVs (g : String → Val → Out Val) (m : KVs) : Out KVs :=
  Out.mapM (fun kv => (g kv.1 kv.2).map fun w => (kv.1, w)) m

theorem mapMKVs_cons (g : String → Val → Out Val) (k : String) (v : Val) (r : KVs) :
    mapMKVs g ((k, v) :: r) =
      (g k v).bind fun w => (mapMKVs g r).bind fun r' => .ok ((k, w) :: r') := by
  unfold mapMKVs
  rw [Out.mapM]
  cases g k v <;> rfl

theorem mapMKVs_cons_ok {g : String → Val → Out Val} {k : String} {v : Val} {r l : KVs} :
    mapMKVs g ((k, v) :: r) = .ok l ↔ ∃ w, g k v = .ok w ∧ ∃ r', mapMKVs g r = .ok r' ∧ l = (k, w) :: r' := by
  simp only [mapMKVs_cons, Out.bind_eq_ok, Out.ok.injEq, eq_comm (a := l)]

theorem mapMKVs_congr {g g' : String → Val → Out Val} {m : KVs} (h : ∀ kv ∈ m, g kv.1 kv.2 = g' kv.1 kv.2) :
    mapMKVs g m = mapMKVs g' m :=
  Out.mapM_congr fun kv hkv => by rw [h kv hkv]

theorem mapMKVs_fixed_iff {g : String → Val → Out Val} {m : KVs} :
    mapMKVs g m = .ok m ↔ ∀ kv ∈ m, g kv.1 kv.2 = .ok kv.2 := by
  unfold mapMKVs
  rw [Out.mapM_fixed_iff]
  refine forall₂_congr fun kv _ => ?_
  cases g kv.1 kv.2 <;> simp [Out.map, Prod.ext_iff]

theorem mapMKVs_mem {g : String → Val → Out Val} {m m' : KVs} (h : mapMKVs g m = .ok m') :
    ∀ b ∈ m', ∃ a ∈ m, a.1 = b.1 ∧ g a.1 a.2 = .ok b.2 := by
  intro b hb
  obtain ⟨a, ha, hab⟩ := Out.mapM_mem h b hb
  obtain ⟨w, hw, rfl⟩ := Out.map_eq_ok.mp hab
  exact ⟨a, ha, rfl, hw⟩

theorem mapMKVs_idem {g : String → Val → Out Val} {m m' : KVs}
    (hg : ∀ kv ∈ m, ∀ w, g kv.1 kv.2 = .ok w → g kv.1 w = .ok w) (h : mapMKVs g m = .ok m') :
    mapMKVs g m' = .ok m' :=
  mapMKVs_fixed_iff.mpr fun b hb => by
    obtain ⟨a, ha, hk, hab⟩ := mapMKVs_mem h b hb
    exact hk ▸ hg a ha b.2 hab

theorem mapMKVs_lookup {g : String → Val → Out Val} : ∀ {m m' : KVs}, mapMKVs g m = .ok m' →
    ∀ {k : String} {w : Val}, lookup k m' = some w → ∃ v, lookup k m = some v ∧ g k v = .ok w
  | [], m', h, k, w, hk => by cases h; cases hk
  | (k0, v0) :: r, m', h, k, w, hk => by
    obtain ⟨w0, h0, r', hr, rfl⟩ := mapMKVs_cons_ok.mp h
    by_cases e : k = k0
    · subst e
      simp only [lookup, if_true, Option.some.injEq] at hk ⊢
      exact ⟨v0, rfl, hk ▸ h0⟩
    · simp only [lookup, e, if_false] at hk ⊢
      exact mapMKVs_lookup hr hk

/-- `switch m := v.(type) { case map[string]any: return g(m); default: return v }` -/
def onMap (g : KVs → KVs) : Val → Val
  | .map m => .map (g m)
  | v => v

theorem onMap_idem {g : KVs → KVs} (h : ∀ m, g (g m) = g m) (v : Val) : onMap g (onMap g v) = onMap g v := by
  cases v <;> first | rfl | exact congrArg Val.map (h _)

end CV.C11
