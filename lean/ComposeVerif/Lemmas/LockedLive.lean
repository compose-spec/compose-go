import ComposeVerif.Lemmas.Locked
/-!
# Termination measure of the mutex-protected sections (`Model/Locked.lean`)

`cost s t` = the number of primitive steps goroutine `t` still has to take; every step of `t` lowers it by one and leaves
the cost of every other goroutine unchanged (`Props/C19Conc.locked_terminates`, with or without the mutex).
-/
namespace CV.Locked

variable {σ Tid : Type} [DecidableEq Tid]

def cost (s : St σ Tid) (t : Tid) : Nat :=
  match s.pc t with
  | .out => 4 * (s.rest t).length
  | .holding => 4 * (s.rest t).tail.length + 3
  | .loaded _ => 4 * (s.rest t).tail.length + 2
  | .written => 4 * (s.rest t).tail.length + 1

def mu (threads : List Tid) (s : St σ Tid) : Nat := (threads.map (cost s)).sum

def tidOf : Label Tid → Tid
  | .lock t => t | .read t => t | .write t => t | .unlock t => t

theorem Step.frame {locked : Bool} {s s' : St σ Tid} {l : Label Tid} (h : Step locked s l s') {u : Tid} (hu : u ≠ tidOf l) :
    s'.pc u = s.pc u ∧ s'.rest u = s.rest u := by
  cases h <;> simp only [tidOf] at hu <;> simp [upd_other _ _ hu]

theorem Step.busy {locked : Bool} {s s' : St σ Tid} {l : Label Tid} (h : Step locked s l s') :
    ¬(s.pc (tidOf l) = .out ∧ s.rest (tidOf l) = []) := by
  cases h <;> simp [tidOf, *]

theorem cost_step {locked : Bool} {s s' : St σ Tid} {l : Label Tid} (h : step? locked s l = some s') :
    cost s' (tidOf l) + 1 = cost s (tidOf l) ∧ ∀ u, u ≠ tidOf l → cost s' u = cost s u := by
  have hs := step_of_step? h
  refine ⟨?_, fun u hu => by unfold cost; rw [(hs.frame hu).1, (hs.frame hu).2]⟩
  -- each step moves its goroutine one `pc` on, four per section
  cases hs <;> simp [cost, tidOf, *] <;> omega

theorem idle_stays {locked : Bool} {prog : Tid → List (σ → σ)} {m0 : σ} {s : St σ Tid} (hR : Reach locked prog m0 s)
    {t : Tid} (ht : prog t = []) : s.pc t = .out ∧ s.rest t = [] := by
  induction hR with
  | init => exact ⟨rfl, ht⟩
  | step _ hst ih =>
    have hs := step_of_step? hst
    -- the goroutine that steps is busy, `t` is not: the step leaves `t` alone
    have : t ≠ tidOf _ := fun e => hs.busy (e ▸ ih)
    rw [(hs.frame this).1, (hs.frame this).2]; exact ih

end CV.Locked
