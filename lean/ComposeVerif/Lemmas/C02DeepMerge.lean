import ComposeVerif.Lemmas.C02DeepConv
import ComposeVerif.Lemmas.C02Walk
/-!
`override.mergeYaml` treats two spellings of its arguments alike — every rule, every path, every fuel.
`mergeMappings` (`mergeKVsWith`) ranges the override; what it stores under a key depends on that key's entries alone
(`mergeEntry`), so with distinct override keys it is the keyed loop `travOpt` of `Lemmas/C02Walk.lean`, every entry computed
against the mapping as it was before the loop, followed by storing all results (`mergeKVsWith_trav`).  Every rule of
`mergeStep` is then a composition of steps that respect `EW`; preservation of distinct keys is the same statement read
at `(v, v)`.
-/
namespace CV.Deep
open CV CV.Merge
open CV.Det.Whole (EW)
open CV.Det.Stage (ORel travOpt travOpt_rel travOpt_congr)
open CV.Val (lookup insert keys KVs lookup_cons_self lookup_cons_ne)

/-- what `mergeMappings` stores under `k` for the override entry `(k, v)`: the entry itself when the key is new or an
extension key, else the recursive merge with the value already there -/
def mergeEntry (f : Val → Val → TPath → Out Val) (p : TPath) (a : KVs) (k : String) (v : Val) : Out Val :=
  match lookup k a with
  | none => .ok v
  | some e => if hasXPrefix k then .ok v else f e v (next p k)

theorem mergeKVsWith_cons (f : Val → Val → TPath → Out Val) (a : KVs) (k : String) (v : Val) (r : KVs) (p : TPath) :
    mergeKVsWith f a ((k, v) :: r) p = (mergeEntry f p a k v).bind fun m => mergeKVsWith f (insert k m a) r p := by
  simp only [mergeKVsWith, mergeEntry]
  cases lookup k a with
  | none => rfl
  | some e => by_cases hx : hasXPrefix k = true <;> simp only [hx, if_true, Bool.false_eq_true, if_false] <;> rfl

theorem mergeEntry_insert_ne {f : Val → Val → TPath → Out Val} {p : TPath} {k k0 : String} (h : k ≠ k0) (w : Val)
    (a : KVs) (v : Val) : mergeEntry f p (insert k0 w a) k v = mergeEntry f p a k v := by
  simp only [mergeEntry, lookup_insert_ne h]

theorem mergeKVsWith_trav (f : Val → Val → TPath → Out Val) (p : TPath) : ∀ (b a : KVs), (keys b).Nodup →
    optM (mergeKVsWith f a b p) =
      (travOpt (fun k v => optM (mergeEntry f p a k v)) b).map fun zs => Assoc.insertAll zs a
  | [], a, _ => rfl
  | (k, v) :: r, a, hn => by
    have hn' : k ∉ keys r ∧ (keys r).Nodup := by simpa only [keys, List.map_cons, List.nodup_cons] using hn
    rw [mergeKVsWith_cons, travOpt]
    cases he : mergeEntry f p a k v with
    | ok z =>
      have e1 : optM (Out.ok z : Out Val) = some z := rfl
      simp only [Out.bind, e1]
      rw [mergeKVsWith_trav f p r _ hn'.2, travOpt_congr (g' := fun k v => optM (mergeEntry f p a k v))]
      · cases travOpt (fun k v => optM (mergeEntry f p a k v)) r <;> simp [Assoc.insertAll_cons, Val.insert_eq]
      · intro k' v' hm
        rw [mergeEntry_insert_ne]
        rintro rfl
        exact hn'.1 (List.mem_map.mpr ⟨_, hm, rfl⟩)
    | _ => rfl

def Congr (f : Val → Val → TPath → Out Val) (q : TPath) : Prop :=
  ∀ e e' v v', EW e e' → EW v v' → OutEqv EW (f e v q) (f e' v' q)

def MkCongr (mk : KVs → KVs → TPath → Out KVs) (p : TPath) : Prop :=
  ∀ a a' b b', MRel a a' → MRel b b' → OutEqv MRel (mk a b p) (mk a' b' p)

theorem mergeEntry_congr {f : Val → Val → TPath → Out Val} {p : TPath} {k : String} (hf : Congr f (next p k))
    {a a' : KVs} (ha : MRel a a') {v v' : Val} (hv : EW v v') :
    OutEqv EW (mergeEntry f p a k v) (mergeEntry f p a' k v') := by
  unfold mergeEntry
  rcases (ha.lookups k).none_or_some with ⟨h1, h2⟩ | ⟨e, e', h1, h2, hee⟩ <;> rw [h1, h2]
  · exact hv
  · by_cases hx : hasXPrefix k = true
    · simp only [hx, if_true]; exact hv
    · simp only [hx, Bool.false_eq_true, if_false]; exact hf e e' v v' hee hv

theorem mergeKVsWith_congr (f : Val → Val → TPath → Out Val) (p : TPath) (hf : ∀ k, Congr f (next p k)) :
    MkCongr (mergeKVsWith f) p := by
  intro a a' b b' ha hb
  rw [outEqv_iff_orel, mergeKVsWith_trav _ _ _ _ hb.2.1.1, mergeKVsWith_trav _ _ _ _ hb.2.2.1]
  refine (travOpt_rel (Q := EW) _ _ hb fun k v v' hv hv' => ?_).map fun r r' hr => ?_
  · have e := hb.lookups k; rw [hv, hv'] at e
    exact outEqv_iff_orel.mp (mergeEntry_congr (hf k) ha e)
  · exact insertAll_mrel ha (hr.1 ▸ hb.2.1.1) (hr.2.1 ▸ hb.2.2.1) hr.2.2

theorem okMap_ew {x y : Out KVs} (h : OutEqv MRel x y) :
    OutEqv EW (x.bind fun m => .ok (.map m)) (y.bind fun m => .ok (.map m)) :=
  OutEqv.bind h (fun _ _ hab => EW.map_iff.mpr hab)

theorem convMerge_ew {mk : KVs → KVs → TPath → Out KVs} {p : TPath} (hmk : MkCongr mk p) (conv : Val → Out KVs)
    (hc : ∀ v v', EW v v' → OutEqv MRel (conv v) (conv v')) {e e' o o' : Val} (he : EW e e') (ho : EW o o') :
    OutEqv EW (convMerge mk conv e o p) (convMerge mk conv e' o' p) :=
  OutEqv.bind (hc e e' he) fun r r' hr => OutEqv.bind (hc o o' ho) fun l l' hl => okMap_ew (hmk r r' l l' hr hl)

theorem getD_eqv {a a' : KVs} (h : MEqv a a') (k : String) :
    Eqv ((lookup k a).getD .null) ((lookup k a').getD .null) := by
  rcases (h.lookups k).none_or_some with ⟨h1, h2⟩ | ⟨x, y, h1, h2, hxy⟩ <;> rw [h1, h2]
  · exact .null
  · exact hxy

theorem isNone_eqv {a a' : KVs} (h : MEqv a a') (k : String) : (lookup k a).isNone = (lookup k a').isNone := by
  rw [← Option.not_isSome, ← Option.not_isSome, h.isSome_eq k]

theorem loggingStep_ew {mk : KVs → KVs → TPath → Out KVs} {p : TPath} (hmk : MkCongr mk p)
    {e e' o o' : Val} (he : EW e e') (ho : EW o o') : OutEqv EW (loggingStep mk e o p) (loggingStep mk e' o' p) := by
  cases he.1 with
  | null => exact ho
  | map _ _ =>
    cases ho.1 with
    | null => exact he
    | map _ _ =>
      have hc := EW.map_iff.mp he
      have hoth := EW.map_iff.mp ho
      simp only [loggingStep]
      rw [sameScalar_eqv (getD_eqv hoth.1 "driver") (getD_eqv hc.1 "driver"), isNone_eqv hoth.1 "driver",
        isNone_eqv hc.1 "driver"]
      split
      · exact okMap_ew (hmk _ _ _ _ hc hoth)
      · exact ho
    | _ => trivial
  | _ =>
    cases ho.1 with
    | null => exact he
    | _ => trivial

theorem defaultStep_ew {mk : KVs → KVs → TPath → Out KVs} {p : TPath} (hmk : MkCongr mk p)
    {e e' o o' : Val} (he : EW e e') (ho : EW o o') : OutEqv EW (defaultStep mk e o p) (defaultStep mk e' o' p) := by
  cases ho.1 with
  | null => exact he
  | map _ _ =>
    cases he.1 with
    | map _ _ => exact okMap_ew (hmk _ _ _ _ (EW.map_iff.mp he) (EW.map_iff.mp ho))
    | seqNil => trivial
    | seqCons _ _ => trivial
    | _ => exact ho
  | seqNil =>
    cases he.1 with
    | map _ _ => trivial
    | seqNil => exact ho
    | seqCons _ _ => simpa only [defaultStep, OutEqv, List.append_nil] using he
    | _ => exact ho
  | seqCons _ _ =>
    cases he.1 with
    | map _ _ => trivial
    | seqNil => exact ho
    | seqCons _ _ => exact EW.seq_append he ho
    | _ => exact ho
  | _ =>
    cases he.1 with
    | map _ _ => trivial
    | seqNil => trivial
    | seqCons _ _ => trivial
    | _ => exact ho

inductive PoolsRel : List KVs → List KVs → Prop
  | nil : PoolsRel [] []
  | cons {m m' : KVs} {l l' : List KVs} : MRel m m' → PoolsRel l l' → PoolsRel (m :: l) (m' :: l')

theorem PoolsRel.append {a a' b b' : List KVs} (h1 : PoolsRel a a') (h2 : PoolsRel b b') : PoolsRel (a ++ b) (a' ++ b') := by
  induction h1 with
  | nil => exact h2
  | cons hm _ ih => exact .cons hm ih

theorem subnetOf_eqv {m m' : KVs} (h : MRel m m') : Eqv (subnetOf m) (subnetOf m') := getD_eqv h.1 "subnet"

theorem ipamIndex_eq {s s' : Val} (hs : Eqv s s') : ∀ {l l' : List KVs}, PoolsRel l l' → ∀ i, ipamIndex s l i = ipamIndex s' l' i := by
  intro l l' h
  induction h with
  | nil => intro i; rfl
  | cons hm _ ih =>
    intro i
    simp only [ipamIndex, sameScalar_eqv (subnetOf_eqv hm) hs, ih]

theorem listSet_rel {l l' : List KVs} (h : PoolsRel l l') {m m' : KVs} (hm : MRel m m') :
    ∀ i, PoolsRel (listSet l i m) (listSet l' i m') := by
  induction h with
  | nil => intro i; exact .nil
  | cons h1 h2 ih =>
    intro i
    cases i with
    | zero => exact .cons hm h2
    | succ n => exact .cons h1 (ih n)

theorem getD_rel {l l' : List KVs} (h : PoolsRel l l') : ∀ i : Nat, MRel (l[i]?.getD []) (l'[i]?.getD []) := by
  induction h with
  | nil => intro i; simpa using MRel.nil
  | cons h1 _ ih =>
    intro i
    cases i with
    | zero => simpa using h1
    | succ n => simpa using ih n

theorem poolsOf_rel {xs xs' : List Val} (h : EW (.seq xs) (.seq xs')) : OutEqv PoolsRel (poolsOf xs) (poolsOf xs') :=
  EW.seq_induct (PL := fun xs xs' => OutEqv PoolsRel (poolsOf xs) (poolsOf xs')) .nil
    (fun _ _ _ _ hx ih => OutEqv.bind (intoMap_mrel .null .null hx) fun m m' hm => OutEqv.bind ih fun ms ms' hms => .cons hm hms) h

theorem ipamPools_rel {v v' : Val} (h : EW v v') : OutEqv PoolsRel (ipamPools v) (ipamPools v') := by
  cases h.1 with
  | null => exact .nil
  | seqNil => exact .nil
  | seqCons _ _ => exact poolsOf_rel h
  | _ => trivial

theorem ipamFold_rel {mk : KVs → KVs → TPath → Out KVs} {p : TPath} (hmk : MkCongr mk p) :
    ∀ {ls ls' : List KVs}, PoolsRel ls ls' → ∀ {cfgs cfgs' : List KVs}, PoolsRel cfgs cfgs' →
      OutEqv PoolsRel (ipamFold mk cfgs ls p) (ipamFold mk cfgs' ls' p) := by
  intro ls ls' h
  induction h with
  | nil => intro cfgs cfgs' hc; exact hc
  | @cons left left' rest rest' hl _ ih =>
    intro cfgs cfgs' hc
    simp only [ipamFold]
    rw [ipamIndex_eq (subnetOf_eqv hl) hc 0]
    split
    · exact ih (hc.append (.cons hl .nil))
    · rename_i i _
      exact OutEqv.bind (hmk _ _ _ _ (getD_rel hc i) hl) fun m m' hm => ih (listSet_rel hc hm i)

theorem pools_final {l l' : List KVs} (h : PoolsRel l l') : EW (.seq (l.map Val.map)) (.seq (l'.map Val.map)) := by
  induction h with
  | nil => exact EW.refl .seqNil
  | cons hm _ ih => exact EW.seqCons_iff.mpr ⟨EW.map_iff.mpr hm, ih⟩

theorem ipamStep_ew {mk : KVs → KVs → TPath → Out KVs} {p : TPath} (hmk : MkCongr mk p)
    {e e' o o' : Val} (he : EW e e') (ho : EW o o') : OutEqv EW (ipamStep mk e o p) (ipamStep mk e' o' p) :=
  OutEqv.bind (ipamPools_rel he) fun _ _ hb => OutEqv.bind (ipamPools_rel ho) fun _ _ hoo =>
    OutEqv.bind (ipamFold_rel hmk hoo hb) fun _ _ hc => pools_final hc

theorem specialStep_ew {mk : KVs → KVs → TPath → Out KVs} {p : TPath} (hmk : MkCongr mk p) (r : Rule)
    {e e' o o' : Val} (he : EW e e') (ho : EW o o') : OutEqv EW (specialStep mk r e o p) (specialStep mk r e' o' p) := by
  cases r with
  | toSeq => exact EW.seq_append (seqOf_ew he) (seqOf_ew ho)
  | override => exact ho
  | ulimit =>
    cases ho.1 with
    | map _ _ => exact okMap_ew (hmk _ _ _ _ (EW.map_iff.mp ho) (EW.map_iff.mp ho))
    | _ => exact ho
  | extraHosts => exact EW.seq_append (seqOf_ew he) (keepNew_ew (seqOf_ew he).1 (seqOf_ew ho))
  | dependsOn => exact convMerge_ew hmk _ (fun _ _ h => intoMap_mrel _ wf_dependsOnDefault h) he ho
  | networks => exact convMerge_ew hmk _ (fun _ _ h => intoMap_mrel _ .null h) he ho
  | build => exact convMerge_ew hmk _ (fun _ _ h => toBuild_mrel h) he ho
  | logging => exact loggingStep_ew hmk he ho
  | ipam => exact ipamStep_ew hmk he ho
  | unknown => trivial

theorem mergeYaml_ew : ∀ (n : Nat) (p : TPath), Congr (mergeYaml n) p := by
  intro n
  induction n with
  | zero => intro p e e' v v' _ _; trivial
  | succ n ih =>
    intro p e e' o o' he ho
    have hmk : MkCongr (mergeKVsWith (mergeYaml n)) p := mergeKVsWith_congr (mergeYaml n) p (fun k => ih (next p k))
    simp only [mergeYaml, mergeStep]
    cases ruleAt p with
    | none => exact defaultStep_ew hmk he ho
    | some r => exact specialStep_ew hmk r he ho

/-- `override.Merge` and `override.ExtendService`: the same merge rooted at `p`, with the fuel computed from the override -/
theorem rooted_ew (p : TPath) (F : Val → Val → Out Val)
    (hF : ∀ b o, F b o = match b, o with
      | .map _, .map _ => mergeYaml (fuelFor o) b o p
      | _, _ => .err "top-level")
    {base base' over over' : Val} (hb : EW base base') (ho : EW over over') :
    OutEqv EW (F base over) (F base' over') := by
  rw [hF, hF]
  cases hb.1 with
  | map _ _ =>
    cases ho.1 with
    | map _ _ =>
      simp only []
      rw [fuelFor_eqv ho.1 ho.2.1 ho.2.2]
      exact mergeYaml_ew _ p _ _ _ _ hb ho
    | _ => trivial
  | _ => trivial

theorem merge_ew {base base' over over' : Val} (hb : EW base base') (ho : EW over over') :
    OutEqv EW (merge base over) (merge base' over') := rooted_ew TPath.root merge (fun _ _ => rfl) hb ho

theorem ipam_rows_under_networks :
    ∀ row ∈ CV.Gen.mergeSpecials, (ruleOfName row.2).getD .unknown = Rule.ipam → row.1.head? = some "networks" := by
  decide +kernel

/-- paths below a top-level section other than `networks` (where `mergeIPAMConfig` lives) -/
def Below (p : TPath) : Prop := p ≠ [] ∧ p ≠ TPath.root ∧ p.head? ≠ some "networks"

end CV.Deep
