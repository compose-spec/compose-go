import ComposeVerif.Lemmas.NameDotenv
/-! A concrete world family and the small observers for the non-vacuity examples of `Props/C17.lean`, `Props/C17Loader.lean` and
`Neg/C17.lean`. -/
namespace CV.Name
open CV CV.Name.Spec

def fa : List (Str × Str) := [("V".toList, "a".toList), ("R".toList, "$V".toList), ("X".toList, "1".toList)]
def fb : List (Str × Str) := [("X".toList, "2".toList), ("S".toList, "$X$R".toList)]
def ft : List (Str × Str) := [("D".toList, "top".toList)]

/-- directory 0 holds the files handed to `NewProjectOptions`; directory 2 (`sub`, the process directory) is a
    child of directory 1 (`Top`), which holds default-named compose files and a `.env` -/
def mkW (os : List String) (given : List CfgRef) (n1 n2 : Str) (dir0 : Str) : World where
  dirs := [{ name := dir0, files := [("c1".toList, [some n1]), ("c2".toList, [some n2])] },
           { name := "Top".toList, dotEnv := some (.file (renderSimple ft)),
             files := [("docker-compose.yml".toList, [none]), ("compose.yaml".toList, [some "top".toList]),
                       ("compose.override.yml".toList, [none])] },
           { name := "sub".toList, parent := some 1 }]
  cwd := 2
  given := given
  paths := [("x.yaml".toList, { dir := 1, file := some "compose.yaml".toList })]
  os := strs os
  envFiles := [("a".toList, .file (renderSimple fa)), ("b".toList, .file (renderSimple fb))]
  probe := "$V$X".toList

def g12 : List CfgRef := [{ dir := 0, file := some "c1".toList }, { dir := 0, file := some "c2".toList }]
def exW : World := mkW ["COMPOSE_PROJECT_NAME=os", "V=o"] g12 "f1".toList "F.2".toList "My.Dir".toList

theorem la (os : List String) (g : List CfgRef) (n1 n2 d : Str) :
    lookupFile (mkW os g n1 n2 d) (.named "a".toList) = some (.file (renderSimple fa)) := by rfl
theorem lb (os : List String) (g : List CfgRef) (n1 n2 d : Str) :
    lookupFile (mkW os g n1 n2 d) (.named "b".toList) = some (.file (renderSimple fb)) := by rfl
theorem lt (os : List String) (g : List CfgRef) (n1 n2 d : Str) :
    lookupFile (mkW os g n1 n2 d) (.default 1) = some (.file (renderSimple ft)) := by rfl

def exDoc : List Opt := [.withEnv (strs ["Y=e"]), .withOsEnv, .withEnvFiles (strs ["a", "b"]), .withDotEnv]

def nameOf (r : Except Err Loaded) : Option String := r.toOption.map (fun l => String.ofList l.name)
def errOf (r : Except Err Loaded) : Option Err := match r with | .error e => some e | .ok _ => none
def varOf (k : String) (r : Except Err Loaded) : Option String := r.toOption.bind (fun l => (l.env.get k.toList).map String.ofList)

theorem ok_of_toOption {α : Type} {r : Except Err α} {a : α} (h : r.toOption = some a) : r = .ok a := by
  cases r with
  | ok b => exact congrArg Except.ok (Option.some.inj h)
  | error e => cases h

/-- explicit variable, OS variables, then the env files (`V=a` of file `a` is there, below the OS value) -/
def exEnv : Env :=
  [("Y".toList, "e".toList), ("V".toList, "o".toList), (cpn, "os".toList),
   ("V".toList, "a".toList), ("R".toList, "o".toList), ("X".toList, "2".toList), ("S".toList, "1o".toList)]

theorem exDoc_exW : runOpts exW exDoc { configs := exW.given } =
    .ok { configs := g12, envFiles := [.named "a".toList, .named "b".toList], env := exEnv } :=
  ok_of_toOption (by decide +kernel)

theorem run_exW_exDoc :
    run exW exDoc = .ok { name := "os".toList, env := (cpn, "os".toList) :: exEnv, probe := "o2".toList } := by
  rw [run, exDoc_exW]
  exact ok_of_toOption (by decide +kernel)

/-! the world of the boundary witnesses of `Neg/C17.lean` -/

def negFa : List (Str × Str) := [("V".toList, "a".toList), ("X".toList, "1".toList)]
def negFb : List (Str × Str) := [("X".toList, "2".toList), ("S".toList, "$X".toList)]

def negW : World where
  dirs := [{ name := "p".toList, files := [("c".toList, [none])] }]
  given := [{ dir := 0, file := some "c".toList }]
  os := strs ["V=o"]
  envFiles := [("a".toList, .file (renderSimple negFa)), ("b".toList, .file (renderSimple negFb))]
  probe := []

def exF : List (List (Option Str)) := [[some "one".toList], [none, some "$X".toList]]
def okL (r : Except Err Str) : Option String := r.toOption.map String.ofList
def errL {α} (r : Except Err α) : Option Err := match r with | .error e => some e | .ok _ => none

end CV.Name
