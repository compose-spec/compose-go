import ComposeVerif.Model.C02EnvLoop
/-! The services loops of `WithServicesEnvironmentResolved` / `WithServicesLabelsResolved` (`rangeServices`): the loop succeeds
iff every body does, and returns each service's own result.  Defines `isOkE`, `bodyVal`, which `Props/C02Env.lean` mentions. -/
namespace CV.Det.EnvLoop
open CV CV.EnvLayers

def isOkE {ε α : Type} : Except ε α → Bool
  | .ok _ => true
  | .error _ => false

theorem isOkE_eq_toBool {ε α : Type} (x : Except ε α) : isOkE x = x.toBool := by cases x <;> rfl

/-- the value a successful body returns (the argument itself where it fails: never used on a successful loop) -/
def bodyVal (body : Service → Except Err Service) (s : Service) : Service :=
  match body s with
  | .ok s' => s'
  | .error _ => s

theorem rangeServices_isOk (body : Service → Except Err Service) (m : List (Str × Service)) :
    isOkE (rangeServices body m) = m.all (fun p => isOkE (body p.2)) := by
  induction m with
  | nil => rfl
  | cons hd tl ih =>
    obtain ⟨n, s⟩ := hd
    simp only [rangeServices, List.all_cons, ← ih]
    cases body s <;> simp only [isOkE, Bool.false_and, Bool.true_and]
    cases rangeServices body tl <;> rfl

theorem rangeServices_ok_eq (body : Service → Except Err Service) (m r : List (Str × Service))
    (h : rangeServices body m = .ok r) : r = m.map (fun p => (p.1, bodyVal body p.2)) := by
  induction m generalizing r with
  | nil => simp only [rangeServices, Except.ok.injEq] at h; subst h; rfl
  | cons hd tl ih =>
    obtain ⟨n, s⟩ := hd
    simp only [rangeServices] at h
    cases hb : body s with
    | error e => rw [hb] at h; cases h
    | ok s' =>
      rw [hb] at h
      cases ht : rangeServices body tl with
      | error e => rw [ht] at h; cases h
      | ok r' =>
        rw [ht] at h
        simp only [Except.ok.injEq] at h
        subst h
        simp only [List.map_cons, bodyVal, hb, ih r' ht]

theorem rangeServices_perm_aux (body : Service → Except Err Service) {m m' : List (Str × Service)} (hp : m'.Perm m) :
    isOkE (rangeServices body m') = isOkE (rangeServices body m) ∧
    ∀ r r', rangeServices body m = .ok r → rangeServices body m' = .ok r' → r'.Perm r := by
  refine ⟨?_, fun r r' hr hr' => ?_⟩
  · rw [rangeServices_isOk, rangeServices_isOk]; exact hp.all_eq
  · rw [rangeServices_ok_eq body m r hr, rangeServices_ok_eq body m' r' hr']
    exact hp.map _

end CV.Det.EnvLoop
