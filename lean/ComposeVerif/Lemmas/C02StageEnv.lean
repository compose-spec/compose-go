import ComposeVerif.Model.Pipeline
import ComposeVerif.Lemmas.C02Walk
import ComposeVerif.Lemmas.C11Norm
/-! `ResolveEnvironment` (glue of loader.go: `Pipeline.resolveEnvironment` — the services loop, `resolveSecretsEnvironment`,
`resolveConfigsEnvironment`) treats two spellings of the model *and of the environment* alike and keeps keys distinct.
Defines `LookupSame`, which the statements of `Props/C02Whole.lean` mention; `mapVals` is C11's. -/
namespace CV.Det.Whole
open CV CV.Deep CV.Pipeline CV.Det.Stage
open CV.Val (lookup insert keys KVs)
open CV.C11 (mapVals)

def LookupSame (env env' : List (String × String)) : Prop := ∀ k, env.lookup k = env'.lookup k

theorem lookupSame_of_perm {env env' : List (String × String)} (hp : env'.Perm env)
    (hn : (env.map Prod.fst).Nodup) : LookupSame env env' := fun k => by
  rw [← Assoc.lookup_eq_list, ← Assoc.lookup_eq_list]
  exact (Assoc.lookup_perm hp ((hp.map Prod.fst).nodup_iff.2 hn)).symm

theorem mapVals_mrel (f f' : Val → Val) (hf : ∀ x y, EW x y → EW (f x) (f' y)) {a b : KVs} (h : MRel a b) :
    MRel (mapVals f a) (mapVals f' b) := by
  have hk : ∀ (g : Val → Val) (m : KVs), keys (mapVals g m) = keys m := fun g m => by
    simp only [keys, mapVals, List.map_map]; rfl
  refine MRel.of_lookup (by rw [hk]; exact h.2.1.1) (by rw [hk]; exact h.2.2.1) (fun k => ?_)
  rw [C11.lookup_mapVals, C11.lookup_mapVals]
  exact (h.lookups k).map hf

/-- the body of the secrets / configs loop -/
theorem resolveObj_ew (carrier : String) {env env' : List (String × String)} (hl : LookupSame env env') {x y : Val}
    (h : EW x y) : EW (Secrets.resolveObj carrier env x) (Secrets.resolveObj carrier env' y) := by
  cases h.1 with
  | @map a b _ _ =>
    have hm := EW.map_iff.mp h
    simp only [Secrets.resolveObj]
    rcases hm.lookup_eq_or "environment" with he | ⟨_, _, h1, h2⟩ | ⟨_, _, h1, h2⟩
    · rw [he]; split
      · split
        · exact h
        · rw [← hl]; split
          · exact EW.map_iff.mpr (hm.insert carrier (EW.refl (.str _)))
          · exact h
      · exact h
    · rw [h1, h2]; exact h
    · rw [h1, h2]; exact h
  | _ => exact h

theorem resolveObjs_eq (carrier : String) (env : List (String × String)) : ∀ objs : KVs,
    Secrets.resolveObjs carrier env objs = mapVals (Secrets.resolveObj carrier env) objs
  | [] => rfl
  | (n, cfg) :: r => by simp only [Secrets.resolveObjs, resolveObjs_eq carrier env r, mapVals, List.map_cons]

/-- `if sub, ok := m[k].(map[string]any); ok { m[k] = F(sub) }` for a rewriting `F` of the sub-mapping that respects
the equivalence -/
theorem mapAt_mrel (k : String) (G G' F F' : KVs → KVs)
    (hG : ∀ m, G m = match lookup k m with | some (.map s) => insert k (.map (F s)) m | _ => m)
    (hG' : ∀ m, G' m = match lookup k m with | some (.map s) => insert k (.map (F' s)) m | _ => m)
    (hF : ∀ s s', MRel s s' → MRel (F s) (F' s')) {a b : KVs} (h : MRel a b) : MRel (G a) (G' b) := by
  rw [hG, hG']
  cases ha : lookup k a with
  | none => rw [h.lookup_none ha]; exact h
  | some u =>
    obtain ⟨u', hb, e⟩ := h.lookup_some ha
    rw [hb]
    cases e.1 with
    | map _ _ => exact h.insert k (EW.map_iff.mpr (hF _ _ (EW.map_iff.mp e)))
    | _ => exact h

theorem resolveSection_mrel (sect carrier : String) {env env' : List (String × String)} (hl : LookupSame env env')
    {a b : KVs} (h : MRel a b) :
    MRel (Secrets.resolveSection sect carrier env a) (Secrets.resolveSection sect carrier env' b) :=
  mapAt_mrel sect _ _ (Secrets.resolveObjs carrier env) (Secrets.resolveObjs carrier env') (fun _ => rfl) (fun _ => rfl)
    (fun s s' hs => by
      rw [resolveObjs_eq, resolveObjs_eq]; exact mapVals_mrel _ _ (fun _ _ => resolveObj_ew carrier hl) hs) h

/-- the `environment` sequence of one service in `resolveServicesEnvironment` -/
theorem resolveEnvItems_ew {env env' : List (String × String)} (hl : LookupSame env env') {xs ys : List Val}
    (h : Eqv (.seq xs) (.seq ys)) :
    EW (.seq (xs.filterMap (resolveEnvItem env))) (.seq (ys.filterMap (resolveEnvItem env'))) := by
  refine Eqv.seq_induct (P := fun xs ys => EW (.seq (xs.filterMap (resolveEnvItem env))) (.seq (ys.filterMap (resolveEnvItem env'))))
    (EW.refl .seqNil) (fun hx _ ih => ?_) h
  cases hx with
  | str s =>
    simp only [List.filterMap_cons, resolveEnvItem, ← hl s]
    cases env.lookup s <;> exact EW.seqCons_iff.mpr ⟨EW.refl (.str _), ih⟩
  | _ => exact ih

theorem resolveServiceEnv_ew {env env' : List (String × String)} (hl : LookupSame env env') {x y : Val} (h : EW x y) :
    EW (resolveServiceEnv env x) (resolveServiceEnv env' y) := by
  cases h.1 with
  | @map a b _ _ =>
    have hm := EW.map_iff.mp h
    simp only [resolveServiceEnv]
    cases ha : lookup "environment" a with
    | none => rw [hm.lookup_none ha]; exact h
    | some u =>
      obtain ⟨u', hb, e⟩ := hm.lookup_some ha
      rw [hb]
      cases e.1 with
      | seqNil => exact EW.map_iff.mpr (hm.insert "environment" (resolveEnvItems_ew hl .seqNil))
      | seqCons e1 e2 => exact EW.map_iff.mpr (hm.insert "environment" (resolveEnvItems_ew hl (.seqCons e1 e2)))
      | _ => exact h
  | _ => exact h

theorem resolveServicesEnv_mrel {env env' : List (String × String)} (hl : LookupSame env env') {a b : KVs}
    (h : MRel a b) : MRel (resolveServicesEnv env a) (resolveServicesEnv env' b) :=
  mapAt_mrel "services" _ _ (mapVals (resolveServiceEnv env)) (mapVals (resolveServiceEnv env')) (fun _ => rfl)
    (fun _ => rfl) (fun _ _ hs => mapVals_mrel _ _ (fun _ _ => resolveServiceEnv_ew hl) hs) h

theorem resolveEnvironment_mrel {env env' : List (String × String)} (hl : LookupSame env env') {a b : KVs}
    (h : MRel a b) : MRel (resolveEnvironment env a) (resolveEnvironment env' b) := by
  unfold resolveEnvironment Secrets.resolveConfigsEnv Secrets.resolveSecretsEnv
  exact resolveSection_mrel _ _ hl (resolveSection_mrel _ _ hl (resolveServicesEnv_mrel hl h))

end CV.Det.Whole
