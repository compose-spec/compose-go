import ComposeVerif.Spec.Frame
import ComposeVerif.Lemmas.KVs
/-! What `getPath … = some v` and `Unmentioned` (`Spec/Frame.lean`: "the later file does not mention this key path") say at a
non-empty path, as inversions.  A file of its own because the frame law is proved twice along a key path — through
`override.Merge` (`Props/C04Frame.lean`) and through `EnforceUnicity` (`Props/C04FrameFold.lean`) — and the specification file
holds definitions only. -/
namespace CV.Override
open CV CV.Val CV.Merge

theorem getPath_cons_some {e v : Val} {k : String} {r : List String} :
    getPath e (k :: r) = some v ↔ ∃ a x, e = .map a ∧ lookup k a = some x ∧ getPath x r = some v := by
  cases e <;> simp [getPath, Option.bind_eq_some_iff]

theorem unmentioned_cons {o : Val} {k : String} {r : List String} :
    Unmentioned o (k :: r) ↔ ∃ b, o = .map b ∧ (keys b).Nodup ∧ ∀ y, lookup k b = some y → Unmentioned y r := by
  constructor
  · intro h
    cases o with
    | map b => exact ⟨b, rfl, h.1, fun y hy => by have := h.2; rwa [hy] at this⟩
    | _ => exact False.elim h
  · rintro ⟨b, rfl, hnd, hc⟩
    refine ⟨hnd, ?_⟩
    split
    · trivial
    · next y hy => exact hc y hy

theorem unmentioned_nil (o : Val) : ¬ Unmentioned o [] := by cases o <;> simp [Unmentioned]

end CV.Override
