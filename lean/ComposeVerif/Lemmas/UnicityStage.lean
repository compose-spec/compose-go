import ComposeVerif.Lemmas.Unicity
/-! For "a single entry per key after every document" (`Props/C04Stage.lean`): the entries `dedup` keeps still carry their
keys (`indexAll_dedup`), which carries both idempotence and the meaning of the fixed point. -/
namespace CV.Unicity
open CV CV.Val CV.Merge

theorem foldl_step_all (P : String × Val → Prop) : ∀ (l : List (String × Val)) (acc : KVs),
    (∀ e ∈ acc, P e) → (∀ e ∈ l, P e) → ∀ e ∈ l.foldl step acc, P e := by
  intro l
  induction l with
  | nil => intro acc ha _ e he; exact ha e he
  | cons hd tl ih =>
    intro acc ha hl
    apply ih
    · intro e he
      rcases mem_insert he with h | h
      · rw [h]; exact hl hd (by simp)
      · exact ha e h
    · intro e he; exact hl e (by simp [he])

theorem indexAll_zip (ix : Indexer) : ∀ (xs : List Val) (ks : List String), indexAll ix xs = .ok ks →
    ∀ e ∈ ks.zip xs, index ix e.2 = .ok e.1
  | [], _, _, e, he => by simp at he
  | x :: r, _, h, e, he => by
    obtain ⟨k, ks', hk, hks, rfl⟩ := indexAll_cons_ok h
    rcases List.mem_cons.1 he with rfl | he
    · exact hk
    · exact indexAll_zip ix r ks' hks e he

theorem indexAll_of_pairs (ix : Indexer) : ∀ (d : KVs), (∀ e ∈ d, index ix e.2 = .ok e.1) →
    indexAll ix (d.map Prod.snd) = .ok (d.map Prod.fst) := by
  intro d
  induction d with
  | nil => intro _; rfl
  | cons hd tl ih =>
    intro h
    simp only [List.map_cons, indexAll, h hd (by simp), Out.bind, ih (fun e he => h e (by simp [he]))]

theorem indexAll_dedup (ix : Indexer) (xs : List Val) (ks : List String) (hk : indexAll ix xs = .ok ks) :
    indexAll ix (dedup ks xs) = .ok ((dedupKVs (ks.zip xs)).map Prod.fst) :=
  indexAll_of_pairs ix _ (by
    rw [dedupKVs_eq]
    exact foldl_step_all _ _ [] (fun e he => nomatch he) (indexAll_zip ix xs ks hk))

theorem zip_fst_snd (d : KVs) : (d.map Prod.fst).zip (d.map Prod.snd) = d := by
  simpa using List.zip_unzip d

theorem length_foldl_addKey : ∀ (ks acc : List String), (ks.foldl addKey acc).length ≤ acc.length + ks.length := by
  intro ks
  induction ks with
  | nil => intro acc; simp
  | cons k r ih =>
    intro acc
    simp only [List.foldl_cons, List.length_cons]
    have := ih (addKey acc k)
    have h2 : (addKey acc k).length ≤ acc.length + 1 := by
      unfold addKey; split <;> simp
    omega

end CV.Unicity
