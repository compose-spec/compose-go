import ComposeVerif.Model.Str
import ComposeVerif.Lemmas.ScanRun
/-!
# Scanning a list of characters

What every hand-written scanner of the models needs and no topic owns: runs of a class (`Lemmas/ScanRun.lean`), and here
`strings.Index` / `strings.Cut` (`Model/Str`) on a text that is written as "a prefix in which the pattern starts
nowhere (for instance because its first character does not occur there), then the pattern".  Splitting at ONE character, joining, and decimal digits are in core (`List.splitOn_intercalate`,
`List.intercalate_splitOn`, `Nat.ofDigitChars_toDigits`, …): a topic bridges its own copy of such a function to core's by
one equation, next to the function's other lemmas.
-/
namespace CV.Scan

theorem indexOfGo_ge (pat s : Str) (i j : Nat) (h : indexOfGo pat s i = some j) : i ≤ j := by
  induction s generalizing i with
  | nil => rw [indexOfGo] at h; split at h <;> cases h; exact Nat.le_refl _
  | cons c cs ih =>
    rw [indexOfGo] at h
    split at h
    · cases h; exact Nat.le_refl _
    · exact Nat.le_of_succ_le (ih _ h)

theorem indexOfGo_hit (pat X : Str) (i : Nat) : indexOfGo pat (pat ++ X) i = some i := by
  have hp : pat.isPrefixOf (pat ++ X) = true := List.isPrefixOf_iff_prefix.mpr (List.prefix_append pat X)
  cases h : pat ++ X with
  | nil => rw [indexOfGo, List.append_eq_nil_iff.mp h |>.1]; rfl
  | cons c cs => rw [indexOfGo, ← h, if_pos hp]

theorem indexOfGo_skip_of (pat b : Str) : ∀ (a : Str) (i : Nat),
    (∀ k, k < a.length → pat.isPrefixOf (a.drop k ++ b) = false) →
    indexOfGo pat (a ++ b) i = indexOfGo pat b (i + a.length)
  | [], _, _ => rfl
  | x :: a, i, h => by
    have h0 : pat.isPrefixOf (x :: (a ++ b)) = false := h 0 (Nat.zero_lt_succ _)
    rw [List.cons_append, indexOfGo, if_neg (by rw [h0]; decide),
      indexOfGo_skip_of pat b a (i + 1) (fun k hk => h (k + 1) (Nat.succ_lt_succ hk)),
      List.length_cons, Nat.add_right_comm, Nat.add_assoc]

theorem cut_at (pat a b : Str) (h : ∀ k, k < a.length → pat.isPrefixOf (a.drop k ++ (pat ++ b)) = false) :
    cut pat (a ++ (pat ++ b)) = (a, b) := by
  rw [cut, indexOf, indexOfGo_skip_of pat _ a 0 h, indexOfGo_hit, Nat.zero_add]
  dsimp only
  rw [List.take_left' rfl, ← List.drop_drop, List.drop_left' rfl, List.drop_left' rfl]

theorem cut_none_of (pat s : Str) (hne : pat ≠ []) (h : ∀ k, k < s.length → pat.isPrefixOf (s.drop k) = false) :
    cut pat s = (s, []) := by
  have := indexOfGo_skip_of pat [] s 0 (by simpa using h)
  rw [List.append_nil] at this
  rw [cut, indexOf, this, indexOfGo]
  cases pat with
  | nil => exact absurd rfl hne
  | cons _ _ => rfl

theorem no_start (p0 : Char) (pt a b : Str) (h : ∀ c ∈ a, c ≠ p0) :
    ∀ k, k < a.length → (p0 :: pt).isPrefixOf (a.drop k ++ b) = false := by
  intro k hk
  rw [List.drop_eq_getElem_cons hk, List.cons_append]
  simp only [List.isPrefixOf, Bool.and_eq_false_imp, beq_iff_eq]
  exact fun e => absurd e.symm (h _ (List.getElem_mem hk))

theorem indexOfGo_skip (p0 : Char) (pt pre s : Str) (i : Nat) (hpre : ∀ c ∈ pre, c ≠ p0) :
    indexOfGo (p0 :: pt) (pre ++ s) i = indexOfGo (p0 :: pt) s (i + pre.length) :=
  indexOfGo_skip_of _ s pre i (no_start p0 pt pre s hpre)

theorem indexOf_first (p0 : Char) (pt pre X : Str) (hpre : ∀ c ∈ pre, c ≠ p0) :
    indexOf (p0 :: pt) (pre ++ (p0 :: (pt ++ X))) = some pre.length := by
  rw [indexOf, indexOfGo_skip p0 pt pre _ 0 hpre, Nat.zero_add]
  exact indexOfGo_hit (p0 :: pt) X _

theorem indexOf_none (p0 : Char) (pt s : Str) (hs : ∀ c ∈ s, c ≠ p0) : indexOf (p0 :: pt) s = none := by
  have := indexOfGo_skip p0 pt s [] 0 hs
  rwa [List.append_nil] at this

theorem cut_first (p0 : Char) (pt pre X : Str) (hpre : ∀ c ∈ pre, c ≠ p0) :
    cut (p0 :: pt) (pre ++ (p0 :: (pt ++ X))) = (pre, X) :=
  cut_at (p0 :: pt) pre X (no_start p0 pt pre _ hpre)

theorem cut_none (p0 : Char) (pt s : Str) (hs : ∀ c ∈ s, c ≠ p0) : cut (p0 :: pt) s = (s, []) :=
  cut_none_of _ s (by simp) (by simpa using no_start p0 pt s [] hs)

/-- the one-character pattern, in the form `rw` finds -/
theorem indexOf_char (c : Char) (a b : Str) (h : ∀ x ∈ a, x ≠ c) : indexOf [c] (a ++ c :: b) = some a.length :=
  indexOf_first c [] a b h

theorem cut_char (c : Char) (a b : Str) (h : ∀ x ∈ a, x ≠ c) : cut [c] (a ++ c :: b) = (a, b) :=
  cut_first c [] a b h

theorem indexOfGo_spec (pat : Str) : ∀ (s : Str) (i j : Nat), indexOfGo pat s i = some j →
    ∃ k, j = i + k ∧ k + pat.length ≤ s.length ∧ s = s.take k ++ pat ++ s.drop (k + pat.length)
  | [], i, j, h => by
    unfold indexOfGo at h
    split at h
    · rename_i he
      cases h
      have : pat = [] := by simpa using he
      subst this
      exact ⟨0, rfl, by simp, by simp⟩
    · cases h
  | c :: cs, i, j, h => by
    unfold indexOfGo at h
    split at h
    · rename_i hp
      cases h
      refine ⟨0, rfl, ?_, ?_⟩
      · have := (List.isPrefixOf_iff_prefix.mp hp).length_le; simpa using this
      · have hpre := List.isPrefixOf_iff_prefix.mp hp
        simpa using (List.prefix_iff_eq_append.mp hpre).symm
    · obtain ⟨k, hk, hlen, heq⟩ := indexOfGo_spec pat cs (i + 1) j h
      refine ⟨k + 1, by omega, by simp; omega, ?_⟩
      simp only [List.take_succ_cons, List.cons_append, List.cons.injEq, true_and]
      have : k + 1 + pat.length = (k + pat.length) + 1 := by omega
      rw [this, List.drop_succ_cons]
      exact heq

theorem indexOf_some_spec (pat s : Str) (i : Nat) (h : indexOf pat s = some i) :
    i + pat.length ≤ s.length ∧ s = s.take i ++ pat ++ s.drop (i + pat.length) := by
  obtain ⟨k, hk, hl, he⟩ := indexOfGo_spec pat s 0 i h
  have : i = k := by omega
  subst this
  exact ⟨hl, he⟩

theorem cut_snd_length (sep s : Str) : (cut sep s).2.length ≤ s.length := by
  unfold cut; split <;> simp

end CV.Scan
