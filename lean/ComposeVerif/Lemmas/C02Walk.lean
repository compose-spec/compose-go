import ComposeVerif.Lemmas.C02Deep
/-!
### tree walks with handlers

`interpolation.Interpolate`, `transform.Canonical`, `transform.SetDefaultValues` and `paths.ResolveRelativePaths` are
one algorithm: at a node either a handler (chosen by the path and the kind of the node) takes the whole subtree, or the
walk descends — `for k, v := range m { r, err := rec(p.Next(k), v); if err != nil { return err }; m[k] = r }` on a
mapping, the same over the elements of a sequence — and leaves a scalar as it is.  `walkStep` is that step with failures
collapsed to `none` (which failure is reported first depends on the order; whether there is one does not).  A function
that satisfies the step equation relates its results on two spellings of one tree by `Q` if its handlers do (`walk_rel`),
for every relation `Q` closed under the constructors (`TreeRel`): `Eqv` — the results are again two spellings of one
tree — and `EW` — with keys distinct in both.

Defines `travOpt`, `travList` (the two loops with failures collapsed), which `Props/C02Stages.lean` mentions.
-/
namespace CV.Det.Stage
open CV CV.Deep
open CV.Det.Whole (EW)
open CV.Val (lookup insert keys KVs lookup_cons_self lookup_cons_ne)

def travOpt (g : String → Val → Option Val) : KVs → Option KVs
  | [] => some []
  | (k, v) :: r =>
    match g k v with
    | none => none
    | some t =>
      match travOpt g r with
      | none => none
      | some r' => some ((k, t) :: r')

theorem travOpt_isSome (g : String → Val → Option Val) (m : KVs) :
    (travOpt g m).isSome = m.all (fun kv => (g kv.1 kv.2).isSome) := by
  induction m with
  | nil => rfl
  | cons hd tl ih =>
    obtain ⟨k, v⟩ := hd
    simp only [travOpt, List.all_cons]
    cases g k v with
    | none => rfl
    | some t =>
      simp only [Option.isSome_some, Bool.true_and, ← ih]
      cases travOpt g tl <;> rfl

theorem travOpt_congr {g g' : String → Val → Option Val} : ∀ {m : KVs}, (∀ k v, (k, v) ∈ m → g k v = g' k v) →
    travOpt g m = travOpt g' m
  | [], _ => rfl
  | (k, v) :: r, h => by
    simp only [travOpt, h k v List.mem_cons_self,
      travOpt_congr (m := r) fun k' v' hm => h k' v' (List.mem_cons_of_mem _ hm)]

theorem travOpt_some (g : String → Val → Option Val) : ∀ {m r : KVs}, travOpt g m = some r →
    keys r = keys m ∧ ∀ k, lookup k r = (lookup k m).bind (g k)
  | [], r, h => by cases h; exact ⟨rfl, fun _ => rfl⟩
  | (k0, v0) :: tl, r, h => by
    simp only [travOpt] at h
    cases hg : g k0 v0 with
    | none => rw [hg] at h; cases h
    | some t =>
      cases ht : travOpt g tl with
      | none => rw [hg, ht] at h; cases h
      | some r' =>
        rw [hg, ht] at h; cases h
        obtain ⟨hk, hl⟩ := travOpt_some g ht
        refine ⟨by simp only [keys, List.map_cons] at hk ⊢; rw [hk], fun k => ?_⟩
        by_cases e : k = k0
        · subst e; rw [lookup_cons_self, lookup_cons_self]; exact hg.symm
        · rw [lookup_cons_ne e, lookup_cons_ne e]; exact hl k

theorem travOpt_perm (g : String → Val → Option Val) {m m' : KVs} (hn : (keys m).Nodup) (hp : m'.Perm m) :
    (travOpt g m').isSome = (travOpt g m).isSome ∧
    ∀ r r', travOpt g m = some r → travOpt g m' = some r' → r'.Perm r ∧ ∀ k, lookup k r' = lookup k r := by
  refine ⟨by rw [travOpt_isSome, travOpt_isSome, hp.all_eq], ?_⟩
  intro r r' h h'
  obtain ⟨hk, hl⟩ := travOpt_some g h
  obtain ⟨hk', hl'⟩ := travOpt_some g h'
  have hn' : (keys m').Nodup := (hp.map Prod.fst).nodup_iff.mpr hn
  have hlk : ∀ k, lookup k r' = lookup k r := fun k => by rw [hl, hl', CV.Merge.lookup_perm hn hp]
  refine ⟨perm_of_find_eq r' r (by rw [akeys_eq_keys, hk']; exact hn') (by rw [akeys_eq_keys, hk]; exact hn) ?_, hlk⟩
  intro k; rw [find_eq_lookup, find_eq_lookup]; exact hlk k

theorem travOpt_rel {Q : Val → Val → Prop} (g g' : String → Val → Option Val) {a b : KVs} (hm : MRel a b)
    (hg : ∀ k x y, lookup k a = some x → lookup k b = some y → ORel Q (g k x) (g' k y)) :
    ORel (fun r r' => keys r = keys a ∧ keys r' = keys b ∧ ∀ k, ORel Q (lookup k r) (lookup k r'))
      (travOpt g a) (travOpt g' b) := by
  have hsome : (travOpt g a).isSome = (travOpt g' b).isSome := by
    rw [travOpt_isSome, travOpt_isSome]; exact hm.all_eq fun k x y hx hy _ => (hg k x y hx hy).isSome
  cases hra : travOpt g a <;> cases hrb : travOpt g' b <;> rw [hra, hrb] at hsome <;>
    first | trivial | cases hsome | skip
  refine ⟨(travOpt_some g hra).1, (travOpt_some g' hrb).1, fun k => ?_⟩
  rw [(travOpt_some g hra).2, (travOpt_some g' hrb).2]
  rcases (hm.lookups k).none_or_some with ⟨h1, h2⟩ | ⟨x, y, h1, h2, _⟩ <;> rw [h1, h2]
  · trivial
  · exact hg k x y h1 h2

theorem travOpt_meqv (g g' : String → Val → Option Val) {a b : KVs} (hm : MEqv a b) (wa : MWF a) (wb : MWF b)
    (hg : ∀ k x y, lookup k a = some x → lookup k b = some y → ORel Eqv (g k x) (g' k y)) :
    ORel MEqv (travOpt g a) (travOpt g' b) :=
  (travOpt_rel g g' ⟨hm, wa, wb⟩ hg).mono fun _ _ hr => MEqv.of_lookup hr.2.2

def travList (g : Val → Option Val) : List Val → Option (List Val)
  | [] => some []
  | x :: r =>
    match g x with
    | none => none
    | some t =>
      match travList g r with
      | none => none
      | some r' => some (t :: r')

theorem travList_cons (g : Val → Option Val) (x : Val) (xs : List Val) :
    travList g (x :: xs) = (g x).bind fun t => (travList g xs).map (t :: ·) := by
  simp only [travList]; cases g x <;> simp only [Option.bind]; cases travList g xs <;> rfl

theorem travList_eqv (g g' : Val → Option Val) : ∀ {xs ys : List Val}, Eqv (.seq xs) (.seq ys) →
    (∀ x y, x ∈ xs → y ∈ ys → Eqv x y → ORel Eqv (g x) (g' y)) →
    ORel (fun l l' => Eqv (.seq l) (.seq l')) (travList g xs) (travList g' ys)
  | [], _, h, _ => by cases h; exact Eqv.seqNil
  | x :: r, _, h, hg => by
    cases h with | seqCons hxy hr =>
    rw [travList_cons, travList_cons]
    exact (hg x _ List.mem_cons_self List.mem_cons_self hxy).bind fun _ _ ht =>
      (travList_eqv g g' hr fun a b ha hb => hg a b (List.mem_cons_of_mem _ ha) (List.mem_cons_of_mem _ hb)).map
        fun _ _ hl => .seqCons ht hl

/-- one step of a tree walk: `h p v = some r` — a handler takes the node `v` at `p` and returns `r`; `none` — the walk
descends with `w` (itself, in the step equation) along `nk` (`tree.Path.Next`) -/
def walkStep (h : TPath → Val → Option (Option Val)) (nk : TPath → String → TPath) (w : TPath → Val → Option Val)
    (p : TPath) (v : Val) : Option Val :=
  match h p v with
  | some r => r
  | none =>
    match v with
    | .map kvs => (travOpt (fun k x => w (nk p k) x) kvs).map .map
    | .seq xs => (travList (w (nk p "[]")) xs).map .seq
    | v => some v

structure TreeRel (Q : Val → Val → Prop) : Prop where
  leaf : ∀ v, WF v → (∀ m, v ≠ .map m) → (∀ l, v ≠ .seq l) → Q v v
  map : ∀ {a b r r' : KVs}, MRel a b → keys r = keys a → keys r' = keys b →
    (∀ k, ORel Q (lookup k r) (lookup k r')) → Q (.map r) (.map r')
  nil : Q (.seq []) (.seq [])
  cons : ∀ {x y : Val} {xs ys : List Val}, Q x y → Q (.seq xs) (.seq ys) → Q (.seq (x :: xs)) (.seq (y :: ys))

theorem treeRel_eqv : TreeRel Eqv where
  leaf v _ _ _ := eqvRefl v
  map _ _ _ h := Eqv.map_iff.mpr (MEqv.of_lookup h)
  nil := .seqNil
  cons := .seqCons

theorem treeRel_ew : TreeRel EW where
  leaf _ wv _ _ := EW.refl wv
  map hm hk hk' h := EW.map_iff.mpr (MRel.of_lookup (hk ▸ hm.2.1.1) (hk' ▸ hm.2.2.1) h)
  nil := EW.refl .seqNil
  cons h1 h2 := EW.seqCons_iff.mpr ⟨h1, h2⟩

def Resp {O : Type} (Q : Val → Val → Prop) (opt : O → Option Val) (f : Val → O) : Prop :=
  ∀ v w, EW v w → ORel Q (opt (f v)) (opt (f w))

variable {h : TPath → Val → Option (Option Val)} {nk : TPath → String → TPath} {w : TPath → Val → Option Val}

/-- `I`: a set of paths closed under `nk` on which the step equation and the hypothesis on the handlers hold -/
theorem walk_rel {Q : Val → Val → Prop} (hQ : TreeRel Q) (I : TPath → Prop) (hI : ∀ p k, I p → I (nk p k))
    (hw : ∀ p v, I p → w p v = walkStep h nk w p v)
    (hh : ∀ p v v', I p → EW v v' → ORel (ORel Q) (h p v) (h p v')) {v v' : Val} (e : EW v v') :
    ∀ p, I p → ORel Q (w p v) (w p v') := by
  -- a handler takes both nodes, or the walk descends into both
  have pre : ∀ {v v'} p, I p → EW v v' →
      ORel Q (walkStep (fun _ _ => none) nk w p v) (walkStep (fun _ _ => none) nk w p v') → ORel Q (w p v) (w p v') := by
    intro v v' p hp e hd
    have hr := hh p v v' hp e
    rw [hw p v hp, hw p v' hp]
    unfold walkStep at hd ⊢
    cases h1 : h p v <;> cases h2 : h p v' <;> rw [h1, h2] at hr <;> first | exact hr.elim | exact hr | exact hd
  refine (EW.induct (P := fun v v' => ∀ p, I p → ORel Q (w p v) (w p v'))
    (PL := fun xs ys => ∀ q, I q → ORel (fun l l' => Q (.seq l) (.seq l')) (travList (w q) xs) (travList (w q) ys))
    (fun v wv h1 h2 p hp => pre p hp (EW.refl wv) ?_) (fun a b hm ih p hp => pre p hp (EW.map_iff.mpr hm) ?_)
    (fun xs ys e hl p hp => pre p hp e ?_) (fun _ _ => hQ.nil) (fun x y xs ys _ h1 h2 q hq => ?_) e)
  · cases v <;> first | exact hQ.leaf _ wv h1 h2 | exact absurd rfl (h1 _) | exact absurd rfl (h2 _)
  · exact (travOpt_rel _ _ hm fun k x y hx hy => ih k x y hx hy (nk p k) (hI p k hp)).map
      fun _ _ hr => hQ.map hm hr.1 hr.2.1 hr.2.2
  · exact (hl (nk p "[]") (hI p _ hp)).map fun _ _ hr => hr
  · rw [travList_cons, travList_cons]
    exact (h1 q hq).bind fun _ _ ht => (h2 q hq).map fun _ _ hl => hQ.cons ht hl

end CV.Det.Stage
