import ComposeVerif.Lemmas.Fanout
/-!
# Every step of the fan-out transition system preserves `CV.Fanout.Inv`

`Step` is `step?` as a relation.  `Inv` falls into five groups, each about a few components of the state
(`Sched`, `Pipe`, `Final`, `Errs`, `Calls`); a step keeps a group whose components it leaves alone, and the steps that
move one worker, or only the collector, are handled together.
-/
namespace CV.Fanout

variable {cfg : Cfg} {s s' : St} {l : Label}

inductive Step (cfg : Cfg) (s : St) : Label → St → Prop
  | mRead {m'} : s.m = .read → m' = (if s.c = .notStarted then .spawnC else .spawning cfg.svcs) →
      Step cfg s .mRead { s with m := m' }
  | mSpawnC {c'} : s.m = .spawnC → s.c = .notStarted → c' = (if s.expect = 0 then .fin else .sel) →
      Step cfg s .mSpawnC { s with m := .spawning cfg.svcs, c := c' }
  | mSpawn {v todo} : s.m = .spawning todo → v ∈ todo →
      Step cfg s (.mSpawn v) { s with m := .spawning (todo.erase v), w := set s.w v .start }
  | mWait : s.m = .spawning [] → Step cfg s .mWait { s with m := .waiting }
  | mReturn : s.m = .waiting → s.c = .gone → (cfg.svcs.all fun v => !(live (s.w v))) = true →
      Step cfg s .mReturn { s with m := .returned }
  | wBegin {v} : s.w v = .start → Step cfg s (.wBegin v) { s with w := set s.w v .running, calls := s.calls ++ [v] }
  | wReturn {v} : s.w v = .running → Step cfg s (.wReturn v) { s with w := set s.w v .returned }
  | wSend {v r} : s.w v = .returned → cfg.fn v = some r → s.ch.length < cfg.svcs.length →
      Step cfg s (.wSend v) { s with w := set s.w v .sent, ch := s.ch ++ [(v, r)], item := set s.item v .inCh }
  | wFail {v e} : s.w v = .returned → cfg.fn v = none → e = s.firstErr.getD v →
      Step cfg s (.wFail v) { s with w := set s.w v .failed, cancelled := true, firstErr := some e,
                                     fails := s.fails ++ [v] }
  | wExit {v} : s.w v = .sent → Step cfg s (.wExit v) { s with w := set s.w v .exited }
  | cRecv {v r rest} : s.c = .sel → s.ch = (v, r) :: rest →
      Step cfg s .cRecv { s with c := .got v r, ch := rest, item := set s.item v .got }
  | cCtxDone : s.c = .sel → s.cancelled = true → Step cfg s .cCtxDone { s with c := .done }
  | cStore {v r c'} : s.c = .got v r → c' = (if s.expect - 1 = 0 then .fin else .sel) →
      Step cfg s .cStore { s with acc := set s.acc v (some r), expect := s.expect - 1, c := c',
                                  item := set s.item v .stored }
  | cReturn : s.c = .done → Step cfg s .cReturn { s with c := .gone }
  | cExit : s.c = .fin → Step cfg s .cExit { s with c := .gone, services := some s.acc }

/-- unfold one step: case split on the guards, substitute the successor state -/
macro "unfold_step" h:ident : tactic =>
  `(tactic| (simp only [step?] at $h:ident <;> (repeat' split at $h:ident) <;> (try cases $h:ident) <;> (try dsimp only at *)))

theorem step_of_step? (h : step? cfg s l = some s') : Step cfg s l s' := by
  -- per label, the branch of `step?` that returns a state is the label's constructor (guards from the split)
  cases l <;> unfold_step h <;> constructor <;> first | assumption | simp [*]

theorem step?_of_step (h : Step cfg s l s') : step? cfg s l = some s' := by
  cases h <;> simp [step?, *]
  cases s.firstErr <;> rfl

/-- who has been started and who is through -/
structure Sched (cfg : Cfg) (m : MPc) (w : V → WPc) (c : CPc) : Prop where
  wSvcs : ∀ v, w v ≠ .idle → v ∈ cfg.svcs
  cStart : (m = .read ∨ m = .spawnC) ↔ c = .notStarted
  pre : (m = .read ∨ m = .spawnC) → ∀ v, w v = .idle
  todo : ∀ t, m = .spawning t → t.Nodup ∧ ∀ v ∈ t, v ∈ cfg.svcs ∧ w v = .idle
  todoAll : ∀ t, m = .spawning t → ∀ v ∈ cfg.svcs, w v = .idle → v ∈ t
  waitAll : (m = .waiting ∨ m = .returned) → ∀ v ∈ cfg.svcs, w v ≠ .idle
  ret : m = .returned → c = .gone ∧ ∀ v ∈ cfg.svcs, live (w v) = false

/-- where each result is (`item`), and the collector's count -/
structure Pipe (cfg : Cfg) (w : V → WPc) (ch : List (V × Nat)) (c : CPc) (expect : Nat) (acc : V → Option Nat)
    (item : V → Item) : Prop where
  itemW : ∀ v, item v ≠ .none → (w v = .sent ∨ w v = .exited)
  chItem : ∀ v r, (v, r) ∈ ch → item v = .inCh ∧ cfg.fn v = some r
  chNodup : (ch.map Prod.fst).Nodup
  gotItem : ∀ v r, c = .got v r → item v = .got ∧ cfg.fn v = some r
  accItem : ∀ v, acc v ≠ none ↔ item v = .stored
  accFn : ∀ v r, acc v = some r → cfg.fn v = some r
  expectCount : expect + (cfg.svcs.filter (fun v => item v == .stored)).length = cfg.svcs.length
  chCount : ch.length + gotBit c + cfg.svcs.length = (cfg.svcs.filter (fun v => sentOrExited (w v))).length + expect
  cPos : (c = .sel ∨ ∃ v r, c = .got v r) → 1 ≤ expect
  cFin : c = .fin → expect = 0

/-- how the collector leaves: `done` only when cancelled, `services` assigned only from `fin` -/
structure Final (c : CPc) (services : Option (V → Option Nat)) (acc : V → Option Nat) (expect : Nat)
    (cancelled : Bool) : Prop where
  cDone : c = .done → cancelled = true
  gone : c = .gone → (services = some acc ∧ expect = 0) ∨ (services = none ∧ cancelled = true)
  svcNone : c ≠ .gone → services = none

/-- errgroup: cancelled iff an error is recorded, and that is the first failure -/
structure Errs (cfg : Cfg) (w : V → WPc) (cancelled : Bool) (firstErr : Option V) (fails : List V) : Prop where
  cancelIff : cancelled = true ↔ firstErr ≠ none
  errFails : firstErr = fails.head?
  failsW : ∀ v, v ∈ fails ↔ w v = .failed
  failedFn : ∀ v, w v = .failed → cfg.fn v = none

/-- the function has been called once for exactly the workers past `start` -/
structure Calls (w : V → WPc) (calls : List V) : Prop where
  callsNodup : calls.Nodup
  callsW : ∀ v, v ∈ calls ↔ (w v ≠ .idle ∧ w v ≠ .start)

theorem Inv.of_groups (h₁ : Sched cfg s.m s.w s.c) (h₂ : Pipe cfg s.w s.ch s.c s.expect s.acc s.item)
    (h₃ : Final s.c s.services s.acc s.expect s.cancelled) (h₄ : Errs cfg s.w s.cancelled s.firstErr s.fails)
    (h₅ : Calls s.w s.calls) : Inv cfg s :=
  { h₁, h₂, h₃, h₄, h₅ with }

theorem sentOrExited_iff {y : WPc} : sentOrExited y = true ↔ (y = .sent ∨ y = .exited) := by
  cases y <;> simp [sentOrExited]

/-- the collector after a count: through when nothing is expected any more -/
theorem counted {e : Nat} {c : CPc} (hc : c = if e = 0 then .fin else .sel) :
    gotBit c = 0 ∧ (∀ v r, c ≠ .got v r) ∧ ((c = .sel ∨ ∃ v r, c = .got v r) → 1 ≤ e) ∧ (c = .fin → e = 0) := by
  subst hc
  by_cases h : e = 0
  · rw [if_pos h]; exact ⟨rfl, nofun, by simp, fun _ => h⟩
  · rw [if_neg h]; exact ⟨rfl, nofun, fun _ => Nat.pos_of_ne_zero h, nofun⟩

theorem counted_ne {e : Nat} {c y : CPc} (hc : c = if e = 0 then .fin else .sel) (h₁ : y ≠ .fin) (h₂ : y ≠ .sel) : c ≠ y := by
  subst hc
  split
  · exact h₁.symm
  · exact h₂.symm

variable {m : MPc} {w : V → WPc} {c c' : CPc} {ch : List (V × Nat)} {expect : Nat} {acc : V → Option Nat}
  {item : V → Item} {services : Option (V → Option Nat)} {cancelled : Bool} {firstErr : Option V} {fails calls : List V}
  {v : V} {x y : WPc}

namespace Sched

theorem cStart_past {m' : MPc} (h : Sched cfg m w c) (hm : ¬(m = .read ∨ m = .spawnC)) (hm' : ¬(m' = .read ∨ m' = .spawnC)) :
    (m' = .read ∨ m' = .spawnC) ↔ c = .notStarted :=
  iff_of_false hm' (mt h.cStart.mpr hm)

theorem mRead {m' : MPc} (h : Sched cfg m w c) (hm : m = .read)
    (hm' : m' = if c = .notStarted then .spawnC else .spawning cfg.svcs) : Sched cfg m' w c := by
  subst hm
  have hc := h.cStart.mp (.inl rfl)
  rw [hm', if_pos hc]
  exact { h with cStart := iff_of_true (.inr rfl) hc, pre := fun _ => h.pre (.inl rfl),
                 todo := nofun, todoAll := nofun, waitAll := by simp, ret := nofun }

theorem mSpawnC (hN : cfg.svcs.Nodup) (h : Sched cfg m w c) (hm : m = .spawnC) (hc' : c' ≠ .notStarted) :
    Sched cfg (.spawning cfg.svcs) w c' :=
  { wSvcs := h.wSvcs, cStart := iff_of_false (by simp) hc', pre := by simp,
    todo := fun _ ht => by cases ht; exact ⟨hN, fun v hv => ⟨hv, h.pre (.inr hm) v⟩⟩,
    todoAll := fun _ ht _ hv _ => by cases ht; exact hv,
    waitAll := by simp, ret := nofun }

theorem mSpawn {todo : List V} (h : Sched cfg m w c) (hm : m = .spawning todo) (hv : v ∈ todo) :
    Sched cfg (.spawning (todo.erase v)) (set w v .start) c := by
  obtain ⟨hnd, hall⟩ := h.todo todo hm
  have hw : ∀ {u}, u ≠ v → set w v .start u = w u := set_other w .start
  exact {
    wSvcs := fun u hu => by
      by_cases e : u = v
      · exact e ▸ (hall v hv).1
      · exact h.wSvcs u (hw e ▸ hu)
    cStart := h.cStart_past (by simp [hm]) (by simp)
    pre := by simp
    todo := fun _ ht => by
      cases ht
      refine ⟨hnd.erase v, fun u hu => ?_⟩
      obtain ⟨e, hu⟩ := (List.Nodup.mem_erase_iff hnd).mp hu
      exact ⟨(hall u hu).1, (hw e).trans (hall u hu).2⟩
    todoAll := fun _ ht u hu hi => by
      cases ht
      have e : u ≠ v := fun e => by subst e; simp at hi
      exact (List.mem_erase_of_ne e).mpr (h.todoAll todo hm u hu (hw e ▸ hi))
    waitAll := by simp
    ret := nofun }

theorem mWait (h : Sched cfg m w c) (hm : m = .spawning []) : Sched cfg .waiting w c :=
  { wSvcs := h.wSvcs, cStart := h.cStart_past (by simp [hm]) (by simp), pre := by simp, todo := nofun, todoAll := nofun,
    waitAll := fun _ v hv hi => absurd (h.todoAll [] hm v hv hi) List.not_mem_nil, ret := nofun }

theorem mReturn (h : Sched cfg m w c) (hm : m = .waiting) (hc : c = .gone)
    (hall : (cfg.svcs.all fun v => !(live (w v))) = true) : Sched cfg .returned w c :=
  { wSvcs := h.wSvcs, cStart := h.cStart_past (by simp [hm]) (by simp), pre := by simp, todo := nofun, todoAll := nofun,
    waitAll := fun _ => h.waitAll (.inl hm),
    ret := fun _ => ⟨hc, fun v hv => by simpa using List.all_eq_true.mp hall v hv⟩ }

/-- a live worker moves on: who is idle does not change, and the caller has not returned -/
theorem wMove (h : Sched cfg m w c) (hw : w v = y) (hl : live y = true) (hx : x ≠ .idle) : Sched cfg m (set w v x) c := by
  subst hw
  have hv : w v ≠ .idle := fun e => by rw [e] at hl; cases hl
  have hi : ∀ u, set w v x u = .idle ↔ w u = .idle := set_iff (p := fun y : WPc => y = .idle) (iff_of_false hx hv)
  exact ⟨by simpa only [Ne, hi] using h.wSvcs, h.cStart, by simpa only [hi] using h.pre, by simpa only [hi] using h.todo,
    by simpa only [hi] using h.todoAll, by simpa only [Ne, hi] using h.waitAll,
    fun hm => by have := (h.ret hm).2 v (h.wSvcs v hv); rw [hl] at this; cases this⟩

/-- the collector moves on, but does not leave -/
theorem cMove {y : CPc} (h : Sched cfg m w c) (hc : c = y) (hy : y ≠ .notStarted) (hg : y ≠ .gone) (hc' : c' ≠ .notStarted) :
    Sched cfg m w c' :=
  { h with cStart := iff_of_false (mt h.cStart.mp (hc ▸ hy)) hc', ret := fun hm => absurd (h.ret hm).1 (hc ▸ hg) }

end Sched

namespace Calls

theorem wMove (h : Calls w calls) (hw : w v = y) (hx : (x ≠ .idle ∧ x ≠ .start) ↔ (y ≠ .idle ∧ y ≠ .start)) :
    Calls (set w v x) calls :=
  ⟨h.callsNodup, fun u => (h.callsW u).trans (set_iff (p := fun y : WPc => y ≠ .idle ∧ y ≠ .start) (hw ▸ hx) u).symm⟩

theorem wBegin (h : Calls w calls) (hw : w v = .start) : Calls (set w v .running) (calls ++ [v]) :=
  ⟨nodup_snoc h.callsNodup fun hv => ((h.callsW v).mp hv).2 hw, fun u => by
    by_cases e : u = v
    · subst e; simp
    · rw [set_other _ _ e, ← h.callsW u]; simp [e]⟩

end Calls

namespace Errs

theorem wMove (h : Errs cfg w cancelled firstErr fails) (hw : w v = y) (hy : y ≠ .failed) (hx : x ≠ .failed) :
    Errs cfg (set w v x) cancelled firstErr fails := by
  have hf : ∀ u, set w v x u = .failed ↔ w u = .failed := set_iff (p := fun y : WPc => y = .failed) (iff_of_false hx (hw ▸ hy))
  exact { h with failsW := by simpa only [hf] using h.failsW, failedFn := by simpa only [hf] using h.failedFn }

theorem wFail {e : V} (h : Errs cfg w cancelled firstErr fails) (hf : cfg.fn v = none) (he : e = firstErr.getD v) :
    Errs cfg (set w v .failed) true (some e) (fails ++ [v]) :=
  { cancelIff := iff_of_true rfl nofun
    errFails := by rw [he, h.errFails]; cases fails <;> rfl
    failsW := fun u => by
      by_cases e : u = v
      · subst e; simp
      · rw [set_other _ _ e, ← h.failsW u]; simp [e]
    failedFn := fun u hu => by
      by_cases e : u = v
      · exact e ▸ hf
      · exact h.failedFn u (set_other w _ e ▸ hu) }

end Errs

namespace Final
variable {acc' : V → Option Nat} {expect' : Nat}

theorem cMove {y : CPc} (h : Final c services acc expect cancelled) (hc : c = y) (hy : y ≠ .gone) (hc' : c' ≠ .gone)
    (hd : c' = .done → cancelled = true) : Final c' services acc' expect' cancelled :=
  ⟨hd, fun e => absurd e hc', fun _ => h.svcNone (hc ▸ hy)⟩

theorem cancel (h : Final c services acc expect cancelled) : Final c services acc expect true :=
  ⟨fun _ => rfl, fun hc => (h.gone hc).imp id fun h => ⟨h.1, rfl⟩, h.svcNone⟩

theorem cReturn (h : Final c services acc expect cancelled) (hc : c = .done) : Final .gone services acc expect cancelled :=
  ⟨nofun, fun _ => .inr ⟨h.svcNone (by simp [hc]), h.cDone hc⟩, fun h => absurd rfl h⟩

theorem cExit (he : expect = 0) : Final .gone (some acc) acc expect cancelled :=
  ⟨nofun, fun _ => .inl ⟨rfl, he⟩, fun h => absurd rfl h⟩

end Final

namespace Pipe
variable {r : Nat} {rest : List (V × Nat)} {i : Item}

theorem wMove (h : Pipe cfg w ch c expect acc item) (hw : w v = y) (hx : sentOrExited x = sentOrExited y) :
    Pipe cfg (set w v x) ch c expect acc item := by
  have hs := set_eq sentOrExited (f := w) (hw ▸ hx)
  exact { h with itemW := by simpa only [← sentOrExited_iff, hs] using h.itemW,
                 chCount := by simpa only [hs] using h.chCount }

theorem start (h : Pipe cfg w ch c expect acc item) (hc : c = .notStarted) (hc' : c' = if expect = 0 then .fin else .sel) :
    Pipe cfg w ch c' expect acc item := by
  subst hc
  obtain ⟨hb, hg, hp, hf⟩ := counted hc'
  exact { h with gotItem := fun v r e => absurd e (hg v r), chCount := by rw [hb]; exact h.chCount, cPos := hp, cFin := hf }

theorem cLeave {y : CPc} (h : Pipe cfg w ch c expect acc item) (hc : c = y) (hb : gotBit y = 0)
    (hc' : c' = .done ∨ c' = .gone) : Pipe cfg w ch c' expect acc item := by
  subst hc
  have hcnt := h.chCount
  rw [hb] at hcnt
  rcases hc' with rfl | rfl <;> exact { h with gotItem := nofun, chCount := hcnt, cPos := by simp, cFin := nofun }

theorem item_move {i' : Item} (h : Pipe cfg w ch c expect acc item) (hi : item v = i) (hn : i ≠ .stored) (hn' : i' ≠ .stored) :
    (∀ u, acc u ≠ none ↔ set item v i' u = .stored) ∧
      expect + (cfg.svcs.filter fun u => set item v i' u == .stored).length = cfg.svcs.length := by
  have hs := set_eq (fun j : Item => j == .stored) (f := item) (v := v) (x := i')
    (by rw [hi, beq_false_of_ne hn', beq_false_of_ne hn])
  have hs' := set_iff (p := fun j : Item => j = .stored) (f := item) (v := v) (x := i') (iff_of_false hn' (hi ▸ hn))
  exact ⟨fun u => (h.accItem u).trans (hs' u).symm, by simpa only [hs] using h.expectCount⟩

theorem wSend (hN : cfg.svcs.Nodup) (h : Pipe cfg w ch c expect acc item) (hv : v ∈ cfg.svcs) (hw : w v = .returned)
    (hf : cfg.fn v = some r) : Pipe cfg (set w v .sent) (ch ++ [(v, r)]) c expect acc (set item v .inCh) := by
  have hi : item v = .none := Decidable.byContradiction fun hi => by
    rcases h.itemW v hi with e | e <;> rw [hw] at e <;> cases e
  have hne : ∀ {u}, item u ≠ .none → u ≠ v := fun hu e => hu (e ▸ hi)
  obtain ⟨hacc, hcnt⟩ := h.item_move (i' := .inCh) hi nofun nofun
  exact {
    itemW := fun u hu => by
      by_cases e : u = v
      · subst e; exact .inl (set_same ..)
      · rw [set_other _ _ e] at hu ⊢; exact h.itemW u hu
    chItem := fun u q hu => by
      rcases List.mem_append.mp hu with hu | hu
      · obtain ⟨hu, hq⟩ := h.chItem u q hu
        exact ⟨(set_other _ _ (hne (by simp [hu]))).trans hu, hq⟩
      · cases List.mem_singleton.mp hu; exact ⟨set_same .., hf⟩
    chNodup := by
      rw [List.map_append]
      refine nodup_snoc h.chNodup fun hm => ?_
      obtain ⟨⟨u, q⟩, hu, e⟩ := List.mem_map.mp hm
      exact hne (by simp [(h.chItem u q hu).1]) e
    gotItem := fun u q hc => by
      obtain ⟨hu, hq⟩ := h.gotItem u q hc
      exact ⟨(set_other _ _ (hne (by simp [hu]))).trans hu, hq⟩
    accItem := hacc
    accFn := h.accFn
    expectCount := hcnt
    chCount := by
      rw [filter_set_gain cfg.svcs hN v hv w .sent sentOrExited (by rw [hw]; rfl) rfl, List.length_append]
      have := h.chCount
      simp only [List.length_singleton]; omega
    cPos := h.cPos
    cFin := h.cFin }

theorem cRecv (h : Pipe cfg w ch c expect acc item) (hc : c = .sel) (hch : ch = (v, r) :: rest) :
    Pipe cfg w rest (.got v r) expect acc (set item v .got) := by
  subst hc hch
  obtain ⟨hi, hf⟩ := h.chItem v r List.mem_cons_self
  obtain ⟨hv, hnd⟩ := List.nodup_cons.mp h.chNodup
  obtain ⟨hacc, hcnt⟩ := h.item_move (i' := .got) hi nofun nofun
  exact {
    itemW := fun u hu => by
      by_cases e : u = v
      · subst e; exact h.itemW u (by simp [hi])
      · rw [set_other _ _ e] at hu; exact h.itemW u hu
    chItem := fun u q hu => by
      rw [set_other _ _ fun e : u = v => hv (e ▸ List.mem_map.mpr ⟨_, hu, rfl⟩)]
      exact h.chItem u q (List.mem_cons_of_mem _ hu)
    chNodup := hnd
    gotItem := fun u q hc => by cases hc; exact ⟨set_same .., hf⟩
    accItem := hacc
    accFn := h.accFn
    expectCount := hcnt
    chCount := by
      have := h.chCount
      simp only [List.length_cons, gotBit] at this ⊢; omega
    cPos := fun _ => h.cPos (.inl rfl)
    cFin := nofun }

theorem cStore (hN : cfg.svcs.Nodup) (h : Pipe cfg w ch c expect acc item) (hv : v ∈ cfg.svcs) (hc : c = .got v r)
    (hc' : c' = if expect - 1 = 0 then .fin else .sel) :
    Pipe cfg w ch c' (expect - 1) (set acc v (some r)) (set item v .stored) := by
  subst hc
  obtain ⟨hi, hf⟩ := h.gotItem v r rfl
  obtain ⟨hb, hg, hpos, hfin⟩ := counted hc'
  have hp := h.cPos (.inr ⟨v, r, rfl⟩)
  exact {
    itemW := fun u hu => by
      by_cases e : u = v
      · subst e; exact h.itemW u (by simp [hi])
      · rw [set_other _ _ e] at hu; exact h.itemW u hu
    chItem := fun u q hu => by
      obtain ⟨hu, hq⟩ := h.chItem u q hu
      exact ⟨(set_other _ _ fun e : u = v => by simp [e ▸ hu] at hi).trans hu, hq⟩
    chNodup := h.chNodup
    gotItem := fun u q e => absurd e (hg u q)
    accItem := fun u => by
      by_cases e : u = v
      · subst e; rw [set_same, set_same]; exact iff_of_true nofun rfl
      · rw [set_other _ _ e, set_other _ _ e]; exact h.accItem u
    accFn := fun u q hu => by
      by_cases e : u = v
      · subst e; rw [set_same] at hu; cases hu; exact hf
      · rw [set_other _ _ e] at hu; exact h.accFn u q hu
    expectCount := by
      rw [filter_set_gain cfg.svcs hN v hv item .stored (· == .stored) (by rw [hi]; rfl) rfl]
      have := h.expectCount
      omega
    chCount := by
      rw [hb]
      have := h.chCount
      simp only [gotBit] at this; omega
    cPos := hpos
    cFin := hfin }

end Pipe

theorem inv_step (hN : cfg.svcs.Nodup) (hI : Inv cfg s) (h : step? cfg s l = some s') : Inv cfg s' := by
  have hS : Sched cfg s.m s.w s.c := { hI with }
  have hP : Pipe cfg s.w s.ch s.c s.expect s.acc s.item := { hI with }
  have hF : Final s.c s.services s.acc s.expect s.cancelled := { hI with }
  have hE : Errs cfg s.w s.cancelled s.firstErr s.fails := { hI with }
  have hC : Calls s.w s.calls := { hI with }
  cases step_of_step? h with
  | mRead hm hm' => exact .of_groups (hS.mRead hm hm') hP hF hE hC
  | mSpawnC hm hc hc' =>
    have hne {y} := counted_ne hc' (y := y)
    exact .of_groups (hS.mSpawnC hN hm (hne nofun nofun)) (hP.start hc hc')
      (hF.cMove hc nofun (hne nofun nofun) fun e => absurd e (hne nofun nofun)) hE hC
  | mSpawn hm hv =>
    have hi := ((hS.todo _ hm).2 _ hv).2
    exact .of_groups (hS.mSpawn hm hv) (hP.wMove hi rfl) hF (hE.wMove hi nofun nofun) (hC.wMove hi (by decide))
  | mWait hm => exact .of_groups (hS.mWait hm) hP hF hE hC
  | mReturn hm hc hall => exact .of_groups (hS.mReturn hm hc hall) hP hF hE hC
  | wBegin hw =>
    exact .of_groups (hS.wMove hw rfl nofun) (hP.wMove hw rfl) hF (hE.wMove hw nofun nofun) (hC.wBegin hw)
  | wReturn hw =>
    exact .of_groups (hS.wMove hw rfl nofun) (hP.wMove hw rfl) hF (hE.wMove hw nofun nofun) (hC.wMove hw (by decide))
  | wSend hw hf _ =>
    exact .of_groups (hS.wMove hw rfl nofun) (hP.wSend hN (hS.wSvcs _ (by simp [hw])) hw hf) hF (hE.wMove hw nofun nofun)
      (hC.wMove hw (by decide))
  | wFail hw hf he =>
    exact .of_groups (hS.wMove hw rfl nofun) (hP.wMove hw rfl) hF.cancel (hE.wFail hf he) (hC.wMove hw (by decide))
  | wExit hw =>
    exact .of_groups (hS.wMove hw rfl nofun) (hP.wMove hw rfl) hF (hE.wMove hw nofun nofun) (hC.wMove hw (by decide))
  | cRecv hc hch => exact .of_groups (hS.cMove hc nofun nofun nofun) (hP.cRecv hc hch) (hF.cMove hc nofun nofun nofun) hE hC
  | cCtxDone hc hcan =>
    exact .of_groups (hS.cMove hc nofun nofun nofun) (hP.cLeave hc rfl (.inl rfl)) (hF.cMove hc nofun nofun fun _ => hcan) hE hC
  | @cStore v r _ hc hc' =>
    have hne {y} := counted_ne hc' (y := y)
    have hv : v ∈ cfg.svcs :=
      hS.wSvcs v fun e => by rcases hP.itemW v (by simp [(hP.gotItem v r hc).1]) with h | h <;> rw [e] at h <;> cases h
    exact .of_groups (hS.cMove hc nofun nofun (hne nofun nofun)) (hP.cStore hN hv hc hc')
      (hF.cMove hc nofun (hne nofun nofun) fun e => absurd e (hne nofun nofun)) hE hC
  | cReturn hc => exact .of_groups (hS.cMove hc nofun nofun nofun) (hP.cLeave hc rfl (.inr rfl)) (hF.cReturn hc) hE hC
  | cExit hc => exact .of_groups (hS.cMove hc nofun nofun nofun) (hP.cLeave hc rfl (.inr rfl)) (.cExit (hP.cFin hc)) hE hC

end CV.Fanout
