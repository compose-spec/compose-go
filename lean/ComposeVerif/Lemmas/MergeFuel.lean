import ComposeVerif.Lemmas.MergeRules
import ComposeVerif.Lemmas.FuelLe
/-!
# The fuel of `mergeYaml`: enough above `depth o + 2`, and irrelevant once it is enough

Sufficiency (`mergeYaml_never_panics`, hence `merge_never_panics`, `extendService_never_panics`).  Every recursive call
descends into a value of the override, except that `mergeBuild` / `mergeDependsOn` / `mergeNetworks` first convert a string
or a list of names into a mapping (one level deeper than the override).  With an arbitrary rule table that could go on for
ever (`build: x` ↦ `{context: x}` ↦ … if `context` were a build path again), so the proof uses one fact about the
regenerated table (`conv_rules_at_length_three` in `Lemmas/MergeRules.lean`): the converting mergers sit at patterns of
length three, hence their children are at paths of length four, where no converting merger sits.

Monotonicity (`Le`, `mergeYaml_succ_le`, `mergeYaml_le_agree`): one more unit of fuel never changes a result that is not the
fuel panic.  Both go from one level of the merge to the next by `mergeStep_lift` (`Lemmas/MergeStep.lean`).
-/
namespace CV.Merge
open CV CV.Val

theorem IsLeaf.ne_panic {α : Type} {x : Out α} (h : IsLeaf x) (s : String) : x ≠ .panic s := by
  cases x with
  | panic _ => exact h.elim
  | _ => nofun

/-- extra fuel a path may need on top of the depth of the override: 2 up to length three, 1 below -/
def cst (p : TPath) : Nat := if 4 ≤ p.length then 1 else 2

theorem cst_le_two (p : TPath) : cst p ≤ 2 := by unfold cst; split <;> omega

theorem cst_next_le (p : TPath) (k : String) : cst (next p k) ≤ cst p := by
  unfold cst
  by_cases h : 4 ≤ p.length
  · rw [if_pos h, if_pos (by rw [length_next p k (by omega)]; omega)]; exact Nat.le_refl _
  · rw [if_neg h]; split <;> omega

theorem depthKV_ge : ∀ (kvs : KVs) (kv : String × Val), kv ∈ kvs → depth kv.2 ≤ depthKV kvs
  | (_, _) :: tl, kv, h => by
    simp only [depthKV]
    rcases List.mem_cons.mp h with rfl | ht
    · exact Nat.le_max_left _ _
    · exact Nat.le_trans (depthKV_ge tl kv ht) (Nat.le_max_right _ _)

theorem depthL_ge : ∀ (xs : List Val) (x : Val), x ∈ xs → depth x ≤ depthL xs
  | _ :: tl, x, h => by
    simp only [depthL]
    rcases List.mem_cons.mp h with rfl | ht
    · exact Nat.le_max_left _ _
    · exact Nat.le_trans (depthL_ge tl x ht) (Nat.le_max_right _ _)

theorem depth_map (kvs : KVs) : depth (.map kvs) = 1 + depthKV kvs := by simp [depth]
theorem depth_seq (xs : List Val) : depth (.seq xs) = 1 + depthL xs := by simp [depth]

theorem depth_child (kvs : KVs) (kv : String × Val) (h : kv ∈ kvs) : depth kv.2 + 1 ≤ depth (.map kvs) := by
  rw [depth_map]; have := depthKV_ge kvs kv h; omega

theorem listIntoMap_values (dflt : Val) : ∀ (xs : List Val) (acc b : KVs), listIntoMap dflt xs acc = .ok b →
    ∀ kv ∈ b, kv.2 = dflt ∨ kv ∈ acc := by
  intro xs
  induction xs with
  | nil => intro acc b h kv hkv; cases h; exact .inr hkv
  | cons x r ih =>
    intro acc b h kv hkv
    cases x with
    | str s =>
      rcases ih _ _ h kv hkv with h1 | h1
      · exact .inl h1
      · exact (mem_insert h1).imp_left fun (e : kv = (s, dflt)) => e ▸ rfl
    | _ => cases h

theorem depth_dependsOnDefault : depth dependsOnDefault = 1 := by decide

theorem convOf_values (r : Rule) (o : Val) (b : KVs) (h : convOf r o = .ok b) : ∀ kv ∈ b, depth kv.2 ≤ depth o := by
  have into : ∀ d, depth d ≤ 1 → intoMap d o = .ok b → ∀ kv ∈ b, depth kv.2 ≤ depth o := by
    intro d hd h kv hkv
    cases o with
    | null => cases h; cases hkv
    | map kvs => cases h; have := depth_child b kv hkv; omega
    | seq xs =>
      rcases listIntoMap_values d xs [] b h kv hkv with h1 | h1
      · rw [h1, depth_seq]; omega
      · cases h1
    | _ => cases h
  cases r with
  | build =>
    intro kv hkv
    cases o with
    | null => cases h; cases hkv
    | str t => cases h; cases List.mem_singleton.mp hkv; exact Nat.le_refl _
    | map kvs => cases h; have := depth_child b kv hkv; omega
    | _ => cases h
  | dependsOn => exact into _ (Nat.le_of_eq depth_dependsOnDefault) h
  | _ => exact into _ (by decide) h

/-- values inside the pools of an ipam config: null (a pool written as a list of names), or two levels below the config -/
theorem poolsOf_values : ∀ (xs : List Val) (lefts : List KVs), poolsOf xs = .ok lefts →
    ∀ left ∈ lefts, ∀ kv ∈ left, kv.2 = .null ∨ depth kv.2 + 2 ≤ depth (.seq xs)
  | [], lefts, h, left, hl => by cases h; cases hl
  | x :: r, lefts, h, left, hl => by
    intro kv hkv
    obtain ⟨m, hm, h⟩ := bind_eq_ok h
    obtain ⟨ms, hms, h⟩ := bind_eq_ok h
    cases h
    rcases List.mem_cons.mp hl with rfl | hin
    · cases x with
      | null => cases hm; cases hkv
      | map kvs =>
        cases hm
        have h1 := depth_child _ kv hkv
        have h2 := depthL_ge (.map left :: r) (.map left) List.mem_cons_self
        rw [depth_seq]; exact .inr (by omega)
      | seq ys => exact (listIntoMap_values .null ys [] _ hm kv hkv).imp_right nofun
      | _ => cases hm
    · have : depth (.seq r) ≤ depth (.seq (x :: r)) := by simp only [depth_seq, depthL]; omega
      exact (poolsOf_values r ms hms left hin kv hkv).imp_right fun h1 => by omega

/-- every recursive call of one level needs strictly less: one level down the override, or from a converting rule (at
length three, by the table) to length four, where one unit on top of the depth is enough -/
theorem arg_decreases {o : Val} {p : TPath} {b : KVs} (hb : Arg o p b) {kv : String × Val} (hkv : kv ∈ b) :
    depth kv.2 + cst (next p kv.1) < depth o + cst p := by
  have h2 := cst_next_le p kv.1
  cases hb with
  | self h => subst h; have := depth_child b kv hkv; omega
  | conv r hr hc h =>
    have hl := ruleAt_conv_length p r hr hc
    have : cst p = 2 := by unfold cst; rw [if_neg (by omega)]
    have : cst (next p kv.1) = 1 := by unfold cst; rw [if_pos (by rw [length_next p _ (by omega)]; omega)]
    have := convOf_values r o b h kv hkv
    omega
  | pool other h hin =>
    cases o with
    | seq xs =>
      have : 1 ≤ depth (Val.seq xs) := by rw [depth_seq]; omega
      rcases poolsOf_values xs other h b hin kv hkv with h1 | h1
      · rw [h1]; simp only [depth]; omega
      · omega
    | null => cases h; cases hin
    | _ => cases h

/-- **fuel sufficiency**: with at least `depth o + 2` fuel (`+ 1` below path length three) `mergeYaml` never runs out of
fuel — and no special merger panics, so it never panics at all -/
theorem mergeYaml_never_panics : ∀ (n : Nat) (e o : Val) (p : TPath), depth o + cst p ≤ n → ∀ s, mergeYaml n e o p ≠ .panic s
  | 0, _, _, p, h => by unfold cst at h; split at h <;> omega
  | n + 1, e, o, p, h =>
    mergeStep_lift (R := fun x _ => ∀ s, x ≠ .panic s) (mk' := mergeKVs n) IsLeaf.ne_panic bind_ne_panic e o p fun a b hb =>
      mergeKVsWith_lift (R := fun x _ => ∀ s, x ≠ .panic s) (g := mergeYaml n) IsLeaf.ne_panic bind_ne_panic p b a fun kv hkv e' =>
        mergeYaml_never_panics n e' kv.2 _ (by have := arg_decreases hb hkv; omega)

theorem mergeYaml_fuel_sufficient (n : Nat) (e o : Val) (p : TPath) (h : depth o + 2 ≤ n) (s : String) :
    mergeYaml n e o p ≠ .panic s :=
  mergeYaml_never_panics n e o p (by have := cst_le_two p; omega) s

/-- `override.Merge` never panics: the model has no panic outcome but the fuel, and the fuel `fuelFor` is enough -/
theorem merge_never_panics (base over : Val) (s : String) : merge base over ≠ .panic s := by
  unfold merge
  split
  · exact mergeYaml_fuel_sufficient _ _ _ _ (by unfold fuelFor; omega) s
  · exact nofun

theorem extendService_never_panics (base over : Val) (s : String) : extendService base over ≠ .panic s := by
  unfold extendService
  split
  · exact mergeYaml_fuel_sufficient _ _ _ _ (by unfold fuelFor; omega) s
  · exact nofun

/-- `y` is the outcome `x`, unless `x` is a panic (running out of fuel is the panic `"fuel"`) -/
abbrev Le {α : Type} (x y : Out α) : Prop := Fuel.Le (fun o => ∃ s, o = .panic s) x y

theorem Le.refl {α : Type} {x : Out α} : Le x x := Fuel.Le.refl

/-- `bind` is monotone, which carries `Le` through every merger built from `bind`s of the recursive call -/
theorem Le.bind {α β : Type} {x x' : Out α} {f f' : α → Out β} (hx : Le x x') (hf : ∀ a, x = .ok a → Le (f a) (f' a)) :
    Le (x.bind f) (x'.bind f') := by
  intro h
  cases x with
  | ok a => rw [hx nofun]; exact hf a rfl h
  | err e => rw [hx nofun]; rfl
  | panic s => exact absurd ⟨s, rfl⟩ h

theorem mergeYaml_succ_le : ∀ (n : Nat) (e v : Val) (q : TPath), Le (mergeYaml n e v q) (mergeYaml (n + 1) e v q)
  | 0, _, _, _ => .of_bad ⟨_, rfl⟩
  | n + 1, e, v, q =>
    mergeStep_lift (R := Le) (fun _ => Le.refl) Le.bind e v q fun a b _ =>
      mergeKVsWith_lift (R := Le) (fun _ => Le.refl) Le.bind q b a fun kv _ e' => mergeYaml_succ_le n e' kv.2 _

end CV.Merge
