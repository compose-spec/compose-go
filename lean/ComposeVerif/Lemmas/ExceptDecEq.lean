/-! Equality of `Except` outcomes is decidable (core has no such instance): closed test vectors whose result is an
`Except` are decided by the kernel.  Also the inversion of `Except.bind`, which core does not state. -/

deriving instance DecidableEq for Except

/-- `x >>= f` is `x.bind f` by unfolding: the lemma serves both spellings -/
theorem Except.bind_eq_ok {ε α β : Type} {x : Except ε α} {f : α → Except ε β} {b : β} :
    x.bind f = .ok b ↔ ∃ a, x = .ok a ∧ f a = .ok b := by
  cases x with
  | error e => exact ⟨nofun, fun ⟨_, h, _⟩ => nomatch h⟩
  | ok a => exact ⟨fun h => ⟨a, rfl, h⟩, fun ⟨_, ha, h⟩ => by cases ha; exact h⟩
