import ComposeVerif.Model.EnvLayers
import ComposeVerif.Spec.EnvLayers
import ComposeVerif.Lemmas.TemplateRun
import ComposeVerif.Lemmas.Assoc
/-! C16, the value model: Go maps as association lists (`lookup` of every operation, `Distinct` = the keys of a Go map),
    the specification's recursion step by step, the line loop and the two file loops with their equations, label files as
    env files, the two loop bodies opened once. -/
namespace CV.EnvLayers
open CV.EnvLayers.Spec

/-- the Go-map invariant: keys are distinct -/
def Distinct {β : Type} (m : List (Key × β)) : Prop := (m.map Prod.fst).Nodup

theorem Distinct_iff {β : Type} {m : List (Key × β)} : Distinct m ↔ (Assoc.keys m).Nodup := Iff.rfl

instance {β : Type} (m : List (Key × β)) : Decidable (Distinct m) := inferInstanceAs (Decidable (List.Nodup _))

theorem orElse_none_right (a : Option Str) : orElse a none = a := by cases a <;> rfl
theorem orElse_none_left (a : Option Str) : orElse none a = a := rfl
theorem orElse_some (v : Str) (b : Option Str) : orElse (some v) b = some v := rfl
theorem orElse_assoc (a b c : Option Str) : orElse (orElse a b) c = orElse a (orElse b c) := by
  cases a <;> rfl

theorem lookup_eq {β : Type} (k : Key) (m : List (Key × β)) : lookup k m = Assoc.lookup k m := by
  induction m with
  | nil => rfl
  | cons e r ih => rw [lookup, ih, Assoc.lookup_cons]; exact ite_congr (propext eq_comm) (fun _ => rfl) fun _ => rfl

theorem insert_eq {β : Type} (k : Key) (v : β) (m : List (Key × β)) : insert k v m = Assoc.insert k v m := by
  induction m with
  | nil => rfl
  | cons e r ih => rw [insert, ih, Assoc.insert_cons]; exact ite_congr (propext eq_comm) (fun _ => rfl) fun _ => rfl

theorem overrideBy_eq {β : Type} (m other : List (Key × β)) : overrideBy m other = Assoc.insertAll other m := by
  simp only [overrideBy, Assoc.insertAll, insert_eq]

theorem lookup_insert {β : Type} (k k' : Key) (v : β) (m : List (Key × β)) :
    lookup k' (insert k v m) = if k = k' then some v else lookup k' m := by
  rw [lookup_eq, insert_eq, Assoc.lookup_insert, lookup_eq]; exact ite_congr (propext eq_comm) (fun _ => rfl) fun _ => rfl

theorem lookup_append {β : Type} (k : Key) (a b : List (Key × β)) :
    lookup k (a ++ b) = match lookup k a with | some v => some v | none => lookup k b := by
  rw [lookup_eq, lookup_eq, lookup_eq, Assoc.lookup_append]; cases Assoc.lookup k a <;> rfl

theorem lookup_none_of_not_mem {β : Type} (k : Key) (m : List (Key × β)) (h : k ∉ m.map Prod.fst) :
    lookup k m = none := by
  rw [lookup_eq]; exact Assoc.lookup_eq_none.2 h

theorem mem_keys_of_lookup {β : Type} (k : Key) (m : List (Key × β)) (v : β) (h : lookup k m = some v) :
    k ∈ m.map Prod.fst :=
  Assoc.keys_of_lookup (lookup_eq k m ▸ h)

theorem distinct_insert {β : Type} (k : Key) (v : β) (m : List (Key × β)) (hd : Distinct m) :
    Distinct (insert k v m) := by
  rw [insert_eq]; exact Assoc.nodup_insert hd

theorem lookup_overrideBy_rev {β : Type} (k : Key) (m other : List (Key × β)) :
    lookup k (overrideBy m other) = match lookup k other.reverse with | some v => some v | none => lookup k m := by
  rw [lookup_eq, overrideBy_eq, Assoc.lookup_insertAll_rev, ← lookup_eq, ← lookup_eq]
  cases lookup k other.reverse <;> rfl

theorem lookup_overrideBy {β : Type} (k : Key) (m other : List (Key × β)) (hd : Distinct other) :
    lookup k (overrideBy m other) = match lookup k other with | some v => some v | none => lookup k m := by
  rw [lookup_overrideBy_rev, lookup_eq, Assoc.lookup_reverse hd, ← lookup_eq]

theorem distinct_overrideBy {β : Type} (m other : List (Key × β)) (hd : Distinct m) : Distinct (overrideBy m other) := by
  rw [overrideBy_eq]; exact Assoc.nodup_insertAll other hd

theorem distinct_map_val {β γ : Type} (g : Key → β → γ) (m : List (Key × β)) (hd : Distinct m) :
    Distinct (m.map fun kv => (kv.1, g kv.1 kv.2)) := by
  unfold Distinct
  rw [List.map_map]
  exact hd

theorem lookup_map_val {β γ : Type} (g : Key → β → γ) (k : Key) (m : List (Key × β)) :
    lookup k (m.map fun kv => (kv.1, g kv.1 kv.2)) = (lookup k m).map (g k) := by
  rw [lookup_eq, lookup_eq]; exact Assoc.lookup_map_val g

theorem lookup_toMWE (k : Key) (m : List (Key × Str)) : lookup k (toMWE m) = (lookup k m).map some :=
  lookup_map_val (fun _ => some) k m

theorem distinct_toMWE (m : List (Key × Str)) (hd : Distinct m) : Distinct (toMWE m) :=
  distinct_map_val (fun _ => some) m hd

theorem resolveMWE_eq (look : Look) (m : List (Key × Option Str)) :
    resolveMWE look m = m.map fun kv => (kv.1, match kv.2 with | none => look kv.1 | some x => some x) :=
  List.map_congr_left fun kv _ => by obtain ⟨a, b⟩ := kv; cases b <;> rfl

theorem lookup_resolveMWE (look : Look) (k : Key) (m : List (Key × Option Str)) :
    lookup k (resolveMWE look m) = (lookup k m).map fun v => match v with | none => look k | some x => some x := by
  rw [resolveMWE_eq]
  exact lookup_map_val (fun k v => match v with | none => look k | some x => some x) k m

theorem distinct_resolveMWE (look : Look) (m : List (Key × Option Str)) (hd : Distinct m) : Distinct (resolveMWE look m) := by
  rw [resolveMWE_eq]
  exact distinct_map_val (fun k v => match v with | none => look k | some x => some x) m hd

theorem mapSnd_insert {β γ : Type} (g : β → γ) (k : Key) (v : β) (m : List (Key × β)) :
    (insert k v m).map (fun kv => (kv.1, g kv.2)) = insert k (g v) (m.map fun kv => (kv.1, g kv.2)) := by
  induction m with
  | nil => rfl
  | cons p r ih => by_cases hk : p.1 = k <;> simp [insert, hk, ih]

theorem mapSnd_overrideBy {β γ : Type} (g : β → γ) (m o : List (Key × β)) :
    (overrideBy m o).map (fun kv => (kv.1, g kv.2)) =
      overrideBy (m.map fun kv => (kv.1, g kv.2)) (o.map fun kv => (kv.1, g kv.2)) := by
  induction o generalizing m with
  | nil => rfl
  | cons p r ih => exact (ih _).trans (congrArg (overrideBy · _) (mapSnd_insert g p.1 p.2 m))

theorem toMWE_overrideBy (m o : List (Key × Str)) : toMWE (overrideBy m o) = overrideBy (toMWE m) (toMWE o) :=
  mapSnd_overrideBy some m o

theorem ofMWE_toMWE (m : List (Key × Str)) : ofMWE (toMWE m) = m := by
  induction m with
  | nil => rfl
  | cons p r ih =>
    simp only [toMWE, List.map_cons, ofMWE, List.filterMap_cons] at ih ⊢
    rw [ih]

/-- how `Resolve` sees one value of key `k` -/
def rv (penv : List (Key × Str)) (k : Key) (v : Option Str) : Option Str :=
  match v with
  | none => lookup k penv
  | some x => some x

theorem rv_idem (penv : List (Key × Str)) (k : Key) (v : Option Str) : rv penv k (rv penv k v) = rv penv k v := by
  cases v with
  | some x => rfl
  | none =>
    simp only [rv]
    cases h : lookup k penv <;> simp

theorem lookup_resolveMWE_rv (penv : List (Key × Str)) (k : Key) (m : List (Key × Option Str)) :
    lookup k (resolveMWE (fun n => lookup n penv) m) = (lookup k m).map (rv penv k) := by
  rw [lookup_resolveMWE]
  cases lookup k m with
  | none => rfl
  | some v => cases v <;> rfl

theorem finalEnv_eq_rv (penv : List (Key × Str)) (files : List (List Line)) (env : List (Key × Option Str)) (k : Key) :
    finalEnv penv files env k =
      match (lookup k env).map (rv penv k) with
      | some x => some x
      | none => (filesVal penv files k).map some := by
  unfold finalEnv
  cases lookup k env with
  | none => rfl
  | some v => cases v <;> rfl

theorem lookup_resolved_env (penv acc : List (Key × Str)) (env : List (Key × Option Str)) (hd : Distinct env) (k : Key) :
    lookup k (overrideBy (toMWE acc) (resolveMWE (fun n => lookup n penv) env)) =
      match (lookup k env).map (rv penv k) with
      | some v => some v
      | none => (lookup k acc).map some := by
  rw [lookup_overrideBy k _ _ (distinct_resolveMWE _ _ hd), lookup_resolveMWE_rv, lookup_toMWE]
  cases Option.map (rv penv k) (lookup k env) <;> rfl

theorem keys_ofMWE_subset (m : List (Key × Option Str)) (x : Key) (h : x ∈ (ofMWE m).map Prod.fst) :
    x ∈ m.map Prod.fst := by
  obtain ⟨p, hp, rfl⟩ := List.mem_map.1 h
  obtain ⟨⟨a, b⟩, hq, e⟩ := List.mem_filterMap.1 hp
  refine List.mem_map.2 ⟨(a, b), hq, ?_⟩
  cases b <;> cases e
  rfl

theorem lookup_ofMWE (k : Key) (m : List (Key × Option Str)) (hd : Distinct m) :
    lookup k (ofMWE m) = match lookup k m with | some (some v) => some v | _ => none := by
  induction m with
  | nil => rfl
  | cons p r ih =>
    obtain ⟨a, b⟩ := p
    obtain ⟨ha, hr⟩ := List.nodup_cons.1 hd
    cases b with
    | none =>
      show lookup k (ofMWE r) = _
      by_cases h : a = k
      · subst h
        rw [lookup_none_of_not_mem a (ofMWE r) (fun hm => ha (keys_ofMWE_subset r a hm))]
        simp [lookup]
      · rw [ih hr]; simp [lookup, h]
    | some v =>
      show lookup k ((a, v) :: ofMWE r) = _
      by_cases h : a = k
      · subst h; simp [lookup]
      · simp only [lookup, h, if_false]; exact ih hr

theorem fileValRevFrom_append (look : Look) (base : Key → Option Str) (l1 l2 : List Line) :
    ∀ k, fileValRevFrom look base (l1 ++ l2) k = fileValRevFrom look (fileValRevFrom look base l2) l1 k := by
  induction l1 with
  | nil => intro k; rfl
  | cons x r ih =>
    intro k
    cases x with
    | assign k' v => simp only [List.cons_append, fileValRevFrom, ih]
    | bare k' => simp only [List.cons_append, fileValRevFrom, ih]
    | bad => simp only [List.cons_append, fileValRevFrom, ih]

theorem withFile_eq (look : Look) (out : List (Key × Str)) :
    withFile look out = fun n => orElse (look n) (lookup n out) := by
  funext n
  unfold withFile orElse
  cases look n <;> rfl

theorem map_eq_ok {ε α γ : Type} {x : Except ε α} {f : α → γ} {c : γ} (h : x.map f = .ok c) :
    ∃ a, x = .ok a ∧ c = f a := by
  cases x with
  | error e => cases h
  | ok a => cases h; exact ⟨a, rfl, rfl⟩

theorem parseLines_distinct (look : Look) (ls : List Line) (out res : List (Key × Str))
    (hd : Distinct out) (h : parseLines look ls out = .ok res) : Distinct res := by
  induction ls generalizing out with
  | nil => simp only [parseLines, Except.ok.injEq] at h; exact h ▸ hd
  | cons x r ih =>
    cases x with
    | assign k v =>
      simp only [parseLines] at h
      cases hv : evalValue (withFile look out) v with
      | ok val => rw [hv] at h; exact ih _ (distinct_insert _ _ _ hd) h
      | error e => rw [hv] at h; cases h
    | bare k =>
      simp only [parseLines] at h
      cases hl : look k with
      | some v => rw [hl] at h; exact ih _ (distinct_insert _ _ _ hd) h
      | none => rw [hl] at h; exact ih _ hd h
    | bad => simp [parseLines] at h

/-- `template.Substitute` never panics (C07), so a value that does not evaluate is a `template` error -/
theorem evalValue_error {look : Look} {v : List Seg} {e : Err} (h : evalValue look v = .error e) : e = .template := by
  unfold evalValue at h
  split at h
  · cases h
  · cases h; rfl
  · next hp => exact absurd ((CV.Template.subst_eq_run look _).symm.trans hp) (CV.Template.run_ne_panic look _ _)

theorem evalValue_never_panics (look : Look) (v : List Seg) : evalValue look v ≠ .error .panic :=
  fun h => nomatch evalValue_error h

def wfLinesB (ls : List Line) : Bool :=
  ls.all fun l => match l with
    | .assign _ v => CV.Template.WF v
    | _ => true

theorem wfLines_of_B (ls : List Line) (h : wfLinesB ls = true) : WFLines ls := by
  intro k v hm
  have := List.all_eq_true.1 h _ hm
  simpa using this

theorem envChain_eq (penv acc : List (Key × Str)) :
    envChain penv acc = envLook penv (fun n => lookup n acc) := by
  funext n
  show (match lookup n acc with | some v => some v | none => lookup n penv) = orElse (lookup n acc) (lookup n penv)
  unfold orElse
  cases lookup n acc <;> rfl

theorem loadEnvFile_missing (fs : FS) (f : EnvFile) (look : Look) (hm : Missing fs f.path) :
    loadEnvFile fs f look = if f.required then .error .notFound else .ok [] := by
  unfold loadEnvFile
  rcases hm with hm | hm <;> rw [hm]

theorem loadEnvFile_dir (fs : FS) (f : EnvFile) (look : Look) (hp : fs f.path = some .dir) :
    loadEnvFile fs f look = if f.format ≠ [] then parseWithFormat fs f.format .dir look else .error .read := by
  simp only [loadEnvFile, loadMappingFile, hp]

theorem loadEnvFile_file (fs : FS) (f : EnvFile) (look : Look) (ls : List Line) (hp : fs f.path = some (.file ls)) :
    loadEnvFile fs f look =
      if f.format ≠ [] then parseWithFormat fs f.format (.file ls) look else parseLines look ls [] := by
  simp only [loadEnvFile, loadMappingFile, hp]

/-- `loadEnvFile` by what is at the path, for an entry whose format (if it names one) is not registered: case by case
    what `envFailureFrom` and `envContents` say about the same node -/
theorem loadEnvFile_unregistered (fs : FS) (f : EnvFile) (look : Look)
    (hreg : f.format ≠ [] → fs.formats f.format = none) :
    loadEnvFile fs f look = match fs f.path with
      | none => if f.required then .error .notFound else .ok []
      | some .notdir => if f.required then .error .notFound else .ok []
      | some .dir => if f.format ≠ [] then .error .format else .error .read
      | some (.file ls) => if f.format ≠ [] then .error .format else parseLines look ls [] := by
  have hfmt (nd : Node) (h : f.format ≠ []) : parseWithFormat fs f.format nd look = .error .format := by
    rw [parseWithFormat, hreg h]
  cases hp : fs f.path with
  | none => exact loadEnvFile_missing fs f look (Or.inl hp)
  | some nd =>
    cases nd with
    | notdir => exact loadEnvFile_missing fs f look (Or.inr hp)
    | dir =>
      rw [loadEnvFile_dir fs f look hp]
      split
      · exact hfmt _ ‹_›
      · rfl
    | file ls =>
      rw [loadEnvFile_file fs f look ls hp]
      split
      · exact hfmt _ ‹_›
      · rfl

theorem distinct_nil {β : Type} : Distinct ([] : List (Key × β)) := by simp [Distinct]

theorem lookup_overrideBy_str (k : Key) (m other : List (Key × Str)) (hd : Distinct other) :
    lookup k (overrideBy m other) = orElse (lookup k other) (lookup k m) := by
  rw [lookup_overrideBy k m other hd]
  unfold orElse
  cases lookup k other <;> rfl

/-- one turn of the loop over env / label files; `loadEnvFiles` and `loadLabelFiles` are folds of it -/
def fileStep {α : Type} (load : α → Look → Except Err (List (Key × Str))) (chain : List (Key × Str) → Look)
    (acc : List (Key × Str)) (f : α) : Except Err (List (Key × Str)) :=
  (load f (chain acc)).map (overrideBy acc)

theorem loadEnvFiles_eq_foldlM (penv : List (Key × Str)) (fs : FS) (efs : List EnvFile) (acc : List (Key × Str)) :
    loadEnvFiles penv fs efs acc = efs.foldlM (fileStep (loadEnvFile fs) (envChain penv)) acc := by
  induction efs generalizing acc with
  | nil => rfl
  | cons f r ih =>
    rw [List.foldlM_cons, loadEnvFiles, fileStep]
    cases loadEnvFile fs f (envChain penv acc) with
    | error e => rfl
    | ok vars => exact ih _

theorem loadLabelFiles_eq_foldlM (fs : FS) (ps : List Str) (acc : List (Key × Str)) :
    loadLabelFiles fs ps acc = ps.foldlM (fileStep (loadLabelFile fs) labelChain) acc := by
  induction ps generalizing acc with
  | nil => rfl
  | cons f r ih =>
    rw [List.foldlM_cons, loadLabelFiles, fileStep]
    cases loadLabelFile fs f (labelChain acc) with
    | error e => rfl
    | ok vars => exact ih _

theorem loadEnvFiles_distinct (penv : List (Key × Str)) (fs : FS) (efs : List EnvFile) (acc res : List (Key × Str))
    (hd : Distinct acc) (h : loadEnvFiles penv fs efs acc = .ok res) : Distinct res := by
  induction efs generalizing acc with
  | nil =>
    simp only [loadEnvFiles, Except.ok.injEq] at h
    exact h ▸ hd
  | cons f r ih =>
    simp only [loadEnvFiles] at h
    cases hf : loadEnvFile fs f (envChain penv acc) with
    | error e => rw [hf] at h; cases h
    | ok vars =>
      rw [hf] at h
      exact ih _ (distinct_overrideBy _ _ hd) h

theorem fileStep_congr {α β : Type} {load : α → Look → Except Err (List (Key × Str))} {chain : List (Key × Str) → Look}
    {load' : β → Look → Except Err (List (Key × Str))} {chain' : List (Key × Str) → Look} (g : α → β)
    (h : ∀ f acc, load f (chain acc) = load' (g f) (chain' acc)) (l : List α) (acc : List (Key × Str)) :
    l.foldlM (fileStep load chain) acc = (l.map g).foldlM (fileStep load' chain') acc := by
  rw [List.foldlM_map]
  exact congrArg (List.foldlM · acc l) (funext fun acc => funext fun f => by simp only [fileStep, h])

/-! Label files are env files: every file required, no format, empty project environment.  By the equations below every
    fact about the `label_file` loop is the fact about the `env_file` loop at `penv := []`. -/

def labelAsEnv (p : Str) : EnvFile := ⟨p, true, []⟩

theorem loadLabelFile_eq (fs : FS) (p : Str) (look : Look) :
    loadLabelFile fs p look = loadEnvFile fs (labelAsEnv p) look := by
  simp only [loadLabelFile, loadEnvFile, labelAsEnv]
  cases fs.node p with
  | none => rfl
  | some nd => cases nd <;> rfl

theorem labelChain_eq (acc : List (Key × Str)) : labelChain acc = envChain [] acc := by
  funext n
  unfold labelChain envChain
  cases lookup n acc <;> rfl

theorem loadLabelFiles_eq (fs : FS) (ps : List Str) (acc : List (Key × Str)) :
    loadLabelFiles fs ps acc = loadEnvFiles [] fs (ps.map labelAsEnv) acc := by
  rw [loadLabelFiles_eq_foldlM, loadEnvFiles_eq_foldlM]
  exact fileStep_congr labelAsEnv (fun p acc => by rw [loadLabelFile_eq, labelChain_eq]) ps acc

theorem envLook_nil (earlier : Key → Option Str) : envLook [] earlier = earlier :=
  funext fun n => orElse_none_right (earlier n)

theorem labelFilesValRevFrom_eq (base : Key → Option Str) (files : List (List Line)) :
    labelFilesValRevFrom base files = filesValRevFrom [] base files := by
  induction files with
  | nil => rfl
  | cons f r ih =>
    funext k
    simp only [labelFilesValRevFrom, filesValRevFrom, ih, envLook_nil]

theorem labelFilesVal_eq (files : List (List Line)) : labelFilesVal files = filesVal [] files :=
  funext fun _ => congrFun (labelFilesValRevFrom_eq _ _) _

theorem labelContents_eq (fs : FS) (ps : List Str) : labelContents fs ps = envContents fs (ps.map labelAsEnv) := by
  unfold labelContents envContents
  rw [List.filterMap_map]
  rfl

theorem labelFailureFrom_eq (fs : FS) (earlier : List (List Line)) (ps : List Str) :
    labelFailureFrom fs earlier ps = envFailureFrom [] fs earlier (ps.map labelAsEnv) := by
  induction ps generalizing earlier with
  | nil => rfl
  | cons p r ih =>
    simp only [labelFailureFrom, List.map_cons, envFailureFrom, labelFilesVal_eq, envLook_nil, ih, labelAsEnv]
    cases fs.node p with
    | none => rfl
    | some nd => cases nd <;> rfl

theorem loadLabelFiles_distinct (fs : FS) (ps : List Str) (acc res : List (Key × Str))
    (hd : Distinct acc) (h : loadLabelFiles fs ps acc = .ok res) : Distinct res :=
  loadEnvFiles_distinct [] fs _ acc res hd (loadLabelFiles_eq fs ps acc ▸ h)

theorem filesVal_snoc' (penv : List (Key × Str)) (files : List (List Line)) (f : List Line) (k : Key) :
    filesVal penv (files ++ [f]) k =
      orElse (fileVal (envLook penv (filesVal penv files)) f k) (filesVal penv files k) := by
  simp only [filesVal, List.reverse_append, List.reverse_cons, List.reverse_nil, List.nil_append,
    List.cons_append, filesValRevFrom]
  rfl

def Line.key? : Line → Option Key
  | .assign k _ => some k
  | .bare k => some k
  | .bad => none

def Mentions (ls : List Line) (k : Key) : Prop := ∃ l ∈ ls, Line.key? l = some k

theorem fileValRevFrom_not_mentions (look : Look) (base : Key → Option Str) (ls : List Line) (k : Key)
    (h : ¬ Mentions ls k) : fileValRevFrom look base ls k = base k := by
  induction ls with
  | nil => rfl
  | cons x r ih =>
    have hr : ¬ Mentions r k := fun ⟨l, hl, e⟩ => h ⟨l, List.mem_cons_of_mem _ hl, e⟩
    cases x with
    | assign k' v =>
      have : ¬ k' = k := fun e => h ⟨_, List.mem_cons_self, by simp [Line.key?, e]⟩
      simp [fileValRevFrom, this, ih hr]
    | bare k' =>
      have : ¬ k' = k := fun e => h ⟨_, List.mem_cons_self, by simp [Line.key?, e]⟩
      simp [fileValRevFrom, this, ih hr]
    | bad => simp [fileValRevFrom, ih hr]

/-- the value a file gives `k` is decided by its last line about `k`, read over what the lines before it gave -/
theorem fileVal_last (look : Look) (pre post : List Line) (x : Line) (k : Key) (hpost : ¬ Mentions post k) :
    fileVal look (pre ++ x :: post) k = fileValRevFrom look (fileVal look pre) [x] k := by
  unfold fileVal
  rw [List.reverse_append, List.reverse_cons, List.append_assoc, fileValRevFrom_append,
    fileValRevFrom_not_mentions _ _ _ _ fun ⟨l, hl, e⟩ => hpost ⟨l, List.mem_reverse.1 hl, e⟩]
  exact fileValRevFrom_append look _ [x] pre.reverse k

theorem fileVal_snoc (look : Look) (pre : List Line) (x : Line) (n : Key) :
    fileVal look (pre ++ [x]) n = fileValRevFrom look (fileVal look pre) [x] n :=
  fileVal_last look pre [] x n fun ⟨_, h, _⟩ => nomatch h

theorem fileVal_not_mentions (look : Look) (ls : List Line) (k : Key) (h : ¬ Mentions ls k) :
    fileVal look ls k = none := by
  unfold fileVal
  rw [fileValRevFrom_not_mentions]
  intro ⟨l, hl, e⟩
  exact h ⟨l, List.mem_reverse.1 hl, e⟩

theorem filesVal_append_not_mentions (penv : List (Key × Str)) (files post : List (List Line)) (k : Key)
    (h : ∀ g ∈ post, ¬ Mentions g k) : filesVal penv (files ++ post) k = filesVal penv files k := by
  induction post generalizing files with
  | nil => simp
  | cons g r ih =>
    have e : files ++ g :: r = (files ++ [g]) ++ r := by simp
    rw [e, ih _ (fun g' hg' => h g' (List.mem_cons_of_mem _ hg')), filesVal_snoc',
      fileVal_not_mentions _ _ _ (h g List.mem_cons_self)]
    rfl

theorem labelFilesVal_snoc' (files : List (List Line)) (f : List Line) (k : Key) :
    labelFilesVal (files ++ [f]) k = orElse (fileVal (labelFilesVal files) f k) (labelFilesVal files k) := by
  rw [labelFilesVal_eq, labelFilesVal_eq, filesVal_snoc', envLook_nil]

theorem loadEnvFiles_append (penv : List (Key × Str)) (fs : FS) (a b : List EnvFile) (acc : List (Key × Str)) :
    loadEnvFiles penv fs (a ++ b) acc = (loadEnvFiles penv fs a acc).bind (loadEnvFiles penv fs b) := by
  rw [loadEnvFiles_eq_foldlM, List.foldlM_append, ← loadEnvFiles_eq_foldlM]
  exact congrArg _ (funext fun acc' => (loadEnvFiles_eq_foldlM penv fs b acc').symm)

theorem loadEnvFiles_missing_required (penv : List (Key × Str)) (fs : FS) (f : EnvFile) (hm : Missing fs f.path)
    (hr : f.required = true) (efs : List EnvFile) (hf : f ∈ efs) (acc : List (Key × Str)) :
    ∃ e, loadEnvFiles penv fs efs acc = .error e := by
  obtain ⟨pre, post, rfl⟩ := List.append_of_mem hf
  rw [loadEnvFiles_append]
  cases loadEnvFiles penv fs pre acc with
  | error e => exact ⟨e, rfl⟩
  | ok acc' => exact ⟨.notFound, by simp only [Except.bind, loadEnvFiles, loadEnvFile_missing fs f _ hm, hr, if_true]⟩

theorem resolveServiceEnv_eq (penv : List (Key × Str)) (fs : FS) (d : Bool) (s : Service) :
    resolveServiceEnv penv fs d s = (loadEnvFiles penv fs s.envFiles []).map fun acc => { s with
      environment := overrideBy (toMWE acc) (resolveMWE (fun k => lookup k penv) s.environment)
      envFiles := if d then [] else s.envFiles } := by
  unfold resolveServiceEnv
  cases loadEnvFiles penv fs s.envFiles [] <;> rfl

theorem resolveServiceEnv_ok {penv : List (Key × Str)} {fs : FS} {d : Bool} {s s' : Service}
    (h : resolveServiceEnv penv fs d s = .ok s') :
    ∃ acc, loadEnvFiles penv fs s.envFiles [] = .ok acc ∧ s' = { s with
      environment := overrideBy (toMWE acc) (resolveMWE (fun k => lookup k penv) s.environment)
      envFiles := if d then [] else s.envFiles } := by
  rw [resolveServiceEnv_eq] at h
  exact map_eq_ok h

theorem resolveServiceLabels_eq (fs : FS) (d : Bool) (s : Service) :
    resolveServiceLabels fs d s = (loadLabelFiles fs s.labelFiles []).map fun acc => { s with
      labels := if (overrideBy (toMWE acc) (toMWE s.labels)).isEmpty then s.labels
        else ofMWE (overrideBy (toMWE acc) (toMWE s.labels))
      labelFiles := if d then [] else s.labelFiles } := by
  unfold resolveServiceLabels
  cases loadLabelFiles fs s.labelFiles [] <;> rfl

theorem resolveServiceLabels_ok {fs : FS} {d : Bool} {s s' : Service} (h : resolveServiceLabels fs d s = .ok s') :
    ∃ acc, loadLabelFiles fs s.labelFiles [] = .ok acc ∧ s' = { s with
      labels := if (overrideBy (toMWE acc) (toMWE s.labels)).isEmpty then s.labels
        else ofMWE (overrideBy (toMWE acc) (toMWE s.labels))
      labelFiles := if d then [] else s.labelFiles } := by
  rw [resolveServiceLabels_eq] at h
  exact map_eq_ok h

theorem pickFrom_fileLayers (penv : List (Key × Str)) (pre files : List (List Line)) (k : Key) :
    pickFrom ((filesVal penv pre k).map some) (fileLayersFrom penv pre files) k =
      (filesVal penv (pre ++ files) k).map some := by
  induction files generalizing pre with
  | nil => simp [fileLayersFrom, pickFrom]
  | cons f r ih =>
    have e : pre ++ f :: r = (pre ++ [f]) ++ r := by simp
    rw [e, ← ih (pre ++ [f])]
    simp only [fileLayersFrom, pickFrom, List.foldl_cons]
    congr 1
    rw [filesVal_snoc']
    cases fileVal (envLook penv (filesVal penv pre)) f k <;> rfl

theorem distinct_perm {β : Type} (m m' : List (Key × β)) (hd : Distinct m) (hp : m.Perm m') : Distinct m' :=
  ((hp.map Prod.fst).nodup_iff).1 hd

theorem lookup_perm {β : Type} (k : Key) (m m' : List (Key × β)) (hd : Distinct m) (hp : m.Perm m') :
    lookup k m = lookup k m' := by
  rw [lookup_eq, lookup_eq]; exact Assoc.lookup_perm hp hd

theorem loadEnvFiles_congr_penv (penv penv' : List (Key × Str)) (fs : FS) (h : ∀ n, lookup n penv = lookup n penv')
    (efs : List EnvFile) (acc : List (Key × Str)) :
    loadEnvFiles penv fs efs acc = loadEnvFiles penv' fs efs acc := by
  have e : envChain penv = envChain penv' := by funext acc n; simp only [envChain, h]
  rw [loadEnvFiles_eq_foldlM, loadEnvFiles_eq_foldlM, e]

/-- the dotenv parser returns a Go map; so does `loadEnvFile` unless a registered parser is what returned -/
theorem loadEnvFile_distinct (fs : FS) (f : EnvFile) (look : Look) (vars : List (Key × Str))
    (hreg : f.format ≠ [] → fs.formats f.format = none) (h : loadEnvFile fs f look = .ok vars) : Distinct vars := by
  rw [loadEnvFile_unregistered fs f look hreg] at h
  split at h
  · split at h <;> cases h; exact distinct_nil
  · split at h <;> cases h; exact distinct_nil
  · split at h <;> cases h
  · split at h
    · cases h
    · exact parseLines_distinct _ _ _ _ distinct_nil h

theorem loadLabelFile_distinct (fs : FS) (p : Str) (look : Look) (vars : List (Key × Str))
    (h : loadLabelFile fs p look = .ok vars) : Distinct vars :=
  loadEnvFile_distinct fs (labelAsEnv p) look vars (fun hf => absurd rfl hf) (loadLabelFile_eq fs p look ▸ h)

end CV.EnvLayers

namespace CV.EnvLayers.Neg
open CV.EnvLayers CV.EnvLayers.Spec

/-- the full-strength statement, about a given loop over the env files: a missing, not-required env file contributes
    nothing.  It is a statement about a loop given as a parameter and stands here, under the name `Neg.…` that
    Props/C16.lean (`missing_optional_skipped_full`: it holds of `loadEnvFiles`) and Neg/C16.lean (it fails of
    `Neg.loadEnvFilesPre`) both mention, so that neither of the two files imports the other. -/
def MissingOptionalSkipped
    (load : List (Key × Str) → FS → List EnvFile → List (Key × Str) → Except Err (List (Key × Str))) : Prop :=
  ∀ (penv : List (Key × Str)) (fs : FS) (pre post : List EnvFile) (f : EnvFile) (acc : List (Key × Str)),
    Missing fs f.path → f.required = false →
      load penv fs (pre ++ f :: post) acc = load penv fs (pre ++ post) acc

end CV.EnvLayers.Neg
