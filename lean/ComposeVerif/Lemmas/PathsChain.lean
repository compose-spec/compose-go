import ComposeVerif.Lemmas.PathsDir
/-!
Origin chains of ANY depth (C12): a chain of `n` plain includes, optionally ending in an `extends`, is ONE
resolution against the directory found by following the chain.
-/
namespace CV.Paths

theorem applyStages_cons_ok (k : Nat) (cfg : Cfg) (b : Str) (rest : List Str) (s s' : Str)
    (h : resolveKind k { cfg with wd := b } s = .ok s') :
    applyStages k cfg (b :: rest) s = applyStages k cfg rest s' := by
  simp [applyStages, h]

theorem applyStages_one (k : Nat) (cfg : Cfg) (b s : Str) :
    applyStages k cfg [b] s = resolveKind k { cfg with wd := b } s := by
  obtain ⟨r, hr⟩ := resolveKind_total k { cfg with wd := b } s
  rw [applyStages_cons_ok k cfg b [] s r hr, hr]; rfl

theorem applyStages_two (k : Nat) (cfg : Cfg) (R W s : Str) (hW : W ≠ []) (hR : R ≠ []) (hRr : isAbs R = false) :
    applyStages k cfg [R, W] s = resolveKind k { cfg with wd := join W R } s := by
  obtain ⟨m, hm⟩ := resolveKind_total k { cfg with wd := R } s
  rw [applyStages_cons_ok k cfg R _ s m hm, applyStages_one, resolveKind_compose k cfg R W s m hW hR hRr hm]

/-- the base `[Rₙ, …, R₁] ++ [W]` (innermost first) collapses to: `Join(… Join(Join(W, R₁), R₂) …, Rₙ)` -/
def chainBase (W : Str) : List Str → Str
  | [] => W
  | R :: Rs => join (chainBase W Rs) R

theorem chainBase_ne_nil (W : Str) (hW : W ≠ []) : ∀ Rs, chainBase W Rs ≠ []
  | [] => hW
  | _ :: Rs => join_ne_nil _ _ (chainBase_ne_nil W hW Rs)

theorem chainBase_snoc (W r : Str) : ∀ X, chainBase W (X ++ [r]) = chainBase (join W r) X
  | [] => rfl
  | x :: X => by simp only [List.cons_append, chainBase, chainBase_snoc W r X]

theorem applyStages_chain (k : Nat) (cfg : Cfg) (W : Str) (hW : W ≠ []) :
    ∀ (Rs : List Str), (∀ R ∈ Rs, R ≠ [] ∧ isAbs R = false) → ∀ s,
      applyStages k cfg (Rs ++ [W]) s = resolveKind k { cfg with wd := chainBase W Rs } s
  | [], _, s => applyStages_one k cfg W s
  | R :: Rs, h, s => by
    obtain ⟨a, ha⟩ := resolveKind_total k { cfg with wd := R } s
    have hR := h R (by simp)
    rw [List.cons_append, applyStages_cons_ok k cfg R _ s a ha,
      applyStages_chain k cfg W hW Rs (fun R' hR' => h R' (by simp [hR'])) a]
    exact resolveKind_compose k cfg R _ s a (chainBase_ne_nil W hW Rs) hR.1 hR.2 ha

/-- following a chain of includes: each file is found from the directory of the previous one; `D` = what the end of the
chain does with the last directory -/
def inclDir (D : Str → Str) : Str → List Str → Str
  | L, [] => D L
  | L, p :: ps => inclDir D (dir (absIn L p)) ps

/-- every include names a file (not a directory); `fin` = the condition at the end of the chain -/
def InclOK (isDir : Str → Bool) (fin : Str → Prop) : Str → List Str → Prop
  | L, [] => fin L
  | L, p :: ps => isDir (absIn L p) = false ∧ InclOK isDir fin (dir (absIn L p)) ps

def inclSteps (ps : List Str) : List Step := ps.map (fun p => Step.incl p none)

theorem stagesOf_incl_chain (cfg : Cfg) (isDir : Str → Bool) (tail : List Step) (D : Str → Str) (fin : Str → Prop)
    (htail : ∀ L c, isAbs L = true → fin L →
      (∀ R ∈ stagesOf cfg isDir ⟨L, c⟩ none tail, R ≠ [] ∧ isAbs R = false) ∧
        chainBase L (stagesOf cfg isDir ⟨L, c⟩ none tail) = D L) :
    ∀ (ps : List Str) (L c : Str), isAbs L = true → InclOK isDir fin L ps →
      (∀ R ∈ stagesOf cfg isDir ⟨L, c⟩ none (inclSteps ps ++ tail), R ≠ [] ∧ isAbs R = false) ∧
        chainBase L (stagesOf cfg isDir ⟨L, c⟩ none (inclSteps ps ++ tail)) = inclDir D L ps
  | [], L, c, hL, hok => by simpa [inclSteps, inclDir] using htail L c hL hok
  | p :: ps, L, c, hL, hok => by
    obtain ⟨hf, hrest⟩ := hok
    have hpath := isAbs_absIn L p hL
    have hl := loaderDir_of_file isDir L (absIn L p) hL (by rw [absIn_of_abs _ _ hpath]; exact hf)
    rw [absIn_of_abs _ _ (isAbs_dir _ hpath), clean_dir] at hl
    have ih := stagesOf_incl_chain cfg isDir tail D fin htail ps (dir (absIn L p)) (loaderDir isDir L (absIn L p))
      (isAbs_dir _ hpath) hrest
    simp only [inclSteps, List.map_cons, List.cons_append, stagesOf, includeLevel, inclDir]
    constructor
    · intro R hR
      rcases List.mem_append.mp hR with h | h
      · exact ih.1 R h
      · simp only [List.mem_singleton] at h; subst h; exact ⟨hl.1, hl.2.1⟩
    · rw [chainBase_snoc, hl.2.2]; exact ih.2

theorem chainBase_join (W r : Str) (hW : W ≠ []) (hr : r ≠ []) (hrr : isAbs r = false) :
    ∀ X : List Str, (∀ R ∈ X, R ≠ [] ∧ isAbs R = false) →
      chainBase r X ≠ [] ∧ isAbs (chainBase r X) = false ∧ join W (chainBase r X) = chainBase (join W r) X
  | [], _ => ⟨hr, hrr, rfl⟩
  | x :: X, h => by
    obtain ⟨h1, h2, h3⟩ := chainBase_join W r hW hr hrr X (fun R hR => h R (by simp [hR]))
    have hx := h x (by simp)
    refine ⟨join_ne_nil _ _ h1, isAbs_join_rel _ _ h1 h2, ?_⟩
    simp only [chainBase]
    rw [← join_assoc W _ x hW h1 h2, h3]

end CV.Paths
