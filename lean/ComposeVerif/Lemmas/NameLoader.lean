import ComposeVerif.Lemmas.Name
/-! Lemmas for the loader-level entry of the name decision; the cli path of `Model/Name.lean` is its instance
"interpolation on, the pair `withNamePrecedenceLoad` computes". -/
namespace CV.Name
open CV CV.Name.Spec

theorem interpName_false (env : Env) (raw : Str) :
    interpName env false raw =
      match Template.subst env.get raw with
      | .ok s => .ok s
      | .err _ => .error .interp
      | .panic _ => .error .panic := by
  simp only [interpName, Bool.false_eq_true, if_false]
  cases Template.subst env.get raw <;> rfl

theorem interpName_true (env : Env) (raw : Str) : interpName env true raw = .ok raw := by
  simp [interpName]

theorem interpName_err (env : Env) (skip : Bool) (raw : Str) (e : Err) (h : interpName env skip raw = .error e) :
    e = .interp ∨ e = .panic := by
  cases skip with
  | true => rw [interpName_true] at h; cases h
  | false =>
    rw [interpName_false] at h
    split at h <;> cases h
    · exact Or.inl rfl
    · exact Or.inr rfl

theorem sourcesOfX_false (w : World) (o : PO) (files : List (List (Option Str))) :
    sourcesOfX w o files false = sourcesOf w o files := by
  simp only [sourcesOfX, sourcesOf, interpName_false]
  cases Template.subst o.env.get (selectedName files) <;> rfl

theorem pipeline_false (env : Env) (names : List Str) (probe : Str) :
    pipeline env false names probe =
      match interpAll env names with
      | .error e => .error e
      | .ok _ =>
        match Template.subst env.get probe with
        | .err _ => .error .interp
        | .panic _ => .error .panic
        | .ok p => .ok p := by
  simp only [pipeline, Bool.false_eq_true, if_false]
  cases interpAll env names with
  | error e => rfl
  | ok u => simp only; cases Template.subst env.get probe <;> rfl

theorem pipeline_false_ok (env : Env) (names : List Str) (probe p : Str)
    (h : pipeline env false names probe = .ok p) :
    interpAll env names = .ok () ∧ Template.subst env.get probe = .ok p := by
  rw [pipeline_false] at h
  split at h
  · cases h
  · refine ⟨‹_›, ?_⟩
    split at h <;> cases h
    assumption

theorem pipeline_true (env : Env) (names : List Str) (probe : Str) : pipeline env true names probe = .ok probe := by
  simp [pipeline]

theorem projectNameL_valid (files : List (List (Option Str))) (env : Env) (lo : LOpts) (n : Str)
    (h : projectNameL files env lo = .ok n) : n = [] ∨ validName n = true := by
  unfold projectNameL at h
  split at h
  · split at h
    · cases h
    · rename_i hfix
      cases h
      exact (norm_fixed_iff _).mp (Classical.not_not.mp hfix)
  · split at h
    · cases h
    · split at h <;> cases h <;> exact norm_valid _

theorem loadL_ok_inv (files : List (List (Option Str))) (env : Option Env) (lo : LOpts) (probe : Str) (r : Loaded)
    (h : loadL files env lo probe = .ok r) :
    projectNameL files (env.getD []) lo = .ok r.name ∧ r.name ≠ [] ∧
    r.env = (cpn, r.name) :: env.getD [] ∧
    pipeline r.env lo.skipInterp (allNames files) probe = .ok r.probe := by
  unfold loadL at h
  split at h
  · cases h
  · rename_i name hname
    split at h
    · cases h
    · rename_i p hp
      split at h
      · cases h
      · rename_i hne
        cases h
        exact ⟨hname, hne, rfl, hp⟩

theorem loadX_ok_inv (w : World) (o : PO) (skip : Bool) (r : Loaded) (h : loadX w o skip = .ok r) :
    ∃ files, o.configs ≠ [] ∧ readConfigs w o.configs = .ok files ∧
      loadL files (some o.env) (loptsOf w o skip) w.probe = .ok r := by
  unfold loadX at h
  split at h
  · cases h
  · rename_i c cs hc
    split at h
    · cases h
    · exact ⟨_, by rw [hc]; exact List.cons_ne_nil _ _, ‹_›, h⟩

theorem runX_ok_inv (w : World) (opts : List Opt) (interps : List Bool) (r : Loaded)
    (h : runX w opts interps = .ok r) :
    ∃ o, runOpts w opts { configs := w.given } = .ok o ∧ loadX w o (!interpFlag interps) = .ok r := by
  unfold runX at h
  split at h
  · exact ⟨_, ‹_›, h⟩
  · cases h

theorem projectNameL_imperative (files : List (List (Option Str))) (env : Env) (lo : LOpts) (n : Str)
    (hi : lo.imperative = true) (h : projectNameL files env lo = .ok n) : n = lo.name := by
  simp only [projectNameL, hi, if_true] at h
  split at h
  · cases h
  · exact (Except.ok.inj h).symm

theorem loptsOf_explicit (w : World) (o : PO) (skip : Bool) (h : o.name ≠ []) :
    loptsOf w o skip = { name := o.name, imperative := true, skipInterp := skip } := by
  simp [loptsOf, cliName, h]

/-- what `withNamePrecedenceLoad` hands over: the explicit name, else a non-empty `COMPOSE_PROJECT_NAME` (both set
    imperatively), else the normalised directory name -/
theorem cliName_cases (w : World) (o : PO) :
    (o.name ≠ [] ∧ cliName w o = (o.name, true)) ∨
    (∃ n, o.name = [] ∧ o.env.get cpn = some n ∧ n ≠ [] ∧ cliName w o = (n, true)) ∨
    (o.name = [] ∧ (o.env.get cpn).filter (· ≠ []) = none ∧ cliName w o = (normalize (projDir w o), false)) := by
  unfold cliName
  by_cases hn : o.name = []
  · cases he : o.env.get cpn with
    | none => simp [hn]
    | some n => by_cases hne : n = [] <;> simp [hn, hne, Option.filter]
  · simp [hn]

theorem projectNameL_agrees (files : List (List (Option Str))) (env : Env) (lo : LOpts)
    (himp : lo.imperative = true → lo.name ≠ []) :
    Agrees (Spec.decide (lsources files env lo)) (projectNameL files env lo) := by
  unfold Spec.decide lsources projectNameL
  cases hi : lo.imperative with
  | true =>
    -- the request: valid names are the non-empty fixed points of normalisation
    have hn := himp hi
    simp only [if_true, hn, ne_eq, not_false_eq_true]
    by_cases hv : validName lo.name = true
    · simp only [hv, if_true, normalize_of_valid _ hv, not_true_eq_false, if_false]
      exact ⟨rfl, hn⟩
    · simp only [hv, normalize_ne _ hn hv, not_false_eq_true, if_true]
      exact rfl
  | false =>
    -- the `name:` of the files, interpolated and normalised, else the normalised guess
    simp only [Bool.false_eq_true, if_false, ne_eq, not_true_eq_false, Option.filter, lastName_selected]
    cases hint : interpName env lo.skipInterp (selectedName files) with
    | ok s =>
      by_cases h1 : normalize s = []
      · by_cases h2 : normalize lo.name = [] <;> simp [Agrees, h1, h2]
      · simp [Agrees, h1]
    | error e => rcases interpName_err _ _ _ _ hint with h | h <;> simp [Agrees, h]

theorem decide_cli_eq_lsources (w : World) (o : PO) (files : List (List (Option Str))) (skip : Bool) :
    Spec.decide (sourcesOfX w o files skip) = Spec.decide (lsources files o.env (loptsOf w o skip)) := by
  unfold Spec.decide sourcesOfX lsources loptsOf
  rcases cliName_cases w o with ⟨h, hc⟩ | ⟨n, h1, h2, h3, hc⟩ | ⟨h1, h2, hc⟩ <;> rw [hc]
  · simp only [h, ne_eq, not_false_eq_true, if_true]
  · simp only [h1, h2, h3, ne_eq, not_true_eq_false, not_false_eq_true, if_false, if_true, Option.filter, decide_true]
  · simp only [h2]
    simp only [h1, ne_eq, not_true_eq_false, if_false, Bool.false_eq_true, Option.filter, norm_idem]

theorem projectNameL_agrees_cli (w : World) (o : PO) (files : List (List (Option Str))) (skip : Bool) :
    Agrees (Spec.decide (sourcesOfX w o files skip)) (projectNameL files o.env (loptsOf w o skip)) := by
  rw [decide_cli_eq_lsources]
  refine projectNameL_agrees files o.env _ fun hi => ?_
  rcases cliName_cases w o with ⟨h, hc⟩ | ⟨n, _, _, h3, hc⟩ | ⟨_, _, hc⟩
  · simpa [loptsOf, hc] using h
  · simpa [loptsOf, hc] using h3
  · simp [loptsOf, hc] at hi

theorem loadL_cli_decision (w : World) (o : PO) (files : List (List (Option Str))) (skip : Bool) (r : Loaded)
    (h : loadL files (some o.env) (loptsOf w o skip) w.probe = .ok r) :
    Spec.decide (sourcesOfX w o files skip) = .name r.name := by
  obtain ⟨h1, h2, _, _⟩ := loadL_ok_inv _ _ _ _ r h
  exact Agrees.ok_name (h1 ▸ projectNameL_agrees_cli w o files skip) h2

/-- on the pairs the cli produces, the model of `loader.projectName` in `Model/Name.lean` is the full one (it does not
    normalise the directory name again: the cli has) -/
theorem loaderName_eq_projectNameL (files : List (List (Option Str))) (w : World) (o : PO) :
    loaderName files o.env (cliName w o) = projectNameL files o.env (loptsOf w o false) := by
  unfold loaderName projectNameL loptsOf
  rcases cliName_cases w o with ⟨_, hc⟩ | ⟨n, _, _, _, hc⟩ | ⟨_, _, hc⟩ <;> rw [hc]
  · rfl
  · rfl
  · simp only [Bool.false_eq_true, if_false, interpName_false]
    cases Template.subst (Env.get o.env) (lastName files []) with
    | ok s => simp only [norm_idem]
    | err e => rfl
    | panic p => rfl

end CV.Name
