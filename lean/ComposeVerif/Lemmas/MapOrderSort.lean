import ComposeVerif.Model.MapOrder
import ComposeVerif.Lemmas.Assoc
/-! The insertion sort of `Model/MapOrder.lean` (`isort`): a permutation of its input, sorted for a total transitive order,
hence the same list for every arrangement of the input when the order is antisymmetric on it; the loader's orders compare
a string key (`ByKey`). -/
namespace CV.Det
open CV CV.Val

variable {α β : Type}

theorem insertBy_perm (le : α → α → Bool) (x : α) (l : List α) : (insertBy le x l).Perm (x :: l) := by
  induction l with
  | nil => exact List.Perm.refl _
  | cons y ys ih =>
    simp only [insertBy]; split
    · exact List.Perm.refl _
    · exact ((List.Perm.cons y ih).trans (List.Perm.swap x y ys))

theorem isort_perm (le : α → α → Bool) (l : List α) : (isort le l).Perm l := by
  induction l with
  | nil => exact List.Perm.refl _
  | cons x xs ih => exact (insertBy_perm le x _).trans (List.Perm.cons x ih)

theorem insertBy_pairwise {le : α → α → Bool}
    (trans : ∀ a b c, le a b = true → le b c = true → le a c = true)
    (total : ∀ a b, le a b = true ∨ le b a = true)
    (x : α) {l : List α} (h : l.Pairwise (fun a b => le a b = true)) :
    (insertBy le x l).Pairwise (fun a b => le a b = true) := by
  induction l with
  | nil => simp [insertBy]
  | cons y ys ih =>
    simp only [insertBy]
    rw [List.pairwise_cons] at h
    split
    · next hxy =>
      refine List.pairwise_cons.mpr ⟨?_, List.pairwise_cons.mpr h⟩
      intro z hz
      rcases List.mem_cons.mp hz with rfl | hz
      · exact hxy
      · exact trans _ _ _ hxy (h.1 z hz)
    · next hxy =>
      have hyx : le y x = true := by
        rcases total x y with h' | h'
        · exact absurd h' hxy
        · exact h'
      refine List.pairwise_cons.mpr ⟨?_, ih h.2⟩
      intro z hz
      have : z ∈ x :: ys := (insertBy_perm le x ys).subset hz
      rcases List.mem_cons.mp this with rfl | hz
      · exact hyx
      · exact h.1 z hz

theorem isort_pairwise {le : α → α → Bool}
    (trans : ∀ a b c, le a b = true → le b c = true → le a c = true)
    (total : ∀ a b, le a b = true ∨ le b a = true) (l : List α) :
    (isort le l).Pairwise (fun a b => le a b = true) := by
  induction l with
  | nil => simp [isort]
  | cons x xs ih => exact insertBy_pairwise trans total x ih

theorem isort_eq_of_perm {le : α → α → Bool}
    (trans : ∀ a b c, le a b = true → le b c = true → le a c = true)
    (total : ∀ a b, le a b = true ∨ le b a = true)
    {l l' : List α} (antisymm : ∀ a b, a ∈ l → b ∈ l → le a b = true → le b a = true → a = b)
    (hp : l'.Perm l) : isort le l' = isort le l := by
  apply List.Perm.eq_of_pairwise (le := fun a b => le a b = true)
  · intro a b ha hb
    exact antisymm a b (hp.subset ((isort_perm le l').subset ha)) ((isort_perm le l).subset hb)
  · exact isort_pairwise trans total l'
  · exact isort_pairwise trans total l
  · exact (isort_perm le l').trans (hp.trans (isort_perm le l).symm)

/-- the orders used by the loader compare a string key: `sort.Strings`, `slices.SortFunc` on `.ID`, on `host=` -/
def ByKey (key : α → String) (le : α → α → Bool) : Prop := ∀ a b, le a b = decide (key a ≤ key b)

theorem ByKey.trans {key : α → String} {le : α → α → Bool} (h : ByKey key le) (a b c : α) :
    le a b = true → le b c = true → le a c = true := by
  simp only [h _ _, decide_eq_true_eq]; exact String.le_trans

theorem ByKey.total {key : α → String} {le : α → α → Bool} (h : ByKey key le) (a b : α) :
    le a b = true ∨ le b a = true := by
  simp only [h _ _, decide_eq_true_eq]; exact String.le_total _ _

theorem isort_byKey_perm {key : α → String} {le : α → α → Bool} (h : ByKey key le) {l l' : List α}
    (hinj : ∀ a b, a ∈ l → b ∈ l → key a = key b → a = b) (hp : l'.Perm l) : isort le l' = isort le l := by
  apply isort_eq_of_perm h.trans h.total _ hp
  intro a b ha hb hab hba
  simp only [h _ _, decide_eq_true_eq] at hab hba
  exact hinj a b ha hb (String.le_antisymm hab hba)

theorem strLe_byKey : ByKey id strLe := fun _ _ => rfl
theorem keyLe_byKey : ByKey Prod.fst keyLe := fun _ _ => rfl
theorem hostLe_byKey : ByKey (fun a : String × List String => a.1 ++ "=") hostLe := fun _ _ => rfl

theorem sortStrs_perm {l l' : List String} (hp : l'.Perm l) : sortStrs l' = sortStrs l :=
  isort_byKey_perm strLe_byKey (fun _ _ _ _ h => h) hp

theorem sortStrs_perm_self (l : List String) : (sortStrs l).Perm l := isort_perm _ l

theorem sortStrs_sorted (l : List String) : (sortStrs l).Pairwise (· ≤ ·) := by
  have := isort_pairwise strLe_byKey.trans strLe_byKey.total l
  simpa [sortStrs, strLe] using this

theorem isort_keyLe_perm {l l' : List (String × String)} (hn : (l.map Prod.fst).Nodup) (hp : l'.Perm l) :
    isort keyLe l' = isort keyLe l :=
  isort_byKey_perm keyLe_byKey (fun _ _ ha hb h => Assoc.eq_of_mem_of_fst_eq hn ha hb h) hp

end CV.Det
