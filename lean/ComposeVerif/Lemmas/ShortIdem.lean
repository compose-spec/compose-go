import ComposeVerif.Lemmas.ShortTransform
import ComposeVerif.Lemmas.ShortDoc
import ComposeVerif.Lemmas.ValInd
/-!
# Whole-tree idempotence of `transform.Canonical` — the induction (C03)

One induction for either value of `ignoreParseError`; the theorems about the strict mode (`false`) are its instances.
Built on the leaf-wise `transformX_idem` theorems (`Lemmas/ShortTransform.lean`), the kernel-reducible `TPath.nextK`
(`Model/PathK.lean`) and an inversion of the regenerated table (`Lemmas/ShortTable.lean`): the three handlers that create new structure
*and* are re-entered on it (`transformBuild`, `transformExtends`, `transformMaybeExternal`) sit at known paths,
below which the table has no row.  With `ignoreParseError = true` three transformers may hand their input back
unparsed; then the result *is* the input and the second pass is the first pass again.
-/
namespace CV.Short
open CV CV.TPath

theorem recursesOnMap_none : recursesOnMap none = true := by decide

theorem transform_eq_leaf (ign : Bool) (p : TPath) (w : Val) (hr : recursesOnMap (H p) = false) :
    transform ign p w = leaf (H p) ign w := by
  cases hH : H p with
  | none => rw [hH, recursesOnMap_none] at hr; cases hr
  | some h => exact transform_leaf_at ign p h w hH (hH ▸ hr)

/-- along the `if h = "…"` chain of `leaf`, in its order; `hr` excludes the four handlers that walk into mappings -/
theorem leaf_idem (ign : Bool) (h : Option String) (hr : recursesOnMap h = false) (v w : Val) :
    leaf h ign v = .ok w → leaf h ign w = .ok w := by
  cases h with
  | none => cases hr
  | some name =>
    have nr : ∀ {x : String} {P : Prop}, recursesOnMap (some x) = true → name = x → P :=
      fun hx e => by rw [e, hx] at hr; cases hr
    unfold leaf
    exact if_ok_imp (nr (by simp [recursesOnMap])) <| if_ok_imp (nr (by simp [recursesOnMap])) <|
      if_ok_imp (nr (by simp [recursesOnMap])) <| if_ok_imp (nr (by simp [recursesOnMap])) <|
      if_ok_imp (fun _ => transformFileMount_idem v w) <| if_ok_imp (fun _ => transformKeyValue_idem ign v w) <|
      if_ok_imp (fun _ => transformDependsOn_idem v w) <| if_ok_imp (fun _ => transformEnvFile_idem v w) <|
      if_ok_imp (fun _ => transformServiceNetworks_idem v w) <| if_ok_imp (fun _ => transformVolumeMount_idem ign v w) <|
      if_ok_imp (fun _ => transformStringOrList_idem v w) <| if_ok_imp (fun _ => transformDeviceMapping_idem ign v w) <|
      if_ok_imp (fun _ => transformPorts_idem ign v w) <| if_ok_imp (fun _ => transformSSH_idem v w) <|
      if_ok_imp (fun _ => transformUlimits_idem v w) <| if_ok_imp (fun _ => transformInclude_idem v w) nofun

theorem below_next (q : TPath) (h : Below q) (k : String) : Below (TPath.nextK q k) := by
  obtain ⟨a, b, c, rest, hq, ha⟩ := h
  subst hq
  have : (a :: b :: c :: rest) ≠ TPath.root := by simp [TPath.root]
  rw [TPath.nextK_of_ne_root _ _ this]
  exact ⟨a, b, c, rest ++ [String.ofList (TPath.replaceDots k.toList)], by simp, ha⟩

theorem id_below₃ (ign : Bool) : (∀ (v : Val) (q : TPath), Below q → transform ign q v = .ok v) ∧
    (∀ (m : Val.KVs) (q : TPath), Below q → transformKVs ign q m = .ok m) ∧
    (∀ (l : List Val) (q : TPath), Below q → transformSeq ign q l = .ok l) := by
  apply Val.induct₃
  case null | bool | int | float | str => intros; rename_i q hq; simp [transform, H_below q hq, leaf]
  case seq | map => intro _ ih q hq; simp [transform, H_below q hq, recursesOnMap, ih q hq, bindOut, postMap]
  case nil | nil' => intros; simp [transformKVs, transformSeq]
  case cons | cons' =>
    intros; rename_i ihv ihr q hq
    simp [transformKVs, transformSeq, ihv _ (below_next q hq _), ihr q hq]

theorem id_belowA (ign : Bool) : ∀ (v : Val) (q : TPath), Below q → transform ign q v = .ok v := (id_below₃ ign).1
theorem id_below_kvsA (ign : Bool) : ∀ (m : Val.KVs) (q : TPath), Below q → transformKVs ign q m = .ok m := (id_below₃ ign).2.1
theorem id_below_seqA (ign : Bool) : ∀ (l : List Val) (q : TPath), Below q → transformSeq ign q l = .ok l := (id_below₃ ign).2.2
theorem id_below_kvs : ∀ (m : Val.KVs) (q : TPath), Below q → transformKVs false q m = .ok m := id_below_kvsA false
theorem id_below_seq : ∀ (l : List Val) (q : TPath), Below q → transformSeq false q l = .ok l := id_below_seqA false

theorem transform_single_str (ign : Bool) (p : TPath) (h k s : String) (hp : H p = some h) (hne : p ≠ TPath.root)
    (hr : recursesOnMap (some h) = true) (he : h ≠ "transformMaybeExternal") (hk : seg k = k) (hn : H (p ++ [k]) = none) :
    transform ign p (.map [(k, .str s)]) = .ok (.map [(k, .str s)]) := by
  have hx : some h ≠ some "transformMaybeExternal" := fun e => he (Option.some.inj e)
  have hs : String.ofList (TPath.replaceDots k.toList) = k := hk
  simp only [transform, hp, hr, if_true, transformKVs, TPath.nextK_of_ne_root _ _ hne, hs, hn, leaf, bindOut, postMap, hx, if_false]

theorem transformBuild_long_id (ign : Bool) (n s : String) :
    transform ign ["services", n, "build"] (.map [("context", .str s)]) = .ok (.map [("context", .str s)]) :=
  transform_single_str ign _ _ _ s (dispatch_build n) (by simp [TPath.root]) (by simp [recursesOnMap]) (by simp)
    (seg_of_no_dot _ (by decide +kernel)) (no_row_buildContext n)

theorem transformExtends_long_id (ign : Bool) (n s : String) :
    transform ign ["services", n, "extends"] (.map [("service", .str s)]) = .ok (.map [("service", .str s)]) :=
  transform_single_str ign _ _ _ s (dispatch_extends n) (by simp [TPath.root]) (by simp [recursesOnMap]) (by simp)
    (seg_of_no_dot _ (by decide +kernel)) (no_row_extendsService n)

theorem resource_kvs_id (ign : Bool) (a n : String) (ha : IsResource a) (m : Val.KVs) :
    transformKVs ign [a, n] m = .ok m := by
  have hne : [a, n] ≠ TPath.root := by simp [TPath.root]
  induction m with
  | nil => simp [transformKVs]
  | cons x r ih =>
    obtain ⟨k, e⟩ := x
    have hb : Below (TPath.nextK [a, n] k) := by
      rw [TPath.nextK_of_ne_root _ _ hne]
      exact ⟨a, n, _, [], rfl, ha⟩
    simp [transformKVs, id_belowA ign e _ hb, ih]

theorem transform_resource (ign : Bool) (a r : String) (ha : IsResource a) (m : Val.KVs) :
    transform ign [a, r] (.map m) = bindOut (externalFix m) (fun r' => .ok (.map r')) := by
  have hp := (resource_path a ha).2.2 r
  simp [transform, hp, recursesOnMap, resource_kvs_id ign a r ha m, bindOut, postMap]

theorem lookup_insert_self (k : String) (v : Val) (m : Val.KVs) : Val.lookup k (Val.insert k v m) = some v :=
  Val.lookup_insert_self k v m

theorem lookup_insert_ne (k k' : String) (v : Val) (m : Val.KVs) (h : k ≠ k') :
    Val.lookup k (Val.insert k' v m) = Val.lookup k m := Val.lookup_insert_ne h v m

theorem externalFix_of_true (r : Val.KVs) (h : Val.lookup "external" r = some (.bool true)) : externalFix r = .ok r := by
  simp [externalFix, h]

theorem externalFix_fix (r r' : Val.KVs) (h : externalFix r = .ok r') : externalFix r' = .ok r' := by
  unfold externalFix at h
  split at h
  · rename_i ext hext
    split at h
    · rename_i extname _
      split at h
      · split at h
        · cases h
        · simp only [Out.ok.injEq] at h; subst h
          exact externalFix_of_true _ (lookup_insert_self _ _ _)
      · simp only [Out.ok.injEq] at h; subst h
        apply externalFix_of_true
        rw [lookup_insert_ne _ _ _ _ (by decide), lookup_insert_self]
    · simp only [Out.ok.injEq] at h; subst h
      exact externalFix_of_true _ (lookup_insert_self _ _ _)
  · rename_i hno
    simp only [Out.ok.injEq] at h; subst h
    unfold externalFix
    split
    · rename_i ext hext; exact absurd hext (hno ext)
    · rfl

theorem recursing_names (name : String) (h : recursesOnMap (some name) = true) :
    name = "transformService" ∨ name = "transformBuild" ∨ name = "transformExtends" ∨ name = "transformMaybeExternal" := by
  simp [recursesOnMap] at h
  rcases h with ((h | h) | h) | h <;> simp [h]

/-- a value the handler at `p` treats as a leaf (scalars always; sequences when a handler is present): second pass -/
theorem idem_leafcase (ign : Bool) (p : TPath) (v w : Val) (hself : transform ign p v = leaf (H p) ign v)
    (hl : leaf (H p) ign v = .ok w) : transform ign p w = .ok w := by
  by_cases hr : recursesOnMap (H p) = true
  · cases hH : H p with
    | none =>
      rw [hH] at hl
      simp only [leaf, Out.ok.injEq] at hl
      subst hl; rw [hself, hH]; rfl
    | some name =>
      rw [hH] at hr hl
      rcases recursing_names name hr with hn | hn | hn | hn <;> subst hn
      · simp only [leaf, if_true, Out.ok.injEq] at hl
        subst hl; rw [hself, hH]; simp [leaf]
      · obtain ⟨n, hp⟩ := H_build p hH
        cases v with
        | str s =>
          simp [leaf] at hl
          subst hl; subst hp
          exact transformBuild_long_id ign n s
        | _ => simp [leaf] at hl
      · obtain ⟨n, hp⟩ := H_extends p hH
        cases v with
        | str s =>
          simp [leaf] at hl
          subst hl; subst hp
          exact transformExtends_long_id ign n s
        | _ => simp [leaf] at hl
      · cases v with
        | null =>
          simp [leaf] at hl
          subst hl; rw [hself, hH]; simp [leaf]
        | _ => simp [leaf] at hl
  · have hr' : recursesOnMap (H p) = false := by simpa using hr
    rw [transform_eq_leaf ign p _ hr']
    exact leaf_idem ign _ hr' _ _ hl

theorem idem₃ (ign : Bool) :
    (∀ (v : Val) (p : TPath) (w : Val), transform ign p v = .ok w → transform ign p w = .ok w) ∧
    (∀ (m : Val.KVs) (p : TPath) (r : Val.KVs), transformKVs ign p m = .ok r → transformKVs ign p r = .ok r) ∧
    (∀ (l : List Val) (p : TPath) (r : List Val), transformSeq ign p l = .ok r → transformSeq ign p r = .ok r) := by
  apply Val.induct₃
  case null | bool | int | float | str =>
    intros; rename_i p w h
    simp only [transform] at h
    exact idem_leafcase ign p _ w (by simp only [transform]) h
  case map =>
    intro m ih p w h
    by_cases hr : recursesOnMap (H p) = true
    · simp only [transform, hr, if_true] at h
      obtain ⟨r, hk, h⟩ := bindOut_ok h
      have hkr := ih p r hk
      by_cases he : H p = some "transformMaybeExternal"
      · obtain ⟨a, n, hp, ha⟩ := H_external p he
        simp only [postMap, he, if_true] at h
        obtain ⟨r', hx, h⟩ := bindOut_ok h
        cases h
        have h2 := resource_kvs_id ign a n ha r'
        rw [← hp] at h2
        simp [transform, recursesOnMap, h2, bindOut, postMap, he, externalFix_fix r r' hx]
      · simp only [postMap, he, if_false, Out.ok.injEq] at h
        subst h
        simp [transform, hr, hkr, bindOut, postMap, he]
    · have hr' : recursesOnMap (H p) = false := by simpa using hr
      rw [transform_eq_leaf ign p _ hr'] at h ⊢
      exact leaf_idem ign _ hr' _ _ h
  case seq =>
    intro l ih p w h
    by_cases hn : H p = none
    · simp only [transform, hn, if_true] at h
      obtain ⟨r, hs, h⟩ := bindOut_ok h
      cases h
      simp [transform, hn, ih p r hs, bindOut]
    · have hself : transform ign p (.seq l) = leaf (H p) ign (.seq l) := by simp [transform, hn]
      exact idem_leafcase ign p _ w hself (hself ▸ h)
  case nil | nil' => intro _ r h; cases h; rfl
  case cons =>
    intro k e t ihe iht p r h
    obtain ⟨e', t', he, ht, rfl⟩ := transformKVs_cons_ok h
    simp only [transformKVs, ihe _ e' he, iht p t' ht]
  case cons' =>
    intro e t ihe iht p r h
    obtain ⟨e', t', he, ht, rfl⟩ := transformSeq_cons_ok h
    simp only [transformSeq, ihe _ e' he, iht p t' ht]

theorem idem_TA (ign : Bool) : ∀ (v : Val) (p : TPath) (w : Val), transform ign p v = .ok w → transform ign p w = .ok w :=
  (idem₃ ign).1
theorem idem_T : ∀ (v : Val) (p : TPath) (w : Val), transform false p v = .ok w → transform false p w = .ok w := idem_TA false
theorem idem_KA (ign : Bool) : ∀ (m : Val.KVs) (p : TPath) (r : Val.KVs), transformKVs ign p m = .ok r → transformKVs ign p r = .ok r :=
  (idem₃ ign).2.1
theorem idem_SA (ign : Bool) : ∀ (l : List Val) (p : TPath) (r : List Val), transformSeq ign p l = .ok r → transformSeq ign p r = .ok r :=
  (idem₃ ign).2.2
theorem idem_K : ∀ (m : Val.KVs) (p : TPath) (r : Val.KVs), transformKVs false p m = .ok r → transformKVs false p r = .ok r :=
  idem_KA false
theorem idem_S : ∀ (l : List Val) (p : TPath) (r : List Val), transformSeq false p l = .ok r → transformSeq false p r = .ok r :=
  idem_SA false

end CV.Short
