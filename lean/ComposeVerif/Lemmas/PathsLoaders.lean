import ComposeVerif.Model.PathsLoaders
/-! The heap model of resource-loader lists (C12).  `Keeps n h h'` (arrays below `n` untouched, allocation upwards only) and
`Fresh n s` (the slice lives at or above `n`) are the two notions; `append_fresh` is the one lemma that opens `append`.
From it: the loop invariant `RemInv` of `RemoteResourceLoaders`, `childLoaders_spec` (deriving a child's list keeps the
heap, returns a fresh valid slice and reads "remote loaders ++ own directory"), and what follows for any sequence of
nested loads (`read_keeps`, `runScript_keeps`, `levelsOK_keeps`). -/
namespace CV.Paths.Loaders

structure Keeps (n : Nat) (h h' : Heap) : Prop where
  next : h.next ≤ h'.next
  arr : ∀ i, i < n → h'.arr i = h.arr i

theorem Keeps.refl (n : Nat) (h : Heap) : Keeps n h h := ⟨Nat.le_refl _, fun _ _ => rfl⟩

theorem Keeps.trans {n : Nat} {a b c : Heap} (h1 : Keeps n a b) (h2 : Keeps n b c) : Keeps n a c :=
  ⟨Nat.le_trans h1.next h2.next, fun i hi => by rw [h2.arr i hi, h1.arr i hi]⟩

def Fresh (n : Nat) : GoSlice → Prop
  | none => True
  | some s => n ≤ s.arr

theorem growCap_gt (c : Nat) : c < growCap c := by
  unfold growCap; split <;> omega

theorem append_fresh (n : Nat) (h : Heap) (s : GoSlice) (x : Option Loader) (hn : n ≤ h.next) (hv : Valid h s)
    (hf : Fresh n s) :
    Keeps n h (append h s x).1 ∧ Valid (append h s x).1 (append h s x).2 ∧ Fresh n (append h s x).2 ∧
      read (append h s x).1 (append h s x).2 = read h s ++ [x] := by
  cases s with
  | none =>
    -- a fresh array `h.next`: every `i < n ≤ h.next` is another array
    refine ⟨⟨Nat.le_succ _, fun i hi => if_neg (Nat.ne_of_lt (Nat.lt_of_lt_of_le hi hn))⟩, ?_, hn, ?_⟩
    · exact ⟨Nat.lt_succ_self _, Nat.le_refl _, by simp [append]⟩
    · simp [append, read]
  | some t =>
    obtain ⟨hv1, hv2, hv3⟩ := hv
    have hf' : n ≤ t.arr := hf
    by_cases hc : t.len < t.cap
    · -- room in the slice's own array `t.arr ≥ n`
      simp only [append, hc, if_true]
      refine ⟨⟨Nat.le_refl _, fun i hi => if_neg (Nat.ne_of_lt (Nat.lt_of_lt_of_le hi hf'))⟩, ?_, hf', ?_⟩
      · exact ⟨hv1, hc, by simp [hv3]⟩
      · simp only [read, if_true]
        rw [List.take_add_one, List.take_set_of_le (Nat.le_refl _)]
        simp [hv3, hc]
    · -- full: the elements are copied into a fresh, larger array
      simp only [append, hc, if_false]
      have hle : t.len = t.cap := Nat.le_antisymm hv2 (Nat.le_of_not_lt hc)
      refine ⟨⟨Nat.le_succ _, fun i hi => if_neg (Nat.ne_of_lt (Nat.lt_of_lt_of_le hi hn))⟩, ?_, hn, ?_⟩
      · refine ⟨Nat.lt_succ_self _, by rw [hle]; exact growCap_gt t.cap, ?_⟩
        have hg := growCap_gt t.cap
        simp only [if_true, List.length_append, List.length_take, List.length_cons, List.length_replicate, hv3]
        omega
      · simp only [read, if_true]
        rw [show ∀ L R : List (Option Loader), L ++ x :: R = (L ++ [x]) ++ R by simp]
        exact List.take_left' (by rw [List.length_append, List.length_take, hv3, Nat.min_eq_left hv2]; rfl)

/-- the state of the loop of `RemoteResourceLoaders` -/
structure RemInv (n : Nat) (h0 : Heap) (done : List (Option Loader)) (acc : Heap × GoSlice) : Prop where
  keeps : Keeps n h0 acc.1
  valid : Valid acc.1 acc.2
  fresh : Fresh n acc.2
  value : read acc.1 acc.2 = done.filter (fun x => !isLocal x)

theorem remoteStep_inv (n : Nat) (h0 : Heap) (hn : n ≤ h0.next) (done : List (Option Loader)) (acc : Heap × GoSlice)
    (x : Option Loader) (hi : RemInv n h0 done acc) : RemInv n h0 (done ++ [x]) (remoteStep acc x) := by
  unfold remoteStep
  by_cases hl : isLocal x = true
  · simp only [hl, if_true]
    exact ⟨hi.keeps, hi.valid, hi.fresh, by simp [List.filter_append, hl, hi.value]⟩
  · simp only [hl]
    have hn' : n ≤ acc.1.next := Nat.le_trans hn hi.keeps.next
    obtain ⟨k, v, f, r⟩ := append_fresh n acc.1 acc.2 x hn' hi.valid hi.fresh
    exact ⟨hi.keeps.trans k, v, f, by simp [List.filter_append, hl, r, hi.value]⟩

theorem foldl_remInv (n : Nat) (h0 : Heap) (hn : n ≤ h0.next) (todo done : List (Option Loader)) (acc : Heap × GoSlice)
    (hi : RemInv n h0 done acc) : RemInv n h0 (done ++ todo) (todo.foldl remoteStep acc) := by
  induction todo generalizing done acc with
  | nil => simpa using hi
  | cons x rest ih =>
    have := ih (done ++ [x]) (remoteStep acc x) (remoteStep_inv n h0 hn done acc x hi)
    simpa using this

theorem remoteLoaders_inv (h : Heap) (s : GoSlice) : RemInv h.next h (read h s) (remoteLoaders h s) := by
  have := foldl_remInv h.next h (Nat.le_refl _) (read h s) [] (h, none)
    ⟨Keeps.refl _ _, trivial, trivial, by simp [read]⟩
  simpa [remoteLoaders] using this

theorem childLoaders_spec (h : Heap) (s : GoSlice) (dir : Str) :
    Keeps h.next h (childLoaders h s dir).1 ∧ Valid (childLoaders h s dir).1 (childLoaders h s dir).2 ∧
      Fresh h.next (childLoaders h s dir).2 ∧
      read (childLoaders h s dir).1 (childLoaders h s dir).2 =
        (read h s).filter (fun x => !isLocal x) ++ [some (.loc dir)] := by
  have hi := remoteLoaders_inv h s
  obtain ⟨k, v, f, r⟩ := append_fresh h.next (remoteLoaders h s).1 (remoteLoaders h s).2 (some (.loc dir))
    hi.keeps.next hi.valid hi.fresh
  exact ⟨hi.keeps.trans k, v, f, by simp only [childLoaders]; rw [r, hi.value]⟩

theorem read_keeps (h h' : Heap) (t : GoSlice) (hv : Valid h t) (hk : Keeps h.next h h') :
    read h' t = read h t ∧ full h' t = full h t ∧ Valid h' t := by
  cases t with
  | none => simp [read, full, Valid]
  | some s =>
    obtain ⟨a, b, c⟩ := hv
    have := hk.arr s.arr a
    exact ⟨by simp [read, this], by simp [full, this], ⟨Nat.lt_of_lt_of_le a hk.next, b, by rw [this]; exact c⟩⟩

theorem Keeps.weaken {n m : Nat} {a b : Heap} (h : Keeps n a b) (hm : m ≤ n) : Keeps m a b :=
  ⟨h.next, fun i hi => h.arr i (Nat.lt_of_lt_of_le hi hm)⟩

theorem runScript_keeps (script : List (Nat × Str)) : ∀ (h : Heap) (opts : List GoSlice), (∀ s ∈ opts, Valid h s) →
    Keeps h.next h (runScript h opts script).1 ∧ (∀ s ∈ (runScript h opts script).2, Valid (runScript h opts script).1 s) ∧
      ∃ more, (runScript h opts script).2 = opts ++ more := by
  induction script with
  | nil => intro h opts hv; exact ⟨Keeps.refl _ _, hv, [], by simp [runScript]⟩
  | cons st rest ih =>
    intro h opts hv
    obtain ⟨i, d⟩ := st
    obtain ⟨k, cv, _, _⟩ := childLoaders_spec h (opts.getD i none) d
    have hv' : ∀ s ∈ opts ++ [(childLoaders h (opts.getD i none) d).2], Valid (childLoaders h (opts.getD i none) d).1 s := by
      intro s hs
      rcases List.mem_append.mp hs with hs | hs
      · exact (read_keeps h _ s (hv s hs) k).2.2
      · simp only [List.mem_singleton] at hs; subst hs; exact cv
    obtain ⟨k2, v2, more, hm⟩ := ih _ _ hv'
    simp only [runScript]
    refine ⟨k.trans (k2.weaken k.next), v2, (childLoaders h (opts.getD i none) d).2 :: more, ?_⟩
    rw [hm]; simp

instance (h : Heap) (s : GoSlice) : Decidable (Valid h s) := by
  cases s with
  | none => exact isTrue trivial
  | some t => unfold Valid; exact inferInstance

/-- every model's list is valid and its local loader is anchored where the functional level says -/
def LevelsOK (h : Heap) (models : List (GoSlice × Level)) : Prop :=
  ∀ m ∈ models, Valid h m.1 ∧ localDir (read h m.1) = some m.2.lw

theorem localDir_snoc (l : List (Option Loader)) (d : Str) : localDir (l ++ [some (.loc d)]) = some d := by
  induction l with
  | nil => simp [localDir]
  | cons x rest ih => simp [localDir, ih]

theorem getD_map_snd (models : List (GoSlice × Level)) (i : Nat) :
    (models.map Prod.snd).getD i ⟨[], []⟩ = (models.getD i (none, ⟨[], []⟩)).2 := by
  simp only [List.getD, List.getElem?_map]
  cases models[i]? <;> rfl

theorem heapDir_eq (h : Heap) (models : List (GoSlice × Level)) (hok : LevelsOK h models) (i : Nat) :
    (localDir (read h (models.getD i (none, ⟨[], []⟩)).1)).getD [] = (models.getD i (none, ⟨[], []⟩)).2.lw := by
  simp only [List.getD]
  cases hm : models[i]? with
  | none => simp [read, localDir]
  | some m =>
    have := hok m (List.mem_of_getElem? hm)
    simp [this.2]

theorem levelsOK_keeps {h h' : Heap} {models : List (GoSlice × Level)} (hok : LevelsOK h models)
    (k : Keeps h.next h h') : LevelsOK h' models := by
  intro m hm
  obtain ⟨v, l⟩ := hok m hm
  obtain ⟨r1, _, v1⟩ := read_keeps h _ m.1 v k
  exact ⟨v1, by rw [r1]; exact l⟩

/-- child `i` reads `base` followed by the local loader of directory `i` -/
def EachReads (h : Heap) (base : List (Option Loader)) : List GoSlice → List Str → Prop
  | [], [] => True
  | c :: cs, d :: ds => read h c = base ++ [some (.loc d)] ∧ EachReads h base cs ds
  | _, _ => False

end CV.Paths.Loaders
