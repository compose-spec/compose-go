import ComposeVerif.Lemmas.Duration
/-!
# The byte-size grammar over C09's model of `units.RAMInBytes` (C03)

C09 (`Model/Marshal.lean`) models `time.ParseDuration` and `units.RAMInBytes` in full and proves the marshal → parse round
trips.  C03 states its property for duration- and size-valued attributes over them: every spelling of a duration as integer
segments denotes its number of nanoseconds (`DurSpec`, `parseDuration_render`: `Lemmas/Duration.lean`, where the canonical
text is one such spelling plus a fraction), a size with a unit denotes its number of bytes (here).
-/
namespace CV.Short.Units
open CV CV.Marshal

inductive SUnit where
  | k | m | g | t | p
deriving DecidableEq, Repr

def SUnit.char : SUnit → Char
  | .k => 'k' | .m => 'm' | .g => 'g' | .t => 't' | .p => 'p'
def SUnit.mul : SUnit → Nat
  | .k => 1024 | .m => 1024 ^ 2 | .g => 1024 ^ 3 | .t => 1024 ^ 4 | .p => 1024 ^ 5

/-- the spellings of the unit: `k`, `kb`, `kib` (any letter case is lowered by the parser; the model covers these three) -/
inductive Sfx where
  | bare | b | ib
deriving DecidableEq, Repr

def Sfx.chars : Sfx → List Char
  | .bare => [] | .b => ['b'] | .ib => ['i', 'b']

/-- `<digits><unit>[b|ib]`, e.g. `2m`, `512kb`, `1gib` -/
structure SizeSpec where
  n : Nat
  unit : SUnit
  upper : Bool
  sfx : Sfx
deriving Repr

def SizeSpec.render (a : SizeSpec) : List Char :=
  natDigits a.n ++ (if a.upper then a.unit.char.toUpper else a.unit.char) :: a.sfx.chars

/-- the long form: the number of bytes -/
def SizeSpec.bytes (a : SizeSpec) : Nat := a.n * a.unit.mul

theorem not_all_digits (n : Nat) (c0 : Char) (r : List Char) (h0 : isDigit c0 = false) :
    (natDigits n ++ c0 :: r).all isDigit = false := by
  simp [h0]

theorem parseNat_none (n : Nat) (c0 : Char) (r : List Char) (h0 : isDigit c0 = false) :
    parseNat? (natDigits n ++ c0 :: r) = none := by
  simp [parseNat?, h0]

theorem parseInt64_none (n : Nat) (c0 : Char) (r : List Char) (h0 : isDigit c0 = false) :
    parseInt64? (natDigits n ++ c0 :: r) = none := by
  obtain ⟨c, t, hn, hc⟩ := natDigits_head n
  have hp := parseNat_none n c0 r h0
  rw [hn] at hp
  have hcm : c ≠ '-' := by rintro rfl; revert hc; decide
  have hcp : c ≠ '+' := by rintro rfl; revert hc; decide
  have hpi : parseInt? (c :: t ++ c0 :: r) = none := by
    unfold parseInt?
    split
    · next heq => injection heq with h1 _; exact absurd h1 hcm
    · next heq => injection heq with h1 _; exact absurd h1 hcp
    · rw [hp]; rfl
  rw [parseInt64?, hn, hpi]

theorem ramInBytes_unit (n m : Nat) (c0 : Char) (r : List Char) (sfx : Sfx)
    (hm : unitMul c0.toLower = some m) (hr : r.map Char.toLower = sfx.chars)
    (h0 : isDigit c0 = false) (hsp : c0 ≠ ' ') :
    ramInBytes (String.ofList (natDigits n ++ c0 :: r)) = exactOrUnmodelled (n * m) := by
  obtain ⟨c, t, hn, hc⟩ := natDigits_head n
  have hcm : c ≠ '-' := by rintro rfl; revert hc; decide
  have hb : c0.toLower ≠ 'b' := by intro h; simp [h, unitMul] at hm
  unfold ramInBytes
  simp only [String.toList_ofList, parseNat_none _ _ _ h0]
  split
  · next heq => rw [hn] at heq; injection heq with h1 _; exact absurd h1 hcm
  · simp only [Scan.span_stop (natDigits_all n) h0 r, parseNat_natDigits]
    generalize hx : List.map Char.toLower _ = l
    have hl : l = c0.toLower :: sfx.chars := by
      split at hx
      · next heq => injection heq with h1 _; exact absurd h1 hsp
      · rw [← hx, List.map_cons, hr]
    subst hl
    cases sfx <;> simp [Sfx.chars, hm]

theorem SUnit.letter (u : SUnit) (up : Bool) :
    unitMul (if up then u.char.toUpper else u.char).toLower = some u.mul
      ∧ isDigit (if up then u.char.toUpper else u.char) = false ∧ (if up then u.char.toUpper else u.char) ≠ ' ' := by
  cases u <;> cases up <;> decide

/-- `units.RAMInBytes` on a rendered size -/
theorem ramInBytes_render (a : SizeSpec) (hb : a.bytes < two53) :
    ramInBytes (String.ofList a.render) = .ok (.int a.bytes) := by
  obtain ⟨hm, h0, hsp⟩ := a.unit.letter a.upper
  have hr : a.sfx.chars.map Char.toLower = a.sfx.chars := by cases a.sfx <;> rfl
  rw [SizeSpec.render, ramInBytes_unit a.n _ _ _ a.sfx hm hr h0 hsp]
  exact if_pos hb

end CV.Short.Units
