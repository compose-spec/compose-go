import ComposeVerif.Spec.Dotenv
import ComposeVerif.Spec.Template
/-!
# A canonical printer for env files (round 6)

`printCanon m` writes one line `KEY="…"` per variable, in the order of the map: the value between double quotes with
`$` doubled (the template escape), then `"` as `\"` and `\` as `\\`.  Every value — quotes, backslashes, dollar signs,
`#`, line feeds, carriage returns, any code point — has a canonical spelling; a line feed inside a value makes the
printed value a multi-line double-quoted value.
-/
namespace CV.Dotenv
open CV CV.Template

/-- write arbitrary text between double quotes (same function as `Lemmas/DotenvValue.lean:dqEncode`, restated here so
    that the printer lives in the specification layer; `dqEnc_eq` in `Lemmas/DotenvPrint.lean` proves them equal) -/
def dqEnc : Str → List QItem
  | [] => []
  | c :: s => (if c == '"' then QItem.quote else if c == '\\' then QItem.esc '\\' else QItem.chr c) :: dqEnc s

def canonLine (kv : Str × Str) : Line :=
  .assign [] none kv.1 [] .eq [] (.dq (dqEnc (escapeDollars kv.2))) [] none

/-- the canonical text of a map -/
def printCanon (m : Map) : Str := render (m.map canonLine)

/-- maps that have a canonical text: names are valid keys, pairwise distinct -/
def Printable (m : Map) : Prop := (∀ kv ∈ m, validKey kv.1 = true) ∧ (m.map Prod.fst).Nodup

end CV.Dotenv
